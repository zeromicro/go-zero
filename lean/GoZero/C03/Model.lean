/-
C03 — rate limiters.  Executable model of the code that exists (core Lean only):

* a Redis store (string keys, natural values, optional absolute expiry on the store clock in ms,
  lazy expiry) with the five commands the two scripts use: GET, INCRBY, EXPIRE, SETEX (+ DEL);
* `core/limit/periodscript.lua` and `core/limit/tokenscript.lua`, statement by statement;
* `PeriodLimit.TakeCtx` (reply-code mapping, store error ⇒ `(Unknown, err)`);
* `TokenLimiter.reserveN` with `redisAlive` / `monitorStarted` / `startMonitor` / `waitForRedis`
  and the in-process rescue limiter `xrate.NewLimiter(xrate.Every(time.Second/rate), burst)`
  in exact arithmetic (unit: 1/ival token, ival = ⌊10⁹/rate⌋ ns, so every quantity is an integer).

All quantities of the property are naturals (rate, burst, n, quota, period, now); negative Go ints are
outside the property's quantifier; what the code does with them is stated separately on integers (`calcExpireZ`,
`tokenScriptZ` below).
-/
namespace GoZero.C03

/-! ## Redis store -/

structure Entry where
  val : Nat
  exp : Option Nat          -- absolute deadline (store clock, ms); `none` = no TTL
  deriving Repr, DecidableEq

structure Store where
  clock : Nat               -- ms
  keys  : List (String × Entry)
  deriving Repr, DecidableEq

def Store.empty : Store := ⟨0, []⟩

def Entry.live (e : Entry) (clock : Nat) : Bool :=
  match e.exp with
  | none => true
  | some d => decide (clock < d)

def lookupKey (k : String) : List (String × Entry) → Option Entry
  | [] => none
  | (k', e) :: rest => if k = k' then some e else lookupKey k rest

def eraseKey (k : String) : List (String × Entry) → List (String × Entry)
  | [] => []
  | (k', e) :: rest => if k = k' then eraseKey k rest else (k', e) :: eraseKey k rest

/-- raw entry (ignoring expiry) -/
def Store.find (s : Store) (k : String) : Option Entry := lookupKey k s.keys

/-- GET with lazy expiry: an entry whose deadline has been reached is gone. -/
def Store.get (s : Store) (k : String) : Option Entry :=
  match s.find k with
  | some e => if e.live s.clock then some e else none
  | none => none

def Store.put (s : Store) (k : String) (e : Entry) : Store :=
  { s with keys := (k, e) :: eraseKey k s.keys }

def Store.del (s : Store) (k : String) : Store :=
  { s with keys := eraseKey k s.keys }

/-- miniredis `FastForward` / the passing of time on the server. -/
def Store.advance (s : Store) (ms : Nat) : Store := { s with clock := s.clock + ms }

/-- `INCRBY key d`: a missing key counts as 0 and gets no TTL; an existing key keeps its TTL. -/
def Store.incrby (s : Store) (k : String) (d : Nat) : Store × Nat :=
  match s.get k with
  | some e => (s.put k { e with val := e.val + d }, e.val + d)
  | none => (s.put k ⟨d, none⟩, d)

/-- `EXPIRE key secs`: no-op on a missing key; `secs ≤ 0` deletes the key. -/
def Store.expire (s : Store) (k : String) (secs : Nat) : Store :=
  match s.get k with
  | some e => if secs = 0 then s.del k else s.put k { e with exp := some (s.clock + secs * 1000) }
  | none => s

/-- `SETEX key secs v`: error (`none`) when `secs ≤ 0`. -/
def Store.setex (s : Store) (k : String) (secs : Nat) (v : Nat) : Option Store :=
  if secs = 0 then none else some (s.put k ⟨v, some (s.clock + secs * 1000)⟩)

/-! ## periodscript.lua -/

/-- the statements of `periodscript.lua` (comments and blank lines dropped) this model follows. -/
def periodLuaStmts : List String := [
  "local limit = tonumber(ARGV[1])",
  "local window = tonumber(ARGV[2])",
  "local current = redis.call(\"INCRBY\", KEYS[1], 1)",
  "if current == 1 then",
  "redis.call(\"expire\", KEYS[1], window)",
  "end",
  "if current < limit then",
  "return 1",
  "elseif current == limit then",
  "return 2",
  "else",
  "return 0",
  "end"]

def periodScript (s : Store) (key : String) (limit window : Nat) : Store × Nat :=
  let r := s.incrby key 1                                        -- local current = INCRBY KEYS[1] 1
  let s1 := if r.2 = 1 then r.1.expire key window else r.1       -- if current == 1 then expire
  (s1, if r.2 < limit then 1 else if r.2 = limit then 2 else 0)

/-! ## PeriodLimit.TakeCtx -/

inductive Code where
  | unknown | allowed | hitQuota | overQuota
  deriving Repr, DecidableEq

def Code.toNat : Code → Nat
  | .unknown => 0 | .allowed => 1 | .hitQuota => 2 | .overQuota => 3

inductive PErr where
  | nil | store | unknownCode
  deriving Repr, DecidableEq

def PErr.str : PErr → String
  | .nil => "nil" | .store => "err" | .unknownCode => "unknowncode"

/-- what the store answered to the script call -/
inductive Resp where
  | err                    -- `ScriptRunCtx` returned an error
  | int (v : Int)          -- an integer reply
  | other                  -- any non-integer reply
  deriving Repr, DecidableEq

/-- the `switch code` of `TakeCtx` (internalOverQuota = 0, internalAllowed = 1, internalHitQuota = 2). -/
def takeResult : Resp → Code × PErr
  | .err => (.unknown, .store)
  | .other => (.unknown, .unknownCode)
  | .int 0 => (.overQuota, .nil)
  | .int 1 => (.allowed, .nil)
  | .int 2 => (.hitQuota, .nil)
  | .int _ => (.unknown, .unknownCode)

structure PSys where
  store : Store
  up    : Bool
  deriving Repr, DecidableEq

def PSys.init : PSys := ⟨Store.empty, true⟩

/-! ### `calcExpireSeconds`, `Align()` and non-positive arguments

Go's `%` truncates toward zero (`Int.tmod`); `unix % 0` panics (`none`).  `quota`, `period` are Go `int`s that
nothing validates.  What reaches Redis: `limit = quota`, `window = calcExpireSeconds()`.  In the script
`current ≥ 1`, so a limit `≤ 0` behaves like 0 (always `OverQuota`), and `EXPIRE key w` with `w ≤ 0` deletes
the key, so a window `≤ 0` behaves like 0 (every take finds no counter).  The natural-number model below is
therefore applied to `quota.toNat` and `window.toNat`; the correspondence run checks exactly this on miniredis. -/

/-- the statements of `calcExpireSeconds` this model follows -/
def calcExpireStmts : List String := [
  "if h.align {", "now := time.Now()", "_, offset := now.Zone()", "unix := now.Unix() + int64(offset)",
  "return h.period - int(unix%int64(h.period))", "}", "return h.period"]

/-- `calcExpireSeconds()`; `unix` = local wall-clock second (`now.Unix() + offset`); `none` = run-time panic. -/
def calcExpireZ (align : Bool) (period unix : Int) : Option Int :=
  if align then (if period = 0 then none else some (period - Int.tmod unix period)) else some period

/-- `PeriodLimit.TakeCtx`: the window argument is `calcExpireSeconds()` (`period` without `Align()`). -/
def PSys.take (quota period : Nat) (s : PSys) (key : String) : PSys × (Code × PErr) :=
  if s.up then
    let r := periodScript s.store key quota period
    ({ s with store := r.1 }, takeResult (.int r.2))
  else (s, takeResult .err)

inductive POp where
  | ft (ms : Nat)
  | take (key : String)
  | down
  | up
  deriving Repr, DecidableEq

def PSys.step (quota period : Nat) (s : PSys) : POp → PSys × Option (Code × PErr)
  | .ft ms => ({ s with store := s.store.advance ms }, none)
  | .take k => let r := s.take quota period k; (r.1, some r.2)
  | .down => ({ s with up := false }, none)
  | .up => ({ s with up := true }, none)

/-- replies of a whole run (one entry per op; `none` for ops without a reply) -/
def PSys.run (quota period : Nat) : PSys → List POp → List (Option (Code × PErr))
  | _, [] => []
  | s, op :: ops => (s.step quota period op).2 :: PSys.run quota period (s.step quota period op).1 ops

/-! ## tokenscript.lua -/

structure TCfg where
  rate  : Nat
  burst : Nat
  k1    : String     -- "{key}.tokens"
  k2    : String     -- "{key}.ts"
  deriving Repr, DecidableEq

/-- the statements of `tokenscript.lua` (after the fix `math.max(1, …)`) this model follows. -/
def tokenLuaStmts : List String := [
  "local rate = tonumber(ARGV[1])",
  "local capacity = tonumber(ARGV[2])",
  "local now = tonumber(ARGV[3])",
  "local requested = tonumber(ARGV[4])",
  "local fill_time = capacity/rate",
  "local ttl = math.max(1, math.floor(fill_time*2))",
  "local last_tokens = tonumber(redis.call(\"get\", KEYS[1]))",
  "if last_tokens == nil then",
  "last_tokens = capacity",
  "end",
  "local last_refreshed = tonumber(redis.call(\"get\", KEYS[2]))",
  "if last_refreshed == nil then",
  "last_refreshed = 0",
  "end",
  "local delta = math.max(0, now-last_refreshed)",
  "local filled_tokens = math.min(capacity, last_tokens+(delta*rate))",
  "local allowed = filled_tokens >= requested",
  "local new_tokens = filled_tokens",
  "if allowed then",
  "new_tokens = filled_tokens - requested",
  "end",
  "redis.call(\"setex\", KEYS[1], ttl, new_tokens)",
  "redis.call(\"setex\", KEYS[2], ttl, now)",
  "return allowed"]

/-- `ttl` as the script computed it at the pinned commit: `math.floor(fill_time*2)` — 0 when 2·burst < rate. -/
def ttlPinned (rate capacity : Nat) : Nat := 2 * capacity / rate

/-- `ttl` after the fix: `math.max(1, math.floor(fill_time*2))`. -/
def ttlFixed (rate capacity : Nat) : Nat := max 1 (2 * capacity / rate)

def ttlOf (fixed : Bool) (rate capacity : Nat) : Nat :=
  if fixed then ttlFixed rate capacity else ttlPinned rate capacity

def lastTokens (c : TCfg) (s : Store) : Nat :=
  match s.get c.k1 with | some e => e.val | none => c.burst          -- nil ⇒ capacity

def lastRefreshed (c : TCfg) (s : Store) : Nat :=
  match s.get c.k2 with | some e => e.val | none => 0                -- nil ⇒ 0

/-- `filled_tokens`; `now - last` on `Nat` is `math.max(0, now-last_refreshed)`. -/
def filledTokens (c : TCfg) (s : Store) (now : Nat) : Nat :=
  min c.burst (lastTokens c s + (now - lastRefreshed c s) * c.rate)

/-- one atomic execution of the script; `none` = the script raised an error (nothing was written:
the first SETEX is the first write). `fixed = false` is the script of the pinned commit. -/
def tokenScript (fixed : Bool) (c : TCfg) (s : Store) (now requested : Nat) : Option (Store × Bool) :=
  let ttl := ttlOf fixed c.rate c.burst
  let filled := filledTokens c s now
  let allowed := decide (requested ≤ filled)
  let newTokens := if allowed then filled - requested else filled
  match s.setex c.k1 ttl newTokens with
  | none => none
  | some s1 =>
    match s1.setex c.k2 ttl now with
    | none => none
    | some s2 => some (s2, allowed)

/-! ### tokenscript.lua on arguments nothing validates

`rate`, `burst`, `n` are Go `int`s; `NewTokenLimiter` and `AllowN` accept any value (`rate = 0` panics in the
constructor: `time.Second/time.Duration(rate)`).  What the script then does, on integers, for keys that have
not expired: a negative `n` is granted whenever `filled ≥ n` and ADDS `-n` tokens (the stored value may exceed
`capacity`; the next call caps it again with `math.min`); a negative `rate` makes the bucket lose `|rate|`
tokens per second; a negative `capacity` never grants a request `n ≥ 0`.  Outside the property's quantifier
(naturals); modelled only to state exactly what happens, checked line by line against the real code. -/

structure ZBucket where
  tok : Option Int
  ts  : Option Int
  deriving Repr, DecidableEq

/-- `math.max(1, math.floor(capacity/rate*2))` (floor division) -/
def ttlZ (rate cap : Int) : Int := max 1 (Int.fdiv (2 * cap) rate)

def tokenScriptZ (rate cap now req : Int) (b : ZBucket) : ZBucket × Bool :=
  let filled := min cap (b.tok.getD cap + max 0 (now - b.ts.getD 0) * rate)
  let allowed := decide (req ≤ filled)
  (⟨some (if allowed then filled - req else filled), some now⟩, allowed)

/-! ## the rescue limiter (golang.org/x/time/rate, exact arithmetic) -/

/-- `time.Second / time.Duration(rate)` in ns. -/
def TCfg.ival (c : TCfg) : Nat := 1000000000 / c.rate

/-- state of `xrate.Limiter`: `T = tokens · ival` (so refilling adds exactly the elapsed ns), `last` in ns. -/
structure Rescue where
  T    : Int
  last : Nat
  deriving Repr, DecidableEq

def Rescue.init (c : TCfg) : Rescue := ⟨(c.burst * c.ival : Nat), 0⟩

/-- `advance`: tokens after the time that passed (capped at burst), in units of 1/ival. -/
def Rescue.advanced (c : TCfg) (r : Rescue) (t : Nat) : Int :=
  let last := if t < r.last then t else r.last
  min ((c.burst * c.ival : Nat) : Int) (r.T + ((t - last : Nat) : Int))

/-- tokens left after taking `n` (negative = deficit in ns of waiting). -/
def Rescue.after (c : TCfg) (r : Rescue) (t n : Nat) : Int :=
  r.advanced c t - ((n * c.ival : Nat) : Int)

/-- `Limiter.AllowN(t, n)` = `reserveN(t, n, 0).ok`; a zero interval is `rate.Inf`. -/
def Rescue.allowN (c : TCfg) (r : Rescue) (t n : Nat) : Rescue × Bool :=
  if c.ival = 0 then (r, true)
  else if n ≤ c.burst ∧ 0 ≤ r.after c t n then (⟨r.after c t n, t⟩, true)
  else (r, false)

/-! ## TokenLimiter instances over one shared store -/

structure Inst where
  alive   : Bool      -- redisAlive == 1
  monitor : Bool      -- monitorStarted
  rescue  : Rescue
  deriving Repr, DecidableEq

def Inst.init (c : TCfg) : Inst := ⟨true, false, Rescue.init c⟩

/-- `startMonitor` -/
def Inst.startMonitor (i : Inst) : Inst :=
  if i.monitor then i else { i with monitor := true, alive := false }

structure Sys where
  store : Store
  up    : Bool
  insts : Nat → Inst

def Sys.init (c : TCfg) : Sys := ⟨Store.empty, true, fun _ => Inst.init c⟩

def upd (f : Nat → Inst) (i : Nat) (v : Inst) : Nat → Inst := fun j => if j = i then v else f j

inductive Route where
  | store | rescue
  deriving Repr, DecidableEq

/-- one `AllowN` call: who, which bucket decided, caller's `now` (ns), size, decision. -/
structure Ev where
  inst  : Nat
  route : Route
  ns    : Nat
  n     : Nat
  ok    : Bool
  deriving Repr, DecidableEq

def nsPerSec : Nat := 1000000000

def Sys.rescuePath (c : TCfg) (s : Sys) (i : Nat) (inst : Inst) (ns n : Nat) : Sys × Ev :=
  let r := inst.rescue.allowN c ns n
  ({ s with insts := upd s.insts i { inst with rescue := r.1 } }, ⟨i, .rescue, ns, n, r.2⟩)

/-- `TokenLimiter.reserveN(ctx, now, n)` of instance `i` (background context). -/
def Sys.reserveN (fixed : Bool) (c : TCfg) (s : Sys) (i ns n : Nat) : Sys × Ev :=
  let inst := s.insts i
  if !inst.alive then s.rescuePath c i inst ns n                      -- redisAlive == 0
  else if !s.up then s.rescuePath c i inst.startMonitor ns n          -- err != nil
  else
    match tokenScript fixed c s.store (ns / nsPerSec) n with           -- now.Unix()
    | none => s.rescuePath c i inst.startMonitor ns n                 -- script error reply
    | some r => ({ s with store := r.1 }, ⟨i, .store, ns, n, r.2⟩)     -- code == 1

inductive TOp where
  | ft (ms : Nat)
  | allow (i ns n : Nat)
  | down
  | up
  | pingOk (i : Nat)     -- `waitForRedis`: a ping succeeded ⇒ redisAlive := 1
  | monExit (i : Nat)    -- its deferred func: monitorStarted := false
  | lateFail (i : Nat)   -- the error path of a request that was in flight reaches `startMonitor` (no new script call)
  | cancelledAlive (i ns n : Nat)  -- `AllowNCtx` with a cancelled / expired context on an instance with redisAlive = 1:
                         -- the script call returns the context's error, `return false`, nothing is touched
                         -- (with redisAlive = 0 `reserveN` never looks at the context: that call is `.allow`)
  deriving Repr, DecidableEq

def Sys.step (fixed : Bool) (c : TCfg) (s : Sys) : TOp → Sys × Option Ev
  | .ft ms => ({ s with store := s.store.advance ms }, none)
  | .allow i ns n => let r := s.reserveN fixed c i ns n; (r.1, some r.2)
  | .down => ({ s with up := false }, none)
  | .up => ({ s with up := true }, none)
  | .pingOk i =>
      let inst := s.insts i
      if inst.monitor ∧ !inst.alive ∧ s.up then ({ s with insts := upd s.insts i { inst with alive := true } }, none)
      else (s, none)
  | .monExit i =>
      let inst := s.insts i
      if inst.monitor ∧ inst.alive then ({ s with insts := upd s.insts i { inst with monitor := false } }, none)
      else (s, none)
  | .lateFail i => ({ s with insts := upd s.insts i (s.insts i).startMonitor }, none)
  | .cancelledAlive _ _ _ => (s, none)

/-- events of a whole run -/
def Sys.run (fixed : Bool) (c : TCfg) : Sys → List TOp → List Ev
  | _, [] => []
  | s, op :: ops =>
    match (s.step fixed c op).2 with
    | some e => e :: Sys.run fixed c (s.step fixed c op).1 ops
    | none => Sys.run fixed c (s.step fixed c op).1 ops

def grantedOf (evs : List Ev) : Nat := (evs.map fun e => if e.ok then e.n else 0).sum

end GoZero.C03
