/-
C03 — lemmas about the Redis-store model.
-/
import GoZero.C03.Spec
namespace GoZero.C03

theorem lookup_erase (k k' : String) (l : List (String × Entry)) :
    lookupKey k' (eraseKey k l) = if k' = k then none else lookupKey k' l := by
  induction l <;> grind [eraseKey, lookupKey]

theorem find_put (s : Store) (k k' : String) (e : Entry) :
    (s.put k e).find k' = if k' = k then some e else s.find k' := by
  unfold Store.put Store.find
  simp only [lookupKey, lookup_erase]
  by_cases h : k' = k <;> simp [h]

theorem find_put_put {s : Store} {k1 k2 k : String} {e1 e2 : Entry} (h1 : k ≠ k1) (h2 : k ≠ k2) :
    ((s.put k1 e1).put k2 e2).find k = s.find k := by
  rw [find_put, if_neg h2, find_put, if_neg h1]

theorem find_del (s : Store) (k k' : String) :
    (s.del k).find k' = if k' = k then none else s.find k' := by
  unfold Store.del Store.find
  simp only [lookup_erase]

@[simp] theorem clock_put (s : Store) (k : String) (e : Entry) : (s.put k e).clock = s.clock := rfl
@[simp] theorem clock_del (s : Store) (k : String) : (s.del k).clock = s.clock := rfl

theorem get_eq (s : Store) (k : String) :
    s.get k = match s.find k with
      | some e => if e.live s.clock then some e else none
      | none => none := rfl

@[simp] theorem find_advance (s : Store) (ms : Nat) (k : String) : (s.advance ms).find k = s.find k := rfl
@[simp] theorem clock_advance (s : Store) (ms : Nat) : (s.advance ms).clock = s.clock + ms := rfl

/-- INCRBY answers the new value, which is at least the increment -/
theorem incrby_pos (s : Store) (k : String) : 1 ≤ (s.incrby k 1).2 := by
  unfold Store.incrby; split <;> simp

theorem advance_zero (s : Store) : s.advance 0 = s := by
  cases s; simp [Store.advance]

end GoZero.C03
