/-
C03 — one instance inside a system run: its rescue-path requests are a run of ITS local limiter, hence of the bucket that
simulates it (the local interval bound is the bucket's), and `redisAlive = 0 → monitorStarted` is invariant.
-/
import GoZero.C03.ProofsRescue
import GoZero.C03.ProofsToken
namespace GoZero.C03
open GoZero.C03 Spec

/-- the requests instance `i` decides locally are a run of ITS rescue limiter, whatever the other
instances and the store do (either script version) -/
theorem sys_rescue_run (fixed : Bool) (c : TCfg) (i : Nat) : ∀ (ops : List TOp) (s : Sys),
    (rescueEvs i (Sys.run fixed c s ops)).map (·.ok)
      = Rescue.run c (s.insts i).rescue ((rescueEvs i (Sys.run fixed c s ops)).map rcallOf) := by
  intro ops
  induction ops with
  | nil => intro s; simp [Sys.run, rescueEvs, Rescue.run]
  | cons op ops ih =>
    intro s
    by_cases hop : ∃ j ns n, op = .allow j ns n
    · obtain ⟨j, ns, n, rfl⟩ := hop
      rw [run_allow]
      rcases reserveN_cases fixed c s j ns n with ⟨inst, hinst, he⟩ | ⟨r, _, he⟩ <;> rw [he]
      · have hres : inst.rescue = (s.insts j).rescue := by
          rcases hinst with rfl | rfl
          · rfl
          · exact startMonitor_rescue _
        have := ih (s.rescuePath c j inst ns n).1
        by_cases hji : j = i
        · subst hji
          simpa [rescueEvs, List.filter, Sys.rescuePath, upd, rcallOf, Rescue.run, hres] using this
        · simpa [rescueEvs, List.filter, Sys.rescuePath, upd, hji, Ne.symm hji] using this
      · exact ih { s with store := r.1 }
    · obtain ⟨hnone, hres, _⟩ := step_silent fixed c s op hop
      rw [run_silent _ _ _ _ _ hnone, ← hres i]
      exact ih _

/-- a locally decided request as the bucket of `RSim` sees it: (caller's now in ns, size in units of 1/ival token) -/
def ucallOf (c : TCfg) (e : Ev) : Nat × Nat := (e.ns, e.n * c.ival)

theorem rescue_run_bucket (c : TCfg) (hi : c.ival ≠ 0) : ∀ (evs : List Ev) (r : Rescue) (b : Bucket),
    RSim c r b → Mono b.ts (evs.map rcallOf) →
    Rescue.run c r (evs.map rcallOf) = Bucket.run 1 (c.burst * c.ival) b (evs.map (ucallOf c)) ∧
    Mono b.ts (evs.map (ucallOf c)) := by
  intro evs
  induction evs with
  | nil => intro r b _ _; exact ⟨rfl, trivial⟩
  | cons e rest ih =>
    intro r b h hm
    obtain ⟨h1, h2⟩ := rsim_allow c hi r b e.ns e.n h hm.1
    obtain ⟨i1, i2⟩ := ih _ _ h2 (by rw [(allow_tok_le _ _ b e.ns _).2]; exact hm.2)
    rw [(allow_tok_le _ _ b e.ns _).2] at i2
    exact ⟨by simp only [List.map_cons, rcallOf, ucallOf, Rescue.run, Bucket.run, h1]; exact congrArg _ i1, hm.1, i2⟩

/-- local interval bound on a history decided by the rescue limiter from its initial state: the bucket's bound at rate 1
per ns and size `burst * ival` -/
theorem rescue_interval_of_run (c : TCfg) (hi : c.ival ≠ 0) (evs pre post mid : List Ev) (e1 : Ev)
    (href : evs.map (·.ok) = Rescue.run c (Rescue.init c) (evs.map rcallOf))
    (hmono : Mono 0 (evs.map rcallOf))
    (hsplit : evs = pre ++ (e1 :: mid) ++ post) :
    grantedOf (e1 :: mid) * c.ival ≤ c.burst * c.ival + (((e1 :: mid).getLast (by simp)).ns - e1.ns) := by
  obtain ⟨hrun, hm⟩ := rescue_run_bucket c hi evs _ _ (rsim_init c) hmono
  simpa [ucallOf] using interval_of_refinement 1 (c.burst * c.ival) (ucallOf c) c.ival (fun _ => rfl) _ _ pre post mid e1
    (href.trans hrun) hm hsplit

/-- `redisAlive = 0 → monitorStarted` for every instance is preserved by every operation, from any state: `startMonitor`
sets the flag before it clears `redisAlive`, and the monitor clears the flag only after `redisAlive = 1` -/
theorem rescue_has_monitor_exec (fixed : Bool) (c : TCfg) : ∀ (ops : List TOp) (s : Sys),
    (∀ j, (s.insts j).alive = false → (s.insts j).monitor = true) →
    ∀ j, ((Sys.exec fixed c s ops).insts j).alive = false → ((Sys.exec fixed c s ops).insts j).monitor = true := by
  intro ops
  induction ops with
  | nil => intro s h; exact h
  | cons op ops ih =>
    intro s h
    apply ih
    have hsm : ∀ (x : Inst), (x.alive = false → x.monitor = true) →
        (x.startMonitor.alive = false → x.startMonitor.monitor = true) := by
      intro x hx; unfold Inst.startMonitor; split <;> simp_all
    have hupd : ∀ (k : Nat) (x : Inst), (x.alive = false → x.monitor = true) →
        ∀ j, (upd s.insts k x j).alive = false → (upd s.insts k x j).monitor = true := by
      intro k x hx j; unfold upd; split
      · exact hx
      · exact h j
    cases op with
    | allow k ns n =>
      simp only [Sys.step]
      rcases reserveN_cases fixed c s k ns n with ⟨inst, hinst, he⟩ | ⟨r, _, he⟩ <;> rw [he]
      · rcases hinst with rfl | rfl
        · exact hupd k _ (h k)
        · exact hupd k _ (hsm _ (h k))
      · exact h
    | pingOk k | monExit k =>
      -- the ping sets `alive`; the monitor exits only when `alive` is set
      simp only [Sys.step]; split
      · next hg => exact hupd k _ (by simp [hg])
      · exact h
    | lateFail k => exact hupd k _ (hsm _ (h k))
    | _ => exact h

end GoZero.C03
