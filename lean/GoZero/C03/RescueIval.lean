/-
C03 — Allow() / AllowCtx() in rescue mode.  The local limiter is asked at a wall-clock instant `τ` the code reads itself; the
harness only knows two readings `a ≤ τ ≤ b` around the call.  The interval monitor of the driver (`ivStep`, `ivRun`: bounds
`lo ≤ E ≤ hi` on the limiter's empty time) and its soundness.  The driver widens every bracket by 2 ns on each side for the
limiter's float64 arithmetic (trusted).  Core Lean only (the driver imports this file).
-/
import GoZero.C03.Model
namespace GoZero.C03

/-- The state ⟨T, last⟩ of the rescue limiter as ONE number, its *empty time* `E = last − T` (the instant at which the bucket
would have been empty): with `B = burst·ival`, tokens(t) = min(B, t − E); a request of `need = n·ival` is granted at `τ` iff
`n ≤ burst` and `need ≤ τ − E`, and then `E' = max(E, τ − B) + need`; a refused request changes nothing (`allowN_emptyTime`). -/
def Rescue.emptyTime (r : Rescue) : Int := (r.last : Int) - r.T

structure IvState where
  lo : Int
  hi : Int
  deriving Repr, DecidableEq

def IvState.init (c : TCfg) : IvState := ⟨-((c.burst * c.ival : Nat) : Int), -((c.burst * c.ival : Nat) : Int)⟩

/-- one observed call: clock bracket `[a, b]`, size `n`, observed decision; `none` = impossible for every clock value in
the bracket and every state within the bounds -/
def ivStep (c : TCfg) (s : IvState) (a b : Int) (n : Nat) (granted : Bool) : Option IvState :=
  let B : Int := ((c.burst * c.ival : Nat) : Int)
  let need : Int := ((n * c.ival : Nat) : Int)
  if granted then
    if n ≤ c.burst ∧ need ≤ b - s.lo then some ⟨max s.lo (a - B) + need, max (min s.hi (b - need)) (b - B) + need⟩
    else none
  else
    if c.burst < n then some s
    else if a - s.hi < need then some ⟨max s.lo (a - need + 1), s.hi⟩
    else none

theorem need_le_cap (c : TCfg) (n : Nat) (h : n ≤ c.burst) :
    ((n * c.ival : Nat) : Int) ≤ ((c.burst * c.ival : Nat) : Int) :=
  Int.ofNat_le.mpr (Nat.mul_le_mul_right _ h)

theorem advanced_of_le (c : TCfg) (r : Rescue) (t : Nat) (h : r.last ≤ t) :
    r.advanced c t = min ((c.burst * c.ival : Nat) : Int) (r.T + ((t - r.last : Nat) : Int)) := by
  unfold Rescue.advanced
  have : ¬ t < r.last := by omega
  simp [this]

theorem allowN_emptyTime (c : TCfg) (hi : c.ival ≠ 0) (r : Rescue) (t n : Nat) (hl : r.last ≤ t) :
    ((r.allowN c t n).2 = true ↔ n ≤ c.burst ∧ ((n * c.ival : Nat) : Int) ≤ (t : Int) - r.emptyTime) ∧
    ((r.allowN c t n).2 = true → (r.allowN c t n).1.emptyTime
        = max r.emptyTime ((t : Int) - ((c.burst * c.ival : Nat) : Int)) + ((n * c.ival : Nat) : Int)) ∧
    ((r.allowN c t n).2 = false → (r.allowN c t n).1 = r) := by
  have hadv : r.advanced c t = min (((c.burst * c.ival : Nat) : Int)) ((t : Int) - r.emptyTime) := by
    rw [advanced_of_le c r t hl]
    unfold Rescue.emptyTime
    congr 1
    omega
  have hB := need_le_cap c n
  unfold Rescue.allowN Rescue.after
  simp only [hi, if_false]
  rw [hadv]
  generalize ((c.burst * c.ival : Nat) : Int) = B at hB ⊢
  generalize ((n * c.ival : Nat) : Int) = need at hB ⊢
  by_cases hc : n ≤ c.burst ∧ 0 ≤ min B ((t : Int) - r.emptyTime) - need
  · rw [if_pos hc]
    refine ⟨⟨fun _ => ⟨hc.1, by omega⟩, fun _ => rfl⟩, fun _ => ?_, fun h => by simp at h⟩
    simp only [Rescue.emptyTime]
    unfold Rescue.emptyTime at hc
    omega
  · rw [if_neg hc]
    refine ⟨⟨fun h => by simp at h, fun h => absurd ⟨h.1, by have := hB h.1; omega⟩ hc⟩, fun h => by simp at h, fun _ => rfl⟩

theorem max_add_le_max_add {x y x' y' : Int} (hx : x ≤ x') (hy : y ≤ y') (k : Int) : max x y + k ≤ max x' y' + k :=
  Int.add_le_add_right (Int.max_le.2 ⟨Int.le_trans hx (Int.le_max_left ..), Int.le_trans hy (Int.le_max_right ..)⟩) k

/-- **The interval monitor is sound**: whatever instant `τ` in the bracket the code read and whatever state within the
bounds the limiter was in, the decision of the exact model is accepted and the new state is within the new bounds. -/
theorem ivStep_sound (c : TCfg) (hi : c.ival ≠ 0) (r : Rescue) (s : IvState) (a b : Int) (t n : Nat)
    (hl : r.last ≤ t) (ha : a ≤ t) (hb : (t : Int) ≤ b) (hlo : s.lo ≤ r.emptyTime) (hhi : r.emptyTime ≤ s.hi) :
    ∃ s', ivStep c s a b n (r.allowN c t n).2 = some s' ∧
      s'.lo ≤ (r.allowN c t n).1.emptyTime ∧ (r.allowN c t n).1.emptyTime ≤ s'.hi := by
  obtain ⟨h1, h2, h3⟩ := allowN_emptyTime c hi r t n hl
  unfold ivStep
  generalize ((c.burst * c.ival : Nat) : Int) = B at h2 ⊢
  generalize ((n * c.ival : Nat) : Int) = need at h1 h2 ⊢
  cases hd : (r.allowN c t n).2
  · rw [h3 hd]
    have hn : ¬ (n ≤ c.burst ∧ need ≤ (t : Int) - r.emptyTime) := fun h => by rw [h1.2 h] at hd; cases hd
    simp only [Bool.false_eq_true, if_false]
    by_cases hbn : c.burst < n
    · exact ⟨s, by simp [hbn], hlo, hhi⟩
    · have hlt : (t : Int) - r.emptyTime < need := by omega
      refine ⟨⟨max s.lo (a - need + 1), s.hi⟩, by simp [hbn, show a - s.hi < need by omega], ?_, hhi⟩
      simp only; omega
  · obtain ⟨hnb, hneed⟩ := h1.1 hd
    rw [h2 hd, if_pos rfl, if_pos ⟨hnb, by omega⟩]
    exact ⟨_, rfl, max_add_le_max_add hlo (by omega) _, max_add_le_max_add (Int.le_min.2 ⟨hhi, by omega⟩) (by omega) _⟩

/-- **… and exact for one step**: a decision the monitor accepts is produced by SOME clock value in the bracket and
SOME state within the bounds. -/
theorem ivStep_complete (c : TCfg) (s s' : IvState) (a b : Int) (n : Nat) (d : Bool) (hs : s.lo ≤ s.hi) (hab : a ≤ b)
    (h : ivStep c s a b n d = some s') :
    ∃ E τ : Int, s.lo ≤ E ∧ E ≤ s.hi ∧ a ≤ τ ∧ τ ≤ b ∧
      (d = true ↔ n ≤ c.burst ∧ ((n * c.ival : Nat) : Int) ≤ min (((c.burst * c.ival : Nat) : Int)) (τ - E)) := by
  have hB := need_le_cap c n
  unfold ivStep at h
  generalize ((c.burst * c.ival : Nat) : Int) = B at *
  generalize ((n * c.ival : Nat) : Int) = need at *
  cases d
  · -- a refusal is explained by the latest empty time at the earliest instant: were that a grant, `ivStep` gave `none`
    refine ⟨s.hi, a, hs, Int.le_refl _, Int.le_refl _, hab, nofun, fun hh => ?_⟩
    have h1 : ¬ c.burst < n := by omega
    have h2 : ¬ a - s.hi < need := by omega
    simp [h1, h2] at h
  · simp only [if_true] at h
    by_cases hc : n ≤ c.burst ∧ need ≤ b - s.lo
    · exact ⟨s.lo, b, Int.le_refl _, hs, hab, Int.le_refl _, ⟨fun _ => ⟨hc.1, by omega⟩, fun _ => rfl⟩⟩
    · simp [hc] at h

/-- a run of the interval monitor over observed calls `(a, b, n, decision)` -/
def ivRun (c : TCfg) : IvState → List (Int × Int × Nat × Bool) → Bool
  | _, [] => true
  | s, (a, b, n, d) :: rest =>
    match ivStep c s a b n d with
    | some s' => ivRun c s' rest
    | none => false

/-- the exact model over calls at instants `τ` with sizes `n`, each inside its bracket -/
def exactRun (c : TCfg) : Rescue → List (Int × Int × Nat × Nat) → List (Int × Int × Nat × Bool)
  | _, [] => []
  | r, (a, b, t, n) :: rest => (a, b, n, (r.allowN c t n).2) :: exactRun c (r.allowN c t n).1 rest

/-- brackets contain their instant and the clock never runs backwards -/
def Bracketed : Nat → List (Int × Int × Nat × Nat) → Prop
  | _, [] => True
  | last, (a, b, t, _) :: rest => last ≤ t ∧ a ≤ t ∧ (t : Int) ≤ b ∧ Bracketed t rest

theorem allowN_last (c : TCfg) (r : Rescue) (t n : Nat) (hl : r.last ≤ t) : (r.allowN c t n).1.last ≤ t := by
  grind [Rescue.allowN]

/-- **Whole runs**: for every sequence of local decisions of the exact model at instants inside their brackets, from any
state within the bounds, the interval monitor accepts every decision (no alarm on a correct limiter, whatever the
unobservable clock values were). -/
theorem ivRun_sound (c : TCfg) (hi : c.ival ≠ 0) : ∀ (calls : List (Int × Int × Nat × Nat)) (r : Rescue) (s : IvState),
    Bracketed r.last calls → s.lo ≤ r.emptyTime → r.emptyTime ≤ s.hi → ivRun c s (exactRun c r calls) = true := by
  intro calls
  induction calls with
  | nil => intro r s _ _ _; rfl
  | cons x rest ih =>
    intro r s hb hlo hhi
    obtain ⟨a, b, t, n⟩ := x
    obtain ⟨hl, ha, hb', hrest⟩ := hb
    obtain ⟨s', hs, h1, h2⟩ := ivStep_sound c hi r s a b t n hl ha hb' hlo hhi
    simp only [exactRun, ivRun, hs]
    refine ih _ _ ?_ h1 h2
    -- the limiter's `last` after the call is at most `t`, and the next instants are at least `t`
    cases rest with
    | nil => trivial
    | cons y ys =>
      obtain ⟨a2, b2, t2, n2⟩ := y
      obtain ⟨hl2, r2⟩ := hrest
      exact ⟨Nat.le_trans (allowN_last c r t n hl) hl2, r2⟩

theorem init_emptyTime (c : TCfg) : (Rescue.init c).emptyTime = (IvState.init c).lo ∧ (IvState.init c).lo = (IvState.init c).hi := by
  simp [Rescue.emptyTime, Rescue.init, IvState.init]

end GoZero.C03
