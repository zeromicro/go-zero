/-
C03 — period limit: the model (store + periodscript.lua + TakeCtx) refines the specification by lives.  Stated with a window
PER TAKE (`Align()`: every `TakeCtx` computes its own `calcExpireSeconds()`) and lives that store the instant at which they END;
the specification with one fixed period (`Spec.ptake`) is the special case in which every take carries the same window.
-/
import GoZero.C03.ProofsPeriod
namespace GoZero.C03
open GoZero.C03 Spec

/-- operations whose takes carry the window (seconds) their `calcExpireSeconds()` computed -/
inductive POpW where
  | ft (ms : Nat)
  | take (key : String) (q w : Nat)     -- limit and window of THIS take (its limiter's quota, its calcExpireSeconds())
  | down
  | up
  deriving Repr, DecidableEq

def PSys.stepW (s : PSys) : POpW → PSys × Option (Code × PErr)
  | .ft ms => ({ s with store := s.store.advance ms }, none)
  | .take k quota w => let r := s.take quota w k; (r.1, some r.2)
  | .down => ({ s with up := false }, none)
  | .up => ({ s with up := true }, none)

def PSys.runW : PSys → List POpW → List (Option (Code × PErr))
  | _, [] => []
  | s, op :: ops => (s.stepW op).2 :: PSys.runW (s.stepW op).1 ops

/-- a life: key, the instant (store clock, ms) at which it ends, takes so far -/
structure LifeW where
  key   : String
  stop  : Nat
  count : Nat
  deriving Repr, DecidableEq

def lifeOfW (k : String) : List LifeW → Option LifeW
  | [] => none
  | l :: rest => if l.key = k then some l else lifeOfW k rest

def setLifeW (l : LifeW) : List LifeW → List LifeW
  | [] => [l]
  | x :: rest => if x.key = l.key then l :: rest else x :: setLifeW l rest

/-- one take with window `w` at store clock `clock`: continue the running life if it has not ended (ITS end, whatever
`w` is now), else start a new one that ends `w` seconds from now -/
def ptakeW (quota w : Nat) (sp : List LifeW) (clock : Nat) (k : String) : List LifeW × Code :=
  match lifeOfW k sp with
  | some l =>
    if clock < l.stop then (setLifeW { l with count := l.count + 1 } sp, codeOf quota (l.count + 1))
    else (setLifeW ⟨k, clock + w * 1000, 1⟩ sp, codeOf quota 1)
  | none => (setLifeW ⟨k, clock + w * 1000, 1⟩ sp, codeOf quota 1)

structure SpecSysW where
  sp    : List LifeW
  clock : Nat
  up    : Bool

def SpecSysW.init : SpecSysW := ⟨[], 0, true⟩

def SpecSysW.step (t : SpecSysW) : POpW → SpecSysW × Option (Code × PErr)
  | .ft ms => ({ t with clock := t.clock + ms }, none)
  | .take k quota w =>
    if t.up then ({ t with sp := (ptakeW quota w t.sp t.clock k).1 }, some ((ptakeW quota w t.sp t.clock k).2, .nil))
    else (t, some (.unknown, .store))
  | .down => ({ t with up := false }, none)
  | .up => ({ t with up := true }, none)

def SpecSysW.run : SpecSysW → List POpW → List (Option (Code × PErr))
  | _, [] => []
  | t, op :: ops => (t.step op).2 :: SpecSysW.run (t.step op).1 ops

theorem lifeOfW_key (k : String) (sp : List LifeW) (l : LifeW) (h : lifeOfW k sp = some l) : l.key = k := by
  induction sp with
  | nil => cases h
  | cons x rest ih => unfold lifeOfW at h; split at h <;> grind

theorem lifeOfW_setLifeW (l : LifeW) (sp : List LifeW) (k : String) :
    lifeOfW k (setLifeW l sp) = if k = l.key then some l else lifeOfW k sp := by
  induction sp <;> grind [setLifeW, lifeOfW]

def LifeW.entry (l : LifeW) : Entry := ⟨l.count, some l.stop⟩

/-- correspondence between the store and the lives: the raw entry of every key is the entry of its life (an expired
counter stays in the store as its ended life stays in the list) -/
def PRelW (s : PSys) (t : SpecSysW) : Prop :=
  s.up = t.up ∧ s.store.clock = t.clock ∧
  ∀ k, s.store.find k = (lifeOfW k t.sp).map LifeW.entry ∧ ∀ l, lifeOfW k t.sp = some l → 1 ≤ l.count

/-- writing the entry of `l` under `l.key`, and nothing else, is `setLifeW l` -/
theorem prelW_set {s : PSys} {t : SpecSysW} (h : PRelW s t) (st : Store) (l : LifeW) (hc : 1 ≤ l.count)
    (hclk : st.clock = s.store.clock) (hk : st.find l.key = some l.entry)
    (ho : ∀ k, k ≠ l.key → st.find k = s.store.find k) :
    PRelW { s with store := st } { t with sp := setLifeW l t.sp } := by
  refine ⟨h.1, hclk.trans h.2.1, fun k => ?_⟩
  rw [lifeOfW_setLifeW]
  by_cases hkl : k = l.key
  · subst hkl; simpa [hk] using hc
  · simpa [hkl, ho k hkl] using h.2.2 k

theorem prelW_take (quota w : Nat) (hw : 1 ≤ w) (s : PSys) (t : SpecSysW) (k : String)
    (h : PRelW s t) (hu : s.up = true) :
    (s.take quota w k).2 = ((ptakeW quota w t.sp t.clock k).2, PErr.nil) ∧
    PRelW (s.take quota w k).1 { t with sp := (ptakeW quota w t.sp t.clock k).1 } := by
  obtain ⟨st, up⟩ := s
  subst hu
  have hf := (h.2.2 k).1
  have hclk : st.clock = t.clock := h.2.1
  have hother := fun k' (hk : k' ≠ k) => (periodScript_other st k' k quota w hk).1
  simp only [PSys.take, if_true]
  -- the take continues a life that has not ended, or starts one (no life yet, or the last one has ended)
  by_cases hrun : ∃ l, lifeOfW k t.sp = some l ∧ t.clock < l.stop
  · obtain ⟨l, hl, hlive⟩ := hrun
    have hlk := lifeOfW_key k t.sp l hl
    rw [hl] at hf
    obtain ⟨f1, f2, f3⟩ := periodScript_running st k quota w l.count l.stop hf ((h.2.2 k).2 l hl)
      (by rw [hclk]; exact hlive)
    simp only [ptakeW, hl, hlive, if_true, f3, takeResult_code, true_and]
    exact prelW_set h _ { l with count := l.count + 1 } (by simp) f2 (by rw [hlk]; exact f1) (by rw [hlk]; exact hother)
  · have hg : st.get k = none := by
      rw [get_eq, hf]
      cases hl : lifeOfW k t.sp with
      | none => rfl
      | some l => simpa [Entry.live, LifeW.entry, hclk] using fun hlt => hrun ⟨l, hl, hlt⟩
    obtain ⟨f1, f2, f3⟩ := periodScript_fresh st k quota w hw hg
    have hp : ptakeW quota w t.sp t.clock k = (setLifeW ⟨k, t.clock + w * 1000, 1⟩ t.sp, codeOf quota 1) := by
      unfold ptakeW
      split
      · next l hl => rw [if_neg fun hlt => hrun ⟨l, hl, hlt⟩]
      · rfl
    simp only [hp, f3, takeResult_code, true_and]
    exact prelW_set h _ ⟨k, t.clock + w * 1000, 1⟩ (Nat.le_refl 1) f2 (by rw [f1, hclk]; rfl) hother

def WinOk (ops : List POpW) : Prop := ∀ k q w, POpW.take k q w ∈ ops → 1 ≤ w

theorem period_refines_spec_windows_from : ∀ (ops : List POpW) (s : PSys) (t : SpecSysW),
    WinOk ops → PRelW s t → PSys.runW s ops = SpecSysW.run t ops := by
  intro ops
  induction ops with
  | nil => intro s t _ _; rfl
  | cons op ops ih =>
    intro s t hw h
    have hw' : WinOk ops := fun k q w hm => hw k q w (List.mem_cons_of_mem _ hm)
    simp only [PSys.runW, SpecSysW.run]
    cases op with
    | ft ms =>
      exact congrArg _ (ih _ _ hw' ⟨h.1, by simp [PSys.stepW, SpecSysW.step, h.2.1],
        fun k => by simpa [PSys.stepW, SpecSysW.step] using h.2.2 k⟩)
    | down | up => exact congrArg _ (ih _ _ hw' ⟨rfl, h.2.1, h.2.2⟩)
    | take k quota w =>
      simp only [PSys.stepW, SpecSysW.step]
      cases hu : s.up with
      | true =>
        have hu' : t.up = true := h.1 ▸ hu
        obtain ⟨r1, r2⟩ := prelW_take quota w (hw k quota w List.mem_cons_self) s t k h hu
        rw [hu'] at r2 ⊢
        rw [if_pos rfl, r1]
        exact congrArg _ (ih _ _ hw' r2)
      | false =>
        have hu' : t.up = false := h.1 ▸ hu
        rw [hu', if_neg Bool.false_ne_true, take_down hu]
        exact congrArg _ (ih _ _ hw' h)

/-- one fixed period: every take carries the same quota and window -/
def POp.toW (quota period : Nat) : POp → POpW
  | .ft ms => .ft ms
  | .take k => .take k quota period
  | .down => .down
  | .up => .up

/-- a life of fixed length, by its end -/
def Spec.Life.toW (period : Nat) (l : Life) : LifeW := ⟨l.key, l.start + period * 1000, l.count⟩

def SpecSys.toW (period : Nat) (t : SpecSys) : SpecSysW := ⟨t.sp.map (Life.toW period), t.clock, t.up⟩

theorem lifeOfW_map (period : Nat) (k : String) (sp : PSpec) :
    lifeOfW k (sp.map (Life.toW period)) = (lifeOf k sp).map (Life.toW period) := by
  induction sp with
  | nil => rfl
  | cons x rest ih => simp only [List.map_cons, lifeOfW, lifeOf, Life.toW, ih]; split <;> rfl

theorem setLifeW_map (period : Nat) (l : Life) (sp : PSpec) :
    setLifeW (l.toW period) (sp.map (Life.toW period)) = (setLife l sp).map (Life.toW period) := by
  induction sp with
  | nil => rfl
  | cons x rest ih => simp only [List.map_cons, setLifeW, setLife, Life.toW] at ih ⊢; split <;> simp [ih, Life.toW]

theorem ptakeW_map (quota period : Nat) (sp : PSpec) (clock : Nat) (k : String) :
    ptakeW quota period (sp.map (Life.toW period)) clock k
      = ((ptake quota period sp clock k).1.map (Life.toW period), (ptake quota period sp clock k).2) := by
  unfold ptakeW ptake
  rw [lifeOfW_map]
  cases lifeOf k sp with
  | none => simp [← setLifeW_map, Life.toW]
  | some l => by_cases h : clock < l.start + period * 1000 <;> simp [h, ← setLifeW_map, Life.toW]

theorem psys_run_toW (quota period : Nat) : ∀ (ops : List POp) (s : PSys),
    PSys.run quota period s ops = PSys.runW s (ops.map (POp.toW quota period)) := by
  intro ops
  induction ops with
  | nil => intro s; rfl
  | cons op ops ih => intro s; cases op <;> exact congrArg _ (ih _)

theorem specSys_run_toW (quota period : Nat) : ∀ (ops : List POp) (t : SpecSys),
    SpecSys.run quota period t ops = SpecSysW.run (t.toW period) (ops.map (POp.toW quota period)) := by
  intro ops
  induction ops with
  | nil => intro t; rfl
  | cons op ops ih =>
    intro t
    cases op with
    | take k =>
      simp only [SpecSys.run, List.map_cons, SpecSysW.run, ih, SpecSys.step, POp.toW, SpecSysW.step, SpecSys.toW,
        ptakeW_map]
      split <;> rfl
    | _ => exact congrArg _ (ih _)

theorem prelW_init : PRelW PSys.init SpecSysW.init := ⟨rfl, rfl, fun _ => ⟨rfl, nofun⟩⟩

end GoZero.C03
