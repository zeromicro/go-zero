/-
C03 — token limiter: the shared store under `tokenscript.lua` refines the abstract bucket; hence the interval bound on
the events of a run.
-/
import GoZero.C03.ProofsBucket
namespace GoZero.C03
open GoZero.C03 Spec

/-- the TTL the fixed script writes covers a complete refill -/
theorem ttl_covers_burst (rate burst : Nat) (hr : 0 < rate) : burst ≤ ttlFixed rate burst * rate := by
  unfold ttlFixed
  have h1 := Nat.div_add_mod (2 * burst) rate
  have h2 := Nat.mod_lt (2 * burst) hr
  -- the TTL in seconds is at least the quotient and at least one
  have h3 : rate * (2 * burst / rate) ≤ max 1 (2 * burst / rate) * rate :=
    Nat.mul_comm _ rate ▸ Nat.mul_le_mul_right rate (Nat.le_max_right _ _)
  have h4 : rate ≤ max 1 (2 * burst / rate) * rate := Nat.le_mul_of_pos_left _ (by omega)
  omega

/-- the fixed script never fails, and this is what it writes -/
theorem tokenScript_fixed (c : TCfg) (s : Store) (now n : Nat) :
    tokenScript true c s now n = some
      ((s.put c.k1 ⟨if n ≤ filledTokens c s now then filledTokens c s now - n else filledTokens c s now,
            some (s.clock + ttlFixed c.rate c.burst * 1000)⟩).put c.k2
          ⟨now, some (s.clock + ttlFixed c.rate c.burst * 1000)⟩,
        decide (n ≤ filledTokens c s now)) := by
  have hne : ttlFixed c.rate c.burst ≠ 0 := by unfold ttlFixed; omega
  simp [tokenScript, Store.setex, ttlOf, hne]

/-- one `reserveN`: the local limiter of the instance decides (rescue mode, or the script call failed and
`startMonitor` ran), or the script ran and its result is the answer -/
theorem reserveN_cases (fixed : Bool) (c : TCfg) (s : Sys) (i ns n : Nat) :
    (∃ inst, (inst = s.insts i ∨ inst = (s.insts i).startMonitor) ∧
      s.reserveN fixed c i ns n = s.rescuePath c i inst ns n) ∨
    (∃ r, tokenScript fixed c s.store (ns / nsPerSec) n = some r ∧
      s.reserveN fixed c i ns n = ({ s with store := r.1 }, ⟨i, .store, ns, n, r.2⟩)) := by
  unfold Sys.reserveN
  cases ha : (s.insts i).alive with
  | false => exact Or.inl ⟨_, Or.inl rfl, by simp [ha]⟩
  | true =>
    cases hu : s.up with
    | false => exact Or.inl ⟨_, Or.inr rfl, by simp [ha]⟩
    | true =>
      cases h : tokenScript fixed c s.store (ns / nsPerSec) n with
      | none => exact Or.inl ⟨_, Or.inr rfl, by simp [ha]⟩
      | some r => exact Or.inr ⟨r, rfl, by simp [ha]⟩

theorem run_allow (fixed : Bool) (c : TCfg) (s : Sys) (i ns n : Nat) (ops : List TOp) :
    Sys.run fixed c s (.allow i ns n :: ops)
      = (s.reserveN fixed c i ns n).2 :: Sys.run fixed c (s.reserveN fixed c i ns n).1 ops := rfl

theorem tokenScript_fixed_keys (c : TCfg) (s : Store) (now n : Nat) (hk : c.k1 ≠ c.k2) :
    ∃ s', tokenScript true c s now n = some (s', decide (n ≤ filledTokens c s now)) ∧
      s'.clock = s.clock ∧
      s'.find c.k1 = some ⟨(if n ≤ filledTokens c s now then filledTokens c s now - n else filledTokens c s now),
                          some (s.clock + ttlFixed c.rate c.burst * 1000)⟩ ∧
      s'.find c.k2 = some ⟨now, some (s.clock + ttlFixed c.rate c.burst * 1000)⟩ :=
  ⟨_, tokenScript_fixed c s now n, rfl, by rw [find_put, if_neg hk, find_put, if_pos rfl], by rw [find_put, if_pos rfl]⟩

theorem startMonitor_rescue (i : Inst) : i.startMonitor.rescue = i.rescue := by
  unfold Inst.startMonitor; split <;> rfl

/-- only `allow` produces an event or touches a local limiter, only `allow` and `ft` touch the store -/
theorem step_silent (fixed : Bool) (c : TCfg) (s : Sys) (op : TOp) (h : ¬ ∃ i ns n, op = .allow i ns n) :
    (s.step fixed c op).2 = none ∧ (∀ j, ((s.step fixed c op).1.insts j).rescue = (s.insts j).rescue) ∧
    ((∀ ms, op ≠ .ft ms) → (s.step fixed c op).1.store = s.store) := by
  have hupd : ∀ (i j : Nat) (x : Inst), x.rescue = (s.insts i).rescue → (upd s.insts i x j).rescue = (s.insts j).rescue := by
    intro i j x hx; unfold upd; split
    · next hji => rw [hx, hji]
    · rfl
  cases op with
  | allow i ns n => exact absurd ⟨i, ns, n, rfl⟩ h
  | ft ms => exact ⟨rfl, fun _ => rfl, fun hf => absurd rfl (hf ms)⟩
  | pingOk i | monExit i =>
    simp only [Sys.step]; split
    · exact ⟨rfl, fun j => hupd i j _ rfl, fun _ => rfl⟩
    · exact ⟨rfl, fun _ => rfl, fun _ => rfl⟩
  | lateFail i => exact ⟨rfl, fun j => hupd i j _ (startMonitor_rescue _), fun _ => rfl⟩
  | _ => exact ⟨rfl, fun _ => rfl, fun _ => rfl⟩

theorem run_silent (fixed : Bool) (c : TCfg) (s : Sys) (op : TOp) (ops : List TOp) (h : (s.step fixed c op).2 = none) :
    Sys.run fixed c s (op :: ops) = Sys.run fixed c (s.step fixed c op).1 ops := by
  simp only [Sys.run, h]

/-- relation between the store and the abstract bucket; `hist` as in `TimedFrom`: both keys absent and the bucket full
and untouched, or both keys written by the request of `hist` that left the bucket as it is -/
def TInv (c : TCfg) (st : Store) (b : Bucket) (hist : List (Nat × Nat)) : Prop :=
  (st.find c.k1 = none ∧ st.find c.k2 = none ∧ b = Bucket.init c.burst) ∨
  (∃ c1, (c1, b.ts) ∈ hist ∧
    st.find c.k1 = some ⟨b.tok, some (c1 + ttlFixed c.rate c.burst * 1000)⟩ ∧
    st.find c.k2 = some ⟨b.ts, some (c1 + ttlFixed c.rate c.burst * 1000)⟩)

/-- under the invariant and the timing hypothesis of this request, the script computes the abstract
bucket's `filled` — also when the keys have expired (then ttl × rate ≥ burst has passed: full bucket). -/
theorem filled_eq (c : TCfg) (hr : 0 < c.rate) (st : Store) (b : Bucket) (hist : List (Nat × Nat)) (now : Nat)
    (hinv : TInv c st b hist)
    (hh : ∀ p ∈ hist, p.2 ≤ now ∧ (p.1 + ttlFixed c.rate c.burst * 1000 ≤ st.clock → p.2 + ttlFixed c.rate c.burst ≤ now)) :
    filledTokens c st now = b.filled c.rate c.burst now ∧ b.ts ≤ now := by
  simp only [filledTokens, lastTokens, lastRefreshed, get_eq, Bucket.filled]
  rcases hinv with ⟨h1, h2, hb⟩ | ⟨c1, hmem, h1, h2⟩
  · subst hb
    simp [h1, h2, Bucket.init]
  · obtain ⟨hle, htr⟩ := hh _ hmem
    simp only at hle htr
    refine ⟨?_, hle⟩
    by_cases hl : st.clock < c1 + ttlFixed c.rate c.burst * 1000
    · simp [h1, h2, Entry.live, hl]
    · have hcov := ttl_covers_burst c.rate c.burst hr
      have : ttlFixed c.rate c.burst * c.rate ≤ (now - b.ts) * c.rate :=
        Nat.mul_le_mul_right _ (by omega)
      simp only [h1, h2, Entry.live, hl, decide_false, Bool.false_eq_true, if_false]
      omega


/-- Refinement: the decisions of the requests that reach the shared store — from whichever instance,
across outages and recoveries — are the decisions of ONE abstract bucket. -/
theorem sys_refines_bucket (c : TCfg) (hr : 0 < c.rate) (hk : c.k1 ≠ c.k2) :
    ∀ (ops : List TOp) (s : Sys) (b : Bucket) (hist : List (Nat × Nat)),
      TInv c s.store b hist → TimedFrom (ttlFixed c.rate c.burst) hist s.store.clock ops →
      (storeEvs (Sys.run true c s ops)).map (·.ok)
          = Bucket.run c.rate c.burst b ((storeEvs (Sys.run true c s ops)).map callOf) ∧
      Mono b.ts ((storeEvs (Sys.run true c s ops)).map callOf) := by
  intro ops
  induction ops with
  | nil => intro s b hist _ _; simp [Sys.run, storeEvs, Bucket.run, Mono]
  | cons op ops ih =>
    intro s b hist hinv ht
    have silent : ∀ op : TOp, (¬ ∃ i ns n, op = .allow i ns n) → (∀ ms, op ≠ .ft ms) →
        TimedFrom (ttlFixed c.rate c.burst) hist s.store.clock ops →
        (storeEvs (Sys.run true c s (op :: ops))).map (·.ok)
            = Bucket.run c.rate c.burst b ((storeEvs (Sys.run true c s (op :: ops))).map callOf) ∧
          Mono b.ts ((storeEvs (Sys.run true c s (op :: ops))).map callOf) := by
      intro op hal hft ht
      obtain ⟨hnone, _, hst⟩ := step_silent true c s op hal
      rw [run_silent _ _ _ _ _ hnone]
      exact ih _ b hist (by rw [hst hft]; exact hinv) (by rw [hst hft]; exact ht)
    cases op with
    | ft ms =>
      simp only [TimedFrom] at ht
      exact ih ({ s with store := s.store.advance ms }) b hist hinv ht
    | allow i ns n =>
      simp only [TimedFrom] at ht
      obtain ⟨hh, ht'⟩ := ht
      rw [run_allow]
      rcases reserveN_cases true c s i ns n with ⟨inst, _, he⟩ | ⟨r, hs, he⟩ <;> rw [he]
      · exact ih _ b ((s.store.clock, ns / nsPerSec) :: hist)
          (hinv.imp id fun ⟨c1, hm, rest⟩ => ⟨c1, List.mem_cons_of_mem _ hm, rest⟩) ht'
      · obtain ⟨s', h1, hclk, hf1, hf2⟩ := tokenScript_fixed_keys c s.store (ns / nsPerSec) n hk
        cases h1.symm.trans hs
        obtain ⟨hfe, hts⟩ := filled_eq c hr s.store b hist (ns / nsPerSec) hinv hh
        have ha := (allow_tok_le c.rate c.burst b (ns / nsPerSec) n).2
        have hinv' : TInv c s' (b.allow c.rate c.burst (ns / nsPerSec) n).1 ((s.store.clock, ns / nsPerSec) :: hist) :=
          Or.inr ⟨s.store.clock, by rw [ha]; exact List.mem_cons_self,
            by rw [hf1, hfe]; unfold Bucket.allow; split <;> simp, by rw [hf2, ha]⟩
        have hi := ih { s with store := s' } _ _ hinv' (by rw [hclk]; exact ht')
        rw [ha] at hi
        simp only [storeEvs, List.filter, decide_true, List.map_cons, callOf, Bucket.run, Mono] at hi ⊢
        refine ⟨?_, hts, hi.2⟩
        rw [hi.1, hfe]
        congr 1
        unfold Bucket.allow
        split <;> simp [*]
    | _ => exact silent _ (by simp) (by intros; simp) (by simpa only [TimedFrom] using ht)

theorem tinv_init (c : TCfg) : TInv c (Sys.init c).store (Bucket.init c.burst) [] :=
  Or.inl ⟨rfl, rfl, rfl⟩

end GoZero.C03
