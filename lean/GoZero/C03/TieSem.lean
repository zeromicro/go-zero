/-
C03 — Tie, semantic part: what the extractor TRANSLATED from the current source — the Lua script parsed and
interpreted in Lean, the arithmetic of calcExpireSeconds, the decision chains of TakeCtx and reserveN as Lean
functions, the argument lists the entry points forward, the constructor's arithmetic and key formats, the order of effects of
`startMonitor` / `waitForRedis` — equals the model's definitions FOR ALL ARGUMENTS; plus the statement skeletons of the store
client's script path (core/stores/redis/redis.go) the model `scriptRun` / `pingResult` was written against.
-/
import GoZero.Extracted.C03
import GoZero.C03.LuaSem
import GoZero.C03.ScriptRun
import GoZero.C03.ProofsMonitor
import GoZero.C03.ProofsPeriod
namespace GoZero.C03.TieSem
open GoZero.C03
open GoZero.C03.Lua
open GoZero.Extracted.C03

/-- periodscript.lua as the parser reads it -/
def periodProg : List Stmt :=
  [.localE "limit" (.argvNum 1),
   .localE "window" (.argvNum 2),
   .localCall "current" .incrby [.key 1, .e (.num 1)],
   .ifte (.eq (.var "current") (.num 1)) [.call .expire [.key 1, .e (.var "window")]] [],
   .ifte (.lt (.var "current") (.var "limit")) [.ret (.num 1)]
     [.ifte (.eq (.var "current") (.var "limit")) [.ret (.num 2)] [.ret (.num 0)]]]

theorem periodLua_parses : (periodLuaToks.mapM Tok.ofRaw).bind parse = some periodProg := by rfl

attribute [local simp] exec_localE exec_localCall exec_call exec_ret exec_nil exec_ifte evalExpr evalCond command setLocal
  List.lookup in
/-- **periodscript.lua as it is in the tree means the model's `periodScript`**: for every store, key, and every
integer limit and window (negative and zero included), running the current script text yields exactly
`periodScriptZ` — which is `periodScript` on `toNat`s (`PropsPath.periodScriptZ_is_periodScript`). In particular the
EXPIRE is armed by the take that creates the counter whatever the quota (seeded change C03-3 breaks this theorem). -/
theorem tie_periodLua_sem (s : Store) (key : String) (limit window : Int) :
    runScript periodLuaToks [key] [limit, window] s = some (periodScriptZ s key limit window) := by
  rw [runScript_of_parses periodLua_parses]
  unfold periodScriptZ
  have hcur := incrby_pos s key
  generalize hr : s.incrby key 1 = r at hcur
  obtain ⟨s1, cur⟩ := r
  simp only at hcur
  by_cases hc : cur = 1
  · subst hc
    by_cases hl : (1 : Int) < limit
    · simp [periodProg, hr, hl]
    · by_cases he : limit = 1
      · subst he
        simp [periodProg, hr]
      · have he' : ¬ ((1 : Int) = limit) := fun h => he h.symm
        simp [periodProg, hr, hl, he']
  · have h1 : ¬ ((cur : Int) = 1) := by omega
    by_cases hl : (cur : Int) < limit
    · simp [periodProg, hr, h1, hl]
    · by_cases he : limit = (cur : Int)
      · subst he
        simp [periodProg, hr, h1]
      · have he' : ¬ ((cur : Int) = limit) := fun h => he h.symm
        simp [periodProg, hr, h1, hl, he']

/-- the script variables run the embedded files the two ties are about -/
theorem tie_scriptBindings :
    periodScriptBinding = ["periodScript = NewScript(periodLuaScript)", "embed periodscript.lua"] ∧
    tokenScriptBinding = ["tokenScript = NewScript(tokenLuaScript)", "embed tokenscript.lua"] := ⟨rfl, rfl⟩

/-- the translated arithmetic is the model's `calcExpireZ` for every period, clock reading and zone offset
(`period = 0` with Align: Go panics on `% 0`, the model says `none`) -/
theorem tie_calcExpire_sem (period nowUnix offset : Int) :
    calcExpireCond = "h.align" ∧
    calcExpireZ true period (nowUnix + offset) =
      (if period = 0 then none else some (calcExpireAligned period nowUnix offset)) ∧
    calcExpireZ false period (nowUnix + offset) = some (calcExpirePlain period) := by
  refine ⟨rfl, ?_, ?_⟩
  · unfold calcExpireZ calcExpireAligned; simp
  · unfold calcExpireZ calcExpirePlain; simp

def errNum : PErr → Int
  | .nil => 0 | .store => 1 | .unknownCode => 2

/-- **`TakeCtx`'s chain is `takeResult`** for every reply: error first, then the type assertion, then the switch with
the extracted constants; the returned pair is (exported code, error kind). -/
theorem tie_takeChain_sem :
    (∀ (b : Bool) (code : Int), takeChain true b code = (((takeResult .err).1.toNat : Int), errNum (takeResult .err).2)) ∧
    (∀ code : Int, takeChain false false code = (((takeResult .other).1.toNat : Int), errNum (takeResult .other).2)) ∧
    (∀ code : Int, takeChain false true code = (((takeResult (.int code)).1.toNat : Int), errNum (takeResult (.int code)).2)) := by
  refine ⟨fun _ _ => rfl, fun _ => rfl, fun code => ?_⟩
  by_cases h0 : code = 0 <;> by_cases h1 : code = 1 <;> by_cases h2 : code = 2 <;>
    simp_all [takeChain, takeResult_int, Code.toNat, errNum]

def decNum : TDecision → Int
  | .deny => 0 | .grant => 1 | .rescue => 2

/-- how `reserveN`'s conditions read a reply: (isNil, isCtx, err != nil, resp is an int64, the integer) -/
def replyFlags : TReply → Bool × Bool × Bool × Bool × Int
  | .nilReply => (true, false, true, false, 0)
  | .ctxErr => (false, true, true, false, 0)
  | .err => (false, false, true, false, 0)
  | .other => (false, false, false, false, 0)
  | .int v => (false, false, false, true, v)

/-- **`reserveN`'s chain is `reserveDecide`** for every reply (instance on the store path, `redisAlive ≠ 0`), and with
`redisAlive = 0` the local limiter decides without touching the store or the monitor (value 3). -/
theorem tie_reserveChain_sem (r : TReply) (alive : Int) (ha : alive ≠ 0) :
    reserveChain alive (replyFlags r).1 (replyFlags r).2.1 (replyFlags r).2.2.1 (replyFlags r).2.2.2.1 (replyFlags r).2.2.2.2
      = decNum (reserveDecide r) ∧
    reserveChain 0 (replyFlags r).1 (replyFlags r).2.1 (replyFlags r).2.2.1 (replyFlags r).2.2.2.1 (replyFlags r).2.2.2.2 = 3 := by
  cases r with
  | int v => by_cases h : v = 1 <;> simp [reserveChain, replyFlags, reserveDecide, decNum, ha, h]
  | _ => simp [reserveChain, replyFlags, reserveDecide, decNum, ha]

/-- `NewTokenLimiter` derives the two keys from the caller's key with the two formats (distinct keys ⇒ distinct
buckets), `NewPeriodLimit` applies every option to the limiter it returns -/
theorem tie_constructors :
    newTokenLimiterShape =
      ["tokenKey := fmt.Sprintf(tokenFormat, key)", "timestampKey := fmt.Sprintf(timestampFormat, key)",
       "return &TokenLimiter{ rate: rate, burst: burst, store: store, tokenKey: tokenKey, timestampKey: timestampKey, redisAlive: 1, rescueLimiter: xrate.NewLimiter(xrate.Every(time.Second/time.Duration(rate)), burst), }"] ∧
    newPeriodLimitShape =
      ["limiter := &PeriodLimit{ period: period, quota: quota, limitStore: limitStore, keyPrefix: keyPrefix, }",
       "for range opts {", "opt(limiter)", "}", "return limiter"] := ⟨rfl, rfl⟩

/-- `ScriptRunCtx` (`scriptRun`): `getRedis` error ⇒ `(nil, err)`; else exactly one `script.Run(ctx, conn, keys, args...)`
(go-redis: EVALSHA, EVAL only after NOSCRIPT) whose `Result()` — value AND error — is returned unchanged;
`ScriptRun` is `ScriptRunCtx` with the background context; `NewScript` is go-redis' `NewScript` of the same text -/
theorem tie_scriptRunCtx :
    scriptRunCtxShape = ["conn, err := getRedis(…)", "if err != nil {", "return nil, err", "}",
      "return script.Run(ctx, conn, keys, args...).Result()"] ∧
    scriptRunShape = ["return s.ScriptRunCtx(context.Background(), script, keys, args...)"] ∧
    newScriptShape = ["return red.NewScript(script)"] := ⟨rfl, rfl, rfl⟩

/-- `getRedis`: node and cluster clients, anything else is an error (`typeOk = false`) -/
theorem tie_getRedis : getRedisShape =
    ["switch r.Type {", "case ClusterType:", "return getCluster(r)", "case NodeType:", "return getClient(r)",
     "default:", "return nil, fmt.Errorf(\"redis type '%s' is not supported\", r.Type)", "}"] := rfl

/-- what the client's breaker accepts as "not a failure" (`redis.Nil` = the token script's `false`, and a cancelled context) -/
theorem tie_acceptable : acceptableShape = ["return err == nil || errorx.In(err, red.Nil, context.Canceled)"] := rfl

/-- `Ping` / `PingCtx` (`pingResult`): errors mean false, the answer must be "PONG" -/
theorem tie_ping :
    pingShape = ["return s.PingCtx(context.Background())"] ∧
    pingCtxShape = ["conn, err := getRedis(…)", "if err != nil {", "return false", "}",
      "v, err := conn.Ping(ctx).Result(…)", "if err != nil {", "return false", "}", "return v == \"PONG\""] ∧
    (∀ v : String, pingResult true (some v) = (v == "PONG")) :=
  ⟨rfl, rfl, fun _ => rfl⟩

/-- value of a forwarded argument -/
inductive FVal where
  | bg                  -- `context.Background()`
  | wall                -- `time.Now()`
  | lit (v : Nat)       -- an integer literal in the source
  | val (v : Nat)       -- the caller's value of a parameter (a time in ns, a size, a key …)
  | ctx (k : CtxKind)   -- the caller's context
  deriving DecidableEq

def litNat (a : String) : Option Nat :=
  if a.toList ≠ [] ∧ a.toList.all Char.isDigit then some (a.toList.foldl (fun acc c => acc * 10 + (c.toNat - 48)) 0) else none

/-- an argument expression of the source under the caller's actual parameter values -/
def evalFwd (params : List String) (actuals : List FVal) (a : String) : Option FVal :=
  if a = "context.Background()" then some .bg
  else if a = "time.Now()" then some .wall
  else match litNat a with
    | some v => some (.lit v)
    | none => (params.zip actuals).lookup a

def evalFwds (params : List String) (actuals : List FVal) (args : List String) : Option (List FVal) :=
  args.mapM (evalFwd params actuals)

/-- the argument list that reaches `reserveN(ctx, now, n)`; `w` = what `time.Now()` reads -/
def fwdReserve (w : Nat) : List FVal → Option ReserveArgs
  | [c, t, n] =>
    match (match c with | .bg => some CtxKind.background | .ctx k => some k | _ => none),
          (match t with | .wall => some w | .val v => some v | _ => none),
          (match n with | .lit v => some v | .val v => some v | _ => none) with
    | some c, some t, some n => some ⟨c, t, n⟩
    | _, _, _ => none
  | _ => none

/-- **What reaches `reserveN` through each public entry point, for all actual arguments** — the extracted argument
lists composed along the call chain are the model's `allowArgs` / `allowCtxArgs` / `allowNArgs` / `allowNCtxArgs`
(a dropped `n`, a dropped context, a literal other than 1, a stale clock instead of `time.Now()` break this), and
`Take(key)` is `TakeCtx(context.Background(), key)`. -/
theorem tie_entry_points_sem (w ns n key : Nat) (k : CtxKind) :
    ((evalFwds allowNFwdParams [.val ns, .val n] allowNFwdArgs).bind (fwdReserve w) = some (allowNArgs ns n)) ∧
    ((evalFwds allowNCtxFwdParams [.ctx k, .val ns, .val n] allowNCtxFwdArgs).bind (fwdReserve w) = some (allowNCtxArgs k ns n)) ∧
    (((evalFwds allowFwdParams [] allowFwdArgs).bind fun a => evalFwds allowNFwdParams a allowNFwdArgs).bind (fwdReserve w)
      = some (allowArgs w)) ∧
    (((evalFwds allowCtxFwdParams [.ctx k] allowCtxFwdArgs).bind fun a => evalFwds allowNCtxFwdParams a allowNCtxFwdArgs).bind (fwdReserve w)
      = some (allowCtxArgs k w)) ∧
    (evalFwds takeFwdParams [.val key] takeFwdArgs = some [.bg, .val key]) :=
  ⟨rfl, rfl, rfl, rfl, rfl⟩

/-- `fmt.Sprintf(format, key)` for a format with `%s` verbs only -/
def sprintfL : List Char → List Char → List Char
  | '%' :: 's' :: rest, key => key ++ sprintfL rest key
  | c :: rest, key => c :: sprintfL rest key
  | [], _ => []

def sprintfS (format key : String) : String := String.ofList (sprintfL format.toList key.toList)

/-- **The constructor's arithmetic and key derivation for all arguments**: the interval of the rescue limiter is
`TCfg.ival` (`time.Second/time.Duration(rate)`, truncating), its size is `burst` (not `rate`), and the two Redis keys are
the model's `newTokenCfg` keys for EVERY caller key (`fmt.Sprintf` of the two extracted formats). -/
theorem tie_newTokenLimiter_sem (rate burst : Nat) (key : String) :
    rescueEveryNs rate burst = ((newTokenCfg rate burst key).ival : Int) ∧
    rescueBurst rate burst = (burst : Int) ∧
    sprintfS tokenFormat key = (newTokenCfg rate burst key).k1 ∧
    sprintfS timestampFormat key = (newTokenCfg rate burst key).k2 := by
  -- a literal is `String.ofList` of its characters, which `String.toList_ofList` reads off; `decide` would encode and decode them
  -- (the device of `lit_chars`, Base/StringLit.lean, which this module does not import)
  have h1 : tokenFormat.toList = ['{', '%', 's', '}', '.', 't', 'o', 'k', 'e', 'n', 's'] := by
    unfold tokenFormat; exact String.toList_ofList
  have h2 : timestampFormat.toList = ['{', '%', 's', '}', '.', 't', 's'] := by
    unfold timestampFormat; exact String.toList_ofList
  refine ⟨?_, rfl, ?_, ?_⟩
  · show Int.tdiv 1000000000 (rate : Int) = ((1000000000 / rate : Nat) : Int)
    rw [Int.tdiv_eq_ediv_of_nonneg (by decide)]; rfl
  · apply String.ext; simp [sprintfS, h1, sprintfL, newTokenCfg]
  · apply String.ext; simp [sprintfS, h2, sprintfL, newTokenCfg]

/-! The order of effects of `startMonitor` / `waitForRedis` as a typed list.
The interleaving model `Mon` (ProofsMonitor.lean) gives every row of `startMonitor` and every event of the monitor
goroutine an effect on the shared state (mutex, monitorStarted, redisAlive, number of monitor goroutines).  Here the
extracted statement skeletons are translated to a TYPED instruction list, the list is interpreted as a sequence of
effects, and that sequence is proven equal to the sequence of state changes the model makes when one goroutine runs the
function alone from start to end — for both outcomes of the `monitorStarted` check.  A statement moved to another place
(seeded changes C03-2 / C03-4: `redisAlive = 0` before the Lock / under the lock but before the check) changes the sequence. -/

inductive Eff where
  | acquire | release        -- rescueLock
  | started (b : Bool)       -- monitorStarted := b
  | alive (b : Bool)         -- redisAlive := b
  | spawn                    -- one more goroutine in waitForRedis' loop
  deriving DecidableEq, Repr

inductive MI where
  | lock | unlock | deferUnlock | retIfStarted | setStarted (b : Bool) | storeAlive (b : Bool) | goWait
  | ret | pingLoop (body : List MI) | deferBlock (body : List MI) | other
  deriving Repr

/-- statement skeleton → typed instructions (`none`: a statement outside the vocabulary) -/
def parseMI : Nat → List String → Option (List MI × List String)
  | 0, _ => none
  | fuel + 1, ss =>
    match ss with
    | [] => some ([], [])
    | "}" :: rest => some ([], "}" :: rest)
    | "if lim.monitorStarted {" :: "return" :: "}" :: rest => (parseMI fuel rest).map fun r => (.retIfStarted :: r.1, r.2)
    | "defer func{" :: rest =>
      match parseMI fuel rest with
      | some (body, "}" :: rest) => (parseMI fuel rest).map fun r => (.deferBlock body :: r.1, r.2)
      | _ => none
    | "for range ticker.C {" :: "if lim.store.Ping() {" :: rest =>
      match parseMI fuel rest with
      | some (body, "}" :: "}" :: rest) => (parseMI fuel rest).map fun r => (.pingLoop body :: r.1, r.2)
      | _ => none
    | st :: rest =>
      let i : Option MI :=
        if st = "lim.rescueLock.Lock()" then some .lock
        else if st = "lim.rescueLock.Unlock()" then some .unlock
        else if st = "defer lim.rescueLock.Unlock()" then some .deferUnlock
        else if st = "lim.monitorStarted = true" then some (.setStarted true)
        else if st = "lim.monitorStarted = false" then some (.setStarted false)
        else if st = "atomic.StoreUint32(&lim.redisAlive, 0)" then some (.storeAlive false)
        else if st = "atomic.StoreUint32(&lim.redisAlive, 1)" then some (.storeAlive true)
        else if st = "go lim.waitForRedis()" then some .goWait
        else if st = "return" then some .ret
        else if st = "ticker := time.NewTicker(…)" ∨ st = "ticker.Stop()" then some .other
        else none
      match i with
      | some i => (parseMI fuel rest).map fun r => (i :: r.1, r.2)
      | none => none

/-- effects of a straight run of an instruction list; `started` = what the `monitorStarted` check reads; deferred
work runs at the return, in reverse order of registration.  Result: (effects so far, deferred effects, returned?) -/
def runMI (started : Bool) : Nat → List MI → List Eff → List Eff × List Eff × Bool
  | 0, _, d => ([], d, true)
  | _ + 1, [], d => ([], d, false)
  | fuel + 1, i :: rest, d =>
    let cont (e : List Eff) (d : List Eff) := let r := runMI started fuel rest d; (e ++ r.1, r.2.1, r.2.2)
    match i with
    | .lock => cont [.acquire] d
    | .unlock => cont [.release] d
    | .deferUnlock => cont [] (.release :: d)
    | .retIfStarted => if started then ([], d, true) else cont [] d
    | .setStarted b => cont [.started b] d
    | .storeAlive b => cont [.alive b] d
    | .goWait => cont [.spawn] d
    | .ret => ([], d, true)
    | .other => cont [] d
    | .deferBlock body => cont [] ((runMI started fuel body []).1 ++ d)
    | .pingLoop body =>
      -- the successful ping: the body runs once (a failed ping has no effect on the shared state)
      let r := runMI started fuel body d
      if r.2.2 then r else cont r.1 r.2.1

def effectsOf (started : Bool) (shape : List String) : Option (List Eff) :=
  match parseMI (shape.length + 1) shape with
  | some (prog, []) => let r := runMI started (4 * shape.length + 4) prog []; some (r.1 ++ r.2.1)
  | _ => none

/-- the effect of one model step on the shared state -/
def diffEff (a b : Mon.St) : List Eff :=
  (if a.lock = .free ∧ b.lock ≠ .free then [Eff.acquire] else []) ++
  (if a.started ≠ b.started then [Eff.started b.started] else []) ++
  (if a.alive ≠ b.alive then [Eff.alive b.alive] else []) ++
  (if a.nLoop < b.nLoop then [Eff.spawn] else []) ++
  (if a.lock ≠ .free ∧ b.lock = .free then [Eff.release] else [])

/-- goroutine 0 runs `startMonitor` alone, from entering it until it is idle again (it has seven rows: fuel 10 is enough) -/
def callerTrace (s : Mon.St) : Nat → List Eff
  | 0 => []
  | fuel + 1 =>
    match Mon.step false s (.caller 0) with
    | some s' => diffEff s s' ++ (if s'.pc 0 = .idle then [] else callerTrace s' fuel)
    | none => []

/-- the effects of the events `es` taken one after the other from `s` (used for the monitor goroutine's successful ping and
its deferred function) -/
def monitorTrace (s : Mon.St) : List Mon.Ev → List Eff
  | [] => []
  | e :: es =>
    match Mon.step false s e with
    | some s' => diffEff s s' ++ monitorTrace s' es
    | none => []

/-- **The statements of `startMonitor` and `waitForRedis`, in the order of the source, have the effects of the model's
rows, in the model's order**: lock, (return under the lock if a monitor is marked started), `monitorStarted = true`
BEFORE `redisAlive = 0` BEFORE the goroutine is started, unlock last; the monitor stores `redisAlive = 1` first and only
then takes the lock to clear `monitorStarted`. -/
theorem tie_monitor_effects_sem :
    effectsOf false startMonitorShape = some (callerTrace Mon.init 10) ∧
    effectsOf true startMonitorShape = some (callerTrace { Mon.init with started := true } 10) ∧
    effectsOf false waitForRedisShape
      = some (monitorTrace { Mon.init with started := true, alive := false, nLoop := 1 } [.pingOk, .monLock, .monClear, .monUnlock]) ∧
    callerTrace Mon.init 10 = [.acquire, .started true, .alive false, .spawn, .release] ∧
    callerTrace { Mon.init with started := true } 10 = [.acquire, .release] := by
  decide +kernel

end GoZero.C03.TieSem
