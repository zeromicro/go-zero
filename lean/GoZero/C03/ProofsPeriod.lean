/-
C03 — period limit: what one take does (`TakeCtx` on a reachable / unreachable store, `periodScript` on the key's raw
entry and on other keys) and what the takes of one running life are answered.
-/
import GoZero.C03.ProofsStore
namespace GoZero.C03
open GoZero.C03 Spec

theorem take_up {s : PSys} (hu : s.up = true) (quota period : Nat) (k : String) :
    s.take quota period k = ({ s with store := (periodScript s.store k quota period).1 },
      takeResult (.int (periodScript s.store k quota period).2)) := by
  simp [PSys.take, hu]

theorem take_down {s : PSys} (hd : s.up = false) (quota period : Nat) (k : String) :
    s.take quota period k = (s, (Code.unknown, PErr.store)) := by
  simp [PSys.take, hd, takeResult]

theorem takeResult_int (v : Int) : takeResult (.int v) =
    if v = 0 then (.overQuota, .nil) else if v = 1 then (.allowed, .nil) else if v = 2 then (.hitQuota, .nil)
    else (.unknown, .unknownCode) := by
  unfold takeResult; split <;> simp_all

theorem takeResult_code (q c : Nat) :
    takeResult (.int ((if c < q then 1 else if c = q then 2 else 0 : Nat) : Int)) = (codeOf q c, .nil) := by
  unfold codeOf
  split
  · simp [takeResult]
  · split <;> simp [takeResult]

theorem incrby_other (s : Store) (k k' : String) (d : Nat) (h : k ≠ k') :
    (s.incrby k' d).1.find k = s.find k ∧ (s.incrby k' d).1.clock = s.clock := by
  unfold Store.incrby; split <;> simp [find_put, h]

theorem expire_other (s : Store) (k k' : String) (secs : Nat) (h : k ≠ k') :
    (s.expire k' secs).find k = s.find k ∧ (s.expire k' secs).clock = s.clock := by
  unfold Store.expire; split
  · split <;> simp [find_put, find_del, h]
  · exact ⟨rfl, rfl⟩

theorem periodScript_other (s : Store) (k k' : String) (q p : Nat) (h : k ≠ k') :
    (periodScript s k' q p).1.find k = s.find k ∧ (periodScript s k' q p).1.clock = s.clock := by
  unfold periodScript
  simp only []
  split
  · rw [(expire_other _ k k' p h).1, (expire_other _ k k' p h).2]; exact incrby_other s k k' 1 h
  · exact incrby_other s k k' 1 h

theorem periodScript_running (s : Store) (k : String) (q p j D : Nat)
    (hf : s.find k = some ⟨j, some D⟩) (hj : 1 ≤ j) (hl : s.clock < D) :
    (periodScript s k q p).1.find k = some ⟨j + 1, some D⟩ ∧ (periodScript s k q p).1.clock = s.clock ∧
    (periodScript s k q p).2 = (if j + 1 < q then 1 else if j + 1 = q then 2 else 0) := by
  have hg : s.get k = some ⟨j, some D⟩ := by
    rw [get_eq, hf]; simp [Entry.live, hl]
  unfold periodScript Store.incrby
  rw [hg]
  have : ¬ (j = 0) := by omega
  simp [this, find_put]

theorem periodScript_fresh (s : Store) (k : String) (q p : Nat) (hp : 1 ≤ p) (hg : s.get k = none) :
    (periodScript s k q p).1.find k = some ⟨1, some (s.clock + p * 1000)⟩ ∧ (periodScript s k q p).1.clock = s.clock ∧
    (periodScript s k q p).2 = (if 1 < q then 1 else if 1 = q then 2 else 0) := by
  unfold periodScript Store.incrby
  rw [hg]
  simp only [if_true]
  unfold Store.expire
  rw [get_eq, find_put]
  have : ¬ (p = 0) := by omega
  simp [Entry.live, this, find_put]


theorem range_map_shift (f : Nat → α) (m : Nat) :
    (List.range (m + 1)).map f = f 0 :: (List.range m).map (fun i => f (i + 1)) := by
  rw [List.range_succ_eq_map]
  simp [List.map_map, Function.comp_def]

theorem totalAdv_cons (op : POp) (ops : List POp) : totalAdv (op :: ops) = op.adv + totalAdv ops := by
  simp [totalAdv]

theorem takesOn_cons (k : String) (op : POp) (ops : List POp) :
    takesOn k (op :: ops) = (if op = .take k then 1 else 0) + takesOn k ops := by
  unfold takesOn; rw [List.filter_cons]; split <;> simp_all <;> omega

/-- During a running life (counter `j ≥ 1`, deadline `D` not reached by the end of `ops`, store
reachable throughout) the takes on `k` are answered `codeOf (j+1), codeOf (j+2), …`, whatever else happens
on other keys, and the deadline never moves. -/
theorem running_life (quota period : Nat) (k : String) (D : Nat) :
    ∀ (ops : List POp) (s : PSys) (j : Nat), s.up = true → s.store.find k = some ⟨j, some D⟩ → 1 ≤ j →
      s.store.clock + totalAdv ops < D → noDown ops →
      PSys.repliesOn quota period k s ops
          = (List.range (takesOn k ops)).map (fun i => (codeOf quota (j + 1 + i), PErr.nil)) ∧
      (PSys.exec quota period s ops).store.find k = some ⟨j + takesOn k ops, some D⟩ ∧
      (PSys.exec quota period s ops).store.clock = s.store.clock + totalAdv ops := by
  intro ops
  induction ops with
  | nil => intro s j hu hf hj hc hn; simp [PSys.repliesOn, PSys.exec, takesOn, totalAdv, hf]
  | cons op ops ih =>
    intro s j hu hf hj hc hn
    have hn' : noDown ops := fun o ho => hn o (List.mem_cons_of_mem _ ho)
    rw [totalAdv_cons] at hc ⊢
    rw [takesOn_cons]
    simp only [PSys.repliesOn, PSys.exec]
    -- the state after `op`: the counter of `k` moved iff `op` is a take on `k`; deadline, reachability kept
    have step : (s.step quota period op).1.up = true ∧
        (s.step quota period op).1.store.clock = s.store.clock + op.adv ∧
        (s.step quota period op).1.store.find k = some ⟨j + (if op = .take k then 1 else 0), some D⟩ ∧
        (op = .take k → (s.step quota period op).2 = some (codeOf quota (j + 1), PErr.nil)) := by
      cases op with
      | ft ms => simp [PSys.step, POp.adv, hu, hf]
      | down => exact absurd rfl (hn POp.down (List.mem_cons_self))
      | up => simp [PSys.step, POp.adv, hf]
      | take k' =>
        by_cases hk : k' = k
        · subst hk
          obtain ⟨h1, h2, h3⟩ := periodScript_running s.store k' quota period j D hf hj (by omega)
          simp [PSys.step, take_up hu, POp.adv, hu, h1, h2, h3, takeResult_code]
        · obtain ⟨h1, h2⟩ := periodScript_other s.store k k' quota period (Ne.symm hk)
          simp [PSys.step, take_up hu, POp.adv, hu, h1, h2, hf, hk]
    obtain ⟨s1, s2, s3, s4⟩ := step
    obtain ⟨t1, t2, t3⟩ := ih _ _ s1 s3 (by split <;> omega) (by rw [s2]; omega) hn'
    refine ⟨?_, by rw [t2]; congr 2; omega, by rw [t3, s2]; omega⟩
    rw [t1]
    split
    · next h => rw [s4 h, Nat.add_comm 1, range_map_shift]; simp; intro a _; congr 1; omega
    · simp

theorem first_take_life (quota period : Nat) (hp : 1 ≤ period) (k : String) (s : PSys) (rest : List POp)
    (hu : s.up = true) (hfresh : s.store.get k = none) (hlife : totalAdv rest < period * 1000) (hn : noDown rest) :
    (s.take quota period k).2 = (codeOf quota 1, PErr.nil) ∧
    PSys.repliesOn quota period k (s.take quota period k).1 rest
      = (List.range (takesOn k rest)).map (fun i => (codeOf quota (1 + 1 + i), PErr.nil)) ∧
    (PSys.exec quota period (s.take quota period k).1 rest).store.find k
      = some ⟨1 + takesOn k rest, some (s.store.clock + period * 1000)⟩ ∧
    (PSys.exec quota period (s.take quota period k).1 rest).store.clock = s.store.clock + totalAdv rest := by
  obtain ⟨h1, h2, h3⟩ := periodScript_fresh s.store k quota period hp hfresh
  rw [take_up hu]
  have hA := running_life quota period k (s.store.clock + period * 1000) rest
    { s with store := (periodScript s.store k quota period).1 } 1 hu h1 (Nat.le_refl 1)
    (show (periodScript s.store k quota period).1.clock + _ < _ by rw [h2]; omega) hn
  exact ⟨by rw [h3]; exact takeResult_code quota 1, hA.1, hA.2.1, by rw [hA.2.2, h2]⟩

theorem exec_append (quota period : Nat) : ∀ (l1 l2 : List POp) (t : PSys),
    PSys.exec quota period t (l1 ++ l2) = PSys.exec quota period (PSys.exec quota period t l1) l2 := by
  intro l1; induction l1 with
  | nil => intro l2 t; rfl
  | cons o l1 ih => intro l2 t; simp [PSys.exec, ih]

theorem count_lt_range (m q : Nat) : ((List.range m).filter (fun i => decide (i < q))).length = min m q := by
  induction m with
  | zero => simp
  | succ m ih => grind [List.range_succ]

theorem granted_codeOf (quota i : Nat) :
    granted (codeOf quota (i + 1), PErr.nil) = decide (i < quota) := by
  grind [granted, codeOf]

end GoZero.C03
