/-
C03 — the Lua subset of periodscript.lua: token list → AST → meaning over the store model.

The extractor only *lexes* the current file (Extracted.C03.periodLuaToks: raw token triples); parsing and
interpretation happen here, in Lean, so that `TieSem.tie_periodLua_sem` can prove — for every store, key, limit and window (integers) —
that the script as it is in the tree means exactly the model's `periodScript`.

Subset:  `local x = <rhs>` · `if c then … {elseif c then …} [else …] end` · `return e` · `redis.call(…)` as a statement;
rhs = expression or `redis.call("CMD", KEYS[n] | e, …)`;  e = integer literal · local variable · `tonumber(ARGV[n])`;
c = `e == e` · `e < e`.  Anything else does not parse (`none`) — the Tie obligation then fails rather than guessing.

Semantics (Redis scripting documentation; validated by the correspondence run where miniredis' gopher-lua executes
the real file):  ARGV are the decimal texts `strconv.Itoa` produced, `tonumber` gives the integer back (trusted:
tonumber ∘ Itoa = id, so ARGV is handed over as integers);  `INCRBY key d` (d ≥ 0) / `EXPIRE key secs` are the store
model's commands, command names case-insensitive as in Redis (the script writes "INCRBY" and "expire"), an integer
reply becomes a Lua number; the script's number result becomes an integer reply.  All numbers are integers (exact
in float64 below 2^53).
-/
import GoZero.C03.Model
namespace GoZero.C03

/-- periodscript.lua on integer arguments: what Redis does with `limit ≤ 0` / `window ≤ 0` included -/
def periodScriptZ (s : Store) (key : String) (limit window : Int) : Store × Int :=
  let r := s.incrby key 1
  let s1 := if (r.2 : Int) = 1 then r.1.expire key window.toNat else r.1
  (s1, if (r.2 : Int) < limit then 1 else if (r.2 : Int) = limit then 2 else 0)

namespace Lua

inductive Tok where
  | w (s : String)
  | s (s : String)
  | n (n : Nat)
  deriving Repr, DecidableEq

def Tok.ofRaw : Nat × String × Nat → Option Tok
  | (0, t, _) => some (.w t)
  | (1, t, _) => some (.s t)
  | (2, _, v) => some (.n v)
  | _ => none

inductive Expr where
  | num (n : Int)
  | var (x : String)
  | argvNum (i : Nat)            -- tonumber(ARGV[i])
  deriving Repr, DecidableEq

inductive Cond where
  | eq (a b : Expr)
  | lt (a b : Expr)
  deriving Repr, DecidableEq

inductive Arg where
  | key (i : Nat)                -- KEYS[i]
  | e (e : Expr)
  deriving Repr, DecidableEq

/-- the Redis commands of the subset; names are case-insensitive in Redis, the spellings accepted here are listed in `Cmd.ofString` -/
inductive Cmd where
  | incrby | expire
  deriving Repr, DecidableEq

def Cmd.ofString (s : String) : Option Cmd :=
  if s = "INCRBY" ∨ s = "incrby" ∨ s = "IncrBy" then some .incrby
  else if s = "EXPIRE" ∨ s = "expire" ∨ s = "Expire" then some .expire
  else none

inductive Stmt where
  | localE (x : String) (e : Expr)
  | localCall (x : String) (cmd : Cmd) (args : List Arg)
  | call (cmd : Cmd) (args : List Arg)
  | ifte (c : Cond) (t e : List Stmt)
  | ret (e : Expr)
  deriving Repr


def parseExpr : List Tok → Option (Expr × List Tok)
  | .w "tonumber" :: .w "(" :: .w "ARGV" :: .w "[" :: .n i :: .w "]" :: .w ")" :: rest => some (.argvNum i, rest)
  | .n v :: rest => some (.num v, rest)
  | .w x :: rest =>
    if x ∈ ["if", "then", "else", "elseif", "end", "return", "local", "redis", "KEYS", "ARGV", "tonumber",
            "(", ")", "[", "]", ",", ".", "=", "==", "<", ">", "<=", ">=", "~=", "+", "-", "*", "/", "and", "or", "not"]
    then none else some (.var x, rest)
  | _ => none

def parseCond (toks : List Tok) : Option (Cond × List Tok) :=
  match parseExpr toks with
  | some (a, .w "==" :: rest) =>
    match parseExpr rest with
    | some (b, rest) => some (.eq a b, rest)
    | none => none
  | some (a, .w "<" :: rest) =>
    match parseExpr rest with
    | some (b, rest) => some (.lt a b, rest)
    | none => none
  | _ => none

def parseArg : List Tok → Option (Arg × List Tok)
  | .w "KEYS" :: .w "[" :: .n i :: .w "]" :: rest => some (.key i, rest)
  | toks =>
    match parseExpr toks with
    | some (e, rest) => some (.e e, rest)
    | none => none

/-- `, arg , arg … )` -/
def parseArgs : Nat → List Tok → Option (List Arg × List Tok)
  | 0, _ => none
  | fuel + 1, toks =>
    match toks with
    | .w ")" :: rest => some ([], rest)
    | .w "," :: rest =>
      match parseArg rest with
      | some (a, rest) =>
        match parseArgs fuel rest with
        | some (as, rest) => some (a :: as, rest)
        | none => none
      | none => none
    | _ => none

/-- `redis.call("CMD" {, arg})` -/
def parseCall (toks : List Tok) : Option ((Cmd × List Arg) × List Tok) :=
  match toks with
  | .w "redis" :: .w "." :: .w "call" :: .w "(" :: .s cmd :: rest =>
    match Cmd.ofString cmd, parseArgs (rest.length + 1) rest with
    | some c, some (as, rest) => some ((c, as), rest)
    | _, _ => none
  | _ => none

mutual
  /-- statements up to (not including) `else` / `elseif` / `end` / end of input -/
  def parseBlock : Nat → List Tok → Option (List Stmt × List Tok)
    | 0, _ => none
    | fuel + 1, toks =>
      match toks with
      | [] => some ([], [])
      | .w "else" :: _ => some ([], toks)
      | .w "elseif" :: _ => some ([], toks)
      | .w "end" :: _ => some ([], toks)
      | _ =>
        match parseStmt fuel toks with
        | some (s, rest) =>
          match parseBlock fuel rest with
          | some (ss, rest) => some (s :: ss, rest)
          | none => none
        | none => none

  /-- after `if` / `elseif`: `c then block (elseif … | else block end | end)` -/
  def parseIf : Nat → List Tok → Option (Stmt × List Tok)
    | 0, _ => none
    | fuel + 1, toks =>
      match parseCond toks with
      | some (c, .w "then" :: rest) =>
        match parseBlock fuel rest with
        | some (t, .w "elseif" :: rest) =>
          match parseIf fuel rest with
          | some (e, rest) => some (.ifte c t [e], rest)
          | none => none
        | some (t, .w "else" :: rest) =>
          match parseBlock fuel rest with
          | some (e, .w "end" :: rest) => some (.ifte c t e, rest)
          | _ => none
        | some (t, .w "end" :: rest) => some (.ifte c t [], rest)
        | _ => none
      | _ => none

  def parseStmt : Nat → List Tok → Option (Stmt × List Tok)
    | 0, _ => none
    | fuel + 1, toks =>
      match toks with
      | .w "if" :: rest => parseIf fuel rest
      | .w "return" :: rest =>
        match parseExpr rest with
        | some (e, rest) =>
          match rest with
          | [] => some (.ret e, rest)
          | .w "else" :: _ => some (.ret e, rest)
          | .w "elseif" :: _ => some (.ret e, rest)
          | .w "end" :: _ => some (.ret e, rest)
          | _ => none
        | none => none
      | .w "local" :: .w x :: .w "=" :: rest =>
        match parseCall rest with
        | some ((cmd, as), rest) => some (.localCall x cmd as, rest)
        | none =>
          match parseExpr rest with
          | some (e, rest) => some (.localE x e, rest)
          | none => none
      | _ =>
        match parseCall toks with
        | some ((cmd, as), rest) => some (.call cmd as, rest)
        | none => none
end

def parse (toks : List Tok) : Option (List Stmt) :=
  match parseBlock (2 * toks.length + 2) toks with
  | some (ss, []) => some ss
  | _ => none


structure Env where
  keys   : List String
  argv   : List Int
  locals : List (String × Int) := []

def evalExpr (env : Env) : Expr → Option Int
  | .num n => some n
  | .var x => env.locals.lookup x
  | .argvNum i => if i = 0 then none else env.argv[i - 1]?

def evalCond (env : Env) : Cond → Option Bool
  | .eq a b => match evalExpr env a, evalExpr env b with
    | some x, some y => some (decide (x = y))
    | _, _ => none
  | .lt a b => match evalExpr env a, evalExpr env b with
    | some x, some y => some (decide (x < y))
    | _, _ => none

/-- one Redis command issued by the script: `(store', integer reply)` -/
def command (env : Env) (s : Store) (cmd : Cmd) (args : List Arg) : Option (Store × Int) :=
  match args with
  | [.key i, .e d] =>
    if i = 0 then none else
    match env.keys[i - 1]?, evalExpr env d with
    | some k, some d =>
      match cmd with
      | .incrby => if 0 ≤ d then some ((s.incrby k d.toNat).1, ((s.incrby k d.toNat).2 : Int)) else none
      | .expire => some (s.expire k d.toNat, if (s.get k).isSome then 1 else 0)
    | _, _ => none
  | _ => none

def setLocal (env : Env) (x : String) (v : Int) : Env := { env with locals := (x, v) :: env.locals }

/-- executes a block; `some v` in the last component = the script returned `v` -/
def execBlock : Nat → Env → Store → List Stmt → Option (Env × Store × Option Int)
  | 0, _, _, _ => none
  | fuel + 1, env, s, ss =>
    match ss with
    | [] => some (env, s, none)
    | .ret e :: _ =>
      match evalExpr env e with
      | some v => some (env, s, some v)
      | none => none
    | .localE x e :: rest =>
      match evalExpr env e with
      | some v => execBlock fuel (setLocal env x v) s rest
      | none => none
    | .localCall x cmd args :: rest =>
      match command env s cmd args with
      | some (s, v) => execBlock fuel (setLocal env x v) s rest
      | none => none
    | .call cmd args :: rest =>
      match command env s cmd args with
      | some (s, _) => execBlock fuel env s rest
      | none => none
    | .ifte c t e :: rest =>
      match evalCond env c with
      | some b =>
        -- a block's locals go out of scope at its end: the outer environment continues
        match execBlock fuel env s (if b then t else e) with
        | some (_, s, some r) => some (env, s, some r)
        | some (_, s, none) => execBlock fuel env s rest
        | none => none
      | none => none

/-! step equations of `execBlock` (used by the Tie proof instead of unfolding the whole interpreter) -/

theorem exec_localE (f : Nat) (env : Env) (s : Store) (x : String) (e : Expr) (rest : List Stmt) :
    execBlock (f+1) env s (.localE x e :: rest) = (match evalExpr env e with
      | some v => execBlock f (setLocal env x v) s rest
      | none => none) := rfl
theorem exec_localCall (f : Nat) (env : Env) (s : Store) (x : String) (c : Cmd) (a : List Arg) (rest : List Stmt) :
    execBlock (f+1) env s (.localCall x c a :: rest) = (match command env s c a with
      | some (s, v) => execBlock f (setLocal env x v) s rest
      | none => none) := rfl
theorem exec_call (f : Nat) (env : Env) (s : Store) (c : Cmd) (a : List Arg) (rest : List Stmt) :
    execBlock (f+1) env s (.call c a :: rest) = (match command env s c a with
      | some (s, _) => execBlock f env s rest
      | none => none) := rfl
theorem exec_ret (f : Nat) (env : Env) (s : Store) (e : Expr) (rest : List Stmt) :
    execBlock (f+1) env s (.ret e :: rest) = (match evalExpr env e with
      | some v => some (env, s, some v)
      | none => none) := rfl
theorem exec_nil (f : Nat) (env : Env) (s : Store) :
    execBlock (f+1) env s [] = some (env, s, none) := rfl
theorem exec_ifte (f : Nat) (env : Env) (s : Store) (c : Cond) (t e rest : List Stmt) :
    execBlock (f+1) env s (.ifte c t e :: rest) = (match evalCond env c with
      | some b =>
        match execBlock f env s (if b then t else e) with
        | some (_, s, some r) => some (env, s, some r)
        | some (_, s, none) => execBlock f env s rest
        | none => none
      | none => none) := rfl


/-- run a script given as raw tokens: `none` = does not parse, raises an error, ends without `return <number>`,
or needs more than the fuel (a longer script fails the Tie obligation, it is never guessed) -/
def runScript (raw : List (Nat × String × Nat)) (keys : List String) (argv : List Int) (s : Store) : Option (Store × Int) :=
  match (raw.mapM Tok.ofRaw).bind parse with
  | some prog =>
    match execBlock 24 { keys := keys, argv := argv } s prog with
    | some (_, s, some v) => some (s, v)
    | _ => none
  | none => none

/-- A script that parses to `prog` runs as `prog` (stated for a variable token list: the caller rewrites with it, so `parse`
is run on the literal token list once, in `periodLua_parses`, and is not unfolded again inside `runScript`). -/
theorem runScript_of_parses {raw : List (Nat × String × Nat)} {prog : List Stmt}
    (h : (raw.mapM Tok.ofRaw).bind parse = some prog) (keys : List String) (argv : List Int) (s : Store) :
    runScript raw keys argv s = match execBlock 24 { keys := keys, argv := argv } s prog with
      | some (_, s, some v) => some (s, v)
      | _ => none := by
  simp only [runScript, h]

end Lua
end GoZero.C03
