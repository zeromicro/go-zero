/-
C03 — several TokenLimiter keys on ONE store.  Requests of limiters with OTHER keys that reach the store are
interleaved arbitrarily with the operations of the limiters of key `c`; they never touch `c`'s two Redis keys, so the
events of `c`'s limiters are those of the run without them (`runK_eq_run`), to which `sys_refines_bucket` applies.
-/
import GoZero.C03.ProofsToken
namespace GoZero.C03
open Spec

/-- an operation of the limiters with configuration `c`, or a store-decided request of a limiter with another configuration -/
inductive KOp where
  | own (op : TOp)
  | other (c' : TCfg) (now n : Nat)

def Sys.stepK (c : TCfg) (s : Sys) : KOp → Sys × Option Ev
  | .own op => s.step true c op
  | .other c' now n =>
    match tokenScript true c' s.store now n with
    | some r => ({ s with store := r.1 }, none)
    | none => (s, none)

def Sys.runK (c : TCfg) : Sys → List KOp → List Ev
  | _, [] => []
  | s, op :: ops =>
    match (s.stepK c op).2 with
    | some e => e :: Sys.runK c (s.stepK c op).1 ops
    | none => Sys.runK c (s.stepK c op).1 ops

def ownOps : List KOp → List TOp
  | [] => []
  | .own op :: rest => op :: ownOps rest
  | .other _ _ _ :: rest => ownOps rest

def KeysDisjoint (c c' : TCfg) : Prop := c.k1 ≠ c'.k1 ∧ c.k1 ≠ c'.k2 ∧ c.k2 ≠ c'.k1 ∧ c.k2 ≠ c'.k2

def Foreign (c : TCfg) (ops : List KOp) : Prop := ∀ c' now n, KOp.other c' now n ∈ ops → KeysDisjoint c c'

/-- two systems that differ at most in Redis keys other than `c`'s -/
def Agree (c : TCfg) (s s' : Sys) : Prop :=
  s.up = s'.up ∧ s.insts = s'.insts ∧ s.store.clock = s'.store.clock ∧
  s.store.find c.k1 = s'.store.find c.k1 ∧ s.store.find c.k2 = s'.store.find c.k2

theorem filled_agree (c : TCfg) (a b : Store) (hc : a.clock = b.clock) (h1 : a.find c.k1 = b.find c.k1)
    (h2 : a.find c.k2 = b.find c.k2) (now : Nat) : filledTokens c a now = filledTokens c b now := by
  unfold filledTokens lastTokens lastRefreshed
  rw [get_eq, get_eq, get_eq b, get_eq b, h1, h2, hc]

theorem step_agree (c : TCfg) (s s' : Sys) (h : Agree c s s') (op : TOp) :
    (s.step true c op).2 = (s'.step true c op).2 ∧ Agree c (s.step true c op).1 (s'.step true c op).1 := by
  -- `up` and `insts` are equal, so both sides take the same branch
  obtain ⟨st, up, insts⟩ := s
  obtain ⟨st', up', insts'⟩ := s'
  obtain ⟨hu, hi, hc, h1, h2⟩ := h
  simp only at hu hi hc h1 h2
  subst hu hi
  cases op with
  | allow i ns n =>
    -- the script reads only `filledTokens` and writes only `c`'s two keys
    have hf := filled_agree c st st' hc h1 h2 (ns / nsPerSec)
    cases ha : (insts i).alive <;> cases up <;>
      simp [Sys.step, Sys.reserveN, tokenScript_fixed, hf, Sys.rescuePath, Agree, find_put, hc, h1, h2, ha]
  | _ =>
    -- none of these operations reads the store
    simp only [Sys.step, Agree]
    try split
    all_goals simp [hc, h1, h2]

/-- a store-decided request of a limiter with other keys leaves `c`'s view of the system alone -/
theorem other_agree (c c' : TCfg) (hd : KeysDisjoint c c') (s s' : Sys) (h : Agree c s s') (now n : Nat) :
    Agree c (s.stepK c (.other c' now n)).1 s' ∧ (s.stepK c (.other c' now n)).2 = none := by
  obtain ⟨hu, hi, hc, h1, h2⟩ := h
  obtain ⟨d1, d2, d3, d4⟩ := hd
  simp only [Sys.stepK, tokenScript_fixed]
  refine ⟨⟨hu, hi, by simpa using hc, ?_, ?_⟩, trivial⟩
  · exact (find_put_put d1 d2).trans h1
  · exact (find_put_put d3 d4).trans h2

theorem runK_eq_run (c : TCfg) : ∀ (ops : List KOp) (s s' : Sys), Foreign c ops → Agree c s s' →
    Sys.runK c s ops = Sys.run true c s' (ownOps ops) := by
  intro ops
  induction ops with
  | nil => intro s s' _ _; rfl
  | cons op ops ih =>
    intro s s' hf h
    have hf' : Foreign c ops := fun c' now n hm => hf c' now n (List.mem_cons_of_mem _ hm)
    cases op with
    | own op =>
      obtain ⟨e1, e2⟩ := step_agree c s s' h op
      simp only [Sys.runK, Sys.stepK, ownOps, Sys.run, e1]
      cases (s'.step true c op).2 with
      | none => exact ih _ _ hf' e2
      | some e => exact congrArg _ (ih _ _ hf' e2)
    | other c' now n =>
      obtain ⟨e1, e2⟩ := other_agree c c' (hf c' now n List.mem_cons_self) s s' h now n
      simp only [Sys.runK, e2, ownOps]
      exact ih _ _ hf' e1

end GoZero.C03
