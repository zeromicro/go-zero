/-
C03 — property theorems about the PUBLIC API as a whole: constructors (every argument, every option list), delegating entry
points, every kind of caller context and of reply of the remote party (also replies no script produces), several limiters on one
store (key prefixes, token keys), replies lost after the script ran, a flapping store.  The operation types these theorems run
over (`PApiOp`, `POpL`, `TOpL`, `flapping`) are defined next to them.
-/
import GoZero.C03.ScriptRun
import GoZero.C03.Props
import GoZero.C03.PropsPath
import GoZero.C03.ProofsTokenKeys
namespace GoZero.C03.PropsApi
open GoZero.C03 Spec

/-- **PeriodLimit: only the script's integer replies 1 and 2 grant, under every context and every reply kind**
(a string, any other integer, a nil reply, an error; context cancelled / past its deadline: nothing is sent). -/
theorem forged_reply_never_grants_period (k : CtxKind) (r : Resp) :
    granted (takeOutcome k r) = true ↔ k.sends = true ∧ (r = .int 1 ∨ r = .int 2) := by
  unfold takeOutcome
  cases k.sends
  · simp [takeResult, granted]
  · simpa using Props.reply_code_table r

example : takeOutcome .expired (.int 1) = (.unknown, .store) ∧ takeOutcome .future (.int 2) = (.hitQuota, .nil) ∧
    takeOutcome .background (Forged.resp .nil) = (.unknown, .store) ∧
    takeOutcome .background (Forged.resp (.int 3)) = (.unknown, .unknownCode) := by decide

/-- **TokenLimiter: a request is granted by the store path iff the context lets the call out and the reply is the
integer 1** -/
theorem reserve_outcome_grants_only_on_one (k : CtxKind) (r : TReply) :
    reserveOutcome k r = .grant ↔ k.sends = true ∧ r = .int 1 := by
  unfold reserveOutcome
  cases k.sends
  · simp [reserveDecide]
  · simpa using PropsPath.reserve_grants_only_on_one r

/-- **A caller-side context error is never taken for a store failure**: cancelled or past its deadline, the request is
refused and the instance does NOT go to its local limiter (seeded change C03-5 breaks the code's side of this). -/
theorem ctx_error_never_rescues (k : CtxKind) (r : TReply) (h : k.sends = false) : reserveOutcome k r = .deny := by
  simp [reserveOutcome, h, reserveDecide]

/-- … and touches nothing: store, flags and local limiter of an instance on the store path are unchanged -/
theorem ctx_error_touches_nothing (fixed : Bool) (c : TCfg) (s : Sys) (i : Nat) (a : ReserveArgs)
    (ha : (s.insts i).alive = true) (hc : a.ctx.sends = false) :
    (s.reserveArgs fixed c i a).1 = s ∧ (s.reserveArgs fixed c i a).2.ok = false := by
  simp [Sys.reserveArgs, ha, hc]

/-- an instance in rescue mode never looks at the context; a context that sends is the background context -/
theorem rescue_mode_ignores_context (fixed : Bool) (c : TCfg) (s : Sys) (i : Nat) (a : ReserveArgs)
    (h : (s.insts i).alive = false ∨ a.ctx.sends = true) :
    s.reserveArgs fixed c i a = s.reserveN fixed c i a.ns a.n := by
  rcases h with h | h <;> simp [Sys.reserveArgs, h]

/-- **A forged reply**: a reply that is neither the integer 1 nor a non-integer refuses and touches nothing; a
non-integer reply is a store failure: `startMonitor` and the local limiter decides THIS request — with its size `n` at
its time `ns` (seeded change C03-8 drops `n` there). -/
theorem forged_reply_token (c : TCfg) (s : Sys) (i ns n : Nat) (f : Forged) (ha : (s.insts i).alive = true) :
    (f = .str → s.reserveForged c i ns n f = s.rescuePath c i (s.insts i).startMonitor ns n) ∧
    (f = .nil → s.reserveForged c i ns n f = (s, ⟨i, .store, ns, n, false⟩)) ∧
    (∀ v, f = .int v → s.reserveForged c i ns n f = (s, ⟨i, .store, ns, n, decide (v = 1)⟩)) := by
  cases f with
  | int v => by_cases h1 : v = 1 <;> simp [Sys.reserveForged, ha, Forged.treply, reserveDecide, h1]
  | _ => simp [Sys.reserveForged, ha, Forged.treply, reserveDecide]

/-- **The local limiter never grants more than the bucket's size at once**, and a grant of `n` takes `n` tokens:
whatever path led to it (rescue mode, a failed script call, a non-integer reply) -/
theorem rescue_grant_needs_n_le_burst (c : TCfg) (hi : c.ival ≠ 0) (r : Rescue) (t n : Nat)
    (h : (r.allowN c t n).2 = true) :
    n ≤ c.burst ∧ (r.allowN c t n).1.T = r.advanced c t - ((n * c.ival : Nat) : Int) := by
  unfold Rescue.allowN at *
  simp only [hi, if_false] at *
  by_cases hc : n ≤ c.burst ∧ 0 ≤ r.after c t n
  · rw [if_pos hc]; exact ⟨hc.1, rfl⟩
  · rw [if_neg hc] at h; simp at h

example : ((Rescue.init ⟨2, 3, "a", "b"⟩).allowN ⟨2, 3, "a", "b"⟩ 5 4).2 = false ∧
    ((Rescue.init ⟨2, 3, "a", "b"⟩).allowN ⟨2, 3, "a", "b"⟩ 5 3).2 = true := by decide

/-- **What the four entry points hand to `reserveN`**: `Allow()` asks for ONE token at the wall-clock reading with
the background context, `AllowCtx(ctx)` the same with the caller's context; `AllowN` / `AllowNCtx` forward `now`
and `n` unchanged.  Hence `Allow()` at reading `w` IS `AllowN(w, 1)` on every state. -/
theorem allow_entry_points_forward (fixed : Bool) (c : TCfg) (s : Sys) (i w ns n : Nat) (k : CtxKind) :
    s.reserveArgs fixed c i (allowArgs w) = s.reserveN fixed c i w 1 ∧
    s.reserveArgs fixed c i (allowNArgs ns n) = s.reserveN fixed c i ns n ∧
    (k.sends = true → s.reserveArgs fixed c i (allowCtxArgs k w) = s.reserveN fixed c i w 1) ∧
    (k.sends = true → s.reserveArgs fixed c i (allowNCtxArgs k ns n) = s.reserveN fixed c i ns n) ∧
    (allowCtxArgs k w).n = 1 ∧ (allowNCtxArgs k ns n).n = n ∧ (allowNCtxArgs k ns n).ns = ns := by
  -- the background context sends; each entry point builds its arguments as said
  simp +contextual [Sys.reserveArgs, allowArgs, allowNArgs, allowCtxArgs, allowNCtxArgs, CtxKind.sends]

theorem foldl_apply_fields (opts : List POpt) (l : PLim) :
    (opts.foldl POpt.apply l).period = l.period ∧ (opts.foldl POpt.apply l).quota = l.quota ∧
    (opts.foldl POpt.apply l).pre = l.pre ∧ (opts.foldl POpt.apply l).align = (l.align || !opts.isEmpty) := by
  induction opts generalizing l with
  | nil => simp
  | cons o os ih => cases o; simp [ih, POpt.apply]

/-- **The constructor stores its arguments unchanged; the limiter is aligned iff at least one option was given**
(options are applied to the limiter that is returned; the only option is `Align()`, repeating it changes nothing). -/
theorem new_period_limit_fields (period quota : Int) (pre : String) (opts : List POpt) :
    (newPeriodLimit period quota pre opts).period = period ∧ (newPeriodLimit period quota pre opts).quota = quota ∧
    (newPeriodLimit period quota pre opts).pre = pre ∧
    (newPeriodLimit period quota pre opts).align = !opts.isEmpty := by
  have := foldl_apply_fields opts ⟨period, quota, pre, false⟩
  simpa [newPeriodLimit] using this

/-- **The window of every constructed limiter with `period ≥ 1`** at every non-negative local clock reading:
`1 … period` seconds; exactly `period` without options; with `Align()` (any number of times) it ends on a multiple of
`period` of the local clock. -/
theorem period_api_window (period quota : Int) (pre : String) (opts : List POpt) (unix : Int)
    (hp : 1 ≤ period) (hu : 0 ≤ unix) :
    ∃ w, calcExpireZ (newPeriodLimit period quota pre opts).align (newPeriodLimit period quota pre opts).period unix = some w ∧
      1 ≤ w ∧ w ≤ period ∧ (opts = [] → w = period) ∧ (opts ≠ [] → (unix + w) % period = 0) := by
  obtain ⟨h1, _, _, h4⟩ := new_period_limit_fields period quota pre opts
  rw [h1, h4]
  cases opts with
  | nil => exact ⟨period, by simp [calcExpireZ], hp, Int.le_refl _, fun _ => rfl, fun h => absurd rfl h⟩
  | cons o os =>
    obtain ⟨w, hw, a, b, c⟩ := Props.align_window period unix hp hu
    exact ⟨w, hw, a, b, fun h => by simp at h, fun _ => c⟩

/-- **`TakeCtx` of a constructed limiter is one script call** on the Redis key `keyPrefix + key` with limit `quota` and
the window above (arguments forwarded in this order); it panics exactly for `Align()` with period 0 -/
theorem period_api_take_is_script (period quota : Int) (pre : String) (opts : List POpt) (unix : Int) (v : PVSys) (key : String) :
    (newPeriodLimit period quota pre opts).take unix v key =
      (calcExpireZ (!opts.isEmpty) period unix).map fun w => v.take quota.toNat w.toNat true (pre ++ key) := by
  obtain ⟨h1, h2, h3, h4⟩ := new_period_limit_fields period quota pre opts
  unfold PLim.take
  rw [h1, h2, h3, h4]
  cases calcExpireZ (!opts.isEmpty) period unix <;> rfl

example : ((newPeriodLimit 86400 5 "sms:" [.align, .align]).take 1790689016 PVSys.init "u1").map (·.2.1)
      = some (Code.allowed, PErr.nil) ∧
    (newPeriodLimit 0 5 "sms:" [.align]).take 1790689016 PVSys.init "u1" = none ∧
    ((newPeriodLimit 0 5 "sms:" []).take 1790689016 PVSys.init "u1").isSome = true := by decide

/-- a take on a live counter ignores the window argument (the EXPIRE is only armed by the take that creates the
counter): with `Align()` every take computes its own window, only the first of a life matters -/
theorem periodScript_window_irrelevant (s : Store) (k : String) (q w w' : Nat) (e : Entry) (h : s.get k = some e)
    (he : 1 ≤ e.val) : periodScript s k q w = periodScript s k q w' := by
  unfold periodScript Store.incrby
  simp only [h]
  have h0 : ¬ (e.val = 0) := by omega
  simp [h0]

/-- **Exact quota through the public API**: for EVERY constructor argument list with `period ≥ 1` (any quota, any
prefix, any option list) and every local clock reading `unix ≥ 0` of the take that starts the life, there is a window
`w` in `1 … period` such that the take that starts a life on `keyPrefix + key` and all later takes on it — interleaved
with anything `period_exact_quota` allows, for less than `w` seconds in total — are answered `Allowed ×(quota−1), HitQuota,
OverQuota …`.  (For the later takes of an aligned limiter the window they compute is irrelevant:
`periodScript_window_irrelevant`.) -/
theorem period_api_exact_quota (period quota : Int) (pre : String) (opts : List POpt) (unix : Int)
    (hp : 1 ≤ period) (hu : 0 ≤ unix) (key : String) (s : PSys) (rest : List POp)
    (hup : s.up = true) (hfresh : s.store.get (pre ++ key) = none) (hnd : noDown rest) :
    ∃ w : Nat, calcExpireZ (newPeriodLimit period quota pre opts).align period unix = some (w : Int) ∧ 1 ≤ w ∧ (w : Int) ≤ period ∧
      (totalAdv rest < w * 1000 →
        PSys.repliesOn quota.toNat w (pre ++ key) s (.take (pre ++ key) :: rest)
          = (List.range (1 + takesOn (pre ++ key) rest)).map fun i => (codeOf quota.toNat (i + 1), PErr.nil)) := by
  obtain ⟨w, hw, h1, h2, _, _⟩ := period_api_window period quota pre opts unix hp hu
  have hfield := (new_period_limit_fields period quota pre opts).1
  rw [hfield] at hw
  refine ⟨w.toNat, ?_, by omega, by omega, ?_⟩
  · rw [hw]; congr 1; omega
  · intro hadv
    exact Props.period_exact_quota quota.toNat w.toNat (by omega) (pre ++ key) s rest hup hfresh hadv hnd

/-- **Limiters with another prefix are another limit**: a take of a limiter with prefix `pre'` on key `key'` leaves the
counter of every other Redis key `pre ++ key` alone (raw entry and store clock), whatever quota and window.  The hypothesis is
that the two Redis keys differ: prefix and key are concatenated without a separator, so different prefixes can collide. -/
theorem period_limiters_with_other_prefix_independent (s : Store) (pre pre' key key' : String) (q w : Nat)
    (h : pre ++ key ≠ pre' ++ key') :
    (periodScript s (pre' ++ key') q w).1.find (pre ++ key) = s.find (pre ++ key) ∧
    (periodScript s (pre' ++ key') q w).1.clock = s.clock :=
  periodScript_other s (pre ++ key) (pre' ++ key') q w h

/-- **Refinement with a window and a limit per take.** For EVERY sequence of takes — each carrying the limit of ITS
limiter and the window (≥ 1 s) that ITS `calcExpireSeconds()` computed —, clock advances, outages and recoveries from the
empty store, the replies of the model are those of the specification by lives: a life per Redis key starts at the take
that finds no running life and ends exactly `w` seconds later, `w` being the window of THAT take (the windows later takes
of the life compute are irrelevant); its i-th take is answered `codeOf quota i` with the quota of the limiter that takes;
takes during an outage are `(Unknown, err)` and do not count.  The driver's monitor on aligned sections and on sections
with several limiters (`specTake`, Driver.lean) computes the same lives with `Spec.ptake` and a window kept per key; no
theorem relates it to `ptakeW`. -/
theorem period_refines_spec_windows (ops : List POpW) (hw : WinOk ops) :
    PSys.runW PSys.init ops = SpecSysW.run SpecSysW.init ops :=
  period_refines_spec_windows_from ops PSys.init SpecSysW.init hw prelW_init

example : PSys.runW PSys.init [.take "a" 2 3, .take "a" 2 1, .ft 1000, .take "a" 2 1, .ft 2000, .take "a" 2 2, .ft 1999, .take "a" 2 9,
      .take "b" 1 5]
    = [some (.allowed, .nil), some (.hitQuota, .nil), none, some (.overQuota, .nil), none, some (.allowed, .nil), none,
       some (.hitQuota, .nil), some (.hitQuota, .nil)] := by decide

/-- what callers do with constructed limiters on ONE store: takes (each through some limiter `l`, which reads the local
clock: `unix`), and the environment: clock advances of the store, outages, recoveries -/
inductive PApiOp where
  | ft (ms : Nat)
  | take (l : PLim) (key : String) (unix : Int)
  | down
  | up
  deriving Repr, DecidableEq

/-- the operation on the store a take through limiter `l` is (`none`: the take panics) -/
def PApiOp.toW : PApiOp → Option POpW
  | .ft ms => some (.ft ms)
  | .take l key unix => (calcExpireZ l.align l.period unix).map fun w => .take (l.pre ++ key) l.quota.toNat w.toNat
  | .down => some .down
  | .up => some .up

/-- every limiter was built by the constructor with a period ≥ 1, every clock reading is non-negative -/
def apiOk (ops : List PApiOp) : Prop :=
  ∀ l k u, PApiOp.take l k u ∈ ops → 0 ≤ u ∧ ∃ period quota pre opts, 1 ≤ period ∧ l = newPeriodLimit period quota pre opts

/-- **The whole public API of PeriodLimit refines the specification by lives**: ANY number of limiters on one store,
each built with ANY constructor argument list with `period ≥ 1` (any quota, prefix, any option list — aligned or not),
and every sequence of takes through them at arbitrary non-negative local clock readings, store clock advances, outages
and recoveries: no take panics, every window is at least one second and at most its limiter's period, and the replies
are those of the specification by lives on the Redis keys `keyPrefix + key` with the limit `quota` of the limiter that
takes. -/
theorem period_api_refines_spec (ops : List PApiOp) (hc : apiOk ops) :
    ∃ opsW, ops.mapM PApiOp.toW = some opsW ∧ WinOk opsW ∧
      PSys.runW PSys.init opsW = SpecSysW.run SpecSysW.init opsW := by
  have key : ∃ opsW, ops.mapM PApiOp.toW = some opsW ∧ WinOk opsW := by
    induction ops with
    | nil => exact ⟨[], rfl, fun _ _ _ h => by simp at h⟩
    | cons op rest ih =>
      obtain ⟨restW, hr, hwr⟩ := ih (fun l k u hm => hc l k u (List.mem_cons_of_mem _ hm))
      have hop : ∃ o, op.toW = some o ∧ (∀ k q w, o = POpW.take k q w → 1 ≤ w) := by
        cases op with
        | ft ms | down | up => exact ⟨_, rfl, nofun⟩
        | take l k u =>
          obtain ⟨hu, period, quota, pre, opts, hp, hl⟩ := hc l k u List.mem_cons_self
          subst hl
          obtain ⟨w, hw, h1, h2, _, _⟩ := period_api_window period quota pre opts u hp hu
          exact ⟨_, by simp only [PApiOp.toW, hw]; rfl, fun _ _ _ h => by cases h; omega⟩
      obtain ⟨o, ho, hwo⟩ := hop
      refine ⟨o :: restW, by simp [List.mapM_cons, ho, hr], ?_⟩
      intro k q w hm
      rcases List.mem_cons.mp hm with h | h
      · exact hwo k q w h.symm
      · exact hwr k q w h
  obtain ⟨opsW, h1, h2⟩ := key
  exact ⟨opsW, h1, h2, period_refines_spec_windows opsW h2⟩

example : ([PApiOp.take (newPeriodLimit 86400 2 "sms:" [.align]) "u" 1790689016, .take (newPeriodLimit 86400 2 "sms:" [.align]) "u" 1790689017,
      .take (newPeriodLimit 60 1 "mail:" []) "u" 1790689017, .ft 37383000, .take (newPeriodLimit 86400 2 "sms:" [.align]) "u" 1790726399,
      .ft 1000, .take (newPeriodLimit 86400 2 "sms:" [.align]) "u" 1790726400].mapM PApiOp.toW).map (PSys.runW PSys.init)
    = some [some (.allowed, .nil), some (.hitQuota, .nil), some (.hitQuota, .nil), none, some (.overQuota, .nil), none,
            some (.allowed, .nil)] := by decide

/-- a token key is never a timestamp key, whatever the two caller keys are (the formats end differently) -/
theorem token_key_ne_timestamp_key (r b r' b' : Nat) (a a' : String) :
    (newTokenCfg r b a).k1 ≠ (newTokenCfg r' b' a').k2 := by
  intro h
  have h2 := congrArg (fun s : String => (s.toList.reverse.take 2)) h
  simp [newTokenCfg] at h2

/-- the two Redis keys of one limiter always differ (so `token_refines_bucket` applies to EVERY key string) -/
theorem new_token_keys_distinct (rate burst : Nat) (key : String) :
    (newTokenCfg rate burst key).k1 ≠ (newTokenCfg rate burst key).k2 :=
  token_key_ne_timestamp_key rate burst rate burst key key

/-- different caller keys give different token keys and different timestamp keys -/
theorem new_token_keys_injective (rate burst rate' burst' : Nat) (a b : String)
    (h : (newTokenCfg rate burst a).k1 = (newTokenCfg rate' burst' b).k1 ∨
         (newTokenCfg rate burst a).k2 = (newTokenCfg rate' burst' b).k2) : a = b := by
  rcases h with h | h <;>
    (have := congrArg String.toList h
     simp [newTokenCfg] at this
     exact String.ext (by simpa using this))

/-- **One bucket per key, for the whole configuration space of the constructor**: every `rate ≥ 1`, every `burst`,
EVERY key string, any number of instances, every well-timed op sequence — the requests that reach the store are decided
by ONE abstract bucket (`token_refines_bucket` without a hypothesis on the keys). -/
theorem token_api_refines_bucket (rate burst : Nat) (key : String) (hr : 0 < rate) (ops : List TOp)
    (ht : Timed (newTokenCfg rate burst key) ops) :
    (storeEvs (Sys.run true (newTokenCfg rate burst key) (Sys.init (newTokenCfg rate burst key)) ops)).map (·.ok)
      = Bucket.run rate burst (Bucket.init burst)
          ((storeEvs (Sys.run true (newTokenCfg rate burst key) (Sys.init (newTokenCfg rate burst key)) ops)).map callOf) :=
  Props.token_refines_bucket (newTokenCfg rate burst key) hr (new_token_keys_distinct rate burst key) ops ht

/-- … and the joint bound over any interval, for every constructor argument list -/
theorem token_api_rate_bound (rate burst : Nat) (key : String) (hr : 0 < rate) (ops : List TOp)
    (ht : Timed (newTokenCfg rate burst key) ops) (pre mid post : List Ev) (e1 : Ev)
    (hsplit : storeEvs (Sys.run true (newTokenCfg rate burst key) (Sys.init (newTokenCfg rate burst key)) ops)
      = pre ++ (e1 :: mid) ++ post) :
    grantedOf (e1 :: mid) ≤ burst + rate * (((e1 :: mid).getLast (by simp)).ns / nsPerSec - e1.ns / nsPerSec) :=
  Props.token_rate_bound (newTokenCfg rate burst key) hr (new_token_keys_distinct rate burst key) ops ht pre mid post e1
    hsplit

/-- **Every key is its own bucket**: one execution of the token script for the limiter configuration `c` leaves the
raw entries of every Redis key that is not one of `c`'s two keys alone — in particular both keys of every limiter
built with another caller key (`new_token_keys_injective`) — so what that limiter's next call computes
(`filledTokens`) is unchanged. -/
theorem token_keys_independent (c c' : TCfg) (s : Store) (now n t : Nat)
    (h1 : c'.k1 ≠ c.k1) (h2 : c'.k1 ≠ c.k2) (h3 : c'.k2 ≠ c.k1) (h4 : c'.k2 ≠ c.k2) :
    ∃ s' ok, tokenScript true c s now n = some (s', ok) ∧ filledTokens c' s' t = filledTokens c' s t := by
  refine ⟨_, _, tokenScript_fixed c s now n, filled_agree c' _ s ?_ ?_ ?_ t⟩
  · rfl
  · exact find_put_put h1 h2
  · exact find_put_put h3 h4

example : ∃ s1 s2 ok1 ok2,
    tokenScript true (newTokenCfg 1 2 "a") Store.empty 100 2 = some (s1, ok1) ∧ ok1 = true ∧
    tokenScript true (newTokenCfg 5 3 "ab") s1 100 3 = some (s2, ok2) ∧ ok2 = true ∧
    filledTokens (newTokenCfg 1 2 "a") s2 100 = 0 := by
  refine ⟨_, _, _, _, rfl, ?_, rfl, ?_, ?_⟩ <;> decide

/-- limiters built with different caller keys use four pairwise different Redis keys -/
theorem new_token_keys_disjoint (r b r' b' : Nat) (a a' : String) (h : a ≠ a') :
    KeysDisjoint (newTokenCfg r b a) (newTokenCfg r' b' a') := by
  refine ⟨?_, token_key_ne_timestamp_key r b r' b' a a', ?_, ?_⟩
  · intro e; exact h (new_token_keys_injective r b r' b' a a' (Or.inl e))
  · intro e; exact token_key_ne_timestamp_key r' b' r b a' a e.symm
  · intro e; exact h (new_token_keys_injective r b r' b' a a' (Or.inr e))

/-- **Several keys on one store: every key is its own bucket, over whole runs.**  The operations of the limiters of
configuration `c` (requests of any instance, clock advances, outages, recoveries, monitor events) are interleaved in ANY
way with store-decided requests of limiters whose Redis keys are different (any rate, burst, size, time); if `c`'s own
operations are well-timed, the requests of `c`'s limiters that reach the store are decided by ONE bucket of size
`c.burst` refilled at `c.rate` — exactly as if the other limiters did not exist (`runK_eq_run`). -/
theorem token_keys_refine_own_bucket (c : TCfg) (hr : 0 < c.rate) (hk : c.k1 ≠ c.k2) (ops : List KOp)
    (hf : Foreign c ops) (ht : Timed c (ownOps ops)) :
    Sys.runK c (Sys.init c) ops = Sys.run true c (Sys.init c) (ownOps ops) ∧
    (storeEvs (Sys.runK c (Sys.init c) ops)).map (·.ok)
      = Bucket.run c.rate c.burst (Bucket.init c.burst) ((storeEvs (Sys.runK c (Sys.init c) ops)).map callOf) := by
  have h := runK_eq_run c ops (Sys.init c) (Sys.init c) hf ⟨rfl, rfl, rfl, rfl, rfl⟩
  refine ⟨h, ?_⟩
  rw [h]
  exact Props.token_refines_bucket c hr hk (ownOps ops) ht

/-- … for the whole configuration space of the constructor: any rate ≥ 1, burst and caller key, next to limiters built
with ANY other caller keys (any rates and bursts) -/
theorem token_api_keys_refine_own_bucket (rate burst : Nat) (key : String) (hr : 0 < rate) (ops : List KOp)
    (hf : ∀ c' now n, KOp.other c' now n ∈ ops → ∃ r' b' key', key' ≠ key ∧ c' = newTokenCfg r' b' key')
    (ht : Timed (newTokenCfg rate burst key) (ownOps ops)) :
    (storeEvs (Sys.runK (newTokenCfg rate burst key) (Sys.init (newTokenCfg rate burst key)) ops)).map (·.ok)
      = Bucket.run rate burst (Bucket.init burst)
          ((storeEvs (Sys.runK (newTokenCfg rate burst key) (Sys.init (newTokenCfg rate burst key)) ops)).map callOf) := by
  have hf' : Foreign (newTokenCfg rate burst key) ops := by
    intro c' now n hm
    obtain ⟨r', b', key', hne, hc⟩ := hf c' now n hm
    subst hc
    exact new_token_keys_disjoint rate burst r' b' key key' (Ne.symm hne)
  exact (token_keys_refine_own_bucket (newTokenCfg rate burst key) hr (new_token_keys_distinct rate burst key) ops hf' ht).2

example : (Sys.runK (newTokenCfg 1 2 "a") (Sys.init (newTokenCfg 1 2 "a"))
      [.own (.allow 0 100000000000 2), .other (newTokenCfg 5 3 "ab") 100 3, .own (.allow 1 100000000000 1),
       .other (newTokenCfg 5 3 "") 100 1, .own (.allow 0 101000000000 1)]).map (·.ok) = [true, false, true] := by decide

/-- operations of a period run in which some takes lose their reply after the script ran -/
inductive POpL where
  | op (o : POp)
  | lost (key : String)
  deriving Repr, DecidableEq

/-- the same run with every reply delivered -/
def POpL.abs : POpL → POp
  | .op o => o
  | .lost k => .take k

def _root_.GoZero.C03.PSys.stepL (quota period : Nat) (s : PSys) : POpL → PSys × Option (Code × PErr)
  | .op o => s.step quota period o
  | .lost k => let r := s.takeLost quota period k; (r.1, some r.2)

def _root_.GoZero.C03.PSys.runL (quota period : Nat) : PSys → List POpL → List (Option (Code × PErr))
  | _, [] => []
  | s, o :: ops => (s.stepL quota period o).2 :: PSys.runL quota period (s.stepL quota period o).1 ops

/-- what the caller of a lost take sees instead of the reply -/
def hideLost : List POpL → List (Option (Code × PErr)) → List (Option (Code × PErr))
  | .lost _ :: ops, _ :: rs => some (Code.unknown, PErr.store) :: hideLost ops rs
  | _ :: ops, r :: rs => r :: hideLost ops rs
  | _, _ => []

theorem takeLost_state (quota period : Nat) (s : PSys) (k : String) :
    (s.takeLost quota period k).1 = (s.take quota period k).1 ∧
    (s.takeLost quota period k).2 = (Code.unknown, PErr.store) := by
  unfold PSys.takeLost PSys.take
  cases s.up <;> simp [takeResult]

/-- **PeriodLimit, reply lost after the script ran: a permit may be consumed without a grant, never a grant without
consumption.**  For every quota, period and EVERY operation sequence in which any takes lose their reply: the caller of a
lost take gets `(Unknown, err)` — never a grant —, and every other reply is exactly the reply of the run in which all
replies were delivered (the lost take counted as a take: `period_refines_spec` applies to that run). -/
theorem lost_takes_count_and_never_grant (quota period : Nat) : ∀ (ops : List POpL) (s : PSys),
    PSys.runL quota period s ops = hideLost ops (PSys.run quota period s (ops.map POpL.abs)) := by
  intro ops
  induction ops with
  | nil => intro s; rfl
  | cons o rest ih =>
    intro s
    cases o with
    | op o => simp only [PSys.runL, PSys.stepL, List.map_cons, POpL.abs, PSys.run, hideLost, ih]
    | lost k =>
      simp only [PSys.runL, PSys.stepL, List.map_cons, POpL.abs, PSys.run, PSys.step, hideLost, takeLost_state, ih]

example : PSys.runL 2 5 PSys.init [.op (.take "a"), .lost "a", .op (.take "a"), .op (.ft 5000), .op (.take "a")]
    = [some (.allowed, .nil), some (.unknown, .store), some (.overQuota, .nil), none, some (.allowed, .nil)] := by decide

/-- **TokenLimiter: never a grant without consumption** — a request the store path grants has taken its `n` tokens out
of the shared bucket (what the script stored is `filled − n`, and `n ≤ filled`). -/
theorem store_grant_consumes (c : TCfg) (hk : c.k1 ≠ c.k2) (s : Sys) (i ns n : Nat)
    (hr : (s.reserveN true c i ns n).2.route = .store) (ho : (s.reserveN true c i ns n).2.ok = true) :
    n ≤ filledTokens c s.store (ns / nsPerSec) ∧
    ((s.reserveN true c i ns n).1.store.find c.k1).map (·.val) = some (filledTokens c s.store (ns / nsPerSec) - n) := by
  rcases reserveN_cases true c s i ns n with ⟨inst, _, he⟩ | ⟨r, hs, he⟩ <;> rw [he] at hr ho ⊢
  · cases hr
  · obtain ⟨s', h1, _, hf1, _⟩ := tokenScript_fixed_keys c s.store (ns / nsPerSec) n hk
    cases h1.symm.trans hs
    have hle : n ≤ filledTokens c s.store (ns / nsPerSec) := by simpa using ho
    exact ⟨hle, by simp [hf1, hle]⟩

/-- **TokenLimiter, reply lost after the script ran: a token may be consumed without a grant.**  Instance on the store
path, store reachable: the shared bucket is charged exactly as by the answered request (so the ONE-bucket refinement goes
on with the lost request counted); with a context error (`deadline`) the caller is refused and nothing else changes; with
any other error (`timeout`) the request is handed — with its size `n` at its time — to the local limiter after
`startMonitor`, like every store failure. -/
theorem lost_reply_charges_bucket (c : TCfg) (s : Sys) (i ns n : Nat) (k : LostKind)
    (ha : (s.insts i).alive = true) (hu : s.up = true) :
    (s.reserveLost c i ns n k).1.store = (s.reserveN true c i ns n).1.store ∧
    (k = .deadline → (s.reserveLost c i ns n k).2.ok = false ∧ (s.reserveLost c i ns n k).1.insts = s.insts) ∧
    (k = .timeout → s.reserveLost c i ns n k =
      ({ s with store := (s.reserveN true c i ns n).1.store }).rescuePath c i (s.insts i).startMonitor ns n) := by
  unfold Sys.reserveLost Sys.reserveN
  simp only [ha, hu, Bool.not_true, Bool.or_self, Bool.false_eq_true, if_false, tokenScript_fixed]
  cases k with
  | deadline => exact ⟨rfl, fun _ => ⟨rfl, rfl⟩, fun h => LostKind.noConfusion h⟩
  | timeout => exact ⟨by simp [Sys.rescuePath], fun h => LostKind.noConfusion h, fun _ => rfl⟩

/-- operations of a token run in which some requests lose their reply to the caller's deadline after the script ran -/
inductive TOpL where
  | op (o : TOp)
  | lostDeadline (i ns n : Nat)

/-- the same run with every reply delivered -/
def TOpL.abs : TOpL → TOp
  | .op o => o
  | .lostDeadline i ns n => .allow i ns n

def _root_.GoZero.C03.Sys.stepL (c : TCfg) (s : Sys) : TOpL → Sys × Option Ev
  | .op o => s.step true c o
  | .lostDeadline i ns n => let r := s.reserveLost c i ns n .deadline; (r.1, some r.2)

def _root_.GoZero.C03.Sys.runL (c : TCfg) : Sys → List TOpL → List Ev
  | _, [] => []
  | s, o :: ops =>
    match (s.stepL c o).2 with
    | some e => e :: Sys.runL c (s.stepL c o).1 ops
    | none => Sys.runL c (s.stepL c o).1 ops

/-- two event lists of the same length, related position by position -/
inductive Pointwise (R : Ev → Ev → Prop) : List Ev → List Ev → Prop where
  | nil : Pointwise R [] []
  | cons {a b : Ev} {l1 l2 : List Ev} : R a b → Pointwise R l1 l2 → Pointwise R (a :: l1) (b :: l2)

/-- same request, and the caller is granted only if the delivered run grants -/
def sameButMaybeRefused (eL e : Ev) : Prop :=
  eL.inst = e.inst ∧ eL.route = e.route ∧ eL.ns = e.ns ∧ eL.n = e.n ∧ (eL.ok = true → e.ok = true)

theorem reserveLost_deadline_state (c : TCfg) (s : Sys) (i ns n : Nat) :
    (s.reserveLost c i ns n .deadline).1 = (s.reserveN true c i ns n).1 ∧
    sameButMaybeRefused (s.reserveLost c i ns n .deadline).2 (s.reserveN true c i ns n).2 := by
  -- in rescue mode or with the store down nothing is in flight; otherwise both run the script, which never fails
  cases ha : (s.insts i).alive <;> cases hu : s.up <;>
    simp [Sys.reserveLost, Sys.reserveN, ha, hu, tokenScript_fixed, sameButMaybeRefused]

/-- **TokenLimiter, replies lost to the caller's deadline, over whole runs: tokens may be consumed without a grant, never
a grant without consumption.**  For EVERY operation sequence (any instances, outages, recoveries) in which any requests
lose their reply after the script ran: the system goes through exactly the states of the run in which every reply was
delivered — so the shared store stays ONE bucket (`token_refines_bucket` applies to that run, the lost requests counted
as requests) — and request by request the caller is granted only if that run grants. -/
theorem lost_replies_never_grant_more (c : TCfg) : ∀ (ops : List TOpL) (s : Sys),
    Pointwise sameButMaybeRefused (Sys.runL c s ops) (Sys.run true c s (ops.map TOpL.abs)) := by
  intro ops
  induction ops with
  | nil => intro s; exact Pointwise.nil
  | cons o rest ih =>
    intro s
    cases o with
    | op o =>
      simp only [Sys.runL, Sys.stepL, List.map_cons, TOpL.abs, Sys.run]
      cases (s.step true c o).2 with
      | none => exact ih _
      | some e => exact Pointwise.cons ⟨rfl, rfl, rfl, rfl, id⟩ (ih _)
    | lostDeadline i ns n =>
      obtain ⟨h1, h2⟩ := reserveLost_deadline_state c s i ns n
      simp only [Sys.runL, Sys.stepL, List.map_cons, TOpL.abs, Sys.run, Sys.step, h1]
      exact Pointwise.cons h2 (ih _)

/-- … hence the tokens granted to callers never exceed those the ONE bucket handed out -/
theorem lost_replies_granted_le (c : TCfg) (ops : List TOpL) (s : Sys) :
    grantedOf (Sys.runL c s ops) ≤ grantedOf (Sys.run true c s (ops.map TOpL.abs)) := by
  have h := lost_replies_never_grant_more c ops s
  generalize Sys.runL c s ops = l1 at h
  generalize Sys.run true c s (ops.map TOpL.abs) = l2 at h
  induction h with
  | nil => exact Nat.le_refl _
  | @cons ea eb t1 t2 hab _ ih =>
    obtain ⟨_, _, _, hn, hok⟩ := hab
    simp only [grantedOf, List.map_cons, List.sum_cons] at ih ⊢
    cases ha : ea.ok
    · simp; omega
    · have := hok ha
      simp [this, hn]; omega

/-- **The breaker's and the limiter's view of errors agree where it matters**: the token script's `false` (`redis.Nil`) is
neither a failure for the client's breaker nor a reason to leave the shared bucket — it refuses; and whatever the
breaker counts as a failure never grants on the store path. -/
theorem script_false_is_no_failure :
    breakerAccepts .redisNil = true ∧ reserveDecide .nilReply = .deny ∧
    (∀ e : ErrClass, breakerAccepts e = false → ∃ r, e.treply = some r ∧ reserveDecide r ≠ .grant) := by
  refine ⟨rfl, rfl, ?_⟩
  intro e h
  cases e <;> simp [breakerAccepts] at h
  · exact ⟨.ctxErr, rfl, by simp [reserveDecide]⟩
  · exact ⟨.err, rfl, by simp [reserveDecide]⟩

/-- **The local bucket of an instance survives between outages**: no operation other than a request of instance `i`
itself touches `i`'s local limiter — not the outage, not the recovery, not `startMonitor`, not the monitor goroutine's
`redisAlive = 1` / `monitorStarted = false`, not the requests of other instances (the limiter is built ONCE, by the
constructor: `TieClient.tie_rescueLimiter_allocation_sem`). -/
theorem local_bucket_survives_outages (fixed : Bool) (c : TCfg) (s : Sys) (i : Nat) (op : TOp)
    (h : ∀ ns n, op ≠ .allow i ns n) :
    ((s.step fixed c op).1.insts i).rescue = (s.insts i).rescue ∧
    (s.insts i).startMonitor.rescue = (s.insts i).rescue := by
  refine ⟨?_, startMonitor_rescue _⟩
  by_cases hop : ∃ j ns n, op = .allow j ns n
  · obtain ⟨j, ns, n, rfl⟩ := hop
    have hj : i ≠ j := fun e => h ns n (by rw [e])
    rcases reserveN_cases fixed c s j ns n with ⟨inst, _, he⟩ | ⟨r, _, he⟩ <;>
      simp [Sys.step, he, Sys.rescuePath, upd, hj]
  · exact (step_silent fixed c s op hop).2.1 i

/-- a flapping store: `k` outages in a row; during each, instance `i` makes the listed requests `(now ns, n)`; in between
the store is reachable just long enough for the monitor goroutine to bring the instance back and exit -/
def flapping (i : Nat) : List (List (Nat × Nat)) → List TOp
  | [] => []
  | reqs :: rest =>
    [TOp.down] ++ reqs.map (fun r => TOp.allow i r.1 r.2) ++ [TOp.up, TOp.pingOk i, TOp.monExit i] ++ flapping i rest

/-- **One local bucket across any number of outages.** For every rate in 1…10⁹, burst, instance and EVERY flapping
schedule (any number of outages, any requests in each): over any interval of the requests the instance decided locally —
also intervals that span several outages — `ival × granted ≤ ival × burst + elapsed ns`: the instance does NOT get a
fresh bucket per outage (seeded change C03-10 gives it one). -/
theorem flapping_store_local_bound (c : TCfg) (hi : c.ival ≠ 0) (i : Nat) (outages : List (List (Nat × Nat)))
    (pre mid post : List Ev) (e1 : Ev)
    (hmono : Mono 0 ((rescueEvs i (Sys.run true c (Sys.init c) (flapping i outages))).map rcallOf))
    (hsplit : rescueEvs i (Sys.run true c (Sys.init c) (flapping i outages)) = pre ++ (e1 :: mid) ++ post) :
    grantedOf (e1 :: mid) * c.ival ≤ c.burst * c.ival + (((e1 :: mid).getLast (by simp)).ns - e1.ns) :=
  Props.rescue_local_bound true c hi i (flapping i outages) pre mid post e1 hmono hsplit

/-- three outages at one instant, burst 2: two requests are granted in the first outage, none in the later ones -/
example : (Sys.run true ⟨5, 2, "a", "b"⟩ (Sys.init ⟨5, 2, "a", "b"⟩)
      (flapping 0 [[(7, 1), (7, 1), (7, 1)], [(7, 1), (7, 1)], [(8, 1)]])).map (·.ok)
    = [true, true, false, false, false, false] := by decide

end GoZero.C03.PropsApi
