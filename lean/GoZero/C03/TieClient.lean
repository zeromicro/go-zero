/-
C03 — Tie, semantic part for the store client and the PeriodLimit constructor:
core/stores/redis/redis.go  ScriptRunCtx (translated error chain + forwarded arguments), ScriptRun, Ping (forwarding),
                            PingCtx (translated chain = `pingResult`), getRedis (the switch's constants = `typeSupported`),
                            acceptable (the accepted error values = `breakerAccepts`);
core/limit/periodlimit.go   NewPeriodLimit (field initialisers + the option loop interpreted as a fold = `newPeriodLimit`
                            for every argument and every option list), Align (the closure's assignments = `POpt.apply`);
core/limit/tokenlimit.go    the write sites of `rescueLimiter`, `rate`, `burst`: the constructor only.
-/
import GoZero.Extracted.C03
import GoZero.C03.ScriptRun
import GoZero.C03.TieSem
import GoZero.C03.ProofsToken
namespace GoZero.C03.TieClient
open GoZero.C03
open GoZero.Extracted.C03
open GoZero.C03.TieSem (FVal evalFwds)

/-- **`ScriptRunCtx` is `scriptRun`'s outer structure for every client type**: the translated error chain returns early
(value 0) exactly when the model sends nothing, and then there is no reply and store and connection are untouched;
otherwise it reaches the one `script.Run` (value 1), to which the caller's context, the connection, keys and arguments
are forwarded in this order.  (That the value and error of `script.Run` are returned as they are is the statement
skeleton `TieSem.tie_scriptRunCtx`.) -/
theorem tie_scriptRunCtx_sem {σ ρ : Type} (typeErr : Bool) (c : Conn) (exec : σ → σ × ρ) (s : σ) :
    (scriptRunCtxChain typeErr = 0 ↔ (scriptRun (!typeErr) c exec s).2.2 = []) ∧
    (scriptRunCtxChain typeErr = 0 → (scriptRun (!typeErr) c exec s).2.1 = none ∧ (scriptRun (!typeErr) c exec s).1 = (s, c)) ∧
    (scriptRunCtxChain typeErr = 0 ∨ scriptRunCtxChain typeErr = 1) ∧
    scriptRunCtxCallArgs = ["ctx", "conn", "keys", "args"] := by
  refine ⟨?_, ?_, ?_, rfl⟩
  · cases typeErr <;> cases c with | mk link loaded => cases link <;> cases loaded <;> simp [scriptRunCtxChain, scriptRun]
  · cases typeErr <;> simp [scriptRunCtxChain, scriptRun]
  · cases typeErr <;> simp [scriptRunCtxChain]

/-- `ScriptRun(script, keys, args...)` = `ScriptRunCtx(context.Background(), script, keys, args...)` and
`Ping()` = `PingCtx(context.Background())`, for all actual arguments -/
theorem tie_client_forwarding_sem (script keys args : Nat) :
    evalFwds (scriptRunFwdParams.map fun p => if p = "args" then "args..." else p) [.val script, .val keys, .val args] scriptRunFwdArgs
      = some [.bg, .val script, .val keys, .val args] ∧
    evalFwds pingFwdParams [] pingFwdArgs = some [.bg] :=
  ⟨rfl, rfl⟩

/-- **`PingCtx`'s chain is `pingResult`** for every client type, every outcome of the PING and every answer text -/
theorem tie_pingCtx_sem (typeErr cmdErr : Bool) (v : String) :
    pingCtxChain typeErr cmdErr v = pingResult (!typeErr) (if cmdErr then none else some v) := by
  cases typeErr <;> cases cmdErr <;> simp [pingCtxChain, pingResult]

/-- **`getRedis` yields a connection exactly for the types `typeSupported` names** (the values of the case constants
`ClusterType`, `NodeType`), and its default clause returns an error (`typeOk = false` of `scriptRun` / `pingResult`) -/
theorem tie_getRedis_sem (t : String) :
    getRedisAccepted.contains t = typeSupported t ∧ getRedisDefaultIsError = true := by
  refine ⟨?_, rfl⟩
  have : getRedisAccepted = ["cluster", "node"] := rfl
  rw [this]
  simp only [typeSupported, List.contains, List.elem]
  cases (t == "cluster") <;> cases (t == "node") <;> rfl

def _root_.GoZero.C03.ErrClass.goName : ErrClass → String
  | .none => "nil" | .redisNil => "red.Nil" | .canceled => "context.Canceled"
  | .deadline => "context.DeadlineExceeded" | .other => "<any other error>"

/-- **`acceptable` is `breakerAccepts`** for every class of error: `nil`, `redis.Nil` (the token script's `false`) and a
cancelled context are no failures of the store; a deadline that passed and every other error are -/
theorem tie_acceptable_sem (e : ErrClass) : acceptableErrs.contains e.goName = breakerAccepts e := by
  cases e <;> decide

/-- the value of a field initialiser under the constructor's parameters -/
def assign (period quota : Int) (pre : String) (l : PLim) : String × String → Option PLim
  | ("period", "period") => some { l with period := period }
  | ("quota", "quota") => some { l with quota := quota }
  | ("keyPrefix", "keyPrefix") => some { l with pre := pre }
  | ("limitStore", "limitStore") => some l            -- the store client is not part of the model's limiter
  | ("align", "true") => some { l with align := true }
  | ("align", "false") => some { l with align := false }
  | _ => none

def assignAll (period quota : Int) (pre : String) : PLim → List (String × String) → Option PLim
  | l, [] => some l
  | l, a :: rest => (assign period quota pre l a).bind fun l' => assignAll period quota pre l' rest

/-- the constructor as the extracted pieces say: the literal, then `for _, opt := range opts { opt(limiter) }` — every
option of the list applied, in order, to the limiter that is returned — each option being the closure `Align()` returns -/
def interpCtor (period quota : Int) (pre : String) (opts : List POpt) : Option PLim :=
  if newPeriodLoop = ["opt", "opts", "opt", newPeriodLitVar] ∧ newPeriodRet = newPeriodLitVar then
    (assignAll period quota pre ⟨0, 0, "", false⟩ newPeriodFields).bind fun base =>
      opts.foldlM (fun l (_ : POpt) => assignAll period quota pre l alignAssigns) base
  else none

/-- **`NewPeriodLimit` with `Align()` options is the model's `newPeriodLimit`, for every period, quota, prefix and EVERY
option list** (the fold over the options is interpreted, not compared as text) -/
theorem tie_newPeriodLimit_sem (period quota : Int) (pre : String) (opts : List POpt) :
    interpCtor period quota pre opts = some (newPeriodLimit period quota pre opts) := by
  have hl : newPeriodLoop = ["opt", "opts", "opt", newPeriodLitVar] ∧ newPeriodRet = newPeriodLitVar := ⟨rfl, rfl⟩
  have hf : assignAll period quota pre ⟨0, 0, "", false⟩ newPeriodFields = some ⟨period, quota, pre, false⟩ := by
    simp [newPeriodFields, assignAll, assign]
  have ha : ∀ l : PLim, assignAll period quota pre l alignAssigns = some (POpt.apply l .align) := by
    intro l; simp [alignAssigns, assignAll, assign, POpt.apply]
  unfold interpCtor
  rw [if_pos hl, hf]
  simp only [Option.bind_some, newPeriodLimit]
  generalize (⟨period, quota, pre, false⟩ : PLim) = base
  induction opts generalizing base with
  | nil => rfl
  | cons o os ih =>
    cases o
    simp only [List.foldlM_cons, ha, List.foldl_cons]
    exact ih _

/-- **The in-process limiter is allocated in exactly one place, the constructor** (so one bucket per instance for its
whole life: `PropsApi.local_bucket_survives_outages`, `flapping_store_local_bound`): no function of tokenlimit.go assigns
`rescueLimiter` — not `startMonitor` (seeded change C03-10), not `waitForRedis`, not `reserveN` —, nor takes its address;
`rate` and `burst`, from which it is built, are written by the constructor only as well.  The model agrees: `startMonitor`
and both monitor events leave `Inst.rescue` alone. -/
theorem tie_rescueLimiter_allocation_sem :
    rescueLimiterWrites = ["NewTokenLimiter:literal"] ∧ burstWrites = ["NewTokenLimiter:literal"] ∧
    rateWrites = ["NewTokenLimiter:literal"] ∧
    (∀ inst : Inst, inst.startMonitor.rescue = inst.rescue) :=
  ⟨rfl, rfl, rfl, startMonitor_rescue⟩

end GoZero.C03.TieClient
