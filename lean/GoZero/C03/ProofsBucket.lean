/-
C03 — abstract token bucket: conservation, potential argument, interval bound, soundness of the driver's meter; the tokens
granted in a segment of a history the bucket decided (`granted_segment`).  Used for the shared store (ProofsToken) and, through
the simulation of ProofsRescue, for the rescue limiter.
-/
import GoZero.C03.ProofsStore
namespace GoZero.C03
open GoZero.C03 Spec

theorem filled_le (rate burst : Nat) (b : Bucket) (now : Nat) : b.filled rate burst now ≤ burst := by
  unfold Bucket.filled; omega

theorem filled_le_refill (rate burst : Nat) (b : Bucket) (now : Nat) :
    b.filled rate burst now ≤ b.tok + rate * (now - b.ts) := by
  unfold Bucket.filled; rw [Nat.mul_comm]; exact Nat.min_le_right _ _

theorem allow_tok_le (rate burst : Nat) (b : Bucket) (now n : Nat) :
    (b.allow rate burst now n).1.tok ≤ burst ∧ (b.allow rate burst now n).1.ts = now := by
  have := filled_le rate burst b now
  unfold Bucket.allow
  split <;> simp <;> omega

theorem allow_conserve (rate burst : Nat) (b : Bucket) (now n : Nat) :
    (if (b.allow rate burst now n).2 then n else 0) + (b.allow rate burst now n).1.tok = b.filled rate burst now := by
  unfold Bucket.allow
  split <;> simp <;> omega

theorem exec_tok_le (rate burst : Nat) : ∀ (calls : List (Nat × Nat)) (b : Bucket), b.tok ≤ burst →
    (Bucket.exec rate burst b calls).tok ≤ burst := by
  intro calls; induction calls with
  | nil => intro b hb; simpa [Bucket.exec]
  | cons p rest ih =>
    intro b _; obtain ⟨t, n⟩ := p
    simp only [Bucket.exec]
    exact ih _ (allow_tok_le rate burst b t n).1

theorem mul_sub_split (r : Nat) {a b c : Nat} (h1 : a ≤ b) (h2 : b ≤ c) : r * (c - a) = r * (b - a) + r * (c - b) := by
  rw [← Nat.mul_add, Nat.add_comm, Nat.sub_add_sub_cancel h2 h1]

/-- draining what the meter weighs and refilling the capped bucket by the same amount `e` keeps their sum under `burst` -/
theorem drain_refill {l tok burst : Nat} (h : l + tok ≤ burst) (e : Nat) :
    (l - e) + min burst (tok + e) ≤ burst := by omega

theorem bucket_potential (rate burst : Nat) : ∀ (calls : List (Nat × Nat)) (b : Bucket), Mono b.ts calls →
    Bucket.granted rate burst b calls + (Bucket.exec rate burst b calls).tok
        ≤ b.tok + rate * ((Bucket.exec rate burst b calls).ts - b.ts) ∧
    b.ts ≤ (Bucket.exec rate burst b calls).ts := by
  intro calls; induction calls with
  | nil => intro b _; simp [Bucket.granted, Bucket.exec]
  | cons p rest ih =>
    intro b hm; obtain ⟨t, n⟩ := p
    obtain ⟨h0, hm'⟩ := hm
    have hts := (allow_tok_le rate burst b t n).2
    have hc := allow_conserve rate burst b t n
    have hi := ih (b.allow rate burst t n).1 (by rw [hts]; exact hm')
    rw [hts] at hi
    simp only [Bucket.granted, Bucket.exec]
    generalize (Bucket.exec rate burst (b.allow rate burst t n).1 rest).ts = tf at *
    have hf := filled_le_refill rate burst b t
    have hd := mul_sub_split rate h0 hi.2
    omega

theorem bucket_run_cons (rate burst : Nat) (b : Bucket) (p : Nat × Nat) (l : List (Nat × Nat)) :
    Bucket.run rate burst b (p :: l)
      = (b.allow rate burst p.1 p.2).2 :: Bucket.run rate burst (b.allow rate burst p.1 p.2).1 l := rfl

theorem bucket_granted_cons (rate burst : Nat) (b : Bucket) (p : Nat × Nat) (l : List (Nat × Nat)) :
    Bucket.granted rate burst b (p :: l)
      = (if (b.allow rate burst p.1 p.2).2 then p.2 else 0) + Bucket.granted rate burst (b.allow rate burst p.1 p.2).1 l := rfl

/-- In a history whose decisions are a run of the bucket over requests of `w` units per token, the tokens granted in any
segment are, in units, what the bucket grants from the state the prefix leads to. -/
theorem granted_segment (rate burst : Nat) (call : Ev → Nat × Nat) (w : Nat) (hcall : ∀ e, (call e).2 = e.n * w)
    (seg post : List Ev) : ∀ (pre : List Ev) (b0 : Bucket),
      (pre ++ seg ++ post).map (·.ok) = Bucket.run rate burst b0 ((pre ++ seg ++ post).map call) →
      grantedOf seg * w = Bucket.granted rate burst (Bucket.exec rate burst b0 (pre.map call)) (seg.map call) := by
  intro pre
  induction pre with
  | nil =>
    intro b0 href
    induction seg generalizing b0 with
    | nil => simp [grantedOf, Bucket.granted, Bucket.exec]
    | cons e seg ih =>
      simp only [List.nil_append, List.cons_append, List.map_cons, bucket_run_cons, List.cons.injEq, hcall] at href
      have := ih _ href.2
      simp only [grantedOf, List.map_cons, List.sum_cons, bucket_granted_cons, hcall, List.map_nil, Bucket.exec] at this ⊢
      rw [Nat.add_mul, this, ← href.1]
      cases e.ok <;> simp
  | cons e pre ih =>
    intro b0 href
    simp only [List.cons_append, List.map_cons, bucket_run_cons, List.cons.injEq] at href
    exact ih _ href.2

theorem mono_split (rate burst : Nat) : ∀ (l1 l2 : List (Nat × Nat)) (b : Bucket), Mono b.ts (l1 ++ l2) →
    Mono b.ts l1 ∧ Mono (Bucket.exec rate burst b l1).ts l2 := by
  intro l1; induction l1 with
  | nil => intro l2 b h; exact ⟨trivial, h⟩
  | cons p l1 ih =>
    intro l2 b h; obtain ⟨t, n⟩ := p
    obtain ⟨h0, h1⟩ := h
    rw [← (allow_tok_le rate burst b t n).2] at h1
    have := ih l2 _ h1
    rw [(allow_tok_le rate burst b t n).2] at this
    exact ⟨⟨h0, this.1⟩, this.2⟩

theorem exec_ts_getLast (rate burst : Nat) : ∀ (l : List (Nat × Nat)) (b : Bucket) (h : l ≠ []),
    (Bucket.exec rate burst b l).ts = (l.getLast h).1 := by
  intro l; induction l with
  | nil => intro b h; exact absurd rfl h
  | cons p l ih =>
    intro b _; obtain ⟨t, n⟩ := p
    cases l with
    | nil => exact (allow_tok_le rate burst b t n).2
    | cons q l' =>
      rw [List.getLast_cons (by simp)]
      exact ih _ (by simp)

/-- the bound of the property for the abstract bucket: over any interval of a monotone history
(from its first request to its last), granted ≤ burst + rate × elapsed. -/
theorem bucket_interval_bound (rate burst : Nat) (b : Bucket) (p : Nat × Nat)
    (rest : List (Nat × Nat)) (hm : Mono b.ts (p :: rest)) :
    Bucket.granted rate burst b (p :: rest) ≤ burst + rate * (((p :: rest).getLast (by simp)).1 - p.1) := by
  obtain ⟨t1, n1⟩ := p
  obtain ⟨h0, hm'⟩ := hm
  have hts := (allow_tok_le rate burst b t1 n1).2
  have hc := allow_conserve rate burst b t1 n1
  have hf := filled_le rate burst b t1
  have hp := bucket_potential rate burst rest (b.allow rate burst t1 n1).1 (by rw [hts]; exact hm')
  rw [hts] at hp
  rw [← exec_ts_getLast rate burst _ b]
  simp only [Bucket.granted, Bucket.exec]
  omega

/-- the bound of the property on a history decided by the bucket: `call` is the request as the bucket sees it, a token is
`w` units (1 for the shared store; the local limiter counts in fractions of a token: ProofsRescueSys) -/
theorem interval_of_refinement (rate burst : Nat) (call : Ev → Nat × Nat) (w : Nat) (hcall : ∀ e, (call e).2 = e.n * w)
    (b0 : Bucket) (evs pre post mid : List Ev) (e1 : Ev)
    (href : evs.map (·.ok) = Bucket.run rate burst b0 (evs.map call))
    (hmono : Mono b0.ts (evs.map call))
    (hsplit : evs = pre ++ (e1 :: mid) ++ post) :
    grantedOf (e1 :: mid) * w
      ≤ burst + rate * ((call ((e1 :: mid).getLast (by simp))).1 - (call e1).1) := by
  subst hsplit
  have hg := granted_segment rate burst call w hcall (e1 :: mid) post pre b0 href
  simp only [List.map_append, List.append_assoc] at hmono
  obtain ⟨_, hm2⟩ := mono_split rate burst _ _ _ hmono
  obtain ⟨hm3, _⟩ := mono_split rate burst _ _ _ hm2
  have hb := bucket_interval_bound rate burst _ (call e1) (mid.map call) hm3
  rw [hg]
  -- the last request of the mapped interval is the image of its last event
  simp only [← List.map_cons, List.getLast_map] at hb
  exact hb

/-- the driver's joint meter cannot fire on a history decided by the abstract bucket -/
theorem meter_sound_from (rate burst : Nat) : ∀ (calls : List (Nat × Nat)) (b : Bucket) (m : Meter),
    Mono b.ts calls → m.t ≤ b.ts → (m.level - rate * (b.ts - m.t)) + b.tok ≤ burst →
    ∀ lv ∈ meterLevels rate m (calls.zip (Bucket.run rate burst b calls)), lv ≤ burst := by
  intro calls
  induction calls with
  | nil => intro b m _ _ _ lv h; simp [meterLevels] at h
  | cons p rest ih =>
    intro b m hm hmt hJ lv hlv
    obtain ⟨t, n⟩ := p
    obtain ⟨h0, hm'⟩ := hm
    have hts := (allow_tok_le rate burst b t n).2
    have hc := allow_conserve rate burst b t n
    -- at `t`, what the meter still weighs plus the refilled bucket is at most `burst`: the one is drained and the other
    -- refilled by `rate × (t − b.ts)`, and the bucket is capped
    have key : (m.level - rate * (t - m.t)) + b.filled rate burst t ≤ burst := by
      rw [mul_sub_split rate hmt h0, Nat.sub_add_eq, Bucket.filled, Nat.mul_comm (t - b.ts)]
      exact drain_refill hJ _
    rw [← hts] at hm'
    simp only [Bucket.run, List.zip_cons_cons, meterLevels] at hlv
    cases hok : (b.allow rate burst t n).2 <;> simp only [hok, if_true, Bool.false_eq_true, if_false] at hlv hc
    · exact ih _ m hm' (by omega) (by rw [hts]; omega) lv hlv
    · have hmt' : (m.add rate t n).t = t := by simp only [Meter.add]; omega
      have hlev : (m.add rate t n).level = (m.level - rate * (t - m.t)) + n := rfl
      rcases List.mem_cons.mp hlv with rfl | hrest
      · omega
      · exact ih _ _ hm' (by omega) (by rw [hts, hmt', Nat.sub_self]; omega) lv hrest

end GoZero.C03
