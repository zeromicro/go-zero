/-
C03 — property theorems, the data of their witnesses (`exCfg`, `exOps`, `lateSchedule`, `wCfg`, `wOps`, `rCfg`) and
non-vacuity examples; the lemmas are in Proofs*.lean.
-/
import GoZero.C03.ProofsPeriodSpec
import GoZero.C03.ProofsRescueSys
import GoZero.C03.ProofsMonitor
namespace GoZero.C03.Props
open GoZero.C03 Spec

/-- **Exact quota.** For every quota, every period ≥ 1 s, every key and every state `s` of the store in which
the key's counter is absent (never used, or its period has expired): the take that starts a life and all the
takes on that key during the life — interleaved in any way with takes on other keys, `up` events and clock
advances of less than one period in total, the store staying reachable — are answered
`codeOf quota 1, codeOf quota 2, …`, i.e. `Allowed` ×(quota−1), `HitQuota`, then `OverQuota` for all later ones.
Each take is one atomic script execution, so every interleaving of concurrent takes is such a sequence. -/
theorem period_exact_quota (quota period : Nat) (hp : 1 ≤ period) (k : String) (s : PSys) (rest : List POp)
    (hu : s.up = true) (hfresh : s.store.get k = none)
    (hlife : totalAdv rest < period * 1000) (hn : noDown rest) :
    PSys.repliesOn quota period k s (.take k :: rest)
      = (List.range (1 + takesOn k rest)).map (fun i => (codeOf quota (i + 1), PErr.nil)) := by
  obtain ⟨h0, h1, _, _⟩ := first_take_life quota period hp k s rest hu hfresh hlife hn
  rw [Nat.add_comm 1, range_map_shift]
  simp only [PSys.repliesOn, PSys.step, if_true, Option.toList]
  rw [h1, h0]
  simp
  intro a _; congr 1; omega

example : PSys.repliesOn 3 2 "a" PSys.init
      [.take "a", .take "b", .ft 1999, .take "a", .up, .take "a", .take "b", .take "a", .take "a"]
    = [(.allowed, .nil), (.allowed, .nil), (.hitQuota, .nil), (.overQuota, .nil), (.overQuota, .nil)] := by decide

/-- **Exactly quota grants per life**: in the setting of `period_exact_quota` the number of granted takes
(`Allowed` or `HitQuota`) on the key is `min (number of takes) quota`. -/
theorem period_grants_exactly_quota (quota period : Nat) (hp : 1 ≤ period) (k : String)
    (s : PSys) (rest : List POp) (hu : s.up = true) (hfresh : s.store.get k = none)
    (hlife : totalAdv rest < period * 1000) (hn : noDown rest) :
    ((PSys.repliesOn quota period k s (.take k :: rest)).filter granted).length
      = min (1 + takesOn k rest) quota := by
  rw [period_exact_quota quota period hp k s rest hu hfresh hlife hn, List.filter_map, List.length_map]
  rw [← count_lt_range]
  congr 1
  apply List.filter_congr
  intro i _
  simp only [Function.comp]
  exact granted_codeOf quota i

/-- **Until the period expires**: the deadline set by the first take never moves; once `period` seconds have
passed since that take the counter is gone, so the next take starts a new life (`period_exact_quota` applies again). -/
theorem period_life_ends (quota period : Nat) (hp : 1 ≤ period) (k : String) (s : PSys) (rest : List POp)
    (hu : s.up = true) (hfresh : s.store.get k = none)
    (hlife : totalAdv rest < period * 1000) (hn : noDown rest) (ms : Nat)
    (hexp : period * 1000 ≤ totalAdv rest + ms) :
    (PSys.exec quota period s (.take k :: rest ++ [.ft ms])).store.get k = none := by
  obtain ⟨_, _, t2, t3⟩ := first_take_life quota period hp k s rest hu hfresh hlife hn
  rw [show (.take k :: rest ++ [POp.ft ms]) = (POp.take k :: rest) ++ [POp.ft ms] from rfl, exec_append]
  simp only [PSys.exec, PSys.step]
  rw [get_eq]
  simp only [find_advance, clock_advance, t2, t3]
  simp [Entry.live]
  omega

example : (PSys.exec 3 2 PSys.init [.take "a", .take "a", .ft 1999, .take "a"]).store.get "a"
      = some ⟨3, some 2000⟩ ∧
    (PSys.exec 3 2 PSys.init [.take "a", .take "a", .ft 1999, .take "a", .ft 1]).store.get "a" = none := by decide

/-- **Refinement to the specification by lives** (the executable monitor of the driver): for every quota,
period ≥ 1 and EVERY sequence of takes (any keys), clock advances, outages and recoveries from the empty store,
the replies of the model are the replies of `Spec.ptake` — a life per key starting at the take that finds no
running life, lasting `period` seconds, whose i-th take is answered `codeOf quota i`; takes during an outage are
answered `(Unknown, err)` and do not count. -/
theorem period_refines_spec (quota period : Nat) (hp : 1 ≤ period) (ops : List POp) :
    PSys.run quota period PSys.init ops = SpecSys.run quota period SpecSys.init ops := by
  -- the fixed-period run is the run with per-take windows in which every take carries `quota` and `period`
  rw [psys_run_toW, specSys_run_toW]
  refine period_refines_spec_windows_from _ _ _ (fun k q w hm => ?_) prelW_init
  obtain ⟨o, _, ho⟩ := List.mem_map.mp hm
  cases o <;> cases ho
  exact hp

example : PSys.run 2 1 PSys.init [.take "a", .take "a", .down, .take "a", .up, .take "a", .ft 1000, .take "a"]
    = [some (.allowed, .nil), some (.hitQuota, .nil), none, some (.unknown, .store), none,
       some (.overQuota, .nil), none, some (.allowed, .nil)] := by decide

/-- **A store error is an error, never a grant**: while the store is unreachable `Take` answers
`(Unknown, err)` and changes nothing. -/
theorem store_error_never_grants (quota period : Nat) (s : PSys) (k : String) (hd : s.up = false) :
    s.take quota period k = (s, (Code.unknown, PErr.store)) ∧ granted (s.take quota period k).2 = false := by
  simp [take_down hd, granted]

/-- the reply table of `TakeCtx`: the only granting replies are the integer codes 1 and 2 -/
theorem reply_code_table (r : Resp) :
    granted (takeResult r) = true ↔ (r = .int 1 ∨ r = .int 2) := by
  cases r with
  | int v =>
    by_cases h0 : v = 0 <;> by_cases h1 : v = 1 <;> by_cases h2 : v = 2 <;> simp_all [takeResult_int, granted]
  | _ => simp [takeResult, granted]

/-- the TTL written by the (fixed) script always covers a complete refill:
`max 1 ⌊2·burst/rate⌋ · rate ≥ burst`; so an expired key pair means "full bucket". -/
theorem ttl_covers_burst (rate burst : Nat) (hr : 0 < rate) : burst ≤ ttlFixed rate burst * rate :=
  GoZero.C03.ttl_covers_burst rate burst hr

/-- **One joint bucket.** For every rate ≥ 1, every burst, any number of limiter instances, any sequence of
requests (any instance, any size, any `now`), clock advances, outages, recoveries and monitor events that is
well-timed (`Timed`: callers' seconds never go back and track the store clock): the decisions of all the
requests that reach the store are exactly the decisions of ONE abstract token bucket of size `burst`, refilled
with `rate` tokens per whole second, granting a request for `n` iff it holds `n`. -/
theorem token_refines_bucket (c : TCfg) (hr : 0 < c.rate) (hk : c.k1 ≠ c.k2) (ops : List TOp) (ht : Timed c ops) :
    (storeEvs (Sys.run true c (Sys.init c) ops)).map (·.ok)
      = Bucket.run c.rate c.burst (Bucket.init c.burst) ((storeEvs (Sys.run true c (Sys.init c) ops)).map callOf) :=
  (sys_refines_bucket c hr hk ops (Sys.init c) (Bucket.init c.burst) [] (tinv_init c) ht).1

/-- **The joint bound.** In the same setting, over ANY interval of the history (from the store-decided request
`e1` to the last request of `e1 :: mid`) the tokens granted jointly by all instances are at most
`burst + rate × elapsed whole seconds`. -/
theorem token_rate_bound (c : TCfg) (hr : 0 < c.rate) (hk : c.k1 ≠ c.k2) (ops : List TOp) (ht : Timed c ops)
    (pre mid post : List Ev) (e1 : Ev)
    (hsplit : storeEvs (Sys.run true c (Sys.init c) ops) = pre ++ (e1 :: mid) ++ post) :
    grantedOf (e1 :: mid)
      ≤ c.burst + c.rate * (((e1 :: mid).getLast (by simp)).ns / nsPerSec - e1.ns / nsPerSec) := by
  obtain ⟨h1, h2⟩ := sys_refines_bucket c hr hk ops (Sys.init c) (Bucket.init c.burst) [] (tinv_init c) ht
  simpa [callOf] using interval_of_refinement c.rate c.burst callOf 1 (fun _ => (Nat.mul_one _).symm) (Bucket.init c.burst) _
    pre post mid e1 h1 h2 hsplit

/-- **The driver's joint meter is sound**: on any monotone history decided by the abstract bucket (hence on the
store-decided requests of any well-timed run: `sys_refines_bucket` gives both the refinement `token_refines_bucket` states
and that this history is monotone) the leaky-bucket meter with which
the driver evaluates "granted ≤ burst + rate × elapsed over every interval" never exceeds `burst`. -/
theorem joint_meter_sound (rate burst : Nat) (calls : List (Nat × Nat)) (hm : Mono 0 calls) :
    ∀ lv ∈ meterLevels rate Meter.init (calls.zip (Bucket.run rate burst (Bucket.init burst) calls)), lv ≤ burst :=
  meter_sound_from rate burst calls (Bucket.init burst) Meter.init hm (Nat.le_refl _)
    (by simp [Meter.init, Bucket.init])

example : meterLevels 5 Meter.init
    ([(10, 7), (10, 4), (11, 8), (15, 10)].zip (Bucket.run 5 10 (Bucket.init 10) [(10, 7), (10, 4), (11, 8), (15, 10)]))
    = [7, 10, 10] := by decide

/-- a concrete well-timed history: two instances, an outage in the middle, key expiry at the end -/
def exCfg : TCfg := ⟨5, 10, "{k}.tokens", "{k}.ts"⟩
def exOps : List TOp :=
  [.allow 0 1700000000000000000 7, .allow 1 1700000000500000000 4, .ft 1000, .allow 1 1700000001000000000 8,
   .down, .allow 0 1700000001000000000 1, .up, .pingOk 0, .monExit 0, .ft 4000, .allow 0 1700000005200000000 10]

example : Timed exCfg exOps := by
  simp [Timed, TimedFrom, exOps, exCfg, ttlFixed, nsPerSec]

example : (Sys.run true exCfg (Sys.init exCfg) exOps).map (fun e => (e.inst, e.route, e.ok))
    = [(0, .store, true), (1, .store, false), (1, .store, true), (0, .rescue, true), (0, .store, true)] := by decide

/-- **The local bound.** For every rate in 1…10⁹ (`ival = ⌊10⁹/rate⌋ ns ≠ 0`), every instance `i`, either
script version and ANY operation sequence: over any interval of the requests that instance `i` decided with its
local limiter (monotone `now`), `ival × granted ≤ ival × burst + elapsed ns`, i.e.
granted ≤ burst + L × elapsed with L = 10⁹/⌊10⁹/rate⌋ per second (see `rescue_rate_exact`). -/
theorem rescue_local_bound (fixed : Bool) (c : TCfg) (hi : c.ival ≠ 0) (i : Nat) (ops : List TOp)
    (pre mid post : List Ev) (e1 : Ev)
    (hmono : Mono 0 ((rescueEvs i (Sys.run fixed c (Sys.init c) ops)).map rcallOf))
    (hsplit : rescueEvs i (Sys.run fixed c (Sys.init c) ops) = pre ++ (e1 :: mid) ++ post) :
    grantedOf (e1 :: mid) * c.ival ≤ c.burst * c.ival + (((e1 :: mid).getLast (by simp)).ns - e1.ns) := by
  exact rescue_interval_of_run c hi _ pre post mid e1 (sys_rescue_run fixed c i ops (Sys.init c)) hmono hsplit

/-- the interval of the rescue limiter, `ival = ⌊10⁹/rate⌋ ns`: `ival ≥ 1` and `rate·ival ≤ 10⁹ < rate·(ival+1)`, with
`rate·ival = 10⁹` iff `rate ∣ 10⁹`.  So it refills at `L = 10⁹/ival ≥ rate` per second, `L = rate` iff `rate ∣ 10⁹`, and the
relative excess `L/rate − 1` is below `1/ival`. -/
theorem rescue_rate_exact (rate : Nat) (hr : 0 < rate) (hle : rate ≤ 1000000000) :
    0 < 1000000000 / rate ∧ rate * (1000000000 / rate) ≤ 1000000000 ∧
    1000000000 < rate * (1000000000 / rate + 1) ∧
    (rate * (1000000000 / rate) = 1000000000 ↔ rate ∣ 1000000000) := by
  have h1 := Nat.div_add_mod 1000000000 rate
  have h2 := Nat.mod_lt 1000000000 hr
  exact ⟨Nat.div_pos hle hr, by omega, by rw [Nat.mul_add]; omega, fun h => ⟨_, h.symm⟩, Nat.mul_div_cancel'⟩

example : (⟨5, 2, "a", "b"⟩ : TCfg).ival = 200000000 ∧ (⟨7, 2, "a", "b"⟩ : TCfg).ival = 142857142 := by decide

/-- **No lost wake-up (system level).** For every operation sequence — requests, outages, recoveries, successful
pings, monitor exits and late failures (`lateFail`: the error path of a request that was in flight reaches
`startMonitor` at any later moment, in particular between the monitor's `redisAlive=1` and its deferred
`monitorStarted=false`) — an instance that is in rescue mode has a monitor: `redisAlive = 0 → monitorStarted`.
(`pingOk i` in `Sys.step` is guarded by exactly these flags and the store being reachable: it brings the instance back
to the ONE bucket.) -/
theorem rescue_mode_has_monitor (fixed : Bool) (c : TCfg) (ops : List TOp) (i : Nat) :
    ((Sys.exec fixed c (Sys.init c) ops).insts i).alive = false →
    ((Sys.exec fixed c (Sys.init c) ops).insts i).monitor = true := by
  exact rescue_has_monitor_exec fixed c ops (Sys.init c) (by intro j hj; simp [Sys.init, Inst.init] at hj) i

example : ((Sys.exec true exCfg (Sys.init exCfg)
      [.down, .allow 0 1700000001000000000 1, .up, .pingOk 0, .down, .allow 0 1700000001000000000 1, .lateFail 0]).insts 0).alive = true ∧
    ((Sys.exec true exCfg (Sys.init exCfg) [.down, .allow 0 1700000001000000000 1, .up]).insts 0).alive = false := by decide

/-- **No lost wake-up (statement level).** `startMonitor` executed row by row by any number of goroutines, interleaved
in every possible way with the monitor goroutines' steps (ping ok + `redisAlive=1`, deferred Lock, `monitorStarted=false`,
Unlock): whenever `redisAlive = 0`, a monitor goroutine is in its ping loop, or the goroutine holding `rescueLock`
is at `go lim.waitForRedis()` (its next step, which nothing can block, starts one). -/
theorem monitor_no_lost_wakeup (s : Mon.St) (h : Mon.Reach false s) (ha : s.alive = false) :
    1 ≤ s.nLoop ∨ ∃ t, s.lock = .caller t ∧ s.pc t = .spawn :=
  (Mon.inv_reach s h).wake ha

/-- there is never more than one monitor goroutine per limiter, and `monitorStarted` says exactly whether there is one
(in its loop, waiting for the lock in its deferred func, holding it before the clear — or promised by the goroutine
that has set the flag and is about to spawn it) -/
theorem monitor_at_most_one (s : Mon.St) (h : Mon.Reach false s) :
    s.nLoop + s.nWant + (if s.lock = .monClear then 1 else 0) + Mon.pending s = Mon.b2n s.started ∧
    s.nLoop + s.nWant ≤ 1 := by
  have hc := (Mon.inv_reach s h).count
  refine ⟨hc, ?_⟩
  have hb : Mon.b2n s.started ≤ 1 := by cases s.started <;> simp [Mon.b2n]
  omega

/-- what the harness reads while it holds `rescueLock` itself (nobody is inside `startMonitor` or the deferred func):
`redisAlive = 0` implies `monitorStarted` and exactly one goroutine in the ping loop; the pair
(`redisAlive = 0`, `monitorStarted = false`) — reported as STUCK — is unreachable for the code as it is. -/
theorem rescue_quiescent_has_monitor (s : Mon.St) (h : Mon.Reach false s) (hl : s.lock = .free) (ha : s.alive = false) :
    s.started = true ∧ s.nLoop = 1 ∧ s.nWant = 0 := by
  have hi := Mon.inv_reach s h
  rcases hi.wake ha with hw | ⟨t, hlt, _⟩
  · have hc := hi.count
    cases hs : s.started <;> simp [Mon.pending, hl, hs, Mon.b2n] at hc ⊢ <;> omega
  · simp [hl] at hlt

/-- the schedule of the seeded change C03-2 / of any "late failure in the window" -/
def lateSchedule : List Mon.Ev :=
  [.caller 0, .caller 0, .caller 0, .caller 0, .caller 0, .caller 0, .caller 0,   -- a failed request starts the monitor
   .pingOk,                                                                       -- the store is back: redisAlive=1
   .caller 1, .caller 1, .caller 1, .caller 1,                                    -- a late failure: monitorStarted is still set
   .monLock, .monClear, .monUnlock]                                               -- the deferred cleanup

/-- WITNESS for the order of the seeded change (`redisAlive=0` stored before Lock and before the `monitorStarted`
check): the schedule above ends with `redisAlive = 0`, `monitorStarted = false`, no monitor goroutine and nobody
inside `startMonitor` — the instance stays on its local limiter for ever.  With the order of the code as it is the
same schedule ends with `redisAlive = 1`. -/
theorem seeded_order_loses_wakeup :
    ((Mon.run true Mon.init lateSchedule).map fun s =>
        decide (s.alive = false ∧ s.started = false ∧ s.nLoop = 0 ∧ s.nWant = 0 ∧ s.lock = .free ∧ s.pc 0 = .idle ∧ s.pc 1 = .idle))
      = some true ∧
    ((Mon.run false Mon.init lateSchedule).map fun s =>
        decide (s.alive = true ∧ s.started = false ∧ s.nLoop = 0 ∧ s.nWant = 0 ∧ s.lock = .free ∧ s.pc 0 = .idle ∧ s.pc 1 = .idle))
      = some true := by decide

/-- **Aligned window.** With `Align()`, `period ≥ 1` and a non-negative local clock, the window handed to the script is
`1 … period` seconds and ends exactly on a multiple of `period` of the local clock (midnight for a day). A life started
by a take therefore lasts at most `period`: `period_exact_quota` / `period_life_ends` apply with this window. -/
theorem align_window (period unix : Int) (hp : 1 ≤ period) (hu : 0 ≤ unix) :
    ∃ w, calcExpireZ true period unix = some w ∧ 1 ≤ w ∧ w ≤ period ∧ (unix + w) % period = 0 := by
  have hp0 : period ≠ 0 := by omega
  refine ⟨period - Int.tmod unix period, by simp [calcExpireZ, hp0], ?_, ?_, ?_⟩
  · have := Int.tmod_lt_of_pos unix (by omega : 0 < period); omega
  · have := Int.tmod_nonneg period hu; omega
  · rw [Int.tmod_eq_emod_of_nonneg hu]
    have h1 := Int.emod_add_mul_ediv unix period
    have : unix + (period - unix % period) = period * (unix / period + 1) := by
      rw [Int.mul_add]; omega
    rw [this]; exact Int.mul_emod_right _ _

example : calcExpireZ true 86400 1790689016 = some 37384 ∧ calcExpireZ true 0 5 = none ∧
    calcExpireZ true (-7) 1790689016 = some (-11) ∧ calcExpireZ false (-7) 0 = some (-7) := by decide

/-- **`quota ≤ 0` never grants** (the script compares `current ≥ 1` with the limit): every take is `OverQuota`. -/
theorem quota_zero_never_grants (window : Nat) (s : PSys) (k : String) (hu : s.up = true) :
    (s.take 0 window k).2 = (Code.overQuota, PErr.nil) := by
  have hne : (s.store.incrby k 1).2 ≠ 0 := Nat.ne_of_gt (incrby_pos s.store k)
  simp [PSys.take, hu, periodScript, takeResult, hne]

/-- **A window `≤ 0` never limits** (`EXPIRE key w` with `w ≤ 0` deletes the counter; `period ≤ 0`, or `Align()` with a
negative period): every take finds no counter and is answered like the first of a life — `Allowed` for ever when
`quota ≥ 2`. Nothing in `NewPeriodLimit` rejects such a period. -/
theorem window_zero_never_limits (quota : Nat) (s : PSys) (k : String) (hu : s.up = true) (hf : s.store.get k = none) :
    (s.take quota 0 k).2 = (codeOf quota 1, PErr.nil) ∧ (s.take quota 0 k).1.store.get k = none ∧
    (s.take quota 0 k).1.up = true := by
  have hinc : s.store.incrby k 1 = (s.store.put k ⟨1, none⟩, 1) := by simp [Store.incrby, hf]
  have hget : (s.store.put k ⟨1, none⟩).get k = some ⟨1, none⟩ := by
    simp [Store.get, Store.find, Store.put, lookupKey, Entry.live]
  have hdel : ((s.store.put k ⟨1, none⟩).del k).get k = none := by
    rw [get_eq, find_del]; simp
  refine ⟨?_, ?_, ?_⟩
  · simp only [PSys.take, hu, if_true, periodScript, hinc]
    exact takeResult_code quota 1
  · simp [PSys.take, hu, periodScript, hinc, Store.expire, hget, hdel]
  · simp [PSys.take, hu]

example : (PSys.run 3 0 PSys.init [.take "a", .take "a", .take "a", .take "a", .take "a"]).filterMap id
    = List.replicate 5 (Code.allowed, PErr.nil) := by decide


/-- what the script does with arguments nothing validates (observed identically on the real code):
rate 3, burst 5, fresh keys: `n = -2` is granted and leaves 7 > burst tokens stored (capped again by the next call);
rate −2, burst 3: the bucket holds 3 − 2·now tokens, nothing positive is ever granted. -/
example : (tokenScriptZ 3 5 1700000000 (-2) ⟨none, none⟩) = (⟨some 7, some 1700000000⟩, true) ∧
    (tokenScriptZ 3 5 1700000000 5 ⟨some 7, some 1700000000⟩) = (⟨some 0, some 1700000000⟩, true) ∧
    (tokenScriptZ (-2) 3 1700000000 1 ⟨none, none⟩) = (⟨some (-3399999997), some 1700000000⟩, false) ∧
    ttlZ (-2) 3 = 1 ∧ ttlZ 3 5 = 3 := by decide

/-- DEFECT (core/limit/tokenscript.lua at the pinned commit): whenever `2·burst < rate` the script computes
`ttl = 0`, its first SETEX is rejected and the script fails — on every call, in every state. -/
theorem pinned_ttl_zero_script_fails (c : TCfg) (h : 2 * c.burst < c.rate) (s : Store) (now n : Nat) :
    tokenScript false c s now n = none := by
  have : ttlPinned c.rate c.burst = 0 := by unfold ttlPinned; exact Nat.div_eq_of_lt h
  simp [tokenScript, ttlOf, this, Store.setex]

/-- … hence no request is ever decided by the shared store: every instance decides with its own local bucket. -/
theorem pinned_never_uses_store (c : TCfg) (h : 2 * c.burst < c.rate) :
    ∀ (ops : List TOp) (s : Sys), storeEvs (Sys.run false c s ops) = [] := by
  intro ops
  induction ops with
  | nil => intro s; rfl
  | cons op ops ih =>
    intro s
    by_cases hop : ∃ i ns n, op = .allow i ns n
    · obtain ⟨i, ns, n, rfl⟩ := hop
      rw [run_allow]
      rcases reserveN_cases false c s i ns n with ⟨inst, _, he⟩ | ⟨r, hs, _⟩
      · rw [he]; exact ih _
      · rw [pinned_ttl_zero_script_fails c h] at hs; cases hs
    · rw [run_silent _ _ _ _ _ (step_silent false c s op hop).1]
      exact ih _

def wCfg : TCfg := ⟨5, 2, "{k}.tokens", "{k}.ts"⟩
def wOps : List TOp :=
  [.allow 0 1700000000000000000 1, .allow 0 1700000000000000000 1,
   .allow 1 1700000000000000000 1, .allow 1 1700000000000000000 1]

/-- WITNESS (replayed on the real code): rate 5, burst 2, two instances, reachable store, four requests at one
instant — the pinned script grants 4 (> burst + rate × 0 = 2); the fixed script grants exactly 2. -/
theorem pinned_ttl_zero_overgrants :
    grantedOf (Sys.run false wCfg (Sys.init wCfg) wOps) = 4 ∧
    grantedOf (Sys.run true wCfg (Sys.init wCfg) wOps) = 2 := by decide

def rCfg : TCfg := ⟨3, 1, "{k}.tokens", "{k}.ts"⟩

/-- WITNESS (finding, not patched): the rescue limiter is built with `Every(time.Second/rate)`, whose
interval is truncated to whole ns; for rate = 3 (∤ 10⁹) it refills every 333333333 ns: two grants within
0.333333333 s, while burst + rate × elapsed = 1.999999999 < 2. -/
theorem rescue_exceeds_nominal_rate :
    Rescue.run rCfg (Rescue.init rCfg) [(0, 1), (333333333, 1)] = [true, true] ∧
    1 * 1000000000 + 3 * 333333333 < 2 * 1000000000 := by decide

end GoZero.C03.Props
