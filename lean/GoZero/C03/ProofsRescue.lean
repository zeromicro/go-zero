/-
C03 — the rescue limiter (exact model of x/time/rate): what it has available as time passes, and the simulation `RSim` by
which, under a clock that does not run backwards, it is the abstract bucket at nanosecond granularity.
-/
import GoZero.C03.ProofsBucket
import GoZero.C03.RescueIval
namespace GoZero.C03
open GoZero.C03 Spec

theorem advanced_add (c : TCfg) (r : Rescue) (t0 t : Nat) (h0 : r.last ≤ t0) (h1 : t0 ≤ t) :
    r.advanced c t = min ((c.burst * c.ival : Nat) : Int) (r.advanced c t0 + ((t - t0 : Nat) : Int)) := by
  rw [advanced_of_le c r t (by omega), advanced_of_le c r t0 h0]
  -- capped at `t0` already, or not yet (split by hand: `omega` is slow on the three `min`s)
  rcases Int.le_total ((c.burst * c.ival : Nat) : Int) (r.T + ((t0 - r.last : Nat) : Int)) with h | h
  · rw [Int.min_eq_left h, Int.min_eq_left (by omega), Int.min_eq_left (by omega)]
  · rw [Int.min_eq_right h]; congr 1; omega

theorem advanced_mono_time (c : TCfg) (r : Rescue) (t0 t : Nat) (h0 : r.last ≤ t0) (h1 : t0 ≤ t) :
    r.advanced c t ≤ r.advanced c t0 + ((t - t0 : Nat) : Int) := by
  rw [advanced_add c r t0 t h0 h1]; exact Int.min_le_right _ _

theorem advanced_le_cap (c : TCfg) (r : Rescue) (t : Nat) : r.advanced c t ≤ ((c.burst * c.ival : Nat) : Int) := by
  unfold Rescue.advanced; exact Int.min_le_left _ _

/-- Under a clock that does not run backwards the rescue limiter IS the abstract bucket at nanosecond granularity: rate 1
per ns, size `burst * ival`, a request for `n` tokens asks for `n * ival`.  The bucket's `tok` is what the limiter has
available at the bucket's `ts`: a refused request moves the bucket's `ts` and not the limiter's `last`, so the two states
cannot be related field by field. -/
def RSim (c : TCfg) (r : Rescue) (b : Bucket) : Prop :=
  r.last ≤ b.ts ∧ (b.tok : Int) = r.advanced c b.ts

theorem rsim_init (c : TCfg) : RSim c (Rescue.init c) (Bucket.init (c.burst * c.ival)) := by
  refine ⟨Nat.le_refl _, ?_⟩
  simp [Rescue.init, Bucket.init, Rescue.advanced]

theorem rsim_allow (c : TCfg) (hi : c.ival ≠ 0) (r : Rescue) (b : Bucket) (t n : Nat) (h : RSim c r b) (ht : b.ts ≤ t) :
    (r.allowN c t n).2 = (b.allow 1 (c.burst * c.ival) t (n * c.ival)).2 ∧
    RSim c (r.allowN c t n).1 (b.allow 1 (c.burst * c.ival) t (n * c.ival)).1 := by
  obtain ⟨hl, htok⟩ := h
  -- what the bucket holds at `t` is what the limiter has available at `t`
  have hf : ((b.filled 1 (c.burst * c.ival) t : Nat) : Int) = r.advanced c t := by
    rw [advanced_add c r _ t hl ht, ← htok]
    unfold Bucket.filled
    omega
  -- a request the bucket can serve is no larger than the bucket: the limiter's test `n ≤ burst` is implied
  have hn : n * c.ival ≤ b.filled 1 (c.burst * c.ival) t → n ≤ c.burst := fun hle =>
    Nat.le_of_mul_le_mul_right (Nat.le_trans hle (filled_le _ _ _ _)) (Nat.pos_of_ne_zero hi)
  unfold Rescue.allowN Bucket.allow Rescue.after
  simp only [hi, if_false]
  by_cases hg : n * c.ival ≤ b.filled 1 (c.burst * c.ival) t
  · rw [if_pos hg, if_pos ⟨hn hg, by omega⟩]
    have := advanced_le_cap c r t
    refine ⟨rfl, Nat.le_refl _, ?_⟩
    show ((_ - _ : Nat) : Int) = Rescue.advanced c ⟨r.advanced c t - _, t⟩ t
    rw [advanced_of_le c _ t (Nat.le_refl t)]
    simp only [Nat.sub_self]
    omega
  · rw [if_neg hg, if_neg (fun hc => hg (by omega))]
    exact ⟨rfl, Nat.le_trans hl ht, hf⟩

end GoZero.C03
