/-
C03 — the rescue-mode flags of ONE TokenLimiter at statement granularity: `startMonitor` called by any number
of goroutines (the error path of `reserveN`), interleaved in every possible way with the steps of the monitor
goroutine(s) `waitForRedis` (successful ping → store redisAlive=1 → deferred: Lock, monitorStarted=false, Unlock).

    func (lim *TokenLimiter) startMonitor() {          row (caller pc)
        lim.rescueLock.Lock()                          lock    → check   (enabled iff the mutex is free)
        defer lim.rescueLock.Unlock()
        if lim.monitorStarted { return }               check   → unlock | set1
        lim.monitorStarted = true                      set1    → set2
        atomic.StoreUint32(&lim.redisAlive, 0)         set2    → spawn
        go lim.waitForRedis()                          spawn   → unlock  (one more goroutine in the loop)
    }                                                  unlock  → idle
    func (lim *TokenLimiter) waitForRedis() {
        for range ticker.C { if lim.store.Ping() {     event pingOk: a goroutine in the loop stores redisAlive=1
            atomic.StoreUint32(&lim.redisAlive, 1); return } }          and goes on to its deferred func
        deferred: lim.rescueLock.Lock()                event monLock   (enabled iff the mutex is free)
                  lim.monitorStarted = false           event monClear
                  lim.rescueLock.Unlock()              event monUnlock
    }

The row texts and their order are the skeletons tied in Tie.lean (tie_startMonitorShape, tie_waitForRedisShape).
`early = true` is the order of the seeded change C03-2 (redisAlive=0 stored before Lock and before the check):
the invariant then fails — `seeded_order_loses_wakeup`.

The system model of Model.lean takes these steps atomically (read off, no theorem relates the two): `Inst.startMonitor` is
the net effect of the rows check … spawn under the lock (nothing if `monitorStarted`, else `monitorStarted = true` and
`redisAlive = 0`), `TOp.pingOk` is the event pingOk, `TOp.monExit` is monLock; monClear; monUnlock, and `TOp.lateFail` is a
whole `startMonitor` arriving at any later moment.  `rescue_mode_has_monitor` is the atomic counterpart of `Inv.wake`.
-/
namespace GoZero.C03.Mon

inductive CPc where
  | idle | lock | check | set1 | set2 | spawn | unlock
  deriving DecidableEq, Repr

inductive Holder where
  | free
  | caller (t : Nat)
  | monClear          -- a monitor goroutine holds the mutex, about to clear monitorStarted
  | monUnlock         -- … has cleared it, about to unlock
  deriving DecidableEq, Repr

structure St where
  pc      : Nat → CPc      -- where goroutine t is inside startMonitor (idle = not inside)
  lock    : Holder         -- rescueLock
  started : Bool           -- monitorStarted
  alive   : Bool           -- redisAlive == 1
  nLoop   : Nat            -- monitor goroutines still in `for range ticker.C`
  nWant   : Nat            -- monitor goroutines that stored redisAlive=1 and wait for rescueLock in the deferred func

def init : St := ⟨fun _ => .idle, .free, false, true, 0, 0⟩

def upd (f : Nat → CPc) (t : Nat) (v : CPc) : Nat → CPc := fun u => if u = t then v else f u

inductive Ev where
  | caller (t : Nat)       -- goroutine t executes its next row of startMonitor (idle: it enters)
  | pingOk | monLock | monClear | monUnlock
  deriving DecidableEq, Repr

def callerStep (early : Bool) (s : St) (t : Nat) : Option St :=
  match s.pc t with
  | .idle => some { s with pc := upd s.pc t .lock, alive := if early then false else s.alive }
  | .lock => if s.lock = .free then some { s with pc := upd s.pc t .check, lock := .caller t } else none
  | .check => some { s with pc := upd s.pc t (if s.started then .unlock else .set1) }
  | .set1 => some { s with pc := upd s.pc t .set2, started := true }
  | .set2 => some { s with pc := upd s.pc t .spawn, alive := if early then s.alive else false }
  | .spawn => some { s with pc := upd s.pc t .unlock, nLoop := s.nLoop + 1 }
  | .unlock => some { s with pc := upd s.pc t .idle, lock := .free }

/-- one step; `none` = the event is not enabled in this state -/
def step (early : Bool) (s : St) : Ev → Option St
  | .caller t => callerStep early s t
  | .pingOk => if 0 < s.nLoop then some { s with nLoop := s.nLoop - 1, nWant := s.nWant + 1, alive := true } else none
  | .monLock => if 0 < s.nWant ∧ s.lock = .free then some { s with nWant := s.nWant - 1, lock := .monClear } else none
  | .monClear => if s.lock = .monClear then some { s with started := false, lock := .monUnlock } else none
  | .monUnlock => if s.lock = .monUnlock then some { s with lock := .free } else none

inductive Reach (early : Bool) : St → Prop where
  | init : Reach early init
  | step (s s' : St) (e : Ev) : Reach early s → step early s e = some s' → Reach early s'

def inCrit (p : CPc) : Bool := p = .check || p = .set1 || p = .set2 || p = .spawn || p = .unlock

/-- a caller that has set monitorStarted and has not yet spawned the goroutine -/
def pending (s : St) : Nat :=
  match s.lock with
  | .caller t => if s.pc t = .set2 ∨ s.pc t = .spawn then 1 else 0
  | _ => 0

def b2n (b : Bool) : Nat := if b then 1 else 0

/-- `crit`: exactly the holder of `rescueLock` is inside the critical section.  `count`: `monitorStarted` counts the monitor
goroutines — in the loop, waiting for the lock, holding it before the clear — plus the one PROMISED by a caller that has set the
flag and not yet spawned it (`pending`); being a Boolean, there is at most one.  `wake`: while `redisAlive = 0` a goroutine that
will set it again exists or is the holder's very next step.  `set1` is what `count` needs at the row that sets the flag. -/
structure Inv (s : St) : Prop where
  crit   : ∀ t, inCrit (s.pc t) = true ↔ s.lock = .caller t
  set1   : ∀ t, s.pc t = .set1 → s.started = false
  count  : s.nLoop + s.nWant + (if s.lock = .monClear then 1 else 0) + pending s = b2n s.started
  wake   : s.alive = false → 1 ≤ s.nLoop ∨ ∃ t, s.lock = .caller t ∧ s.pc t = .spawn

theorem inv_init : Inv init := by
  constructor <;> simp [init, inCrit, pending, b2n]

theorem upd_same (f : Nat → CPc) (t : Nat) (v : CPc) : upd f t v t = v := by simp [upd]
theorem upd_other (f : Nat → CPc) (t u : Nat) (v : CPc) (h : u ≠ t) : upd f t v u = f u := by simp [upd, h]

/-- while goroutine `t` holds the mutex the invariant speaks about `t`'s row only -/
theorem inv_held {s : St} {t : Nat} (hl : s.lock = .caller t) : Inv s ↔
    (∀ u, inCrit (s.pc u) = true ↔ u = t) ∧ (s.pc t = .set1 → s.started = false) ∧
    s.nLoop + s.nWant + (if s.pc t = .set2 ∨ s.pc t = .spawn then 1 else 0) = b2n s.started ∧
    (s.alive = false → 1 ≤ s.nLoop ∨ s.pc t = .spawn) := by
  have hu : ∀ u, s.lock = .caller u ↔ u = t := fun u => by rw [hl]; exact ⟨fun h => by cases h; rfl, fun h => by rw [h]⟩
  constructor
  · intro ⟨hc, h1, hn, hw⟩
    refine ⟨fun u => (hc u).trans (hu u), h1 t, by simpa [pending, hl] using hn, fun ha => ?_⟩
    rcases hw ha with h | ⟨u, hlu, hpu⟩
    · exact Or.inl h
    · cases (hu u).1 hlu; exact Or.inr hpu
  · intro ⟨hc, h1, hn, hw⟩
    refine ⟨fun u => (hc u).trans (hu u).symm, fun u hpu => ?_, by simpa [pending, hl] using hn, fun ha => ?_⟩
    · cases (hc u).1 (by simp [inCrit, hpu]); exact h1 hpu
    · exact (hw ha).imp id fun h => ⟨t, hl, h⟩

/-- while no caller holds the mutex nobody is inside the critical section and nothing is pending -/
theorem inv_unheld {s : St} (hl : ∀ u, s.lock ≠ .caller u) : Inv s ↔
    (∀ u, inCrit (s.pc u) = false) ∧
    s.nLoop + s.nWant + (if s.lock = .monClear then 1 else 0) = b2n s.started ∧
    (s.alive = false → 1 ≤ s.nLoop) := by
  have hp : pending s = 0 := by
    unfold pending; split
    · next u h => exact absurd h (hl u)
    · rfl
  constructor
  · intro ⟨hc, _, hn, hw⟩
    refine ⟨fun u => ?_, by simpa [hp] using hn, fun ha => (hw ha).elim id fun ⟨u, hlu, _⟩ => absurd hlu (hl u)⟩
    cases h : inCrit (s.pc u) with
    | false => rfl
    | true => exact absurd ((hc u).1 h) (hl u)
  · intro ⟨hc, hn, hw⟩
    refine ⟨fun u => ⟨fun h => (by rw [hc u] at h; cases h), fun h => absurd h (hl u)⟩, fun u hpu => ?_,
      by simpa [hp] using hn, fun ha => Or.inl (hw ha)⟩
    have := hc u; simp [inCrit, hpu] at this

/-- goroutine `t` moves to row `v`, which is inside the critical section iff `t` is the holder `h` -/
theorem crit_upd {s : St} {h : Nat} (hc : ∀ u, inCrit (s.pc u) = true ↔ u = h) (t : Nat) (v : CPc)
    (hv : inCrit v = true ↔ t = h) (u : Nat) : inCrit (upd s.pc t v u) = true ↔ u = h := by
  unfold upd; split
  · next e => rw [e]; exact hv
  · exact hc u

/-- the caller steps preserve the invariant (the order of the code as it is) -/
theorem inv_caller (s s' : St) (t : Nat) (hi : Inv s) (h : step false s (.caller t) = some s') : Inv s' := by
  simp only [step] at h
  unfold callerStep at h
  split at h
  next hp =>
    -- idle → lock: `t` stays outside the critical section, whoever holds the mutex
    simp only [Bool.false_eq_true, if_false, Option.some.injEq] at h; subst h
    by_cases hh : ∃ u, s.lock = .caller u
    · obtain ⟨u, hl⟩ := hh
      obtain ⟨hc, h1, hn, hw⟩ := (inv_held hl).1 hi
      have hut : u ≠ t := fun e => by have := (hc t).2 e.symm; simp [inCrit, hp] at this
      exact Iff.mpr (inv_held hl) ⟨crit_upd hc t _ (by simpa [inCrit] using Ne.symm hut),
        by simpa [upd_other _ _ _ _ hut] using h1, by simpa [upd_other _ _ _ _ hut] using hn,
        by simpa [upd_other _ _ _ _ hut] using hw⟩
    · have hl : ∀ u, s.lock ≠ .caller u := fun u e => hh ⟨u, e⟩
      obtain ⟨hc, hn, hw⟩ := (inv_unheld hl).1 hi
      refine Iff.mpr (inv_unheld hl) ⟨fun u => ?_, hn, hw⟩
      by_cases hu : u = t
      · simp [upd, hu, inCrit]
      · simp [upd, hu, hc u]
  next hp =>
    -- lock → check: the mutex was free
    simp only [Option.ite_none_right_eq_some, Option.some.injEq] at h
    obtain ⟨hfree, rfl⟩ := h
    obtain ⟨hc, hn, hw⟩ := (inv_unheld (by simp [hfree])).1 hi
    refine Iff.mpr (inv_held rfl) ⟨fun u => ?_, by simp [upd_same], by simpa [upd_same, hfree] using hn,
      fun ha => Or.inl (hw ha)⟩
    by_cases hu : u = t
    · simp [upd, hu, inCrit]
    · simp [upd, hu, hc u]
  next hp =>
    -- check: `if lim.monitorStarted { return }`
    cases h
    have hl := (hi.crit t).1 (by simp [inCrit, hp])
    obtain ⟨hc, _, hn, hw⟩ := (inv_held hl).1 hi
    refine Iff.mpr (inv_held hl) ⟨crit_upd hc t _ (by cases s.started <;> simp [inCrit]), ?_, ?_, ?_⟩
    · cases s.started <;> simp [upd_same]
    · cases hs : s.started <;> simpa [upd_same, hs, hp] using hn
    · cases hs : s.started <;> simpa [upd_same, hs, hp] using hw
  next hp =>
    -- set1: monitorStarted = true
    cases h
    have hl := (hi.crit t).1 (by simp [inCrit, hp])
    obtain ⟨hc, h1, hn, hw⟩ := (inv_held hl).1 hi
    refine Iff.mpr (inv_held hl) ⟨crit_upd hc t _ (by simp [inCrit]), by simp [upd_same], ?_, by simpa [upd_same, hp] using hw⟩
    simp [h1 hp, hp, b2n] at hn
    simp [upd_same, b2n, hn]
  next hp =>
    -- set2: redisAlive = 0
    simp only [Bool.false_eq_true, if_false, Option.some.injEq] at h; subst h
    have hl := (hi.crit t).1 (by simp [inCrit, hp])
    obtain ⟨hc, _, hn, _⟩ := (inv_held hl).1 hi
    exact Iff.mpr (inv_held hl) ⟨crit_upd hc t _ (by simp [inCrit]), by simp [upd_same],
      by simpa [upd_same, hp] using hn, fun _ => Or.inr (by simp [upd_same])⟩
  next hp =>
    -- spawn: go lim.waitForRedis()
    cases h
    have hl := (hi.crit t).1 (by simp [inCrit, hp])
    obtain ⟨hc, _, hn, _⟩ := (inv_held hl).1 hi
    refine Iff.mpr (inv_held hl) ⟨crit_upd hc t _ (by simp [inCrit]), by simp [upd_same], ?_, fun _ => Or.inl (by simp)⟩
    simp [hp] at hn
    simp [upd_same]; omega
  next hp =>
    -- unlock (the deferred `Unlock`)
    cases h
    have hl := (hi.crit t).1 (by simp [inCrit, hp])
    obtain ⟨hc, _, hn, hw⟩ := (inv_held hl).1 hi
    refine Iff.mpr (inv_unheld (by simp)) ⟨fun u => ?_, by simpa [hp] using hn, fun ha => ?_⟩
    · by_cases hu : u = t
      · simp [upd, hu, inCrit]
      · simpa [upd, hu] using hc u
    · simpa [hp] using hw ha

theorem inv_monitor (early : Bool) (s s' : St) (e : Ev) (hne : ∀ t, e ≠ .caller t) (hi : Inv s)
    (h : step early s e = some s') : Inv s' := by
  cases e with
  | caller t => exact absurd rfl (hne t)
  | pingOk =>
    simp only [step, Option.ite_none_right_eq_some, Option.some.injEq] at h
    obtain ⟨hpos, rfl⟩ := h
    obtain ⟨hc, h1, hn, hw⟩ := hi
    refine ⟨hc, h1, ?_, fun ha => by simp at ha⟩
    have : pending { s with nLoop := s.nLoop - 1, nWant := s.nWant + 1, alive := true } = pending s := rfl
    simp only [this]; omega
  | monLock =>
    simp only [step, Option.ite_none_right_eq_some, Option.some.injEq] at h
    obtain ⟨hcond, rfl⟩ := h
    obtain ⟨hc, hn, hw⟩ := (inv_unheld (by simp [hcond.2])).1 hi
    refine Iff.mpr (inv_unheld (by simp)) ⟨hc, ?_, hw⟩
    simp [hcond.2] at hn
    simp; omega
  | monClear =>
    simp only [step, Option.ite_none_right_eq_some, Option.some.injEq] at h
    obtain ⟨hl, rfl⟩ := h
    obtain ⟨hc, hn, hw⟩ := (inv_unheld (by simp [hl])).1 hi
    refine Iff.mpr (inv_unheld (by simp)) ⟨hc, ?_, fun ha => ?_⟩
    · cases hs : s.started <;> simp [hl, hs, b2n] at hn ⊢ <;> omega
    · have := hw ha
      cases hs : s.started <;> simp [hl, hs, b2n] at hn <;> omega
  | monUnlock =>
    simp only [step, Option.ite_none_right_eq_some, Option.some.injEq] at h
    obtain ⟨hl, rfl⟩ := h
    obtain ⟨hc, hn, hw⟩ := (inv_unheld (by simp [hl])).1 hi
    exact Iff.mpr (inv_unheld (by simp)) ⟨hc, by simpa [hl] using hn, hw⟩

theorem inv_reach (s : St) (h : Reach false s) : Inv s := by
  induction h with
  | init => exact inv_init
  | step s s' e _ hs ih =>
    cases e with
    | caller t => exact inv_caller s s' t ih hs
    | _ => exact inv_monitor false s s' _ (by intros; simp) ih hs

def run (early : Bool) : St → List Ev → Option St
  | s, [] => some s
  | s, e :: es => match step early s e with
    | some s' => run early s' es
    | none => none

theorem reach_run (early : Bool) : ∀ (es : List Ev) (s s' : St), Reach early s → run early s es = some s' → Reach early s' := by
  intro es
  induction es with
  | nil => intro s s' hr h; cases h; exact hr
  | cons e es ih =>
    intro s s' hr h
    simp only [run] at h
    split at h
    next s1 hs1 => exact ih s1 s' (Reach.step s s1 e hr hs1) h
    next => cases h

end GoZero.C03.Mon
