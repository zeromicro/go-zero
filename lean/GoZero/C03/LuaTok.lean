/-
C03 — the Lua subset of tokenscript.lua: token list → AST → meaning over the store model.

The extractor only *lexes* the current file (Extracted.C03.tokenLuaToks); parsing and interpretation happen here, so
that `TieLua.tie_tokenLua_sem` can prove — for every store, both keys and all integer arguments — that the script as it is in the tree
means `tokenScriptI` (the script on integers), which is the model's `tokenScript true` on naturals.

Subset:  `local x = e` · `x = e` (assignment to a local of the chunk) · `if c then … end` · `return e` ·
`redis.call("setex", KEYS[i], e, e)`;
e = integer literal · `nil` · local · `tonumber(ARGV[i])` · `tonumber(redis.call("get", KEYS[i]))` · `(e)` ·
`e*e` `e/e` `e+e` `e-e` (usual precedence, left associative) · `math.max(e,e)` `math.min(e,e)` `math.floor(e)` · `e >= e`;
c = `e == nil` · `e` (truthiness of a boolean).  Anything else does not parse or does not evaluate (`none`): the Tie
obligation then fails rather than guessing.

Numbers: Lua numbers are doubles; all values of the script are integers except `capacity/rate`, which is only ever
multiplied by an integer and floored.  The value domain is therefore: integers, ONE kind of exact fraction `p/q`
(closed under multiplication by an integer; `math.floor` gives `Int.fdiv p q`), nil, booleans; any other use of a
fraction is outside the subset.  Exact below 2^53 (props/C03.json, assumptions).
`redis.call("get", k)` of a missing key is `false`, `tonumber(false)` is nil; a stored value is the decimal text of a
natural, `tonumber` gives it back.  `SETEX k ttl v`: error when `ttl ≤ 0` (the script aborts, nothing more is written).
A boolean result becomes the reply the model calls `allowed` (true ⇒ integer 1, false ⇒ nil bulk: `luaBoolReply`).
-/
import GoZero.C03.LuaSem
namespace GoZero.C03

/-- `tonumber(redis.call("get", k))` with the default the script substitutes for nil -/
def getNumOr (s : Store) (k : String) (dflt : Int) : Int :=
  match s.get k with
  | some e => (e.val : Int)
  | none => dflt

/-- tokenscript.lua on integer arguments, statement by statement; `none` = the script raises an error
(`rate = 0`: division by zero gives inf/nan and `math.floor` of it is not a TTL; a value that is not a natural is
outside the store model) -/
def tokenScriptI (s : Store) (k1 k2 : String) (rate cap now req : Int) : Option (Store × Bool) :=
  if rate = 0 then none else
  let ttl := max 1 (Int.fdiv (cap * 2) rate)
  let lastTokens : Int := getNumOr s k1 cap
  let lastRefreshed : Int := getNumOr s k2 0
  let delta := max 0 (now - lastRefreshed)
  let filled := min cap (lastTokens + delta * rate)
  let allowed := decide (req ≤ filled)
  let newTokens := if allowed then filled - req else filled
  if newTokens < 0 ∨ now < 0 then none else
  match s.setex k1 ttl.toNat newTokens.toNat with
  | none => none
  | some s1 =>
    match s1.setex k2 ttl.toNat now.toNat with
    | none => none
    | some s2 => some (s2, allowed)

namespace LuaT
open Lua (Tok)

inductive Val where
  | num (v : Int)
  | frac (p q : Int)
  | nil
  | bool (b : Bool)
  deriving Repr, DecidableEq

inductive Expr where
  | num (n : Int)
  | nilLit
  | var (x : String)
  | argvNum (i : Nat)            -- tonumber(ARGV[i])
  | getNum (i : Nat)             -- tonumber(redis.call("get", KEYS[i]))
  | add (a b : Expr) | sub (a b : Expr) | mul (a b : Expr) | div (a b : Expr)
  | max (a b : Expr) | min (a b : Expr) | floor (a : Expr)
  | ge (a b : Expr)
  deriving Repr, DecidableEq

inductive Cond where
  | eqNil (e : Expr)
  | truthy (e : Expr)
  deriving Repr, DecidableEq

inductive Stmt where
  | localE (x : String) (e : Expr)
  | assign (x : String) (e : Expr)
  | ifThen (c : Cond) (t : List Stmt)
  | setex (key : Nat) (ttl v : Expr)
  | ret (e : Expr)
  deriving Repr

def reserved : List String :=
  ["if", "then", "else", "elseif", "end", "return", "local", "redis", "KEYS", "ARGV", "tonumber", "math", "nil",
   "(", ")", "[", "]", ",", ".", "=", "==", "<", ">", "<=", ">=", "~=", "+", "-", "*", "/", "and", "or", "not", "true", "false"]

mutual
  def parseAtom : Nat → List Tok → Option (Expr × List Tok)
    | 0, _ => none
    | fuel + 1, toks =>
      match toks with
      | .w "tonumber" :: .w "(" :: .w "ARGV" :: .w "[" :: .n i :: .w "]" :: .w ")" :: rest => some (.argvNum i, rest)
      | .w "tonumber" :: .w "(" :: .w "redis" :: .w "." :: .w "call" :: .w "(" :: .s cmd :: .w "," :: .w "KEYS" :: .w "[" ::
          .n i :: .w "]" :: .w ")" :: .w ")" :: rest =>
        if cmd = "get" ∨ cmd = "GET" then some (.getNum i, rest) else none
      | .w "math" :: .w "." :: .w "floor" :: .w "(" :: rest =>
        match parseCmp fuel rest with
        | some (a, .w ")" :: rest) => some (.floor a, rest)
        | _ => none
      | .w "math" :: .w "." :: .w f :: .w "(" :: rest =>
        match parseCmp fuel rest with
        | some (a, .w "," :: rest) =>
          match parseCmp fuel rest with
          | some (b, .w ")" :: rest) =>
            if f = "max" then some (.max a b, rest) else if f = "min" then some (.min a b, rest) else none
          | _ => none
        | _ => none
      | .w "(" :: rest =>
        match parseCmp fuel rest with
        | some (a, .w ")" :: rest) => some (a, rest)
        | _ => none
      | .w "nil" :: rest => some (.nilLit, rest)
      | .n v :: rest => some (.num v, rest)
      | .w x :: rest => if x ∈ reserved then none else some (.var x, rest)
      | _ => none

  def parseMulRest : Nat → Expr → List Tok → Option (Expr × List Tok)
    | 0, _, _ => none
    | fuel + 1, lhs, toks =>
      match toks with
      | .w "*" :: rest =>
        match parseAtom fuel rest with
        | some (b, rest) => parseMulRest fuel (.mul lhs b) rest
        | none => none
      | .w "/" :: rest =>
        match parseAtom fuel rest with
        | some (b, rest) => parseMulRest fuel (.div lhs b) rest
        | none => none
      | _ => some (lhs, toks)

  def parseMul : Nat → List Tok → Option (Expr × List Tok)
    | 0, _ => none
    | fuel + 1, toks =>
      match parseAtom fuel toks with
      | some (a, rest) => parseMulRest fuel a rest
      | none => none

  def parseAddRest : Nat → Expr → List Tok → Option (Expr × List Tok)
    | 0, _, _ => none
    | fuel + 1, lhs, toks =>
      match toks with
      | .w "+" :: rest =>
        match parseMul fuel rest with
        | some (b, rest) => parseAddRest fuel (.add lhs b) rest
        | none => none
      | .w "-" :: rest =>
        match parseMul fuel rest with
        | some (b, rest) => parseAddRest fuel (.sub lhs b) rest
        | none => none
      | _ => some (lhs, toks)

  def parseAdd : Nat → List Tok → Option (Expr × List Tok)
    | 0, _ => none
    | fuel + 1, toks =>
      match parseMul fuel toks with
      | some (a, rest) => parseAddRest fuel a rest
      | none => none

  def parseCmp : Nat → List Tok → Option (Expr × List Tok)
    | 0, _ => none
    | fuel + 1, toks =>
      match parseAdd fuel toks with
      | some (a, .w ">=" :: rest) =>
        match parseAdd fuel rest with
        | some (b, rest) => some (.ge a b, rest)
        | none => none
      | r => r
end

def parseCond (fuel : Nat) (toks : List Tok) : Option (Cond × List Tok) :=
  match parseCmp fuel toks with
  | some (a, .w "==" :: .w "nil" :: rest) => some (.eqNil a, rest)
  | some (a, rest) => some (.truthy a, rest)
  | none => none

mutual
  /-- statements up to (not including) `end` / end of input -/
  def parseBlock : Nat → List Tok → Option (List Stmt × List Tok)
    | 0, _ => none
    | fuel + 1, toks =>
      match toks with
      | [] => some ([], [])
      | .w "end" :: _ => some ([], toks)
      | _ =>
        match parseStmt fuel toks with
        | some (s, rest) =>
          match parseBlock fuel rest with
          | some (ss, rest) => some (s :: ss, rest)
          | none => none
        | none => none

  def parseStmt : Nat → List Tok → Option (Stmt × List Tok)
    | 0, _ => none
    | fuel + 1, toks =>
      match toks with
      | .w "if" :: rest =>
        match parseCond fuel rest with
        | some (c, .w "then" :: rest) =>
          match parseBlock fuel rest with
          | some (t, .w "end" :: rest) => some (.ifThen c t, rest)
          | _ => none
        | _ => none
      | .w "return" :: rest =>
        match parseCmp fuel rest with
        | some (e, rest) =>
          match rest with
          | [] => some (.ret e, rest)
          | .w "end" :: _ => some (.ret e, rest)
          | _ => none
        | none => none
      | .w "local" :: .w x :: .w "=" :: rest =>
        if x ∈ reserved then none else
        match parseCmp fuel rest with
        | some (e, rest) => some (.localE x e, rest)
        | none => none
      | .w "redis" :: .w "." :: .w "call" :: .w "(" :: .s cmd :: .w "," :: .w "KEYS" :: .w "[" :: .n i :: .w "]" :: .w "," :: rest =>
        if cmd = "setex" ∨ cmd = "SETEX" then
          match parseCmp fuel rest with
          | some (t, .w "," :: rest) =>
            match parseCmp fuel rest with
            | some (v, .w ")" :: rest) => some (.setex i t v, rest)
            | _ => none
          | _ => none
        else none
      | .w x :: .w "=" :: rest =>
        if x ∈ reserved then none else
        match parseCmp fuel rest with
        | some (e, rest) => some (.assign x e, rest)
        | none => none
      | _ => none
end

def parse (toks : List Tok) : Option (List Stmt) :=
  match parseBlock (2 * toks.length + 2) toks with
  | some (ss, []) => some ss
  | _ => none


structure Env where
  keys   : List String
  argv   : List Int
  locals : List (String × Val) := []

def arith2 (f : Int → Int → Int) : Val → Val → Option Val
  | .num a, .num b => some (.num (f a b))
  | _, _ => none

def mulV : Val → Val → Option Val
  | .num a, .num b => some (.num (a * b))
  | .frac p q, .num k => some (.frac (p * k) q)
  | .num k, .frac p q => some (.frac (k * p) q)
  | _, _ => none

def divV : Val → Val → Option Val
  | .num a, .num b => if b = 0 then none else some (.frac a b)
  | _, _ => none

def floorV : Val → Option Val
  | .num a => some (.num a)
  | .frac p q => if q = 0 then none else some (.num (Int.fdiv p q))
  | _ => none

def geV : Val → Val → Option Val
  | .num a, .num b => some (.bool (decide (b ≤ a)))
  | _, _ => none

def bind2 (f : Val → Val → Option Val) : Option Val → Option Val → Option Val
  | some a, some b => f a b
  | _, _ => none

def evalExpr (env : Env) (s : Store) : Expr → Option Val
  | .num n => some (.num n)
  | .nilLit => some .nil
  | .var x => env.locals.lookup x
  | .argvNum i => if i = 0 then none else (env.argv[i - 1]?).map Val.num
  | .getNum i =>
    if i = 0 then none else
    match env.keys[i - 1]? with
    | some k => (match s.get k with | some e => some (.num (e.val : Int)) | none => some .nil)
    | none => none
  | .add a b => bind2 (arith2 (· + ·)) (evalExpr env s a) (evalExpr env s b)
  | .sub a b => bind2 (arith2 (· - ·)) (evalExpr env s a) (evalExpr env s b)
  | .mul a b => bind2 mulV (evalExpr env s a) (evalExpr env s b)
  | .div a b => bind2 divV (evalExpr env s a) (evalExpr env s b)
  | .max a b => bind2 (arith2 Max.max) (evalExpr env s a) (evalExpr env s b)
  | .min a b => bind2 (arith2 Min.min) (evalExpr env s a) (evalExpr env s b)
  | .floor a => (evalExpr env s a).bind floorV
  | .ge a b => bind2 geV (evalExpr env s a) (evalExpr env s b)

def evalCond (env : Env) (s : Store) : Cond → Option Bool
  | .eqNil e => (evalExpr env s e).map fun v => decide (v = .nil)
  | .truthy e => match evalExpr env s e with
    | some (.bool b) => some b
    | _ => none

def setLocal (env : Env) (x : String) (v : Val) : Env := { env with locals := (x, v) :: env.locals }

def replaceVar (x : String) (v : Val) : List (String × Val) → Option (List (String × Val))
  | [] => none
  | (y, w) :: rest => if x = y then some ((y, v) :: rest) else (replaceVar x v rest).map ((y, w) :: ·)

/-- executes a block; `inner` = inside an `if` (a `local` there would go out of scope at its `end`: outside the subset) -/
def execBlock : Nat → Bool → Env → Store → List Stmt → Option (Env × Store × Option Val)
  | 0, _, _, _, _ => none
  | fuel + 1, inner, env, s, ss =>
    match ss with
    | [] => some (env, s, none)
    | .ret e :: _ =>
      match evalExpr env s e with
      | some v => some (env, s, some v)
      | none => none
    | .localE x e :: rest =>
      if inner then none else
      match evalExpr env s e with
      | some v => execBlock fuel inner (setLocal env x v) s rest
      | none => none
    | .assign x e :: rest =>
      match evalExpr env s e with
      | some v =>
        match replaceVar x v env.locals with
        | some ls => execBlock fuel inner { env with locals := ls } s rest
        | none => none
      | none => none
    | .setex i t v :: rest =>
      if i = 0 then none else
      match env.keys[i - 1]?, evalExpr env s t, evalExpr env s v with
      | some k, some (.num t), some (.num v) =>
        if v < 0 then none else
        match s.setex k t.toNat v.toNat with
        | some s' => execBlock fuel inner env s' rest
        | none => none
      | _, _, _ => none
    | .ifThen c t :: rest =>
      match evalCond env s c with
      | some true =>
        match execBlock fuel true env s t with
        | some (env', s', some r) => some (env', s', some r)
        | some (env', s', none) => execBlock fuel inner env' s' rest
        | none => none
      | some false => execBlock fuel inner env s rest
      | none => none


theorem exec_localE (f : Nat) (env : Env) (s : Store) (x : String) (e : Expr) (rest : List Stmt) :
    execBlock (f+1) false env s (.localE x e :: rest) = (match evalExpr env s e with
      | some v => execBlock f false (setLocal env x v) s rest
      | none => none) := rfl
theorem exec_assign (f : Nat) (i : Bool) (env : Env) (s : Store) (x : String) (e : Expr) (rest : List Stmt) :
    execBlock (f+1) i env s (.assign x e :: rest) = (match evalExpr env s e with
      | some v =>
        match replaceVar x v env.locals with
        | some ls => execBlock f i { env with locals := ls } s rest
        | none => none
      | none => none) := rfl
theorem exec_ret (f : Nat) (i : Bool) (env : Env) (s : Store) (e : Expr) (rest : List Stmt) :
    execBlock (f+1) i env s (.ret e :: rest) = (match evalExpr env s e with
      | some v => some (env, s, some v)
      | none => none) := rfl
theorem exec_nil (f : Nat) (i : Bool) (env : Env) (s : Store) :
    execBlock (f+1) i env s [] = some (env, s, none) := rfl
theorem exec_setex (f : Nat) (i : Bool) (env : Env) (s : Store) (k : Nat) (t v : Expr) (rest : List Stmt) :
    execBlock (f+1) i env s (.setex k t v :: rest) = (if k = 0 then none else
      match env.keys[k - 1]?, evalExpr env s t, evalExpr env s v with
      | some key, some (.num t), some (.num v) =>
        if v < 0 then none else
        match s.setex key t.toNat v.toNat with
        | some s' => execBlock f i env s' rest
        | none => none
      | _, _, _ => none) := rfl
theorem exec_ifThen (f : Nat) (i : Bool) (env : Env) (s : Store) (c : Cond) (t rest : List Stmt) :
    execBlock (f+1) i env s (.ifThen c t :: rest) = (match evalCond env s c with
      | some true =>
        match execBlock f true env s t with
        | some (env', s', some r) => some (env', s', some r)
        | some (env', s', none) => execBlock f i env' s' rest
        | none => none
      | some false => execBlock f i env s rest
      | none => none) := rfl

/-- run a script given as raw tokens: `none` = does not parse, raises an error, does not end with `return <boolean>`,
or needs more than the fuel (a longer script fails the Tie obligation, it is never guessed) -/
def runScript (raw : List (Nat × String × Nat)) (keys : List String) (argv : List Int) (s : Store) : Option (Store × Bool) :=
  match (raw.mapM Tok.ofRaw).bind parse with
  | some prog =>
    match execBlock 40 false { keys := keys, argv := argv } s prog with
    | some (_, s, some (.bool b)) => some (s, b)
    | _ => none
  | none => none

/-- A script that parses to `prog` runs as `prog` (stated for a variable token list: the caller rewrites with it, so `parse`
is run on the literal token list once, in `tokenLua_parses`, and is not unfolded again inside `runScript`). -/
theorem runScript_of_parses {raw : List (Nat × String × Nat)} {prog : List Stmt}
    (h : (raw.mapM Tok.ofRaw).bind parse = some prog) (keys : List String) (argv : List Int) (s : Store) :
    runScript raw keys argv s = match execBlock 40 false { keys := keys, argv := argv } s prog with
      | some (_, s, some (.bool b)) => some (s, b)
      | _ => none := by
  simp only [runScript, h]

end LuaT
end GoZero.C03
