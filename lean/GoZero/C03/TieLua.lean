/-
C03 — Tie: tokenscript.lua SEMANTICALLY.  The extractor lexes the current file (Extracted.C03.tokenLuaToks); the
token list is parsed and interpreted in Lean (LuaTok.lean) and proven equal, for every store, both keys and all
arguments, to the script on integers `tokenScriptI`, which for every configuration with rate ≥ 1 is the model's
`tokenScript true` on naturals — the object of token_refines_bucket / token_rate_bound.
-/
import GoZero.Extracted.C03
import GoZero.C03.LuaTok
import GoZero.C03.ProofsStore
import GoZero.C03.TieSem
import GoZero.C03.PropsPath
namespace GoZero.C03.TieLua
open GoZero.C03
open GoZero.C03.LuaT
open GoZero.C03.Lua (Tok)
open GoZero.Extracted.C03

def tokenProg : List Stmt :=
  [.localE "rate" (.argvNum 1), .localE "capacity" (.argvNum 2), .localE "now" (.argvNum 3), .localE "requested" (.argvNum 4),
   .localE "fill_time" (.div (.var "capacity") (.var "rate")),
   .localE "ttl" (.max (.num 1) (.floor (.mul (.var "fill_time") (.num 2)))),
   .localE "last_tokens" (.getNum 1),
   .ifThen (.eqNil (.var "last_tokens")) [.assign "last_tokens" (.var "capacity")],
   .localE "last_refreshed" (.getNum 2),
   .ifThen (.eqNil (.var "last_refreshed")) [.assign "last_refreshed" (.num 0)],
   .localE "delta" (.max (.num 0) (.sub (.var "now") (.var "last_refreshed"))),
   .localE "filled_tokens" (.min (.var "capacity") (.add (.var "last_tokens") (.mul (.var "delta") (.var "rate")))),
   .localE "allowed" (.ge (.var "filled_tokens") (.var "requested")),
   .localE "new_tokens" (.var "filled_tokens"),
   .ifThen (.truthy (.var "allowed")) [.assign "new_tokens" (.sub (.var "filled_tokens") (.var "requested"))],
   .setex 1 (.var "ttl") (.var "new_tokens"),
   .setex 2 (.var "ttl") (.var "now"),
   .ret (.var "allowed")]

set_option maxRecDepth 100000 in
theorem tokenLua_parses : (tokenLuaToks.mapM Tok.ofRaw).bind parse = some tokenProg := by rfl

section
-- the equations by which `simp` runs the interpreter on a concrete program
attribute [local simp] exec_localE exec_assign exec_ret exec_nil exec_setex exec_ifThen evalExpr evalCond setLocal replaceVar
  List.lookup bind2 divV mulV floorV geV arith2

/-- The idiom `local x = tonumber(redis.call("get", KEYS[i])); if x == nil then x = d end`: afterwards `x` holds the stored
number, or the value of `d` when the key is missing.  Fuel: the `local` and the `if` take one unit
each, and the body of the `if` (an assignment, then the empty block) needs two of what is left.  `k`, `d`, `dv` come
first so that an instance can be handed to `simp`, which cannot guess them. -/
theorem exec_getOr (k : String) (d : Expr) (dv : Int) (g : Nat) (env : Env) (s : Store) (x : String) (i : Nat)
    (rest : List Stmt) (hi : i ≠ 0) (hk : env.keys[i - 1]? = some k)
    (hd : evalExpr (setLocal env x .nil) s d = some (.num dv)) :
    execBlock (g + 4) false env s (.localE x (.getNum i) :: .ifThen (.eqNil (.var x)) [.assign x d] :: rest)
      = execBlock (g + 2) false (setLocal env x (.num (getNumOr s k dv))) s rest := by
  simp only [setLocal] at hd
  cases h : s.get k <;> simp [getNumOr, hi, hk, h, hd]

/-- **tokenscript.lua as it is in the tree means `tokenScriptI`** for every store, both keys and ALL integer
arguments (zero and negative included; `rate = 0`: the script fails) — the current token list is parsed and interpreted
in Lean (`LuaTok.lean`).  Moving the timestamp write inside `if allowed` (seeded change C03-1), dropping `math.max(1, …)`
(finding 1), swapping a key or an argument index break this theorem. -/
theorem tie_tokenLua_sem (s : Store) (k1 k2 : String) (rate cap now req : Int) :
    runScript tokenLuaToks [k1, k2] [rate, cap, now, req] s = tokenScriptI s k1 k2 rate cap now req := by
  rw [runScript_of_parses tokenLua_parses]
  unfold tokenScriptI
  by_cases hr : rate = 0
  · subst hr
    simp [tokenProg]
  · simp only [hr, if_false, tokenProg]
    -- one symbolic run of the whole script; the two `get`-or-default idioms are rewritten (`↓`: before `exec_localE`
    -- splits them) to `getNumOr`, so that no case analysis on the store is needed
    have getTs := fun g env x i rest hi hk => exec_getOr k2 (.num 0) 0 g env s x i rest hi hk rfl
    simp [↓exec_getOr k1 (.var "capacity") cap, ↓getTs, hr]
    -- what is left: the script fails at the first of {negative value, ttl = 0, negative `now`} it meets, `tokenScriptI`
    -- tests them in another order
    generalize (max 1 ((cap * 2).fdiv rate)).toNat = T
    generalize min cap _ = F
    by_cases ha : req ≤ F
    · by_cases hv : F - req < 0 <;> by_cases hT : T = 0 <;> by_cases hn : now < 0 <;>
        simp [Store.setex, ha, hv, hT, hn]
    · by_cases hv : F < 0 <;> by_cases hT : T = 0 <;> by_cases hn : now < 0 <;>
        simp [Store.setex, ha, hv, hT, hn]
end

theorem filled_cast (cap last now lr rate : Nat) :
    min (cap : Int) ((last : Int) + max 0 ((now : Int) - (lr : Int)) * (rate : Int))
      = ((min cap (last + (now - lr) * rate) : Nat) : Int) := by
  rw [show max 0 ((now : Int) - (lr : Int)) = ((now - lr : Nat) : Int) by omega, ← Int.natCast_mul]
  omega

theorem ttl_cast (rate burst : Nat) :
    (max 1 (Int.fdiv ((burst : Int) * 2) (rate : Int))).toNat = ttlFixed rate burst := by
  rw [Int.fdiv_eq_ediv_of_nonneg _ (by omega)]
  unfold ttlFixed
  have : ((burst : Int) * 2) / (rate : Int) = ((2 * burst / rate : Nat) : Int) := by
    rw [Nat.mul_comm]; push_cast; rfl
  rw [this]; omega

theorem tokenScriptI_is_tokenScript (c : TCfg) (hr : 0 < c.rate) (s : Store) (now n : Nat) :
    tokenScriptI s c.k1 c.k2 c.rate c.burst now n = tokenScript true c s now n := by
  have hr0 : ¬ ((c.rate : Int) = 0) := by omega
  have h1 : getNumOr s c.k1 c.burst = (lastTokens c s : Int) := by
    unfold getNumOr lastTokens; cases s.get c.k1 <;> rfl
  have h2 : getNumOr s c.k2 0 = (lastRefreshed c s : Int) := by
    unfold getNumOr lastRefreshed; cases s.get c.k2 <;> rfl
  have hT : ttlFixed c.rate c.burst ≠ 0 := by unfold ttlFixed; omega
  rw [tokenScript_fixed]
  unfold tokenScriptI
  simp only [hr0, if_false, ttl_cast c.rate c.burst, h1, h2, filled_cast]
  rw [show min c.burst (lastTokens c s + (now - lastRefreshed c s) * c.rate) = filledTokens c s now from rfl]
  generalize filledTokens c s now = F
  by_cases ha : n ≤ F
  · simp [ha, Store.setex, hT, show ¬ ((F : Int) - (n : Int) < 0) by omega,
      show ((F : Int) - (n : Int)).toNat = F - n by omega]
  · simp [ha, Store.setex, hT]

/-- **The script text in the tree is the model's `tokenScript true`**: for every limiter configuration with `rate ≥ 1`,
every store, every caller second and request size, running the CURRENT tokenscript.lua on
`KEYS = [tokenKey, timestampKey]`, `ARGV = [rate, burst, now, n]` (the order `tie_tokenScriptCall` pins) gives exactly
what the model's script gives — the object of `token_refines_bucket` / `token_rate_bound`. -/
theorem tie_tokenLua_model (c : TCfg) (hr : 0 < c.rate) (s : Store) (now n : Nat) :
    runScript tokenLuaToks [c.k1, c.k2] [(c.rate : Int), (c.burst : Int), (now : Int), (n : Int)] s
      = tokenScript true c s now n := by
  rw [tie_tokenLua_sem, tokenScriptI_is_tokenScript c hr]


/-- the two values of a limiter as the integer model sees them -/
def zOf (s : Store) (k1 k2 : String) : ZBucket :=
  ⟨(s.get k1).map fun e => (e.val : Int), (s.get k2).map fun e => (e.val : Int)⟩

theorem zOf_put_put (s : Store) (k1 k2 : String) (hk : k1 ≠ k2) (a b d : Nat) (hd : s.clock < d) :
    zOf ((s.put k1 ⟨a, some d⟩).put k2 ⟨b, some d⟩) k1 k2 = ⟨some (a : Int), some (b : Int)⟩ := by
  unfold zOf
  simp [get_eq, find_put, hk, Entry.live, hd]

/-- **The integer model of the driver's `tokenz` sections is the interpreted script**: wherever the store model can hold
the values (nothing negative is written), `tokenScriptZ` (negative rate / burst / n included) makes the same decision and
stores the same two values as the script text in the tree (`tie_tokenLua_sem`), with the TTL `ttlZ`. -/
theorem tokenScriptI_agrees_with_Z (s : Store) (k1 k2 : String) (hk : k1 ≠ k2) (rate cap now req : Int) (s' : Store) (a : Bool)
    (h : tokenScriptI s k1 k2 rate cap now req = some (s', a)) :
    (tokenScriptZ rate cap now req (zOf s k1 k2)).2 = a ∧
    (tokenScriptZ rate cap now req (zOf s k1 k2)).1 = zOf s' k1 k2 ∧
    (s'.find k1).bind (·.exp) = some (s.clock + (ttlZ rate cap).toNat * 1000) := by
  unfold tokenScriptI at h
  by_cases hr : rate = 0
  · simp [hr] at h
  · simp only [hr, if_false] at h
    have hG1 : getNumOr s k1 cap = ((zOf s k1 k2).tok.getD cap) := by
      unfold getNumOr zOf; cases s.get k1 <;> simp
    have hG2 : getNumOr s k2 0 = ((zOf s k1 k2).ts.getD 0) := by
      unfold getNumOr zOf; cases s.get k2 <;> simp
    rw [hG1, hG2] at h
    generalize hz : zOf s k1 k2 = z at h ⊢
    unfold tokenScriptZ
    generalize hF : min cap (z.tok.getD cap + max 0 (now - z.ts.getD 0) * rate) = F at h ⊢
    have hT : (max 1 ((cap * 2).fdiv rate)) = ttlZ rate cap := by unfold ttlZ; rw [Int.mul_comm]
    rw [hT] at h
    have hT0 : ¬ ((ttlZ rate cap).toNat = 0) := by unfold ttlZ; omega
    by_cases hg : (if decide (req ≤ F) = true then F - req else F) < 0 ∨ now < 0
    · rw [if_pos hg] at h; cases h
    · rw [if_neg hg] at h
      simp only [Store.setex, hT0, if_false, Option.some.injEq, Prod.mk.injEq] at h
      obtain ⟨h1, h2⟩ := h
      subst h1
      have hnn : 0 ≤ (if decide (req ≤ F) = true then F - req else F) ∧ 0 ≤ now := by omega
      refine ⟨h2, ?_, by simp [find_put, hk]⟩
      rw [clock_put, zOf_put_put s k1 k2 hk _ _ _ (by omega)]
      simp only [Int.toNat_of_nonneg hnn.1, Int.toNat_of_nonneg hnn.2]

/-- **periodscript.lua in the tree is the model's `periodScript`** (the file is lexed by the extractor,
parsed and interpreted in Lean — `LuaSem.lean`, `TieSem.tie_periodLua_sem`): for every store, key and ALL
integer arguments, running the current script text on `KEYS = [prefix+key]`, `ARGV = [quota, window]` gives exactly what
the natural-number model of the period theorems gives on `quota.toNat`, `window.toNat` (what Redis makes of
non-positive values). -/
theorem tie_periodLua_model (s : Store) (key : String) (quota window : Int) :
    Lua.runScript periodLuaToks [key] [quota, window] s
      = some ((periodScript s key quota.toNat window.toNat).1, ((periodScript s key quota.toNat window.toNat).2 : Int)) := by
  rw [TieSem.tie_periodLua_sem, PropsPath.periodScriptZ_is_periodScript]

end GoZero.C03.TieLua
