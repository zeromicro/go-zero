/-
C03 — the script-evaluation path of the store client (core/stores/redis/redis.go) under both limiters:

    PeriodLimit.TakeCtx / TokenLimiter.reserveN
      → Redis.ScriptRunCtx(ctx, script, keys, args)        getRedis(s) — error ⇒ (nil, err), nothing is sent
          → script.Run(ctx, conn, keys, args...).Result()   go-redis: EVALSHA; iff the error starts with NOSCRIPT: EVAL
      → reply decoding (`takeResult` / `reserveDecide`)

and `Redis.Ping` / `PingCtx` (what the monitor goroutine of a TokenLimiter asks).

The link between client and server is in one of five states (the harness' fault modes); the server keeps a script
cache (`loaded`: it knows the script's SHA1; SCRIPT FLUSH / a restart clears it, EVAL fills it).
A round trip that is answered with an error executes nothing on the store (an error reply of the server); a reply
lost AFTER an execution is modelled apart, at the end of this file (`PSys.takeLost`, `Sys.reserveLost`).
Core Lean only.
-/
import GoZero.C03.Model
namespace GoZero.C03

inductive Link where
  | up            -- every command is served
  | down          -- every command is answered with an error
  | noscript      -- EVALSHA is answered `NOSCRIPT …` (hash unknown), EVAL is served (the reload path)
  | noscriptDown  -- EVALSHA is answered `NOSCRIPT …`, the EVAL that follows is answered with an error
  | shaDown       -- EVALSHA is answered with an error that is NOT NOSCRIPT; an EVAL would be served
  deriving Repr, DecidableEq

/-- does a script call end with the script executed? -/
def Link.serves : Link → Bool
  | .up | .noscript => true
  | _ => false

inductive Trip where
  | evalsha | eval
  deriving Repr, DecidableEq

def Trip.str : Trip → String
  | .evalsha => "evalsha" | .eval => "eval"

structure Conn where
  link   : Link := .up
  loaded : Bool := true
  deriving Repr, DecidableEq

/-- `Redis.ScriptRunCtx`: result = ((store, connection) afterwards, reply — `none` = `(nil, err)` —, round trips sent).
`typeOk = false`: `getRedis` rejects the configured type, nothing is sent.  `exec` = one atomic execution of the script. -/
def scriptRun {σ ρ : Type} (typeOk : Bool) (c : Conn) (exec : σ → σ × ρ) (s : σ) : (σ × Conn) × Option ρ × List Trip :=
  if !typeOk then ((s, c), none, [])
  else match c.link with
    | .down => ((s, c), none, [.evalsha])
    | .shaDown => ((s, c), none, [.evalsha])                       -- not NOSCRIPT ⇒ no EVAL
    | .noscriptDown => ((s, c), none, [.evalsha, .eval])           -- the reload fails: still an error
    | .noscript => (((exec s).1, { c with loaded := true }), some (exec s).2, [.evalsha, .eval])
    | .up =>
      if c.loaded then (((exec s).1, c), some (exec s).2, [.evalsha])
      else (((exec s).1, { c with loaded := true }), some (exec s).2, [.evalsha, .eval])

/-- `Redis.PingCtx`: `getRedis` error ⇒ false; command error ⇒ false; else `v == "PONG"`.
`reply = none`: the PING was answered with an error. -/
def pingResult (typeOk : Bool) (reply : Option String) : Bool :=
  if !typeOk then false
  else match reply with
    | none => false
    | some v => v == "PONG"

/-! ### PeriodLimit.TakeCtx over the script path -/

structure PVSys where
  store : Store
  conn  : Conn
  deriving Repr, DecidableEq

def PVSys.init : PVSys := ⟨Store.empty, {}⟩

def respOf : Option Nat → Resp
  | some v => .int v
  | none => .err

/-- `TakeCtx` = decode (`takeResult`) ∘ `ScriptRunCtx(periodScript, [prefix+key], [quota, window])` -/
def PVSys.take (quota period : Nat) (typeOk : Bool) (v : PVSys) (key : String) : PVSys × (Code × PErr) × List Trip :=
  let r := scriptRun typeOk v.conn (fun s => periodScript s key quota period) v.store
  (⟨r.1.1, r.1.2⟩, takeResult (respOf r.2.1), r.2.2)

inductive PVOp where
  | ft (ms : Nat)
  | take (key : String)
  | link (l : Link)
  | flush                 -- SCRIPT FLUSH (or a server restart that keeps the data): the cache forgets the script
  deriving Repr, DecidableEq

def PVSys.step (quota period : Nat) (v : PVSys) : PVOp → PVSys × Option (Code × PErr)
  | .ft ms => ({ v with store := v.store.advance ms }, none)
  | .take k => let r := v.take quota period true k; (r.1, some r.2.1)
  | .link l => ({ v with conn := { v.conn with link := l } }, none)
  | .flush => ({ v with conn := { v.conn with loaded := false } }, none)

def PVSys.run (quota period : Nat) : PVSys → List PVOp → List (Option (Code × PErr))
  | _, [] => []
  | v, op :: ops => (v.step quota period op).2 :: PVSys.run quota period (v.step quota period op).1 ops

/-- what the op means for the reachable/unreachable model of `PSys` (on which the period theorems are stated) -/
def PVOp.abs : PVOp → POp
  | .ft ms => .ft ms
  | .take k => .take k
  | .link l => if l.serves then .up else .down
  | .flush => .ft 0

/-! ### TokenLimiter.reserveN: the reply table -/

/-- what `ScriptRunCtx(tokenScript, …)` handed back, as `reserveN` distinguishes it -/
inductive TReply where
  | int (v : Int)     -- an integer reply (the script returned `true` ⇒ 1)
  | nilReply          -- `redis.Nil`: the script returned `false` (Lua false ⇒ nil bulk reply)
  | ctxErr            -- context.DeadlineExceeded / context.Canceled
  | err               -- any other error
  | other             -- a reply that is not an integer
  deriving Repr, DecidableEq

inductive TDecision where
  | deny | grant
  | rescue            -- `startMonitor()` and the in-process limiter decides
  deriving Repr, DecidableEq

/-- the if-chain of `reserveN` after the script call, in source order -/
def reserveDecide : TReply → TDecision
  | .nilReply => .deny
  | .ctxErr => .deny
  | .err => .rescue
  | .other => .rescue
  | .int v => if v = 1 then .grant else .deny

/-- Redis' conversion of the script's boolean result -/
def luaBoolReply (allowed : Bool) : TReply := if allowed then .int 1 else .nilReply

/-- the reply of a token-script call over the path: an error on the path is `.err`, a script error is `.err` -/
def tokenReplyOf : Option (Option Bool) → TReply
  | none => .err
  | some none => .err
  | some (some b) => luaBoolReply b

/-! ### replies the server sends WITHOUT running the script (round 5)

Every outcome kind of the remote party: a server (or a proxy in front of it) may answer an EVALSHA with something the
scripts never return.  Nothing is executed on the store; exactly one round trip is made. -/

inductive Forged where
  | str                -- a bulk string: `resp.(int64)` fails
  | int (v : Int)      -- an integer
  | nil                -- a nil bulk reply: go-redis reports the error `redis.Nil`
  deriving Repr, DecidableEq

/-- how `TakeCtx` sees it (`redis.Nil` is an error like any other there) -/
def Forged.resp : Forged → Resp
  | .str => .other | .int v => .int v | .nil => .err

/-- how `reserveN` sees it -/
def Forged.treply : Forged → TReply
  | .str => .other | .int v => .int v | .nil => .nilReply

/-- what a caller's context does to the script call of an instance on the store path -/
inductive CtxKind where
  | background         -- no deadline, not cancelled
  | future             -- a deadline later than the call lasts: like `background`
  | cancelled          -- cancelled before the call: `context.Canceled`, nothing is sent
  | expired            -- deadline passed before the call: `context.DeadlineExceeded`, nothing is sent
  deriving Repr, DecidableEq

def CtxKind.sends : CtxKind → Bool
  | .background | .future => true
  | _ => false

/-- `TakeCtx` under every context kind and every reply kind: a context error is an error reply -/
def takeOutcome (k : CtxKind) (reply : Resp) : Code × PErr :=
  if k.sends then takeResult reply else takeResult .err

/-- `reserveN` (instance on the store path) under every context kind and every reply kind -/
def reserveOutcome (k : CtxKind) (reply : TReply) : TDecision :=
  if k.sends then reserveDecide reply else reserveDecide .ctxErr

/-- `TokenLimiter.reserveN` of instance `i` when the server answers with a forged reply -/
def Sys.reserveForged (c : TCfg) (s : Sys) (i ns n : Nat) (f : Forged) : Sys × Ev :=
  let inst := s.insts i
  if !inst.alive then s.rescuePath c i inst ns n                      -- redisAlive == 0: nothing is sent
  else match reserveDecide f.treply with
    | .rescue => s.rescuePath c i inst.startMonitor ns n
    | .grant => (s, ⟨i, .store, ns, n, true⟩)
    | .deny => (s, ⟨i, .store, ns, n, false⟩)

/-! ### the delegating entry points and constructors (round 5)

`Allow()` = `AllowN(time.Now(), 1)`, `AllowCtx(ctx)` = `AllowNCtx(ctx, time.Now(), 1)`, `AllowN(now, n)` =
`reserveN(context.Background(), now, n)`, `AllowNCtx(ctx, now, n)` = `reserveN(ctx, now, n)`: what reaches `reserveN`. -/

structure ReserveArgs where
  ctx : CtxKind
  ns  : Nat
  n   : Nat
  deriving Repr, DecidableEq

/-- `wall` = the reading of `time.Now()` the entry point makes -/
def allowArgs (wall : Nat) : ReserveArgs := ⟨.background, wall, 1⟩
def allowCtxArgs (ctx : CtxKind) (wall : Nat) : ReserveArgs := ⟨ctx, wall, 1⟩
def allowNArgs (ns n : Nat) : ReserveArgs := ⟨.background, ns, n⟩
def allowNCtxArgs (ctx : CtxKind) (ns n : Nat) : ReserveArgs := ⟨ctx, ns, n⟩

/-- `reserveN(ctx, now, n)` with the context kind: a context that sends nothing leaves an instance on the store path
untouched and refuses; an instance in rescue mode never looks at the context -/
def Sys.reserveArgs (fixed : Bool) (c : TCfg) (s : Sys) (i : Nat) (a : ReserveArgs) : Sys × Ev :=
  if (s.insts i).alive && !a.ctx.sends then (s, ⟨i, .store, a.ns, a.n, false⟩)
  else s.reserveN fixed c i a.ns a.n

/-- `NewTokenLimiter(rate, burst, store, key)`: the two keys (`fmt.Sprintf(tokenFormat, key)`, `…timestampFormat…`) -/
def newTokenCfg (rate burst : Nat) (key : String) : TCfg :=
  ⟨rate, burst, "{" ++ key ++ "}.tokens", "{" ++ key ++ "}.ts"⟩

/-- `NewPeriodLimit(period, quota, store, keyPrefix, opts...)`: the only option is `Align()` -/
structure PLim where
  period : Int
  quota  : Int
  pre    : String
  align  : Bool
  deriving Repr, DecidableEq

inductive POpt where
  | align
  deriving Repr, DecidableEq

def POpt.apply (l : PLim) : POpt → PLim
  | .align => { l with align := true }

def newPeriodLimit (period quota : Int) (pre : String) (opts : List POpt) : PLim :=
  opts.foldl POpt.apply ⟨period, quota, pre, false⟩

/-- `TakeCtx(ctx, key)` of a constructed limiter at local wall-clock second `unix`:
`none` = the call panics (`Align()` with period 0); the Redis key is `keyPrefix + key`, the limit `quota`, the window
`calcExpireSeconds()` (what Redis makes of non-positive values: `toNat`) -/
def PLim.take (l : PLim) (unix : Int) (v : PVSys) (key : String) : Option (PVSys × (Code × PErr) × List Trip) :=
  match calcExpireZ l.align l.period unix with
  | none => none
  | some w => some (v.take l.quota.toNat w.toNat true (l.pre ++ key))

/-! ### round 5c: a reply lost AFTER the script ran

The caller's deadline (or the client's read timeout) expires while the script call is in flight: the server has executed
the script — or not, the caller cannot know — and the caller gets an error instead of the reply.  The model takes the
case the earlier rounds excluded: the script HAS run.  What the caller sees: `context.DeadlineExceeded` (a context
error) or an i/o timeout (any other error). -/

inductive LostKind where
  | deadline      -- the error is context.DeadlineExceeded
  | timeout       -- the error is an i/o timeout (not a context error)
  deriving Repr, DecidableEq

/-- `TakeCtx` whose reply is lost after the script ran: the counter moved, the caller gets `(Unknown, err)` -/
def PSys.takeLost (quota period : Nat) (s : PSys) (key : String) : PSys × (Code × PErr) :=
  if s.up then ({ s with store := (periodScript s.store key quota period).1 }, takeResult .err)
  else (s, takeResult .err)

/-- `reserveN` of instance `i` whose reply is lost after the script ran (`redisAlive = 1`, store reachable): the bucket
was charged if the script allowed; a context error refuses, any other error is a store failure (`startMonitor`, the
local limiter decides this request) -/
def Sys.reserveLost (c : TCfg) (s : Sys) (i ns n : Nat) (k : LostKind) : Sys × Ev :=
  let inst := s.insts i
  if !inst.alive || !s.up then s.reserveN true c i ns n                -- nothing in flight that could be lost
  else
    match tokenScript true c s.store (ns / nsPerSec) n with
    | none => s.reserveN true c i ns n
    | some r =>
      let s1 : Sys := { s with store := r.1 }
      match k with
      | .deadline => (s1, ⟨i, .store, ns, n, false⟩)
      | .timeout => s1.rescuePath c i inst.startMonitor ns n

/-! ### round 5c: the store client's type switch and its breaker's view of errors -/

/-- `getRedis`: the client types that yield a connection (`NodeType`, `ClusterType`); anything else is an error -/
def typeSupported (t : String) : Bool := t == "node" || t == "cluster"

/-- the errors a script call can end with, as the code distinguishes them -/
inductive ErrClass where
  | none          -- no error
  | redisNil      -- redis.Nil: the token script returned false
  | canceled      -- context.Canceled
  | deadline      -- context.DeadlineExceeded
  | other         -- anything else (refused connection, error reply, i/o timeout, unsupported type …)
  deriving Repr, DecidableEq

/-- `acceptable`: what the client's circuit breaker does NOT count as a failure -/
def breakerAccepts : ErrClass → Bool
  | .none | .redisNil | .canceled => true
  | .deadline | .other => false

/-- how `reserveN` reads the error of the script call (`TReply` for the non-integer / integer replies) -/
def ErrClass.treply : ErrClass → Option TReply
  | .none => Option.none
  | .redisNil => some .nilReply
  | .canceled => some .ctxErr
  | .deadline => some .ctxErr
  | .other => some .err

end GoZero.C03
