/-
C03 — Tie: what the extractor read from core/limit/* at build time equals what the model was written against.
A failing obligation here means the code moved away from the model.
-/
import GoZero.Extracted.C03
import GoZero.C03.Model
namespace GoZero.C03.Tie
open GoZero.C03
open GoZero.Extracted.C03

theorem extraction_clean : extractionErrors = [] := rfl

/-- periodscript.lua, statement by statement, is the script `periodScript` models. -/
theorem tie_periodLua : periodLua = periodLuaStmts := rfl

/-- tokenscript.lua, statement by statement, is the script `tokenScript true` models
(in particular `ttl = math.max(1, math.floor(fill_time*2))`). -/
theorem tie_tokenLua : tokenLua = tokenLuaStmts := rfl

/-- the internal reply codes are the ones `takeResult` switches on, with the property's meaning -/
theorem tie_internalCodes :
    takeResult (.int internalOverQuota) = (.overQuota, .nil) ∧
    takeResult (.int internalAllowed) = (.allowed, .nil) ∧
    takeResult (.int internalHitQuota) = (.hitQuota, .nil) := ⟨rfl, rfl, rfl⟩

/-- the exported codes in iota order are the model's `Code.toNat` numbering (printed by the harness) -/
theorem tie_publicCodes :
    publicCodes = ["Unknown", "Allowed", "HitQuota", "OverQuota"] ∧
    Code.unknown.toNat = 0 ∧ Code.allowed.toNat = 1 ∧ Code.hitQuota.toNat = 2 ∧ Code.overQuota.toNat = 3 := ⟨rfl, rfl, rfl, rfl, rfl⟩

/-- `TakeCtx`: error ⇒ `(Unknown, err)`; non-integer ⇒ `ErrUnknownCode`; the switch; default ⇒ `ErrUnknownCode` -/
theorem tie_takeShape : takeShape =
    ["resp, err := h.limitStore.ScriptRunCtx(…)", "if err != nil {", "return Unknown, err", "}",
     "code, ok := resp.(int64)", "if !ok {", "return Unknown, ErrUnknownCode", "}",
     "switch code {", "case internalOverQuota:", "return OverQuota, nil", "case internalAllowed:",
     "return Allowed, nil", "case internalHitQuota:", "return HitQuota, nil", "default:",
     "return Unknown, ErrUnknownCode", "}"] := rfl

/-- the script gets KEYS = [prefix+key], ARGV = [quota, expire seconds] in this order -/
theorem tie_periodScriptCall : periodScriptCall =
    ["ctx", "periodScript", "|", "h.keyPrefix + key", "|", "strconv.Itoa(h.quota)",
     "strconv.Itoa(h.calcExpireSeconds())"] := rfl

/-- `calcExpireSeconds`, every statement: with `Align()` the window is `period - (now.Unix()+offset) % period`
(`calcExpireZ true`), without it `h.period` -/
theorem tie_calcExpire : calcExpireShape = calcExpireStmts := rfl

/-- `Take` is `TakeCtx` with the background context; `Align()` sets exactly the `align` flag; `NewPeriodLimit` stores
its arguments in the fields of the same name (period ↔ quota not swapped) -/
theorem tie_periodWrappers :
    takeWrapShape = ["return h.TakeCtx(context.Background(), key)"] ∧
    alignShape = ["return func(l *PeriodLimit) { l.align = true }"] ∧
    periodInit = ["period", "quota", "limitStore", "keyPrefix"] := ⟨rfl, rfl, rfl⟩

/-- the script gets KEYS = [tokens, ts], ARGV = [rate, burst, now.Unix(), n] in this order -/
theorem tie_tokenScriptCall : tokenScriptCall =
    ["ctx", "tokenScript", "|", "lim.tokenKey", "lim.timestampKey", "|", "strconv.Itoa(lim.rate)",
     "strconv.Itoa(lim.burst)", "strconv.FormatInt(now.Unix(), 10)", "strconv.Itoa(n)"] := rfl

/-- a new limiter is alive, its rescue limiter is `Every(time.Second/rate)` with `burst`
(`Rescue.init`, `TCfg.ival`), and the two keys are distinct formats of the same key -/
theorem tie_limiterInit :
    limiterInit = ["1", "xrate.NewLimiter(xrate.Every(time.Second/time.Duration(rate)), burst)", "tokenKey", "timestampKey"] ∧
    tokenFormat = "{%s}.tokens" ∧ timestampFormat = "{%s}.ts" := ⟨rfl, rfl, rfl⟩

/-- `reserveN`: rescue mode ⇒ local limiter; redis.Nil ⇒ false; ctx errors ⇒ false; other error or a
non-integer reply ⇒ `startMonitor` + local limiter; else `code == 1` (`Sys.reserveN`) -/
theorem tie_reserveShape : reserveShape =
    ["if atomic.LoadUint32(&lim.redisAlive) == 0 {", "return lim.rescueLimiter.AllowN(now, n)", "}",
     "resp, err := lim.store.ScriptRunCtx(…)", "if errors.Is(err, redis.Nil) {", "return false", "}",
     "if errorx.In(err, context.DeadlineExceeded, context.Canceled) {", "return false", "}",
     "if err != nil {", "lim.startMonitor()", "return lim.rescueLimiter.AllowN(now, n)", "}",
     "code, ok := resp.(int64)", "if !ok {", "lim.startMonitor()", "return lim.rescueLimiter.AllowN(now, n)", "}",
     "return code == 1"] := rfl

/-- `startMonitor` (`Inst.startMonitor`) -/
theorem tie_startMonitorShape : startMonitorShape =
    ["lim.rescueLock.Lock()", "defer lim.rescueLock.Unlock()", "if lim.monitorStarted {", "return", "}",
     "lim.monitorStarted = true", "atomic.StoreUint32(&lim.redisAlive, 0)", "go lim.waitForRedis()"] := rfl

/-- `waitForRedis` (`TOp.pingOk`, `TOp.monExit`) -/
theorem tie_waitForRedisShape : waitForRedisShape =
    ["ticker := time.NewTicker(…)", "defer func{", "ticker.Stop()", "lim.rescueLock.Lock()",
     "lim.monitorStarted = false", "lim.rescueLock.Unlock()", "}", "for range ticker.C {",
     "if lim.store.Ping() {", "atomic.StoreUint32(&lim.redisAlive, 1)", "return", "}", "}"] := rfl

theorem tie_allowNShape : allowNShape = ["return lim.reserveN(context.Background(), now, n)"] := rfl

/-- the other entry points pass their arguments through unchanged (`n`, `now`, the context), `Allow`/`AllowCtx` ask for
one token at `time.Now()`; `NewTokenLimiter` stores rate, burst and store in the fields of the same name -/
theorem tie_tokenWrappers :
    allowNCtxShape = ["return lim.reserveN(ctx, now, n)"] ∧
    allowShape = ["return lim.AllowN(time.Now(), 1)"] ∧
    allowCtxShape = ["return lim.AllowNCtx(ctx, time.Now(), 1)"] ∧
    limiterFields = ["rate", "burst", "store"] := ⟨rfl, rfl, rfl, rfl⟩

end GoZero.C03.Tie
