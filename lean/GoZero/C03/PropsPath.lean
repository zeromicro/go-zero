/-
C03 — property theorems about the script-evaluation path (core/stores/redis/redis.go: ScriptRunCtx, getRedis, the
EVALSHA → NOSCRIPT → EVAL fallback of go-redis' Script.Run, PingCtx), composed with the limiters' reply decoding,
and the end-to-end theorems per clause of the property (call site → wrapper → script path → script → store).
-/
import GoZero.C03.ScriptRun
import GoZero.C03.LuaSem
import GoZero.C03.Props
import GoZero.C03.ProofsToken
namespace GoZero.C03.PropsPath
open GoZero.C03 Spec

/-- the two ways a call ends: it fails and leaves store and connection alone (unsupported client type, or a link that
does not serve), or the script ran exactly once and its result is the reply (the NOSCRIPT → EVAL reload included) -/
theorem scriptRun_cases {σ ρ : Type} (typeOk : Bool) (c : Conn) (exec : σ → σ × ρ) (s : σ) :
    ((typeOk = false ∨ c.link.serves = false) ∧
      (scriptRun typeOk c exec s).1 = (s, c) ∧ (scriptRun typeOk c exec s).2.1 = none) ∨
    (typeOk = true ∧ c.link.serves = true ∧ (scriptRun typeOk c exec s).1.1 = (exec s).1 ∧
      (scriptRun typeOk c exec s).2.1 = some (exec s).2 ∧ (scriptRun typeOk c exec s).1.2.link = c.link) := by
  obtain ⟨link, loaded⟩ := c
  cases typeOk <;> cases link <;> cases loaded <;> simp [scriptRun, Link.serves]

/-- **One call executes the script at most once**, and when it does, the reply is the script's own result:
`EVALSHA` answered NOSCRIPT executed nothing, so the `EVAL` that follows is the only execution. -/
theorem script_run_at_most_once {σ ρ : Type} (typeOk : Bool) (c : Conn) (exec : σ → σ × ρ) (s : σ) :
    ((scriptRun typeOk c exec s).1.1 = s ∧ (scriptRun typeOk c exec s).2.1 = none) ∨
    ((scriptRun typeOk c exec s).1.1 = (exec s).1 ∧ (scriptRun typeOk c exec s).2.1 = some (exec s).2) := by
  rcases scriptRun_cases typeOk c exec s with ⟨_, h1, h2⟩ | ⟨_, _, h1, h2, _⟩
  · exact Or.inl ⟨by rw [h1], h2⟩
  · exact Or.inr ⟨h1, h2⟩

/-- **A call that ends in an error has executed nothing**: whatever the state of the link and of the script cache
(also on the NOSCRIPT → EVAL reload path), if `ScriptRunCtx` returns `(nil, err)` the store is unchanged. -/
theorem script_run_error_executes_nothing {σ ρ : Type} (typeOk : Bool) (c : Conn) (exec : σ → σ × ρ) (s : σ)
    (h : (scriptRun typeOk c exec s).2.1 = none) : (scriptRun typeOk c exec s).1.1 = s := by
  rcases script_run_at_most_once typeOk c exec s with ⟨h1, _⟩ | ⟨_, h2⟩
  · exact h1
  · rw [h2] at h; cases h

/-- the round trips of one call: nothing, `EVALSHA`, or `EVALSHA` then `EVAL` — never two of a kind; the `EVAL` is sent
exactly when the `EVALSHA` was answered NOSCRIPT (unknown hash or a link in a NOSCRIPT mode) -/
theorem script_run_trips {σ ρ : Type} (typeOk : Bool) (c : Conn) (exec : σ → σ × ρ) (s : σ) :
    (scriptRun typeOk c exec s).2.2 =
      (if !typeOk then [] else
       if c.link = .noscript ∨ c.link = .noscriptDown ∨ (c.link = .up ∧ c.loaded = false) then [.evalsha, .eval]
       else [.evalsha]) := by
  unfold scriptRun
  cases typeOk <;> cases c with | mk link loaded => cases link <;> cases loaded <;> simp

example : (scriptRun true ⟨.up, false⟩ (fun (n : Nat) => (n + 1, n)) 5) = ((6, ⟨.up, true⟩), some 5, [.evalsha, .eval]) ∧
    (scriptRun true ⟨.noscriptDown, true⟩ (fun (n : Nat) => (n + 1, n)) 5) = ((5, ⟨.noscriptDown, true⟩), none, [.evalsha, .eval]) ∧
    (scriptRun true ⟨.shaDown, true⟩ (fun (n : Nat) => (n + 1, n)) 5) = ((5, ⟨.shaDown, true⟩), none, [.evalsha]) := by decide

/-- **`TakeCtx` over the path is `PSys.take`** with `up = link.serves`: the reload path (`noscript`, or an empty script
cache) is invisible, every failing path is "store unreachable" (`period_refines_spec_via` carries the
refinement theorem over to the store client in this way). -/
theorem take_via_is_take (quota period : Nat) (v : PVSys) (k : String) :
    (v.take quota period true k).1.store = ((⟨v.store, v.conn.link.serves⟩ : PSys).take quota period k).1.store ∧
    (v.take quota period true k).2.1 = ((⟨v.store, v.conn.link.serves⟩ : PSys).take quota period k).2 ∧
    (v.take quota period true k).1.conn.link = v.conn.link := by
  rcases scriptRun_cases true v.conn (fun s => periodScript s k quota period) v.store with
    ⟨hs, h1, h2⟩ | ⟨_, hs, h1, h2, h3⟩ <;> simp_all [PVSys.take, PSys.take, respOf]

/-- **A store error is reported as an error, never as a grant — on every path**: unsupported client type, link down,
`EVALSHA` failing, and the NOSCRIPT reload whose `EVAL` fails: `(Unknown, err)`, not granted, counter untouched. -/
theorem store_error_never_grants_on_any_path (quota period : Nat) (typeOk : Bool) (v : PVSys) (k : String)
    (h : typeOk = false ∨ v.conn.link.serves = false) :
    (v.take quota period typeOk k).2.1 = (Code.unknown, PErr.store) ∧
    granted (v.take quota period typeOk k).2.1 = false ∧
    (v.take quota period typeOk k).1.store = v.store := by
  rcases scriptRun_cases typeOk v.conn (fun s => periodScript s k quota period) v.store with
    ⟨_, h1, h2⟩ | ⟨ht, hs, _⟩
  · simp [PVSys.take, h1, h2, respOf, takeResult, granted]
  · simp [ht, hs] at h

example : (PVSys.take 3 5 true ⟨Store.empty, ⟨.noscriptDown, true⟩⟩ "a").2 = ((.unknown, .store), [.evalsha, .eval]) ∧
    (PVSys.take 3 5 true ⟨Store.empty, ⟨.noscript, true⟩⟩ "a").2 = ((.allowed, .nil), [.evalsha, .eval]) := by decide

theorem pvSys_run_abs (quota period : Nat) : ∀ (ops : List PVOp) (v : PVSys),
    PVSys.run quota period v ops = PSys.run quota period ⟨v.store, v.conn.link.serves⟩ (ops.map PVOp.abs) := by
  intro ops
  induction ops with
  | nil => intro v; rfl
  | cons op ops ih =>
    intro v
    simp only [PVSys.run, List.map, PSys.run, ih]
    cases op with
    | ft ms => rfl
    | take k =>
      obtain ⟨t1, t2, t3⟩ := take_via_is_take quota period v k
      simp only [PVOp.abs, PVSys.step, PSys.step, t1, t2, t3]
      congr 3
      simp only [PSys.take]; split <;> rfl
    | link l => cases hl : l.serves <;> simp [PVOp.abs, PVSys.step, PSys.step, hl]
    | flush => simp [PVOp.abs, PVSys.step, PSys.step, advance_zero]

/-- **End to end (clause "exactly the first quota requests … until the period expires … a store error is an error"):**
for every quota, every period ≥ 1 and EVERY sequence of takes (any keys), clock advances, link states (served, down,
NOSCRIPT reload served, NOSCRIPT reload failing, EVALSHA failing) and script-cache flushes, the replies of
`TakeCtx` over `ScriptRunCtx` over the script over the store are the replies of the specification by lives, where a
take on a failing link is answered `(Unknown, err)` and does not count. -/
theorem period_refines_spec_via (quota period : Nat) (hp : 1 ≤ period) (ops : List PVOp) :
    PVSys.run quota period PVSys.init ops = SpecSys.run quota period SpecSys.init (ops.map PVOp.abs) := by
  rw [pvSys_run_abs]
  exact Props.period_refines_spec quota period hp _

example : PVSys.run 2 1 PVSys.init [.flush, .take "a", .link .noscript, .take "a", .link .noscriptDown, .take "a",
      .link .shaDown, .take "a", .link .up, .take "a", .ft 1000, .take "a"]
    = [none, some (.allowed, .nil), none, some (.hitQuota, .nil), none, some (.unknown, .store), none,
       some (.unknown, .store), none, some (.overQuota, .nil), none, some (.allowed, .nil)] := by decide

/-- the only reply that grants from the store is the integer 1 -/
theorem reserve_grants_only_on_one (r : TReply) : reserveDecide r = .grant ↔ r = .int 1 := by
  cases r with
  | int v => by_cases h : v = 1 <;> simp [reserveDecide, h]
  | _ => simp [reserveDecide]

/-- the script's boolean arrives as 1 / `redis.Nil` and is decoded back to itself; a store error is never a grant
and never a plain denial: the local limiter decides (`rescue`) -/
theorem reserve_lua_bool (b : Bool) :
    reserveDecide (luaBoolReply b) = (if b then .grant else .deny) ∧ reserveDecide .err = .rescue ∧
    reserveDecide .other = .rescue ∧ reserveDecide .ctxErr = .deny := by
  cases b <;> simp [reserveDecide, luaBoolReply]

/-- **`Sys.reserveN` follows the reply table**: for an instance on the store path, the deciding bucket and the
decision are `reserveDecide` applied to what the script path hands back. -/
theorem reserveN_follows_reply_table (c : TCfg) (s : Sys) (i ns n : Nat) (ha : (s.insts i).alive = true) :
    let reply := tokenReplyOf (if s.up then some ((tokenScript true c s.store (ns / nsPerSec) n).map (·.2)) else none)
    ((s.reserveN true c i ns n).2.route = .rescue ↔ reserveDecide reply = .rescue) ∧
    ((s.reserveN true c i ns n).2.route = .store →
      ((s.reserveN true c i ns n).2.ok = true ↔ reserveDecide reply = .grant)) := by
  simp only [Sys.reserveN, ha]
  cases hu : s.up with
  | false => simp [tokenReplyOf, reserveDecide, Sys.rescuePath]
  | true =>
    cases ht : tokenScript true c s.store (ns / nsPerSec) n with
    | none => simp [tokenReplyOf, reserveDecide, Sys.rescuePath]
    | some r =>
      cases hb : r.2 <;> simp [tokenReplyOf, reserveDecide, luaBoolReply, hb]

/-- **While the store is unreachable the instance decides locally** and a monitor exists: the failed call touches
nothing in the store, switches the instance to its rescue limiter and leaves `monitorStarted` set. -/
theorem token_store_error_goes_local (fixed : Bool) (c : TCfg) (s : Sys) (i ns n : Nat) (hd : s.up = false) :
    (s.reserveN fixed c i ns n).2.route = .rescue ∧ (s.reserveN fixed c i ns n).1.store = s.store ∧
    ((s.insts i).alive = true → ((s.reserveN fixed c i ns n).1.insts i).monitor = true ∧
      ((s.insts i).monitor = false → ((s.reserveN fixed c i ns n).1.insts i).alive = false)) := by
  unfold Sys.reserveN
  cases ha : (s.insts i).alive <;> cases hm : (s.insts i).monitor <;>
    simp [hd, Sys.rescuePath, Inst.startMonitor, upd, ha, hm]

/-- `Ping()` says true only when the PING came back as PONG: an error on the path keeps the instance in rescue mode -/
theorem ping_true_only_on_pong (typeOk : Bool) (reply : Option String) :
    pingResult typeOk reply = true ↔ (typeOk = true ∧ reply = some "PONG") := by
  cases typeOk <;> cases reply <;> simp [pingResult]

/-- **The script on integers is the script on `toNat`s**: Lua compares `current ≥ 1` with `limit` (so every
`limit ≤ 0` behaves like 0: always OverQuota) and `EXPIRE key w` with `w ≤ 0` deletes the key (like 0). This is why
the natural-number theorems of Props.lean apply to `quota.toNat` / `window.toNat` of the Go ints. -/
theorem periodScriptZ_is_periodScript (s : Store) (k : String) (limit window : Int) :
    periodScriptZ s k limit window =
      ((periodScript s k limit.toNat window.toNat).1, ((periodScript s k limit.toNat window.toNat).2 : Int)) := by
  -- the counter is at least 1 after INCRBY, so comparing it with `limit` and with `limit.toNat` gives the same
  have hcur := incrby_pos s k
  unfold periodScriptZ periodScript
  generalize s.incrby k 1 = r at hcur
  grind

example : periodScriptZ Store.empty "a" (-3) 5 = ((Store.empty.put "a" ⟨1, some 5000⟩), 0) ∧
    (periodScriptZ Store.empty "a" 2 (-5)).1.get "a" = none := by decide

end GoZero.C03.PropsPath
