/-
C14 — the property theorems: one or more per clause of the property, about `transactCtx env f b`, the model of
`commonSqlConn.TransactCtx` (the other entry points: `runEntry`), for every environment, driver fault plan and body;
with test vectors as `example`s beside them.  Docstrings name the trial changes to go-zero a theorem excludes:
"seeded change C14-n" is seeded/C14-n (table in DESIGN.md), "mutation Mnn" is props/C14.mutations/Mnn-*.diff.
-/
import GoZero.C14.Proofs
namespace GoZero.C14.Props
open GoZero.C14 GoZero.C14.Spec

/-- an environment that lets the request through -/
def envOk : Env := { ctxDone := false, brkAllow := true, connOk := true, userAccept := {} }

/-- **One Begin, the body's statements, exactly one Commit/Rollback — or nothing.**
If the transaction can be opened the driver sees exactly `<Begin attempts answered ErrBadConn>, Begin,
<statement calls of the body>, end` where `end` is the single Commit or Rollback and is the last call, and the
body ran once — whatever the body does, wherever the context is cancelled, and also when the driver's
Commit/Rollback panics.  Otherwise the driver sees only refused Begin attempts (none if the request was not
admitted), no statement, no Commit, no Rollback, and the body did not run. -/
theorem ends_exactly_once (env : Env) (f : Faults) (b : Body) :
    (opened env f = true →
      (transactCtx env f b).log = badPrefix f.badConn (.begin true :: ((runBody b).1 ++ [endEvent f b])) ∧
      (runBody b).1.all isStmt = true ∧ isEnd (endEvent f b) = true ∧
      count isBegin (transactCtx env f b).log = 1 ∧ count isEnd (transactCtx env f b).log = 1 ∧
      (transactCtx env f b).log.getLast? = some (endEvent f b) ∧ (transactCtx env f b).runs = 1) ∧
    (opened env f = false →
      (transactCtx env f b).log = (if env.admitted then refusedBegins f else []) ∧
      count isBeginOk (transactCtx env f b).log = 0 ∧
      count isStmt (transactCtx env f b).log = 0 ∧ count isEnd (transactCtx env f b).log = 0 ∧
      (transactCtx env f b).runs = 0 ∧ (transactCtx env f b).body = .notRun) := by
  have hall := runBody_all b
  constructor
  · intro h
    rw [transactCtx_opened h]
    simp [count, badPrefix_eq, all_isStmt_only hall, isEnd_endEvent, isEnd_only (isEnd_endEvent f b), hall, List.filter_cons, List.filter_append,
      getLast?_cons_snoc]
  · intro h
    rw [transactCtx_not_opened h]
    simp only [count, List.length_eq_zero_iff, List.filter_eq_nil_iff, true_and, and_true]
    refine ⟨?_, ?_, ?_⟩ <;> intro a ha <;> rcases mem_not_opened_log _ _ _ ha with rfl | rfl <;> simp

example : (transactCtx envOk { begin := true, commit := true, rollback := false }
    { stmts := [⟨.exec, false, false⟩, ⟨.query, true, true⟩, ⟨.exec, false, false⟩], fin := .ok }).log
    = [.begin true, .exec 0 true, .query 1 false, .rollback false] := rfl

/-- the context is cancelled before the second statement: it never reaches the driver, the body returns
context.Canceled, the transaction is rolled back on the driver (the seeded change C14-2 loses this Rollback) -/
example : transactCtx envOk { begin := true, commit := true, rollback := true }
    { stmts := [⟨.exec, false, true⟩, ⟨.exec, false, true⟩, ⟨.exec, false, true⟩], fin := .ok, cancelAt := some 1 }
    = { log := [.begin true, .exec 0 true, .rollback true], runs := 1, body := .err (Err.of .ctx),
        ret := some (Err.of .ctx), mark := some true } := rfl

example : (transactCtx envOk { begin := true, commit := true, rollback := true, badConn := 2 }
    { stmts := [], fin := .ok }).log = [.beginBad, .beginBad, .begin true, .commit true] := rfl

/-- **At most one transaction is ever opened**, however often the driver answers Begin with
driver.ErrBadConn: go-zero calls `db.Begin()` once; inside it database/sql makes at most `maxBeginAttempts`
attempts, each refused one on a connection it discards, and at most one of them opens a transaction — exactly
when `opened`. -/
theorem begins_at_most_one_transaction (env : Env) (f : Faults) (b : Body) :
    count isBeginOk (transactCtx env f b).log = (if opened env f then 1 else 0) ∧
    count isBegin (transactCtx env f b).log ≤ 1 ∧
    count isBeginBad (transactCtx env f b).log ≤ maxBeginAttempts := by
  have hall := runBody_all b
  cases ho : opened env f
  · rw [transactCtx_not_opened ho]
    cases env.admitted <;> simp [count, refusedBegins]
    unfold Faults.givesUp maxBeginAttempts
    split
    · decide
    · rename_i hg
      simp only [decide_eq_true_eq] at hg
      simp [badPrefix_eq, List.filter_cons, List.filter_replicate]
      exact ⟨by rintro a (⟨-, rfl⟩ | rfl) <;> rfl, by omega⟩
  · have hg : f.badConn < maxBeginAttempts := by
      simpa [Faults.givesUp] using ((opened_iff env f).mp ho).2.2.2.1
    rw [transactCtx_opened ho]
    simp [count, badPrefix_eq, all_isStmt_only hall, isEnd_only (isEnd_endEvent f b), List.filter_cons, List.filter_append,
      List.filter_replicate]
    omega

example : (transactCtx envOk { begin := false, commit := true, rollback := true, badConn := 2 }
    { stmts := [⟨.exec, false, true⟩], fin := .ok }) =
    { log := [.beginBad, .beginBad, .begin false], runs := 0, body := .notRun, ret := some (Err.of .begin),
      mark := some false } := rfl

/-- **The body is not run if the transaction cannot begin** (and runs exactly once if it can). -/
theorem body_runs_iff_begun (env : Env) (f : Faults) (b : Body) :
    (transactCtx env f b).runs = (if opened env f then 1 else 0) ∧
    ((transactCtx env f b).body = .notRun ↔ opened env f = false) := by
  cases ho : opened env f
  · rw [transactCtx_not_opened ho]; simp
  · rw [transactCtx_opened ho]; simpa using runBody_ne_notRun b

example : (transactCtx envOk { begin := false, commit := true, rollback := true }
    { stmts := [⟨.exec, false, false⟩], fin := .ok }).runs = 0 := rfl
example : (transactCtx envOk { begin := true, commit := true, rollback := true, badConn := 3 }
    { stmts := [⟨.exec, false, false⟩], fin := .ok }) =
    { log := [.beginBad, .beginBad, .beginBad], runs := 0, body := .notRun, ret := some (Err.of .badConn),
      mark := some false } := rfl

/-- **Commit if and only if the body returned nil.** -/
theorem commit_iff_body_ok (env : Env) (f : Faults) (b : Body) :
    (∃ c, Ev.commit c ∈ (transactCtx env f b).log) ↔ (opened env f = true ∧ (runBody b).2 = .nil) := by
  simp only [mem_log_end env f b (x := .commit _) rfl, endEvent]
  cases (runBody b).2 <;> simp

example : (∃ c, Ev.commit c ∈ (transactCtx envOk { begin := true, commit := false, rollback := true }
    { stmts := [], fin := .ok }).log) := ⟨false, by decide⟩

/-- **Rollback if (and only if) the body returned an error or panicked.** -/
theorem rollback_iff_body_failed (env : Env) (f : Faults) (b : Body) :
    (∃ c, Ev.rollback c ∈ (transactCtx env f b).log) ↔
      (opened env f = true ∧ ((runBody b).2 = .panic ∨ ∃ e, (runBody b).2 = .err e)) := by
  have hne := runBody_ne_notRun b
  simp only [mem_log_end env f b (x := .rollback _) rfl, endEvent]
  cases h : (runBody b).2 <;> simp_all

example : Ev.rollback true ∈ (transactCtx envOk { begin := true, commit := true, rollback := true }
    { stmts := [⟨.exec, true, true⟩], fin := .ok }).log := by decide

/-- **A context that ends while the body runs changes nothing about the ending**: the statements made after
it never reach the driver, and the transaction is still ended by exactly the one Commit (body returned nil) or
Rollback (body returned the context's error, any other error, or panicked) that reaches the driver. -/
theorem cancelled_body_still_ends (env : Env) (f : Faults) (b : Body) (k : Nat)
    (ho : opened env f = true) (hc : b.cancelAt = some k) :
    (transactCtx env f b).log = badPrefix f.badConn (.begin true :: ((runBody b).1 ++ [endEvent f b])) ∧
    (∀ i ok, k ≤ i → Ev.exec i ok ∉ (runBody b).1 ∧ Ev.query i ok ∉ (runBody b).1) ∧
    ((runBody b).2 = .nil → endEvent f b = .commit f.commitOk) ∧
    ((runBody b).2 ≠ .nil → endEvent f b = .rollback f.rollbackOk) := by
  refine ⟨by rw [transactCtx_opened ho], ?_, endEvent_nil, endEvent_ne_nil⟩
  intro i ok hik
  have hrb : (runBody b).1 = (runStmts (some k) b.deadline 0 b.stmts).1 := by
    unfold runBody; rw [hc]; split <;> rfl
  rw [hrb]
  constructor <;> intro hm <;> obtain ⟨i', ok', h, hcan⟩ := runStmts_not_cancelled _ _ _ _ _ hm <;>
    rcases h with h | h <;> cases h <;> simp [cancelled] at hcan <;> omega

/-- **A panic of the body is rolled back and reported as an error** (never swallowed as success, never
committed); a failing rollback is reachable in the returned error as well.  (If the driver's Rollback itself
panics, that panic leaves the call: see `driver_panic_escapes`.) -/
theorem panic_is_error_and_rolled_back (env : Env) (f : Faults) (b : Body)
    (ho : opened env f = true) (hp : (runBody b).2 = .panic) :
    (transactCtx env f b).log = badPrefix f.badConn (.begin true :: ((runBody b).1 ++ [.rollback f.rollbackOk])) ∧
    (∀ c, Ev.commit c ∉ (transactCtx env f b).log) ∧
    (f.rollbackPanics = false →
      (∃ e, (transactCtx env f b).ret = some e ∧ e.mentions .panic = true ∧
            (f.rollback = false → .rollback f.rollbackCls ∈ e.is)) ∧
      (transactCtx env f b).escaped = false ∧
      (transactCtx env f b).mark = some (!f.rollback && clsAcceptable env.userAccept f.rollbackCls)) := by
  have he : endEvent f b = .rollback f.rollbackOk := endEvent_ne_nil (by simp [hp])
  rw [transactCtx_opened ho, he, hp]
  refine ⟨rfl, ?_, ?_⟩
  · intro c; simp [mem_opened_log (x := Ev.commit c) rfl (runBody_all b)]
  · intro hrp
    cases hr : f.rollback <;> simp [endRet, endEscapes, hrp, hr, Err.mentions, acceptable, srcAcceptable]

example : (transactCtx envOk { begin := true, commit := true, rollback := false }
    { stmts := [⟨.exec, false, false⟩], fin := .panic }).ret
    = some { is := [.rollback .plain], says := [.panic] } := rfl

/-- **The returned error is nil only when the commit succeeded** — and exactly then:
nil ⇔ a successful Commit reached the driver ⇔ opened ∧ body returned nil ∧ the driver accepted Commit
(without panicking).  A call that leaves by a panic of the driver never counts as nil. -/
theorem nil_only_if_commit_ok (env : Env) (f : Faults) (b : Body) :
    ((transactCtx env f b).ret = none ↔ Ev.commit true ∈ (transactCtx env f b).log) ∧
    ((transactCtx env f b).ret = none ↔ (opened env f = true ∧ (runBody b).2 = .nil ∧ f.commitOk = true)) ∧
    ((transactCtx env f b).escaped = true → (transactCtx env f b).ret ≠ none) := by
  rw [mem_log_end env f b (x := .commit true) rfl]
  cases ho : opened env f
  · rw [transactCtx_not_opened ho]; simp
  · rw [transactCtx_opened ho]
    simp only [endEvent]
    cases h : (runBody b).2 with
    | notRun => exact absurd h (runBody_ne_notRun b)
    | nil =>
      simp only [endRet, endEscapes, Faults.commitOk]
      by_cases hc : f.commit = true <;> by_cases hp : f.commitPanics = true <;> simp [hc, hp]
    | _ => simp only [endRet, endEscapes]; by_cases hp : f.rollbackPanics = true <;> simp [hp]

example : (transactCtx envOk { begin := true, commit := false, rollback := true }
    { stmts := [], fin := .ok }).ret = some (Err.of (.commit .plain)) := rfl
/-- the context expired before the last statement, the body ignored every error and returned nil: committed, nil -/
example : transactCtx envOk { begin := true, commit := true, rollback := true }
    { stmts := [⟨.exec, false, false⟩, ⟨.query, false, false⟩], fin := .ok, cancelAt := some 1, deadline := true }
    = { log := [.begin true, .exec 0 true, .commit true], runs := 1, body := .nil, ret := none,
        mark := some true } := rfl

/-- **Commit and rollback failures are reported to the caller**: whenever the driver refused the Commit
(Rollback) — by an error or by panicking — the caller does not get nil and the driver's error is reachable in
the returned chain (`errors.Is`), respectively is the panic value the call leaves with. -/
theorem termination_failures_reported (env : Env) (f : Faults) (b : Body) :
    (Ev.commit false ∈ (transactCtx env f b).log →
        ∃ e, (transactCtx env f b).ret = some e ∧
          Src.commit (if f.commitPanics then .plain else f.commitCls) ∈ e.is) ∧
    (Ev.rollback false ∈ (transactCtx env f b).log →
        ∃ e, (transactCtx env f b).ret = some e ∧
          Src.rollback (if f.rollbackPanics then .plain else f.rollbackCls) ∈ e.is) := by
  have hne := runBody_ne_notRun b
  simp only [mem_log_end env f b (x := .commit false) rfl, mem_log_end env f b (x := .rollback false) rfl, endEvent]
  -- a refused ending call means a transaction was opened
  constructor <;> rintro ⟨ho, he⟩ <;> rw [transactCtx_opened ho] <;> revert he <;>
    cases h : (runBody b).2 <;> simp only [endRet, Faults.commitOk, Faults.rollbackOk, reduceCtorEq, false_imp_iff]
  · by_cases hc : f.commit = true <;> by_cases hp : f.commitPanics = true <;> simp [hc, hp, Err.of]
  · exact absurd h hne
  all_goals by_cases hc : f.rollback = true <;> by_cases hp : f.rollbackPanics = true <;> simp [hc, hp, Err.of]

example : (transactCtx envOk { begin := true, commit := true, rollback := false }
    { stmts := [], fin := .err .noRows }).ret
    = some { is := [.rollback .plain], says := [.body .noRows] } := rfl

/-- **A panic of the driver's own Commit / Rollback is the only way the call does not return**: it happens
exactly when a transaction was opened and the ending call the body's outcome selects panics; the driver saw
that one ending call (so the transaction was still ended exactly once, by `ends_exactly_once`), the panic value
is the driver's, and `acceptable` is not consulted (the breaker books a failure in its deferred function). -/
theorem driver_panic_escapes (env : Env) (f : Faults) (b : Body) :
    ((transactCtx env f b).escaped = true ↔
      (opened env f = true ∧ (((runBody b).2 = .nil ∧ f.commitPanics = true) ∨
                              ((runBody b).2 ≠ .nil ∧ f.rollbackPanics = true)))) ∧
    ((transactCtx env f b).escaped = true →
      (transactCtx env f b).mark = none ∧
      (((runBody b).2 = .nil ∧ (transactCtx env f b).ret = some (Err.of (.commit .plain)) ∧
          (transactCtx env f b).log.getLast? = some (.commit false)) ∨
       ((runBody b).2 ≠ .nil ∧ (transactCtx env f b).ret = some (Err.of (.rollback .plain)) ∧
          (transactCtx env f b).log.getLast? = some (.rollback false)))) := by
  cases ho : opened env f
  · rw [transactCtx_not_opened ho]; simp
  · rw [transactCtx_opened ho]
    cases h : (runBody b).2 with
    | notRun => exact absurd h (runBody_ne_notRun b)
    | nil =>
      simp only [endRet, endEscapes, endEvent, h, Faults.commitOk]
      by_cases hp : f.commitPanics = true <;> simp [hp, badPrefix_eq, getLast?_cons_snoc]
    | _ =>
      simp only [endRet, endEscapes, endEvent, h, Faults.rollbackOk]
      by_cases hp : f.rollbackPanics = true <;> simp [hp, badPrefix_eq, getLast?_cons_snoc]

example : transactCtx envOk { begin := true, commit := true, rollback := true, commitPanics := true }
    { stmts := [⟨.exec, false, true⟩], fin := .ok }
    = { log := [.begin true, .exec 0 true, .commit false], runs := 1, body := .nil,
        ret := some (Err.of (.commit .plain)), mark := none, escaped := true } := rfl

/-- **The body's error is what the caller gets** when the rollback works (same identity), and is still
told (in the message) when the rollback fails too. -/
theorem body_error_returned (env : Env) (f : Faults) (b : Body) (e : Err)
    (ho : opened env f = true) (hb : (runBody b).2 = .err e) (hq : f.rollbackPanics = false) :
    (f.rollback = true → (transactCtx env f b).ret = some e) ∧
    (f.rollback = false → (transactCtx env f b).ret = some { is := [.rollback f.rollbackCls], says := e.is ++ e.says }) := by
  rw [transactCtx_opened ho, hb]
  by_cases hr : f.rollback = true <;> simp [endRet, hq, hr]

example : (transactCtx envOk { begin := true, commit := true, rollback := true }
    { stmts := [⟨.exec, false, false⟩, ⟨.exec, true, true⟩, ⟨.exec, false, false⟩], fin := .ok }).ret
    = some (Err.of (.stmt 1)) := rfl

/-- **Statements run in order, each once, and nothing runs after a statement whose error the body
returned**, for bodies of every length (statements refused because the context is done make no driver call). -/
theorem statements_in_order (b : Body) :
    (runBody b).1 = eventsOf b.cancelAt 0 (executed b.cancelAt 0 b.stmts) := by
  unfold runBody
  split <;> exact runStmts_executed _ _ b.stmts 0

example : (runBody { stmts := [⟨.exec, false, false⟩, ⟨.nest, true, true⟩, ⟨.exec, false, false⟩], fin := .ok }).1
    = [.exec 0 true] := rfl

/-- **What the breaker is told**: `acceptable` is consulted exactly when the request was admitted and the
call returned; it then says success exactly when the returned error is nil or carries something acceptable
(sql.ErrNoRows, sql.ErrTxDone, context.Canceled, acceptableError, WithAcceptable) in its chain.  In particular a
failed Begin (also after ErrBadConn retries), Commit or Rollback, a deadline and a panic always count as
failures, a body that stops with context.Canceled does not. -/
theorem breaker_told (env : Env) (f : Faults) (b : Body) :
    (transactCtx env f b).mark =
      (if env.ctxDone || !env.brkAllow then none
       else if !env.connOk then some false
       else if (transactCtx env f b).escaped then none
       else some (acceptable env.userAccept (transactCtx env f b).ret)) ∧
    breakerTold env.userAccept (transactCtx env f b) = true ∧
    (Ev.begin false ∈ (transactCtx env f b).log → (transactCtx env f b).mark ≠ some true) ∧
    (Ev.commit false ∈ (transactCtx env f b).log → (transactCtx env f b).mark =
       if f.commitPanics then none else some (clsAcceptable env.userAccept f.commitCls)) ∧
    (Ev.rollback false ∈ (transactCtx env f b).log → (transactCtx env f b).mark =
       if f.rollbackPanics then none else some (clsAcceptable env.userAccept f.rollbackCls)) ∧
    ((transactCtx env f b).ret = some (Err.of .badConn) ∨ (transactCtx env f b).ret = some (Err.of .deadline) →
       (transactCtx env f b).mark ≠ some true) := by
  refine ⟨?_, breakerTold_ctx env f b, ?_⟩
  · unfold transactCtx markOf
    cases env.ctxDone <;> cases env.brkAllow <;> cases env.connOk <;> simp
  · simp only [mem_log_end env f b (x := .commit false) rfl, mem_log_end env f b (x := .rollback false) rfl]
    cases ho : opened env f
    · rw [transactCtx_not_opened ho]
      cases env.ctxDone <;> cases env.brkAllow <;> simp
    · rw [transactCtx_opened ho]
      -- an opened log holds no refused Begin, whatever the outcome
      refine ⟨fun h => ?_, ?_⟩
      · have hs := all_isStmt_only (runBody_all b)
        unfold endEvent at h
        split at h <;> simp [badPrefix_eq, hs] at h
      simp only [endEvent, true_and]
      cases h : (runBody b).2 with
      | notRun => exact absurd h (runBody_ne_notRun b)
      | nil =>
        simp only [endRet, endEscapes, Faults.commitOk]
        by_cases hc : f.commit = true <;> by_cases hp : f.commitPanics = true <;>
          simp [hc, hp, Err.of, acceptable, srcAcceptable]
      | _ =>
        simp only [endRet, endEscapes, Faults.rollbackOk]
        by_cases hc : f.rollback = true <;> by_cases hp : f.rollbackPanics = true <;>
          simp [hc, hp, Err.of, acceptable, srcAcceptable] <;>
          -- the body's own error came back: neither ErrBadConn nor a deadline is acceptable
          rintro (rfl | rfl) <;> simp

example : (transactCtx envOk { begin := true, commit := true, rollback := true }
    { stmts := [], fin := .err .noRows }).mark = some true := rfl
example : (transactCtx envOk { begin := true, commit := true, rollback := false }
    { stmts := [], fin := .err .noRows }).mark = some false := rfl
/-- the body stops with the deadline's error: rolled back, and a failure for the breaker -/
example : transactCtx envOk { begin := true, commit := true, rollback := true }
    { stmts := [⟨.query, false, true⟩], fin := .ok, cancelAt := some 0, deadline := true }
    = { log := [.begin true, .rollback true], runs := 1, body := .err (Err.of .deadline),
        ret := some (Err.of .deadline), mark := some false } := rfl

/-- a Commit refused with sql.ErrTxDone (class `txDone`): reported to the caller with its identity, and — this
is what `acceptable` does with ErrTxDone — booked as a success by the breaker -/
example : transactCtx envOk { begin := true, commit := false, rollback := true, commitCls := .txDone }
    { stmts := [], fin := .ok }
    = { log := [.begin true, .commit false], runs := 1, body := .nil, ret := some (Err.of (.commit .txDone)),
        mark := some true } := rfl
/-- a Rollback refused with an error only the SECOND WithAcceptable function accepts -/
example : (transactCtx { envOk with userAccept := { a1 := true, a2 := true } }
    { begin := true, commit := true, rollback := false, rollbackCls := .userOk2 }
    { stmts := [], fin := .panic }).mark = some true := rfl
example : (transactCtx { envOk with userAccept := { a1 := true } }
    { begin := true, commit := true, rollback := false, rollbackCls := .userOk2 }
    { stmts := [], fin := .panic }).mark = some false := rfl

/-- `commonSqlConn.TransactCtx` is exactly `brk.DoWithAcceptableCtx(ctx, transact, db.acceptable)`. -/
theorem transactCtx_is_wrapped_transact (env : Env) (f : Faults) (b : Body) :
    transactCtx env f b =
      brkDo env.ctxDone env.ctxDead env.brkAllow (acceptable env.userAccept) (transactFn env.connOk f b) := by
  unfold transactCtx brkDo transactFn markOf
  cases env.ctxDone <;> cases env.brkAllow <;> cases env.connOk <;> simp [acceptable, Err.of, srcAcceptable]

theorem holds_ctx (env : Env) (f : Faults) (b : Body) : holds (transactCtx env f b) = true :=
  transactCtx_is_wrapped_transact env f b ▸ holds_brkDo.1 holds_transactFn

/-- **The error returned by the wrapper is the transaction core's error, for every verdict of the breaker except
reject** — for EVERY acceptable function `acc` (so for `db.acceptable` with any `WithAcceptable` composition, and
whatever it answers: success, failure, or not consulted because the core left by a panic): the driver-call log,
the body runs, the body's outcome, the returned error and the escaping panic are those of `transact`.  Only a
context that is already done or a rejecting breaker replace it — by ctx.Err() / ErrServiceUnavailable, and then
nothing ran.  (The seeded change C14-4 — `acceptable` applied inside the request, acceptable errors turned into
nil — is the negation of the first conjunct.) -/
theorem wrapper_returns_core_error (ctxDone ctxDead brkAllow : Bool) (acc : Option Err → Bool) (core : Result) :
    (ctxDone = false → brkAllow = true →
      (brkDo ctxDone ctxDead brkAllow acc core).ret = core.ret ∧
      (brkDo ctxDone ctxDead brkAllow acc core).log = core.log ∧
      (brkDo ctxDone ctxDead brkAllow acc core).runs = core.runs ∧
      (brkDo ctxDone ctxDead brkAllow acc core).body = core.body ∧
      (brkDo ctxDone ctxDead brkAllow acc core).escaped = core.escaped ∧
      (brkDo ctxDone ctxDead brkAllow acc core).mark = (if core.escaped then none else some (acc core.ret))) ∧
    (ctxDone = false → brkAllow = false →
      brkDo ctxDone ctxDead brkAllow acc core =
        { log := [], runs := 0, body := .notRun, ret := some (Err.of .breaker), mark := none }) ∧
    (ctxDone = true →
      brkDo ctxDone ctxDead brkAllow acc core =
        { log := [], runs := 0, body := .notRun, ret := some (Err.of (ctxSrc ctxDead)), mark := none }) := by
  unfold brkDo
  cases ctxDone <;> cases brkAllow <;> simp

/-- … instantiated: `Transact*` returns exactly what `transact` returned whenever the request was let through,
in particular never nil for an error the breaker finds acceptable. -/
theorem transact_returns_core_error (env : Env) (f : Faults) (b : Body)
    (hc : env.ctxDone = false) (ha : env.brkAllow = true) :
    (transactCtx env f b).ret = (transactFn env.connOk f b).ret ∧
    (transactCtx env f b).log = (transactFn env.connOk f b).log ∧
    (transactCtx env f b).runs = (transactFn env.connOk f b).runs ∧
    (transactCtx env f b).escaped = (transactFn env.connOk f b).escaped ∧
    ((transactCtx env f b).mark = some true → (transactCtx env f b).ret = (transactFn env.connOk f b).ret) ∧
    ((transactFn env.connOk f b).ret ≠ none → (transactCtx env f b).ret ≠ none) := by
  rw [transactCtx_is_wrapped_transact]
  obtain ⟨h1, h2, h3, -, h5, -⟩ := (wrapper_returns_core_error _ env.ctxDead _ (acceptable env.userAccept)
    (transactFn env.connOk f b)).1 hc ha
  exact ⟨h1, h2, h3, h5, fun _ => h1, fun hne => h1 ▸ hne⟩

/-- the body returned ErrNotFound after a QueryRow that found no row: rolled back, ErrNotFound returned (not nil),
success for the breaker -/
example : transactCtx envOk { begin := true, commit := true, rollback := true }
    { stmts := [⟨.exec, false, true⟩, ⟨.rowq, false, true⟩, ⟨.exec, false, true⟩], fin := .ok }
    = { log := [.begin true, .exec 0 true, .query 1 true, .rollback true], runs := 1,
        body := .err (Err.of (.body .noRows)), ret := some (Err.of (.body .noRows)), mark := some true } := rfl

/-- **Every installed WithAcceptable function is consulted, none is dropped**: applying any number of
`WithAcceptable` options in order to a connection leaves `accept` nil when there are none, and otherwise a
function that answers `f1(err) || f2(err) || …` over all of them (and the function that was there before). -/
theorem withAcceptable_composes (fs : List (Option Err → Bool)) (cur : AccFn) (e : Option Err) :
    (fs.foldl withAcceptable cur).map (· e) =
      match cur with
      | none => if fs.isEmpty then none else some (fs.any (· e))
      | some g => some (g e || fs.any (· e)) := by
  induction fs generalizing cur with
  | nil => cases cur <;> simp
  | cons f fs ih =>
    rw [List.foldl_cons, ih]
    cases cur <;> simp [withAcceptable, Bool.or_assoc]

/-- the model's user function of a configuration is that composition of the installed functions -/
theorem uaFn_is_composition (ua : UA) (e : Option Err) :
    (uaFn ua).map (· e) = (ua.installed.foldl withAcceptable none).map (· e) := by
  obtain ⟨a1, a2⟩ := ua
  cases a1 <;> cases a2 <;> simp [uaFn, UA.installed, withAcceptable, userFn1, userFn2]

example : (([userFn1, userFn2].foldl withAcceptable none).map (· (some (Err.of (.body .userOk2))))) = some true := rfl

/-- the entry points the property anchors: `commonSqlConn.Transact` / `TransactCtx`, `sqlc.CachedConn.Transact` /
`TransactCtx` (delegating), and `Transact[Ctx]` of a connection made from a transaction's session
(`NewSqlConnFromSession`, `CachedConn.WithSession`, also over `NewSessionFromTx`) -/
inductive Entry
  | transact | transactCtx | cachedTransact | cachedTransactCtx | nested | nestedCtx
  deriving DecidableEq, Repr

/-- what each entry point does, read off its wiring (Tie: tie_wire_*, and semantically tie_forwarding_sem: the
typed argument lists of every hop composed for all caller contexts and bodies): the ctx-less ones call `TransactCtx` with
`context.Background()` — never done, nothing to cancel under the body —, the cached ones delegate unchanged, the
nested ones return `errCantNestTx` without touching anything. -/
def runEntry (ep : Entry) (env : Env) (f : Faults) (b : Body) : Result :=
  match ep with
  | .transactCtx | .cachedTransactCtx => transactCtx env f b
  | .transact | .cachedTransact =>
    transactCtx { env with ctxDone := false, ctxDead := false } f { b with cancelAt := none }
  | .nested | .nestedCtx => { log := [], runs := 0, body := .notRun, ret := some (Err.of .nest) }

/-- **End to end, every clause at every entry point**: call site → (delegation) → breaker wrapper →
`transact` → `transactOnConn`: all eleven clauses of the property and the breaker clause hold of what the entry
point does, for every environment, fault plan and body. -/
theorem every_entry_point_holds (ep : Entry) (env : Env) (f : Faults) (b : Body) :
    holds (runEntry ep env f b) = true ∧ violated (runEntry ep env f b) = [] ∧
    breakerTold env.userAccept (runEntry ep env f b) = true := by
  cases ep
  case nested | nestedCtx => exact ⟨rfl, rfl, rfl⟩
  case transactCtx | cachedTransactCtx =>
    exact ⟨holds_ctx env f b, violated_nil_of_holds _ (holds_ctx env f b), breakerTold_ctx env f b⟩
  case transact | cachedTransact =>
    exact ⟨holds_ctx _ f _, violated_nil_of_holds _ (holds_ctx _ f _),
      breakerTold_ctx { env with ctxDone := false, ctxDead := false } f _⟩

example : runEntry .cachedTransact { envOk with ctxDone := true } { begin := true, commit := true, rollback := true }
    { stmts := [⟨.exec, false, true⟩], fin := .ok, cancelAt := some 0 }
    = { log := [.begin true, .exec 0 true, .commit true], runs := 1, body := .nil, ret := none, mark := some true } := rfl

/-- **The executable monitor is sound**: every clause the driver evaluates on the real code's observations
holds of the model, for `TransactCtx` and for `transactOnConn`. -/
theorem monitor_sound (env : Env) (f : Faults) (b : Body) :
    holds (transactCtx env f b) = true ∧ holds (transactOnConn f b) = true ∧
    violated (transactCtx env f b) = [] ∧ violated (transactOnConn f b) = [] ∧
    breakerTold env.userAccept (transactCtx env f b) = true :=
  ⟨holds_ctx env f b, holds_onConn f b, violated_nil_of_holds _ (holds_ctx env f b),
   violated_nil_of_holds _ (holds_onConn f b), breakerTold_ctx env f b⟩

example : holds (transactCtx { envOk with userAccept := { a1 := true } } { begin := true, commit := false, rollback := false }
    { stmts := [⟨.query, true, false⟩, ⟨.nest, true, false⟩], fin := .err .userOk }) = true := rfl

/-- the monitor is not vacuous: what the seeded change C14-2 does (body returned an error under a done context,
no Rollback) violates ends-exactly-once and rollback-iff-body-failed -/
example : violated
    { log := [.begin true, .exec 0 true], runs := 1, body := .err (Err.of .ctx),
      ret := some (Err.of .ctx), mark := some true } = ["ends-exactly-once", "rollback-iff-body-failed"] := rfl

/-- the part of `commonSqlConn.acceptable` that does not depend on options -/
def builtinAcceptable (e : Option Err) : Bool :=
  e.isNone || hasCls e .noRows || hasCls e .txDone || hasCls e .canceled || hasCls e .accType

/-- `db.acceptable` of a connection built with ANY list of `WithAcceptable` options, in option order:
`db.accept` is what the option closures leave (`foldl withAcceptable none`); nil means "not acceptable" -/
def acceptableOf (fs : List (Option Err → Bool)) (e : Option Err) : Bool :=
  builtinAcceptable e ||
    match fs.foldl withAcceptable none with
    | none => false
    | some g => g e

theorem acceptableOf_eq (fs : List (Option Err → Bool)) (e : Option Err) :
    acceptableOf fs e = (builtinAcceptable e || fs.any (· e)) := by
  have h := withAcceptable_composes fs none e
  unfold acceptableOf
  cases hf : fs.foldl withAcceptable none <;> cases fs <;> simp_all

theorem brkDo_mark_only (cd dd ba : Bool) (acc acc' : Option Err → Bool) (core : Result) :
    brkDo cd dd ba acc core = { brkDo cd dd ba acc' core with mark := (brkDo cd dd ba acc core).mark } := by
  unfold brkDo; cases cd <;> cases ba <;> simp

/-- **Every option set, every constructor argument.**  For a connection built by either constructor with ANY
list `fs` of `WithAcceptable` functions (arbitrary functions of the error, any number, any order), any connection
provider answer, any breaker verdict and context state: `TransactCtx` = the breaker wrapper around `transact`
with `db.acceptable` satisfies all eleven clauses, returns exactly what the configuration-free model returns
(log, runs, body, error, escaping panic: options never change the transaction), and the breaker is told
`nil ∨ builtin-acceptable ∨ f₁(err) ∨ … ∨ fₙ(err)` — every installed function is consulted. -/
theorem all_option_sets_hold (fs : List (Option Err → Bool)) (env : Env) (f : Faults) (b : Body) :
    holds (brkDo env.ctxDone env.ctxDead env.brkAllow (acceptableOf fs) (transactFn env.connOk f b)) = true ∧
    violated (brkDo env.ctxDone env.ctxDead env.brkAllow (acceptableOf fs) (transactFn env.connOk f b)) = [] ∧
    brkDo env.ctxDone env.ctxDead env.brkAllow (acceptableOf fs) (transactFn env.connOk f b) =
      { transactCtx env f b with
        mark := (brkDo env.ctxDone env.ctxDead env.brkAllow (acceptableOf fs) (transactFn env.connOk f b)).mark } ∧
    (∀ m, (brkDo env.ctxDone env.ctxDead env.brkAllow (acceptableOf fs) (transactFn env.connOk f b)).mark = some m →
      m = (builtinAcceptable (transactCtx env f b).ret || fs.any (· (transactCtx env f b).ret))) := by
  have hh : holds (brkDo env.ctxDone env.ctxDead env.brkAllow (acceptableOf fs) (transactFn env.connOk f b)) = true :=
    holds_brkDo.1 holds_transactFn
  rw [transactCtx_is_wrapped_transact]
  refine ⟨hh, violated_nil_of_holds _ hh, brkDo_mark_only .., fun m hmk => ?_⟩
  unfold brkDo at hmk ⊢
  cases h1 : env.ctxDone <;> cases h2 : env.brkAllow <;> simp [h1, h2] at hmk ⊢
  obtain ⟨_, h⟩ := hmk
  rw [← h, acceptableOf_eq]

/-- the model's two-function configurations are instances of it -/
theorem acceptable_is_acceptableOf (ua : UA) (e : Option Err) :
    acceptable ua e = acceptableOf ua.installed e := by
  rw [acceptable_probes, acceptableOf_eq]
  obtain ⟨a1, a2⟩ := ua
  cases a1 <;> cases a2 <;> simp [builtinAcceptable, UA.installed, userFn1, userFn2, Bool.or_assoc]

example : acceptableOf [fun e => hasCls e .userOk2, fun _ => false] (some (Err.of (.rollback .userOk2))) = true := rfl

/-- **No second transaction, no second run of the body — at every entry point**, whatever error any fault point
produced (the model has no retry: a statement, Commit or Rollback answered driver.ErrBadConn is an ordinary
error; the seeded change C14-7 re-ran `transactOnConn` on such an error). -/
theorem no_second_transaction (ep : Entry) (env : Env) (f : Faults) (b : Body) :
    (runEntry ep env f b).runs ≤ 1 ∧ count isBeginOk (runEntry ep env f b).log ≤ 1 ∧
    count isBegin (runEntry ep env f b).log ≤ 1 ∧ count isEnd (runEntry ep env f b).log ≤ 1 := by
  have key : ∀ (env : Env) (b : Body), (transactCtx env f b).runs ≤ 1 ∧ count isBeginOk (transactCtx env f b).log ≤ 1 ∧
      count isBegin (transactCtx env f b).log ≤ 1 ∧ count isEnd (transactCtx env f b).log ≤ 1 := by
    intro env b
    have h1 := begins_at_most_one_transaction env f b
    have h2 := (body_runs_iff_begun env f b).1
    have h3 := ends_exactly_once env f b
    cases ho : opened env f
    · have := h3.2 ho; simp [ho] at h1 h2; omega
    · have := h3.1 ho; simp [ho] at h1 h2; omega
  cases ep
  case nested | nestedCtx => simp [runEntry, count]
  all_goals exact key _ _

/-- what the seeded change C14-7 did (statement answered ErrBadConn, rolled back, everything done again) -/
example : violated
    { log := [.begin true, .exec 0 false, .rollback true, .begin true, .exec 0 false, .rollback true],
      runs := 2, body := .err (Err.of (.stmt 0)), ret := some (Err.of (.stmt 0)), mark := some false }
    = ["begins-once", "ends-exactly-once", "body-runs-iff-begun"] := rfl

/-- what the seeded change C14-6 did (a non-error panic swallowed by a wrapper around the body: committed, nil) -/
example : violated { log := [.begin true, .commit true], runs := 1, body := .panic, ret := none }
    = ["commit-iff-body-ok", "rollback-iff-body-failed", "panic-reported"] := rfl

/-- one call of a section: entry point, which of the two connections, environment, fault plan, body -/
structure Call where
  ep : Entry
  second : Bool
  env : Env
  f : Faults
  b : Body

/-- the calls of a section, in order, on two connections built with their own options: each call sees the options
of ITS connection; nothing else is carried from one call to the next (the breaker's history is the `brkAllow`
input of each call) -/
def runCalls (ua0 ua1 : UA) (cs : List Call) : List Result :=
  cs.map fun c => runEntry c.ep { c.env with userAccept := if c.second then ua1 else ua0 } c.f c.b

/-- **Every call of every sequence**, on either connection, through any entry point, after any history: all
clauses hold and the breaker is told what the connection's OWN options say. -/
theorem call_sequences_hold (ua0 ua1 : UA) (cs : List Call) :
    (runCalls ua0 ua1 cs).all (fun r => holds r) = true ∧
    (runCalls ua0 ua1 cs).length = cs.length ∧
    ∀ c ∈ cs, breakerTold (if c.second then ua1 else ua0)
      (runEntry c.ep { c.env with userAccept := if c.second then ua1 else ua0 } c.f c.b) = true := by
  refine ⟨?_, by simp [runCalls], ?_⟩
  · simp only [runCalls, List.all_map, List.all_eq_true]
    intro c _
    exact (every_entry_point_holds c.ep _ c.f c.b).1
  · intro c _
    exact (every_entry_point_holds c.ep { c.env with userAccept := if c.second then ua1 else ua0 } c.f c.b).2.2

example : (runCalls { a1 := true } {} [⟨.transact, false, envOk, { begin := true, commit := true, rollback := true }, { stmts := [], fin := .err .userOk }⟩,
    ⟨.transact, true, envOk, { begin := true, commit := true, rollback := true }, { stmts := [], fin := .err .userOk }⟩]).map (·.mark)
    = [some true, some false] := rfl

/-- **A statement's error reaches the body, and a body that returns it stops there**: a nested Transact / RawDB
of a session connection (never reaches the driver), a QueryRow that finds no row, a driver fault (also one that
wraps driver.ErrBadConn, also a refused Prepare) and any statement made under a done context yield an error; if
the body returns it, that error is the body's outcome, only the driver calls up to this statement were made and
nothing after it runs — whatever follows in the body. -/
theorem statement_errors_reach_the_body (c : Option Nat) (dl : Bool) (i : Nat) (s : Stmt) (rest : List Stmt) :
    ((s.kind = .nest ∨ s.kind = .rowq ∨ s.fails = true ∨ cancelled c i = true) → s.failingAt c i = true) ∧
    (s.kind = .nest → stmtEvAt c i s = []) ∧
    (s.failingAt c i = true → s.prop = true →
      runStmts c dl i (s :: rest) = (stmtEvAt c i s, some (stmtSrcAt c dl i s))) ∧
    (s.failingAt c i = false → (runStmts c dl i (s :: rest)).2 = (runStmts c dl (i + 1) rest).2) := by
  refine ⟨?_, ?_, ?_, ?_⟩
  · intro h
    unfold Stmt.failingAt
    rcases h with h | h | h | h <;> simp [h]
  · intro h; simp [stmtEvAt, h]
  · intro h1 h2; simp [runStmts, h1, h2]
  · intro h; simp [runStmts, h]

example : (runBody { stmts := [⟨.exec, false, true⟩, ⟨.exec, true, true⟩, ⟨.query, false, true⟩], fin := .ok }) =
    ([.exec 0 true, .exec 1 false], .err (Err.of (.stmt 1))) := rfl

/-- **Finding.**  Options `WithAcceptable(f), WithAcceptable(nil)`: the pinned option closure installs
`pre(err) || nil(err)`; for every error `f` does not accept the verdict evaluation calls the nil function. -/
theorem witness_nil_option_is_called (e : Option Err) (h : userFn1 e = false) :
    (([liftFn userFn1, none].foldl withAcceptablePinned none).map (· e)) = some none := by
  simp [withAcceptablePinned, liftFn, h]

/-- … so `Transact` leaves by a panic although the transaction ended in an orderly way (rolled back, the body's
error known): the clause orderly-return is violated on the pinned code. -/
theorem witness_nil_option_violates_orderly_return :
    violated (brkDoP (fun e => match [liftFn userFn1, none].foldl withAcceptablePinned none with
                               | some g => g e | none => some false)
      (transactFn true { begin := true, commit := true, rollback := true } { stmts := [], fin := .err .plain }))
      = ["orderly-return"] := by decide

/-- alone or BEFORE a real function a nil argument is harmless also in the pinned code -/
theorem pinned_nil_first_is_harmless (g : Option Err → Bool) :
    [none, liftFn g].foldl withAcceptablePinned none = liftFn g ∧
    [none].foldl withAcceptablePinned none = (none : AccFnP) := by
  simp [withAcceptablePinned, liftFn]

theorem fixed_step (cur : AccFn) (g : Option Err → Bool) :
    withAcceptableFixed (liftAcc cur) (liftFn g) = liftAcc (withAcceptable cur g) := by
  cases cur with
  | none => rfl
  | some pre =>
    simp only [withAcceptableFixed, liftFn, withAcceptablePinned, liftAcc, withAcceptable, Option.map]
    congr 1
    funext e
    cases pre e <;> rfl

/-- **With the patch every nil option is ignored**: for any list of options, nil ones anywhere, the installed
verdict function is the composition (`withAcceptable`) of the non-nil ones in order — never a nil call; so
`all_option_sets_hold` applies to every option list. -/
theorem fixed_nil_options_ignored (fs : List (Option (Option Err → Bool))) (cur : AccFn) :
    (fs.map (fun o => o.elim none liftFn)).foldl withAcceptableFixed (liftAcc cur) =
      liftAcc ((fs.filterMap id).foldl withAcceptable cur) := by
  induction fs generalizing cur with
  | nil => rfl
  | cons o fs ih =>
    cases o with
    | none =>
      simp only [List.map_cons, List.foldl_cons, Option.elim, List.filterMap_cons, id]
      have : withAcceptableFixed (liftAcc cur) none = liftAcc cur := rfl
      rw [this]; exact ih cur
    | some g =>
      simp only [List.map_cons, List.foldl_cons, Option.elim, List.filterMap_cons, id]
      rw [fixed_step]; exact ih _

example : ([some userFn1, none, some userFn2].map (fun o => o.elim none liftFn)).foldl withAcceptableFixed none
    = liftAcc ([userFn1, userFn2].foldl withAcceptable none) := fixed_nil_options_ignored _ none

/-- without nil arguments the pinned and the patched closure are the same -/
theorem pinned_eq_fixed_without_nil (cur : AccFnP) (g : Option Err → Option Bool) :
    withAcceptablePinned cur (some g) = withAcceptableFixed cur (some g) := rfl

theorem holdsX_of_holds (r : Result) (h : holds r = true) : holdsX r = true := by
  simp only [holds, nilIffCommitOk, Bool.and_eq_true] at h
  cases hr : r.ret.isNone <;> simp_all [holdsX, nilOnlyIfCommitOk]

/-- the body ended the raw Tx: its end is the last driver call, go-zero's own is refused by database/sql before the driver -/
theorem transactOnConnX_raw {f : Faults} {b : BodyX} (h : b.reaches f = true) :
    ∃ r, transactOnConnX f b =
      { log := badPrefix f.badConn (.begin true :: ((runBody b.base).1 ++ [rawEv r])), runs := 1,
        body := (runBody b.base).2, ret := some (retAfterRawEnd (runBody b.base).2) } := by
  unfold transactOnConnX
  cases hr : b.raw with
  | none => simp [BodyX.reaches, hr] at h
  | some r => exact ⟨r, by simp [h]⟩

theorem transactOnConnX_not_reached (f : Faults) (b : BodyX) (h : b.reaches f = false) :
    transactOnConnX f b = transactOnConn f b.base := by
  unfold transactOnConnX
  cases hr : b.raw with
  | none => rfl
  | some r => simp [h]

theorem holdsX_raw (b : Body) (r : RawEnd) (n : Nat) (m : Option Bool) :
    holdsX { log := badPrefix n (.begin true :: ((runBody b).1 ++ [rawEv r])), runs := 1, body := (runBody b).2,
             ret := some (retAfterRawEnd (runBody b).2), mark := m } = true := by
  have hne := runBody_ne_notRun b
  rw [(holds_opened_log (runBody_all b) rfl).2]
  generalize (runBody b).2 = out at *
  unfold rawEv
  cases out with
  | notRun => exact absurd rfl hne
  | err e =>
    cases r.commit <;>
      simp [holdsX, beginsOnce, endsExactlyOnce, bodyRunsIffBegun, panicReported, nilOnlyIfCommitOk,
        bodyErrorReported, orderlyReturn, beginFailureReported, begun, count, retIs, reports, retAfterRawEnd,
        Err.mentions, List.filter_cons] <;>
      (intro s hs; simp [hs])
  | _ => cases r.commit <;> rfl

theorem holdsX_onConnX (f : Faults) (b : BodyX) : holdsX (transactOnConnX f b) = true := by
  cases h : b.reaches f
  · rw [transactOnConnX_not_reached f b h]; exact holdsX_of_holds _ (holds_onConn f b.base)
  · obtain ⟨r, hx⟩ := transactOnConnX_raw h
    rw [hx]; exact holdsX_raw b.base r _ _

/-- **`TransactCtx` over the extended domain, in closed form**: unless the request is admitted and the body gets as
far as its raw end it is `transactCtx` of the base body … -/
theorem transactCtxX_base {env : Env} {f : Faults} {b : BodyX} (h : (env.admitted && b.reaches f) = false) :
    transactCtxX env f b = transactCtx env f b.base := by
  rw [transactCtx_is_wrapped_transact]
  unfold transactCtxX transactFnX transactFn
  cases hr : b.reaches f
  · rw [transactOnConnX_not_reached f b hr]
  · unfold Env.admitted at h
    unfold brkDo
    cases h1 : env.ctxDone <;> cases h2 : env.brkAllow <;> cases h3 : env.connOk <;> simp_all

/-- … and else the run the body ended itself, which the breaker books as a success (sql.ErrTxDone is acceptable). -/
theorem transactCtxX_raw {env : Env} {f : Faults} {b : BodyX} (h : (env.admitted && b.reaches f) = true) :
    ∃ r, transactCtxX env f b =
      { log := badPrefix f.badConn (.begin true :: ((runBody b.base).1 ++ [rawEv r])), runs := 1,
        body := (runBody b.base).2, ret := some (retAfterRawEnd (runBody b.base).2), mark := some true } := by
  unfold Env.admitted at h
  simp only [Bool.and_eq_true, Bool.not_eq_true'] at h
  obtain ⟨ha, h⟩ := h
  obtain ⟨r, hx⟩ := transactOnConnX_raw h
  refine ⟨r, ?_⟩
  unfold transactCtxX brkDo transactFnX
  simp only [ha.1.1, ha.1.2, ha.2, hx, Bool.not_true, Bool.false_eq_true, if_false]
  cases (runBody b.base).2 <;> rfl

/-- over the extended domain an opened transaction still has ONE end: go-zero's or the body's own -/
theorem logX_opened {env : Env} {f : Faults} (b : BodyX) (ho : opened env f = true) :
    ∃ e, isEnd e = true ∧
      (transactCtxX env f b).log = badPrefix f.badConn (.begin true :: ((runBody b.base).1 ++ [e])) ∧
      (transactCtxX env f b).runs = 1 := by
  cases hr : env.admitted && b.reaches f
  · rw [transactCtxX_base hr, transactCtx_opened ho]
    exact ⟨_, isEnd_endEvent f b.base, rfl, rfl⟩
  · obtain ⟨r, hx⟩ := transactCtxX_raw hr
    rw [hx]
    exact ⟨_, by unfold rawEv; split <;> rfl, rfl, rfl⟩

theorem logX_not_opened {env : Env} {f : Faults} (b : BodyX) (ho : opened env f = false) :
    (transactCtxX env f b).log = if env.admitted then refusedBegins f else [] := by
  have hr : (env.admitted && b.reaches f) = false := by
    unfold opened at ho; unfold BodyX.reaches
    cases ha : env.admitted <;> simp_all
  rw [transactCtxX_base hr, transactCtx_not_opened ho]

/-- **All go-zero-side clauses over the WHOLE domain** — every environment, fault plan (Commit / Rollback errors
of every class incl. sql.ErrTxDone bare or wrapped, panics), every body incl. bodies that commit or roll back the
raw `*sql.Tx` themselves and then return nil / an error / panic: one Begin, exactly one end of the transaction at
the driver (as the last call), the body runs iff begun, a panic is reported, nil ONLY when a Commit succeeded, the
body's error is told, orderly return, Begin failures reported. -/
theorem monitor_sound_full (env : Env) (f : Faults) (b : BodyX) :
    holdsX (transactCtxX env f b) = true ∧ holdsX (transactOnConnX f b) = true := by
  refine ⟨holds_brkDo.2 ?_, holdsX_onConnX f b⟩
  unfold transactFnX; split
  · rfl
  · exact holdsX_onConnX f b

/-- without a raw end the extended model IS the model of the other theorems -/
theorem x_agrees_without_raw_end (env : Env) (f : Faults) (b : Body) :
    transactCtxX env f { base := b } = transactCtx env f b :=
  transactCtxX_base (by simp [BodyX.reaches])

/-- **The returned error is nil only when the commit succeeded — over the whole domain.**
(1) literal direction: nil ⇒ a successful Commit reached the driver; (2) exactly: nil ⇔ the body did not end the
Tx itself ∧ a transaction was opened ∧ the body returned nil ∧ the driver accepted go-zero's Commit; (3) once the
body has ended the raw Tx — by Commit or Rollback, accepted or refused by the driver, whatever it returns
afterwards — `Transact` NEVER returns nil: it returns sql.ErrTxDone (the refused `tx.Commit()`), or wraps it
(`rollback failed: %w`), reachable by errors.Is; the breaker books that as a success (ErrTxDone is acceptable);
(4) a Commit the DRIVER refuses with sql.ErrTxDone (bare or wrapped) is returned with its identity.
The seeded change C14-8 (ErrTxDone dropped at the commit site) negates (3) and (4). -/
theorem nil_only_if_commit_ok_full (env : Env) (f : Faults) (b : BodyX) :
    ((transactCtxX env f b).ret = none → Ev.commit true ∈ (transactCtxX env f b).log) ∧
    ((transactCtxX env f b).ret = none ↔
      (b.reaches f = false ∧ opened env f = true ∧ (runBody b.base).2 = .nil ∧ f.commitOk = true)) ∧
    (env.admitted = true → b.reaches f = true →
      (∃ e, (transactCtxX env f b).ret = some e ∧ hasCls (some e) .txDone = true) ∧
      (transactCtxX env f b).mark = some true ∧ (transactCtxX env f b).escaped = false ∧
      ((runBody b.base).2 = .nil → (transactCtxX env f b).ret = some (Err.of (.commit .txDone)))) ∧
    (opened env f = true → b.reaches f = false → (runBody b.base).2 = .nil → f.commit = false →
      f.commitPanics = false → (transactCtxX env f b).ret = some (Err.of (.commit f.commitCls))) := by
  cases hr : env.admitted && b.reaches f
  · rw [transactCtxX_base hr]
    have hn := nil_only_if_commit_ok env f b.base
    refine ⟨hn.1.mp, hn.2.1.trans ⟨fun ⟨ho, hp⟩ => ⟨?_, ho, hp⟩, fun ⟨_, ho, hp⟩ => ⟨ho, hp⟩⟩, ?_, ?_⟩
    · unfold opened at ho; cases h : b.reaches f <;> simp_all
    · intro ha h; simp [ha, h] at hr
    · intro ho _ hb hc hp
      rw [transactCtx_opened ho, hb]; simp [endRet, hc, hp]
  · obtain ⟨r, hx⟩ := transactCtxX_raw hr
    simp only [Bool.and_eq_true] at hr
    rw [hx]
    refine ⟨nofun, ⟨nofun, fun h => by simp [hr.2] at h⟩, fun _ _ => ⟨?_, rfl, rfl, fun ho => by simp [retAfterRawEnd, ho]⟩,
      fun _ h => by simp [hr.2] at h⟩
    cases (runBody b.base).2 <;> simp [retAfterRawEnd, hasCls, srcCls, Err.of]

/-- the body rolled the raw Tx back and returned nil: nothing was committed, sql.ErrTxDone is returned (the seeded
change C14-8 returns nil here) -/
example : transactCtxX envOk { begin := true, commit := true, rollback := true }
    { base := { stmts := [⟨.exec, false, true⟩], fin := .ok }, raw := some { commit := false, ok := true } }
    = { log := [.begin true, .exec 0 true, .rollback true], runs := 1, body := .nil,
        ret := some (Err.of (.commit .txDone)), mark := some true } := rfl

/-- … and what C14-8 returned there violates the literal clause -/
example : violatedX { log := [.begin true, .exec 0 true, .rollback true], runs := 1, body := .nil, ret := none }
    = ["nil-only-if-commit-ok"] := rfl

/-- **Exactly one end of the transaction reaches the driver over the whole domain**: the body's own raw end, or
go-zero's — never both, never none. -/
theorem ends_exactly_once_full (env : Env) (f : Faults) (b : BodyX) (ho : opened env f = true) :
    count isEnd (transactCtxX env f b).log = 1 ∧
    (∃ e, (transactCtxX env f b).log.getLast? = some e ∧ isEnd e = true) ∧
    count isBeginOk (transactCtxX env f b).log = 1 ∧ (transactCtxX env f b).runs = 1 := by
  obtain ⟨e, he, hl, hr⟩ := logX_opened b ho
  rw [hl, hr]
  simp [count, badPrefix_eq, all_isStmt_only (runBody_all b.base), isEnd_only he, he, List.filter_append,
    getLast?_cons_snoc]

theorem outsideTx_badPrefix (w : Wiring) (st : Option Nat) (n : Nat) (l : List Ev) :
    outsideTx st (tagLog w (badPrefix n l)) = outsideTx st (tagLog w l) := by
  induction n with
  | zero => rfl
  | succ n ih => simpa [badPrefix, tagLog, outsideTx] using ih

theorem outsideTx_stmts (w : Wiring) (evs rest : List Ev) (h : evs.all isStmt = true) :
    outsideTx (some 0) (tagLog w (evs ++ rest)) =
      (if w.stmtConn = 0 then [] else evs) ++ outsideTx (some 0) (tagLog w rest) := by
  induction evs with
  | nil => simp
  | cons e evs ih =>
    simp only [List.all_cons, Bool.and_eq_true] at h
    have ih' := ih h.2
    simp only [tagLog] at ih' ⊢
    cases e <;> simp [isStmt] at h <;>
      (simp only [List.cons_append, List.map_cons, outsideTx, ih']
       by_cases hc : w.stmtConn = 0
       · simp [hc]
       · simp [hc, Ne.symm hc])

theorem outsideTx_refused (w : Wiring) (f : Faults) : outsideTx none (tagLog w (refusedBegins f)) = [] := by
  unfold refusedBegins
  split <;> rw [outsideTx_badPrefix] <;> simp [tagLog, outsideTx]

theorem outsideTx_opened (w : Wiring) (n : Nat) {evs : List Ev} (hs : evs.all isStmt = true) {e : Ev}
    (he : isEnd e = true) :
    outsideTx none (tagLog w (badPrefix n (.begin true :: (evs ++ [e])))) = if w.stmtConn = 0 then [] else evs := by
  have : outsideTx none (tagLog w (.begin true :: (evs ++ [e]))) = outsideTx (some 0) (tagLog w (evs ++ [e])) := by
    simp [tagLog, outsideTx]
  rw [outsideTx_badPrefix, this, outsideTx_stmts w evs [e] hs]
  cases e <;> simp [isEnd, isCommit, isRollback] at he <;> simp [tagLog, outsideTx]

/-- the closed form behind the session theorems: `statements_inside_the_transaction` is three readings of it -/
theorem outsideTx_transactCtxX (w : Wiring) (env : Env) (f : Faults) (b : BodyX) :
    outsideTx none (tagLog w (transactCtxX env f b).log) =
      if w.stmtConn = 0 ∨ opened env f = false then [] else (runBody b.base).1 := by
  cases ho : opened env f
  · rw [logX_not_opened b ho]
    cases env.admitted <;> simp [tagLog, outsideTx]
    simpa [tagLog] using outsideTx_refused w f
  · obtain ⟨e, he, hl, -⟩ := logX_opened b ho
    rw [hl, outsideTx_opened w _ (runBody_all b.base) he]; simp

/-- **No statement of the body runs outside the transaction** — with the session wiring of the code (the body is
handed the transaction's session, whose statement methods use its own `t.Tx`) every statement reaches the driver on
the connection that holds the open transaction, between Begin and the one end; for every environment, fault plan
and body, incl. bodies that end the raw Tx themselves.  With ANY other wiring (the body handed a session on the
pool, or a statement method that goes to the pool) exactly the body's statements run outside it. -/
theorem statements_inside_the_transaction (w : Wiring) (env : Env) (f : Faults) (b : BodyX) :
    (w.stmtConn = 0 → outsideTx none (tagLog w (transactCtxX env f b).log) = []) ∧
    outsideTx none (tagLog codeWiring (transactCtxX env f b).log) = [] ∧
    (w.stmtConn ≠ 0 → opened env f = true → b.raw = none →
      outsideTx none (tagLog w (transactCtxX env f b).log) = (runBody b.base).1) := by
  simp only [outsideTx_transactCtxX]
  exact ⟨fun hw => by simp [hw], by simp [codeWiring, Wiring.stmtConn], fun hw ho _ => by simp [hw, ho]⟩

/-- the body handed a session on the pool (mutation M23): its statement runs outside the transaction -/
example : outsideTx none (tagLog { codeWiring with bodySession := .pool }
    (transactCtx envOk { begin := true, commit := true, rollback := true } { stmts := [⟨.exec, false, false⟩], fin := .ok }).log)
    = [.exec 0 true] := rfl

/-- **What a connection made from the body's session answers** (code wiring): `Transact[Ctx]` on it makes no
driver call, does not run its body and yields an error — exactly the model's `SK.nest` statement; `RawDB()` yields
an error and no *sql.DB.  A wiring that does not refuse begins a SECOND transaction inside the first: begins-once is
violated (mutation M12).  All four conjuncts evaluate the constant `codeWiring` and `Wiring.nestOutcome`; that
`codeWiring` is the wiring of the source is `Tie.tie_session_wiring`. -/
theorem session_conn_refuses :
    codeWiring.nestOutcome = ([], true, false) ∧ codeWiring.rawDBOutcome = (true, false) ∧
    (∀ c i p, stmtEvAt c i ⟨.nest, true, p⟩ = codeWiring.nestOutcome.1 ∧
              (Stmt.failingAt c i ⟨.nest, true, p⟩) = codeWiring.nestOutcome.2.1) ∧
    (∀ w : Wiring, w.nestRefused = false →
      beginsOnce { log := .begin true :: (w.nestOutcome.1 ++ [.commit true]), runs := 1, body := .nil, ret := none }
        = false) := by
  refine ⟨rfl, rfl, ?_, ?_⟩
  · intro c i p; simp [stmtEvAt, Stmt.failingAt, codeWiring, Wiring.nestOutcome]
  · intro w hw; simp [Wiring.nestOutcome, hw, beginsOnce, count, List.filter_cons]

/-- **A failed statement's error is seen by the body, and the context a statement reaches database/sql with is the
entry point's**: with the code wiring a statement made through a …Ctx method under `TransactCtx(c, …)` carries `c`
(so database/sql refuses it once `c` is done: the model's `cancelAt`), under `Transact` and through a context-less
method `context.Background()` (never refused).  Like `session_conn_refuses`, evaluations of `codeWiring`: the
content is `Tie.tie_session_wiring`. -/
theorem statement_context_and_errors :
    (∀ failed, codeWiring.stmtErrSeen failed = failed) ∧
    codeWiring.ctxAtDriver .callers true = .callers ∧
    codeWiring.ctxAtDriver .background true = .background ∧
    (∀ entry, codeWiring.ctxAtDriver entry false = .background) ∧
    (∀ w : Wiring, w.bodyCtx = .background → w.ctxAtDriver .callers true = .background) := by
  refine ⟨?_, rfl, rfl, ?_, ?_⟩
  · intro f; cases f <;> rfl
  · intro e; cases e <;> rfl
  · intro w h; simp [Wiring.ctxAtDriver, composeCtx, h]

/-- what the seeded change C14-9 did (body panics, Rollback fails; an outer recover builds a fresh error and the
rollback failure assigned while panicking is lost): the clause "rollback failures are reported" is violated -/
example : violated
    { log := [.begin true, .rollback false], runs := 1, body := .panic,
      ret := some { is := [], says := [.panic] }, mark := some false } = ["end-failures-reported"] := rfl

open GoZero.C14.Conc in
/-- **Two transactions in flight on one pool, every interleaving, every body length, every choice of the pool**:
at every point each call has begun at most one transaction and ended it at most once, never before beginning it;
the two open transactions never share a connection; no statement of a call ever runs on the other call's
connection or outside its own transaction; and a call that is done has begun exactly one transaction and ended it
exactly once. -/
theorem concurrent_transactions_end_their_own (n : Bool → Nat) (sched : List (Bool × Nat)) :
    let s := run n init sched
    (∀ t, s.begins t ≤ 1 ∧ s.ends t ≤ s.begins t ∧ s.stray t = 0 ∧
          (s.pc t = .done → s.begins t = 1 ∧ s.ends t = 1 ∧ s.conn t = none)) ∧
    (s.conn true ≠ none → s.conn true ≠ s.conn false) := by
  intro s
  obtain ⟨h1, h2, h3⟩ := inv_run n sched init inv_init
  refine ⟨?_, h3⟩
  intro t
  have ht := h1 t
  have hs := h2 t
  cases hpc : (run n init sched).pc t <;> rw [hpc] at ht <;> simp_all [s]

/-- both calls get through when the schedule is long enough: an example interleaving -/
def concExampleRun : Conc.St := Conc.run (fun t => if t then 2 else 1) Conc.init
  [(true, 7), (false, 7), (false, 8), (true, 0), (false, 0), (true, 0), (false, 0), (true, 0)]

open GoZero.C14.Conc in
example : (concExampleRun.begins true, concExampleRun.ends true, concExampleRun.begins false, concExampleRun.ends false,
    concExampleRun.pc true, concExampleRun.pc false, concExampleRun.stray true) = (1, 1, 1, 1, PC.done, PC.done, 0) := rfl

end GoZero.C14.Props
