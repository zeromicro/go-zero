/-
C14 — the lemmas under the property theorems.  `transactOnConn` and `TransactCtx` in closed form (the whole `Result`,
with a transaction opened or not); the clauses read neither the statement calls nor the retried Begins, so they are
checked on `Begin, end`, and the wrappers keep them; the invariant of the two-call interleaving model.
-/
import GoZero.C14.Spec
namespace GoZero.C14
open GoZero.C14.Spec

@[simp] theorem isBegin_begin (ok : Bool) : isBegin (.begin ok) = true := rfl
@[simp] theorem isBegin_exec (i : Nat) (ok : Bool) : isBegin (.exec i ok) = false := rfl
@[simp] theorem isBegin_query (i : Nat) (ok : Bool) : isBegin (.query i ok) = false := rfl
@[simp] theorem isBegin_commit (ok : Bool) : isBegin (.commit ok) = false := rfl
@[simp] theorem isBegin_rollback (ok : Bool) : isBegin (.rollback ok) = false := rfl
@[simp] theorem isBeginOk_begin (ok : Bool) : isBeginOk (.begin ok) = ok := by cases ok <;> rfl
@[simp] theorem isBeginOk_exec (i : Nat) (ok : Bool) : isBeginOk (.exec i ok) = false := rfl
@[simp] theorem isBeginOk_query (i : Nat) (ok : Bool) : isBeginOk (.query i ok) = false := rfl
@[simp] theorem isBeginOk_commit (ok : Bool) : isBeginOk (.commit ok) = false := rfl
@[simp] theorem isBeginOk_rollback (ok : Bool) : isBeginOk (.rollback ok) = false := rfl
@[simp] theorem isCommit_begin (ok : Bool) : isCommit (.begin ok) = false := rfl
@[simp] theorem isCommit_exec (i : Nat) (ok : Bool) : isCommit (.exec i ok) = false := rfl
@[simp] theorem isCommit_query (i : Nat) (ok : Bool) : isCommit (.query i ok) = false := rfl
@[simp] theorem isCommit_commit (ok : Bool) : isCommit (.commit ok) = true := rfl
@[simp] theorem isCommit_rollback (ok : Bool) : isCommit (.rollback ok) = false := rfl
@[simp] theorem isRollback_begin (ok : Bool) : isRollback (.begin ok) = false := rfl
@[simp] theorem isRollback_exec (i : Nat) (ok : Bool) : isRollback (.exec i ok) = false := rfl
@[simp] theorem isRollback_query (i : Nat) (ok : Bool) : isRollback (.query i ok) = false := rfl
@[simp] theorem isRollback_commit (ok : Bool) : isRollback (.commit ok) = false := rfl
@[simp] theorem isRollback_rollback (ok : Bool) : isRollback (.rollback ok) = true := rfl
@[simp] theorem isEnd_begin (ok : Bool) : isEnd (.begin ok) = false := rfl
@[simp] theorem isEnd_exec (i : Nat) (ok : Bool) : isEnd (.exec i ok) = false := rfl
@[simp] theorem isEnd_query (i : Nat) (ok : Bool) : isEnd (.query i ok) = false := rfl
@[simp] theorem isEnd_commit (ok : Bool) : isEnd (.commit ok) = true := rfl
@[simp] theorem isEnd_rollback (ok : Bool) : isEnd (.rollback ok) = true := rfl
@[simp] theorem isStmt_begin (ok : Bool) : isStmt (.begin ok) = false := rfl
@[simp] theorem isStmt_exec (i : Nat) (ok : Bool) : isStmt (.exec i ok) = true := rfl
@[simp] theorem isStmt_query (i : Nat) (ok : Bool) : isStmt (.query i ok) = true := rfl
@[simp] theorem isStmt_commit (ok : Bool) : isStmt (.commit ok) = false := rfl
@[simp] theorem isStmt_rollback (ok : Bool) : isStmt (.rollback ok) = false := rfl
@[simp] theorem isBegin_beginBad : isBegin .beginBad = false := rfl
@[simp] theorem isBeginOk_beginBad : isBeginOk .beginBad = false := rfl
@[simp] theorem isCommit_beginBad : isCommit .beginBad = false := rfl
@[simp] theorem isRollback_beginBad : isRollback .beginBad = false := rfl
@[simp] theorem isEnd_beginBad : isEnd .beginBad = false := rfl
@[simp] theorem isStmt_beginBad : isStmt .beginBad = false := rfl
@[simp] theorem isBeginBad_beginBad : isBeginBad .beginBad = true := rfl
@[simp] theorem isBeginBad_begin (ok : Bool) : isBeginBad (.begin ok) = false := rfl
@[simp] theorem isBeginBad_exec (i : Nat) (ok : Bool) : isBeginBad (.exec i ok) = false := rfl
@[simp] theorem isBeginBad_query (i : Nat) (ok : Bool) : isBeginBad (.query i ok) = false := rfl
@[simp] theorem isBeginBad_commit (ok : Bool) : isBeginBad (.commit ok) = false := rfl
@[simp] theorem isBeginBad_rollback (ok : Bool) : isBeginBad (.rollback ok) = false := rfl

theorem runStmts_not_cancelled (c : Option Nat) (dl : Bool) (l : List Stmt) :
    ∀ j e, e ∈ (runStmts c dl j l).1 → ∃ i ok, (e = .exec i ok ∨ e = .query i ok) ∧ cancelled c i = false := by
  have hev : ∀ j s e, e ∈ stmtEvAt c j s → ∃ i ok, (e = .exec i ok ∨ e = .query i ok) ∧ cancelled c i = false := by
    intro j s e he
    unfold stmtEvAt at he
    cases hk : s.kind <;> simp [hk] at he <;> exact ⟨j, !s.fails, by simp [he.2], he.1⟩
  induction l with
  | nil => intro j e he; simp [runStmts] at he
  | cons s rest ih =>
    intro j e he
    unfold runStmts at he
    split at he
    · exact hev j s e he
    · exact (List.mem_append.mp he).elim (hev j s e) (ih (j + 1) e)

theorem runBody_all (b : Body) : (runBody b).1.all isStmt = true := by
  have h : ∀ e ∈ (runStmts b.cancelAt b.deadline 0 b.stmts).1, isStmt e = true := by
    intro e he
    obtain ⟨i, ok, h | h, -⟩ := runStmts_not_cancelled _ _ _ _ e he <;> subst h <;> rfl
  unfold runBody; split <;> exact List.all_eq_true.mpr h

theorem runBody_ne_notRun (b : Body) : (runBody b).2 ≠ .notRun := by
  unfold runBody; split
  · simp
  · cases b.fin <;> simp

/-- Everything the clauses ask of the middle of a log, as one simp set: `simp [all_isStmt_only h]`. -/
theorem all_isStmt_only {l : List Ev} (h : l.all isStmt = true) :
    l.filter isBegin = [] ∧ l.filter isEnd = [] ∧ l.filter isBeginOk = [] ∧ l.filter isBeginBad = [] ∧
    l.any isCommit = false ∧ l.any isRollback = false ∧
    l.all (fun e => !isBegin e && !isBeginBad e) = true ∧
    (∀ ok, Ev.begin ok ∉ l) ∧ (∀ ok, Ev.commit ok ∉ l) ∧ (∀ ok, Ev.rollback ok ∉ l) := by
  induction l with
  | nil => simp
  | cons e l ih =>
    rw [List.all_cons, Bool.and_eq_true] at h
    have := ih h.2
    cases e <;> simp at h <;> simp [this]

theorem getLast?_cons_snoc {α} (a : α) (l : List α) (x : α) : (a :: (l ++ [x])).getLast? = some x :=
  List.getLast?_concat (l := a :: l)

/-- Filters, membership, `any`, `dropWhile isBeginBad` and `getLast?` of a `badPrefix` then follow by `simp`. -/
theorem badPrefix_eq (n : Nat) (l : List Ev) : badPrefix n l = List.replicate n .beginBad ++ l := by
  induction n with
  | zero => rfl
  | succ n ih => simp [badPrefix, ih, List.replicate_succ]

theorem mem_not_opened_log (env : Env) (f : Faults) (a : Ev) :
    a ∈ (if env.admitted then refusedBegins f else []) → a = .beginBad ∨ a = .begin false := by
  unfold refusedBegins
  split
  · split <;>
      simp only [badPrefix_eq, List.mem_append, List.mem_replicate, List.mem_singleton, List.not_mem_nil] <;>
      rintro (h | h) <;> simp_all
  · simp

theorem mem_opened_log {x : Ev} (hx : isEnd x = true) {evs : List Ev} (hs : evs.all isStmt = true) (n : Nat)
    (e : Ev) : x ∈ badPrefix n (.begin true :: (evs ++ [e])) ↔ x = e := by
  cases x <;> simp_all [badPrefix_eq, all_isStmt_only hs]

theorem endEvent_nil {f : Faults} {b : Body} (h : (runBody b).2 = .nil) : endEvent f b = .commit f.commitOk := by
  simp [endEvent, h]

theorem endEvent_ne_nil {f : Faults} {b : Body} (h : (runBody b).2 ≠ .nil) :
    endEvent f b = .rollback f.rollbackOk := by
  unfold endEvent; split <;> simp_all

theorem isEnd_only {e : Ev} (h : isEnd e = true) :
    isBegin e = false ∧ isBeginOk e = false ∧ isBeginBad e = false := by
  cases e <;> simp [isEnd, isCommit, isRollback] at h ⊢

theorem isEnd_endEvent (f : Faults) (b : Body) : isEnd (endEvent f b) = true := by
  unfold endEvent; split <;> rfl

/-- what a call that opened a transaction returns — or the value of the driver's panic it leaves with —, by
the outcome of the body -/
def endRet (f : Faults) : BodyOut → Option Err
  | .panic => if f.rollbackPanics then some (Err.of (.rollback .plain))
              else some { is := if f.rollback then [] else [.rollback f.rollbackCls], says := [.panic] }
  | .err e => if f.rollbackPanics then some (Err.of (.rollback .plain))
              else some (if f.rollback then e else { is := [.rollback f.rollbackCls], says := e.is ++ e.says })
  | _ => if f.commitPanics then some (Err.of (.commit .plain))
         else if f.commit then none else some (Err.of (.commit f.commitCls))

def endEscapes (f : Faults) : BodyOut → Bool
  | .nil => f.commitPanics
  | _ => f.rollbackPanics

/-- **The whole result of `transactOnConn`**: every property theorem about one call is read off this equation. -/
theorem transactOnConn_eq (f : Faults) (b : Body) :
    transactOnConn f b =
      if f.opens then
        { log := badPrefix f.badConn (.begin true :: ((runBody b).1 ++ [endEvent f b])), runs := 1,
          body := (runBody b).2, ret := endRet f (runBody b).2, escaped := endEscapes f (runBody b).2 }
      else
        { log := refusedBegins f, runs := 0, body := .notRun,
          ret := some (Err.of (if f.givesUp then .badConn else .begin)) } := by
  have hne := runBody_ne_notRun b
  unfold transactOnConn transactOnce Faults.opens refusedBegins endEvent endRet endEscapes Faults.commitOk
    Faults.rollbackOk
  cases f.givesUp <;> cases f.begin <;> simp
  cases h : (runBody b).2 <;> cases f.rollbackPanics <;> cases f.commitPanics <;> simp_all

section clauses
attribute [local simp] beginsOnce endsExactlyOnce bodyRunsIffBegun commitIffBodyOk rollbackIffBodyFailed panicReported
  nilIffCommitOk nilOnlyIfCommitOk endFailuresReported bodyErrorReported orderlyReturn beginFailureReported begun count
  retHas retIs reports bodyFailed

/-- **The clauses do not look at the statement calls, nor at the Begin attempts database/sql retried**: each
clause that reads the log gives the same verdict on `retried Begins, Begin, statements, e` as on `Begin, e`. -/
theorem clauses_opened_log {evs : List Ev} (hs : evs.all isStmt = true) {n : Nat} {e : Ev} {r : Result}
    (h : r.log = badPrefix n (.begin true :: (evs ++ [e]))) :
    ∀ c ∈ [beginsOnce, endsExactlyOnce, bodyRunsIffBegun, commitIffBodyOk, rollbackIffBodyFailed, nilIffCommitOk,
        nilOnlyIfCommitOk, endFailuresReported, orderlyReturn, beginFailureReported],
      c r = c { r with log := [.begin true, e] } := by
  simp [h, badPrefix_eq, all_isStmt_only hs, List.filter_cons, List.filter_append, List.all_append, getLast?_cons_snoc]

theorem holds_opened_log {evs : List Ev} (hs : evs.all isStmt = true) {n : Nat} {e : Ev} {r : Result}
    (h : r.log = badPrefix n (.begin true :: (evs ++ [e]))) :
    holds r = holds { r with log := [.begin true, e] } ∧ holdsX r = holdsX { r with log := [.begin true, e] } := by
  have hc := clauses_opened_log hs h
  simp only [List.forall_mem_cons] at hc
  constructor
  · simp only [holds, hc]; rfl
  · simp only [holdsX, hc]; rfl

theorem holds_onConn (f : Faults) (b : Body) : holds (transactOnConn f b) = true := by
  rw [transactOnConn_eq]
  split
  · have hne := runBody_ne_notRun b
    rw [(holds_opened_log (runBody_all b) rfl).1]
    unfold endEvent
    generalize (runBody b).2 = out at *
    cases out with
    | notRun => exact absurd rfl hne
    | nil => simp only [endRet, endEscapes, Faults.commitOk]; cases f.commitPanics <;> cases f.commit <;> rfl
    | panic => simp only [endRet, endEscapes, Faults.rollbackOk]; cases f.rollbackPanics <;> cases f.rollback <;> rfl
    | err e =>
      simp only [endRet, endEscapes, Faults.rollbackOk]
      cases f.rollbackPanics
      · -- the Rollback returns: everything the body's error carried is still told
        cases f.rollback <;>
          simp [holds, isRollbackSrc, Err.mentions, List.filter_cons] <;>
          (intro x hx; simp [hx])
      · cases f.rollback <;> rfl
  · unfold refusedBegins
    split
    · decide
    · simp [holds, Err.of, badPrefix_eq, List.filter_cons]

end clauses

/-- **The wrappers cannot break a clause**: what the breaker puts in place of a call it does not let through is a call
that did not reach the driver, and no clause reads what the breaker is told — for any acceptable function. -/
theorem holds_brkDo {cd dd ba : Bool} {acc : Option Err → Bool} {core : Result} :
    (holds core = true → holds (brkDo cd dd ba acc core) = true) ∧
    (holdsX core = true → holdsX (brkDo cd dd ba acc core) = true) := by
  unfold brkDo
  cases cd
  · cases ba
    · exact ⟨fun _ => rfl, fun _ => rfl⟩
    · exact ⟨id, id⟩
  · cases dd <;> exact ⟨fun _ => rfl, fun _ => rfl⟩

theorem holds_transactFn {connOk : Bool} {f : Faults} {b : Body} : holds (transactFn connOk f b) = true := by
  unfold transactFn; split
  · rfl
  · exact holds_onConn f b

theorem opened_iff (env : Env) (f : Faults) :
    opened env f = true ↔
      (env.ctxDone = false ∧ env.brkAllow = true ∧ env.connOk = true ∧ f.givesUp = false ∧ f.begin = true) := by
  unfold opened Env.admitted Faults.opens
  cases env.ctxDone <;> cases env.brkAllow <;> cases env.connOk <;> cases f.givesUp <;> cases f.begin <;> simp

/-- **The whole result of `TransactCtx`** when a transaction is opened … -/
theorem transactCtx_opened {env : Env} {f : Faults} (h : opened env f = true) (b : Body) :
    transactCtx env f b =
      { log := badPrefix f.badConn (.begin true :: ((runBody b).1 ++ [endEvent f b])), runs := 1,
        body := (runBody b).2, ret := endRet f (runBody b).2, escaped := endEscapes f (runBody b).2,
        mark := if endEscapes f (runBody b).2 then none
                else some (acceptable env.userAccept (endRet f (runBody b).2)) } := by
  have ho := (opened_iff env f).mp h
  unfold transactCtx markOf
  rw [transactOnConn_eq]
  simp [ho, Faults.opens]

/-- … and when none is. -/
theorem transactCtx_not_opened {env : Env} {f : Faults} (h : opened env f = false) (b : Body) :
    transactCtx env f b =
      { log := if env.admitted then refusedBegins f else [], runs := 0, body := .notRun,
        ret := some (Err.of (if env.ctxDone then ctxSrc env.ctxDead else if !env.brkAllow then .breaker
                  else if !env.connOk then .conn else if f.givesUp then .badConn else .begin)),
        mark := if env.ctxDone || !env.brkAllow then none else some false } := by
  unfold opened Env.admitted at h
  unfold transactCtx Env.admitted markOf
  rw [transactOnConn_eq]
  cases h1 : env.ctxDone <;> cases h2 : env.brkAllow <;> cases h3 : env.connOk <;>
    simp_all [acceptable, Err.of, srcAcceptable]
  cases f.givesUp <;> rfl

theorem mem_log_end (env : Env) (f : Faults) (b : Body) {x : Ev} (hx : isEnd x = true) :
    x ∈ (transactCtx env f b).log ↔ opened env f = true ∧ x = endEvent f b := by
  cases ho : opened env f
  · rw [transactCtx_not_opened ho]
    exact iff_of_false (fun h => by rcases mem_not_opened_log env f x h with rfl | rfl <;> cases hx) (by simp)
  · rw [transactCtx_opened ho]; simp [mem_opened_log hx (runBody_all b)]

theorem breakerTold_ctx (env : Env) (f : Faults) (b : Body) :
    breakerTold env.userAccept (transactCtx env f b) = true := by
  unfold transactCtx breakerTold markOf
  cases env.ctxDone <;> cases env.brkAllow <;> cases env.connOk <;> simp [acceptable, Err.of, srcAcceptable]
  cases (transactOnConn f b).escaped <;> simp

theorem runStmts_executed (c : Option Nat) (dl : Bool) (l : List Stmt) :
    ∀ i, (runStmts c dl i l).1 = eventsOf c i (executed c i l) := by
  induction l with
  | nil => intro i; rfl
  | cons s rest ih =>
    intro i
    unfold runStmts executed
    split
    · simp [eventsOf]
    · simp [eventsOf, ih]

theorem violated_nil_of_holds (r : Result) (h : holds r = true) : violated r = [] := by
  unfold holds at h
  simp only [Bool.and_eq_true] at h
  simp [violated, clauses, h]

theorem any_or_fun {α} (l : List α) (p q : α → Bool) :
    l.any (fun x => p x || q x) = (l.any p || l.any q) := by
  induction l with
  | nil => rfl
  | cons x l ih => simp only [List.any_cons, ih]; ac_rfl

/-- the model's `acceptable`, spelled with the probes the code makes (`errors.Is` per sentinel, `errors.As`,
the installed user functions) -/
theorem acceptable_probes (ua : UA) (e : Option Err) :
    acceptable ua e = (e.isNone || hasCls e .noRows || hasCls e .txDone || hasCls e .canceled ||
      hasCls e .accType || (ua.a1 && hasCls e .userOk) || (ua.a2 && hasCls e .userOk2)) := by
  cases e with
  | none => rfl
  | some e =>
    have hf : srcAcceptable ua = fun s =>
        (srcCls s == some .noRows) || (srcCls s == some .txDone) || (srcCls s == some .canceled) ||
        (srcCls s == some .accType) || (ua.a1 && srcCls s == some .userOk) ||
        (ua.a2 && srcCls s == some .userOk2) := by
      funext s
      obtain ⟨a1, a2⟩ := ua
      cases s with
      | body c => cases c <;> cases a1 <;> cases a2 <;> rfl
      | commit c => cases c <;> cases a1 <;> cases a2 <;> rfl
      | rollback c => cases c <;> cases a1 <;> cases a2 <;> rfl
      | _ => cases a1 <;> cases a2 <;> rfl
    simp only [acceptable, hasCls, hf, any_or_fun, ← List.and_any_distrib_left, Option.isNone, Bool.false_or]

namespace Conc

/-- per-call consistency + no connection holds two open transactions -/
def Inv (s : St) : Prop :=
  (∀ t, match s.pc t with
        | .idle => s.conn t = none ∧ s.begins t = 0 ∧ s.ends t = 0
        | .running _ => s.conn t ≠ none ∧ s.begins t = 1 ∧ s.ends t = 0
        | .done => s.conn t = none ∧ s.begins t = 1 ∧ s.ends t = 1) ∧
  (∀ t, s.stray t = 0) ∧
  (s.conn true ≠ none → s.conn true ≠ s.conn false)

theorem inv_init : Inv init := by
  refine ⟨?_, ?_, ?_⟩ <;> simp [init]

theorem upd_self {α} (f : Bool → α) (t : Bool) (v : α) : upd f t v t = v := by simp [upd]
theorem upd_not {α} (f : Bool → α) (t : Bool) (v : α) : upd f t v (!t) = f (!t) := by cases t <;> simp [upd]

/-- the invariant call by call: the third clause is symmetric in the two calls -/
theorem inv_iff (s : St) : Inv s ↔ ∀ t,
    (match s.pc t with
      | .idle => s.conn t = none ∧ s.begins t = 0 ∧ s.ends t = 0
      | .running _ => s.conn t ≠ none ∧ s.begins t = 1 ∧ s.ends t = 0
      | .done => s.conn t = none ∧ s.begins t = 1 ∧ s.ends t = 1) ∧
    s.stray t = 0 ∧ (s.conn t ≠ none → s.conn t ≠ s.conn (!t)) := by
  constructor
  · rintro ⟨h1, h2, h3⟩ t
    refine ⟨h1 t, h2 t, ?_⟩
    cases t
    · intro a b; exact h3 (b ▸ a) b.symm
    · exact h3
  · intro h
    exact ⟨fun t => (h t).1, fun t => (h t).2.1, (h true).2.2⟩

theorem inv_step (n : Bool → Nat) (s s' : St) (t : Bool) (c : Nat) (hi : Inv s) (h : step n s t c = some s') :
    Inv s' := by
  rw [inv_iff] at hi ⊢
  have ht := hi t
  have ho := by simpa using hi (!t)
  -- a step of call `t` touches only `t`'s entries: check call `t`, then the other call
  suffices h' : ∀ x, x = t ∨ x = !t → _ from fun x => h' x (by cases x <;> cases t <;> simp)
  unfold step at h
  split at h
  · rename_i hpc; rw [hpc] at ht
    split at h
    · cases h
    · rename_i hne
      cases h
      rintro x (rfl | rfl) <;> simp only [upd_self, upd_not, Bool.not_not]
      · simp [ht.1.2.1, ht.1.2.2, ht.2.1, Ne.symm hne]
      · exact ⟨ho.1, ho.2.1, fun _ => hne⟩
  · rename_i k hpc; rw [hpc] at ht
    cases h
    rintro x (rfl | rfl) <;> simp only [upd_self, upd_not, Bool.not_not]
    · simpa [ht.2.1, ht.1.1, ht.2.2 ht.1.1] using ht.1
    · exact ho
  · rename_i hpc; rw [hpc] at ht
    cases h
    rintro x (rfl | rfl) <;> simp only [upd_self, upd_not, Bool.not_not]
    · simp [ht.1.2.1, ht.1.2.2, ht.2.1]
    · exact ⟨ho.1, ho.2.1, fun a => a⟩
  · cases h

theorem inv_run (n : Bool → Nat) (sched : List (Bool × Nat)) (s : St) (hi : Inv s) : Inv (run n s sched) := by
  induction sched generalizing s with
  | nil => exact hi
  | cons x rest ih =>
    obtain ⟨t, c⟩ := x
    unfold run
    split
    · rename_i s' h; exact ih s' (inv_step n s s' t c hi h)
    · exact ih s hi

end Conc

end GoZero.C14
