/-
C14 — Tie: what the extractor reads from core/stores/sqlx/{tx,sqlconn}.go and core/stores/sqlc/cachedsql.go on every
run equals what the model was written against (tables compared with literals, terms run under `TieSem` and equal to
the model for all inputs); a failing obligation = the code moved away from the model.
-/
import GoZero.Extracted.C14
import GoZero.C14.TieSem
import GoZero.C14.Proofs
import GoZero.Base.StringLit
namespace GoZero.C14.Tie
open GoZero.C14 GoZero.C14.TieSem
open GoZero.Extracted.C14

theorem extraction_clean : extractionErrors = [] := rfl

/-- the decision is made on the *named* result `err` (the deferred closure assigns to it) -/
theorem tie_namedResult : transactOnConnBlkResults = "err" ∧ transactBlkResults = "err" := ⟨rfl, rfl⟩

/-- `transact`: the connection provider first; on failure `onError` and the error, nothing else;
otherwise exactly `transactOnConn` with the same `b` and `fn`. -/
theorem tie_transactBlk : transactBlk =
    (.assignErr (.call "db.connProv()") <|
     .ifc "" "err != nil" (.other "db.onError(ctx, err)" <| .ret (.other "err")) .done <|
     .ret (.call "transactOnConn(ctx, conn, b, fn)")) := rfl

/-- `begin`: `db.Begin()`; its error is returned with a nil transaction; else the session around the new Tx -/
theorem tie_beginBlk : beginBlk =
    (.assignErr (.call "db.Begin()") <|
     .ifc "" "err != nil" (.other "return nil, err" .done) .done <|
     .other "return txSession{ Tx: tx, }, nil" .done) := rfl

/-- the standard sentinels `acceptable` accepts: exactly `Cls.noRows`, `Cls.txDone`, `Cls.canceled` -/
theorem tie_acceptSentinels : acceptSentinels = ["sql.ErrNoRows", "sql.ErrTxDone", "context.Canceled"] := rfl

theorem tie_transactShape : transactShape =
    ["call db.connProv", "if err != nil {", "call db.onError", "return", "}", "call transactOnConn", "return"] := rfl

theorem tie_beginShape : beginShape = ["call db.Begin", "if err != nil {", "return", "}", "return"] := rfl

/-- `TransactCtx`: the whole of `transact` runs inside the breaker with `db.acceptable`. -/
theorem tie_transactCtxShape : transactCtxShape =
    ["call startSpan", "defer{", "func{", "call endSpan", "}", "call func", "}",
     "func{", "call transact", "return", "}", "call db.brk.DoWithAcceptableCtx",
     "if errors.Is(err, breaker.ErrServiceUnavailable) {", "call metricReqErr.Inc", "}", "return"] := rfl

theorem tie_transactPlainShape : transactPlainShape =
    ["call context.Background", "func{", "call fn", "return", "}", "call db.TransactCtx", "return"] := rfl

/-- `acceptable`: nil / ErrNoRows / ErrTxDone / Canceled, then acceptableError, then the user function. -/
theorem tie_acceptableShape : acceptableShape =
    ["if err == nil || errorx.In(err, sql.ErrNoRows, sql.ErrTxDone, context.Canceled) {", "return", "}",
     "if errors.As(err, &e) {", "return", "}", "if db.accept == nil {", "return", "}",
     "call db.accept", "return"] := rfl

theorem tie_cachedTransactCtxShape : cachedTransactCtxShape = ["call cc.db.TransactCtx", "return"] := rfl

theorem tie_cachedTransactShape : cachedTransactShape =
    ["func{", "call fn", "return", "}", "call context.Background", "call cc.TransactCtx", "return"] := rfl

/-- nested transactions never reach the driver -/
theorem tie_txConnShapes : txConnTransactShape = ["return"] ∧ txConnTransactCtxShape = ["return"] := ⟨rfl, rfl⟩

/-! Every entry point the property anchors is wired to `transactOnConn` the way the model assumes: callee *and*
arguments of each hop (a changed context, begin function, acceptable function, body or callee breaks an obligation). -/

/-- `commonSqlConn.Transact` = `TransactCtx` with a background context and the same body -/
theorem tie_wire_Transact : wireTransact =
    ["return db.TransactCtx(context.Background(), func(_ context.Context, session Session) error { return fn(session) })",
     "func:return fn(session)", "func:call fn(session)"] := rfl

/-- `commonSqlConn.TransactCtx`: the span's context goes to the breaker and to `transact`; the request is
`transact` with the connection's own begin function and the caller's body; the verdict function is
`db.acceptable`; the breaker's answer is returned (named result, bare return) -/
theorem tie_wire_TransactCtx : wireTransactCtx =
    ["call startSpan(ctx, \"Transact\")",
     "call db.brk.DoWithAcceptableCtx(ctx, func() error { return transact(ctx, db, db.beginTx, fn) }, db.acceptable)",
     "func:return transact(ctx, db, db.beginTx, fn)", "return "] := rfl

theorem tie_wire_transact : wireTransactFn =
    ["call db.connProv()", "return err", "return transactOnConn(ctx, conn, b, fn)"] := rfl

/-- `begin` opens the transaction with `db.Begin()` — it is NOT bound to the caller's context: database/sql
never rolls it back on its own when that context ends (what the model's `cancelAt` relies on) -/
theorem tie_wire_begin : wireBegin =
    ["call db.Begin()", "return nil, err", "return txSession{ Tx: tx, }, nil"] := rfl

/-- both constructors install `begin` and a real breaker -/
theorem tie_constructors :
    litNewSqlConn = ["connProv: func", "onError: func", "beginTx: begin", "brk: breaker.NewBreaker()"] ∧
    litNewSqlConnFromDB = ["connProv: func", "onError: func", "beginTx: begin", "brk: breaker.NewBreaker()"] :=
  ⟨rfl, rfl⟩

/-- `sqlc.CachedConn.Transact[Ctx]` delegate to the wrapped SqlConn's `TransactCtx` with the same context/body -/
theorem tie_wire_cached :
    wireCachedTransact = ["func:return fn(session)", "return cc.TransactCtx(context.Background(), fnCtx)"] ∧
    wireCachedTransactCtx = ["return cc.db.TransactCtx(ctx, fn)"] := ⟨rfl, rfl⟩

/-- the Session helpers: a SqlConn / CachedConn made from a transaction's session is a `txConn`, whose
`Transact[Ctx]` returns `errCantNestTx` and nothing else (model: `SK.nest`) -/
theorem tie_wire_session_helpers :
    wireWithSession = ["return CachedConn{ db: sqlx.NewSqlConnFromSession(session), cache: cc.cache, }"] ∧
    wireFromSession = ["return txConn{ Session: session, }"] ∧
    wireTxConnTransact = ["return errCantNestTx"] ∧ wireTxConnTransactCtx = ["return errCantNestTx"] ∧
    errCantNestTxInit = "errors.New(\"cannot nest transactions\")" := ⟨rfl, rfl, rfl, rfl, rfl⟩

/-- the statement methods a body uses inside the transaction all go to the transaction's own `*sql.Tx` with the
context they were given (ctx-less ones: `context.Background()`); a Session built from a raw Tx
(`NewSessionFromTx`) is the same `txSession`; `ErrNotFound` is `sql.ErrNoRows` in both packages -/
theorem tie_wire_txSession :
    wireTxExec = ["return t.ExecCtx(context.Background(), q, args...)", "call t.ExecCtx(context.Background(), q, args...)"] ∧
    wireTxQueryRow = ["return t.QueryRowCtx(context.Background(), v, q, args...)",
                      "call t.QueryRowCtx(context.Background(), v, q, args...)"] ∧
    wireTxQueryRows = ["return t.QueryRowsCtx(context.Background(), v, q, args...)",
                       "call t.QueryRowsCtx(context.Background(), v, q, args...)"] ∧
    wireTxPrepare = ["return t.PrepareCtx(context.Background(), q)", "call t.PrepareCtx(context.Background(), q)"] ∧
    wireTxQueryRowCtx.take 2 =
      ["return query(ctx, t.Tx, func(rows *sql.Rows) error { return unmarshalRow(v, rows, true) }, q, args...)",
       "call query(ctx, t.Tx, func(rows *sql.Rows) error { return unmarshalRow(v, rows, true) }, q, args...)"] ∧
    wireTxQueryRowsCtx.take 2 =
      ["return query(ctx, t.Tx, func(rows *sql.Rows) error { return unmarshalRows(v, rows, true) }, q, args...)",
       "call query(ctx, t.Tx, func(rows *sql.Rows) error { return unmarshalRows(v, rows, true) }, q, args...)"] ∧
    wireTxQueryRowPartialCtx.take 1 =
      ["return query(ctx, t.Tx, func(rows *sql.Rows) error { return unmarshalRow(v, rows, false) }, q, args...)"] ∧
    wireTxQueryRowsPartialCtx.take 1 =
      ["return query(ctx, t.Tx, func(rows *sql.Rows) error { return unmarshalRows(v, rows, false) }, q, args...)"] ∧
    wireTxPrepareCtx = ["call t.Tx.PrepareContext(ctx, q)", "return nil, err",
                        "return statement{ query: q, stmt: stmt, brk: breaker.NopBreaker(), }, nil"] ∧
    wireNewSessionFromTx = ["return txSession{Tx: tx}"] ∧
    wireTxConnRawDB = ["return nil, errNoRawDBFromTx"] ∧
    errNotFoundInit = "sql.ErrNoRows" ∧ cachedErrNotFoundInit = "sqlx.ErrNotFound" :=
  ⟨rfl, rfl, rfl, rfl, rfl, rfl, rfl, rfl, rfl, rfl, rfl, rfl, rfl⟩

/-- a statement of the body made with a context goes to `sql.Tx.ExecContext` with that context (it is
database/sql that refuses it once the context is done) -/
theorem tie_wire_txExecCtx : wireTxExecCtx = ["call exec(ctx, t.Tx, q, args...)", "return "] := rfl

/-- a `CachedConn` keeps the SqlConn it was given (every cached constructor ends in `NewConnWithCache`) -/
theorem tie_cached_constructors :
    litNewConnWithCache = ["db: db", "cache: c"] ∧ wireNewConn = ["return NewConnWithCache(db, cc)"] ∧
    wireNewNodeConn = ["return NewConnWithCache(db, c)"] := ⟨rfl, rfl, rfl⟩

/-- the constructors apply the options in order to the connection they return (`for _, opt := range opts
{ opt(conn) }`), after the literal is built -/
theorem tie_option_loops :
    wireNewSqlConn = ["func:return getSqlConn(driverName, datasource)", "call opt(conn)", "return conn"] ∧
    wireNewSqlConnFromDB = ["func:return db, nil", "call opt(conn)", "return conn"] ∧
    newSqlConnFromDBShape = ["func{", "return", "}", "func{", "}", "call breaker.NewBreaker", "range opts {",
      "call opt", "}", "return"] := ⟨rfl, rfl, rfl⟩

-- the interpreter of the control-flow terms is unfolded by `simp` throughout this file
attribute [local simp] run assign doInit evalCond doRet callBody fmtErr argVal

theorem run_returned (i : Inp) (k : Blk) (s : St) (h : s.returned = true) : run i k s = s := by
  cases k <;> simp [h]

/-- `tx, err = b(conn); if err != nil { return }`, the head of `transactOnConn` in either version: what is left to run
once a transaction is open, and the whole run when none is. -/
theorem run_begin_guard (i : Inp) (k : Blk) :
    run i (.assignErr (.call "b(conn)") (.ifc "" "err != nil" (.ret .none) .done k)) {} =
      if i.f.opens then run i k { log := badPrefix i.f.badConn [.begin true] }
      else { log := refusedBegins i.f, err := some (Err.of (if i.f.givesUp then .badConn else .begin)),
             returned := true } := by
  by_cases hg : i.f.givesUp = true <;> by_cases hb : i.f.begin = true <;>
    simp [run_returned, Faults.opens, refusedBegins, hg, hb]

/-- **Semantic tie of the deferred decision.**  The control-flow term read from `transactOnConn` on this run
(begin guard, deferred closure with `recover()`, the three branches with their `fmt.Errorf` verbs, `tx.Commit()`,
`return fn(ctx, tx)`), run under the semantics of `TieSem`, gives exactly the model's driver-call log, body
runs and returned error — for every driver fault plan and every body (any length, any outcome); it is never
stuck and lets no panic escape.  Swapping Commit/Rollback, inverting a condition, dropping the begin guard,
moving the body call, turning `%w` into `%s` (or back) all break this theorem.  So does a `%w` of the panic value: the
model keeps it in the text only (`Src.panic`), and `TieSem.fmtErr` makes such a run stuck instead of interpreting it. -/
theorem tie_transactOnConn_sem (f : Faults) (b : Body) :
    outcome (run ⟨f, (runBody b).1, .ret (runBody b).2⟩ transactOnConnBlk {}) =
      some ((transactOnConn f b).log, (transactOnConn f b).runs, (transactOnConn f b).ret,
            (transactOnConn f b).escaped) := by
  have hne := runBody_ne_notRun b
  rw [transactOnConn_eq]
  unfold transactOnConnBlk
  rw [run_begin_guard]
  by_cases ho : f.opens = true
  · simp only [ho, if_true]
    unfold endEvent
    generalize (runBody b).1 = evs
    generalize (runBody b).2 = out at *
    cases out with
    | notRun => exact absurd rfl hne
    | nil =>
      -- run once up to `tx.Commit()`: the state after it branches on the driver's answers only; then those are split
      simp [Err.of, badPrefix_eq, endRet, endEscapes, Faults.commitOk]
      by_cases hp : f.commitPanics = true <;> by_cases hc : f.commit = true <;> simp [outcome, Err.of, hp, hc]
    | _ =>
      by_cases hp : f.rollbackPanics = true <;> by_cases hc : f.rollback = true <;>
        simp [outcome, Err.of, badPrefix_eq, endRet, endEscapes, Faults.rollbackOk, hp, hc]
  · simp [ho, outcome]

/-- **Semantic tie of `transact`.**  Its control-flow term, read from the source on this run and run under `runOuter`
(connection provider; on failure `onError` and that error; else the run of the term of `transactOnConn`),
gives exactly the model's `transactFn` — log, body runs, returned error, escaping driver panic — for every
provider answer, fault plan and body. -/
theorem tie_transact_sem (connOk : Bool) (f : Faults) (b : Body) :
    outcome (runOuter ⟨f, (runBody b).1, .ret (runBody b).2⟩ connOk transactOnConnBlk transactBlk {}) =
      some ((transactFn connOk f b).log, (transactFn connOk f b).runs, (transactFn connOk f b).ret,
            (transactFn connOk f b).escaped) := by
  have h := tie_transactOnConn_sem f b
  cases connOk
  · simp [transactBlk, runOuter, outcome, transactFn, Err.of]
  · have hr : runOuter ⟨f, (runBody b).1, .ret (runBody b).2⟩ true transactOnConnBlk transactBlk {} =
        { run ⟨f, (runBody b).1, .ret (runBody b).2⟩ transactOnConnBlk {} with returned := true } := by
      simp [transactBlk, runOuter]
    rw [hr]
    simpa [outcome, transactFn] using h

/-- **Semantic tie of `begin`.**  Its control-flow term, read from the source on this run and run under `runBegin`, is
exactly what the semantics of `transactOnConn` assumes of `tx, err = b(conn)`: the same driver calls (ONE
`db.Begin()` with database/sql's retried attempts inside), the same error, and a transaction exactly when one was
opened — for every fault plan.  A second Begin after a failed one (mutation M10), a swallowed error, a transaction
handed back together with an error break it. -/
theorem tie_begin_sem (f : Faults) :
    (runBegin f beginBlk {}).stuck = false ∧ (runBegin f beginBlk {}).returned = true ∧
    (runBegin f beginBlk {}).log = (assign ⟨f, [], .ret .nil⟩ {} (.call "b(conn)")).log ∧
    (runBegin f beginBlk {}).err = (assign ⟨f, [], .ret .nil⟩ {} (.call "b(conn)")).err ∧
    (runBegin f beginBlk {}).tx = f.opens ∧
    ((runBegin f beginBlk {}).tx = true ↔ (runBegin f beginBlk {}).err = none) := by
  obtain ⟨bg, cm, rb, bc, cp, rp, cc, rc⟩ := f
  cases hg : Faults.givesUp ⟨bg, cm, rb, bc, cp, rp, cc, rc⟩ <;> cases bg <;>
    simp [beginBlk, runBegin, hg, Faults.opens, Err.of]

/-- the tree carries one of the two analysed versions of `transactOnConn`: the pinned one or the one with
fixes/C14-commit-on-goexit-or-nil-panic.patch applied -/
theorem tie_pinned_or_fixed : transactOnConnBlk = pinnedBlk ∨ transactOnConnBlk = fixedBlk := by
  -- `rfl` against the version the tree has: `decide` would run `DecidableEq Blk` over the strings of both terms
  first | exact .inl rfl | exact .inr rfl

/-- the driver calls of a `transactOnConn` whose body leaves through `runtime.Goexit()` (the deferred closure runs,
the function never returns): the pinned code takes the success branch, the patched one rolls back -/
def goexitLog (fixed : Bool) (f : Faults) (evs : List Ev) : List Ev :=
  if f.givesUp then badPrefix maxBeginAttempts []
  else if !f.begin then badPrefix f.badConn [.begin false]
  else badPrefix f.badConn (.begin true :: (evs ++ [if fixed then .rollback f.rollbackOk else .commit f.commitOk]))

theorem goexitLog_eq (fixed : Bool) (f : Faults) (evs : List Ev) :
    goexitLog fixed f evs =
      if f.opens then
        badPrefix f.badConn (.begin true :: (evs ++ [if fixed then .rollback f.rollbackOk else .commit f.commitOk]))
      else refusedBegins f := by
  unfold goexitLog Faults.opens refusedBegins
  cases f.givesUp <;> cases f.begin <;> rfl

/-- the deferred closure of the pinned code cannot tell a Goexit from a return of nil: it commits -/
theorem goexit_pinned (f : Faults) (evs : List Ev) :
    (run ⟨f, evs, .goexit⟩ pinnedBlk {}).log = goexitLog false f evs := by
  unfold pinnedBlk
  rw [run_begin_guard, goexitLog_eq]
  by_cases ho : f.opens = true
  · by_cases hp : f.commitPanics = true <;>
      simp [ho, hp, badPrefix_eq, Faults.commitOk]
  · simp [ho]

/-- with the patch the closure rolls back unless the body was seen to return -/
theorem goexit_fixed (f : Faults) (evs : List Ev) :
    (run ⟨f, evs, .goexit⟩ fixedBlk {}).log = goexitLog true f evs := by
  unfold fixedBlk
  rw [run_begin_guard, goexitLog_eq]
  by_cases ho : f.opens = true
  · by_cases hp : f.rollbackPanics = true <;> by_cases hr : f.rollback = true <;>
      simp [ho, hp, hr, badPrefix_eq, Faults.rollbackOk]
  · simp [ho]

/-- **Goexit in the body, semantically tied**: the term read from the source on this run, run with a body that calls
`runtime.Goexit()`, makes exactly these driver calls — for every fault plan (incl. panicking Commit / Rollback
and retried Begins) and every list of statement calls -/
theorem tie_goexit_sem (f : Faults) (evs : List Ev) :
    (run ⟨f, evs, .goexit⟩ transactOnConnBlk {}).log = goexitLog (decide (transactOnConnBlk = fixedBlk)) f evs := by
  rcases tie_pinned_or_fixed with h | h
  · rw [h, goexit_pinned, show decide (pinnedBlk = fixedBlk) = false by decide]
  · rw [h, goexit_fixed, decide_eq_true rfl]

open GoZero.C14.Spec in
/-- **Even when the body leaves through Goexit the transaction is begun at most once and ended exactly once** (by
a Commit in the pinned code — the documented finding —, by a Rollback with the patch), as the last driver call. -/
theorem goexit_still_ends_exactly_once (fixed : Bool) (f : Faults) (b : Body) :
    endsExactlyOnce { log := goexitLog fixed f (runBody b).1, runs := 1, body := .nil, ret := none } = true ∧
    beginsOnce { log := goexitLog fixed f (runBody b).1, runs := 1, body := .nil, ret := none } = true := by
  rw [goexitLog_eq]
  by_cases ho : f.opens = true
  · rw [if_pos ho, clauses_opened_log (runBody_all b) rfl endsExactlyOnce (by simp),
      clauses_opened_log (runBody_all b) rfl beginsOnce (by simp)]
    cases fixed <;> exact ⟨rfl, rfl⟩
  · rw [if_neg ho]
    unfold refusedBegins
    split
    · decide
    · simp [endsExactlyOnce, beginsOnce, begun, count, badPrefix_eq, List.filter_cons]

/-! **Outside the property's quantifier** (kept as a finding: props/C14.json, level_note (a)): a body that leaves through
`runtime.Goexit()` or through `panic(nil)` under GODEBUG=panicnil=1 is invisible to `recover() != nil`.
The pinned code then takes the success branch and *commits* (and, for the nil panic, returns the commit's
result — nil); the patched code rolls back and reports an error. -/

/-- Goexit, pinned term: the log ends in the Commit -/
theorem witness_pinned_goexit_commits (evs : List Ev) (cm rb : Bool) :
    (run ⟨{ begin := true, commit := cm, rollback := rb }, evs, .goexit⟩ pinnedBlk {}).log =
      .begin true :: (evs ++ [.commit cm]) :=
  (goexit_pinned _ evs).trans (by cases cm <;> rfl)

/-- nil panic, pinned term: commits and returns nil -/
theorem witness_pinned_nilpanic_commits_returns_nil (evs : List Ev) :
    outcome (run ⟨{ begin := true, commit := true, rollback := true }, evs, .nilPanic⟩ pinnedBlk {}) =
      some (.begin true :: (evs ++ [.commit true]), 1, none, false) := by
  simp [pinnedBlk, outcome, Faults.givesUp, maxBeginAttempts, badPrefix]

/-- Goexit, patched term: the log ends in the Rollback -/
theorem fixed_goexit_rolls_back (evs : List Ev) (cm rb : Bool) :
    (run ⟨{ begin := true, commit := cm, rollback := rb }, evs, .goexit⟩ fixedBlk {}).log =
      .begin true :: (evs ++ [.rollback rb]) :=
  (goexit_fixed _ evs).trans (by cases rb <;> rfl)

/-- nil panic, patched term: rolled back, and an error is returned -/
theorem fixed_nilpanic_rolled_back_and_reported (evs : List Ev) (cm rb : Bool) :
    ∃ e, outcome (run ⟨{ begin := true, commit := cm, rollback := rb }, evs, .nilPanic⟩ fixedBlk {}) =
      some (.begin true :: (evs ++ [.rollback rb]), 1, some e, false) := by
  cases rb <;>
    simp [fixedBlk, outcome, Faults.givesUp, maxBeginAttempts, badPrefix]

/-- Go's short-circuit `x || y` is the Boolean `||` whenever both operands have a value -/
theorem evalBX_or {a : AEnv} {x y : BX} {p q : Bool} (hx : evalBX a x = some p) (hy : evalBX a y = some q) :
    evalBX a (.or x y) = some (p || q) := by
  cases p <;> simp [evalBX, hx, hy]

/-- `if c { return true }; k` answers `c || k` -/
theorem evalRC_ifRet_true {a : AEnv} {c : BX} {k : RC} {b r : Bool} (hc : evalBX a c = some b)
    (hk : evalRC a k = some r) : evalRC a (.ifRet c (.lit true) k) = some (b || r) := by
  cases b <;> simp [evalRC, evalBX, hc, hk]

/-- **Semantic tie of `commonSqlConn.acceptable`.**  Its decision chain, translated from the source on this run
(`err == nil || errorx.In(err, sql.ErrNoRows, sql.ErrTxDone, context.Canceled)` → true; `errors.As(err, &e)` with
`var e acceptableError` → true; `db.accept == nil` → false; else `db.accept(err)`), evaluated with short-circuit
`||`, equals the model's `acceptable` for EVERY error and every WithAcceptable configuration.  A dropped or added
sentinel, `&&` for `||`, an inverted nil test, a changed default, a different type for `e` break it.  Trusted and not
extracted: `errorx.In(err, s₁, …)` is `errors.Is(err, sᵢ)` for some i (core/errorx/check.go; `TieSem.evalBX`, `.errIn`). -/
theorem tie_acceptable_sem (ua : UA) (e : Option Err) :
    evalRC { err := e, fns := [("db.accept", uaFn ua)] } acceptableRC = some (acceptable ua e) := by
  rw [acceptable_probes]
  -- the only step whose answer depends on the configuration: `if db.accept == nil { return false }; return db.accept(err)`
  have tail : evalRC { err := e, vars := [("e", "acceptableError")], fns := [("db.accept", uaFn ua)] }
      (.ifRet (.isNil "db.accept") (.lit false) (.ret (.call "db.accept"))) =
      some ((ua.a1 && hasCls e .userOk) || (ua.a2 && hasCls e .userOk2)) := by
    obtain ⟨a1, a2⟩ := ua
    cases a1 <;> cases a2 <;> simp [evalRC, evalBX, uaFn, List.lookup]
  refine (evalRC_ifRet_true (evalBX_or (p := e.isNone) (q := hasCls e .noRows || (hasCls e .txDone || hasCls e .canceled)) ?_ ?_)
    (k := .decl "e" "acceptableError" _) (evalRC_ifRet_true (b := hasCls e .accType) ?_ tail)).trans ?_
  · simp [evalBX]
  · simp [evalBX, sentinelCls]
  · simp [evalBX, List.lookup]
  · simp [Bool.or_assoc]

/-- **Semantic tie of `WithAcceptable`.**  Its option closure, translated: the condition is `conn.accept == nil`;
then the given function is installed as it is; otherwise the previous function is kept (`pre := conn.accept`)
and the installed closure answers `pre(err) || acceptable(err)` for every error — i.e. the model's
`withAcceptable`.  Dropping `pre`, `&&` for `||`, an inverted condition break it. -/
theorem tie_withAcceptable_sem :
    withAcceptableParam = "acceptable" ∧
    (∀ cur : AccFn, evalBX { err := none, fns := [("conn.accept", cur)] } withAcceptableCond = some cur.isNone) ∧
    withAcceptableThen = .name "acceptable" ∧
    withAcceptableLets = [("pre", .name "conn.accept")] ∧
    (∃ body, withAcceptableElse = .lam body ∧
      ∀ (pre new : Option Err → Bool) (e : Option Err),
        evalBX { err := e, fns := [("pre", some pre), ("acceptable", some new)] } body = some (pre e || new e) ∧
        withAcceptable (some pre) new = some (fun e => pre e || new e) ∧ withAcceptable none new = some new) := by
  refine ⟨rfl, ?_, rfl, rfl, ⟨_, rfl, ?_⟩⟩
  · intro cur; cases cur <;> simp [withAcceptableCond, evalBX, List.lookup]
  · intro pre new e
    exact ⟨evalBX_or (by simp [evalBX, List.lookup]) (by simp [evalBX, List.lookup]), rfl, rfl⟩

/-- what one `WithAcceptable` option does to the connection in the tree as it is: the pinned closure (a nil
argument is installed / later CALLED: finding, `Props.witness_nil_option_violates_orderly_return`) or the one with
fixes/not-applied/C14-withacceptable-nil.patch (leading `if acceptable == nil { return }`: `Props.fixed_nil_options_ignored`) -/
def optionStep : AccFnP → AccFnP → AccFnP :=
  if withAcceptableNilGuard then withAcceptableFixed else withAcceptablePinned

theorem tie_withAcceptable_nil_guard :
    (withAcceptableNilGuard = false ∧ optionStep = withAcceptablePinned) ∨
    (withAcceptableNilGuard = true ∧ optionStep = withAcceptableFixed) := by
  unfold optionStep
  cases h : withAcceptableNilGuard <;> simp

/-- every hop that re-binds its context does so with `ctx, span := startSpan(ctx, …)`: a child of the same context
(each text tested once, on its characters: `startsWith_lit`) -/
theorem span_rebinds :
    ∀ s ∈ ["startSpan(ctx, \"Transact\")", "startSpan(ctx, \"Exec\")", "startSpan(ctx, \"QueryRow\")",
        "startSpan(ctx, \"QueryRowPartial\")", "startSpan(ctx, \"QueryRows\")",
        "startSpan(ctx, \"QueryRowsPartial\")", "startSpan(ctx, \"Prepare\")"],
      s.startsWith "startSpan(ctx, " = true := by
  simp only [List.forall_mem_cons, List.not_mem_nil, false_imp_iff, implies_true, and_true]
  with_reducible refine ⟨?_, ?_, ?_, ?_, ?_, ?_, ?_⟩ <;> exact startsWith_lit rfl rfl (by decide)

/-- what `transactOnConn(ctx, conn, b, fn)` hands to the begin function and to the body -/
def onConnHands (actuals : List V) : List V × List V := (evalFwd fwdOnConnBegin actuals, evalFwd fwdOnConnBody actuals)

/-- `commonSqlConn.TransactCtx(c, f)` followed down to the two calls `b(conn)` and `fn(ctx, tx)` -/
def pathFromTransactCtx (actuals : List V) : List V × List V :=
  onConnHands (evalFwd fwdTransactFn (evalFwd fwdTransactCtxThunk actuals))

/-- **Semantic tie of the forwarding, end to end, for every context `c` and body `f` of the caller.**
Composing the typed argument lists read from the source on this run: through every entry point the body that runs is the
caller's body `f` (through `Transact`: adapted by dropping the context), it is handed the transaction `tx` and
the CALLER's context `c` (through `Transact`: `context.Background()`, which never ends), the begin function is
the connection's `beginTx` applied to the provider's `conn`, the breaker gets that same context, the thunk around
`transact`, and `db.acceptable`; the cached entry points pass (c, f) on unchanged.  A dropped, swapped or replaced
argument at any hop breaks this theorem (and shows in the harness as `cv=0` / a statement that ignores a
cancellation). -/
theorem tie_forwarding_sem (c f : Nat) :
    -- callees of every hop
    [fwdCachedTransact.callee, fwdCachedTransactCtx.callee, fwdTransact.callee, fwdTransactCtx.callee,
      fwdTransactCtxThunk.callee, fwdTransactFn.callee, fwdOnConnBegin.callee, fwdOnConnBody.callee] =
      ["cc.TransactCtx", "cc.db.TransactCtx", "db.TransactCtx", "db.brk.DoWithAcceptableCtx", "transact",
       "transactOnConn", "b", "fn"] ∧
    -- TransactCtx(c, f): breaker arguments, and what reaches begin / the body
    evalFwd fwdTransactCtx [V.ctx c, V.body f false] = [V.ctx c, V.thunk, V.acceptFn] ∧
    evalFwd fwdTransactCtxThunk [V.ctx c, V.body f false] = [V.ctx c, V.db, V.beginFn, V.body f false] ∧
    pathFromTransactCtx [V.ctx c, V.body f false] = ([V.conn], [V.ctx c, V.tx]) ∧
    (evalFwd fwdTransactFn (evalFwd fwdTransactCtxThunk [V.ctx c, V.body f false])).getD 3 V.unknown = V.body f false ∧
    (evalFwd fwdTransactFn (evalFwd fwdTransactCtxThunk [V.ctx c, V.body f false])).getD 2 V.unknown = V.beginFn ∧
    -- Transact(f) = TransactCtx(Background, adapted f)
    evalFwd fwdTransact [V.body f false] = [V.bgCtx, V.body f true] ∧
    pathFromTransactCtx (evalFwd fwdTransact [V.body f false]) = ([V.conn], [V.bgCtx, V.tx]) ∧
    -- the cached entry points
    evalFwd fwdCachedTransactCtx [V.ctx c, V.body f false] = [V.ctx c, V.body f false] ∧
    evalFwd fwdCachedTransact [V.body f false] = [V.bgCtx, V.body f true] ∧
    -- parameter orders the positions above refer to
    fwdTransactCtxParams = ["ctx", "fn"] ∧ fwdTransactFnParams = ["ctx", "db", "b", "fn"] ∧
    fwdOnConnBodyParams = ["ctx", "conn", "b", "fn"] ∧ fwdCachedTransactCtxParams = ["ctx", "fn"] ∧
    fwdTransactParams = ["fn"] ∧ fwdCachedTransactParams = ["fn"] := by
  have hs := span_rebinds
  simp only [List.forall_mem_cons, List.not_mem_nil, false_imp_iff, implies_true, and_true] at hs
  -- each hop is read once, for whatever it is handed; the conjuncts about the whole path are compositions of these
  have thunk (fn : V) : evalFwd fwdTransactCtxThunk [.ctx c, fn] = [.ctx c, .db, .beginFn, fn] ∧
      evalFwd fwdTransactCtxThunk [.bgCtx, fn] = [.bgCtx, .db, .beginFn, fn] := by
    simp [evalFwd, evalArg, fwdTransactCtxThunk, List.getD, hs]
  have inner (x d b fn : V) : evalFwd fwdTransactFn [x, d, b, fn] = [x, .conn, b, fn] ∧
      onConnHands [x, d, b, fn] = ([d], [x, .tx]) := by
    simp [onConnHands, evalFwd, evalArg, fwdTransactFn, fwdOnConnBegin, fwdOnConnBody, List.getD]
  have tr : evalFwd fwdTransact [V.body f false] = [V.bgCtx, V.body f true] := by
    simp [evalFwd, evalArg, fwdTransact, List.getD]
  refine ⟨rfl, ?_, (thunk _).1, ?_, ?_, ?_, tr, ?_, ?_, ?_, rfl, rfl, rfl, rfl, rfl, rfl⟩
  · simp [evalFwd, evalArg, fwdTransactCtx, List.getD, hs]
  iterate 4 simp [pathFromTransactCtx, thunk, inner, tr, List.getD]
  all_goals simp [evalFwd, evalArg, fwdCachedTransactCtx, fwdCachedTransact, List.getD]

/-- **Every statement method of the transaction's session hands the caller's context, the session's OWN
transaction `t.Tx` and the caller's query / destination / arguments, unchanged and in order, to database/sql**
(`exec`, `query`, `Tx.PrepareContext`) — for all contexts `c` and values `v q a`; the context-less methods call
their `…Ctx` twin with `context.Background()` and everything else unchanged.  A statement made with another
context, on another handle, or with swapped arguments breaks this. -/
theorem tie_txSession_forwarding_sem (c v q a : Nat) :
    evalFwd fwdTxExecCtx [V.ctx c, V.val q, V.val a] = [V.ctx c, V.tx, V.val q, V.val a] ∧
    evalFwd fwdTxPrepareCtx [V.ctx c, V.val q] = [V.ctx c, V.val q] ∧
    (∀ h ∈ [fwdTxQueryRowCtx, fwdTxQueryRowPartialCtx, fwdTxQueryRowsCtx, fwdTxQueryRowsPartialCtx],
      h.callee = "query" ∧
      evalFwd h [V.ctx c, V.val v, V.val q, V.val a] = [V.ctx c, V.tx, V.unknown, V.val q, V.val a]) ∧
    evalFwd fwdTxExec [V.val q, V.val a] = [V.bgCtx, V.val q, V.val a] ∧
    evalFwd fwdTxPrepare [V.val q] = [V.bgCtx, V.val q] ∧
    (∀ h ∈ [fwdTxQueryRow, fwdTxQueryRowPartial, fwdTxQueryRows, fwdTxQueryRowsPartial],
      evalFwd h [V.val v, V.val q, V.val a] = [V.bgCtx, V.val v, V.val q, V.val a]) ∧
    [fwdTxExecCtx.callee, fwdTxPrepareCtx.callee, fwdTxExec.callee, fwdTxPrepare.callee, fwdTxQueryRow.callee,
      fwdTxQueryRowPartial.callee, fwdTxQueryRows.callee, fwdTxQueryRowsPartial.callee] =
      ["exec", "t.Tx.PrepareContext", "t.ExecCtx", "t.PrepareCtx", "t.QueryRowCtx", "t.QueryRowPartialCtx",
       "t.QueryRowsCtx", "t.QueryRowsPartialCtx"] ∧
    -- the scanner each query method passes: strict for QueryRow[s], partial for the …Partial twins
    [fwdTxQueryRowCtx.args.getD 2 .thunk, fwdTxQueryRowPartialCtx.args.getD 2 .thunk,
      fwdTxQueryRowsCtx.args.getD 2 .thunk, fwdTxQueryRowsPartialCtx.args.getD 2 .thunk] =
      [.other "func(rows *sql.Rows) error { return unmarshalRow(v, rows, true) }",
       .other "func(rows *sql.Rows) error { return unmarshalRow(v, rows, false) }",
       .other "func(rows *sql.Rows) error { return unmarshalRows(v, rows, true) }",
       .other "func(rows *sql.Rows) error { return unmarshalRows(v, rows, false) }"] := by
  have hs := span_rebinds
  simp only [List.forall_mem_cons, List.not_mem_nil, false_imp_iff, implies_true, and_true] at hs
  refine ⟨?_, ?_, ?_, ?_, ?_, ?_, rfl, rfl⟩ <;>
    simp [evalFwd, evalArg, fwdTxExecCtx, fwdTxPrepareCtx, fwdTxQueryRowCtx, fwdTxQueryRowPartialCtx,
      fwdTxQueryRowsCtx, fwdTxQueryRowsPartialCtx, fwdTxExec, fwdTxPrepare, fwdTxQueryRow, fwdTxQueryRowPartial,
      fwdTxQueryRows, fwdTxQueryRowsPartial, List.getD, hs]

/-- The source texts `classify` tests, each tested once.  A literal is `String.ofList` of its characters and on those a
prefix test is `List.isPrefixOf` (`startsWith_lit`); `String.startsWith` evaluated on the literal itself decodes its UTF-8
bytes, in `simp` and again in the kernel. -/
theorem stmt_method_texts :
    (∀ s ∈ ["ctx, span := startSpan(ctx, \"Exec\")", "ctx, span := startSpan(ctx, \"QueryRow\")",
        "ctx, span := startSpan(ctx, \"QueryRowPartial\")", "ctx, span := startSpan(ctx, \"QueryRows\")",
        "ctx, span := startSpan(ctx, \"QueryRowsPartial\")", "ctx, span := startSpan(ctx, \"Prepare\")"],
      s.startsWith "ctx, span := startSpan(ctx, " = true) ∧
    (∀ s ∈ ["query(ctx, t.Tx, func(rows *sql.Rows) error { return unmarshalRow(v, rows, true) }, q, args...)",
        "query(ctx, t.Tx, func(rows *sql.Rows) error { return unmarshalRow(v, rows, false) }, q, args...)",
        "query(ctx, t.Tx, func(rows *sql.Rows) error { return unmarshalRows(v, rows, true) }, q, args...)",
        "query(ctx, t.Tx, func(rows *sql.Rows) error { return unmarshalRows(v, rows, false) }, q, args...)"],
      s.startsWith "query(ctx, t.Tx, " = true) ∧
    "exec(ctx, t.Tx, q, args...)".startsWith "exec(ctx, t.Tx, " = true ∧
    "t.Tx.PrepareContext(ctx, q)".startsWith "exec(ctx, t.Tx, " = false ∧
    "t.Tx.PrepareContext(ctx, q)".startsWith "t.Tx.PrepareContext(ctx, " = true ∧
    (∀ s ∈ ["return nil, err", "return statement{ query: q, stmt: stmt, brk: breaker.NopBreaker(), }, nil"],
      s.startsWith "ctx, span := startSpan(ctx, " = false) := by
  simp only [List.forall_mem_cons, List.not_mem_nil, false_imp_iff, implies_true, and_true]
  with_reducible refine ⟨⟨?_, ?_, ?_, ?_, ?_, ?_⟩, ⟨?_, ?_, ?_, ?_⟩, ?_, ?_, ?_, ?_, ?_⟩ <;>
    exact startsWith_lit rfl rfl (by decide)

/-- **Semantic tie of the statement methods' result.**  The control-flow term of every `…Ctx` statement method of
the transaction's session, classified by `classify` and run under `runOps`, returns exactly the error of its one call into database/sql
(nil when that call worked) — for EVERY error.  A swallowed or replaced error (mutation M15: ErrBadConn turned
into nil) breaks it.  `runOps` runs on fuel (its programs nest: `MOp.ifErr` holds lists of `MOp`); that 16 is enough for
these six terms is part of the statement, since a run out of fuel is stuck and `returnsCalleeError` then false. -/
theorem tie_stmt_methods_return_callee_error (e : Option Err) :
    returnsCalleeError txExecCtxBlk e = true ∧ returnsCalleeError txQueryRowCtxBlk e = true ∧
    returnsCalleeError txQueryRowPartialCtxBlk e = true ∧ returnsCalleeError txQueryRowsCtxBlk e = true ∧
    returnsCalleeError txQueryRowsPartialCtxBlk e = true ∧ returnsCalleeError txPrepareCtxBlk e = true := by
  have ht := stmt_method_texts
  simp only [List.forall_mem_cons, List.not_mem_nil, false_imp_iff, implies_true, and_true] at ht
  cases e <;>
    simp [returnsCalleeError, classify, runOps, ht, txExecCtxBlk, txQueryRowCtxBlk, txQueryRowPartialCtxBlk,
      txQueryRowsCtxBlk, txQueryRowsPartialCtxBlk, txPrepareCtxBlk]

def ctxArgOf : V → Option CtxArg
  | .ctx 0 => some .callers
  | .bgCtx => some .background
  | _ => none

def handleOf : V → Option Handle
  | .tx => some .tx
  | .conn => some .pool
  | .db => some .pool
  | _ => none

/-- what `transactOnConn` hands to the body -/
def xHands : List V := evalFwd fwdOnConnBody [V.ctx 0, V.conn, V.beginFn, V.body 0 false]
/-- what each `…Ctx` statement method hands to database/sql -/
def xCtxMethods : List (List V) :=
  [fwdTxExecCtx, fwdTxQueryRowCtx, fwdTxQueryRowPartialCtx, fwdTxQueryRowsCtx, fwdTxQueryRowsPartialCtx].map
    fun h => evalFwd h [V.ctx 0, V.val 1, V.val 2, V.val 3]
def xPrepareCtx : List V := evalFwd fwdTxPrepareCtx [V.ctx 0, V.val 1]
/-- … each context-less one -/
def xPlainMethods : List (List V) :=
  [fwdTxExec, fwdTxPrepare, fwdTxQueryRow, fwdTxQueryRowPartial, fwdTxQueryRows, fwdTxQueryRowsPartial].map
    fun h => evalFwd h [V.val 1, V.val 2, V.val 3]

/-- the session wiring computed from the typed forwarding terms, the wiring strings and the statement-method terms
the extractor read on this run (`none`: something on the path is not understood) -/
def extractedWiring : Option Wiring :=
  match handleOf (xHands.getD 1 .unknown), ctxArgOf (xHands.getD 0 .unknown) with
  | some bodySession, some bodyCtx =>
    if xCtxMethods.all (fun a => handleOf (a.getD 1 .unknown) == some .tx) &&
       (xPrepareCtx :: xCtxMethods).all (fun a => ctxArgOf (a.getD 0 .unknown) == some .callers) &&
       xPlainMethods.all (fun a => ctxArgOf (a.getD 0 .unknown) == some .background) &&
       fwdTxPrepareCtx.callee == "t.Tx.PrepareContext" then
      some { bodySession, bodyCtx, stmtHandle := .tx, stmtCtx := .callers, plainStmtCtx := .background,
             rawDBRefused := decide (wireTxConnRawDB = ["return nil, errNoRawDBFromTx"]),
             nestRefused := decide (wireTxConnTransact = ["return errCantNestTx"] ∧
               wireTxConnTransactCtx = ["return errCantNestTx"] ∧ txConnTransactShape = ["return"] ∧
               txConnTransactCtxShape = ["return"] ∧ wireFromSession = ["return txConn{ Session: session, }"]),
             stmtErrReturned :=
               [txExecCtxBlk, txQueryRowCtxBlk, txQueryRowPartialCtxBlk, txQueryRowsCtxBlk,
                txQueryRowsPartialCtxBlk, txPrepareCtxBlk].all fun b =>
                 returnsCalleeError b (some (Err.of (.stmt 0))) && returnsCalleeError b none }
    else none
  | _, _ => none

/-- **The session wiring the theorems are about is the wiring of the source**: the body is handed the
transaction's session and the caller's context; every statement method goes to its own `t.Tx` with the context it
was given (context-less: Background) and returns database/sql's error; a connection made from the session refuses
`Transact[Ctx]` and `RawDB`.  (`Props.statements_inside_the_transaction`, `session_conn_refuses`,
`statement_context_and_errors` are stated for `codeWiring`.) -/
theorem tie_session_wiring : extractedWiring = some codeWiring := by
  have hs := span_rebinds
  simp only [List.forall_mem_cons, List.not_mem_nil, false_imp_iff, implies_true, and_true] at hs
  simp [extractedWiring, xHands, xCtxMethods, xPrepareCtx, xPlainMethods, evalFwd, evalArg, List.getD, hs, handleOf,
    ctxArgOf, codeWiring, tie_stmt_methods_return_callee_error, fwdOnConnBody, fwdTxExecCtx, fwdTxQueryRowCtx,
    fwdTxQueryRowPartialCtx, fwdTxQueryRowsCtx, fwdTxQueryRowsPartialCtx, fwdTxPrepareCtx, fwdTxExec, fwdTxPrepare,
    fwdTxQueryRow, fwdTxQueryRowPartial, fwdTxQueryRows, fwdTxQueryRowsPartial, wireTxConnRawDB, wireTxConnTransact,
    wireTxConnTransactCtx, txConnTransactShape, txConnTransactCtxShape, wireFromSession]

end GoZero.C14.Tie
