/-
C09 — cleaned token lists; what `add` does on any route (`add_eq`; on cleaned tokens it is `addW`), the two equations of
`next`; uniqueness of the preferred match under the hypothesis.
-/
import GoZero.C09.ProofsAdd
namespace GoZero.C09

open Spec

/-- no empty token -/
def NE (l : List String) : Prop := ∀ t ∈ l, t ≠ ""

/-- a cleaned token list: the root `[""]`, or a non-empty list of non-empty tokens. -/
def Clean (l : List String) : Prop := l = [""] ∨ (l ≠ [] ∧ NE l)

/-- the trie key of a cleaned pattern (the root pattern is stored at the root node itself). -/
def wkey (pats : List String) : List String := if pats = [""] then [] else pats

theorem NE_tail {t : String} {l : List String} (h : NE (t :: l)) : NE l :=
  fun x hx => h x (List.mem_cons_of_mem _ hx)

theorem wkey_ne_root {pats : List String} (h : pats ≠ [""]) : wkey pats = pats := by
  simp [wkey, h]

theorem wkey_of_NE {l : List String} (h : NE l) : wkey l = l :=
  wkey_ne_root fun e => h "" (by simp [e]) rfl

theorem wkey_inj {a b : List String} (ha : Clean a) (hb : Clean b) (h : wkey a = wkey b) : a = b := by
  rcases ha with rfl | ⟨ha0, ha⟩ <;> rcases hb with rfl | ⟨hb0, hb⟩
  · rfl
  · rw [wkey_of_NE hb] at h; simp [wkey] at h; exact (hb0 (by simpa using h.symm)).elim
  · rw [wkey_of_NE ha] at h; simp [wkey] at h; exact (ha0 (by simpa using h)).elim
  · rwa [wkey_of_NE ha, wkey_of_NE hb] at h

/-- what `path.Clean` keeps: every element of the result was kept before (`acc`) or is an element of `l` other
than "", "." and "..". -/
theorem cleanGo_forall (P : String → Prop) (l acc : List String) (hacc : ∀ t ∈ acc, P t)
    (hl : ∀ t ∈ l, t ≠ "" → t ≠ "." → t ≠ ".." → P t) : ∀ t ∈ cleanGo l acc, P t := by
  induction l generalizing acc with
  | nil => simpa [cleanGo] using hacc
  | cons s rest ih =>
    have hrest : ∀ t ∈ rest, t ≠ "" → t ≠ "." → t ≠ ".." → P t := fun t ht => hl t (List.mem_cons_of_mem _ ht)
    unfold cleanGo
    split
    · exact ih acc hacc hrest
    · split
      · exact ih _ (fun t ht => hacc t (List.mem_of_mem_tail ht)) hrest
      · rename_i h1 h2
        refine ih _ (fun t ht => ?_) hrest
        rcases List.mem_cons.mp ht with rfl | ht
        · exact hl t (by simp) (fun e => h1 (Or.inl e)) (fun e => h1 (Or.inr e)) h2
        · exact hacc t ht

theorem cleanGo_NE (l acc : List String) (h : NE acc) : NE (cleanGo l acc) :=
  cleanGo_forall (· ≠ "") l acc h fun _ _ h1 _ _ => h1

theorem clean_cleanToks (p : String) : Clean (cleanToks p) := by
  unfold cleanToks
  have h := cleanGo_NE (toksOf p) [] (by intro t ht; cases ht)
  split
  · exact Or.inl rfl
  · rename_i hne
    exact Or.inr ⟨hne, h⟩

theorem add_cons_cons (t r : String) (rs : List String) (n : Node) (h : H) :
    add (t :: r :: rs) n h
      = if t = "" then .error .dupSlash
        else updChild n t fun oc => add (r :: rs) (oc.getD (newNode none)) h := rfl

theorem wkey_cons {t : String} (ht : t ≠ "") (l : List String) : wkey (t :: l) = t :: l :=
  wkey_ne_root fun e => ht (List.cons.inj e).1

theorem addW_ne_dupSlash (ks : List String) : ∀ (n : Node) (h : H), addW ks n h ≠ .error .dupSlash := by
  induction ks with
  | nil => intro n h; simp only [addW]; split <;> nofun
  | cons k ks ih =>
    intro n h e
    rw [addW, updChild_eq] at e
    cases hr : addW ks ((child n k).getD (newNode none)) h with
    | ok c => rw [hr] at e; cases e
    | error x => rw [hr] at e; cases e; exact ih _ _ hr

theorem wkey_normToks {r : String} {rs : List String} (hns : "" ∉ (r :: rs).dropLast) (hlast : ¬ (r = "" ∧ rs = [])) :
    wkey (normToks (r :: rs)) = normToks (r :: rs) := by
  cases rs with
  | nil => exact wkey_cons (fun e => hlast ⟨e, rfl⟩) []
  | cons r2 rs2 =>
    have hr : r ≠ "" := fun e => hns (by simp [e])
    unfold normToks
    split <;> exact wkey_cons hr _

/-- **What `add` does on any route**: `errDupSlash` exactly for an empty element that is not the last one (`//` inside,
or right after the leading slash followed by more) — whatever the tree contains —, otherwise the uniform insertion under
the elements without one trailing slash. -/
theorem add_eq (toks : List String) : toks ≠ [] → ∀ (n : Node) (h : H),
    add toks n h = if "" ∈ toks.dropLast then .error .dupSlash else addW (wkey (normToks toks)) n h := by
  induction toks with
  | nil => intro h; exact absurd rfl h
  | cons t rest ih =>
    intro _ n h
    cases rest with
    | nil =>
      rw [List.dropLast_singleton, if_neg List.not_mem_nil]
      by_cases ht : t = ""
      · subst ht; simp [add, addW, wkey, normToks]
      · rw [show normToks [t] = [t] from rfl, wkey_cons ht]
        simp only [add, ht, if_false, addW]
        congr 1
        funext oc
        cases oc <;> rfl
    | cons r rs =>
      rw [add_cons_cons, List.dropLast_cons_cons]
      by_cases ht : t = ""
      · simp [ht]
      · simp only [if_neg ht, List.mem_cons, or_iff_right (Ne.symm ht), ih (List.cons_ne_nil r rs)]
        by_cases hns : "" ∈ (r :: rs).dropLast
        · simp only [hns, if_true, updChild_eq]; rfl
        · simp only [hns, if_false]
          by_cases hlast : r = "" ∧ rs = []
          · obtain ⟨rfl, rfl⟩ := hlast
            rw [show normToks [t, ""] = [t] from by simp [normToks], wkey_cons ht]
            rfl
          · have hn : normToks (t :: r :: rs) = t :: normToks (r :: rs) := by rw [normToks]; simp [hlast]
            rw [hn, wkey_cons ht, wkey_normToks hns hlast]
            rfl

theorem normToks_NE {l : List String} (h : NE l) : normToks l = l := by
  induction l with
  | nil => rfl
  | cons t rest ih =>
    cases rest with
    | nil => rfl
    | cons r rs => rw [normToks, if_neg (fun e => h r (by simp) e.1), ih (NE_tail h)]

theorem add_clean {pats : List String} (hc : Clean pats) (n : Node) (h : H) :
    add pats n h = addW (wkey pats) n h := by
  rcases hc with rfl | ⟨h0, hne⟩
  · simp [add, addW, wkey]
  · rw [add_eq pats h0, if_neg fun hm => hne "" ((List.dropLast_sublist _).subset hm) rfl, normToks_NE hne]

theorem next_cons_cons (t r : String) (rs : List String) (n : Node) :
    next (t :: r :: rs) n
      = forEach n fun k c => if matchTok k t then (next (r :: rs) c).map (hit k t) else none := rfl

/-- the callback is written in the shape `forEach_step` takes: the search below a child is the child's own item. -/
theorem next_single (t : String) (n : Node) :
    next [t] n = if t = "" ∧ n.item.isSome then n.item.map (fun h => (h, []))
      else forEach n fun k c => if matchTok k t then (c.item.map fun h => (h, [])).map (hit k t) else none := by
  simp only [next]
  split
  · rfl
  · congr 1
    funext k c
    split
    · simp [Option.map_map, Function.comp_def]
    · rfl

/-- two patterns that match the same tokens and are not beaten by each other are equal under the hypothesis: at the first segment
where they differ, two literals would both equal the token, literal against variable means that one beats the other, and two
variables is what the hypothesis excludes. -/
theorem prefers_antisymm (a b toks : List String)
    (ha : matchesP a toks = true) (hb : matchesP b toks = true)
    (hab : prefers a b = true) (hba : prefers b a = true)
    (hs : sameVarAfterCommonPrefix a b = true) : a = b := by
  induction toks generalizing a b with
  | nil =>
    rw [matchesP_nil_iff] at ha hb
    rw [ha, hb]
  | cons t ts ih =>
    obtain ⟨k, ks, rfl, hk, hks⟩ := (matchesP_cons_iff _ _ _).mp ha
    obtain ⟨k', ks', rfl, hk', hks'⟩ := (matchesP_cons_iff _ _ _).mp hb
    by_cases e : k = k'
    · subst e
      simp only [prefers, sameVarAfterCommonPrefix, if_true] at hab hba hs
      rw [ih ks ks' hks hks' hab hba hs]
    · simp only [prefers, sameVarAfterCommonPrefix, e, Ne.symm e, if_false] at hab hba hs
      exfalso
      cases hv : isVar k <;> cases hv' : isVar k' <;> simp [hv, hv'] at hab hba hs
      exact e (((matchTok_lit hv).mp hk).trans ((matchTok_lit hv').mp hk').symm)

theorem sameVar_symm (a b : List String) :
    sameVarAfterCommonPrefix a b = sameVarAfterCommonPrefix b a := by
  induction a generalizing b with
  | nil => cases b <;> simp [sameVarAfterCommonPrefix]
  | cons k ks ih =>
    cases b with
    | nil => simp [sameVarAfterCommonPrefix]
    | cons k' ks' =>
      by_cases e : k = k'
      · subst e; simp [sameVarAfterCommonPrefix, ih]
      · simp [sameVarAfterCommonPrefix, e, Ne.symm e, Bool.and_comm]

end GoZero.C09
