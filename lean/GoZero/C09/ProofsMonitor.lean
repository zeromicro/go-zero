/-
C09 — two facts for the monitor-soundness theorems: `sameSet` is equality as sets, and the driver's `fmtReg` prints the
verdict that `verdictOf` reads off `Handle`'s answer.
-/
import GoZero.C09.ProofsServe
import GoZero.C09.Driver
namespace GoZero.C09

open Spec

theorem sameSet_iff {α} [BEq α] [LawfulBEq α] (a b : List α) :
    sameSet a b = true ↔ ∀ x, x ∈ a ↔ x ∈ b := by
  simp only [sameSet, Bool.and_eq_true, List.all_eq_true, List.contains_iff_mem]
  constructor
  · rintro ⟨h1, h2⟩ x; exact ⟨h1 x, h2 x⟩
  · intro h; exact ⟨fun x hx => (h x).mp hx, fun x hx => (h x).mpr hx⟩

theorem fmtReg_eq_fmtSpecReg (x : Except HandleErr Router)
    (h1 : x ≠ .error (.tree .dupSlash)) (h2 : x ≠ .error (.tree .notFromRoot)) :
    fmtReg x = fmtSpecReg (verdictOf x) := by
  cases x with
  | ok r => rfl
  | error e =>
    cases e with
    | invalidMethod => rfl
    | invalidPath => rfl
    | tree e => cases e <;> first | rfl | exact absurd rfl h1 | exact absurd rfl h2

end GoZero.C09
