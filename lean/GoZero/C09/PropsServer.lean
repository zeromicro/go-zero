/-
C09 — property theorems: custom notFound / notAllowed handlers, the monitor of the driver is sound,
rest.Server / engine binding (WithPrefix, bindRoutes), path.Clean characterised, trailing slash and letter case.
-/
import GoZero.C09.Props
import GoZero.C09.ProofsMonitor
import GoZero.C09.ProofsCleanPath
namespace GoZero.C09

open Spec

/-- custom handlers never change *whether* and *where* a request is dispatched. -/
theorem serveHTTP_route_iff (pr : PatRouter) (m p : String) (h : H) (ps : Params) :
    pr.serveHTTP m p = .route h ps ↔ serve pr.core m p = .handler h ps := by
  unfold PatRouter.serveHTTP
  cases hs : serve pr.core m p with
  | handler h' ps' => simp
  | notAllowed a => cases pr.notAllowed <;> simp
  | notFound => cases pr.notFound <;> simp

/-- **the custom not-allowed handler runs exactly in the 405 situation**: no route of the request's method
matches the cleaned path, a route of another method does.  (The router then sets no Allow header itself.) -/
theorem custom_notAllowed_runs_iff {pr : PatRouter} {tbl : Table} (hrep : Rep pr.core tbl) (hok : TblOK tbl)
    (m p : String) (h : H) :
    pr.serveHTTP m p = .customNotAllowed h ↔
      (pr.notAllowed = some h ∧ rooted p = true ∧ candidates tbl m (cleanToks p) = [] ∧
        ∃ route ∈ tbl, route.method ≠ m ∧ matchesP route.pats (cleanToks p) = true) := by
  obtain ⟨hH, hA, hF⟩ := serve_spec hrep hok m p
  unfold PatRouter.serveHTTP
  cases hs : serve pr.core m p with
  | handler h' ps' =>
    obtain ⟨_, route, hadm, _⟩ := hH h' ps' hs
    refine ⟨nofun, fun ⟨_, _, hc, _⟩ => ?_⟩
    rw [candidates_nil_admissible hc] at hadm
    cases hadm
  | notFound =>
    constructor
    · cases pr.notFound <;> nofun
    · rintro ⟨_, hr, _, route, hmem, _, hmatch⟩
      exact absurd (hF hs hr route.method) (candidates_ne_nil_iff.mpr ⟨route, hmem, rfl, hmatch⟩)
  | notAllowed a =>
    obtain ⟨hr, hc, hne, _, hmem⟩ := hA a hs
    obtain ⟨x, hx⟩ := List.exists_mem_of_ne_nil _ hne
    obtain ⟨hxm, hcx⟩ := (hmem x).mp hx
    obtain ⟨route, hmem', hrm, hmatch⟩ := candidates_ne_nil_iff.mp hcx
    have hex : ∃ route ∈ tbl, route.method ≠ m ∧ matchesP route.pats (cleanToks p) = true :=
      ⟨route, hmem', hrm ▸ hxm, hmatch⟩
    cases pr.notAllowed <;> simp [hr, hc, hex]

/-- **the custom not-found handler runs exactly in the 404 situation**: no route of any method matches. -/
theorem custom_notFound_runs_iff {pr : PatRouter} {tbl : Table} (hrep : Rep pr.core tbl) (hok : TblOK tbl)
    (m p : String) (nf : NFHandler) :
    pr.serveHTTP m p = .customNotFound nf ↔
      (pr.notFound = some nf ∧ (rooted p = true → ∀ route ∈ tbl, matchesP route.pats (cleanToks p) = false)) := by
  rw [← status_404 hrep hok m p]
  unfold PatRouter.serveHTTP
  cases hs : serve pr.core m p with
  | handler h' ps' => simp
  | notAllowed a => cases pr.notAllowed <;> simp
  | notFound => cases pr.notFound <;> simp

/-- **Monitor soundness.**  On any router that stores the table (any iteration order of the maps), with any
custom handlers, the canonical observation of what the model does for a request is accepted by the monitor
`Spec.monitorObs` — the monitor can only fire on behaviour the model cannot exhibit. -/
theorem monitor_sound {pr : PatRouter} {tbl : Table} (hrep : Rep pr.core tbl) (hok : TblOK tbl) (m p : String) :
    monitorObs tbl (oneVarPerPosition tbl) (customOf pr) m
      (if rooted p then some (cleanToks p) else none) (obsOf (pr.serveHTTP m p)) = .ok := by
  obtain ⟨hH, hA, hF⟩ := serve_spec hrep hok m p
  unfold PatRouter.serveHTTP
  cases hs : serve pr.core m p with
  | handler h ps =>
    obtain ⟨hr, route, hadm, hh, hps⟩ := hH h ps hs
    have hhit : hitOk tbl m (cleanToks p) h (paramMap ps) = true := by
      unfold hitOk
      rw [List.any_eq_true]
      refine ⟨route, hadm, ?_⟩
      simp only [hh, beq_self_eq_true, Bool.true_and]
      split
      · -- distinct names: nothing is overwritten, the map is the list of bindings
        rename_i hd
        rw [sameSet_iff, hps, paramMap_binds hd]
        exact fun x => List.mem_reverse
      · rw [List.all_eq_true]
        intro x hx
        simpa using List.mem_reverse.mp (hps ▸ mem_paramMap hx)
    simp only [obsOf, hr, if_true, monitorObs, hhit, Option.getD_some, Option.isSome_some, Bool.and_self]
    cases hyp : oneVarPerPosition tbl
    · simp
    · have : ((admissible tbl m (cleanToks p)).all fun a =>
          (admissible tbl m (cleanToks p)).all fun b => a == b) = true := by
        simp only [List.all_eq_true]
        intro a ha b hb
        simp [admissible_unique hok hyp ha hb]
      simp [this]
  | notAllowed a =>
    obtain ⟨hr, hc, hne, _, hmem⟩ := hA a hs
    obtain ⟨a', he, hmem'⟩ := expect_notAllowed hc hne hmem
    simp only [hr, if_true]
    cases hna : pr.notAllowed with
    | none => simp [obsOf, monitorObs, he, customOf, hna, (sameSet_iff a a').mpr hmem']
    | some h' => simp [obsOf, monitorObs, he, customOf, hna]
  | notFound =>
    have hexp : expect tbl m (if rooted p then some (cleanToks p) else none) = .notFound := by
      cases hr : rooted p with
      | false => simp [expect]
      | true => exact expect_notFound (hF hs hr) m
    cases hnf : pr.notFound with
    | none => simp [obsOf, monitorObs, hexp, customOf, hnf]
    | some nf => cases hu : nf.user <;> simp [obsOf, monitorObs, hexp, customOf, hnf, hu]

/-- the second monitor rule ("under the hypothesis the outcomes of repeated runs do not differ") is sound too:
two routers storing the same table (any iteration orders), with the same custom handlers, answer every request
identically — up to the order of the methods in the Allow header, which the harness sorts. -/
theorem monitor_determinism_sound {r r' : Router} {tbl : Table} (hrep : Rep r tbl) (hrep' : Rep r' tbl)
    (hok : TblOK tbl) (hyp : oneVarPerPosition tbl = true) (nf : Option NFHandler) (na : Option H) (m p : String) :
    PatRouter.serveHTTP ⟨r, nf, na⟩ m p = PatRouter.serveHTTP ⟨r', nf, na⟩ m p ∨
    ∃ a a', PatRouter.serveHTTP ⟨r, nf, na⟩ m p = .defaultNotAllowed a ∧
      PatRouter.serveHTTP ⟨r', nf, na⟩ m p = .defaultNotAllowed a' ∧ ∀ z, z ∈ a ↔ z ∈ a' := by
  have hH := dispatch_order_irrelevant hrep hrep' hok hyp m p
  have hF : serve r m p = .notFound ↔ serve r' m p = .notFound :=
    (status_404 hrep hok m p).trans (status_404 hrep' hok m p).symm
  unfold PatRouter.serveHTTP
  cases hs : serve r m p with
  | handler h ps =>
    rw [(hH h ps).mp hs]
    exact Or.inl rfl
  | notFound =>
    rw [hF.mp hs]
    exact Or.inl rfl
  | notAllowed a =>
    cases hs' : serve r' m p with
    | handler h ps => rw [(hH h ps).mpr hs'] at hs; cases hs
    | notFound => rw [hF.mpr hs'] at hs; cases hs
    | notAllowed a' =>
      cases na with
      | some h => exact Or.inl rfl
      | none =>
        refine Or.inr ⟨a, a', rfl, rfl, fun z => ?_⟩
        rw [(status_405_allow_exact hrep hok hs).2.2.2 z, (status_405_allow_exact hrep' hok hs').2.2.2 z]

/-- the registration monitor is sound as well: what the model's `Handle` answers is what the rule demands. -/
theorem monitor_registration_sound {r : Router} {tbl : Table} (hrep : Rep r tbl) (hok : TblOK tbl)
    (m p : String) (item : Option H) :
    fmtSpecReg (register tbl m p item).1 = fmtReg (handle r m p item) := by
  obtain ⟨hv, _, herr⟩ := handle_register r tbl hrep hok m p item
  rw [← hv]
  exact (fmtReg_eq_fmtSpecReg _ (fun e => (herr _ e).2.1 rfl) fun e => (herr _ e).2.2 rfl).symm

/-- **The cleaned path**: it is rooted; split at '/', the cleaned *string* is exactly the cleaned token list
the theorems speak about; that list is the root `[""]` or a non-empty list of elements none of which is
empty (no double slash, no trailing slash), "." or "..", or contains a '/'. -/
theorem clean_characterised (p : String) :
    rooted (cleanPath p) = true ∧ toksOf (cleanPath p) = cleanToks p ∧
    (cleanToks p = [""] ∨
      (cleanToks p ≠ [] ∧ ∀ t ∈ cleanToks p, t ≠ "" ∧ t ≠ "." ∧ t ≠ ".." ∧ '/' ∉ t.toList)) := by
  refine ⟨rooted_cleanPath p, toksOf_cleanPath p, ?_⟩
  obtain ⟨h1, h2, h3⟩ := cleanGo_toksOf p
  unfold cleanToks
  cases h : cleanGo (toksOf p) [] with
  | nil => exact Or.inl rfl
  | cons a l =>
    rw [h] at h1 h2 h3
    exact Or.inr ⟨by simp, fun t ht => ⟨h1 t ht, (h2 t ht).1, (h2 t ht).2, h3 t ht⟩⟩

/-- **Cleaning is idempotent** (string level and token level). -/
theorem clean_idempotent (p : String) :
    cleanPath (cleanPath p) = cleanPath p ∧ cleanToks (cleanPath p) = cleanToks p :=
  ⟨cleanPath_cleanPath p, cleanToks_cleanPath p⟩

example : cleanPath "/a//b/./c/../d/" = "/a/b/d" := by decide +kernel
example : cleanPath "/../.." = "/" ∧ cleanToks "/../.." = [""] := by decide

/-- requests and registrations depend on the path only through `rooted` and the cleaned tokens. -/
theorem serve_congr (r : Router) (m : String) {p q : String} (h1 : rooted p = rooted q)
    (h2 : cleanToks p = cleanToks q) : serve r m p = serve r m q := by
  unfold serve methodsAllowed searchClean
  rw [h1, h2]

theorem handle_congr (r : Router) (m : String) (item : Option H) {p q : String} (h1 : rooted p = rooted q)
    (h2 : cleanToks p = cleanToks q) : handle r m p item = handle r m q item := by
  unfold handle
  rw [h1, h2]

/-- registering / requesting an already cleaned path is the same as the original (so `WithPrefix`'s
`path.Join`, which cleans, followed by `Handle`, which cleans again, registers the route once cleaned). -/
theorem clean_twice_irrelevant (r : Router) (m p : String) (item : Option H) (hr : rooted p = true) :
    handle r m (cleanPath p) item = handle r m p item ∧ serve r m (cleanPath p) = serve r m p :=
  ⟨handle_congr r m item (by rw [rooted_cleanPath, hr]) (cleanToks_cleanPath p),
   serve_congr r m (by rw [rooted_cleanPath, hr]) (cleanToks_cleanPath p)⟩

theorem rooted_append_slash (p : String) (hp : p ≠ "") : rooted (p ++ "/") = rooted p := by
  have h := (toksOf_append_slash hp "").2
  rwa [String.append_empty] at h

/-- **Trailing slash**: `/a/b/` and `/a/b` are the same pattern and the same request path. -/
theorem trailing_slash_irrelevant (r : Router) (m p : String) (item : Option H) (hp : p ≠ "") :
    handle r m (p ++ "/") item = handle r m p item ∧ serve r m (p ++ "/") = serve r m p :=
  ⟨handle_congr r m item (rooted_append_slash p hp) (cleanToks_trailing_slash p hp),
   serve_congr r m (rooted_append_slash p hp) (cleanToks_trailing_slash p hp)⟩

/-- **Letter case**: segments and methods are compared byte-wise — `/A` is not `/a`, `get` is not `GET`. -/
theorem case_sensitive :
    serve (runHandle {} [("GET", "/user/:id", some 1)]) "GET" "/user/7" = .handler 1 [("id", "7")] ∧
    serve (runHandle {} [("GET", "/user/:id", some 1)]) "GET" "/User/7" = .notFound ∧
    serve (runHandle {} [("GET", "/user/:id", some 1)]) "get" "/user/7" = .notAllowed ["GET"] ∧
    verdictOf (handle {} "get" "/user/:id" (some 1)) = .badMethod := by decide +kernel

/-- **`WithPrefix(group)`**: the route registered for `path` under a (non-empty) group is the one whose
tokens are the group's tokens followed by the path's '/'-separated elements, cleaned in one pass — so a
leading slash of `path` is optional, a trailing slash of the group is harmless, and a ".." element of `path`
removes the last group segment (the route then lies *outside* the group: as implemented by `path.Join`). -/
theorem withPrefix_tokens (group p : String) (hg : group ≠ "") :
    toksOf (joinRaw group p) = toksOf group ++ splitSlash p.toList [] ∧
    rooted (joinRaw group p) = rooted group ∧
    cleanGo (toksOf (joinRaw group p)) [] =
      cleanGo (splitSlash p.toList []) (cleanGo (toksOf group) []).reverse := by
  have hj : joinRaw group p = group ++ "/" ++ p := by simp [joinRaw, hg]
  obtain ⟨ht, hr⟩ := toksOf_append_slash hg p
  rw [hj]
  exact ⟨ht, hr, by rw [ht, cleanGo_append]⟩

example : cleanToks (joinRaw "/api/" "users/:id/") = ["api", "users", ":id"] := by decide +kernel
example : cleanToks (joinRaw "/api/v1" "/../health") = ["api", "health"] := by decide +kernel
example : rooted (joinRaw "api" "/a") = false ∧ rooted (joinRaw "" "") = false := by decide

/-- verdict of `engine.bindRoutes`' error (none = start-up succeeds). -/
def bindVerdict : Option HandleErr → RegVerdict
  | none => .ok
  | some e => verdictOf (.error e)

theorem verdictOf_error_ne_ok (e : HandleErr) : verdictOf (.error e) ≠ .ok := by
  cases e with
  | tree e => cases e <;> nofun
  | _ => nofun

theorem bindTable_cons (tbl : Table) (m p : String) (item : Option H) (rest : List Reg) :
    bindTable tbl ((m, p, item) :: rest) =
      if (register tbl m p item).1 = .ok then bindTable (register tbl m p item).2 rest
      else (tbl, (register tbl m p item).1) := by
  simp only [bindTable]
  cases register tbl m p item with
  | mk v tbl' => cases v <;> rfl

/-- **`engine.bindRoutes` registers in order and stops at the first rejected route.**  The router then stores
exactly the routes before it (all of them when none is rejected), and the error `Start` fails with is the
verdict of the registration rule for that route. -/
theorem bindAll_represents (regs : List Reg) : ∀ (r : Router) (tbl : Table), Rep r tbl → TblOK tbl →
    Rep (bindAll r regs).1 (bindTable tbl regs).1 ∧ TblOK (bindTable tbl regs).1 ∧
    bindVerdict (bindAll r regs).2 = (bindTable tbl regs).2 := by
  induction regs with
  | nil => intro r tbl h1 h2; exact ⟨h1, h2, rfl⟩
  | cons a rest ih =>
    obtain ⟨m, p, item⟩ := a
    intro r tbl h1 h2
    obtain ⟨hv, hok, _⟩ := handle_register r tbl h1 h2 m p item
    rw [bindTable_cons]
    cases hh : handle r m p item with
    | ok r' =>
      rw [hh] at hv
      obtain ⟨h1', h2'⟩ := hok r' hh
      have hv' : (register tbl m p item).1 = .ok := hv.symm
      rw [if_pos hv']
      simp only [bindAll, hh]
      exact ih r' _ h1' h2'
    | error e =>
      rw [hh] at hv
      have hne : (register tbl m p item).1 ≠ .ok := hv ▸ verdictOf_error_ne_ok e
      rw [if_neg hne]
      simp only [bindAll, hh]
      exact ⟨h1, h2, hv⟩

theorem register_ok_length {tbl : Table} {m p : String} {item : Option H}
    (h : (register tbl m p item).1 = .ok) : (register tbl m p item).2.length = tbl.length + 1 := by
  unfold register at h ⊢
  cases hvm : validMethod m
  · simp [hvm] at h
  cases hr : rooted p
  · simp [hvm, hr] at h
  cases item with
  | none => simp [hvm, hr] at h
  | some x =>
    cases ha : tbl.any fun r => r.method == m && r.pats == cleanToks p
    · simp [ha]
    · simp [hvm, hr, ha] at h

/-- when nothing is rejected every route is in the table, in order … -/
theorem bindTable_ok (regs : List Reg) : ∀ (tbl : Table), (bindTable tbl regs).2 = .ok →
    (bindTable tbl regs).1 = runRegister tbl regs ∧ (runRegister tbl regs).length = tbl.length + regs.length := by
  induction regs with
  | nil => intro tbl _; exact ⟨rfl, rfl⟩
  | cons a rest ih =>
    obtain ⟨m, p, item⟩ := a
    intro tbl h
    rw [bindTable_cons] at h ⊢
    by_cases hv : (register tbl m p item).1 = .ok
    · rw [if_pos hv] at h ⊢
      obtain ⟨e1, e2⟩ := ih _ h
      exact ⟨e1, by rw [runRegister, e2, register_ok_length hv]; simp +arith⟩
    · rw [if_neg hv] at h
      exact absurd h hv

/-- … and a rejection is the verdict of the first route the registration rule rejects, given the routes
before it. -/
theorem bindTable_first_rejection (regs : List Reg) : ∀ (tbl : Table) (v : RegVerdict),
    (bindTable tbl regs).2 = v → v ≠ .ok →
    ∃ pre reg post, regs = pre ++ reg :: post ∧ (bindTable tbl pre).2 = .ok ∧
      (bindTable tbl regs).1 = (bindTable tbl pre).1 ∧
      (register (bindTable tbl pre).1 reg.1 reg.2.1 reg.2.2).1 = v := by
  induction regs with
  | nil => intro tbl v h hne; exact absurd h.symm hne
  | cons a rest ih =>
    obtain ⟨m, p, item⟩ := a
    intro tbl v h hne
    rw [bindTable_cons] at h ⊢
    by_cases hv : (register tbl m p item).1 = .ok
    · rw [if_pos hv] at h ⊢
      obtain ⟨pre, reg, post, e, h1, h2, h3⟩ := ih _ v h hne
      refine ⟨(m, p, item) :: pre, reg, post, by rw [e]; rfl, ?_⟩
      rw [bindTable_cons, if_pos hv]
      exact ⟨h1, h2, h3⟩
    · rw [if_neg hv] at h ⊢
      exact ⟨[], (m, p, item), rest, rfl, rfl, rfl, h⟩

/-- `NewServer` starts from an empty router and no groups, whatever the options (they write the custom handlers, the
chain and the wrappers, never the trees or the groups; `WithRouter` puts a new empty router in). -/
theorem newServer_core (opts : List RunOpt) : (newServer opts).router.core = ({} : Router) ∧ (newServer opts).groups = [] :=
  List.foldlRecOn (motive := fun s => s.router.core = ({} : Router) ∧ s.groups = []) (.notFound none :: opts) Server.apply
    ⟨rfl, rfl⟩ fun s h o _ => by cases o <;> first | exact h | exact ⟨rfl, h.2⟩

-- the user's custom handlers of a server: the last `WithNotFoundHandler` / `WithNotAllowedHandler` wins
example : customOf (newServer [.notFound (some 7), .notAllowed (some 8), .notFound none]).router = { nf := none, na := some 8 } := by
  decide
example : customOf (newServer []).router = {} ∧ (newServer []).router.notFound = some (.engine none) := by decide

theorem bindAll_empty (regs : List Reg) :
    Rep (bindAll {} regs).1 (bindTable [] regs).1 ∧ TblOK (bindTable [] regs).1 ∧
    bindVerdict (bindAll {} regs).2 = (bindTable [] regs).2 :=
  bindAll_represents regs {} [] rep_empty.1 rep_empty.2

/-- `AddRoutes` leaves the router alone, so `bindRoutes` of a server made by `NewServer` starts from the empty router. -/
theorem server_bindRoutes (opts : List RunOpt) (groups : List Group) :
    let s := groups.foldl Server.addRoutes (newServer opts)
    s.bindRoutes.1.router.core = (bindAll {} s.regs).1 ∧ s.bindRoutes.2 = (bindAll {} s.regs).2 := by
  intro s
  have hcore : s.router.core = ({} : Router) :=
    List.foldlRecOn (motive := fun s0 : Server => s0.router.core = ({} : Router)) groups Server.addRoutes (newServer_core opts).1
      fun _ h _ _ => h
  simp only [Server.bindRoutes, hcore, and_self]

/-- **rest.Server, end to end.**  Build a server with any options, add any groups (with or without
`WithPrefix`), run `engine.bindRoutes`: the router stores exactly the routes the registration rule accepted
before the first rejection (`bindTable`), the start-up error is that rejection's verdict, and every request that
reaches the patRouter afterwards is answered as the monitor (hence the declarative matcher) demands — by the route
handler, the custom / built-in 405 or the custom / built-in 404.  (The statement asks the server's `PatRouter`; what
the wrappers of `WithCors*` / `WithFileServer` answer themselves is `server_start_serve_is_declarative_matcher`.) -/
theorem server_is_declarative_matcher (opts : List RunOpt) (groups : List Group) (m p : String) :
    let s := groups.foldl Server.addRoutes (newServer opts)
    let tbl := (bindTable [] s.regs).1
    Rep s.bindRoutes.1.router.core tbl ∧ TblOK tbl ∧
    bindVerdict s.bindRoutes.2 = (bindTable [] s.regs).2 ∧
    monitorObs tbl (oneVarPerPosition tbl) (customOf s.bindRoutes.1.router) m
      (if rooted p then some (cleanToks p) else none) (obsOf (s.bindRoutes.1.router.serveHTTP m p)) = .ok := by
  intro s tbl
  obtain ⟨hb, hb2⟩ := server_bindRoutes opts groups
  obtain ⟨h1, h2, h3⟩ := bindAll_empty s.regs
  have hrep : Rep s.bindRoutes.1.router.core tbl := by rw [hb]; exact h1
  exact ⟨hrep, h2, by rw [hb2]; exact h3, monitor_sound hrep h2 m p⟩

/-! non-vacuity: two groups, a prefix with a trailing slash, a relative route path, a custom 404 handler -/

def exServer : Server :=
  [({ opts := [.pfx "/api/"], routes := [("GET", "users/:id", some 1), ("POST", "/users", some 2)] } : Group),
   ({ routes := [("GET", "/health/", some 3)] } : Group)].foldl Server.addRoutes (newServer [.notFound (some 9)])

example : exServer.bindRoutes.2 = none := by decide +kernel
example : (bindTable [] exServer.regs).1.map (fun r => (r.method, r.pats, r.h)) =
    [("GET", ["api", "users", ":id"], 1), ("POST", ["api", "users"], 2), ("GET", ["health"], 3)] := by decide +kernel
example : exServer.bindRoutes.1.router.serveHTTP "GET" "/api/users/42/" = .route 1 [("id", "42")] := by decide +kernel
example : exServer.bindRoutes.1.router.serveHTTP "GET" "/API/users/42" = .customNotFound (.engine (some 9)) := by decide +kernel
example : exServer.bindRoutes.1.router.serveHTTP "PUT" "/api/users" = .defaultNotAllowed ["POST"] := by decide +kernel
-- a duplicate across groups (same cleaned path through another prefix split) aborts the start-up
def exDupServer : Server :=
  [({ opts := [.pfx "/api"], routes := [("GET", "/v1/a", some 1)] } : Group),
   ({ opts := [.pfx "/api/v1"], routes := [("GET", "a/", some 2)] } : Group)].foldl Server.addRoutes (newServer [])
example : exDupServer.bindRoutes.2 = some (.tree .dupItem) := by decide +kernel

end GoZero.C09
