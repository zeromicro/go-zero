/-
C09 — property theorems: `search.Tree` used directly with arbitrary, uncleaned strings
(what `Tree.Add` / `Tree.Search` guarantee when no `path.Clean` ran before: errNotFromRoot, errEmptyItem,
errDupSlash, trailing slashes, empty segments).
-/
import GoZero.C09.ProofsRaw
import GoZero.C09.Driver
namespace GoZero.C09

open Spec

/-- **`Tree.Add` rejections for arbitrary strings** (whatever the tree contains):
a route that is empty or does not start with '/' ⇒ errNotFromRoot; then a nil item ⇒ errEmptyItem;
then errDupSlash exactly when an element other than the last one is empty (`//` anywhere before the last
segment, including right after the leading slash). A trailing slash alone is *not* rejected. -/
theorem tree_add_rejections (root : Node) (route : String) (item : Option H) :
    (rooted route = false → treeAdd root route item = .error .notFromRoot) ∧
    (rooted route = true → item = none → treeAdd root route item = .error .emptyItem) ∧
    (rooted route = true → ∀ h, item = some h →
      (treeAdd root route item = .error .dupSlash ↔ "" ∈ (toksOf route).dropLast)) := by
  refine ⟨?_, ?_, ?_⟩
  · intro hr; simp [treeAdd, hr]
  · intro hr hi; simp [treeAdd, hr, hi]
  · intro hr h hi
    subst hi
    simp only [treeAdd, hr, Bool.not_true, Bool.false_eq_true, if_false]
    exact add_dupSlash_iff _ (toksOf_ne_nil route) root h

/-- the error of an `Add`, `none` when accepted (for the examples: `Node` has no decidable equality). -/
def errOf : Except AddErr Node → Option AddErr
  | .ok _ => none
  | .error e => some e

example : rooted "" = false ∧ rooted "a/b" = false := by decide
example : errOf (treeAdd (newNode none) "" (some 1)) = some .notFromRoot := by decide
example : errOf (treeAdd (newNode none) "//a" (some 1)) = some .dupSlash := by decide
example : errOf (treeAdd (newNode none) "/a//b" (some 1)) = some .dupSlash := by decide
example : errOf (treeAdd (newNode none) "/a//" (some 1)) = some .dupSlash := by decide
example : errOf (treeAdd (newNode none) "/a/" (some 1)) = none := by decide

/-- **Which route an accepted raw string denotes**: `rawKey route` — the '/'-separated elements with one
trailing slash dropped (`/a/b/` is the route `/a/b`, `/` is the root).  Adding stores the item under exactly
that key and changes nothing else; the only other outcome is "duplicated item", exactly when that key is
taken — so `/a/b` after `/a/b/` is a duplicate. -/
theorem tree_add_accepts (root : Node) (hwf : WF root) (route : String) (h : H)
    (hr : rooted route = true) (hns : "" ∉ (toksOf route).dropLast) :
    (∀ root', treeAdd root route (some h) = .ok root' →
      WF root' ∧ lookupW (rawKey route) root = none ∧
      ∀ ks, lookupW ks root' = if ks = rawKey route then some h else lookupW ks root) ∧
    (∀ e, treeAdd root route (some h) = .error e →
      e = .dupItem ∧ (lookupW (rawKey route) root).isSome = true) := by
  have e : treeAdd root route (some h) = addW (rawKey route) root h := by
    simp only [treeAdd, hr, Bool.not_true, Bool.false_eq_true, if_false]
    rw [add_eq _ (toksOf_ne_nil route), if_neg hns]
    rfl
  rw [e]
  exact addW_spec (rawKey route) root h hwf

example : rawKey "/a/b/" = rawKey "/a/b" ∧ rawKey "/a/b" = ["a", "b"] ∧ rawKey "/" = [] := by decide

/-- **`Tree.Search` with an arbitrary string** (any iteration order of the maps): not rooted ⇒ not found;
otherwise found iff some stored route matches the raw elements segment by segment — where an *empty*
element (from `//` or a trailing slash) is matched by a `:name` segment (bound to "") and by no literal key that `Add`
can store (it never stores the empty key) — or, when the string ends with a slash, matches the elements without that
last empty one. -/
theorem tree_search_raw (root : Node) (hwf : WF root) (route : String) :
    (rooted route = false → treeSearch root route = none) ∧
    (rooted route = true →
      ((treeSearch root route).isSome = true ↔
        ∃ ks h, lookupW ks root = some h ∧ matchesRaw ks (toksOf route))) := by
  constructor
  · intro hr; simp [treeSearch, hr]
  · intro hr
    simp only [treeSearch, hr, Bool.not_true, Bool.false_eq_true, if_false]
    exact next_raw_isSome_iff _ (toksOf_ne_nil route) root hwf

/-- a tree built by raw `Add` calls is well-formed, so the two theorems above apply along any history. -/
theorem tree_add_keeps_wf (root : Node) (hwf : WF root) (route : String) (item : Option H) (root' : Node)
    (h : treeAdd root route item = .ok root') : WF root' := by
  cases hr : rooted route with
  | false => simp [treeAdd, hr] at h
  | true =>
    cases item with
    | none => simp [treeAdd, hr] at h
    | some x =>
      by_cases hns : "" ∈ (toksOf route).dropLast
      · have := ((tree_add_rejections root route (some x)).2.2 hr x rfl).mpr hns
        rw [this] at h; cases h
      · exact ((tree_add_accepts root hwf route x hr hns).1 root' h).1

/-- **the driver's monitor for raw `Tree.Add` is sound**: on a well-formed tree whose stored keys are `keys`,
the model's answer is the verdict of the table-level rule `Spec.rawAddVerdict`. -/
theorem raw_add_monitor_sound (root : Node) (hwf : WF root) (keys : List (List String))
    (hk : ∀ ks, (lookupW ks root).isSome = true ↔ ks ∈ keys) (route : String) (item : Option H) :
    fmtAdd (treeAdd root route item) = rawAddVerdict keys route item := by
  obtain ⟨h1, h2, h3⟩ := tree_add_rejections root route item
  unfold rawAddVerdict
  cases hr : rooted route with
  | false => rw [h1 hr]; rfl
  | true =>
    cases item with
    | none => rw [h2 hr rfl]; rfl
    | some h =>
      simp only [Bool.not_true, Bool.false_eq_true, if_false, Option.isNone_some]
      by_cases hns : "" ∈ (toksOf route).dropLast
      · rw [(h3 hr h rfl).mpr hns]
        simp [hns, fmtAdd]
      · have hc : ((toksOf route).dropLast.contains "") = false := by
          simpa [List.contains_iff_mem] using hns
        rw [hc]
        simp only [Bool.false_eq_true, if_false]
        obtain ⟨hok, herr⟩ := tree_add_accepts root hwf route h hr hns
        have hkc : keys.contains (rawKey route) = (lookupW (rawKey route) root).isSome := by
          rw [Bool.eq_iff_iff, List.contains_iff_mem]; exact (hk _).symm
        rw [hkc]
        cases hres : treeAdd root route (some h) with
        | error e =>
          obtain ⟨rfl, hs⟩ := herr e hres
          rw [hs]; rfl
        | ok root' => rw [(hok root' hres).2.1]; rfl

/-! non-vacuity on a tree holding `/a`, `/a/:x/c`, `/:y` (built with raw strings, one with a trailing slash) -/

def exRawTree : Node :=
  match treeAdd (newNode none) "/a/" (some 1) with
  | .ok t1 =>
    match treeAdd t1 "/a/:x/c" (some 2) with
    | .ok t2 => (match treeAdd t2 "/:y" (some 3) with | .ok t3 => t3 | .error _ => t2)
    | .error _ => t1
  | .error _ => newNode none

example : errOf (treeAdd exRawTree "/a" (some 9)) = some .dupItem := by decide +kernel
example : treeSearch exRawTree "/a/" = some (1, []) := by decide +kernel
example : treeSearch exRawTree "/a//c" = some (2, [("x", "")]) := by decide +kernel   -- empty segment bound by :x
example : treeSearch exRawTree "/" = some (3, [("y", "")]) := by decide +kernel       -- the root is one empty segment
example : treeSearch exRawTree "/b/" = some (3, [("y", "b")]) := by decide +kernel
example : treeSearch exRawTree "a" = none := by decide
example : matchesRaw ["a"] (toksOf "/a/") := Or.inr ⟨["a"], by decide, by decide⟩

theorem treeSearch_some {root : Node} {route : String} {x : H × Params} (hs : treeSearch root route = some x) :
    rooted route = true ∧ next (toksOf route) root = some x := by
  unfold treeSearch at hs
  cases hr : rooted route <;> simp [hr] at hs
  exact ⟨rfl, hs⟩

/-- **A raw hit is not beaten** (any iteration order of the maps): the hit part of `next_raw_spec`, with the bindings
taken against the elements the key matches. -/
theorem next_raw_admissible (toks : List String) : toks ≠ [] → ∀ (n : Node), WF n → ∀ h ps, next toks n = some (h, ps) →
    ∃ ks, lookupW ks n = some h ∧
      ((matchesP ks toks = true ∧ ps = (binds ks toks).reverse) ∨
       (∃ ts, toks = ts ++ [""] ∧ matchesP ks ts = true ∧ ps = (binds ks ts).reverse)) ∧
      ∀ ks' h', lookupW ks' n = some h' → matchesRaw ks' toks → prefers ks ks' = true := by
  intro h0 n hwf h ps hs
  obtain ⟨ks, hl, hm, hps, hpref⟩ := (next_raw_spec toks h0 n hwf).1 h ps hs
  refine ⟨ks, hl, ?_, hpref⟩
  rcases hm with hm | ⟨ts, rfl, hm⟩
  · exact Or.inl ⟨hm, hps⟩
  · exact Or.inr ⟨ts, rfl, hm, by rw [hps, binds_append_of_matches _ _ _ hm]⟩

/-- **`Tree.Search` with an arbitrary string, full statement**: a hit names a stored key that matches the raw
elements, with exactly its bound segments, and that no other matching stored key beats (literal before variable at
the first differing segment) — what the driver's raw-tree monitor checks. -/
theorem tree_search_raw_admissible (root : Node) (hwf : WF root) (route : String) (h : H) (ps : Params)
    (hs : treeSearch root route = some (h, ps)) :
    rooted route = true ∧ ∃ ks, lookupW ks root = some h ∧
      ((matchesP ks (toksOf route) = true ∧ ps = (binds ks (toksOf route)).reverse) ∨
       (∃ ts, toksOf route = ts ++ [""] ∧ matchesP ks ts = true ∧ ps = (binds ks ts).reverse)) ∧
      ∀ ks' h', lookupW ks' root = some h' → matchesRaw ks' (toksOf route) → prefers ks ks' = true := by
  obtain ⟨hr, hn⟩ := treeSearch_some hs
  exact ⟨hr, next_raw_admissible _ (toksOf_ne_nil route) root hwf h ps hn⟩

/-- **`Tree.Search` with an arbitrary string names a matching stored route with exactly its bound segments.** -/
theorem tree_search_raw_hit (root : Node) (hwf : WF root) (route : String) (h : H) (ps : Params)
    (hs : treeSearch root route = some (h, ps)) :
    rooted route = true ∧ ∃ ks, lookupW ks root = some h ∧
      ((matchesP ks (toksOf route) = true ∧ ps = (binds ks (toksOf route)).reverse) ∨
       (∃ ts, toksOf route = ts ++ [""] ∧ matchesP ks ts = true ∧ ps = (binds ks ts).reverse)) := by
  obtain ⟨hr, ks, hl, hd, _⟩ := tree_search_raw_admissible root hwf route h ps hs
  exact ⟨hr, ks, hl, hd⟩

example : treeSearch exRawTree "/a//c" = some (2, [("x", "")]) ∧ lookupW ["a", ":x", "c"] exRawTree = some 2 := by decide +kernel

end GoZero.C09
