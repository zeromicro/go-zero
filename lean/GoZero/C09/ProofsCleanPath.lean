/-
C09 — the model of `path.Clean` on rooted paths, on the string level: the tokens of the cleaned string are the cleaned
token list (`toksOf_cleanPath`), cleaning is idempotent, and what is kept has no empty, "." or ".." element and no '/' inside.
-/
import GoZero.C09.ProofsClean
namespace GoZero.C09

def NoDots (l : List String) : Prop := ∀ t ∈ l, t ≠ "." ∧ t ≠ ".."

def SlashFree (l : List String) : Prop := ∀ t ∈ l, '/' ∉ t.toList

theorem splitSlash_slashFree (cs cur : List Char) (h : '/' ∉ cur) : SlashFree (splitSlash cs cur) := by
  induction cs generalizing cur with
  | nil =>
    intro t ht
    simp only [splitSlash, List.mem_singleton] at ht
    subst ht
    simpa using h
  | cons c cs ih =>
    intro t ht
    unfold splitSlash at ht
    split at ht
    · simp only [List.mem_cons] at ht
      rcases ht with rfl | ht
      · simpa using h
      · exact ih [] (by simp) t ht
    · rename_i hc
      exact ih (c :: cur) (by simp [h, Ne.symm hc]) t ht

theorem toksOf_slashFree (p : String) : SlashFree (toksOf p) := splitSlash_slashFree _ [] (by simp)

theorem cleanGo_id (l acc : List String) (hne : NE l) (hd : NoDots l) : cleanGo l acc = acc.reverse ++ l := by
  induction l generalizing acc with
  | nil => simp [cleanGo]
  | cons s rest ih =>
    have h1 : s ≠ "" := hne s (by simp)
    have h2 := hd s (by simp)
    unfold cleanGo
    rw [if_neg (by simp [h1, h2.1]), if_neg h2.2]
    rw [ih (s :: acc) (NE_tail hne) (fun t ht => hd t (List.mem_cons_of_mem _ ht))]
    simp

theorem splitSlash_noSlash (t cur : List Char) (ht : '/' ∉ t) :
    splitSlash t cur = [String.ofList (cur.reverse ++ t)] := by
  induction t generalizing cur with
  | nil => simp [splitSlash]
  | cons c cs ih =>
    have hc : c ≠ '/' := fun e => ht (by simp [e])
    unfold splitSlash
    rw [if_neg hc, ih (c :: cur) (fun h => ht (List.mem_cons_of_mem _ h))]
    simp

theorem splitSlash_append_slash (a b cur : List Char) :
    splitSlash (a ++ '/' :: b) cur = splitSlash a cur ++ splitSlash b [] := by
  induction a generalizing cur with
  | nil => simp [splitSlash]
  | cons c cs ih =>
    rw [List.cons_append, splitSlash, splitSlash]
    split
    · rw [ih]; rfl
    · rw [ih]

theorem splitSlash_intercalate (l : List String) (hl : l ≠ []) (hs : SlashFree l) :
    splitSlash (['/'].intercalate (l.map String.toList)) [] = l := by
  induction l with
  | nil => exact absurd rfl hl
  | cons a rest ih =>
    cases rest with
    | nil =>
      simp only [List.map_cons, List.map_nil, List.intercalate, List.intersperse_singleton, List.flatten_cons,
        List.flatten_nil, List.append_nil]
      rw [splitSlash_noSlash _ _ (hs a (by simp))]
      simp
    | cons b rest' =>
      simp only [List.map_cons]
      rw [List.intercalate_cons_cons]
      have : a.toList ++ ['/'] ++ ['/'].intercalate (b.toList :: List.map String.toList rest')
          = a.toList ++ '/' :: ['/'].intercalate (b.toList :: List.map String.toList rest') := by simp
      rw [this, splitSlash_append_slash, splitSlash_noSlash _ _ (hs a (by simp))]
      have ih' := ih (by simp) (fun t ht => hs t (List.mem_cons_of_mem _ ht))
      simp only [List.map_cons] at ih'
      rw [ih']
      simp

theorem toksOf_slash_intercalate (l : List String) (hs : SlashFree l) :
    toksOf ("/" ++ "/".intercalate l) = if l = [] then [""] else l := by
  unfold toksOf
  have : ("/" ++ "/".intercalate l).toList.drop 1 = ['/'].intercalate (l.map String.toList) := by
    rw [String.toList_append, String.toList_intercalate]
    rfl
  rw [this]
  split
  · rename_i e; subst e; rfl
  · rename_i e; exact splitSlash_intercalate l e hs

theorem cleanGo_toksOf (p : String) :
    NE (cleanGo (toksOf p) []) ∧ NoDots (cleanGo (toksOf p) []) ∧ SlashFree (cleanGo (toksOf p) []) :=
  ⟨cleanGo_NE _ _ nofun, cleanGo_forall (fun t => t ≠ "." ∧ t ≠ "..") _ [] nofun fun _ _ _ h2 h3 => ⟨h2, h3⟩,
   cleanGo_forall (fun t => '/' ∉ t.toList) _ [] nofun fun t ht _ _ _ => toksOf_slashFree p t ht⟩

theorem toksOf_cleanPath (p : String) : toksOf (cleanPath p) = cleanToks p := by
  unfold cleanPath cleanToks
  rw [toksOf_slash_intercalate _ (cleanGo_toksOf p).2.2]
  cases cleanGo (toksOf p) [] <;> simp

theorem cleanGo_cleanToks (p : String) : cleanGo (cleanToks p) [] = cleanGo (toksOf p) [] := by
  obtain ⟨h1, h2, _⟩ := cleanGo_toksOf p
  unfold cleanToks
  cases h : cleanGo (toksOf p) [] with
  | nil => simp [cleanGo]
  | cons a l =>
    rw [h] at h1 h2
    simpa using cleanGo_id (a :: l) [] h1 h2

theorem cleanToks_cleanPath (p : String) : cleanToks (cleanPath p) = cleanToks p := by
  rw [cleanToks, toksOf_cleanPath, cleanGo_cleanToks, ← cleanToks]

theorem cleanPath_cleanPath (p : String) : cleanPath (cleanPath p) = cleanPath p := by
  rw [cleanPath, toksOf_cleanPath, cleanGo_cleanToks, ← cleanPath]

theorem rooted_cleanPath (p : String) : rooted (cleanPath p) = true := by
  unfold rooted cleanPath
  rw [String.toList_append]
  rfl

theorem cleanGo_append (l1 l2 acc : List String) : cleanGo (l1 ++ l2) acc = cleanGo l2 (cleanGo l1 acc).reverse := by
  induction l1 generalizing acc with
  | nil => simp [cleanGo]
  | cons s rest ih =>
    rw [List.cons_append, cleanGo, cleanGo]
    split
    · exact ih acc
    · split
      · exact ih _
      · exact ih _

theorem toksOf_append_slash {g : String} (hg : g ≠ "") (s : String) :
    toksOf (g ++ "/" ++ s) = toksOf g ++ splitSlash s.toList [] ∧ rooted (g ++ "/" ++ s) = rooted g := by
  obtain ⟨c, cs, h⟩ := List.exists_cons_of_ne_nil (mt String.toList_eq_nil_iff.mp hg)
  unfold toksOf rooted
  rw [String.toList_append, String.toList_append, h, show ("/" : String).toList = ['/'] from rfl]
  simp only [List.cons_append, List.drop_succ_cons, List.drop_zero, List.append_assoc, List.nil_append]
  exact ⟨splitSlash_append_slash cs s.toList [], rfl⟩

theorem cleanToks_trailing_slash (p : String) (hp : p ≠ "") : cleanToks (p ++ "/") = cleanToks p := by
  have h := (toksOf_append_slash hp "").1
  rw [String.append_empty] at h
  unfold cleanToks
  rw [h, cleanGo_append]
  simp [cleanGo, splitSlash]

end GoZero.C09
