/-
C09 — property theorems of the router core: `patRouter.Handle` / `ServeHTTP` (Model.lean) against the declarative matcher
(Spec.lean).  `Rep r tbl` says only WHICH keys the router's trees store, never in what order a children map holds them, so
a theorem `∀ r, Rep r tbl → …` holds for every order in which Go may iterate its maps.
-/
import GoZero.C09.ProofsServe
import GoZero.C09.ProofsOrder
namespace GoZero.C09

open Spec

/-- the router after a sequence of `Handle` calls (rejected calls leave it unchanged). -/
def runHandle (r : Router) : List Reg → Router
  | [] => r
  | (m, p, item) :: rest =>
    match handle r m p item with
    | .ok r' => runHandle r' rest
    | .error _ => runHandle r rest

/-- the declarative table after the same attempts. -/
def runRegister (tbl : Table) : List Reg → Table
  | [] => tbl
  | (m, p, item) :: rest => runRegister (register tbl m p item).2 rest

theorem rep_empty : Rep {} [] ∧ TblOK [] := by
  refine ⟨⟨by simp, ?_⟩, by simp [TblOK]⟩
  intro m
  refine ⟨wf_newNode none, ?_⟩
  intro ks h
  show lookupW ks (newNode none) = some h ↔ _
  simp [lookupW_newNode]

/-- **Registration builds a representation.**  After any sequence of `Handle` calls the router stores
exactly the routes the registration rule of the property accepted. -/
theorem router_represents_table (regs : List Reg) :
    Rep (runHandle {} regs) (runRegister [] regs) ∧ TblOK (runRegister [] regs) := by
  suffices h : ∀ r tbl, Rep r tbl → TblOK tbl →
      Rep (runHandle r regs) (runRegister tbl regs) ∧ TblOK (runRegister tbl regs) from
    h {} [] rep_empty.1 rep_empty.2
  induction regs with
  | nil => intro r tbl h1 h2; exact ⟨h1, h2⟩
  | cons a rest ih =>
    obtain ⟨m, p, item⟩ := a
    intro r tbl h1 h2
    obtain ⟨_, hok, herr⟩ := handle_register r tbl h1 h2 m p item
    simp only [runHandle, runRegister]
    cases hh : handle r m p item with
    | ok r' =>
      obtain ⟨h1', h2'⟩ := hok r' hh
      exact ih r' _ h1' h2'
    | error e =>
      rw [(herr e hh).1]
      exact ih r tbl h1 h2

/-- **Registration rejections.**  On a router that stores `tbl`, `Handle` answers exactly as the rule of
the property: unsupported method ⇒ `ErrInvalidMethod`; pattern not starting with '/' ⇒ `ErrInvalidPath`;
same method and same cleaned pattern already registered ⇒ duplicated item; nil handler ⇒ empty item;
otherwise accepted.  `duplicated slash` / `not from root` never come out of `Handle`. -/
theorem registration_rejections (regs : List Reg) (m p : String) (item : Option H) :
    verdictOf (handle (runHandle {} regs) m p item) = (register (runRegister [] regs) m p item).1 ∧
    ∀ e, handle (runHandle {} regs) m p item = .error e → e ≠ .tree .dupSlash ∧ e ≠ .tree .notFromRoot := by
  obtain ⟨h1, h2⟩ := router_represents_table regs
  obtain ⟨hv, _, herr⟩ := handle_register _ _ h1 h2 m p item
  exact ⟨hv, fun e he => (herr e he).2⟩

/-- the registration rule spelled out. -/
theorem register_accepts_iff (tbl : Table) (m p : String) (h : H) :
    (register tbl m p (some h)).1 = .ok ↔
      (m ∈ validMethods ∧ rooted p = true ∧ ¬ ∃ r ∈ tbl, r.method = m ∧ r.pats = cleanToks p) := by
  rw [← List.contains_iff_mem]
  unfold register validMethod
  -- the two rejecting cases say nothing about the table: a rejected verdict is not `.ok`, and a conjunct is `false = true`
  cases validMethods.contains m
  · exact ⟨nofun, fun h => nomatch h.1⟩
  cases rooted p
  · exact ⟨nofun, fun h => nomatch h.2.1⟩
  simp [apply_ite Prod.fst]

example : (register [] "GET" "/a//b/../:x/" (some 1)).1 = .ok := by decide
example : (register [⟨"GET", ["a", ":x"], 1⟩] "GET" "/a/:x" (some 2)).1 = .dup := by decide
example : (register [] "TRACE" "/a" (some 1)).1 = .badMethod := by decide
example : (register [] "GET" "a/b" (some 1)).1 = .badPath := by decide

/-- **Dispatch iff match.**  A request is handed to a handler iff some route registered for its method
matches the cleaned path segment by segment. -/
theorem dispatch_iff_match {r : Router} {tbl : Table} (hrep : Rep r tbl) (hok : TblOK tbl) (m p : String) :
    (∃ h ps, serve r m p = .handler h ps) ↔
      (rooted p = true ∧ ∃ route ∈ tbl, route.method = m ∧ matchesP route.pats (cleanToks p) = true) := by
  obtain ⟨hH, hA, hF⟩ := serve_spec hrep hok m p
  rw [← candidates_ne_nil_iff]
  constructor
  · rintro ⟨h, ps, hs⟩
    obtain ⟨hr, route, hadm, _⟩ := hH h ps hs
    exact ⟨hr, List.ne_nil_of_mem (mem_admissible.mp hadm).1⟩
  · rintro ⟨hr, hc⟩
    cases hs : serve r m p with
    | handler h ps => exact ⟨h, ps, rfl⟩
    | notAllowed a => exact absurd (hA a hs).2.1 hc
    | notFound => exact absurd (hF hs hr m) hc

/-- **The chosen route is a preferred match, its variables are its bound segments** (any iteration order):
the handler that runs belongs to a matching route that no other matching route beats (a literal beats a
variable at the first segment where two candidates differ), and the `addParam` calls are exactly that
route's bound segments (innermost first). -/
theorem chosen_is_admissible {r : Router} {tbl : Table} (hrep : Rep r tbl) (hok : TblOK tbl)
    {m p : String} {h : H} {ps : Params} (hs : serve r m p = .handler h ps) :
    ∃ route ∈ admissible tbl m (cleanToks p),
      route.h = h ∧ ps = (binds route.pats (cleanToks p)).reverse :=
  ((serve_spec hrep hok m p).1 h ps hs).2

/-- **The chosen route is *the* preferred match.**  With one variable name per position under a prefix the
admissible route is unique, so — whatever order Go iterates its maps in — the request runs the handler of
`preferredMatch tbl m path` with exactly its bindings. -/
theorem chosen_is_preferred_match {r : Router} {tbl : Table} (hrep : Rep r tbl) (hok : TblOK tbl)
    (hyp : oneVarPerPosition tbl = true) {m p : String} {h : H} {ps : Params}
    (hs : serve r m p = .handler h ps) :
    ∃ route, preferredMatch tbl m (cleanToks p) = some route ∧ route.h = h ∧
      ps = (binds route.pats (cleanToks p)).reverse := by
  obtain ⟨route, hadm, hh, hps⟩ := chosen_is_admissible hrep hok hs
  exact ⟨route, preferredMatch_of_admissible hok hyp hadm, hh, hps⟩

/-- conversely, a preferred match is dispatched to. -/
theorem preferred_match_is_chosen {r : Router} {tbl : Table} (hrep : Rep r tbl) (hok : TblOK tbl)
    (hyp : oneVarPerPosition tbl = true) {m p : String} (hr : rooted p = true) {route : Route}
    (hpm : preferredMatch tbl m (cleanToks p) = some route) :
    serve r m p = .handler route.h (binds route.pats (cleanToks p)).reverse := by
  rw [serve_handler_iff, searchClean, hr, next_eq_preferred hok hyp (hrep.2 m) _ (clean_cleanToks p), hpm]
  rfl

/-- **Map iteration order is irrelevant under the hypothesis**: two routers that store the same table
(their children maps possibly ordered differently) dispatch every request identically. -/
theorem dispatch_order_irrelevant {r r' : Router} {tbl : Table} (hrep : Rep r tbl) (hrep' : Rep r' tbl)
    (hok : TblOK tbl) (hyp : oneVarPerPosition tbl = true) (m p : String) (h : H) (ps : Params) :
    serve r m p = .handler h ps ↔ serve r' m p = .handler h ps := by
  have hc := clean_cleanToks p
  rw [serve_handler_iff, serve_handler_iff, searchClean, searchClean, next_eq_preferred hok hyp (hrep.2 m) _ hc,
    next_eq_preferred hok hyp (hrep'.2 m) _ hc]

/-- **Reordering the children maps of any nodes** (`Shuffled`: what another Go map iteration order amounts
to) keeps a tree a representation of the same routes — so the theorems above, stated for all representing
routers, cover every iteration order — and under the hypothesis the search result is literally the same. -/
theorem search_same_after_shuffle {tbl : Table} (hok : TblOK tbl) (hyp : oneVarPerPosition tbl = true)
    {root root' : Node} {m : String} (hs : Shuffled root root') (hrep : TreeRep root tbl m)
    (toks : List String) (hc : toks = [""] ∨ (toks ≠ [] ∧ ∀ t ∈ toks, t ≠ "")) :
    TreeRep root' tbl m ∧ next toks root' = next toks root := by
  have hrep' := treeRep_shuffled hs hrep
  exact ⟨hrep', by rw [next_eq_preferred hok hyp hrep' toks hc, next_eq_preferred hok hyp hrep toks hc]⟩

example (a b : Node) : Shuffled (.mk none [] [(":x", a), (":y", b)]) (.mk none [] [(":y", b), (":x", a)]) :=
  .top _ _ _ _ _ (List.Perm.refl _) (List.Perm.swap _ _ _)

/-- **The path variables delivered are exactly the bound segments.**  When the names inside the chosen
pattern are pairwise distinct, `pathvar.Vars` (the map built by the `addParam` calls) contains exactly the
pairs (name, segment) bound by the route — nothing overwritten, nothing else. -/
theorem vars_are_bound_segments {r : Router} {tbl : Table} (hrep : Rep r tbl) (hok : TblOK tbl)
    {m p : String} {h : H} {ps : Params} (hs : serve r m p = .handler h ps) :
    ∃ route ∈ admissible tbl m (cleanToks p), route.h = h ∧
      (distinctNames route.pats = true →
        paramMap ps = (binds route.pats (cleanToks p)).reverse) := by
  obtain ⟨route, hadm, hh, hps⟩ := chosen_is_admissible hrep hok hs
  refine ⟨route, hadm, hh, ?_⟩
  intro hd
  rw [hps, paramMap_binds hd]

/-- without the distinctness assumption: `pathvar.Vars` holds, for every name, the *first* segment the
chosen pattern binds to that name (a later `addParam` — an earlier segment — overwrites).  So a pattern
that repeats a name (`/:x/:x`) silently loses the later segments. -/
theorem vars_first_binding_wins {r : Router} {tbl : Table} (hrep : Rep r tbl) (hok : TblOK tbl)
    {m p : String} {h : H} {ps : Params} (hs : serve r m p = .handler h ps) :
    ∃ route ∈ admissible tbl m (cleanToks p), route.h = h ∧
      ∀ name, (paramMap ps).lookup name = (binds route.pats (cleanToks p)).lookup name := by
  obtain ⟨route, hadm, hh, hps⟩ := chosen_is_admissible hrep hok hs
  refine ⟨route, hadm, hh, fun name => ?_⟩
  rw [paramMap_lookup, hps, List.reverse_reverse]

example : paramMap ((binds [":x", "a", ":x"] ["p", "a", "q"]).reverse) = [("x", "p")] := by decide

/-- **405 with exactly the other methods that match.** -/
theorem status_405_allow_exact {r : Router} {tbl : Table} (hrep : Rep r tbl) (hok : TblOK tbl)
    {m p : String} {a : List String} (hs : serve r m p = .notAllowed a) :
    candidates tbl m (cleanToks p) = [] ∧ a ≠ [] ∧ a.Nodup ∧
    ∀ x, x ∈ a ↔ (x ≠ m ∧ ∃ route ∈ tbl, route.method = x ∧ matchesP route.pats (cleanToks p) = true) := by
  obtain ⟨_, hc, hne, hnd, hmem⟩ := (serve_spec hrep hok m p).2.1 a hs
  exact ⟨hc, hne, hnd, fun x => by rw [hmem x, candidates_ne_nil_iff]⟩

/-- the Allow list is the spec's `allowed` set. -/
theorem allow_is_spec_allowed {r : Router} {tbl : Table} (hrep : Rep r tbl) (hok : TblOK tbl)
    {m p : String} {a : List String} (hs : serve r m p = .notAllowed a) :
    ∀ x, x ∈ a ↔ x ∈ allowed tbl m (cleanToks p) :=
  fun x => (((serve_spec hrep hok m p).2.1 a hs).2.2.2.2 x).trans mem_allowed.symm

/-- **404 exactly when no route of any method matches** (or the path is not rooted). -/
theorem status_404 {r : Router} {tbl : Table} (hrep : Rep r tbl) (hok : TblOK tbl) (m p : String) :
    serve r m p = .notFound ↔
      (rooted p = true → ∀ route ∈ tbl, matchesP route.pats (cleanToks p) = false) := by
  obtain ⟨hH, hA, hF⟩ := serve_spec hrep hok m p
  rw [← no_candidates_iff]
  refine ⟨hF, fun hno => ?_⟩
  cases hs : serve r m p with
  | notFound => rfl
  | handler h ps =>
    obtain ⟨hr, route, hadm, _⟩ := hH h ps hs
    exact absurd (hno hr m) (List.ne_nil_of_mem (mem_admissible.mp hadm).1)
  | notAllowed a =>
    obtain ⟨hr, _, hne, _, hmem⟩ := hA a hs
    obtain ⟨x, hx⟩ := List.exists_mem_of_ne_nil _ hne
    exact absurd (hno hr x) ((hmem x).mp hx).2

/-- what it means for an outcome of the router to be the one the property demands. -/
def Agrees (toks : List String) : Outcome → Expect → Prop
  | .handler h ps, .handler route => route.h = h ∧ ps = (binds route.pats toks).reverse
  | .notAllowed a, .notAllowed a' => a.Nodup ∧ ∀ x, x ∈ a ↔ x ∈ a'
  | .notFound, .notFound => True
  | _, _ => False

/-- **C09, main theorem.**  For every sequence of registrations whose accepted table has one variable name
per position under a prefix, and every request method and (rooted) path: what the router does is what the
declarative matcher demands — handler of the preferred match with its bound segments, else 405 with exactly
the other matching methods, else 404. -/
theorem serve_is_declarative_matcher (regs : List Reg)
    (hyp : oneVarPerPosition (runRegister [] regs) = true) (m p : String) (hr : rooted p = true) :
    Agrees (cleanToks p) (serve (runHandle {} regs) m p)
      (expect (runRegister [] regs) m (some (cleanToks p))) := by
  obtain ⟨hrep, hok⟩ := router_represents_table regs
  obtain ⟨hH, hA, hF⟩ := serve_spec hrep hok m p
  cases hs : serve (runHandle {} regs) m p with
  | handler h ps =>
    obtain ⟨_, route, hadm, hh, hps⟩ := hH h ps hs
    simp only [expect, preferredMatch_of_admissible hok hyp hadm]
    exact ⟨hh, hps⟩
  | notAllowed a =>
    obtain ⟨_, hc, hne, hnd, hmem⟩ := hA a hs
    obtain ⟨a', he, hm'⟩ := expect_notAllowed hc hne hmem
    rw [he]
    exact ⟨hnd, hm'⟩
  | notFound =>
    rw [expect_notFound (hF hs hr)]
    trivial

/-- a path that does not start with '/' is never dispatched and never 405. -/
theorem not_rooted_is_404 (regs : List Reg) (m p : String) (hr : rooted p = false) :
    serve (runHandle {} regs) m p = .notFound :=
  serve_not_rooted _ m hr

/-- cleaned paths are the root `[""]` or non-empty lists of non-empty segments. -/
theorem cleaned_is_clean (p : String) :
    cleanToks p = [""] ∨ (cleanToks p ≠ [] ∧ ∀ t ∈ cleanToks p, t ≠ "") := clean_cleanToks p

/-- the empty tree `Handle` leaves behind when `Add` fails matches nothing. -/
theorem empty_tree_never_matches (toks : List String) : next toks (newNode none) = none := next_newNode toks

/-- outside the hypothesis (the "excluded region") the iteration order decides: two trees storing the same two routes
`/:x/a` (handler 1) and `/:y/:z` (handler 2) — they differ only
in the order of one children map — answer `/q/a` differently.  (Observed on the real router, see the
`req-order-dependent-observed` counter of the correspondence run.) -/
theorem excluded_region_order_decides :
    let leafA : Node := .mk none [("a", .mk (some 1) [] [])] []
    let leafZ : Node := .mk none [] [(":z", .mk (some 2) [] [])]
    let t1 : Node := .mk none [] [(":x", leafA), (":y", leafZ)]
    let t2 : Node := .mk none [] [(":y", leafZ), (":x", leafA)]
    next ["q", "a"] t1 = some (1, [("x", "q")]) ∧
    next ["q", "a"] t2 = some (2, [("z", "a"), ("y", "q")]) ∧
    (∀ ks, lookupW ks t1 = lookupW ks t2) := by
  refine ⟨by decide, by decide, ?_⟩
  intro ks
  match ks with
  | [] => rfl
  | k :: rest =>
    simp only [lookupW, child]
    by_cases h1 : k = ":x"
    · subst h1; rfl
    · by_cases h2 : k = ":y"
      · subst h2; rfl
      · have e1 : (k == ":x") = false := by simpa using h1
        have e2 : (k == ":y") = false := by simpa using h2
        split <;> simp [List.lookup, e1, e2]

/-! ### non-vacuity: a table mixing `/a/:x/c` and `/a/b/:y`, a root route, another method -/

def exRegs : List Reg :=
  [("GET", "/a/:x/c", some 1), ("GET", "/a/b/:y", some 2), ("GET", "/", some 3),
   ("POST", "/a/b/c", some 4), ("GET", "/a//b/./:y/", some 5), ("FETCH", "/a", some 6), ("GET", "a", some 7)]

/-- the accepted table (the last three attempts are rejected: duplicate after cleaning, method, leading '/') … -/
theorem exRegs_table : runRegister [] exRegs =
    [⟨"GET", ["a", ":x", "c"], 1⟩, ⟨"GET", ["a", "b", ":y"], 2⟩, ⟨"GET", [""], 3⟩, ⟨"POST", ["a", "b", "c"], 4⟩] := by
  decide +kernel

/-- … and the router: one tree per method, literal children before variable children, the root route at the root. -/
theorem exRegs_router : runHandle {} exRegs =
    ⟨[("GET", .mk (some 3) [("a", .mk none [("b", .mk none [] [(":y", .mk (some 2) [] [])])]
        [(":x", .mk none [("c", .mk (some 1) [] [])] [])])] []),
      ("POST", .mk none [("a", .mk none [("b", .mk none [("c", .mk (some 4) [] [])] [])] [])] [])]⟩ := by
  rfl

example : oneVarPerPosition (runRegister [] exRegs) = true := by rw [exRegs_table]; decide
example : (runRegister [] exRegs).map (·.h) = [1, 2, 3, 4] := by rw [exRegs_table]; decide
-- literal preferred over variable at the first differing segment; backtracking when the literal branch fails
example : serve (runHandle {} exRegs) "GET" "/a/b/c" = .handler 2 [("y", "c")] := by rw [exRegs_router]; decide +kernel
example : serve (runHandle {} exRegs) "GET" "/a/b/../q//c/" = .handler 1 [("x", "q")] := by rw [exRegs_router]; decide +kernel
example : serve (runHandle {} exRegs) "GET" "/a/b/d" = .handler 2 [("y", "d")] := by rw [exRegs_router]; decide +kernel
example : serve (runHandle {} exRegs) "GET" "/" = .handler 3 [] := by rw [exRegs_router]; decide +kernel
example : serve (runHandle {} exRegs) "PUT" "/a/b/c" = .notAllowed ["GET", "POST"] := by rw [exRegs_router]; decide +kernel
example : serve (runHandle {} exRegs) "POST" "/a/q/c" = .notAllowed ["GET"] := by rw [exRegs_router]; decide +kernel
example : serve (runHandle {} exRegs) "GET" "/a/b" = .notFound := by rw [exRegs_router]; decide +kernel
-- the hypotheses of the theorems above are met by this table …
example : Rep (runHandle {} exRegs) (runRegister [] exRegs) ∧ TblOK (runRegister [] exRegs) :=
  router_represents_table exRegs
example : Agrees (cleanToks "/a/b/../q//c/") (serve (runHandle {} exRegs) "GET" "/a/b/../q//c/")
    (expect (runRegister [] exRegs) "GET" (some (cleanToks "/a/b/../q//c/"))) :=
  serve_is_declarative_matcher exRegs (by rw [exRegs_table]; decide) "GET" "/a/b/../q//c/" (by decide)
example : (candidates (runRegister [] exRegs) "GET" (cleanToks "/a/b/c")).map (·.h) = [1, 2] := by
  rw [exRegs_table]; decide +kernel
example : (admissible (runRegister [] exRegs) "GET" (cleanToks "/a/b/c")).map (·.h) = [2] := by
  rw [exRegs_table]; decide +kernel
-- … and the table of `excluded_region_order_decides` is outside the hypothesis, with two admissible routes
example : oneVarPerPosition [⟨"GET", [":x", "a"], 1⟩, ⟨"GET", [":y", ":z"], 2⟩] = false := by decide
example : (admissible [⟨"GET", [":x", "a"], 1⟩, ⟨"GET", [":y", ":z"], 2⟩] "GET" ["q", "a"]).map (·.h) = [1, 2] := by
  decide
example : expect (runRegister [] exRegs) "GET" (some (cleanToks "/a/b/c")) = .handler ⟨"GET", ["a", "b", ":y"], 2⟩ := by
  rw [exRegs_table]; decide +kernel

end GoZero.C09
