/-
C09 — Tie: what the extractor read (on this run) from core/search/tree.go, rest/router/patrouter.go and the functions
of rest/server.go, rest/engine.go, rest/pathvar, rest/internal/fileserver, rest/internal/cors and rest/internal/response
on the property's path equals what the model (Model.lean) was written against.  In the search tree and the router every
statement is part of the mechanism the property is about, so the obligations list the statements of each function
(normalised by go/printer; comments, blank lines and formatting do not matter; of a `for` statement only the
condition is listed).  A failing obligation means: re-read the function, update the model *and its proofs*, then
update the list.
-/
import GoZero.Extracted.C09
import GoZero.C09.Model
namespace GoZero.C09.Tie
open GoZero.C09
open GoZero.Extracted.C09

theorem extraction_clean : extractionErrors = [] := rfl

/-- `colon`/`slash`: the model's `isVar` tests the first character against ':' and `splitSlash` splits at '/'. -/
theorem tie_colon_slash : colon = (':'.toNat : Int) ∧ slash = ('/'.toNat : Int) := by decide

/-- the model's variable test and its tokeniser use exactly these two constants. -/
theorem tie_isVar_colon (k : String) : isVar k = (k.toList.head? == some (Char.ofNat colon.toNat)) := rfl

theorem tie_split_slash (c : Char) (cs cur : List Char) :
    splitSlash (c :: cs) cur =
      if c = Char.ofNat slash.toNat then String.ofList cur.reverse :: splitSlash cs [] else splitSlash cs (c :: cur) := rfl

/-- the 405 reply uses the `Allow` header with ", " between methods (the harness splits at exactly this). -/
theorem tie_allow : allowHeader = "Allow" ∧ allowMethodSeparator = ", " := by decide

/-- `validMethod` accepts exactly the model's `validMethods` (net/http method constants are their own names upper-cased). -/
theorem tie_validMethods :
    validMethodTests = validMethods.map fun m =>
      "method == http.Method" ++ String.ofList (match m.toList with | c :: cs => c :: cs.map Char.toLower | [] => []) := by
  decide +kernel

/-- `Tree.next` — model `next`: (1) empty route at a node with an item ⇒ found; (2) first slash: token = route[:i],
forEach child with `match(k, token).found` *and* a successful recursive search of `route[i+1:]`, `addParam` only after
the recursion succeeded (⇒ innermost binding first); (3) no slash: forEach child that matches the whole rest *and* has an item. -/
theorem tie_nextStmts : nextStmts = [
  "if len(route) == 0 && n.item != nil {",
  "result.Item = n.item",
  "return true",
  "}",
  "range i := route {",
  "if route[i] != slash {",
  "continue",
  "}",
  "token := route[:i]",
  "return n.forEach(func(k string, v *node) bool{...})",
  "func{",
  "r := match(k, token)",
  "if !r.found || !t.next(v, route[i+1:], result) {",
  "return false",
  "}",
  "if r.named {",
  "addParam(result, r.key, r.value)",
  "}",
  "return true",
  "}",
  "}",
  "return n.forEach(func(k string, v *node) bool{...})",
  "func{",
  "if r := match(k, route); r.found && v.item != nil {",
  "result.Item = v.item",
  "if r.named {",
  "addParam(result, r.key, r.value)",
  "}",
  "return true",
  "}",
  "return false",
  "}"] := by rfl

/-- `add` — model `add`: empty route ⇒ set the node's own item (dup if set); leading slash ⇒ dupSlash; first slash:
get-or-create the child under `token` in `getChildren(token)` and recurse on `route[i+1:]`; no slash: set the item of
the child under `route` (dup if set) or create it with the item. -/
theorem tie_addStmts : addStmts = [
  "if len(route) == 0 {",
  "if nd.item != nil {",
  "return errDupItem",
  "}",
  "nd.item = item",
  "return nil",
  "}",
  "if route[0] == slash {",
  "return errDupSlash",
  "}",
  "range i := route {",
  "if route[i] != slash {",
  "continue",
  "}",
  "token := route[:i]",
  "children := nd.getChildren(token)",
  "if child, ok := children[token]; ok {",
  "if child == nil {",
  "return errInvalidState",
  "}",
  "return add(child, route[i+1:], item)",
  "}",
  "child := newNode(nil)",
  "children[token] = child",
  "return add(child, route[i+1:], item)",
  "}",
  "children := nd.getChildren(route)",
  "if child, ok := children[route]; ok {",
  "if child.item != nil {",
  "return errDupItem",
  "}",
  "child.item = item",
  "}",
  "else{",
  "children[route] = newNode(item)",
  "}",
  "return nil"] := by rfl

/-- `node.forEach` — model `forEach`: `children[0]` (literals) before `children[1]` (variables); first callback returning true wins. -/
theorem tie_forEachStmts : forEachStmts = [
  "range _, children := nd.children {",
  "range k, v := children {",
  "if fn(k, v) {",
  "return true",
  "}",
  "}",
  "}",
  "return false"] := by rfl

/-- `getChildren` — model `isVar`/`updChild`/`child`: tokens starting with ':' live in `children[1]`, all others in `children[0]`. -/
theorem tie_getChildrenStmts : getChildrenStmts = [
  "if len(route) > 0 && route[0] == colon {",
  "return nd.children[1]",
  "}",
  "return nd.children[0]"] := by rfl

/-- `match` — model `matchTok`/`hit`/`varName`: a ':' pattern matches any token and binds `pat[1:]` to it; a literal matches only itself. -/
theorem tie_matchStmts : matchStmts = [
  "if pat[0] == colon {",
  "return innerResult{ key: pat[1:], value: token, named: true, found: true, }",
  "}",
  "return innerResult{ found: pat == token, }"] := by rfl

/-- `addParam` — model `paramMap`: a map write, a later call with the same name overwrites. -/
theorem tie_addParamStmts : addParamStmts = [
  "if result.Params == nil {",
  "result.Params = make(map[string]string)",
  "}",
  "result.Params[k] = v"] := by rfl

/-- `newNode` — model `newNode`: the given item and two empty children maps. -/
theorem tie_newNodeStmts : newNodeStmts = [
  "return &node{ item: item, children: [2]map[string]*node{ make(map[string]*node), make(map[string]*node), }, }"] := by rfl

/-- `Tree.Search` — model `treeSearch`: not rooted ⇒ not found; else `next(root, route[1:])`. -/
theorem tie_treeSearchStmts : treeSearchStmts = [
  "if len(route) == 0 || route[0] != slash {",
  "return NotFound, false",
  "}",
  "var result Result",
  "ok := t.next(t.root, route[1:], &result)",
  "return result, ok"] := by rfl

/-- `Tree.Add` — model `treeAdd`: not rooted ⇒ errNotFromRoot; nil item ⇒ errEmptyItem; else `add(root, route[1:], item)`. -/
theorem tie_treeAddStmts : treeAddStmts = [
  "if len(route) == 0 || route[0] != slash {",
  "return errNotFromRoot",
  "}",
  "if item == nil {",
  "return errEmptyItem",
  "}",
  "err := add(t.root, route[1:], item)",
  "switch {",
  "case errors.Is(err, errDupItem):",
  "return duplicatedItem(route)",
  "case errors.Is(err, errDupSlash):",
  "return duplicatedSlash(route)",
  "default:",
  "return err",
  "}"] := by rfl

/-- `patRouter.Handle` — model `handle`: validMethod, then leading '/', then `path.Clean`, then `Add` on the method's tree (created on first use). -/
theorem tie_handleStmts : handleStmts = [
  "if !validMethod(method) {",
  "return ErrInvalidMethod",
  "}",
  "if len(reqPath) == 0 || reqPath[0] != '/' {",
  "return ErrInvalidPath",
  "}",
  "cleanPath := path.Clean(reqPath)",
  "tree, ok := pr.trees[method]",
  "if ok {",
  "return tree.Add(cleanPath, handler)",
  "}",
  "tree = search.NewTree()",
  "pr.trees[method] = tree",
  "return tree.Add(cleanPath, handler)"] := by rfl

/-- `patRouter.ServeHTTP` — model `serve`: Clean; search the tree of `r.Method`; hit ⇒ run the item with the params (when any); else `methodsAllowed` ⇒ 404 when none, else 405 with the Allow header. -/
theorem tie_serveStmts : serveStmts = [
  "reqPath := path.Clean(r.URL.Path)",
  "if tree, ok := pr.trees[r.Method]; ok {",
  "if result, ok := tree.Search(reqPath); ok {",
  "if len(result.Params) > 0 {",
  "r = pathvar.WithVars(r, result.Params)",
  "}",
  "result.Item.(http.Handler).ServeHTTP(w, r)",
  "return",
  "}",
  "}",
  "allows, ok := pr.methodsAllowed(r.Method, reqPath)",
  "if !ok {",
  "pr.handleNotFound(w, r)",
  "return",
  "}",
  "if pr.notAllowed != nil {",
  "pr.notAllowed.ServeHTTP(w, r)",
  "}",
  "else{",
  "w.Header().Set(allowHeader, allows)",
  "w.WriteHeader(http.StatusMethodNotAllowed)",
  "}"] := by rfl

/-- `handleNotFound` — the default is `http.NotFound` (404). -/
theorem tie_handleNotFoundStmts : handleNotFoundStmts = [
  "if pr.notFound != nil {",
  "pr.notFound.ServeHTTP(w, r)",
  "}",
  "else{",
  "http.NotFound(w, r)",
  "}"] := by rfl

/-- `methodsAllowed` — model `methodsAllowed`: every *other* method whose tree finds the path; joined with ", ". -/
theorem tie_methodsAllowedStmts : methodsAllowedStmts = [
  "var allows []string",
  "range treeMethod, tree := pr.trees {",
  "if treeMethod == method {",
  "continue",
  "}",
  "_, ok := tree.Search(path)",
  "if ok {",
  "allows = append(allows, treeMethod)",
  "}",
  "}",
  "if len(allows) > 0 {",
  "return strings.Join(allows, allowMethodSeparator), true",
  "}",
  "return \"\", false"] := by rfl

/-- `validMethod` is a single disjunction of equalities (the tests are tied by `tie_validMethods`). -/
theorem tie_validMethodStmts : validMethodStmts = [
  "return method == http.MethodDelete || method == http.MethodGet || method == http.MethodHead || method == http.MethodOptions || method == http.MethodPatch || method == http.MethodPost || method == http.MethodPut"] := by rfl

/-- `SetNotFoundHandler` — model `PatRouter.notFound` (driver op `setnf`): plain overwrite, nil resets to the default. -/
theorem tie_setNotFoundStmts : setNotFoundStmts = [
  "pr.notFound = handler"] := by rfl

/-- `SetNotAllowedHandler` — model `PatRouter.notAllowed` (driver op `setna`). -/
theorem tie_setNotAllowedStmts : setNotAllowedStmts = [
  "pr.notAllowed = handler"] := by rfl

/-- `NewRouter` — model `({} : PatRouter)`: no trees, no custom handlers. -/
theorem tie_newRouterStmts : newRouterStmts = [
  "return &patRouter{ trees: make(map[string]*search.Tree), }"] := by rfl

/-- `pathvar.Vars` — what a handler sees: the map stored under the context key, nil when none was stored. -/
theorem tie_pathvarVarsStmts : pathvarVarsStmts = [
  "vars, ok := r.Context().Value(pathVars).(map[string]string)",
  "if ok {",
  "return vars",
  "}",
  "return nil"] := by rfl

/-- `pathvar.WithVars` — the params map of the search result is stored as is (no copy, no merge with an outer map). -/
theorem tie_pathvarWithVarsStmts : pathvarWithVarsStmts = [
  "return r.WithContext(context.WithValue(r.Context(), pathVars, params))"] := by rfl

/-- `engine.addRoutes` — model `Server.addRoutes`: the group is appended to `ng.routes` (SSE wrapping keeps method and path). -/
theorem tie_engineAddRoutesStmts : engineAddRoutesStmts = [
  "if r.sse {",
  "r.routes = buildSSERoutes(r.routes)",
  "}",
  "ng.routes = append(ng.routes, r)",
  "if r.timeout > ng.timeout {",
  "ng.timeout = r.timeout",
  "}"] := by rfl

/-- `engine.bindRoutes` — model `bindGroups` (`Server.start`; flat: `Server.bindRoutes`/`bindAll`): groups in `AddRoutes` order, the first error aborts. -/
theorem tie_engineBindRoutesStmts : engineBindRoutesStmts = [
  "metrics := ng.createMetrics()",
  "range _, fr := ng.routes {",
  "if err := ng.bindFeaturedRoutes(router, fr, metrics); err != nil {",
  "return err",
  "}",
  "}",
  "return nil"] := by rfl

/-- `engine.bindFeaturedRoutes` — model `bindAll` over `Group.regs`: routes of a group in order, the first error aborts. -/
theorem tie_engineBindFeaturedStmts : engineBindFeaturedStmts = [
  "verifier, err := ng.signatureVerifier(fr.signature)",
  "if err != nil {",
  "return err",
  "}",
  "range _, route := fr.routes {",
  "if err := ng.bindRoute(fr, router, metrics, route, verifier); err != nil {",
  "return err",
  "}",
  "}",
  "return nil"] := by rfl

/-- `engine.bindRoute` — model: `router.Handle(route.Method, route.Path, chain(route.Handler))`: method and path unchanged, the handler is the route's own behind the middleware chain. -/
theorem tie_engineBindRouteStmts : engineBindRouteStmts = [
  "chn := ng.chain",
  "if chn == nil {",
  "chn = ng.buildChainWithNativeMiddlewares(fr, route, metrics)",
  "}",
  "chn = ng.appendAuthHandler(fr, chn, verifier)",
  "range _, middleware := ng.middlewares {",
  "chn = chn.Append(convertMiddleware(middleware))",
  "}",
  "handle := chn.ThenFunc(route.Handler)",
  "return router.Handle(route.Method, route.Path, handle)"] := by rfl

/-- `engine.notFoundHandler` — model `NFHandler.engine next`: `next` (or `http.NotFoundHandler()`) runs behind trace/log, then the status is forced to 404 unless already written (driver `fmtResponse`). -/
theorem tie_engineNotFoundStmts : engineNotFoundStmts = [
  "return http.HandlerFunc(func(w http.ResponseWriter, r *http.Request){...})",
  "func{",
  "chn := chain.New( handler.TraceHandler(ng.conf.Name, \"\", handler.WithTraceIgnorePaths(ng.conf.TraceIgnorePaths)), )",
  "if ng.conf.Middlewares.Log {",
  "chn = chn.Append(ng.getLogHandler())",
  "}",
  "var h http.Handler",
  "if next != nil {",
  "h = chn.Then(next)",
  "}",
  "else{",
  "h = chn.Then(http.NotFoundHandler())",
  "}",
  "cw := response.NewHeaderOnceResponseWriter(w)",
  "h.ServeHTTP(cw, r)",
  "cw.WriteHeader(http.StatusNotFound)",
  "}"] := by rfl

/-- `NewServer` — model `newServer`: a fresh `router.NewRouter()`, `WithNotFoundHandler(nil)` first, then the options in the given order. -/
theorem tie_newServerStmts : newServerStmts = [
  "if err := c.SetUp(); err != nil {",
  "return nil, err",
  "}",
  "server := &Server{ ngin: newEngine(c), router: router.NewRouter(), }",
  "opts = append([]RunOption{WithNotFoundHandler(nil)}, opts...)",
  "range _, opt := opts {",
  "opt(server)",
  "}",
  "return server, nil"] := by rfl

/-- `Server.AddRoutes` — model `Group`/`Server.addRoutes`: the route options (WithPrefix) are applied to the group, then `engine.addRoutes`. -/
theorem tie_serverAddRoutesStmts : serverAddRoutesStmts = [
  "r := featuredRoutes{ routes: rs, }",
  "range _, opt := opts {",
  "opt(&r)",
  "}",
  "s.ngin.addRoutes(r)"] := by rfl

/-- `Server.Routes` — what the harness prints for a `group` op: the stored routes in order. -/
theorem tie_serverRoutesStmts : serverRoutesStmts = [
  "routes := make([]Route, 0, len(s.ngin.routes))",
  "range _, r := s.ngin.routes {",
  "routes = append(routes, r.routes...)",
  "}",
  "return routes"] := by rfl

/-- `WithPrefix` — model `prefixReg`/`joinGo` (`Group.regs`): every route path becomes `path.Join(group, path)`, method and handler kept. -/
theorem tie_withPrefixStmts : withPrefixStmts = [
  "return func(r *featuredRoutes){...}",
  "func{",
  "routes := make([]Route, 0, len(r.routes))",
  "range _, rt := r.routes {",
  "p := path.Join(group, rt.Path)",
  "routes = append(routes, Route{ Method: rt.Method, Path: p, Handler: rt.Handler, })",
  "}",
  "r.routes = routes",
  "}"] := by rfl

/-- `WithNotFoundHandler` — model `Server.apply (.notFound h)`: the router's notFound is the engine wrapper around `h`. -/
theorem tie_withNotFoundStmts : withNotFoundStmts = [
  "return func(server *Server){...}",
  "func{",
  "notFoundHandler := server.ngin.notFoundHandler(handler)",
  "server.router.SetNotFoundHandler(notFoundHandler)",
  "}"] := by rfl

/-- `WithNotAllowedHandler` — model `Server.apply (.notAllowed h)`: set on the router as is (no wrapper; nil = default 405 + Allow). -/
theorem tie_withNotAllowedStmts : withNotAllowedStmts = [
  "return func(server *Server){...}",
  "func{",
  "server.router.SetNotAllowedHandler(handler)",
  "}"] := by rfl

/-- `Server.AddRoute` — model `ApiOp.addOne`: `AddRoutes([]Route{r}, opts...)`, the options are forwarded. -/
theorem tie_serverAddRouteStmts : serverAddRouteStmts = [
  "s.AddRoutes([]Route{r}, opts...)"] := by rfl

/-- `WithJwt` — model `RouteOpt.jwt`: enabled + secret; `prevSecret` is not reset. -/
theorem tie_withJwtStmts : withJwtStmts = [
  "return func(r *featuredRoutes){...}",
  "func{",
  "validateSecret(secret)",
  "r.jwt.enabled = true",
  "r.jwt.secret = secret",
  "}"] := by rfl

/-- `WithJwtTransition` — model `RouteOpt.jwtTransition`. -/
theorem tie_withJwtTransitionStmts : withJwtTransitionStmts = [
  "return func(r *featuredRoutes){...}",
  "func{",
  "validateSecret(secret)",
  "r.jwt.enabled = true",
  "r.jwt.secret = secret",
  "r.jwt.prevSecret = prevSecret",
  "}"] := by rfl

/-- `WithMaxBytes` — model `RouteOpt.maxBytes`: only the setting. -/
theorem tie_withMaxBytesStmts : withMaxBytesStmts = [
  "return func(r *featuredRoutes){...}",
  "func{",
  "r.maxBytes = maxBytes",
  "}"] := by rfl

/-- `WithMiddlewares` — wraps from the last middleware to the first, so the first ends up outermost (harness trail
`mw=1.2…`); of the loop `for i := len(ms) - 1; i >= 0; i--` the list shows the condition only. -/
theorem tie_withMiddlewaresStmts : withMiddlewaresStmts = [
  "for i >= 0 {",
  "rs = WithMiddleware(ms[i], rs...)",
  "}",
  "return rs"] := by rfl

/-- `WithMiddleware` — a fresh slice, method and path copied, handler wrapped (the caller's slice is not written). -/
theorem tie_withMiddlewareStmts : withMiddlewareStmts = [
  "routes := make([]Route, len(rs))",
  "range i := rs {",
  "route := rs[i]",
  "routes[i] = Route{ Method: route.Method, Path: route.Path, Handler: middleware(route.Handler), }",
  "}",
  "return routes"] := by rfl

/-- `WithPriority` — model `RouteOpt.priority`. -/
theorem tie_withPriorityStmts : withPriorityStmts = [
  "return func(r *featuredRoutes){...}",
  "func{",
  "r.priority = true",
  "}"] := by rfl

/-- `WithSSE` — model `RouteOpt.sse`: sse flag, timeout reset. -/
theorem tie_withSSEStmts : withSSEStmts = [
  "return func(r *featuredRoutes){...}",
  "func{",
  "r.sse = true",
  "r.timeout = 0",
  "}"] := by rfl

/-- `WithTimeout` — model `RouteOpt.timeout`. -/
theorem tie_withTimeoutStmts : withTimeoutStmts = [
  "return func(r *featuredRoutes){...}",
  "func{",
  "r.timeout = timeout",
  "}"] := by rfl

/-- `buildSSERoutes` — overwrites ONLY `routes[i].Handler` in place (method and path of the possibly caller-owned slice untouched: `Api.step` comment). -/
theorem tie_buildSSERoutesStmts : buildSSERoutesStmts = [
  "range i, route := routes {",
  "h := route.Handler",
  "routes[i].Handler = func(w http.ResponseWriter, r *http.Request){...}",
  "func{",
  "w.Header().Set(header.ContentType, header.ContentTypeEventStream)",
  "w.Header().Set(header.CacheControl, header.CacheControlNoCache)",
  "w.Header().Set(header.Connection, header.ConnectionKeepAlive)",
  "h(w, r)",
  "}",
  "}",
  "return routes"] := by rfl

/-- `engine.appendAuthHandler` — model `bindChain`/`tokenOk`: a group with jwt enabled gets `handler.Authorize(secret[, prevSecret])` in front of the route handler — the GROUP's own settings. -/
theorem tie_engineAppendAuthStmts : engineAppendAuthStmts = [
  "if fr.jwt.enabled {",
  "if len(fr.jwt.prevSecret) == 0 {",
  "chn = chn.Append(handler.Authorize(fr.jwt.secret, handler.WithUnauthorizedCallback(ng.unauthorizedCallback)))",
  "}",
  "else{",
  "chn = chn.Append(handler.Authorize(fr.jwt.secret, handler.WithPrevSecret(fr.jwt.prevSecret), handler.WithUnauthorizedCallback(ng.unauthorizedCallback)))",
  "}",
  "}",
  "return verifier(chn)"] := by rfl

/-- `convertMiddleware` — `bindRoute` wraps every `Server.Use` middleware in it: the middleware gets `next.ServeHTTP`. -/
theorem tie_convertMiddlewareStmts : convertMiddlewareStmts = [
  "return func(next http.Handler) http.Handler{...}",
  "func{",
  "return ware(next.ServeHTTP)",
  "}"] := by rfl

/-! ### decision conditions TRANSLATED from the Go expressions (extract/c09.go `c09Cond`) and proven equal,
for all arguments, to the model's functions — operator, constant, negation and argument of every condition on the
property's path are tied semantically (the statement lists above tie order and forwarding). -/

theorem slash_char : Char.ofNat slash.toNat = '/' := by decide
theorem colon_char : Char.ofNat colon.toNat = ':' := by decide

/-- Go's `len(s) == 0` is `s == ""`. -/
theorem length_beq_zero (s : String) : (s.length == 0) = (s == "") := by
  rw [Bool.eq_iff_iff, beq_iff_eq, beq_iff_eq, String.length_eq_zero_iff]

/-- `Tree.Add`, `Tree.Search`: `len(route) == 0 || route[0] != slash`; `Handle`: `len(reqPath) == 0 || reqPath[0] != '/'`
— all three are the model's `!rooted`. -/
theorem tie_cond_notFromRoot (s : String) :
    condAddNotFromRoot s = !rooted s ∧ condSearchNotFromRoot s = !rooted s ∧ condHandleBadPath s = !rooted s := by
  unfold condAddNotFromRoot condSearchNotFromRoot condHandleBadPath rooted
  rw [slash_char, ← String.length_toList]
  cases s.toList <;> simp

/-- `getChildren`: `len(route) > 0 && route[0] == colon`; `match`: `pat[0] == colon` — the model's `isVar`.  `match`'s test
is unguarded in Go and would panic on an empty pattern, where the model answers false: `add` never stores the empty key
(`add_eq`: an empty element is rejected with `errDupSlash` or, as the last one, sets the node's own item). -/
theorem tie_cond_isVar (k : String) : condGetChildrenVar k = isVar k ∧ condMatchNamed k = isVar k := by
  unfold condGetChildrenVar condMatchNamed isVar
  rw [colon_char, ← String.length_toList]
  cases k.toList <;> simp

/-- `match(pat, token).found` = named, or `pat == token` — the model's `matchTok`. -/
theorem tie_cond_match (k t : String) : matchTok k t = (condMatchNamed k || condMatchLiteral k t) := by
  rw [(tie_cond_isVar k).2]; rfl

/-- `validMethod`: the disjunction of equalities with net/http's method constants is the model's `validMethod`. -/
theorem tie_cond_validMethod (m : String) : condValidMethod m = validMethod m ∧ condHandleBadMethod (validMethod m) = !validMethod m := by
  refine ⟨?_, rfl⟩
  simp only [condValidMethod, validMethod, validMethods, List.contains_cons, List.contains_nil, Bool.or_false,
    Bool.or_assoc]

/-- the tokeniser: `route[i] != slash` (in `next` and in `add`) is the test `splitSlash` splits at. -/
theorem tie_cond_split (c : Char) (cs cur : List Char) :
    condNextNotSlash c = condAddNotSlash c ∧
    splitSlash (c :: cs) cur =
      if condNextNotSlash c then splitSlash cs (c :: cur) else String.ofList cur.reverse :: splitSlash cs [] := by
  unfold condNextNotSlash condAddNotSlash
  rw [slash_char]
  refine ⟨rfl, ?_⟩
  show (if c = '/' then _ else _) = _
  by_cases h : c = '/' <;> simp [h]

/-- `Tree.next`, first test: `len(route) == 0 && n.item != nil` — the model's `t = "" ∧ n.item.isSome` on the last token. -/
theorem tie_cond_nextHere (t : String) (n : Node) :
    condNextHere t n.item.isSome = decide (t = "" ∧ n.item.isSome) := by
  unfold condNextHere
  rw [show (t.length == 0) = decide (t = "") from length_beq_zero t]
  by_cases h : t = "" <;> simp [h]

/-- `Tree.next`, inner segment: the child is skipped iff `!r.found || !t.next(v, rest)` — the model's callback
succeeds iff the token matches AND the search of the rest below the child succeeds. -/
theorem tie_cond_nextSkip (k t : String) (rest : List String) (c : Node) :
    (if matchTok k t then (next rest c).map (hit k t) else none).isNone =
      condNextSkip (matchTok k t) (next rest c).isSome := by
  unfold condNextSkip
  cases matchTok k t <;> cases next rest c <;> rfl

/-- `Tree.next`, last segment: the child is taken iff `r.found && v.item != nil`. -/
theorem tie_cond_nextLast (k t : String) (c : Node) :
    (if matchTok k t then c.item.map (fun h => hit k t (h, [])) else none).isSome =
      condNextLast (matchTok k t) c.item.isSome := by
  unfold condNextLast
  cases matchTok k t <;> cases c.item <;> rfl

/-- `addParam` only under `r.named`: the model's `hit` adds the parameter iff the pattern is a variable. -/
theorem tie_cond_named (k t : String) (r : H × Params) :
    hit k t r = if condNextNamed (condMatchNamed k) then (r.1, r.2 ++ [(varName k, t)]) else r := by
  unfold condNextNamed; rw [(tie_cond_isVar k).2]; rfl

/-- `add`: `len(route) == 0` / `nd.item != nil` / `route[0] == slash` / `child.item != nil`, and `Tree.Add`'s `item == nil`:
the model's end-of-route, duplicate, double-slash (an empty next element = the rest starts with '/') and nil-item tests. -/
theorem tie_cond_add (s : String) (i : Option H) :
    condAddEnd s = decide (s.toList = []) ∧ condAddDupSlash s = (s.toList.head? == some '/') ∧
    condAddDupHere i.isSome = i.isSome ∧ condAddDupChild i.isSome = i.isSome ∧ condAddEmptyItem i.isSome = i.isNone := by
  unfold condAddEnd condAddDupSlash condAddDupHere condAddDupChild condAddEmptyItem
  rw [slash_char, ← String.length_toList]
  refine ⟨?_, rfl, rfl, rfl, by cases i <;> rfl⟩
  cases s.toList <;> simp

/-- `ServeHTTP` / `handleNotFound` / `methodsAllowed`: vars installed iff some were bound; 404 iff no other method
matches (`!ok`, `len(allows) > 0`); the custom handlers run iff set; the own method is skipped. -/
theorem tie_cond_serve (ps : Params) (allows : List String) (na : Option H) (nf : Option NFHandler) (a b : String) :
    condServeHasParams ps.length = !ps.isEmpty ∧ condAllowedAny allows.length = !allows.isEmpty ∧
    condServeNotFound (condAllowedAny allows.length) = allows.isEmpty ∧
    condServeCustomNA na.isSome = na.isSome ∧ condCustomNF nf.isSome = nf.isSome ∧
    condAllowedSkipOwn a b = (a == b) ∧ condEngineNFCustom na.isSome = na.isSome := by
  unfold condServeHasParams condAllowedAny condServeNotFound condServeCustomNA condCustomNF condAllowedSkipOwn
    condEngineNFCustom
  refine ⟨by cases ps <;> simp, by cases allows <;> simp, by cases allows <;> simp, rfl, rfl, rfl, rfl⟩

/-- the model's `serve` decides with exactly these conditions: 404 iff `methodsAllowed` is empty. -/
theorem tie_cond_serve_model (r : Router) (m p : String) (h : (r.trees.lookup m).bind (searchClean · p) = none) :
    (serve r m p = .notFound) = (condServeNotFound (condAllowedAny (methodsAllowed r m p).length) = true) := by
  unfold serve
  rw [h]
  rw [(tie_cond_serve [] (methodsAllowed r m p) none none "" "").2.2.1]
  cases methodsAllowed r m p <;> simp


/-- `MustNewServer` — model `mustNewServer = newServer`: the options are forwarded. -/
theorem tie_mustNewServerStmts : mustNewServerStmts = [
  "server, err := NewServer(c, opts...)",
  "if err != nil {",
  "logx.Must(err)",
  "}",
  "return server"] := by rfl

/-- `Server.Start` / `StartWithOpts` — model `Server.start`: `handleError` of `engine.start` on the server's router. -/
theorem tie_serverStartStmts : serverStartStmts = ["handleError(s.ngin.start(s.router))"] ∧
    serverStartWithOptsStmts = ["handleError(s.ngin.start(s.router, opts...))"] := ⟨rfl, rfl⟩

/-- `handleError` — model `handleErrorPanics` (`StartResult.panics`): nil and `http.ErrServerClosed` return, everything else panics. -/
theorem tie_handleErrorStmts : handleErrorStmts = [
  "if err == nil || errors.Is(err, http.ErrServerClosed) {",
  "return",
  "}",
  "logx.Error(err)",
  "panic(err)"] := by rfl

/-- `engine.start` — model `Server.start`: `bindRoutes` FIRST, its error returned before anything listens. -/
theorem tie_engineStartStmts : engineStartStmts.take 3 = [
  "if err := ng.bindRoutes(router); err != nil {",
  "return err",
  "}"] ∧ engineStartCalls.head? = some ("ng.bindRoutes", ["router"]) := ⟨rfl, rfl⟩

/-- `Server.Use` / `engine.use` — the driver's `St.uses`: appended, in call order. -/
theorem tie_useStmts : serverUseStmts = ["s.ngin.use(middleware)"] ∧
    engineUseStmts = ["ng.middlewares = append(ng.middlewares, middleware)"] := ⟨rfl, rfl⟩

/-- `WithRouter` — model `RunOpt.router`: the server's router is REPLACED. -/
theorem tie_withRouterStmts : withRouterStmts = [
  "return func(server *Server){...}",
  "func{",
  "server.router = router",
  "}"] := by rfl

/-- all argument lists with which `f` is called. -/
def argsOf (cs : List (String × List String)) (f : String) : List (List String) := (cs.filter (·.1 == f)).map (·.2)

/-- **forwarded arguments of the delegating entry points** (a dropped, reordered or replaced argument breaks these):
`AddRoute` → `AddRoutes([]Route{r}, opts...)`; `MustNewServer` → `NewServer(c, opts...)`; `Start` → `start(s.router)`;
`Use` → `use(middleware)` → `append(ng.middlewares, middleware)`. -/
theorem tie_calls_server :
    serverAddRouteCalls = [("s.AddRoutes", ["[]Route{r}", "opts..."])] ∧
    mustNewServerCalls.head? = some ("NewServer", ["c", "opts..."]) ∧
    serverStartCalls = [("handleError", ["s.ngin.start(s.router)"]), ("s.ngin.start", ["s.router"])] ∧
    serverStartWithOptsCalls = [("handleError", ["s.ngin.start(s.router, opts...)"]), ("s.ngin.start", ["s.router", "opts..."])] ∧
    serverUseCalls = [("s.ngin.use", ["middleware"])] ∧
    engineUseCalls = [("append", ["ng.middlewares", "middleware"])] := ⟨rfl, rfl, rfl, rfl, rfl, rfl⟩

/-- `bindRoutes` → `bindFeaturedRoutes(router, fr, metrics)` → `bindRoute(fr, router, metrics, route, verifier)` →
`router.Handle(route.Method, route.Path, handle)` with `handle = chn.ThenFunc(route.Handler)` — model `bindGroups` /
`bindAll` / `handle r m p item` per registration (method, path and handler of the SAME route). -/
theorem tie_calls_engine :
    engineBindRoutesCalls = [("ng.createMetrics", []), ("ng.bindFeaturedRoutes", ["router", "fr", "metrics"])] ∧
    engineBindFeaturedCalls = [("ng.signatureVerifier", ["fr.signature"]),
      ("ng.bindRoute", ["fr", "router", "metrics", "route", "verifier"])] ∧
    argsOf engineBindRouteCalls "router.Handle" = [["route.Method", "route.Path", "handle"]] ∧
    argsOf engineBindRouteCalls "chn.ThenFunc" = [["route.Handler"]] ∧
    argsOf engineBindRouteCalls "ng.appendAuthHandler" = [["fr", "chn", "verifier"]] ∧
    engineBindRouteCalls.getLast? = some ("router.Handle", ["route.Method", "route.Path", "handle"]) := by
  decide +kernel

/-- `Tree.Add` → `add(t.root, route[1:], item)`, `Tree.Search` → `next(t.root, route[1:], &result)` (model: `toksOf`
drops the first byte); `Handle` → `path.Clean(reqPath)`, `tree.Add(cleanPath, handler)` on both branches;
`ServeHTTP` → `path.Clean(r.URL.Path)`, `tree.Search(reqPath)`, `pathvar.WithVars(r, result.Params)`,
`methodsAllowed(r.Method, reqPath)` (the CLEANED path everywhere: seeded change C09-3); `methodsAllowed` →
`tree.Search(path)`. -/
theorem tie_calls_router :
    argsOf treeAddCalls "add" = [["t.root", "route[1:]", "item"]] ∧
    argsOf treeSearchCalls "t.next" = [["t.root", "route[1:]", "&result"]] ∧
    argsOf handleCalls "path.Clean" = [["reqPath"]] ∧
    argsOf handleCalls "tree.Add" = [["cleanPath", "handler"], ["cleanPath", "handler"]] ∧
    argsOf serveCalls "path.Clean" = [["r.URL.Path"]] ∧
    argsOf serveCalls "tree.Search" = [["reqPath"]] ∧
    argsOf serveCalls "pathvar.WithVars" = [["r", "result.Params"]] ∧
    argsOf serveCalls "pr.methodsAllowed" = [["r.Method", "reqPath"]] ∧
    argsOf methodsAllowedCalls "tree.Search" = [["path"]] := by decide +kernel

/-- `pathvar`: `WithVars` stores under the key `Vars` reads (model `pathVarsKey` on both sides). -/
theorem tie_calls_pathvar :
    argsOf pathvarVarsCalls "r.Context().Value" = [["pathVars"]] ∧
    argsOf pathvarWithVarsCalls "context.WithValue" = [["r.Context()", "pathVars", "params"]] ∧
    argsOf pathvarWithVarsCalls "r.WithContext" = [["context.WithValue(r.Context(), pathVars, params)"]] := by
  decide +kernel

/-- **`Tree.Add`, whole prelude**: which exit is taken, for all arguments, and what each exit returns. -/
theorem tie_body_treeAdd (route : String) (item : Bool) :
    treeAddBody route item = (if !rooted route then 0 else if !item then 1 else 2) ∧
    treeAddBodyReturns = ["errNotFromRoot", "errEmptyItem", "<continues>"] := by
  refine ⟨?_, rfl⟩
  rw [← (tie_cond_notFromRoot route).1]
  rfl

/-- … and the model's `treeAdd` takes the same exits with the same errors. -/
theorem tie_body_treeAdd_model (root : Node) (route : String) (item : Option H) :
    (treeAddBody route item.isSome = 0 → treeAdd root route item = .error .notFromRoot) ∧
    (treeAddBody route item.isSome = 1 → treeAdd root route item = .error .emptyItem) ∧
    (treeAddBody route item.isSome = 2 → ∃ h, item = some h ∧ treeAdd root route item = add (toksOf route) root h) := by
  rw [(tie_body_treeAdd route item.isSome).1]
  unfold treeAdd
  cases hr : rooted route <;> cases item <;> simp

/-- **`Tree.Search`, prelude.** -/
theorem tie_body_treeSearch (root : Node) (route : String) :
    treeSearchBody route = (if !rooted route then 0 else 1) ∧
    treeSearchBodyReturns = ["NotFound, false", "<continues>"] ∧
    (treeSearchBody route = 0 → treeSearch root route = none) ∧
    (treeSearchBody route = 1 → treeSearch root route = next (toksOf route) root) := by
  have e : treeSearchBody route = (if !rooted route then 0 else 1) := by
    rw [← (tie_cond_notFromRoot route).2.1]; rfl
  refine ⟨e, rfl, ?_, ?_⟩ <;> rw [e] <;> unfold treeSearch <;> cases rooted route <;> simp

/-- **`getChildren`, whole body**: `children[1]` exactly for a `:name` token, `children[0]` otherwise (model `updChild`). -/
theorem tie_body_getChildren (k : String) :
    getChildrenBody k = (if isVar k then 0 else 1) ∧ getChildrenBodyReturns = ["nd.children[1]", "nd.children[0]"] := by
  refine ⟨?_, rfl⟩
  rw [← (tie_cond_isVar k).1]
  rfl

/-- **`match`, whole body**: a `:name` pattern binds `pat[1:]` (model `varName`) to the token and is found; a literal is
found iff `pat == token` (model `matchTok`, `hit`). -/
theorem tie_body_match (k : String) :
    matchBody k = (if isVar k then 0 else 1) ∧
    matchBodyReturns = ["innerResult{ key: pat[1:], value: token, named: true, found: true, }",
                        "innerResult{ found: pat == token, }"] := by
  refine ⟨?_, rfl⟩
  rw [← (tie_cond_isVar k).2]
  rfl

/-- **`Handle`, prelude**: `ErrInvalidMethod` first, then `ErrInvalidPath`, then the tree — as the model's `handle`. -/
theorem tie_body_handle (r : Router) (m p : String) (item : Option H) :
    handleBody (validMethod m) p = (if !validMethod m then 0 else if !rooted p then 1 else 2) ∧
    handleBodyReturns = ["ErrInvalidMethod", "ErrInvalidPath", "<continues>"] ∧
    (handleBody (validMethod m) p = 0 → handle r m p item = .error .invalidMethod) ∧
    (handleBody (validMethod m) p = 1 → handle r m p item = .error .invalidPath) := by
  have e : handleBody (validMethod m) p = (if !validMethod m then 0 else if !rooted p then 1 else 2) := by
    rw [← (tie_cond_notFromRoot p).2.2]; rfl
  refine ⟨e, rfl, ?_, ?_⟩ <;> rw [e] <;> unfold handle <;> cases validMethod m <;> cases rooted p <;> simp

/-- **`pathvar.Vars`, whole body**: the stored map when the context holds one under the key, else nil (the shape of the model's `Ctx.vars`;
no model term occurs in the statement). -/
theorem tie_body_pathvarVars (ok : Bool) :
    pathvarVarsBody ok = (if ok then 0 else 1) ∧ pathvarVarsBodyReturns = ["vars", "nil"] := ⟨rfl, rfl⟩

/-- **`handleError`**: returns for nil / ErrServerClosed, panics otherwise (`tie_handleErrorStmts`). -/
theorem tie_body_handleError (err closed : Bool) :
    handleErrorBody err closed = (if (!err || closed) then 0 else 1) ∧ handleErrorBodyReturns = ["", "<continues>"] ∧
    (handleErrorBody err closed = 1 ↔ handleErrorPanics (!err) closed = true) := by
  refine ⟨rfl, rfl, ?_⟩
  unfold handleErrorBody handleErrorPanics
  cases err <;> cases closed <;> decide

/-- **`engine.bindRoute` / `appendAuthHandler`, decisions** (model `bindChain`, `tokenOk`): the native chain is built
only when no `WithChain` chain is set; an Authorize handler is appended iff the group's jwt is enabled; the previous
secret takes part iff it is non-empty (`tokenOk`: `b != ""`); `Authorize` gets the GROUP's `fr.jwt.secret` /
`fr.jwt.prevSecret`, and the chain goes on through `verifier(chn)`. -/
theorem tie_cond_bindRoute (chain : Option Nat) (jwt : Option (String × String)) (prev : String) (auth : Option String) (a : String) :
    condBindRouteNative chain.isSome = chain.isNone ∧
    ((bindChain chain jwt [] 0).any (fun l => match l with | .auth _ _ => true | _ => false) = condAuthEnabled jwt.isSome) ∧
    (condAuthNoPrev prev = true → tokenOk (some (a, prev)) auth = tokenOk (some (a, "")) auth) ∧
    (condAuthNoPrev prev = (prev == "")) ∧
    argsOf engineAppendAuthCalls "handler.Authorize" =
      [["fr.jwt.secret", "handler.WithUnauthorizedCallback(ng.unauthorizedCallback)"],
       ["fr.jwt.secret", "handler.WithPrevSecret(fr.jwt.prevSecret)", "handler.WithUnauthorizedCallback(ng.unauthorizedCallback)"]] ∧
    engineAppendAuthCalls.getLast? = some ("verifier", ["chn"]) := by
  have hlen := length_beq_zero prev
  refine ⟨by cases chain <;> rfl, ?_, ?_, hlen, by decide +kernel, rfl⟩
  · unfold bindChain condAuthEnabled
    cases jwt with
    | none => simp
    | some ab => simp
  · intro h
    unfold condAuthNoPrev at h
    rw [hlen] at h
    have : prev = "" := by simpa using h
    rw [this]

/-- **what the constructed values are fed from** (typed field lists): `WithPrefix` builds
`Route{Method: rt.Method, Path: path.Join(group, rt.Path), Handler: rt.Handler}` — the model's
`prefixReg g r = (r.1, joinGo g r.2.1, r.2.2)` (method and handler of the SAME route, group first in `Join`);
`AddRoutes` starts from `featuredRoutes{routes: rs}` (the caller's slice, not a copy: model `RoutesRef.caller`), runs every
option on `&r` and hands `r` to `engine.addRoutes`; `NewServer` pairs a new engine with a FRESH `router.NewRouter()`,
`NewRouter` a fresh `trees` map, `NewTree` a root `newNode(nil)`, `newNode` two fresh children maps (model `newNode`,
`({} : PatRouter)`: no state shared between instances — mutations M16, M23). -/
theorem tie_fields :
    withPrefixRouteFields = [("Method", "rt.Method"), ("Path", "p"), ("Handler", "rt.Handler")] ∧
    argsOf withPrefixCalls "path.Join" = [["group", "rt.Path"]] ∧
    addRoutesFeaturedFields = [("routes", "rs")] ∧
    serverAddRoutesCalls = [("opt", ["&r"]), ("s.ngin.addRoutes", ["r"])] ∧
    newServerFields = [("ngin", "newEngine(c)"), ("router", "router.NewRouter()")] ∧
    newRouterFields = [("trees", "make(map[string]*search.Tree)")] ∧
    newTreeFields = [("root", "newNode(nil)")] ∧
    newNodeFields = [("item", "item"),
      ("children", "[2]map[string]*node{ make(map[string]*node), make(map[string]*node), }")] :=
  ⟨rfl, by decide +kernel, rfl, rfl, rfl, rfl, rfl, rfl⟩

/-- … and the model's `prefixReg` has exactly this shape. -/
theorem tie_prefixReg (g : String) (r : Reg) :
    (prefixReg g r).1 = r.1 ∧ (prefixReg g r).2.1 = joinGo g r.2.1 ∧ (prefixReg g r).2.2 = r.2.2 := ⟨rfl, rfl, rfl⟩

/-- **`validateSecret`** (model `RouteOpt.panics`): `WithJwt` / `WithJwtTransition` validate the CURRENT secret only, the
option panics iff it is shorter than 8 bytes. -/
theorem tie_validateSecret (s prev : String) :
    condSecretTooShort s.utf8ByteSize = (RouteOpt.jwt s).panics ∧
    condSecretTooShort s.utf8ByteSize = (RouteOpt.jwtTransition s prev).panics ∧
    validateSecretStmts = ["if len(secret) < 8 {", "panic(\"secret's length can't be less than 8\")", "}"] ∧
    withJwtCalls = [("validateSecret", ["secret"])] ∧ withJwtTransitionCalls = [("validateSecret", ["secret"])] :=
  ⟨rfl, rfl, rfl, rfl, rfl⟩

/-- **`WithCors`** (model `RunOpt.cors`, `Server.serveHTTP`): the not-allowed handler is set on the router FIRST, then the
router is wrapped; the wrapper runs `cors.Middleware` around the embedded router's `ServeHTTP`; the middleware answers
itself exactly when the method is `OPTIONS` (the model's preflight test). -/
theorem tie_withCors (s : Server) (m p : String) :
    withCorsStmts = [
      "return func(server *Server){...}",
      "func{",
      "server.router.SetNotAllowedHandler(cors.NotAllowedHandler(nil, origin...))",
      "server.router = newCorsRouter(server.router, nil, origin...)",
      "}"] ∧
    newCorsRouterStmts = ["return &corsRouter{ Router: router, middleware: cors.Middleware(headerFn, origins...), }"] ∧
    corsRouterServeStmts = ["c.middleware(c.Router.ServeHTTP)(w, r)"] ∧
    (∀ ws, wrapServe s.router m p (.cors :: ws) = (if condCorsPreflight m then .preflight else wrapServe s.router m p ws)) ∧
    condCorsNAOptions m = condCorsPreflight m := ⟨rfl, rfl, rfl, fun _ => rfl, rfl⟩

/-! ### every structure `ServeHTTP` reads and `Handle` writes (class of seeded change C09-9) -/

abbrev Access := String × String × Nat × String

def Access.isWrite (a : Access) : Bool := a.2.1 == "write" || a.2.1 == "write-index"

/-- **`Handle` writes nothing before a validation or a failing `Add` can return, except a fresh EMPTY tree** (model
`handleM`: the validations return the router untouched; `r1` stores `(method, newNode none)`; everything else is
written by `tree.Add`, which detects a duplicate before writing: `addM_dup_unchanged`).  Its accesses to the router:
one lookup `pr.trees[method]` after the two validation returns, one store `pr.trees[method] = tree` of the tree
created by `search.NewTree()` on the line before — never the handler, no other field. -/
theorem tie_access_handle :
    handleAccess = [("trees", "read-index", 2, "pr.trees[method]"), ("trees", "write-index", 3, "tree")] ∧
    (handleAccess.filter Access.isWrite).all (fun a => a.1 == "trees" && decide (a.2.2.1 ≥ 2) && a.2.2.2 == "tree") = true ∧
    (handleStmts.zip (handleStmts.drop 1)).contains ("tree = search.NewTree()", "pr.trees[method] = tree") = true ∧
    (∀ (r : Router) (m p : String) (item : Option H),
      (!validMethod m || !rooted p) = true → (handleM r m p item).1 = r) := by
  refine ⟨rfl, by decide +kernel, by decide +kernel, ?_⟩
  intro r m p item h
  unfold handleM
  cases hv : validMethod m
  · simp
  · cases hr : rooted p
    · simp
    · simp [hv, hr] at h

/-- **`ServeHTTP` consults only the trees** to pick the handler (everything before its first `return`), and the whole
request path (`ServeHTTP`, `methodsAllowed`, `handleNotFound`) reads — never writes — exactly the three fields the
struct has: `trees`, `notAllowed`, `notFound` (model `PatRouter`: `core`, `notAllowed`, `notFound`; `serve` reads only
`r.trees`).  The setters write one field each; `Tree.Add` / `Tree.Search` touch only `t.root`. -/
theorem tie_access_serve :
    ((serveAccess.filter fun a => a.2.2.1 == 0).map (·.1)) = ["trees"] ∧
    ((serveAccess ++ methodsAllowedAccess ++ handleNotFoundAccess).any Access.isWrite) = false ∧
    ((serveAccess ++ methodsAllowedAccess ++ handleNotFoundAccess).filter (fun a => a.2.1 != "call")).all
      (fun a => ["trees", "notAllowed", "notFound"].contains a.1) = true ∧
    ((serveAccess.filter fun a => a.2.1 == "call").map (·.1)) = ["methodsAllowed", "handleNotFound"] ∧
    patRouterFields = ["trees map[string]*search.Tree", "notFound http.Handler", "notAllowed http.Handler"] ∧
    setNotFoundAccess = [("notFound", "write", 0, "handler")] ∧
    setNotAllowedAccess = [("notAllowed", "write", 0, "handler")] ∧
    treeAddAccess = [("root", "read", 2, "t.root")] ∧
    treeSearchAccess = [("next", "call", 1, "t.next(t.root, route[1:], &result)"), ("root", "read", 1, "t.root")] := by
  refine ⟨by decide +kernel, by decide +kernel, by decide +kernel, by decide +kernel, rfl, rfl, rfl, rfl, rfl⟩

/-- **the other router wrappers** (model `RunOpt.corsHeaders` / `.customCors` / `.fileServer`, `Wrapper`, `wrapServe`,
`canServe`): `WithCorsHeaders` and `WithCustomCors` are wired exactly like `WithCors` (not-allowed handler first, then
the same `newCorsRouter`); `WithFileServer` wraps the router in a `fileServingRouter` whose middleware serves the file
iff `createServeChecker` says so — `GET`, RAW path below `dir/`, the file exists — and otherwise calls `next`
unchanged; `ensureTrailingSlash` appends the slash only when it is missing. -/
theorem tie_wrappers (d : String) (ns : List String) (m p : String) (pr : PatRouter) (ws : List Wrapper) :
    withCorsHeadersStmts.take 5 = [
      "const allDomains = \"*\"",
      "return func(server *Server){...}",
      "func{",
      "server.router.SetNotAllowedHandler(cors.NotAllowedHandler(nil, allDomains))",
      "server.router = newCorsRouter(server.router, func(header http.Header){...}, allDomains)"] ∧
    withCustomCorsStmts = [
      "return func(server *Server){...}",
      "func{",
      "server.router.SetNotAllowedHandler(cors.NotAllowedHandler(notAllowedFn, origin...))",
      "server.router = newCorsRouter(server.router, middlewareFn, origin...)",
      "}"] ∧
    withFileServerStmts = [
      "return func(server *Server){...}",
      "func{",
      "server.router = newFileServingRouter(server.router, path, fs)",
      "}"] ∧
    newFileServingRouterStmts = ["return &fileServingRouter{ Router: router, middleware: fileserver.Middleware(path, fs), }"] ∧
    fileServingRouterServeStmts = ["f.middleware(f.Router.ServeHTTP)(w, r)"] ∧
    fileMiddlewareStmts.drop 7 = [
      "if canServe(r) {",
      "r.URL.Path = r.URL.Path[len(pathWithoutTrailSlash):]",
      "fileServer.ServeHTTP(w, r)",
      "}",
      "else{",
      "next(w, r)",
      "}",
      "}",
      "}"] ∧
    serveCheckerStmts.take 2 = ["pathWithTrailSlash := ensureTrailingSlash(path)", "fileChecker := createFileChecker(fs)"] ∧
    canServe d ns m p =
      (if condServeChecker m (hasPrefix p (ensureTrailingSlash d)) (ns.contains (fileName (fileRem d p)))
       then some (fileName (fileRem d p)) else none) ∧
    wrapServe pr m p (.files d ns :: ws) =
      (match canServe d ns m p with | some f => .file f | none => wrapServe pr m p ws) ∧
    ensureTrailingSlash d = (if ensureTrailingSlashBody (d.toList.getLast? == some '/') = 0 then d else d ++ "/") ∧
    ensureTrailingSlashBodyReturns = ["path", "path + \"/\""] := by
  refine ⟨rfl, rfl, rfl, rfl, rfl, rfl, rfl, rfl, rfl, ?_, rfl⟩
  unfold ensureTrailingSlash ensureTrailingSlashBody
  cases (d.toList.getLast? == some '/') <;> rfl

/-- **`HeaderOnceResponseWriter.WriteHeader`** (model `headerOnceWrite`, `engineNotFoundStatus`): nothing is written once
a status was written; otherwise the code goes to the underlying writer and the flag is set. -/
theorem tie_headerOnce (wrote : Bool) (code : Nat) :
    headerOnceWriteHeaderStmts = ["if w.wroteHeader {", "return", "}", "w.w.WriteHeader(code)", "w.wroteHeader = true"] ∧
    headerOnceWrite wrote code = (if condHeaderOnceWrote wrote then (true, none) else (true, some code)) ∧
    engineNotFoundStmts.drop (engineNotFoundStmts.length - 4) =
      ["cw := response.NewHeaderOnceResponseWriter(w)", "h.ServeHTTP(cw, r)", "cw.WriteHeader(http.StatusNotFound)", "}"] :=
  ⟨rfl, rfl, rfl⟩

/-- the fields an assignment list writes (left sides that are selectors of the option's argument). -/
def fieldsWritten (a : List (String × String)) : List String := (a.map (·.1)).filter fun l => l.toList.contains '.'

/-- **what every option writes** — typed assignment lists against the model's `Settings.apply` / `Featured.apply` /
`Server.apply`: each route option writes ONLY its own fields (never `r.routes`, except `WithPrefix`, which writes
nothing else and stores a NEW slice); `WithJwt` leaves `prevSecret` alone; `WithSSE` also resets the timeout;
`WithRouter` / `WithFileServer` / `WithCors` replace `server.router`, `WithChain` the engine's chain;
`engine.addRoutes` appends the group, `engine.use` appends the middleware. -/
theorem tie_assigns (st : Settings) (a b : String) (n : Nat) :
    withJwtAssigns = [("r.jwt.enabled", "true"), ("r.jwt.secret", "secret")] ∧
    (st.apply (.jwt a)).jwt = some (a, (st.jwt.map (·.2)).getD "") ∧
    withJwtTransitionAssigns = [("r.jwt.enabled", "true"), ("r.jwt.secret", "secret"), ("r.jwt.prevSecret", "prevSecret")] ∧
    (st.apply (.jwtTransition a b)).jwt = some (a, b) ∧
    withTimeoutAssigns = [("r.timeout", "timeout")] ∧ (st.apply (.timeout n)) = { st with timeout := n } ∧
    withMaxBytesAssigns = [("r.maxBytes", "maxBytes")] ∧ (st.apply (.maxBytes n)) = { st with maxBytes := n } ∧
    withPriorityAssigns = [("r.priority", "true")] ∧ (st.apply .priority) = { st with priority := true } ∧
    withSSEAssigns = [("r.sse", "true"), ("r.timeout", "0")] ∧ (st.apply .sse) = { st with sse := true, timeout := 0 } ∧
    fieldsWritten withPrefixAssigns = ["r.routes"] ∧ (st.apply (.pfx a)) = st ∧
    ((withJwtAssigns ++ withJwtTransitionAssigns ++ withTimeoutAssigns ++ withMaxBytesAssigns ++ withPriorityAssigns ++
      withSSEAssigns).all fun x => x.1 != "r.routes") = true ∧
    withRouterAssigns = [("server.router", "router")] ∧
    withChainAssigns = [("svr.ngin.chain", "chn")] ∧
    withFileServerAssigns = [("server.router", "newFileServingRouter(server.router, path, fs)")] ∧
    withCorsAssigns = [("server.router", "newCorsRouter(server.router, nil, origin...)")] ∧
    serverAddRoutesAssigns = [("r", "featuredRoutes{ routes: rs, }")] ∧
    engineAddRoutesAssigns = [("r.routes", "buildSSERoutes(r.routes)"), ("ng.routes", "append(ng.routes, r)"),
      ("ng.timeout", "r.timeout")] ∧
    engineUseAssigns = [("ng.middlewares", "append(ng.middlewares, middleware)")] := by
  refine ⟨rfl, rfl, rfl, rfl, rfl, rfl, rfl, rfl, rfl, rfl, rfl, rfl, by decide +kernel, rfl, by decide +kernel, rfl, rfl, rfl, rfl, rfl, rfl, rfl⟩

/-! ### which methods the 405 decision looks at (class of seeded change C09-10) -/

/-- **`methodsAllowed` looks at EVERY tree the router holds** — the loop ranges over `pr.trees` itself (key = the method,
value = its tree), not over a list of method names that could fall out of step with `validMethod`; the model's
`methodsAllowed` filters `r.trees`: a method is listed iff it has a tree, is not the request's method, and its tree
matches — for all routers, methods and paths.  No package-level table exists in the three files (only the error values,
`search.NotFound` and the pathvar key), and the other loops on the property's path range over the structure the model
folds over (`engine.routes`, the group's routes, both children maps). -/
theorem tie_allowed_methods (r : Router) (m p x : String) :
    methodsAllowedRanges = [("treeMethod", "tree", "pr.trees")] ∧
    methodsAllowedAccess = [("trees", "range", 0, "pr.trees")] ∧
    (x ∈ methodsAllowed r m p ↔ ∃ root, (x, root) ∈ r.trees ∧ x ≠ m ∧ (searchClean root p).isSome = true) ∧
    patrouterPackageVars = ["ErrInvalidMethod = errors.New(\"not a valid http method\")",
      "ErrInvalidPath = errors.New(\"path must begin with '/'\")"] ∧
    treePackageVars = ["errDupItem = errors.New(\"duplicated item\")", "errDupSlash = errors.New(\"duplicated slash\")",
      "errEmptyItem = errors.New(\"empty item\")", "errInvalidState = errors.New(\"search tree is in an invalid state\")",
      "errNotFromRoot = errors.New(\"path should start with /\")", "NotFound = zero Result"] ∧
    pathvarPackageVars = ["pathVars = contextKey(\"pathVars\")"] ∧
    forEachRanges = [("_", "children", "nd.children"), ("k", "v", "children")] ∧
    engineBindRoutesRanges = [("_", "fr", "ng.routes")] ∧ engineBindFeaturedRanges = [("_", "route", "fr.routes")] ∧
    serverRoutesRanges = [("_", "r", "s.ngin.routes")] ∧ withPrefixRanges = [("_", "rt", "r.routes")] := by
  refine ⟨rfl, rfl, ?_, rfl, rfl, rfl, rfl, rfl, rfl, rfl, rfl⟩
  unfold methodsAllowed
  simp only [List.mem_map, List.mem_filter, Bool.and_eq_true, bne_iff_ne, ne_eq]
  constructor
  · rintro ⟨⟨k, root⟩, ⟨hm, hne, hs⟩, rfl⟩; exact ⟨root, hm, hne, hs⟩
  · rintro ⟨root, hm, hne, hs⟩; exact ⟨(x, root), ⟨hm, hne, hs⟩, rfl⟩

end GoZero.C09.Tie
