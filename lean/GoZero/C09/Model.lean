/-
C09 — executable model of the code that exists:

* `core/search/tree.go`   : `node{item, children[0] literal, children[1] variable}`, `add`, `Tree.next`
                            (depth-first, literal children first, params added on the way back),
                            `Tree.Add` / `Tree.Search` (leading-slash checks).
* `rest/router/patrouter.go` : `Handle` (method / leading-slash validation, `path.Clean`, one tree per method),
                            `ServeHTTP` (Clean, own tree, else `methodsAllowed` ⇒ 405 + Allow, else 404).
* `path.Clean` for rooted paths (drop "" and ".", ".." pops; never above the root).
* `patRouter.notFound` / `notAllowed` (`SetNotFoundHandler`, `SetNotAllowedHandler`): `PatRouter`, `Response`.
* `rest/server.go`, `rest/engine.go` on the path of the property: `NewServer` (options in order, after the
  built-in `WithNotFoundHandler(nil)`), `WithNotFoundHandler` (engine wrapper), `WithNotAllowedHandler`,
  `AddRoutes` + `WithPrefix` (`path.Join`), `engine.bindRoutes` (`router.Handle` in order, first error aborts);
  the public API with the aliasing the code has (`Api`: the caller's slices and `engine.routes` as references into them),
  the other run options and the router wrappers (`RunOpt`, `Server.apply`, `Wrapper`, `wrapServe`), `Server.Start` over
  the nested loops of `engine.bindRoutes` (`bindGroups`, `Server.start`), the chain `engine.bindRoute` puts in front of
  a route handler (`bindChain`, `runChain`).
* `rest/pathvar` (`Ctx`, `handlerCtx`, `delivered`); `HeaderOnceResponseWriter` and `engine.notFoundHandler`
  (`headerOnceWrite`, `engineNotFoundStatus`).
* registration with the in-place mutation visible: what the Go structures hold after a call, also a failing one
  (`addM`, `handleM`, `treeAddM`, `bindAllM`, `bindGroupsM`).

A Go route string `r` (what follows the leading '/') is modelled by its token list, `r` split at every '/'
(`splitSlash`, `toksOf`; never empty; `""` ↦ `[""]`).  Go's `for i := range route { if route[i] == slash … }` finds the first slash,
i.e. splits the head token off; "no slash" is the one-token case.  A Go `map[string]*node` is modelled by
an association list in insertion order; Go iterates maps in an arbitrary order, which is why every theorem
about `next` is stated for *all* well-formed trees with the same contents (any order of the lists).

Core Lean only (linked into gzdriver).
-/
namespace GoZero.C09

/-- handler identity (the harness registers handler number `h`). -/
abbrev H := Nat

/-- `search.node`: `item` (nil = none), `children[0]` (literal keys), `children[1]` (keys starting with ':'). -/
inductive Node where
  | mk (item : Option H) (lits : List (String × Node)) (vars : List (String × Node))

namespace Node
def item : Node → Option H | mk i _ _ => i
def lits : Node → List (String × Node) | mk _ l _ => l
def vars : Node → List (String × Node) | mk _ _ v => v
def setItem : Node → H → Node | mk _ l v, h => mk (some h) l v
def setLits : Node → List (String × Node) → Node | mk i _ v, l => mk i l v
def setVars : Node → List (String × Node) → Node | mk i l _, v => mk i l v
@[simp] theorem item_mk (i l v) : (mk i l v).item = i := rfl
@[simp] theorem lits_mk (i l v) : (mk i l v).lits = l := rfl
@[simp] theorem vars_mk (i l v) : (mk i l v).vars = v := rfl
end Node

/-- `newNode(item)` -/
def newNode (item : Option H) : Node := .mk item [] []

/-- Go: `len(route) > 0 && route[0] == colon` (`getChildren`), `pat[0] == colon` (`match`). -/
def isVar (k : String) : Bool := k.toList.head? == some ':'

/-- Go: `pat[1:]` — the parameter name of a variable token. -/
def varName (k : String) : String := String.ofList (k.toList.drop 1)

/-- Go `match(pat, token).found`: a variable pattern matches any token, a literal one only itself. -/
def matchTok (k t : String) : Bool := isVar k || k == t

/-- parameters in the order of the `addParam` calls (innermost segment first). -/
abbrev Params := List (String × String)

/-- the `if r.named { addParam(result, r.key, r.value) }` after a successful descent. -/
def hit (k t : String) (r : H × Params) : H × Params :=
  if isVar k then (r.1, r.2 ++ [(varName k, t)]) else r

/-- `node.forEach`: literal children, then variable children; first callback that succeeds wins. -/
def forEach (n : Node) (p : String → Node → Option (H × Params)) : Option (H × Params) :=
  match n.lits.findSome? (fun kc => p kc.1 kc.2) with
  | some r => some r
  | none => n.vars.findSome? (fun kc => p kc.1 kc.2)

/-- `Tree.next(n, route, result)` on the token list of `route`. -/
def next : List String → Node → Option (H × Params)
  | [], _ => none
  | t :: rest, n =>
    match rest with
    | [] =>
      -- no slash left.  `len(route) == 0 && n.item != nil` first, then the final forEach.
      if t = "" ∧ n.item.isSome then n.item.map (fun h => (h, []))
      else forEach n fun k c =>
        if matchTok k t then c.item.map (fun h => hit k t (h, [])) else none
    | _ :: _ =>
      forEach n fun k c =>
        if matchTok k t then (next rest c).map (hit k t) else none

inductive AddErr where
  | dupItem | dupSlash | emptyItem | notFromRoot
  deriving DecidableEq, Repr

/-- get-or-create on one children map: apply `f` to the child under key `k` (or to `none`). -/
def updKid (k : String) (f : Option Node → Except AddErr Node) :
    List (String × Node) → Except AddErr (List (String × Node))
  | [] => (f none).map fun c => [(k, c)]
  | (k', c) :: tl =>
    if k' = k then (f (some c)).map fun c' => (k', c') :: tl
    else (updKid k f tl).map fun tl' => (k', c) :: tl'

/-- `nd.getChildren(token)` + update of the selected map. -/
def updChild (n : Node) (k : String) (f : Option Node → Except AddErr Node) : Except AddErr Node :=
  if isVar k then (updKid k f n.vars).map n.setVars else (updKid k f n.lits).map n.setLits

/-- `add(nd, route, item)` on the token list of `route`. -/
def add : List String → Node → H → Except AddErr Node
  | [], n, _ => .ok n
  | t :: rest, n, h =>
    match rest with
    | [] =>
      if t = "" then (if n.item.isSome then .error .dupItem else .ok (n.setItem h))
      else updChild n t fun
        | some c => if c.item.isSome then .error .dupItem else .ok (c.setItem h)
        | none => .ok (newNode (some h))
    | _ :: _ =>
      if t = "" then .error .dupSlash
      else updChild n t fun oc => add rest (oc.getD (newNode none)) h

/-- split at every '/' (`cur` = reversed characters of the token being read). Never returns `[]`. -/
def splitSlash : List Char → List Char → List String
  | [], cur => [String.ofList cur.reverse]
  | c :: cs, cur => if c = '/' then String.ofList cur.reverse :: splitSlash cs [] else splitSlash cs (c :: cur)

/-- tokens of a Go string that starts with '/': everything after the first byte, split at '/'. -/
def toksOf (route : String) : List String := splitSlash (route.toList.drop 1) []

def rooted (route : String) : Bool := route.toList.head? == some '/'

/-- `Tree.Add(route, item)`; `item = none` models a nil item. -/
def treeAdd (root : Node) (route : String) (item : Option H) : Except AddErr Node :=
  if !rooted route then .error .notFromRoot else
  match item with
  | none => .error .emptyItem
  | some h => add (toksOf route) root h

/-- `Tree.Search(route)` -/
def treeSearch (root : Node) (route : String) : Option (H × Params) :=
  if !rooted route then none else next (toksOf route) root

/-! ### path.Clean on rooted paths -/

/-- one pass over the '/'-separated elements: "" and "." are dropped, ".." removes the last kept element
(nothing above the root).  `acc` is the reversed list of kept elements. -/
def cleanGo : List String → List String → List String
  | [], acc => acc.reverse
  | s :: rest, acc =>
    if s = "" ∨ s = "." then cleanGo rest acc
    else if s = ".." then cleanGo rest acc.tail
    else cleanGo rest (s :: acc)

/-- the cleaned token list of a rooted path (`[""]` for the root). -/
def cleanToks (path : String) : List String :=
  match cleanGo (toksOf path) [] with
  | [] => [""]
  | l => l

/-- `path.Clean` of a rooted path, as a string. -/
def cleanPath (path : String) : String := "/" ++ "/".intercalate (cleanGo (toksOf path) [])

/-! ### patRouter -/

/-- `patRouter.trees` in insertion order. -/
structure Router where
  trees : List (String × Node) := []

inductive HandleErr where
  | invalidMethod | invalidPath | tree (e : AddErr)
  deriving DecidableEq, Repr

/-- the methods `validMethod` accepts -/
def validMethods : List String := ["DELETE", "GET", "HEAD", "OPTIONS", "PATCH", "POST", "PUT"]
def validMethod (m : String) : Bool := validMethods.contains m

def setTree (m : String) (t : Node) : List (String × Node) → List (String × Node)
  | [] => [(m, t)]
  | (m', t') :: tl => if m' = m then (m', t) :: tl else (m', t') :: setTree m t tl

/-- `patRouter.Handle(method, reqPath, handler)`: the tree of `method` after a successful registration.
(The Go code creates the method's empty tree even when `Add` then fails; an empty tree is
indistinguishable from no tree for `ServeHTTP`, see `Props.empty_tree_never_matches`.)
`tree.Add(cleanPath, handler)` is entered with the cleaned string, which is rooted, so its leading-slash prelude
(`treeAdd`) is skipped here: `add` runs on `cleanToks path`, which is `toksOf (cleanPath path)` (`clean_characterised`). -/
def handle (r : Router) (method path : String) (item : Option H) : Except HandleErr Router :=
  if !validMethod method then .error .invalidMethod
  else if !rooted path then .error .invalidPath
  else
    let root := (r.trees.lookup method).getD (newNode none)
    match item with
    | none => .error (.tree .emptyItem)
    | some h =>
      match add (cleanToks path) root h with
      | .error e => .error (.tree e)
      | .ok root' => .ok { trees := setTree method root' r.trees }

inductive Outcome where
  | handler (h : H) (params : Params)
  | notAllowed (allow : List String)     -- in `range pr.trees` order (arbitrary in Go)
  | notFound
  deriving Repr, DecidableEq

/-- search of one method tree with the (cleaned) request path. A non-rooted path matches nothing.
`tree.Search(reqPath)` is entered with the cleaned string: for a rooted `path` this is `treeSearch root (cleanPath path)`,
since `cleanPath path` is rooted and `toksOf (cleanPath path) = cleanToks path` (`clean_characterised`). -/
def searchClean (root : Node) (path : String) : Option (H × Params) :=
  if !rooted path then none else next (cleanToks path) root

/-- `methodsAllowed` -/
def methodsAllowed (r : Router) (method path : String) : List String :=
  (r.trees.filter fun mt => mt.1 != method && (searchClean mt.2 path).isSome).map (·.1)

/-- `patRouter.ServeHTTP` with default notFound / notAllowed handlers. -/
def serve (r : Router) (method path : String) : Outcome :=
  match (r.trees.lookup method).bind (searchClean · path) with
  | some (h, ps) => .handler h ps
  | none =>
    match methodsAllowed r method path with
    | [] => .notFound
    | allows => .notAllowed allows

/-- what `pathvar.Vars` shows: the map built by the `addParam` calls (a later call overwrites). -/
def paramMap (ps : Params) : List (String × String) :=
  ps.foldl (fun m kv => (m.filter (·.1 != kv.1)) ++ [kv]) []

/-! ### patRouter with custom notFound / notAllowed handlers (`SetNotFoundHandler`, `SetNotAllowedHandler`) -/

/-- what sits in `patRouter.notFound`: a handler set directly (`SetNotFoundHandler(h)`), or the wrapper
`engine.notFoundHandler(next)` that `rest.NewServer` / `rest.WithNotFoundHandler` install (`next = none`
is `WithNotFoundHandler(nil)`: `http.NotFoundHandler()` inside the wrapper). -/
inductive NFHandler where
  | plain (h : H)
  | engine (next : Option H)
  deriving Repr, DecidableEq

/-- the user handler that runs inside a not-found handler (none: only the built-in 404). -/
def NFHandler.user : NFHandler → Option H
  | .plain h => some h
  | .engine next => next

/-- `patRouter{trees, notFound, notAllowed}` -/
structure PatRouter where
  core : Router := {}
  notFound : Option NFHandler := none
  notAllowed : Option H := none

/-- who answers a request. -/
inductive Response where
  | route (h : H) (params : Params)          -- `result.Item.(http.Handler).ServeHTTP`, vars through `pathvar.WithVars`
  | customNotAllowed (h : H)                 -- `pr.notAllowed.ServeHTTP`; the router sets NO Allow header then
  | defaultNotAllowed (allow : List String)  -- Allow header + 405
  | customNotFound (h : NFHandler)           -- `pr.notFound.ServeHTTP`
  | defaultNotFound                          -- `http.NotFound`
  deriving Repr, DecidableEq

/-- `patRouter.ServeHTTP` + `handleNotFound`: the decision is `serve`'s; only *who writes the reply* for
405 / 404 depends on the custom handlers. -/
def PatRouter.serveHTTP (pr : PatRouter) (method path : String) : Response :=
  match serve pr.core method path with
  | .handler h ps => .route h ps
  | .notAllowed a =>
    match pr.notAllowed with
    | some h => .customNotAllowed h
    | none => .defaultNotAllowed a
  | .notFound =>
    match pr.notFound with
    | some h => .customNotFound h
    | none => .defaultNotFound

/-- `Handle` on the patRouter (handlers untouched). -/
def PatRouter.handle (pr : PatRouter) (method path : String) (item : Option H) : Except HandleErr PatRouter :=
  (GoZero.C09.handle pr.core method path item).map fun c => { pr with core := c }

/-! ### rest.Server / engine wiring: NewServer options, AddRoutes + WithPrefix, engine.bindRoutes -/

/-- `path.Join(group, p)` *before* its final `path.Clean`: the non-empty elements joined by '/'
(`Join` returns "" when both are empty, else `Clean` of this string; `Handle` cleans again). -/
def joinRaw (group p : String) : String := if group = "" then p else group ++ "/" ++ p

/-- a registration attempt: method, path as written, handler (`none` = nil). -/
abbrev Reg := String × String × Option H

/-- `path.Join(group, p)`: "" when both are empty, else `path.Clean` of the non-empty elements joined by '/'.
A rooted result is cleaned (the model's `cleanPath`); a result that is not rooted is kept uncleaned — the model
has no `Clean` for relative paths: such a path is rejected by `Handle` whatever it looks like, and below an
outer rooted group cleaning it first or later gives the same path (`..` elements that underflow are kept by
Go's Clean of a relative path). -/
def joinGo (group p : String) : String :=
  if rooted (joinRaw group p) then cleanPath (joinRaw group p) else joinRaw group p

/-- the `RouteOption`s of rest/server.go. -/
inductive RouteOpt where
  | pfx (g : String)                       -- WithPrefix(g)
  | jwt (secret : String)                  -- WithJwt(secret): enabled + secret; an earlier `prevSecret` STAYS
  | jwtTransition (secret prev : String)   -- WithJwtTransition(secret, prev)
  | timeout (ms : Nat)                     -- WithTimeout
  | maxBytes (n : Nat)                     -- WithMaxBytes
  | priority                               -- WithPriority
  | sse                                    -- WithSSE (also resets the timeout)
  deriving Repr, DecidableEq

/-- the fields of `featuredRoutes` other than `routes`. -/
structure Settings where
  jwt : Option (String × String) := none   -- `jwt.enabled`, (`secret`, `prevSecret`)
  timeout : Nat := 0
  maxBytes : Nat := 0
  priority : Bool := false
  sse : Bool := false
  deriving Repr, DecidableEq

def Settings.apply (s : Settings) : RouteOpt → Settings
  | .pfx _ => s
  | .jwt a => { s with jwt := some (a, (s.jwt.map (·.2)).getD "") }
  | .jwtTransition a b => { s with jwt := some (a, b) }
  | .timeout ms => { s with timeout := ms }
  | .maxBytes n => { s with maxBytes := n }
  | .priority => { s with priority := true }
  | .sse => { s with sse := true, timeout := 0 }

/-- `validateSecret`: `WithJwt(secret)` / `WithJwtTransition(secret, prev)` panic when `len(secret) < 8` (bytes; the
previous secret is not validated).  The panic leaves `AddRoutes` before `engine.addRoutes`: nothing is registered. -/
def RouteOpt.panics : RouteOpt → Bool
  | .jwt s => s.utf8ByteSize < 8
  | .jwtTransition s _ => s.utf8ByteSize < 8
  | _ => false

/-- what `WithPrefix(g)` makes of one route: `Route{Method: rt.Method, Path: path.Join(g, rt.Path), Handler: rt.Handler}`. -/
def prefixReg (g : String) (r : Reg) : Reg := (r.1, joinGo g r.2.1, r.2.2)

/-- `featuredRoutes` as a value. -/
structure Featured where
  routes : List Reg := []
  set : Settings := {}
  deriving Repr

/-- a `RouteOption` applied to a `featuredRoutes` VALUE: `WithPrefix` builds a new route list, every other
option only writes its own setting. -/
def Featured.apply (f : Featured) (o : RouteOpt) : Featured :=
  { routes := match o with
      | .pfx g => f.routes.map (prefixReg g)
      | _ => f.routes,
    set := f.set.apply o }

/-- one `AddRoutes(routes, opts...)` call, as the caller wrote it. -/
structure Group where
  opts : List RouteOpt := []
  routes : List Reg := []
  deriving Repr

/-- `r := featuredRoutes{routes: rs}; for _, opt := range opts { opt(&r) }` -/
def Group.featured (g : Group) : Featured := g.opts.foldl Featured.apply { routes := g.routes }

/-- the routes of a group as stored in `engine.routes` (after the options). -/
def Group.regs (g : Group) : List Reg := g.featured.routes

/-! #### the same with the aliasing the Go code has

`featuredRoutes{routes: rs}` does not copy: until a `WithPrefix` replaces `r.routes` by a freshly made slice the
group stored in `engine.routes` points at the CALLER's backing array, and one caller slice may be passed to
`AddRoutes` any number of times.  `Api` keeps the caller's slices in a heap and lets groups refer to them. -/

/-- where `featuredRoutes.routes` points. -/
inductive RoutesRef where
  | caller (k : Nat)        -- the caller's slice number `k` (as passed to `AddRoutes`)
  | own (l : List Reg)      -- a slice made by the server (`WithPrefix`: make + append; `AddRoute`: `[]Route{r}`)
  deriving Repr

structure Api where
  heap : List (List Reg) := []                  -- the caller's `[]Route` values, in the order they were made
  frs : List (RoutesRef × Settings) := []       -- `engine.routes`
  deriving Repr

def deref (heap : List (List Reg)) : RoutesRef → List Reg
  | .caller k => heap.getD k []
  | .own l => l

/-- a `RouteOption` run on `&r` (reads the routes through the reference; `WithPrefix` stores a fresh slice). -/
def aApply (heap : List (List Reg)) (f : RoutesRef × Settings) (o : RouteOpt) : RoutesRef × Settings :=
  (match o with
    | .pfx g => .own ((deref heap f.1).map (prefixReg g))
    | _ => f.1,
   f.2.apply o)

inductive ApiOp where
  | slice (rs : List Reg)                        -- the caller makes a `[]Route`
  | add (k : Nat) (opts : List RouteOpt)         -- `Server.AddRoutes(slice k, opts...)`
  | addOne (r : Reg) (opts : List RouteOpt)      -- `Server.AddRoute(r, opts...)` = `AddRoutes([]Route{r}, opts...)`
  deriving Repr

/-- (`engine.addRoutes` with `sse` runs `buildSSERoutes`, which overwrites the `Handler` fields of the slice it
is given IN PLACE — the caller's slice when no `WithPrefix` came before; method and path are not touched and the
wrapper runs the same handler, so with handlers as identities nothing changes here.) -/
def Api.step (a : Api) : ApiOp → Api
  | .slice rs => { a with heap := a.heap ++ [rs] }
  | .add k opts =>
    let r0 : RoutesRef := if k < a.heap.length then .caller k else .own []
    { a with frs := a.frs ++ [opts.foldl (aApply a.heap) (r0, {})] }
  | .addOne r opts => { a with frs := a.frs ++ [opts.foldl (aApply a.heap) (.own [r], {})] }

/-- the call panics inside one of its options (`validateSecret`) — before `engine.addRoutes`. -/
def ApiOp.panics : ApiOp → Bool
  | .slice _ => false
  | .add _ opts => opts.any RouteOpt.panics
  | .addOne _ opts => opts.any RouteOpt.panics

/-- one API call, panics included: a panicking call leaves the server as it was. -/
def Api.stepChecked (a : Api) (op : ApiOp) : Api := if op.panics then a else a.step op

/-- the group a reference denotes now. -/
def resolve (heap : List (List Reg)) (f : RoutesRef × Settings) : Featured := { routes := deref heap f.1, set := f.2 }

/-- what `engine.bindRoutes` will read: every group's routes through its reference, at that time. -/
def Api.regs (a : Api) : List Reg := a.frs.flatMap fun f => deref a.heap f.1

inductive RunOpt where
  | notFound (h : Option H)      -- rest.WithNotFoundHandler(h)
  | notAllowed (h : Option H)    -- rest.WithNotAllowedHandler(h)
  | chain (n : Nat)              -- rest.WithChain(chain.New(c1 … cn)): `svr.ngin.chain = chn` (replaces the native chain)
  | cors                         -- rest.WithCors(): `SetNotAllowedHandler(cors.NotAllowedHandler(...))`, then the router is
                                 -- wrapped: `corsRouter.ServeHTTP` answers EVERY `OPTIONS` request itself (204)
  | corsHeaders                  -- rest.WithCorsHeaders(headers...): the same wiring, another header function
  | customCors                   -- rest.WithCustomCors(middlewareFn, notAllowedFn, origin...): the same wiring again
  | fileServer (dir : String) (names : List String)
                                 -- rest.WithFileServer(dir, fs): the router is wrapped in a `fileServingRouter`; `names` = the
                                 -- file names `fs.Open` accepts
  | router                       -- rest.WithRouter(router.NewRouter()): `server.router = router` (a FRESH patRouter:
                                 -- whatever an earlier option installed on the old router is gone, including the
                                 -- engine's not-found wrapper that `NewServer` puts in front of the user's options)
  deriving Repr, DecidableEq

/-- a router wrapper of rest/server.go (both embed the `httpx.Router` they wrap: `Handle` / `SetNotFoundHandler` /
`SetNotAllowedHandler` pass through to the patRouter, only `ServeHTTP` is intercepted). -/
inductive Wrapper where
  | cors                                        -- `corsRouter`: `cors.Middleware(fn, origins...)` around `Router.ServeHTTP`
  | files (dir : String) (names : List String)  -- `fileServingRouter`: `fileserver.Middleware(dir, fs)`
  deriving Repr, DecidableEq

/-- `rest.Server{ngin, router}` as far as routing goes. -/
structure Server where
  router : PatRouter := {}
  groups : List Group := []      -- `engine.routes`, in `AddRoutes` order
  chain : Option Nat := none     -- `engine.chain` (`WithChain`): the number of middlewares of the custom chain
  wrappers : List Wrapper := []  -- what `server.router` is wrapped in, OUTERMOST first (`WithCors*`, `WithFileServer`)

/-- the handler `cors.NotAllowedHandler(nil, origins...)` (a reserved id): it answers 404 (204 for `OPTIONS`). -/
def corsNA : H := 204404

def Server.apply (s : Server) : RunOpt → Server
  | .notFound h => { s with router := { s.router with notFound := some (.engine h) } }
  | .notAllowed h => { s with router := { s.router with notAllowed := h } }
  | .router => { s with router := {}, wrappers := [] }
  | .chain n => { s with chain := some n }
  | .cors => { s with router := { s.router with notAllowed := some corsNA }, wrappers := .cors :: s.wrappers }
  | .corsHeaders => { s with router := { s.router with notAllowed := some corsNA }, wrappers := .cors :: s.wrappers }
  | .customCors => { s with router := { s.router with notAllowed := some corsNA }, wrappers := .cors :: s.wrappers }
  | .fileServer dir names => { s with wrappers := .files dir names :: s.wrappers }

/-- `rest.NewServer(c, opts...)`: `opts = append([]RunOption{WithNotFoundHandler(nil)}, opts...)`, applied in order. -/
def newServer (opts : List RunOpt) : Server :=
  (RunOpt.notFound none :: opts).foldl Server.apply {}

/-- `Server.AddRoutes` → `engine.addRoutes`: appended. -/
def Server.addRoutes (s : Server) (g : Group) : Server := { s with groups := s.groups ++ [g] }

/-- `engine.bindRoutes` over the flattened route list: `router.Handle` in order, the first error aborts
(and is what `Start` panics with); the routes bound before it stay in the router. -/
def bindAll (r : Router) : List Reg → Router × Option HandleErr
  | [] => (r, none)
  | (m, p, item) :: rest =>
    match handle r m p item with
    | .ok r' => bindAll r' rest
    | .error e => (r, some e)

def Server.regs (s : Server) : List Reg := s.groups.flatMap Group.regs

/-- `engine.bindRoutes(router)` (what `Start` does before listening). -/
def Server.bindRoutes (s : Server) : Server × Option HandleErr :=
  let res := bindAll s.router.core s.regs
  ({ s with router := { s.router with core := res.1 } }, res.2)

/-! ### the loops of `engine.bindRoutes` as they are nested in the code, `Server.Start`, `pathvar` -/

/-- `engine.bindRoutes`: `for _, fr := range ng.routes { if err := ng.bindFeaturedRoutes(router, fr, metrics); err != nil
{ return err } }` over `bindFeaturedRoutes` = `bindAll` on the routes of ONE group: the first group that reports an
error aborts the outer loop with that error. -/
def bindGroups (r : Router) : List (List Reg) → Router × Option HandleErr
  | [] => (r, none)
  | g :: gs =>
    match (bindAll r g).2 with
    | none => bindGroups (bindAll r g).1 gs
    | some e => ((bindAll r g).1, some e)

/-- the groups of a server as `engine.routes` holds them. -/
def Server.groupRegs (s : Server) : List (List Reg) := s.groups.map Group.regs

/-- the groups the engine reads through its references (aliasing model). -/
def Api.groupRegs (a : Api) : List (List Reg) := a.frs.map fun f => deref a.heap f.1

/-- how `Server.Start()` ends in the harness' world (no listener can be opened): `engine.start` returns the error of
`bindRoutes` BEFORE it tries to listen, `handleError` panics with it; otherwise the listener's error is reported. -/
inductive StartResult where
  | panics (e : HandleErr)      -- `handleError(err)`: `panic(err)` with the registration error
  | listens                      -- registration succeeded: `internal.StartHttp(...)` is reached
  deriving Repr, DecidableEq

/-- `handleError(err)`: returns for `err == nil` and for (a wrapper of) `http.ErrServerClosed`, panics with `err`
otherwise (`isNil`: the interface value is nil — a typed-nil pointer is NOT; `closed`: `errors.Is(err, ErrServerClosed)`). -/
def handleErrorPanics (isNil closed : Bool) : Bool := !(isNil || closed)

/-- `Server.Start()` = `handleError(s.ngin.start(s.router))`, `engine.start` = `bindRoutes` (nested loops), then listen. -/
def Server.start (s : Server) : Server × StartResult :=
  let res := bindGroups s.router.core s.groupRegs
  ({ s with router := { s.router with core := res.1 } },
   match res.2 with
   | some e => .panics e
   | none => .listens)

/-- who answers a request that reaches `server.router.ServeHTTP`. -/
inductive SrvResponse where
  | preflight                    -- `corsRouter`: `cors.Middleware` wrote 204 for an `OPTIONS` request; the patRouter is NOT asked
  | file (name : String)         -- `fileServingRouter`: `http.FileServer` served the file; the patRouter is NOT asked
  | router (r : Response)        -- the patRouter answers
  deriving Repr, DecidableEq

/-- `strings.HasPrefix`. -/
def hasPrefix (s pre : String) : Bool := pre.toList.isPrefixOf s.toList

/-- `ensureTrailingSlash` of rest/internal/fileserver. -/
def ensureTrailingSlash (dir : String) : String := if dir.toList.getLast? == some '/' then dir else dir ++ "/"

/-- `http.FileSystem.Open` of the harness' file system: one leading '/' is ignored. -/
def fileName (rem : String) : String := if hasPrefix rem "/" then String.ofList (rem.toList.drop 1) else rem

/-- `r.URL.Path[len(dir/):]` -/
def fileRem (dir path : String) : String := String.ofList (path.toList.drop (ensureTrailingSlash dir).length)

/-- `createServeChecker`: `r.Method == http.MethodGet && strings.HasPrefix(r.URL.Path, dir/) && fileChecker(r.URL.Path[len(dir/):])`
— on the RAW request path (nothing is cleaned here). -/
def canServe (dir : String) (names : List String) (method path : String) : Option String :=
  if method == "GET" && hasPrefix path (ensureTrailingSlash dir) && names.contains (fileName (fileRem dir path))
  then some (fileName (fileRem dir path)) else none

/-- the wrappers, outermost first, around the patRouter's `ServeHTTP`: each one either answers itself or passes the
request on UNCHANGED. -/
def wrapServe (pr : PatRouter) (method path : String) : List Wrapper → SrvResponse
  | [] => .router (pr.serveHTTP method path)
  | .cors :: ws => if method == "OPTIONS" then .preflight else wrapServe pr method path ws
  | .files dir names :: ws =>
    match canServe dir names method path with
    | some f => .file f
    | none => wrapServe pr method path ws

/-- `server.router.ServeHTTP`. -/
def Server.serveHTTP (s : Server) (method path : String) : SrvResponse := wrapServe s.router method path s.wrappers

/-- a `corsRouter` is in effect. -/
def Server.cors (s : Server) : Bool := s.wrappers.contains .cors

/-- `rest.MustNewServer(c, opts...)`: `NewServer(c, opts...)` (the error branch — `c.SetUp()` failing — ends the process). -/
def mustNewServer (opts : List RunOpt) : Server := newServer opts

/-! #### what `engine.bindRoute` puts in front of a route handler -/

/-- `handler.Authorize(secret[, WithPrevSecret(prev)])` accepts a token signed with the secret or, when a previous
secret is configured, with that one. -/
def tokenOk (jwt : Option (String × String)) (auth : Option String) : Bool :=
  match jwt with
  | none => true
  | some (a, b) => match auth with
    | some t => t == a || (b != "" && t == b)
    | none => false

/-- one element of the chain `bindRoute` builds, outermost first. -/
inductive Layer where
  | chainMw (i : Nat)                  -- middleware i of the chain given to `WithChain` (instead of the native ones)
  | auth (secret prev : String)        -- `appendAuthHandler`: the group's `WithJwt` / `WithJwtTransition`
  | use (k : Nat)                      -- `Server.Use` middleware k (`ng.middlewares`, in `Use` order)
  | routeMw (i : Nat)                  -- `rest.WithMiddlewares` middleware i wrapped around `route.Handler` itself
  deriving Repr, DecidableEq

/-- `bindRoute`: `chn := ng.chain` (or the native middlewares, which pass the request on), `appendAuthHandler`,
`for _, middleware := range ng.middlewares { chn = chn.Append(...) }`, `chn.ThenFunc(route.Handler)`. -/
def bindChain (chain : Option Nat) (jwt : Option (String × String)) (uses : List Nat) (nmw : Nat) : List Layer :=
  ((List.range (chain.getD 0)).map fun i => Layer.chainMw (i + 1)) ++
  (match jwt with | some (a, b) => [Layer.auth a b] | none => []) ++
  uses.map Layer.use ++ (List.range nmw).map fun i => Layer.routeMw (i + 1)

def Layer.tag : Layer → String
  | .chainMw i => "c" ++ toString i
  | .auth _ _ => "auth"
  | .use k => "u" ++ toString k
  | .routeMw i => toString i

/-- a user middleware that answers itself instead of calling `next` (harness convention: ids from 900 on). -/
def Layer.stops : Layer → Bool
  | .chainMw i => i ≥ 900
  | .auth _ _ => false
  | .use k => k ≥ 900
  | .routeMw i => i ≥ 900

/-- how the way down the chain ends. -/
inductive ChainEnd where
  | handler          -- the route handler is reached
  | unauthorized     -- the Authorize handler answered 401
  | stopped          -- a user middleware answered itself (did not call `next`)
  deriving Repr, DecidableEq

/-- a request with the bearer token `auth` goes down the chain: the middlewares that ran (in order) and how it ended. -/
def runChain (auth : Option String) : List Layer → List String × ChainEnd
  | [] => ([], .handler)
  | .auth a b :: rest => if tokenOk (some (a, b)) auth then runChain auth rest else ([], .unauthorized)
  | l :: rest => if l.stops then ([l.tag], .stopped) else (l.tag :: (runChain auth rest).1, (runChain auth rest).2)

/-- a value stored in a `context.Context`. -/
inductive CtxVal where
  | vars (m : List (String × String))   -- a `map[string]string`
  | other (s : String)                    -- anything else
  deriving Repr, DecidableEq

/-- `context.Context` as a chain of `WithValue` frames, innermost first.  Keys are compared by type AND value in Go:
`pathvar`'s key has the unexported type `contextKey`, so no other package can build an equal key; here every key is
a string and the pathvar key is the distinguished `pathVarsKey`. -/
abbrev Ctx := List (String × CtxVal)

def pathVarsKey : String := "rest/pathvar.contextKey(pathVars)"

/-- `pathvar.WithVars(r, params)`: `r.WithContext(context.WithValue(r.Context(), pathVars, params))` -/
def Ctx.withVars (c : Ctx) (m : List (String × String)) : Ctx := (pathVarsKey, .vars m) :: c

/-- `pathvar.Vars(r)`: `vars, ok := r.Context().Value(pathVars).(map[string]string)`; `nil` when absent. -/
def Ctx.vars (c : Ctx) : Option (List (String × String)) :=
  match c.lookup pathVarsKey with
  | some (.vars m) => some m
  | _ => none

/-- `ServeHTTP`: `if len(result.Params) > 0 { r = pathvar.WithVars(r, result.Params) }` — the context the route
handler is called with. -/
def handlerCtx (c : Ctx) (ps : Params) : Ctx :=
  if (paramMap ps).length > 0 then c.withVars (paramMap ps) else c

/-- what `pathvar.Vars(r)` shows inside the route handler (`nil` and the empty map print alike). -/
def delivered (c : Ctx) (ps : Params) : List (String × String) := ((handlerCtx c ps).vars).getD []

/-! ### the status of a not-found answer through `engine.notFoundHandler` -/

/-- `response.HeaderOnceResponseWriter`: `wrote` = a status was written through it already; `WriteHeader(code)` is
passed to the underlying writer only the first time.  The state after the call and the status that reached the
underlying writer (if any). -/
def headerOnceWrite (wrote : Bool) (code : Nat) : Bool × Option Nat := if wrote then (true, none) else (true, some code)

/-- `engine.notFoundHandler(next)`: `cw := NewHeaderOnceResponseWriter(w); h.ServeHTTP(cw, r); cw.WriteHeader(404)`.
`own` = the status the user's handler wrote through `cw` (`none`: it wrote nothing; net/http then defaults to 200),
`returns` = the handler came back (did not panic / `runtime.Goexit`).  The status of the response. -/
def engineNotFoundStatus (own : Option Nat) (returns : Bool) : Nat :=
  match own with
  | some c => c                                    -- the first WriteHeader wins, the forced 404 is dropped
  | none => if returns then ((headerOnceWrite false 404).2).getD 200 else 200

/-! ### registration with the MUTATION visible (what the Go structures hold after a call, also a failing one) -/

/-- get-or-create on one children map, in place: `f` returns the child after the call and the error (if any); a child
created for an intermediate segment is stored even when the recursion below it fails. -/
def updKidM (k : String) (f : Option Node → Node × Option AddErr) :
    List (String × Node) → List (String × Node) × Option AddErr
  | [] => ([(k, (f none).1)], (f none).2)
  | (k', c) :: tl =>
    if k' = k then ((k', (f (some c)).1) :: tl, (f (some c)).2)
    else ((k', c) :: (updKidM k f tl).1, (updKidM k f tl).2)

def updChildM (n : Node) (k : String) (f : Option Node → Node × Option AddErr) : Node × Option AddErr :=
  if isVar k then (n.setVars (updKidM k f n.vars).1, (updKidM k f n.vars).2)
  else (n.setLits (updKidM k f n.lits).1, (updKidM k f n.lits).2)

/-- `add(nd, route, item)` as the Go code runs it: the node AFTER the call (pointer structure mutated in place) and the
error.  `errDupItem` is detected before anything is written; `errDupSlash` may leave item-less nodes behind. -/
def addM : List String → Node → H → Node × Option AddErr
  | [], n, _ => (n, none)
  | t :: rest, n, h =>
    match rest with
    | [] =>
      if t = "" then (if n.item.isSome then (n, some .dupItem) else (n.setItem h, none))
      else updChildM n t fun
        | some c => if c.item.isSome then (c, some .dupItem) else (c.setItem h, none)
        | none => (newNode (some h), none)
    | _ :: _ =>
      if t = "" then (n, some .dupSlash)
      else updChildM n t fun oc => addM rest (oc.getD (newNode none)) h

/-- `patRouter.Handle` as the Go code runs it: the router AFTER the call and the error.  The validations return
before anything is touched; a missing method tree is created and stored BEFORE `tree.Add` runs (also when `Add` then
fails); `Add` rejects a nil handler before touching the tree. -/
def handleM (r : Router) (method path : String) (item : Option H) : Router × Option HandleErr :=
  if !validMethod method then (r, some .invalidMethod)
  else if !rooted path then (r, some .invalidPath)
  else
    let r1 : Router := if (r.trees.lookup method).isSome then r else { trees := r.trees ++ [(method, newNode none)] }
    match item with
    | none => (r1, some (.tree .emptyItem))
    | some h =>
      let res := addM (cleanToks path) ((r.trees.lookup method).getD (newNode none)) h
      ({ trees := setTree method res.1 r1.trees }, res.2.map HandleErr.tree)

/-- `Tree.Add(route, item)` with the mutation visible (raw strings: `errDupSlash` may leave item-less nodes behind). -/
def treeAddM (root : Node) (route : String) (item : Option H) : Node × Option AddErr :=
  if !rooted route then (root, some .notFromRoot) else
  match item with
  | none => (root, some .emptyItem)
  | some h => addM (toksOf route) root h

/-- `engine.bindRoutes` over the flattened list with the mutation visible: the router after the start-up attempt. -/
def bindAllM (r : Router) : List Reg → Router × Option HandleErr
  | [] => (r, none)
  | (m, p, item) :: rest =>
    match (handleM r m p item).2 with
    | none => bindAllM (handleM r m p item).1 rest
    | some e => ((handleM r m p item).1, some e)

/-- `engine.bindRoutes` with BOTH the nesting of the loops and the in-place mutation as in the code. -/
def bindGroupsM (r : Router) : List (List Reg) → Router × Option HandleErr
  | [] => (r, none)
  | g :: gs =>
    match (bindAllM r g).2 with
    | none => bindGroupsM (bindAllM r g).1 gs
    | some e => ((bindAllM r g).1, some e)

end GoZero.C09
