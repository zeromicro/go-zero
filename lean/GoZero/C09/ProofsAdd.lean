/-
C09 — insertion in the uniform trie view: `addW_spec` (`addW` stores exactly one new key, keeps the node well formed,
fails exactly when the key is stored).  `updChild` and `updChildM` are `setChild n k c` for the child the callback
returns; `child_setChild` reads the children afterwards as a function of the key.
-/
import GoZero.C09.Proofs
namespace GoZero.C09

open Spec

/-- uniform insertion: `add` without the special treatment of the empty route (the node's own item is key `[]`). -/
def addW : List String → Node → H → Except AddErr Node
  | [], n, h => if n.item.isSome then .error .dupItem else .ok (n.setItem h)
  | t :: rest, n, h => updChild n t fun oc => addW rest (oc.getD (newNode none)) h

theorem updKid_eq (k : String) (f : Option Node → Except AddErr Node) (l : List (String × Node)) :
    updKid k f l = (f (l.lookup k)).map (fun c => setTree k c l) := by
  induction l with
  | nil => simp [updKid, List.lookup, setTree]
  | cons a tl ih =>
    obtain ⟨k', c'⟩ := a
    by_cases hk : k' = k
    · simp [updKid, hk, setTree]
    · simp only [updKid, hk, Ne.symm hk, if_false, lookup_cons, setTree, ih]
      cases f (List.lookup k tl) <;> rfl

theorem updKidM_eq (k : String) (f : Option Node → Node × Option AddErr) (l : List (String × Node)) :
    updKidM k f l = (setTree k (f (l.lookup k)).1 l, (f (l.lookup k)).2) := by
  induction l with
  | nil => rfl
  | cons a tl ih =>
    obtain ⟨k', c⟩ := a
    by_cases hk : k' = k
    · simp [updKidM, hk, setTree]
    · simp only [updKidM, hk, Ne.symm hk, if_false, lookup_cons, setTree, ih]

theorem setTree_of_lookup {k : String} {c : Node} {l : List (String × Node)} (h : l.lookup k = some c) :
    setTree k c l = l := by
  induction l with
  | nil => cases h
  | cons a tl ih =>
    obtain ⟨k', c'⟩ := a
    rw [lookup_cons] at h
    by_cases hk : k' = k
    · simp_all [setTree]
    · have hk' := Ne.symm hk
      simp_all [setTree]

theorem setTree_of_lookup_none {k : String} (c : Node) {l : List (String × Node)} (h : l.lookup k = none) :
    setTree k c l = l ++ [(k, c)] := by
  induction l with
  | nil => rfl
  | cons a tl ih =>
    obtain ⟨k', c'⟩ := a
    rw [lookup_cons] at h
    by_cases hk : k' = k
    · simp [hk] at h
    · rw [if_neg fun e => hk e.symm] at h
      simp [setTree, hk, ih h]

theorem setTree_setTree (k : String) (c c' : Node) (l : List (String × Node)) :
    setTree k c' (setTree k c l) = setTree k c' l := by
  induction l with
  | nil => simp [setTree]
  | cons a tl ih =>
    obtain ⟨k', d⟩ := a
    by_cases hk : k' = k <;> simp [setTree, hk, ih]

theorem lookup_setTree (k : String) (c : Node) (l : List (String × Node)) (k' : String) :
    (setTree k c l).lookup k' = if k' = k then some c else l.lookup k' := by
  induction l with
  | nil => simp [setTree, lookup_cons]
  | cons a tl ih =>
    obtain ⟨k1, c1⟩ := a
    by_cases hk : k1 = k <;> by_cases h : k' = k1 <;> simp_all [setTree, lookup_cons]

theorem mem_setTree {k : String} {c : Node} {l : List (String × Node)} {x : String × Node}
    (h : x ∈ setTree k c l) : x = (k, c) ∨ x ∈ l := by
  induction l with
  | nil => simpa [setTree] using h
  | cons a tl ih =>
    obtain ⟨k1, c1⟩ := a
    by_cases hk : k1 = k <;> simp only [setTree, hk, if_true, if_false, List.mem_cons] at h ⊢
    · exact h.imp_right Or.inr
    · rcases h with h | h
      · exact Or.inr (Or.inl h)
      · exact (ih h).imp_right Or.inr

theorem nodup_setTree (k : String) (c : Node) (l : List (String × Node)) (h : (l.map (·.1)).Nodup) :
    ((setTree k c l).map (·.1)).Nodup := by
  induction l with
  | nil => simp [setTree]
  | cons a tl ih =>
    obtain ⟨k1, c1⟩ := a
    simp only [List.map_cons, List.nodup_cons] at h
    by_cases hk : k1 = k
    · subst hk
      simpa [setTree] using h
    · simp only [setTree, hk, if_false, List.map_cons, List.nodup_cons]
      refine ⟨fun hm => ?_, ih h.2⟩
      obtain ⟨x, hx, hx1⟩ := List.mem_map.mp hm
      rcases mem_setTree hx with rfl | hx
      · exact hk hx1.symm
      · exact h.1 (List.mem_map.mpr ⟨x, hx, hx1⟩)

/-- the node with `c` stored as the child under `k` (replacing the child that is there, or new): `getChildren(k)`
selects the map. -/
def setChild (n : Node) (k : String) (c : Node) : Node :=
  if isVar k then n.setVars (setTree k c n.vars) else n.setLits (setTree k c n.lits)

theorem updChild_eq (n : Node) (k : String) (f : Option Node → Except AddErr Node) :
    updChild n k f = (f (child n k)).map (setChild n k) := by
  unfold updChild setChild child
  cases hv : isVar k
  · simp only [Bool.false_eq_true, if_false, updKid_eq]
    cases f (List.lookup k n.lits) <;> rfl
  · simp only [if_true, updKid_eq]
    cases f (List.lookup k n.vars) <;> rfl

theorem updChildM_eq (n : Node) (k : String) (f : Option Node → Node × Option AddErr) :
    updChildM n k f = (setChild n k (f (child n k)).1, (f (child n k)).2) := by
  unfold updChildM setChild child
  cases hv : isVar k <;> simp [updKidM_eq]

theorem setChild_of_child {n : Node} {k : String} {c : Node} (h : child n k = some c) : setChild n k c = n := by
  unfold setChild
  unfold child at h
  cases n
  cases hv : isVar k <;> simp [hv] at h <;> simp [Node.setVars, Node.setLits, setTree_of_lookup h]

theorem child_setChild (n : Node) (k : String) (c : Node) (k' : String) :
    child (setChild n k c) k' = if k' = k then some c else child n k' := by
  cases n with
  | mk i l v =>
    cases hv : isVar k <;> cases hv' : isVar k' <;>
      simp [child, setChild, Node.setVars, Node.setLits, hv, hv', lookup_setTree]
    all_goals (intro e; rw [e, hv] at hv'; cases hv')

theorem child_newNode (i : Option H) (k : String) : child (newNode i) k = none := by
  simp [child, newNode]

theorem lookupW_newNode (ks : List String) : lookupW ks (newNode none) = none := by
  cases ks with
  | nil => rfl
  | cons k ks => simp [lookupW, child, newNode]

theorem wf_setItem {n : Node} (h : WF n) (x : H) : WF (n.setItem x) := by
  cases h with
  | mk i l v h1 h2 h3 h4 h5 h6 => exact WF.mk (some x) l v h1 h2 h3 h4 h5 h6

theorem wf_setChild {n c : Node} (hwf : WF n) (k : String) (hc : WF c) : WF (setChild n k c) := by
  cases hwf with
  | mk i l v h1 h2 h3 h4 h5 h6 =>
    unfold setChild
    cases hv : isVar k
    · exact WF.mk i _ v (nodup_setTree _ _ _ h1) h2
        (fun kc hm => (mem_setTree hm).elim (fun e => e ▸ hv) (h3 kc)) h4
        (fun kc hm => (mem_setTree hm).elim (fun e => e ▸ hc) (h5 kc)) h6
    · exact WF.mk i l _ h1 (nodup_setTree _ _ _ h2) h3
        (fun kc hm => (mem_setTree hm).elim (fun e => e ▸ hv) (h4 kc)) h5
        (fun kc hm => (mem_setTree hm).elim (fun e => e ▸ hc) (h6 kc))

theorem lookupW_nil_setChild (n : Node) (k : String) (c : Node) : lookupW [] (setChild n k c) = lookupW [] n := by
  cases n; unfold setChild; split <;> rfl

theorem lookupW_cons_setChild (n : Node) (k : String) (c : Node) (k' : String) (r : List String) :
    lookupW (k' :: r) (setChild n k c) = if k' = k then lookupW r c else lookupW (k' :: r) n := by
  simp only [lookupW, child_setChild]
  split <;> rfl

/-- the node `add` goes on with below `k`: the child that is there, or a new empty one. -/
theorem wf_child_getD {n : Node} (hwf : WF n) (k : String) : WF ((child n k).getD (newNode none)) := by
  cases hc : child n k with
  | none => exact wf_newNode none
  | some c => exact child_wf hwf hc

theorem lookupW_cons_getD (n : Node) (k : String) (r : List String) :
    lookupW (k :: r) n = lookupW r ((child n k).getD (newNode none)) := by
  cases hc : child n k <;> simp [lookupW, hc, lookupW_newNode]

theorem setChild_same {n c' : Node} {k : String} (hwf : WF n) (hc' : WF c')
    (hl : ∀ ks, lookupW ks c' = lookupW ks ((child n k).getD (newNode none))) :
    WF (setChild n k c') ∧ ∀ ks, lookupW ks (setChild n k c') = lookupW ks n := by
  refine ⟨wf_setChild hwf k hc', fun ks => ?_⟩
  cases ks with
  | nil => exact lookupW_nil_setChild n k c'
  | cons k' r =>
    rw [lookupW_cons_setChild]
    split
    · rename_i e; rw [e, hl, lookupW_cons_getD]
    · rfl

theorem addW_spec (ks : List String) : ∀ (n : Node) (h : H), WF n →
    (∀ n', addW ks n h = .ok n' →
      WF n' ∧ lookupW ks n = none ∧ ∀ ks', lookupW ks' n' = if ks' = ks then some h else lookupW ks' n) ∧
    (∀ e, addW ks n h = .error e → e = .dupItem ∧ (lookupW ks n).isSome = true) := by
  induction ks with
  | nil =>
    intro n h hwf
    cases hi : n.item with
    | some x => exact ⟨fun n' hn' => by simp [addW, hi] at hn', fun e he => by simp_all [addW, lookupW]⟩
    | none =>
      refine ⟨fun n' hn' => ?_, fun e he => by simp [addW, hi] at he⟩
      simp only [addW, hi, Option.isSome_none, Bool.false_eq_true, if_false, Except.ok.injEq] at hn'
      subst hn'
      refine ⟨wf_setItem hwf h, by simp [lookupW, hi], fun ks' => ?_⟩
      cases n
      cases ks' <;> simp [lookupW, Node.setItem, child]
  | cons t rest ih =>
    intro n h hwf
    obtain ⟨ihok, iherr⟩ := ih _ h (wf_child_getD hwf t)
    have hadd : addW (t :: rest) n h = (addW rest ((child n t).getD (newNode none)) h).map (setChild n t) := by
      simp only [addW, updChild_eq]
    rw [hadd, lookupW_cons_getD]
    cases hr : addW rest ((child n t).getD (newNode none)) h with
    | error e => exact ⟨nofun, fun e' he => by cases he; exact iherr e hr⟩
    | ok c1 =>
      obtain ⟨hwf1, hnone, hlk⟩ := ihok c1 hr
      refine ⟨fun n' hn' => ?_, nofun⟩
      cases hn'
      refine ⟨wf_setChild hwf t hwf1, hnone, fun ks' => ?_⟩
      cases ks' with
      | nil => simp [lookupW_nil_setChild]
      | cons k' r' =>
        rw [lookupW_cons_setChild, hlk r', lookupW_cons_getD n k' r']
        by_cases hk : k' = t
        · subst hk; simp
        · simp [hk]

end GoZero.C09
