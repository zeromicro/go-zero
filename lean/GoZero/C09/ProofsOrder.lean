/-
C09 — reordering children maps: `Shuffled n n'` (the children lists of any nodes permuted: what another Go map iteration
order amounts to) keeps a tree well formed and storing the same keys (`shuffled_same`), hence representing the same table.
-/
import GoZero.C09.ProofsRouter
namespace GoZero.C09

inductive Shuffled : Node → Node → Prop
  | refl (n : Node) : Shuffled n n
  | top (i : Option H) (l l' v v' : List (String × Node)) :
      l.Perm l' → v.Perm v' → Shuffled (.mk i l v) (.mk i l' v')
  | lit (i : Option H) (l1 l2 v : List (String × Node)) (k : String) (c c' : Node) :
      Shuffled c c' → Shuffled (.mk i (l1 ++ (k, c) :: l2) v) (.mk i (l1 ++ (k, c') :: l2) v)
  | var (i : Option H) (l v1 v2 : List (String × Node)) (k : String) (c c' : Node) :
      Shuffled c c' → Shuffled (.mk i l (v1 ++ (k, c) :: v2)) (.mk i l (v1 ++ (k, c') :: v2))
  | trans (a b c : Node) : Shuffled a b → Shuffled b c → Shuffled a c

theorem lookup_perm {l l' : List (String × Node)} (hp : l.Perm l') (hn : (l.map (·.1)).Nodup) (k : String) :
    l'.lookup k = l.lookup k := by
  have hn' : (l'.map (·.1)).Nodup := (hp.map _).nodup_iff.mp hn
  cases h : l.lookup k with
  | some c => exact lookup_of_mem hn' (hp.mem_iff.mp (mem_of_lookup h))
  | none =>
    cases h' : l'.lookup k with
    | none => rfl
    | some c =>
      have := lookup_of_mem hn (hp.mem_iff.mpr (mem_of_lookup h'))
      rw [h] at this; cases this

theorem setTree_mid (l1 l2 : List (String × Node)) (k : String) (c c' : Node) (h : k ∉ l1.map (·.1)) :
    setTree k c' (l1 ++ (k, c) :: l2) = l1 ++ (k, c') :: l2 := by
  induction l1 with
  | nil => simp [setTree]
  | cons a tl ih =>
    obtain ⟨k1, c1⟩ := a
    simp only [List.map_cons, List.mem_cons, not_or] at h
    simp [setTree, Ne.symm h.1, ih h.2]

theorem shuffled_same {n n' : Node} (hs : Shuffled n n') :
    WF n → WF n' ∧ ∀ ks, lookupW ks n' = lookupW ks n := by
  induction hs with
  | refl n => intro h; exact ⟨h, fun _ => rfl⟩
  | top i l l' v v' hl hv =>
    intro h
    cases h with
    | mk _ _ _ h1 h2 h3 h4 h5 h6 =>
      refine ⟨WF.mk i l' v' ((hl.map _).nodup_iff.mp h1) ((hv.map _).nodup_iff.mp h2)
        (fun kc hm => h3 kc (hl.mem_iff.mpr hm)) (fun kc hm => h4 kc (hv.mem_iff.mpr hm))
        (fun kc hm => h5 kc (hl.mem_iff.mpr hm)) (fun kc hm => h6 kc (hv.mem_iff.mpr hm)), ?_⟩
      intro ks
      cases ks with
      | nil => rfl
      | cons k r =>
        simp only [lookupW, child, Node.vars_mk, Node.lits_mk, lookup_perm hl h1, lookup_perm hv h2]
  | lit i l1 l2 v k c c' _ ih =>
    -- the node with one child shuffled is `setChild` of that child, so `setChild_same` applies (likewise for `var`)
    intro h
    have hch : child (.mk i (l1 ++ (k, c) :: l2) v) k = some c := child_of_mem_lits h (by simp)
    have e : Node.mk i (l1 ++ (k, c') :: l2) v = setChild (.mk i (l1 ++ (k, c) :: l2) v) k c' := by
      simp [setChild, h.lits_lit (k, c) (by simp), Node.setLits,
        setTree_mid _ _ _ _ _ (not_mem_of_nodup_mid h.lits_nodup)]
    rw [e]
    obtain ⟨hc', hlk⟩ := ih (child_wf h hch)
    exact setChild_same h hc' (by simpa [hch] using hlk)
  | var i l v1 v2 k c c' _ ih =>
    intro h
    have hch : child (.mk i l (v1 ++ (k, c) :: v2)) k = some c := child_of_mem_vars h (by simp)
    have e : Node.mk i l (v1 ++ (k, c') :: v2) = setChild (.mk i l (v1 ++ (k, c) :: v2)) k c' := by
      simp [setChild, h.vars_var (k, c) (by simp), Node.setVars,
        setTree_mid _ _ _ _ _ (not_mem_of_nodup_mid h.vars_nodup)]
    rw [e]
    obtain ⟨hc', hlk⟩ := ih (child_wf h hch)
    exact setChild_same h hc' (by simpa [hch] using hlk)
  | trans a b c _ _ ih1 ih2 =>
    intro h
    obtain ⟨hb, h1⟩ := ih1 h
    obtain ⟨hc, h2⟩ := ih2 hb
    exact ⟨hc, fun ks => by rw [h2, h1]⟩

theorem treeRep_shuffled {root root' : Node} {tbl : Spec.Table} {m : String}
    (hs : Shuffled root root') (h : TreeRep root tbl m) : TreeRep root' tbl m := by
  obtain ⟨hwf, hlk⟩ := shuffled_same hs h.1
  exact ⟨hwf, fun ks x => by rw [hlk]; exact h.2 ks x⟩

end GoZero.C09
