/-
C09 — property theorems: a rejected registration leaves the router observably unchanged.  `handleM` / `addM` (Model.lean)
are `Handle` / `add` with the in-place mutation visible (what the Go structures hold after the call, also when it returns
an error); they agree with the `Except` model used everywhere else, and after any rejection every method's tree is what it was.
-/
import GoZero.C09.PropsEntry
import GoZero.C09.PropsRaw
namespace GoZero.C09
open Spec

/-- the `Except` result and the (state, error) result say the same. -/
def Agree {α : Type} (x : Except AddErr α) (y : α × Option AddErr) : Prop :=
  match y.2 with
  | none => x = .ok y.1
  | some e => x = .error e

theorem addM_cons_cons (t r : String) (rs : List String) (n : Node) (h : H) :
    addM (t :: r :: rs) n h
      = if t = "" then (n, some .dupSlash)
        else updChildM n t fun oc => addM (r :: rs) (oc.getD (newNode none)) h := rfl

theorem addM_newNode_no_dup (toks : List String) (h : H) : (addM toks (newNode none) h).2 ≠ some .dupItem := by
  induction toks with
  | nil => simp [addM]
  | cons t rest ih =>
    cases rest with
    | nil =>
      simp only [addM]
      split
      · simp [newNode]
      · rw [updChildM_eq, child_newNode]; simp
    | cons r rs =>
      rw [addM_cons_cons]
      split
      · simp
      · rw [updChildM_eq, child_newNode]; exact ih

/-- **What an in-place `add` leaves behind**, against the `Except` model: on success the new tree; a duplicate is
detected before anything is written (the tree is, node for node, what it was); the only other error is
`errDupSlash`, which may leave item-less nodes behind but nothing visible: the tree stays well formed and stores, key
for key, what it stored. -/
theorem addM_spec (toks : List String) : ∀ (n : Node) (h : H),
    (∃ n', add toks n h = .ok n' ∧ addM toks n h = (n', none)) ∨
    (add toks n h = .error .dupItem ∧ addM toks n h = (n, some .dupItem)) ∨
    (add toks n h = .error .dupSlash ∧ (addM toks n h).2 = some .dupSlash ∧
      (WF n → WF (addM toks n h).1 ∧ ∀ ks, lookupW ks (addM toks n h).1 = lookupW ks n)) := by
  induction toks with
  | nil => intro n h; exact Or.inl ⟨n, rfl, rfl⟩
  | cons t rest ih =>
    intro n h
    cases rest with
    | nil =>
      simp only [add, addM]
      by_cases ht : t = ""
      · simp only [ht, if_true]
        cases hi : n.item.isSome <;> simp
      · simp only [ht, if_false, updChild_eq, updChildM_eq]
        cases hc : child n t with
        | none => simp [Except.map]
        | some c => cases hi : c.item.isSome <;> simp [Except.map, hi, setChild_of_child hc]
    | cons r rs =>
      rw [add_cons_cons, addM_cons_cons]
      by_cases ht : t = ""
      · rw [if_pos ht, if_pos ht]
        exact Or.inr (Or.inr ⟨rfl, rfl, fun hwf => ⟨hwf, fun _ => rfl⟩⟩)
      · simp only [ht, if_false, updChild_eq, updChildM_eq]
        rcases ih ((child n t).getD (newNode none)) h with ⟨c1, h1, h2⟩ | ⟨h1, h2⟩ | ⟨h1, h2, h3⟩
        · exact Or.inl ⟨setChild n t c1, by rw [h1]; rfl, by rw [h2]⟩
        · refine Or.inr (Or.inl ?_)
          cases hc : child n t with
          | none =>
            rw [hc] at h2
            exact absurd (congrArg Prod.snd h2) (addM_newNode_no_dup _ _)
          | some c =>
            rw [hc, Option.getD_some] at h1 h2
            exact ⟨by rw [Option.getD_some, h1]; rfl, by rw [Option.getD_some, h2, setChild_of_child hc]⟩
        · exact Or.inr (Or.inr ⟨by rw [h1]; rfl, h2, fun hwf =>
            setChild_same hwf (h3 (wf_child_getD hwf t)).1 (h3 (wf_child_getD hwf t)).2⟩)

/-- **`addM` is `add`**: same verdict, and on success the same tree. -/
theorem addM_agrees (toks : List String) : ∀ (n : Node) (h : H), Agree (add toks n h) (addM toks n h) := by
  intro n h
  unfold Agree
  rcases addM_spec toks n h with ⟨n', h1, h2⟩ | ⟨h1, h2⟩ | ⟨h1, h2, _⟩ <;> simp [h1, h2]

/-- **A duplicate is detected before anything is written**: when `add` returns `errDupItem` the tree is, node for
node, what it was. -/
theorem addM_dup_unchanged (toks : List String) : ∀ (n : Node) (h : H),
    (addM toks n h).2 = some .dupItem → (addM toks n h).1 = n := by
  intro n h he
  rcases addM_spec toks n h with ⟨n', _, h2⟩ | ⟨_, h2⟩ | ⟨_, h2, _⟩
  · rw [h2] at he; cases he
  · rw [h2]
  · rw [h2] at he; cases he

theorem add_of_addM_err {toks : List String} {n : Node} {h : H} {e : AddErr} (he : (addM toks n h).2 = some e) :
    add toks n h = .error e := by
  have ha := addM_agrees toks n h
  unfold Agree at ha
  rwa [he] at ha

theorem addM_clean_no_dupSlash (p : String) (n : Node) (h : H) : (addM (cleanToks p) n h).2 ≠ some .dupSlash := by
  intro he
  have ha := add_of_addM_err he
  rw [add_clean (clean_cleanToks p)] at ha
  exact addW_ne_dupSlash _ n h ha

/-- the router `Add` runs on: `Handle` stores an empty tree for a method that had none BEFORE it calls `tree.Add`. -/
def withTree (r : Router) (m : String) : Router :=
  if (r.trees.lookup m).isSome then r else { trees := r.trees ++ [(m, newNode none)] }

theorem withTree_trees (r : Router) (m : String) :
    (withTree r m).trees = if (r.trees.lookup m).isSome then r.trees else setTree m (newNode none) r.trees := by
  unfold withTree
  cases hl : r.trees.lookup m with
  | some root => rfl
  | none => simp [setTree_of_lookup_none _ hl]

/-- an empty tree is what `treeOf` reads for a method without a tree. -/
theorem treeOf_withTree (r : Router) (m m' : String) : treeOf (withTree r m) m' = treeOf r m' := by
  unfold treeOf
  rw [withTree_trees]
  cases hl : r.trees.lookup m with
  | some root => rfl
  | none =>
    simp only [Option.isSome_none, Bool.false_eq_true, if_false, lookup_setTree]
    split
    · rename_i e; rw [e, hl]; rfl
    · rfl

theorem nodup_withTree (r : Router) (m : String) (hn : (r.trees.map (·.1)).Nodup) :
    ((withTree r m).trees.map (·.1)).Nodup := by
  rw [withTree_trees]
  split
  · exact hn
  · exact nodup_setTree _ _ _ hn

theorem setTree_withTree (r : Router) (m : String) (t : Node) :
    setTree m t (withTree r m).trees = setTree m t r.trees := by
  rw [withTree_trees]
  split
  · rfl
  · exact setTree_setTree _ _ _ _

theorem handleM_eq (r : Router) (m p : String) (item : Option H) :
    handleM r m p item =
      if !validMethod m then (r, some .invalidMethod)
      else if !rooted p then (r, some .invalidPath)
      else match item with
        | none => (withTree r m, some (.tree .emptyItem))
        | some h =>
          ({ trees := setTree m (addM (cleanToks p) (treeOf r m) h).1 (withTree r m).trees },
           (addM (cleanToks p) (treeOf r m) h).2.map HandleErr.tree) := rfl

/-- **`handleM` is `handle`**: same verdict, and on success the same router. -/
theorem handleM_agrees (r : Router) (m p : String) (item : Option H) :
    match (handleM r m p item).2 with
    | none => handle r m p item = .ok (handleM r m p item).1
    | some e => handle r m p item = .error e := by
  rw [handleM_eq]
  unfold handle
  cases hvm : validMethod m
  · simp
  cases hrt : rooted p
  · simp
  cases item with
  | none => simp
  | some h =>
    simp only [Bool.not_true, Bool.false_eq_true, if_false, setTree_withTree]
    have ha := addM_agrees (cleanToks p) (treeOf r m) h
    unfold Agree at ha
    unfold treeOf at ha ⊢
    cases he : (addM (cleanToks p) ((r.trees.lookup m).getD (newNode none)) h).2 <;> rw [he] at ha <;> simp [ha]

/-- **After a rejected `Handle` every method's tree is what it was**, for every rejection reason (unsupported method,
no leading '/', nil handler, same method and cleaned pattern twice): the only thing a failing call may leave behind
is an EMPTY tree for a method that had none. -/
theorem handleM_rejected_same_trees (r : Router) (m p : String) (item : Option H) (e : HandleErr)
    (he : (handleM r m p item).2 = some e) : ∀ m', treeOf (handleM r m p item).1 m' = treeOf r m' := by
  intro m'
  rw [handleM_eq] at he ⊢
  cases hvm : validMethod m
  · simp
  cases hrt : rooted p
  · simp
  cases item with
  | none => simpa using treeOf_withTree r m m'
  | some h =>
    simp only [hvm, hrt, Bool.not_true, Bool.false_eq_true, if_false, Option.map_eq_some_iff] at he ⊢
    obtain ⟨ae, hae, _⟩ := he
    -- on cleaned tokens the only error is the duplicate, which writes nothing
    rcases addM_spec (cleanToks p) (treeOf r m) h with ⟨n', _, h2⟩ | ⟨_, h2⟩ | ⟨_, h2, _⟩
    · rw [h2] at hae; cases hae
    · rw [h2, treeOf_setTree]
      split
      · rename_i hm; rw [hm]
      · exact treeOf_withTree r m m'
    · exact absurd h2 (addM_clean_no_dupSlash p _ h)

theorem nodup_handleM (r : Router) (m p : String) (item : Option H) (hn : (r.trees.map (·.1)).Nodup) :
    ((handleM r m p item).1.trees.map (·.1)).Nodup := by
  rw [handleM_eq]
  cases hvm : validMethod m
  · simpa using hn
  cases hrt : rooted p
  · simpa using hn
  cases item with
  | none => simpa using nodup_withTree r m hn
  | some h =>
    simp only [Bool.not_true, Bool.false_eq_true, if_false]
    exact nodup_setTree _ _ _ (nodup_withTree r m hn)

/-- two routers whose trees agree method by method answer every request alike: the same handler with the same
parameters, 404 alike, 405 with the same set of allowed methods (their order is Go's map order in both). -/
theorem serve_same_trees {r r' : Router} (hn : (r.trees.map (·.1)).Nodup) (hn' : (r'.trees.map (·.1)).Nodup)
    (hs : ∀ m, treeOf r' m = treeOf r m) (m p : String) :
    (∀ h ps, serve r' m p = .handler h ps ↔ serve r m p = .handler h ps) ∧
    (serve r' m p = .notFound ↔ serve r m p = .notFound) ∧
    (∀ al', serve r' m p = .notAllowed al' → ∃ al, serve r m p = .notAllowed al ∧ ∀ x, x ∈ al' ↔ x ∈ al) := by
  have hmem : ∀ x, x ∈ methodsAllowed r' m p ↔ x ∈ methodsAllowed r m p := by
    intro x; rw [mem_methodsAllowed_trees hn', mem_methodsAllowed_trees hn, hs]
  have hnil : methodsAllowed r' m p = [] ↔ methodsAllowed r m p = [] := by
    simp only [List.eq_nil_iff_forall_not_mem, hmem]
  rw [serve_eq r', serve_eq r, hs]
  cases searchClean (treeOf r m) p with
  | some x => simp
  | none =>
    cases ha : methodsAllowed r m p with
    | nil => simp [hnil.mpr ha]
    | cons y ys =>
      cases ha' : methodsAllowed r' m p with
      | nil => rw [hnil.mp ha'] at ha; cases ha
      | cons x xs =>
        refine ⟨by simp, by simp, fun al' h => ?_⟩
        cases h
        exact ⟨_, rfl, fun z => by rw [← ha', ← ha]; exact hmem z⟩

/-- **A rejected registration leaves the router observably unchanged.**  Whatever the reason of the rejection
(unsupported method, pattern without leading '/', nil handler, same method + cleaned pattern registered before — also
with ANOTHER handler, also for variable patterns and for "/"), every later request — any method, any path — is served
exactly as before the call: the same handler with the same parameters, 404 alike, 405 with the same allowed methods;
the custom not-found / not-allowed handlers are those of `pr` (`Handle` is a function of the trees alone: the two
equations hold by the form of `pr'`); and the router still represents the same route table, so every theorem about the
table keeps applying. -/
theorem rejected_registration_observably_unchanged (pr : PatRouter) (hn : (pr.core.trees.map (·.1)).Nodup)
    (m p : String) (item : Option H) (e : HandleErr) (he : (handleM pr.core m p item).2 = some e) (m' p' : String) :
    let pr' : PatRouter := { pr with core := (handleM pr.core m p item).1 }
    (∀ h ps, pr'.serveHTTP m' p' = .route h ps ↔ pr.serveHTTP m' p' = .route h ps) ∧
    (∀ h ps, serve pr'.core m' p' = .handler h ps ↔ serve pr.core m' p' = .handler h ps) ∧
    (serve pr'.core m' p' = .notFound ↔ serve pr.core m' p' = .notFound) ∧
    (∀ al', serve pr'.core m' p' = .notAllowed al' →
      ∃ al, serve pr.core m' p' = .notAllowed al ∧ ∀ x, x ∈ al' ↔ x ∈ al) ∧
    pr'.notFound = pr.notFound ∧ pr'.notAllowed = pr.notAllowed ∧
    (∀ tbl, Rep pr.core tbl → Rep pr'.core tbl) := by
  intro pr'
  have hs := handleM_rejected_same_trees pr.core m p item e he
  have hn' := nodup_handleM pr.core m p item hn
  obtain ⟨h1, h2, h3⟩ := serve_same_trees hn hn' hs m' p'
  refine ⟨?_, h1, h2, h3, rfl, rfl, ?_⟩
  · intro h ps
    rw [serveHTTP_route_iff, serveHTTP_route_iff]
    exact h1 h ps
  · intro tbl hrep
    exact ⟨hn', fun x => by show TreeRep (treeOf (handleM pr.core m p item).1 x) tbl x; rw [hs x]; exact hrep.2 x⟩

/-- `bindAllM` (mutation visible) and `bindAll` report the same error and hold, method by method, the same trees. -/
theorem bindAllM_same_trees (regs : List Reg) : ∀ (r : Router), (r.trees.map (·.1)).Nodup →
    (bindAllM r regs).2 = (bindAll r regs).2 ∧
    ((bindAllM r regs).1.trees.map (·.1)).Nodup ∧ ((bindAll r regs).1.trees.map (·.1)).Nodup ∧
    ∀ m, treeOf (bindAllM r regs).1 m = treeOf (bindAll r regs).1 m := by
  induction regs with
  | nil => intro r hn; exact ⟨rfl, hn, hn, fun _ => rfl⟩
  | cons a rest ih =>
    obtain ⟨m, p, item⟩ := a
    intro r hn
    have hag := handleM_agrees r m p item
    simp only [bindAllM, bindAll]
    cases he : (handleM r m p item).2 with
    | none =>
      rw [he] at hag
      rw [hag]
      exact ih _ (nodup_handleM r m p item hn)
    | some e =>
      rw [he] at hag
      rw [hag]
      exact ⟨rfl, nodup_handleM r m p item hn, hn, handleM_rejected_same_trees r m p item e he⟩

/-- **Start-up through the public API with the mutation visible.**  Any history of caller slices and `AddRoutes` /
`AddRoute` calls (aliasing model), `engine.bindRoutes` reading the groups through their references and running the
REAL in-place `Handle`: the error is the one of the `Except` model, and every request afterwards — also after a
rejected registration aborted the start-up — is served exactly as the `Except` model's router serves it (to which
`public_api_is_declarative_matcher` / `public_api_clauses` apply): a rejected registration replaced no dispatch
target. -/
theorem public_api_rejected_start_unchanged (ops : List ApiOp) (m p : String) :
    let a := ops.foldl Api.step {}
    let rM := (bindAllM {} a.regs).1
    let r := (bindAll {} a.regs).1
    (bindAllM {} a.regs).2 = (bindAll {} a.regs).2 ∧
    (∀ h ps, serve rM m p = .handler h ps ↔ serve r m p = .handler h ps) ∧
    (serve rM m p = .notFound ↔ serve r m p = .notFound) ∧
    (∀ al', serve rM m p = .notAllowed al' → ∃ al, serve r m p = .notAllowed al ∧ ∀ x, x ∈ al' ↔ x ∈ al) := by
  intro a rM r
  obtain ⟨h1, hnM, hn, hs⟩ := bindAllM_same_trees a.regs {} (by simp)
  obtain ⟨s1, s2, s3⟩ := serve_same_trees hn hnM hs m p
  exact ⟨h1, s1, s2, s3⟩

/-! non-vacuity: the class of seeded change C09-9 — a literal route, the root and a variable route re-registered with
another handler: rejected, the dispatch target stays -/
example : (handleM (runHandle {} [("GET", "/users/list", some 1)]) "GET" "/users/list/" (some 2)).2 = some (.tree .dupItem) ∧
    serve (handleM (runHandle {} [("GET", "/users/list", some 1)]) "GET" "/users/list/" (some 2)).1 "GET" "/users/list"
      = .handler 1 [] := by decide +kernel
example : (handleM (runHandle {} [("GET", "/", some 1)]) "GET" "//" (some 2)).2 = some (.tree .dupItem) ∧
    serve (handleM (runHandle {} [("GET", "/", some 1)]) "GET" "//" (some 2)).1 "GET" "/" = .handler 1 [] := by decide +kernel
example : (handleM (runHandle {} [("GET", "/u/:id", some 1)]) "GET" "/u/:id/" (some 2)).2 = some (.tree .dupItem) ∧
    serve (handleM (runHandle {} [("GET", "/u/:id", some 1)]) "GET" "/u/:id/" (some 2)).1 "GET" "/u/7"
      = .handler 1 [("id", "7")] := by decide +kernel
-- a rejected nil handler for a method that had no tree leaves an EMPTY tree behind: invisible
example : (handleM {} "PUT" "/a" none).1.trees.length = 1 ∧ serve (handleM {} "PUT" "/a" none).1 "GET" "/a" = .notFound := by
  decide +kernel

/-- **A failing `add` leaves nothing visible behind** (also `errDupSlash`, which may leave item-less nodes in the real
tree): the tree after the failing call is well-formed and stores, key for key, what it stored before — so every theorem
that is stated through `WF` and `lookupW` (`tree_search_raw`, `tree_search_raw_admissible`, `tree_add_accepts`, …)
speaks about the REAL tree after any history of successful and failing raw `Add` calls. -/
theorem addM_error_invisible (toks : List String) : ∀ (n : Node) (h : H) (e : AddErr), WF n →
    (addM toks n h).2 = some e →
    WF (addM toks n h).1 ∧ ∀ ks, lookupW ks (addM toks n h).1 = lookupW ks n := by
  intro n h e hwf he
  rcases addM_spec toks n h with ⟨n', _, h2⟩ | ⟨_, h2⟩ | ⟨_, _, h3⟩
  · rw [h2] at he; cases he
  · rw [h2]; exact ⟨hwf, fun _ => rfl⟩
  · exact h3 hwf

/-- **`Tree.Add` with the mutation visible**: the verdict of `treeAdd`, on success its tree, and after ANY failure
(`errNotFromRoot`, `errEmptyItem`, `errDupItem`, `errDupSlash`) a well-formed tree that stores exactly what it stored. -/
theorem treeAddM_spec (root : Node) (hwf : WF root) (route : String) (item : Option H) :
    (match (treeAddM root route item).2 with
     | none => treeAdd root route item = .ok (treeAddM root route item).1
     | some e => treeAdd root route item = .error e) ∧
    (∀ e, (treeAddM root route item).2 = some e →
      WF (treeAddM root route item).1 ∧ ∀ ks, lookupW ks (treeAddM root route item).1 = lookupW ks root) := by
  unfold treeAddM treeAdd
  cases hr : rooted route
  · simp [hwf]
  · cases item with
    | none => simp [hwf]
    | some h =>
      simp only [Bool.not_true, Bool.false_eq_true, if_false]
      exact ⟨addM_agrees (toksOf route) root h, fun e he => addM_error_invisible _ _ _ _ hwf he⟩

example : (treeAddM (newNode none) "/a//b" (some 1)).2 = some .dupSlash ∧
    (treeAddM (newNode none) "/a//b" (some 1)).1.lits.length = 1 ∧
    treeSearch (treeAddM (newNode none) "/a//b" (some 1)).1 "/a" = none := by decide +kernel

theorem bindAllM_append (a b : List Reg) : ∀ (r : Router),
    bindAllM r (a ++ b) = match (bindAllM r a).2 with
      | none => bindAllM (bindAllM r a).1 b
      | some e => ((bindAllM r a).1, some e) := by
  induction a with
  | nil => intro r; rfl
  | cons x a ih =>
    intro r
    obtain ⟨m, p, item⟩ := x
    simp only [List.cons_append, bindAllM]
    cases h : (handleM r m p item).2 with
    | none => simp only [ih]
    | some e => rfl

/-- the executable model the driver runs for `bind` / `start` lines — nested loops, in-place `Handle` — is the flat
mutation-visible one, which serves every request as the `Except` model does (`bindAllM_same_trees`). -/
theorem bindGroupsM_flat (gs : List (List Reg)) : ∀ (r : Router), bindGroupsM r gs = bindAllM r gs.flatten := by
  induction gs with
  | nil => intro r; rfl
  | cons g gs ih =>
    intro r
    simp only [bindGroupsM, List.flatten_cons, bindAllM_append]
    cases h : (bindAllM r g).2 with
    | none => simp only [ih]
    | some e => rfl

end GoZero.C09
