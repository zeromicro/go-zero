/-
C09 — the trie as a finite map (`WF`, `child`, `lookupW`) and one level of the search: `Finds` says when a search result is
right for a selection of the stored keys, `forEach_step` is one level of the depth-first search for any search below the
children, `Finds.congr` carries a result to a selection that agrees with the first on the stored keys.
-/
import GoZero.C09.Spec
namespace GoZero.C09

open Spec

/-- well-formed nodes: what Go maps guarantee (distinct keys) and what `getChildren` guarantees (':' keys in
`children[1]`, all others in `children[0]`). -/
inductive WF : Node → Prop
  | mk (i : Option H) (l v : List (String × Node)) :
      (l.map (·.1)).Nodup → (v.map (·.1)).Nodup →
      (∀ kc ∈ l, isVar kc.1 = false) → (∀ kc ∈ v, isVar kc.1 = true) →
      (∀ kc ∈ l, WF kc.2) → (∀ kc ∈ v, WF kc.2) → WF (.mk i l v)

theorem WF.lits_nodup {n : Node} (h : WF n) : (n.lits.map (·.1)).Nodup := by cases h; assumption
theorem WF.vars_nodup {n : Node} (h : WF n) : (n.vars.map (·.1)).Nodup := by cases h; assumption
theorem WF.lits_lit {n : Node} (h : WF n) : ∀ kc ∈ n.lits, isVar kc.1 = false := by cases h; assumption
theorem WF.vars_var {n : Node} (h : WF n) : ∀ kc ∈ n.vars, isVar kc.1 = true := by cases h; assumption
theorem WF.lits_wf {n : Node} (h : WF n) : ∀ kc ∈ n.lits, WF kc.2 := by cases h; assumption
theorem WF.vars_wf {n : Node} (h : WF n) : ∀ kc ∈ n.vars, WF kc.2 := by cases h; assumption

theorem wf_newNode (i : Option H) : WF (newNode i) := by
  refine WF.mk i [] [] ?_ ?_ ?_ ?_ ?_ ?_ <;> simp

/-- the child stored under exactly the key `k` (`getChildren(k)[k]`). -/
def child (n : Node) (k : String) : Option Node :=
  if isVar k then n.vars.lookup k else n.lits.lookup k

/-- the item stored under exactly the key list `ks` (uniform trie view: the node's own item is key `[]`). -/
def lookupW : List String → Node → Option H
  | [], n => n.item
  | k :: ks, n => (child n k).bind (lookupW ks)

theorem lookup_cons {β : Type} (k' k : String) (c : β) (l : List (String × β)) :
    List.lookup k' ((k, c) :: l) = if k' = k then some c else l.lookup k' := by
  simp only [List.lookup]
  by_cases h : k' = k
  · simp [h]
  · rw [beq_false_of_ne h, if_neg h]

theorem not_mem_of_nodup_mid {l1 l2 : List (String × Node)} {k : String} {c : Node}
    (h : ((l1 ++ (k, c) :: l2).map (·.1)).Nodup) : k ∉ l1.map (·.1) := by
  simp only [List.map_append, List.map_cons, List.nodup_append, List.mem_cons] at h
  exact fun hm => h.2.2 k hm k (Or.inl rfl) rfl

theorem lookup_of_mem {l : List (String × Node)} (hn : (l.map (·.1)).Nodup) {k : String} {c : Node}
    (hm : (k, c) ∈ l) : l.lookup k = some c := by
  obtain ⟨l1, l2, rfl⟩ := List.append_of_mem hm
  exact List.lookup_eq_some_iff.mpr ⟨l1, l2, rfl, fun p hp =>
    bne_iff_ne.mpr fun e => not_mem_of_nodup_mid hn (List.mem_map.mpr ⟨p, hp, e.symm⟩)⟩

theorem mem_of_lookup {l : List (String × Node)} {k : String} {c : Node}
    (h : l.lookup k = some c) : (k, c) ∈ l := by
  obtain ⟨l1, l2, rfl, _⟩ := List.lookup_eq_some_iff.mp h
  exact List.mem_append_right _ (List.mem_cons_self ..)

theorem child_of_mem_lits {n : Node} (h : WF n) {k : String} {c : Node} (hm : (k, c) ∈ n.lits) :
    child n k = some c := by
  have := h.lits_lit _ hm
  simp only at this
  simp [child, this, lookup_of_mem h.lits_nodup hm]

theorem child_of_mem_vars {n : Node} (h : WF n) {k : String} {c : Node} (hm : (k, c) ∈ n.vars) :
    child n k = some c := by
  have := h.vars_var _ hm
  simp only at this
  simp [child, this, lookup_of_mem h.vars_nodup hm]

theorem child_mem {n : Node} {k : String} {c : Node} (h : child n k = some c) :
    (isVar k = false ∧ (k, c) ∈ n.lits) ∨ (isVar k = true ∧ (k, c) ∈ n.vars) := by
  unfold child at h
  split at h
  · rename_i hv; exact Or.inr ⟨hv, mem_of_lookup h⟩
  · rename_i hv; exact Or.inl ⟨by simpa using hv, mem_of_lookup h⟩

theorem child_wf {n : Node} (h : WF n) {k : String} {c : Node} (hc : child n k = some c) : WF c := by
  rcases child_mem hc with ⟨_, hm⟩ | ⟨_, hm⟩
  · exact h.lits_wf _ hm
  · exact h.vars_wf _ hm

theorem matchesP_cons_iff (ks toks : List String) (t : String) :
    matchesP ks (t :: toks) = true ↔ ∃ k ks', ks = k :: ks' ∧ matchTok k t = true ∧ matchesP ks' toks = true := by
  cases ks with
  | nil => simp [matchesP]
  | cons k ks' =>
    simp only [matchesP, Bool.and_eq_true]
    constructor
    · intro h; exact ⟨k, ks', rfl, h⟩
    · rintro ⟨k1, ks1, he, h⟩
      cases he; exact h

theorem matchesP_nil_iff (ks : List String) : matchesP ks [] = true ↔ ks = [] := by
  cases ks <;> simp [matchesP]

theorem matchTok_lit {k t : String} (hv : isVar k = false) : matchTok k t = true ↔ k = t := by
  simp [matchTok, hv]

theorem matchTok_var {k : String} (t : String) (hv : isVar k = true) : matchTok k t = true := by
  simp [matchTok, hv]

/-- A search result `res` on node `n` is right for the stored keys singled out by `M`: a hit is the item of a stored
key in `M`, with that key's bindings against `toks` (in `addParam` order, i.e. reversed route order), which no stored
key in `M` beats; a miss means that no stored key is in `M`. -/
def Finds (res : Option (H × Params)) (M : List String → Prop) (toks : List String) (n : Node) : Prop :=
  (∀ h ps, res = some (h, ps) →
    ∃ ks, lookupW ks n = some h ∧ M ks ∧ ps = (binds ks toks).reverse ∧
      ∀ ks' h', lookupW ks' n = some h' → M ks' → prefers ks ks' = true) ∧
  (res = none → ∀ ks h, lookupW ks n = some h → ¬ M ks)

theorem hit_binds (k t : String) (h : H) (ks ts : List String) :
    hit k t (h, (binds ks ts).reverse) = (h, (binds (k :: ks) (t :: ts)).reverse) := by
  unfold hit
  cases hv : isVar k <;> simp [binds, hv]

theorem forEach_eq (n : Node) (p : String → Node → Option (H × Params)) :
    forEach n p = (n.lits.findSome? fun kc => p kc.1 kc.2).or (n.vars.findSome? fun kc => p kc.1 kc.2) := by
  unfold forEach
  cases n.lits.findSome? fun kc => p kc.1 kc.2 <;> rfl

theorem forEach_some {n : Node} {p : String → Node → Option (H × Params)} {r : H × Params}
    (h : forEach n p = some r) :
    (∃ kc ∈ n.lits, p kc.1 kc.2 = some r) ∨
    ((∀ kc ∈ n.lits, p kc.1 kc.2 = none) ∧ ∃ kc ∈ n.vars, p kc.1 kc.2 = some r) := by
  rw [forEach_eq, Option.or_eq_some_iff] at h
  rcases h with h | ⟨hl, h⟩
  · exact Or.inl (List.exists_of_findSome?_eq_some h)
  · exact Or.inr ⟨by simpa [List.findSome?_eq_none_iff] using hl, List.exists_of_findSome?_eq_some h⟩

theorem forEach_none {n : Node} {p : String → Node → Option (H × Params)}
    (h : forEach n p = none) :
    (∀ kc ∈ n.lits, p kc.1 kc.2 = none) ∧ (∀ kc ∈ n.vars, p kc.1 kc.2 = none) := by
  rw [forEach_eq, Option.or_eq_none_iff] at h
  simpa [List.findSome?_eq_none_iff] using h

theorem forEach_some_child {n : Node} (hwf : WF n) {p : String → Node → Option (H × Params)} {r : H × Params}
    (h : forEach n p = some r) :
    ∃ k c, child n k = some c ∧ p k c = some r ∧
      (isVar k = true → ∀ k' c', isVar k' = false → child n k' = some c' → p k' c' = none) := by
  rcases forEach_some h with ⟨⟨k, c⟩, hm, hp⟩ | ⟨hl, ⟨k, c⟩, hm, hp⟩
  · exact ⟨k, c, child_of_mem_lits hwf hm, hp, fun hv => by rw [hwf.lits_lit _ hm] at hv; cases hv⟩
  · refine ⟨k, c, child_of_mem_vars hwf hm, hp, fun _ k' c' hv' hc' => ?_⟩
    rcases child_mem hc' with ⟨_, hmem⟩ | ⟨hv'', _⟩
    · exact hl (k', c') hmem
    · rw [hv'] at hv''; cases hv''

theorem forEach_none_child {n : Node} {p : String → Node → Option (H × Params)} (h : forEach n p = none)
    {k : String} {c : Node} (hc : child n k = some c) : p k c = none := by
  rcases child_mem hc with ⟨_, hmem⟩ | ⟨_, hmem⟩
  · exact (forEach_none h).1 (k, c) hmem
  · exact (forEach_none h).2 (k, c) hmem

/-- **One level of the search (any iteration order).**  If the search run below every child is right for the keys in
`M`, then `forEach` with the callback "the key matches `t` and the search below succeeds" is right for the keys
`k :: ks` with `k` matching `t` and `ks` in `M`.  Not beaten: literal children are tried first, so a hit below a
variable child means that every literal child failed, and a child that failed holds no key in `M`. -/
theorem forEach_step {S : Node → Option (H × Params)} {M M' : List String → Prop} {t : String}
    {rest : List String} {n : Node} (hwf : WF n)
    (hM : ∀ ks', M' ks' ↔ ∃ k ks, ks' = k :: ks ∧ matchTok k t = true ∧ M ks)
    (hS : ∀ k c, child n k = some c → Finds (S c) M rest c) :
    Finds (forEach n fun k c => if matchTok k t then (S c).map (hit k t) else none) M' (t :: rest) n := by
  have decomp : ∀ ks' h', lookupW ks' n = some h' → M' ks' →
      ∃ k' ks0' c', ks' = k' :: ks0' ∧ child n k' = some c' ∧ lookupW ks0' c' = some h' ∧
        matchTok k' t = true ∧ M ks0' := by
    intro ks' h' hl hm
    obtain ⟨k', ks0', rfl, hmt, hmr⟩ := (hM _).mp hm
    simp only [lookupW, Option.bind_eq_some_iff] at hl
    obtain ⟨c', hc', hl'⟩ := hl
    exact ⟨k', ks0', c', rfl, hc', hl', hmt, hmr⟩
  have dead : ∀ k' c', child n k' = some c' →
      (if matchTok k' t then (S c').map (hit k' t) else none) = none →
      matchTok k' t = true → ∀ ks0' h', lookupW ks0' c' = some h' → ¬ M ks0' := by
    intro k' c' hc' hp hmt
    simp only [hmt, if_true, Option.map_eq_none_iff] at hp
    exact (hS k' c' hc').2 hp
  constructor
  · intro h ps hs
    obtain ⟨k, c, hchild, hp, hlits⟩ := forEach_some_child hwf hs
    split at hp
    · rename_i hmt
      simp only [Option.map_eq_some_iff] at hp
      obtain ⟨⟨h0, ps0⟩, hn0, he⟩ := hp
      obtain ⟨ks0, hl0, hm0, hps0, hpref0⟩ := (hS k c hchild).1 h0 ps0 hn0
      rw [hps0, hit_binds, Prod.mk.injEq] at he
      obtain ⟨rfl, rfl⟩ := he
      refine ⟨k :: ks0, by simp [lookupW, hchild, hl0], (hM _).mpr ⟨k, ks0, rfl, hmt, hm0⟩, rfl, ?_⟩
      intro ks' h' hl' hm'
      obtain ⟨k', ks0', c', rfl, hc', hl0', hmt', hmr'⟩ := decomp ks' h' hl' hm'
      by_cases hk : k = k'
      · subst hk
        rw [hchild] at hc'
        cases hc'
        simp [prefers, hpref0 ks0' h' hl0' hmr']
      · cases hv : isVar k with
        | false => simp [prefers, hk, hv]
        | true =>
          cases hv' : isVar k' with
          | false => exact absurd hmr' (dead k' c' hc' (hlits hv k' c' hv' hc') hmt' ks0' h' hl0')
          | true => simp [prefers, hk, hv, hv']
    · cases hp
  · intro hn ks h hl hm
    obtain ⟨k', ks0', c', rfl, hc', hl0', hmt', hmr'⟩ := decomp ks h hl hm
    exact dead k' c' hc' (forEach_none_child hn hc') hmt' ks0' h hl0' hmr'

theorem finds_item (n : Node) : Finds (n.item.map fun h => (h, [])) (fun ks => matchesP ks [] = true) [] n := by
  constructor
  · intro h ps hs
    simp only [Option.map_eq_some_iff, Prod.mk.injEq] at hs
    obtain ⟨_, hi, rfl, rfl⟩ := hs
    exact ⟨[], hi, rfl, rfl, fun ks' _ _ _ => by cases ks' <;> rfl⟩
  · intro hn ks h hl hm
    rw [matchesP_nil_iff] at hm
    subst hm
    simp only [Option.map_eq_none_iff] at hn
    simp [lookupW, hn] at hl

/-- a search result that is right for the keys in `M` is right for the keys in `M'` when the two select the same STORED keys. -/
theorem Finds.congr {res : Option (H × Params)} {M M' : List String → Prop} {toks : List String} {n : Node}
    (hF : Finds res M toks n) (hM : ∀ ks h, lookupW ks n = some h → (M ks ↔ M' ks)) : Finds res M' toks n := by
  refine ⟨fun h ps hs => ?_, fun hn ks h hl hm => hF.2 hn ks h hl ((hM ks h hl).mpr hm)⟩
  obtain ⟨ks, hl, hm, hps, hpref⟩ := hF.1 h ps hs
  exact ⟨ks, hl, (hM ks h hl).mp hm, hps, fun ks' h' hl' hm' => hpref ks' h' hl' ((hM ks' h' hl').mpr hm')⟩

end GoZero.C09
