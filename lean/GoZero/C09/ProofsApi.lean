/-
C09 — helper lemmas for PropsApi: the aliasing model `Api` reads as the pure model (`Reads`), step by step.
-/
import GoZero.C09.Model
namespace GoZero.C09

/-- caller slices as written, and one `Group` (options + routes as written) per `AddRoutes` / `AddRoute` call. -/
def pureStep (st : List (List Reg) × List Group) : ApiOp → List (List Reg) × List Group
  | .slice rs => (st.1 ++ [rs], st.2)
  | .add k opts => (st.1, st.2 ++ [{ opts := opts, routes := st.1.getD k [] }])
  | .addOne r opts => (st.1, st.2 ++ [{ opts := opts, routes := [r] }])

def pureRun (ops : List ApiOp) : List (List Reg) × List Group := ops.foldl pureStep ([], [])

def sliceOf : ApiOp → Option (List Reg)
  | .slice rs => some rs
  | _ => none

def refValid (n : Nat) : RoutesRef → Prop
  | .caller k => k < n
  | .own _ => True

theorem resolve_aApply (heap : List (List Reg)) (f : RoutesRef × Settings) (o : RouteOpt) :
    resolve heap (aApply heap f o) = (resolve heap f).apply o := by
  cases o <;> rfl

theorem resolve_foldl (heap : List (List Reg)) (opts : List RouteOpt) (f : RoutesRef × Settings) :
    resolve heap (opts.foldl (aApply heap) f) = opts.foldl Featured.apply (resolve heap f) := by
  induction opts generalizing f with
  | nil => rfl
  | cons o os ih => simp only [List.foldl_cons]; rw [ih, resolve_aApply]

theorem aApply_valid (heap : List (List Reg)) (f : RoutesRef × Settings) (o : RouteOpt)
    (h : refValid heap.length f.1) : refValid heap.length (aApply heap f o).1 := by
  cases o <;> first | exact h | trivial

theorem foldl_valid (heap : List (List Reg)) (opts : List RouteOpt) (f : RoutesRef × Settings)
    (h : refValid heap.length f.1) : refValid heap.length (opts.foldl (aApply heap) f).1 :=
  List.foldlRecOn (motive := fun f => refValid heap.length f.1) opts (aApply heap) h fun f h o _ => aApply_valid heap f o h

theorem deref_append (heap : List (List Reg)) (x : List Reg) (ref : RoutesRef) (h : refValid heap.length ref) :
    deref (heap ++ [x]) ref = deref heap ref := by
  cases ref with
  | own l => rfl
  | caller k =>
    simp only [refValid] at h
    simp only [deref, List.getD_eq_getElem?_getD, List.getElem?_append_left h]

theorem resolve_append (heap : List (List Reg)) (x : List Reg) (f : RoutesRef × Settings)
    (h : refValid heap.length f.1) : resolve (heap ++ [x]) f = resolve heap f := by
  unfold resolve; rw [deref_append heap x f.1 h]

/-- every group of the engine refers to a slice the caller really made. -/
def Api.Valid (a : Api) : Prop := ∀ f ∈ a.frs, refValid a.heap.length f.1

/-- the aliasing state `a` reads as the pure state `st`. -/
def Reads (a : Api) (st : List (List Reg) × List Group) : Prop :=
  a.Valid ∧ a.heap = st.1 ∧ a.frs.map (resolve a.heap) = st.2.map Group.featured

theorem step_valid (a : Api) (hv : a.Valid) (op : ApiOp) : (a.step op).Valid := by
  have snoc : ∀ f : RoutesRef × Settings, refValid a.heap.length f.1 →
      ∀ g ∈ a.frs ++ [f], refValid a.heap.length g.1 := by
    intro f hf g hg
    rcases List.mem_append.mp hg with h1 | h1
    · exact hv g h1
    · rw [List.mem_singleton.mp h1]; exact hf
  cases op with
  | slice rs =>
    intro f hfm
    have := hv f hfm
    show refValid (a.heap ++ [rs]).length f.1
    cases hr : f.1 with
    | own l => trivial
    | caller k => rw [hr] at this; simp only [refValid, List.length_append, List.length_cons, List.length_nil] at *; omega
  | add k opts =>
    refine snoc _ (foldl_valid a.heap opts _ ?_)
    show refValid a.heap.length (if k < a.heap.length then RoutesRef.caller k else RoutesRef.own [])
    split
    · assumption
    · trivial
  | addOne r opts => exact snoc _ (foldl_valid a.heap opts _ trivial)

/-- **one call, seen through the references**: the groups registered earlier read as before, and the only new
group is the options applied to a copy of the routes as the caller wrote them. -/
theorem step_frame (a : Api) (hv : a.Valid) (op : ApiOp) :
    (a.step op).frs.map (resolve (a.step op).heap) =
      a.frs.map (resolve a.heap) ++ (pureStep (a.heap, []) op).2.map Group.featured := by
  cases op with
  | slice rs =>
    show a.frs.map (resolve (a.heap ++ [rs])) = a.frs.map (resolve a.heap) ++ [].map Group.featured
    rw [List.map_nil, List.append_nil]
    exact List.map_congr_left fun f hfm => resolve_append a.heap rs f (hv f hfm)
  | add k opts =>
    show (a.frs ++ [opts.foldl (aApply a.heap) (if k < a.heap.length then RoutesRef.caller k else RoutesRef.own [], {})]).map (resolve a.heap) = _
    rw [List.map_append, List.map_singleton, resolve_foldl]
    congr 2
    unfold Group.featured resolve
    congr 2
    show deref a.heap (if k < a.heap.length then RoutesRef.caller k else RoutesRef.own []) = a.heap.getD k []
    split
    · rfl
    · simp only [deref, List.getD_eq_getElem?_getD]
      rw [List.getElem?_eq_none (by omega)]; rfl
  | addOne r opts =>
    show (a.frs ++ [opts.foldl (aApply a.heap) (RoutesRef.own [r], {})]).map (resolve a.heap) = _
    rw [List.map_append, List.map_singleton, resolve_foldl]
    rfl

theorem reads_step (a : Api) (st : List (List Reg) × List Group) (h : Reads a st) (op : ApiOp) :
    Reads (a.step op) (pureStep st op) := by
  obtain ⟨hv, hh, hf⟩ := h
  refine ⟨step_valid a hv op, ?_, ?_⟩
  · cases op <;> simp [Api.step, pureStep, hh]
  · rw [step_frame a hv op, hf, hh]
    cases op <;> simp [pureStep]

theorem reads_run (ops : List ApiOp) : ∀ (a : Api) (st : List (List Reg) × List Group), Reads a st →
    Reads (ops.foldl Api.step a) (ops.foldl pureStep st) := by
  induction ops with
  | nil => intro a st h; exact h
  | cons op ops ih => intro a st h; exact ih _ _ (reads_step a st h op)

theorem pureRun_slices (ops : List ApiOp) : ∀ (st : List (List Reg) × List Group),
    (ops.foldl pureStep st).1 = st.1 ++ ops.filterMap sliceOf := by
  induction ops with
  | nil => intro st; simp
  | cons op ops ih =>
    intro st
    simp only [List.foldl_cons]
    rw [ih]
    cases op <;> simp [pureStep, sliceOf, List.filterMap_cons]

theorem regs_of_reads {a : Api} {st : List (List Reg) × List Group} (h : Reads a st) :
    a.regs = st.2.flatMap Group.regs := by
  obtain ⟨_, _, hf⟩ := h
  have h1 : a.regs = (a.frs.map (resolve a.heap)).flatMap (·.routes) := by
    unfold Api.regs; rw [List.flatMap_map]; rfl
  have h2 : st.2.flatMap Group.regs = (st.2.map Group.featured).flatMap (·.routes) := by
    rw [List.flatMap_map]; rfl
  rw [h1, h2, hf]

end GoZero.C09
