/-
C09 — `pathvar.Vars`: the map built from the `addParam` calls (`paramMap`; a later call with the same name overwrites).
With pairwise distinct names it is the list of calls; in general it holds, for every name, the value of the last call,
and only pairs that were added.
-/
import GoZero.C09.Proofs
namespace GoZero.C09

theorem paramMap_foldl (ps acc : Params)
    (hd : (ps.map (·.1)).Nodup) (hdis : ∀ kv ∈ ps, ∀ a ∈ acc, a.1 ≠ kv.1) :
    ps.foldl (fun m kv => (m.filter (·.1 != kv.1)) ++ [kv]) acc = acc ++ ps := by
  induction ps generalizing acc with
  | nil => simp
  | cons kv rest ih =>
    simp only [List.map_cons, List.nodup_cons] at hd
    simp only [List.foldl_cons]
    have hf : acc.filter (·.1 != kv.1) = acc := by
      rw [List.filter_eq_self]
      intro a ha
      simpa using hdis kv (by simp) a ha
    rw [hf, ih (acc ++ [kv]) hd.2]
    · simp
    · intro kv' hkv' a ha
      simp only [List.mem_append, List.mem_singleton] at ha
      rcases ha with ha | rfl
      · exact hdis kv' (List.mem_cons_of_mem _ hkv') a ha
      · intro e
        exact hd.1 (List.mem_map.mpr ⟨kv', hkv', e.symm⟩)

theorem nodup_reverse {α} (l : List α) (h : l.Nodup) : l.reverse.Nodup := by
  unfold List.Nodup at *
  rw [List.pairwise_reverse]
  exact h.imp Ne.symm

theorem paramMap_of_nodup (ps : Params) (hd : (ps.map (·.1)).Nodup) : paramMap ps = ps := by
  unfold paramMap
  rw [paramMap_foldl ps [] hd (by intro _ _ a ha; cases ha)]
  simp

theorem lookup_filter_ne (acc : Params) (k k' : String) (h : k ≠ k') :
    (acc.filter (·.1 != k')).lookup k = acc.lookup k := by
  induction acc with
  | nil => rfl
  | cons a tl ih =>
    obtain ⟨a1, a2⟩ := a
    by_cases e : a1 = k'
    · subst e; simp [lookup_cons, h, ih]
    · simp [e, lookup_cons, ih]

theorem lookup_filter_self (acc : Params) (k : String) : (acc.filter (·.1 != k)).lookup k = none := by
  rw [List.lookup_eq_none_iff]
  intro p hp
  simpa [ne_comm] using (List.mem_filter.mp hp).2

theorem paramMap_lookup_aux (ps acc : Params) (k : String) :
    (ps.foldl (fun m kv => (m.filter (·.1 != kv.1)) ++ [kv]) acc).lookup k
      = (ps.reverse.lookup k).or (acc.lookup k) := by
  induction ps generalizing acc with
  | nil => simp
  | cons kv rest ih =>
    obtain ⟨k1, v1⟩ := kv
    simp only [List.foldl_cons, ih, List.reverse_cons, List.lookup_append, Option.or_assoc]
    congr 1
    by_cases e : k = k1
    · subst e; simp [lookup_filter_self]
    · simp [lookup_filter_ne acc k k1 e, e]

theorem paramMap_lookup (ps : Params) (k : String) : (paramMap ps).lookup k = ps.reverse.lookup k := by
  unfold paramMap
  rw [paramMap_lookup_aux]
  simp

theorem mem_paramMap_foldl (ps acc : Params) (kv : String × String)
    (h : kv ∈ ps.foldl (fun m kv => (m.filter (·.1 != kv.1)) ++ [kv]) acc) : kv ∈ acc ∨ kv ∈ ps := by
  induction ps generalizing acc with
  | nil => exact Or.inl (by simpa using h)
  | cons a rest ih =>
    simp only [List.foldl_cons] at h
    rcases ih _ h with h1 | h1
    · simp only [List.mem_append, List.mem_singleton] at h1
      rcases h1 with h1 | h1
      · exact Or.inl (List.mem_filter.mp h1).1
      · exact Or.inr (by simp [h1])
    · exact Or.inr (List.mem_cons_of_mem _ h1)

theorem mem_paramMap {ps : Params} {kv : String × String} (h : kv ∈ paramMap ps) : kv ∈ ps :=
  (mem_paramMap_foldl ps [] kv h).resolve_left List.not_mem_nil

theorem paramMap_eq_nil_iff (ps : Params) : paramMap ps = [] ↔ ps = [] := by
  constructor
  · intro h
    cases ps with
    | nil => rfl
    | cons kv ps =>
      -- the name of the first call is a name of the map
      have hl := paramMap_lookup (kv :: ps) kv.1
      rw [h, List.lookup_nil] at hl
      simpa using List.lookup_eq_none_iff.mp hl.symm kv
  · rintro rfl; rfl

end GoZero.C09
