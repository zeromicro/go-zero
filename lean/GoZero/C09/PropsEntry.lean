/-
C09 — property theorems: the entry points around the core: the nested loops of `engine.bindRoutes` and `Server.Start()`,
`pathvar` (what the handler sees), the chain `bindRoute` builds, the driver's enumeration `nextAll`, API calls that panic,
the router wrappers (`WithCors*`, `WithFileServer`), the status of the engine's not-found answer.
-/
import GoZero.C09.PropsApi
import GoZero.C09.Driver
namespace GoZero.C09

open Spec

theorem bindAll_append (a b : List Reg) : ∀ (r : Router),
    bindAll r (a ++ b) = match (bindAll r a).2 with
      | none => bindAll (bindAll r a).1 b
      | some e => ((bindAll r a).1, some e) := by
  induction a with
  | nil => intro r; rfl
  | cons x a ih =>
    intro r
    obtain ⟨m, p, item⟩ := x
    simp only [List.cons_append, bindAll]
    cases h : handle r m p item with
    | ok r' => simp only [ih r']
    | error e => rfl

/-- **The nested loops are the flat list.**  `bindRoutes` (outer loop over the groups, abort on the first group
that fails) over `bindFeaturedRoutes` (inner loop over the routes of the group, abort on the first route that
fails) registers exactly what the flat loop over all routes in `AddRoutes` order registers, and reports the same
error: the first rejected route ends the start-up wherever it sits. -/
theorem bind_nested_is_flat (gs : List (List Reg)) : ∀ (r : Router), bindGroups r gs = bindAll r gs.flatten := by
  induction gs with
  | nil => intro r; rfl
  | cons g gs ih =>
    intro r
    simp only [bindGroups, List.flatten_cons, bindAll_append]
    cases h : (bindAll r g).2 with
    | none => simp only [ih]
    | some e => rfl

-- a duplicate in the FIRST group, followed by valid routes in the same and in a later group: the start-up error is
-- the duplicate's, nothing after it is bound
example : (bindGroups {} [[("GET", "/a", some 1), ("GET", "/a/", some 2), ("GET", "/b", some 3)], [("GET", "/c", some 4)]]).2
    = some (.tree .dupItem) := by decide +kernel
example : serve (bindGroups {} [[("GET", "/a", some 1), ("GET", "/a/", some 2), ("GET", "/b", some 3)], [("GET", "/c", some 4)]]).1
    "GET" "/c" = .notFound := by decide +kernel

theorem Server.groupRegs_flatten (s : Server) : s.groupRegs.flatten = s.regs := by
  simp only [Server.groupRegs, Server.regs, List.flatMap_def]

theorem Api.groupRegs_flatten (a : Api) : a.groupRegs.flatten = a.regs := by
  simp only [Api.groupRegs, Api.regs, List.flatMap_def]

theorem start_is_bindRoutes (s : Server) :
    s.start.1 = s.bindRoutes.1 ∧
    s.start.2 = (match s.bindRoutes.2 with | some e => StartResult.panics e | none => .listens) := by
  simp only [Server.start, Server.bindRoutes, bind_nested_is_flat, Server.groupRegs_flatten, true_and]
  cases (bindAll s.router.core s.regs).2 <;> rfl

/-- **`Server.Start()` rejects the registration, for every configuration.**  `NewServer` / `MustNewServer` with ANY
run options (`WithNotFoundHandler`, `WithNotAllowedHandler`, `WithRouter`, `WithChain`, `WithCors*`, `WithFileServer`
in any number and order), ANY groups with
any route options, then `Start()`: it reaches the listener iff the registration rule accepts every route; otherwise
it panics with the verdict of the FIRST rejected route (same method + cleaned pattern twice, unsupported method, no
leading '/'), the routes before that one — and no others — are in the router. -/
theorem start_rejects_iff (opts : List RunOpt) (groups : List Group) :
    let s := groups.foldl Server.addRoutes (mustNewServer opts)
    let tbl := (bindTable [] s.regs).1
    Rep s.start.1.router.core tbl ∧ TblOK tbl ∧
    (s.start.2 = .listens ↔ (bindTable [] s.regs).2 = .ok) ∧
    (∀ e, s.start.2 = .panics e → verdictOf (.error e) = (bindTable [] s.regs).2 ∧ (bindTable [] s.regs).2 ≠ .ok ∧
      ∃ pre reg post, s.regs = pre ++ reg :: post ∧ (bindTable [] pre).2 = .ok ∧
        (register (bindTable [] pre).1 reg.1 reg.2.1 reg.2.2).1 = (bindTable [] s.regs).2 ∧
        (bindTable [] s.regs).1 = (bindTable [] pre).1) := by
  intro s tbl
  obtain ⟨hb, hb2⟩ : s.bindRoutes.1.router.core = (bindAll {} s.regs).1 ∧ s.bindRoutes.2 = (bindAll {} s.regs).2 :=
    server_bindRoutes opts groups
  obtain ⟨h1, h2, h3'⟩ := bindAll_empty s.regs
  obtain ⟨e1, e2⟩ := start_is_bindRoutes s
  rw [← hb2] at h3'
  refine ⟨by rw [e1, hb]; exact h1, h2, ?_⟩
  rw [e2]
  cases hb : s.bindRoutes.2 with
  | none =>
    rw [hb] at h3'
    exact ⟨⟨fun _ => h3'.symm, fun _ => rfl⟩, nofun⟩
  | some e' =>
    rw [hb] at h3'
    have hne : (bindTable [] s.regs).2 ≠ .ok := h3' ▸ verdictOf_error_ne_ok e'
    refine ⟨⟨nofun, fun h => absurd h hne⟩, ?_⟩
    intro e he
    cases he
    obtain ⟨pre, reg, post, hs, hp, ht, hr⟩ := bindTable_first_rejection s.regs [] _ rfl hne
    exact ⟨h3', hne, pre, reg, post, hs, hp, hr, ht⟩

theorem mustNewServer_is_newServer : mustNewServer = newServer := rfl

theorem foldl_apply_router (l : List RunOpt) : ∀ (s s' : Server), s.router = s'.router →
    (l.foldl Server.apply s).router = (l.foldl Server.apply s').router := by
  induction l with
  | nil => intro s s' h; exact h
  | cons o l ih =>
    intro s s' h
    simp only [List.foldl_cons]
    apply ih
    cases o <;> simp only [Server.apply, h]

/-- **`WithRouter` resets the router.**  Whatever stands before the last `WithRouter` in the option list — the
engine's not-found wrapper that `NewServer` installs first included — is gone: the router is the one the options
after it build on a fresh router. -/
theorem newServer_withRouter (pre post : List RunOpt) :
    (newServer (pre ++ RunOpt.router :: post)).router = (post.foldl Server.apply {}).router := by
  unfold newServer
  rw [← List.cons_append, List.foldl_append, List.foldl_cons]
  exact foldl_apply_router post _ _ rfl

example : (newServer [.notFound (some 7), .router]).router.notFound = none := by decide
example : (newServer [.router, .notFound (some 7)]).router.notFound = some (.engine (some 7)) := by decide

/-- **`Start()` through the public API with the aliasing the code has**: any history of caller slices and
`AddRoutes` / `AddRoute` calls; `engine.start` reads the groups through their references, nested loops; the result is
the verdict of the registration rule on "every call's options applied to a copy of the routes as written". -/
theorem public_api_start (ops : List ApiOp) :
    let a := ops.foldl Api.step {}
    let written := (pureRun ops).2.flatMap Group.regs
    bindGroups {} a.groupRegs = bindAll {} written ∧
    bindVerdict (bindGroups {} a.groupRegs).2 = (bindTable [] written).2 ∧
    Rep (bindGroups {} a.groupRegs).1 (bindTable [] written).1 := by
  intro a written
  have h2' : a.regs = written := (api_history_is_pure ops).2.2
  obtain ⟨r1, _, r3⟩ := bindAll_empty written
  have e : bindGroups {} a.groupRegs = bindAll {} written := by
    rw [bind_nested_is_flat, Api.groupRegs_flatten, h2']
  exact ⟨e, by rw [e]; exact r3, by rw [e]; exact r1⟩

theorem vars_withVars (c : Ctx) (m : List (String × String)) : (c.withVars m).vars = some m := by
  simp [Ctx.withVars, Ctx.vars]

/-- a context value stored under any OTHER key (a middleware's `context.WithValue`) does not hide the variables. -/
theorem vars_skips_other_keys (c : Ctx) (k : String) (v : CtxVal) (hk : k ≠ pathVarsKey) :
    Ctx.vars ((k, v) :: c) = c.vars := by
  have : (pathVarsKey == k) = false := by
    rw [beq_eq_false_iff_ne]; exact fun h => hk h.symm
  simp only [Ctx.vars, List.lookup, this]

/-- **What the handler sees.**  `ServeHTTP` replaces the variables in the context by the route's when the route
bound some; a route that binds nothing leaves the context as it came. -/
theorem delivered_eq (c : Ctx) (ps : Params) :
    delivered c ps = if ps = [] then c.vars.getD [] else paramMap ps := by
  unfold delivered handlerCtx
  by_cases h : ps = []
  · subst h; simp [paramMap]
  · have hl : (paramMap ps).length > 0 := List.length_pos_iff.mpr (mt (paramMap_eq_nil_iff ps).mp h)
    simp only [hl, if_true, vars_withVars, Option.getD_some, h, if_false]

/-- **A request as net/http delivers it** (no path variables in its context — also when middlewares stored other
values): the handler sees exactly the segments the route bound (`vars_are_bound_segments` says which). -/
theorem delivered_fresh (c : Ctx) (hc : c.vars = none) (ps : Params) : delivered c ps = paramMap ps := by
  rw [delivered_eq]
  by_cases h : ps = []
  · subst h; simp [hc, paramMap]
  · simp only [h, if_false]

/-- witness (as implemented): a request that arrives with variables of an outer router keeps them on a route
without variables — outside the property's quantifier (see `assumptions`), accepted by `monitorObsCtx`. -/
theorem outer_vars_survive_literal_route :
    delivered (Ctx.withVars [] [("x", "outer")]) [] = [("x", "outer")] ∧
    delivered (Ctx.withVars [] [("x", "outer")]) [("id", "7")] = [("id", "7")] := by decide

/-- the canonical observation when the request arrived with context `c`. -/
def obsOfCtx (c : Ctx) : Response → Obs
  | .route h ps => .hit h (delivered c ps)
  | r => obsOf r

theorem sameSet_refl (l : List (String × String)) : sameSet l l = true := by
  simp [sameSet, List.all_eq_true]

/-- **Soundness of `monitorObsCtx`.**  On any router that stores the table, any custom handlers, any incoming
context: what the model does — the route handler called with `handlerCtx c ps` — is accepted. -/
theorem monitor_ctx_sound {pr : PatRouter} {tbl : Table} (hrep : Rep pr.core tbl) (hok : TblOK tbl) (m p : String)
    (c : Ctx) :
    monitorObsCtx tbl (oneVarPerPosition tbl) (customOf pr) m
      (if rooted p then some (cleanToks p) else none) (c.vars.getD []) (obsOfCtx c (pr.serveHTTP m p)) = .ok := by
  have hs := monitor_sound hrep hok m p
  generalize (if rooted p = true then some (cleanToks p) else none) = toks at hs ⊢
  cases hresp : pr.serveHTTP m p with
  | route h ps =>
    rw [hresp] at hs
    simp only [obsOf] at hs
    simp only [obsOfCtx, monitorObsCtx, delivered_eq]
    by_cases hps : ps = []
    · subst hps
      simp only [paramMap, List.foldl_nil] at hs
      simp only [if_true]
      -- without outer variables this is `hs`; with them the second rule of the monitor applies, which is `hs` again
      cases c.vars.getD [] with
      | nil => rw [if_pos hs]
      | cons a b => simp [sameSet_refl, hs]
    · simp only [hps, if_false, hs, if_true]
  | customNotAllowed h | defaultNotAllowed a | defaultNotFound =>
    -- nothing is delivered: the two monitors are the same function on these observations
    rw [hresp] at hs; simpa only [obsOfCtx, monitorObsCtx, obsOf] using hs
  | customNotFound nf =>
    rw [hresp] at hs
    simp only [obsOfCtx, obsOf] at hs ⊢
    generalize nf.user = u at hs ⊢
    cases u <;> simpa only [monitorObsCtx] using hs

-- non-vacuity: a literal route and a variable route, a request with outer variables
example : monitorObsCtx [⟨"GET", ["a"], 1⟩, ⟨"GET", [":id"], 2⟩] true {} "GET" (some ["a"]) [("x", "outer")]
    (.hit 1 [("x", "outer")]) = .ok := by decide
example : monitorObsCtx [⟨"GET", ["a"], 1⟩, ⟨"GET", [":id"], 2⟩] true {} "GET" (some ["b"]) [("x", "outer")]
    (.hit 2 [("x", "outer")]) ≠ .ok := by decide
example : monitorObsCtx [⟨"GET", ["a"], 1⟩, ⟨"GET", [":id"], 2⟩] true {} "GET" (some ["b"]) [("x", "outer")]
    (.hit 2 [("id", "b"), ("x", "outer")]) ≠ .ok := by decide

def Layer.isAuth : Layer → Bool
  | .auth _ _ => true
  | _ => false

theorem runChain_cons (auth : Option String) (l : Layer) (rest : List Layer) (ha : l.isAuth = false) :
    runChain auth (l :: rest) =
      if l.stops then ([l.tag], .stopped) else (l.tag :: (runChain auth rest).1, (runChain auth rest).2) := by
  cases l with
  | auth x y => cases ha
  | _ => rfl

theorem runChain_stops (auth : Option String) (l : Layer) (rest : List Layer) (ha : l.isAuth = false)
    (hs : l.stops = true) : runChain auth (l :: rest) = ([l.tag], .stopped) := by
  rw [runChain_cons auth l rest ha, if_pos hs]

theorem runChain_append (auth : Option String) (a b : List Layer) (ha : ∀ l ∈ a, l.isAuth = false ∧ l.stops = false) :
    runChain auth (a ++ b) = (a.map Layer.tag ++ (runChain auth b).1, (runChain auth b).2) := by
  induction a with
  | nil => rfl
  | cons l a ih =>
    obtain ⟨hl, hs⟩ := ha l (List.mem_cons_self ..)
    rw [List.cons_append, runChain_cons auth l _ hl, hs, ih fun x hx => ha x (List.mem_cons_of_mem _ hx)]
    rfl

/-- **The chain `bindRoute` builds, run**: the custom chain's middlewares first (they call `next`), then the group's
Authorize handler (a rejected token ends the way down with 401), then whatever the `Use` and route middlewares do. -/
theorem runChain_bindChain (chain : Option Nat) (jwt : Option (String × String)) (uses : List Nat) (nmw : Nat)
    (auth : Option String) (hc : chain.getD 0 < 900) :
    runChain auth (bindChain chain jwt uses nmw) =
      (((List.range (chain.getD 0)).map fun i => "c" ++ toString (i + 1)) ++
        (if tokenOk jwt auth then
          (runChain auth (uses.map Layer.use ++ (List.range nmw).map fun i => Layer.routeMw (i + 1))).1 else []),
       if tokenOk jwt auth then
         (runChain auth (uses.map Layer.use ++ (List.range nmw).map fun i => Layer.routeMw (i + 1))).2
       else .unauthorized) := by
  have hA : ∀ l ∈ (List.range (chain.getD 0)).map (fun i => Layer.chainMw (i + 1)), l.isAuth = false ∧ l.stops = false := by
    intro l hl; simp only [List.mem_map, List.mem_range] at hl; obtain ⟨i, hi, rfl⟩ := hl
    exact ⟨rfl, by simp only [Layer.stops, decide_eq_false_iff_not]; omega⟩
  unfold bindChain
  rw [List.append_assoc, List.append_assoc, runChain_append auth _ _ hA]
  simp only [List.map_map]
  cases jwt with
  | none => simp [tokenOk, Function.comp_def, Layer.tag]
  | some ab =>
    obtain ⟨a, b⟩ := ab
    simp only [List.cons_append, List.nil_append, runChain]
    cases hok : tokenOk (some (a, b)) auth <;> simp [Function.comp_def, Layer.tag]

theorem use_passes {uses : List Nat} (hu : ∀ k ∈ uses, k < 900) :
    ∀ l ∈ uses.map Layer.use, l.isAuth = false ∧ l.stops = false := by
  intro l hl; simp only [List.mem_map] at hl; obtain ⟨k, hk, rfl⟩ := hl
  exact ⟨rfl, by have := hu k hk; simp only [Layer.stops, decide_eq_false_iff_not]; omega⟩

/-- **The route handler is reached iff the group's own JWT settings accept the token** — whatever custom chain
(`WithChain`), `Server.Use` middlewares and `rest.WithMiddlewares` wrappers surround it, as long as these call `next`
(ids below 900; for the custom chain and the route's own middlewares the number is the position in the chain, so this
only excludes chains of 900 and more); the custom chain's middlewares run first (also in front of a 401), the `Use` middlewares (in `Use`
order) and then the route's own middlewares run only behind the Authorize handler. -/
theorem chain_reaches_handler_iff (chain : Option Nat) (jwt : Option (String × String)) (uses : List Nat) (nmw : Nat)
    (auth : Option String) (hc : chain.getD 0 < 900) (hu : ∀ k ∈ uses, k < 900) (hn : nmw < 900) :
    (runChain auth (bindChain chain jwt uses nmw)).2 = (if tokenOk jwt auth then .handler else .unauthorized) ∧
    (runChain auth (bindChain chain jwt uses nmw)).1 =
      ((List.range (chain.getD 0)).map fun i => "c" ++ toString (i + 1)) ++
      (if tokenOk jwt auth then uses.map (fun k => "u" ++ toString k) ++ (List.range nmw).map (fun i => toString (i + 1))
       else []) := by
  have hM : ∀ l ∈ (List.range nmw).map (fun i => Layer.routeMw (i + 1)), l.isAuth = false ∧ l.stops = false := by
    intro l hl; simp only [List.mem_map, List.mem_range] at hl; obtain ⟨i, hi, rfl⟩ := hl
    exact ⟨rfl, by simp only [Layer.stops, decide_eq_false_iff_not]; omega⟩
  have hum : runChain auth (uses.map Layer.use ++ (List.range nmw).map (fun i => Layer.routeMw (i + 1))) =
      (uses.map (fun k => "u" ++ toString k) ++ (List.range nmw).map (fun i => toString (i + 1)), .handler) := by
    rw [← List.append_nil (uses.map Layer.use ++ _),
      runChain_append auth _ [] fun l hl => (List.mem_append.mp hl).elim (use_passes hu l) (hM l)]
    simp only [runChain, List.append_nil, List.map_append, List.map_map]
    rfl
  rw [runChain_bindChain chain jwt uses nmw auth hc, hum]
  exact ⟨rfl, rfl⟩

/-- **A `Server.Use` middleware that does not call `next` short-circuits every route**: with an accepted token the
middlewares in front of it run (custom chain, the earlier `Use` ones, itself), then NOTHING else — no later
middleware, not the route handler; a rejected token is still answered 401 before any `Use` middleware runs. -/
theorem chain_short_circuit (chain : Option Nat) (jwt : Option (String × String)) (pre post : List Nat) (k nmw : Nat)
    (auth : Option String) (hc : chain.getD 0 < 900) (hp : ∀ x ∈ pre, x < 900) (hk : k ≥ 900) :
    runChain auth (bindChain chain jwt (pre ++ k :: post) nmw) =
      (((List.range (chain.getD 0)).map fun i => "c" ++ toString (i + 1)) ++
        (if tokenOk jwt auth then pre.map (fun x => "u" ++ toString x) ++ ["u" ++ toString k] else []),
       if tokenOk jwt auth then .stopped else .unauthorized) := by
  have hstop : ∀ rest, runChain auth (pre.map Layer.use ++ (Layer.use k :: rest)) =
      (pre.map (fun x => "u" ++ toString x) ++ ["u" ++ toString k], .stopped) := by
    intro rest
    rw [runChain_append auth _ _ (use_passes hp), runChain_stops auth (.use k) rest rfl (by simp [Layer.stops, hk])]
    simp [Layer.tag, Function.comp_def]
  rw [runChain_bindChain chain jwt _ nmw auth hc, List.map_append, List.map_cons, List.append_assoc,
    List.cons_append, hstop]

example : runChain (some "s1") (bindChain (some 2) (some ("s2", "s1")) [7] 1) = (["c1", "c2", "u7", "1"], .handler) := by decide
example : runChain (some "zz") (bindChain (some 2) (some ("s2", "s1")) [7] 1) = (["c1", "c2"], .unauthorized) := by decide
example : runChain none (bindChain none none [1, 2] 0) = (["u1", "u2"], .handler) := by decide
example : runChain none (bindChain (some 1) none [1, 901, 2] 3) = (["c1", "u1", "u901"], .stopped) := by decide

/-- the `via` of `Driver.nextAll`: all results through the literal children, or — when there is none — through the
variable children. -/
def viaAll (n : Node) (p : String → Node → List (H × Params)) : List (H × Params) :=
  if (n.lits.flatMap fun kc => p kc.1 kc.2).isEmpty then n.vars.flatMap fun kc => p kc.1 kc.2
  else n.lits.flatMap fun kc => p kc.1 kc.2

theorem nextAll_single (t : String) (n : Node) :
    nextAll [t] n = if t = "" ∧ n.item.isSome then n.item.toList.map (fun h => (h, []))
      else viaAll n fun k c => if matchTok k t then c.item.toList.map (fun h => hit k t (h, [])) else [] := by
  simp only [nextAll, viaAll]

theorem nextAll_cons_cons (t r0 : String) (rs : List String) (n : Node) :
    nextAll (t :: r0 :: rs) n =
      viaAll n fun k c => if matchTok k t then (nextAll (r0 :: rs) c).map (hit k t) else [] := by
  simp only [nextAll, viaAll]

/-- one answer `o` against the enumeration `l` of all answers: it is among them, and there is none only when there
are none. -/
def Among {α : Type} (o : Option α) (l : List α) : Prop := (∀ r, o = some r → r ∈ l) ∧ (o = none → l = [])

theorem among_toList {α : Type} (o : Option α) : Among o o.toList := by
  cases o <;> simp [Among]

theorem Among.map {α β : Type} {o : Option α} {l : List α} (h : Among o l) (f : α → β) : Among (o.map f) (l.map f) := by
  cases o with
  | none => simp [Among, h.2 rfl]
  | some x => exact ⟨fun r hr => by cases hr; exact List.mem_map.mpr ⟨x, h.1 x rfl, rfl⟩, nofun⟩

theorem Among.ite {α : Type} {o : Option α} {l : List α} (h : Among o l) (c : Prop) [Decidable c] :
    Among (if c then o else none) (if c then l else []) := by
  split
  · exact h
  · exact ⟨nofun, fun _ => rfl⟩

theorem forEach_viaAll {n : Node} {p : String → Node → Option (H × Params)} {q : String → Node → List (H × Params)}
    (h : ∀ k c, Among (p k c) (q k c)) : Among (forEach n p) (viaAll n q) := by
  have nil_of : ∀ l : List (String × Node), (∀ kc ∈ l, p kc.1 kc.2 = none) → (l.flatMap fun kc => q kc.1 kc.2) = [] :=
    fun l hl => List.flatMap_eq_nil_iff.mpr fun kc hkc => (h _ _).2 (hl kc hkc)
  unfold viaAll
  constructor
  · intro r hr
    rcases forEach_some hr with ⟨kc, hm, hp⟩ | ⟨hl, kc, hm, hp⟩
    · have hmem : r ∈ n.lits.flatMap fun kc => q kc.1 kc.2 := List.mem_flatMap.mpr ⟨kc, hm, (h _ _).1 r hp⟩
      rw [if_neg (by intro he; rw [List.isEmpty_iff.mp he] at hmem; cases hmem)]
      exact hmem
    · rw [nil_of _ hl]
      exact List.mem_flatMap.mpr ⟨kc, hm, (h _ _).1 r hp⟩
  · intro hn
    obtain ⟨hl, hv⟩ := forEach_none hn
    rw [nil_of _ hl, nil_of _ hv]
    rfl

/-- **The driver's enumeration `nextAll` (every result some iteration order of the children maps can produce — used
for the correspondence check outside the hypothesis) contains what the model's `next` finds, and is empty when `next`
finds nothing**: 'found or not' never depends on the iteration order, and the deterministic model answer is always
one of the outcomes the driver accepts. -/
theorem next_mem_nextAll (toks : List String) : ∀ (n : Node),
    (∀ r, next toks n = some r → r ∈ nextAll toks n) ∧ (next toks n = none → nextAll toks n = []) := by
  induction toks with
  | nil => intro n; exact ⟨nofun, fun _ => rfl⟩
  | cons t rest ih =>
    intro n
    cases rest with
    | nil =>
      rw [nextAll_single]
      simp only [next]
      split
      · exact (among_toList _).map _
      · exact forEach_viaAll fun k c => ((among_toList _).map _).ite _
    | cons r0 rs =>
      rw [nextAll_cons_cons, next_cons_cons]
      exact forEach_viaAll fun k c => (Among.map (ih c) _).ite _

example : nextAll ["q", "a"] (.mk none [] [(":x", .mk none [("a", newNode (some 1))] []), (":y", .mk none [] [(":z", newNode (some 2))])])
    = [(1, [("x", "q")]), (2, [("z", "a"), ("y", "q")])] := by decide

/-- **A panicking `AddRoutes` / `AddRoute` registers nothing**, and a history with such calls is the history without
them: every theorem about histories (`public_api_is_declarative_matcher`, `public_api_clauses`, `public_api_start`)
applies to the calls that returned. -/
theorem api_panicking_calls_register_nothing (ops : List ApiOp) : ∀ (a : Api),
    ops.foldl Api.stepChecked a = (ops.filter fun op => !op.panics).foldl Api.step a := by
  induction ops with
  | nil => intro a; rfl
  | cons op ops ih =>
    intro a
    simp only [List.foldl_cons, List.filter_cons]
    cases hp : op.panics with
    | true => simp only [Api.stepChecked, hp, if_true, Bool.not_true, Bool.false_eq_true, if_false]; exact ih a
    | false =>
      simp only [Api.stepChecked, hp, Bool.false_eq_true, if_false, Bool.not_false, if_true, List.foldl_cons]
      exact ih _

example : (ApiOp.add 0 [.pfx "/v1", .jwt "short"]).panics = true ∧ (ApiOp.add 0 [.jwtTransition "secret-aaaa" ""]).panics = false := by
  decide

theorem canServe_get {d : String} {ns : List String} {m p f : String} (h : canServe d ns m p = some f) : m = "GET" := by
  unfold canServe at h
  split at h
  · rename_i hc; simp only [Bool.and_eq_true, beq_iff_eq] at hc; exact hc.1.1
  · cases h

/-- what an answer of the wrappers `ws` means: the CORS middleware answers an `OPTIONS` request, a file server a `GET`
it can serve, and otherwise — no `corsRouter` in front of an `OPTIONS` request — the patRouter is asked the request as it
came. -/
def WrapOk (pr : PatRouter) (m p : String) (ws : List Wrapper) : SrvResponse → Prop
  | .preflight => m = "OPTIONS" ∧ Wrapper.cors ∈ ws
  | .file f => m = "GET" ∧ ∃ d ns, Wrapper.files d ns ∈ ws ∧ canServe d ns m p = some f
  | .router resp => resp = pr.serveHTTP m p ∧ ¬ (m = "OPTIONS" ∧ Wrapper.cors ∈ ws)

theorem WrapOk.cons {pr : PatRouter} {m p : String} {ws : List Wrapper} {a : SrvResponse} (h : WrapOk pr m p ws a)
    (w : Wrapper) (hw : m = "OPTIONS" → w ≠ .cors) : WrapOk pr m p (w :: ws) a := by
  cases a with
  | preflight => exact ⟨h.1, List.mem_cons_of_mem _ h.2⟩
  | file f =>
    obtain ⟨h1, d, ns, hmem, hc⟩ := h
    exact ⟨h1, d, ns, List.mem_cons_of_mem _ hmem, hc⟩
  | router resp =>
    refine ⟨h.1, fun h' => ?_⟩
    rcases List.mem_cons.mp h'.2 with e | h2
    · exact hw h'.1 e.symm
    · exact h.2 ⟨h'.1, h2⟩

theorem wrapServe_spec (pr : PatRouter) (m p : String) (ws : List Wrapper) : WrapOk pr m p ws (wrapServe pr m p ws) := by
  induction ws with
  | nil => simp [wrapServe, WrapOk]
  | cons w ws ih =>
    cases w with
    | cors =>
      by_cases hm : m = "OPTIONS"
      · simp [wrapServe, hm, WrapOk]
      · rw [show wrapServe pr m p (.cors :: ws) = wrapServe pr m p ws by simp [wrapServe, hm]]
        exact ih.cons _ fun h => absurd h hm
    | files d ns =>
      cases hc : canServe d ns m p with
      | some f =>
        simp only [wrapServe, hc]
        exact ⟨canServe_get hc, d, ns, List.mem_cons_self .., hc⟩
      | none =>
        rw [show wrapServe pr m p (.files d ns :: ws) = wrapServe pr m p ws by simp [wrapServe, hc]]
        exact ih.cons _ fun _ => nofun

/-- **When the patRouter is asked, it is asked the request as it came**: every wrapper either answers itself or passes
method and path on unchanged. -/
theorem wrapServe_router (pr : PatRouter) (m p : String) (ws : List Wrapper) (resp : Response)
    (h : wrapServe pr m p ws = .router resp) : resp = pr.serveHTTP m p :=
  (h ▸ wrapServe_spec pr m p ws : WrapOk pr m p ws (.router resp)).1

/-- **The CORS middleware answers exactly the `OPTIONS` requests** of a server with a `corsRouter` (any of `WithCors`,
`WithCorsHeaders`, `WithCustomCors`), wherever it sits among the wrappers (a file server only ever takes `GET`s). -/
theorem wrapServe_preflight_iff (pr : PatRouter) (m p : String) (ws : List Wrapper) :
    wrapServe pr m p ws = .preflight ↔ (m = "OPTIONS" ∧ Wrapper.cors ∈ ws) := by
  have hsp := wrapServe_spec pr m p ws
  constructor
  · intro h; rw [h] at hsp; exact hsp
  · intro h
    cases hr : wrapServe pr m p ws with
    | preflight => rfl
    | file f => rw [hr] at hsp; rw [h.1] at hsp; exact absurd hsp.1 (by decide)
    | router resp => rw [hr] at hsp; exact absurd h hsp.2

/-- **A file is served exactly when some file server in front can serve it** (a `GET` whose RAW path lies below its
directory and names one of its files) — then no route is asked, also when a `GET` route matches (as implemented). -/
theorem wrapServe_file (pr : PatRouter) (m p f : String) (ws : List Wrapper) (h : wrapServe pr m p ws = .file f) :
    m = "GET" ∧ ∃ d ns, Wrapper.files d ns ∈ ws ∧ canServe d ns m p = some f :=
  (h ▸ wrapServe_spec pr m p ws : WrapOk pr m p ws (.file f))

/-- without wrappers the server's router is the patRouter. -/
theorem no_wrappers_is_the_router (s : Server) (hc : s.wrappers = []) (m p : String) :
    s.serveHTTP m p = .router (s.router.serveHTTP m p) := by
  simp [Server.serveHTTP, hc, wrapServe]

/-- **witness (as implemented): under `WithCors` an `OPTIONS` request is never dispatched**, whatever routes are
registered. -/
theorem cors_preflight_never_dispatches (s : Server) (hc : s.cors = true) (p : String) :
    s.serveHTTP "OPTIONS" p = .preflight := by
  unfold Server.serveHTTP
  rw [wrapServe_preflight_iff]
  exact ⟨rfl, by simpa [Server.cors] using hc⟩

example : (newServer [.cors]).cors = true ∧ (newServer [.cors]).router.notAllowed = some corsNA ∧
    (newServer [.corsHeaders, .router]).cors = false ∧ (newServer [.customCors, .notAllowed (some 8)]).router.notAllowed = some 8 := by
  decide
-- a file shadows a matching GET route; other methods and other names reach the router
example : wrapServe {} "GET" "/static//a" [.files "/static" ["a"]] = .file "a" ∧
    wrapServe {} "POST" "/static/a" [.files "/static/" ["a"]] = .router .defaultNotFound ∧
    wrapServe {} "GET" "/static/a/" [.cors, .files "/static" ["a"]] = .router .defaultNotFound := by decide +kernel

/-- **rest.Server end to end through its real entry points, for the whole configuration space.**  `NewServer` /
`MustNewServer` with ANY list of run options (`WithNotFoundHandler`, `WithNotAllowedHandler`, `WithRouter`, `WithChain`,
`WithCors`, `WithCorsHeaders`, `WithCustomCors`, `WithFileServer`; any number, any order), ANY groups with any route
options, `Start()` (nested binding loops), then ANY request to `server.router.ServeHTTP`: the CORS middleware answers
it — exactly when a `corsRouter` is in effect and the method is `OPTIONS` —, or a file server in front serves a file
(a `GET` below its directory that names one of its files), or the patRouter is asked THE SAME method and path and the
monitor (hence the declarative matcher, over the routes the registration rule accepted before its first rejection)
accepts its answer. -/
theorem server_start_serve_is_declarative_matcher (opts : List RunOpt) (groups : List Group) (m p : String) :
    let s := groups.foldl Server.addRoutes (mustNewServer opts)
    let tbl := (bindTable [] s.regs).1
    match s.start.1.serveHTTP m p with
    | .preflight => s.start.1.cors = true ∧ m = "OPTIONS"
    | .file f => m = "GET" ∧ ∃ d ns, Wrapper.files d ns ∈ s.start.1.wrappers ∧ canServe d ns m p = some f
    | .router resp =>
      resp = s.start.1.router.serveHTTP m p ∧
      monitorObs tbl (oneVarPerPosition tbl) (customOf s.start.1.router) m
        (if rooted p then some (cleanToks p) else none) (obsOf resp) = .ok := by
  intro s tbl
  obtain ⟨_, _, _, h4⟩ := server_is_declarative_matcher opts groups m p
  have e1 := (start_is_bindRoutes s).1
  have h4' : monitorObs tbl (oneVarPerPosition tbl) (customOf s.bindRoutes.1.router) m
      (if rooted p then some (cleanToks p) else none) (obsOf (s.bindRoutes.1.router.serveHTTP m p)) = .ok := h4
  rw [← e1] at h4'
  cases hr : s.start.1.serveHTTP m p with
  | preflight =>
    have := (wrapServe_preflight_iff _ _ _ _).mp hr
    exact ⟨by simpa [Server.cors] using this.2, this.1⟩
  | file f => exact wrapServe_file _ _ _ _ _ hr
  | router resp =>
    obtain rfl := wrapServe_router _ _ _ _ _ hr
    exact ⟨rfl, h4'⟩

-- non-vacuity: WithCors + an OPTIONS route: the preflight branch; a GET route: the router branch
example : ((([({ routes := [("OPTIONS", "/a", some 1), ("GET", "/a", some 2)] } : Group)].foldl Server.addRoutes
    (mustNewServer [.cors])).start.1.serveHTTP "OPTIONS" "/a") = .preflight) ∧
    ((([({ routes := [("OPTIONS", "/a", some 1), ("GET", "/a", some 2)] } : Group)].foldl Server.addRoutes
    (mustNewServer [.cors])).start.1.serveHTTP "GET" "/a") = .router (.route 2 [])) := by decide +kernel

/-- **404 when no route matches, through the engine's wrapper**: whatever `WithNotFoundHandler` handler is installed,
the response status is 404 unless the handler itself wrote a status (then that one) — for every handler that returns;
a handler that panics or calls `runtime.Goexit` before writing leaves net/http's default. -/
theorem engine_notFound_status (own : Option Nat) (returns : Bool) :
    (own = none → returns = true → engineNotFoundStatus own returns = 404) ∧
    (∀ c, own = some c → engineNotFoundStatus own returns = c) ∧
    (own = none → returns = false → engineNotFoundStatus own returns = 200) := by
  refine ⟨?_, ?_, ?_⟩
  · intro h1 h2; subst h1 h2; rfl
  · intro c h; subst h; rfl
  · intro h1 h2; subst h1 h2; rfl

/-- `HeaderOnceResponseWriter`: only the first `WriteHeader` reaches the client. -/
theorem headerOnce_first_wins (c1 c2 : Nat) :
    (headerOnceWrite false c1).2 = some c1 ∧ (headerOnceWrite (headerOnceWrite false c1).1 c2).2 = none := ⟨rfl, rfl⟩

end GoZero.C09
