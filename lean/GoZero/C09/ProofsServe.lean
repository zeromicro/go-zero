/-
C09 — `ServeHTTP` on a represented table: `serve_spec` classifies the three outcomes
for every iteration order; under the hypothesis the search is a function of the table (`next_eq_preferred`).
-/
import GoZero.C09.ProofsRouter
import GoZero.C09.ProofsParams
namespace GoZero.C09

open Spec

theorem lookup_bind_searchClean (r : Router) (m p : String) :
    (r.trees.lookup m).bind (searchClean · p) = searchClean (treeOf r m) p := by
  unfold treeOf
  cases h : r.trees.lookup m with
  | some root => simp
  | none =>
    simp only [Option.bind_none, Option.getD_none, searchClean]
    split
    · rfl
    · exact (next_newNode _).symm

/-- `ServeHTTP`'s decision, with a missing tree read as the empty tree. -/
theorem serve_eq (r : Router) (m p : String) :
    serve r m p = match searchClean (treeOf r m) p with
      | some (h, ps) => .handler h ps
      | none => match methodsAllowed r m p with
        | [] => .notFound
        | allows => .notAllowed allows := by
  unfold serve
  rw [lookup_bind_searchClean]
  cases searchClean (treeOf r m) p with
  | some x => rfl
  | none => cases methodsAllowed r m p <;> rfl

theorem serve_not_rooted (r : Router) (m : String) {p : String} (hr : rooted p = false) : serve r m p = .notFound := by
  have ha : methodsAllowed r m p = [] := by simp [methodsAllowed, searchClean, hr]
  rw [serve_eq, ha]
  simp [searchClean, hr]

theorem searchClean_some {r : Router} {tbl : Table} (hrep : Rep r tbl) (hok : TblOK tbl) {m p : String}
    {h : H} {ps : Params} (hs : searchClean (treeOf r m) p = some (h, ps)) :
    rooted p = true ∧ ∃ route ∈ admissible tbl m (cleanToks p),
      route.h = h ∧ ps = (binds route.pats (cleanToks p)).reverse := by
  unfold searchClean at hs
  cases hr : rooted p
  · simp [hr] at hs
  · simp only [hr, Bool.not_true, Bool.false_eq_true, if_false] at hs
    exact ⟨rfl, (search_table hok (hrep.2 m) _ (clean_cleanToks p)).1 h ps hs⟩

theorem searchClean_isSome_iff {r : Router} {tbl : Table} (hrep : Rep r tbl) (hok : TblOK tbl) (m p : String) :
    (searchClean (treeOf r m) p).isSome = true ↔ rooted p = true ∧ candidates tbl m (cleanToks p) ≠ [] := by
  constructor
  · intro hs
    obtain ⟨⟨h, ps⟩, hs⟩ := Option.isSome_iff_exists.mp hs
    obtain ⟨hr, route, hmem, _⟩ := searchClean_some hrep hok hs
    exact ⟨hr, List.ne_nil_of_mem (mem_admissible.mp hmem).1⟩
  · rintro ⟨hr, hne⟩
    unfold searchClean
    simp only [hr, Bool.not_true, Bool.false_eq_true, if_false]
    cases hn : next (cleanToks p) (treeOf r m) with
    | some x => rfl
    | none => exact absurd ((search_table hok (hrep.2 m) _ (clean_cleanToks p)).2 hn) hne

theorem treeOf_of_mem {r : Router} (hn : (r.trees.map (·.1)).Nodup) {m : String} {root : Node}
    (hm : (m, root) ∈ r.trees) : treeOf r m = root := by
  simp [treeOf, lookup_of_mem hn hm]

theorem mem_methodsAllowed_trees {r : Router} (hn : (r.trees.map (·.1)).Nodup) (m p x : String) :
    x ∈ methodsAllowed r m p ↔ (x ≠ m ∧ (searchClean (treeOf r x) p).isSome = true) := by
  unfold methodsAllowed
  simp only [List.mem_map, List.mem_filter, Bool.and_eq_true, bne_iff_ne, ne_eq]
  constructor
  · rintro ⟨⟨k, root⟩, ⟨hmem, hne, hs⟩, rfl⟩
    exact ⟨hne, by rw [treeOf_of_mem hn hmem]; exact hs⟩
  · rintro ⟨hne, hs⟩
    unfold treeOf at hs
    cases hl : r.trees.lookup x with
    | none => simp [hl, searchClean, next_newNode] at hs
    | some root => exact ⟨(x, root), ⟨mem_of_lookup hl, hne, by simpa [hl] using hs⟩, rfl⟩

theorem mem_methodsAllowed {r : Router} {tbl : Table} (hrep : Rep r tbl) (hok : TblOK tbl) (m p x : String) :
    x ∈ methodsAllowed r m p ↔ x ≠ m ∧ rooted p = true ∧ candidates tbl x (cleanToks p) ≠ [] := by
  rw [mem_methodsAllowed_trees hrep.1, searchClean_isSome_iff hrep hok x p]

theorem methodsAllowed_nodup {r : Router} (hn : (r.trees.map (·.1)).Nodup) (m p : String) :
    (methodsAllowed r m p).Nodup := by
  unfold methodsAllowed
  exact List.Nodup.sublist (List.Sublist.map _ List.filter_sublist) hn

theorem candidates_ne_nil_iff {tbl : Table} {x : String} {toks : List String} :
    candidates tbl x toks ≠ [] ↔ ∃ route ∈ tbl, route.method = x ∧ matchesP route.pats toks = true := by
  constructor
  · intro hc
    obtain ⟨route, hroute⟩ := List.exists_mem_of_ne_nil _ hc
    exact ⟨route, mem_candidates.mp hroute⟩
  · rintro ⟨route, h⟩
    exact List.ne_nil_of_mem (mem_candidates.mpr h)

theorem mem_allowed {tbl : Table} {m x : String} {toks : List String} :
    x ∈ allowed tbl m toks ↔ x ≠ m ∧ candidates tbl x toks ≠ [] := by
  unfold allowed
  rw [List.mem_eraseDups, candidates_ne_nil_iff]
  simp only [List.mem_map, List.mem_filter, Bool.and_eq_true, bne_iff_ne, ne_eq]
  constructor
  · rintro ⟨r', ⟨hmem, hne, hm⟩, rfl⟩
    exact ⟨hne, r', hmem, rfl, hm⟩
  · rintro ⟨hne, r', hmem, rfl, hm⟩
    exact ⟨r', ⟨hmem, hne, hm⟩, rfl⟩

theorem no_candidates_iff {tbl : Table} {toks : List String} :
    (∀ x, candidates tbl x toks = []) ↔ ∀ route ∈ tbl, matchesP route.pats toks = false := by
  constructor
  · intro h route hmem
    cases hm : matchesP route.pats toks with
    | false => rfl
    | true => exact absurd (h route.method) (candidates_ne_nil_iff.mpr ⟨route, hmem, rfl, hm⟩)
  · intro h x
    apply Classical.byContradiction
    intro hc
    obtain ⟨route, hmem, _, hm⟩ := candidates_ne_nil_iff.mp hc
    rw [h route hmem] at hm
    cases hm

/-- **`ServeHTTP` on a represented table, classified** (any iteration order): a dispatch goes to an admissible route
of the method with its bound segments; 405 means that no route of the method matches and lists exactly the other
methods with a matching route; 404 means that no route of any method matches (or the path is not rooted). -/
theorem serve_spec {r : Router} {tbl : Table} (hrep : Rep r tbl) (hok : TblOK tbl) (m p : String) :
    (∀ h ps, serve r m p = .handler h ps →
      rooted p = true ∧ ∃ route ∈ admissible tbl m (cleanToks p),
        route.h = h ∧ ps = (binds route.pats (cleanToks p)).reverse) ∧
    (∀ a, serve r m p = .notAllowed a →
      rooted p = true ∧ candidates tbl m (cleanToks p) = [] ∧ a ≠ [] ∧ a.Nodup ∧
        ∀ x, x ∈ a ↔ x ≠ m ∧ candidates tbl x (cleanToks p) ≠ []) ∧
    (serve r m p = .notFound → rooted p = true → ∀ x, candidates tbl x (cleanToks p) = []) := by
  have hiff := searchClean_isSome_iff hrep hok m p
  rw [serve_eq]
  cases hsc : searchClean (treeOf r m) p with
  | some x =>
    obtain ⟨h0, ps0⟩ := x
    exact ⟨fun h ps hs => by cases hs; exact searchClean_some hrep hok hsc, nofun, nofun⟩
  | none =>
    have hown : rooted p = true → candidates tbl m (cleanToks p) = [] := fun hr =>
      Classical.byContradiction fun hc => by simpa [hsc] using hiff.mpr ⟨hr, hc⟩
    cases hma : methodsAllowed r m p with
    | nil =>
      refine ⟨nofun, nofun, fun _ hr x => ?_⟩
      by_cases hx : x = m
      · exact hx ▸ hown hr
      · exact Classical.byContradiction fun hc => by
          simpa [hma] using (mem_methodsAllowed hrep hok m p x).mpr ⟨hx, hr, hc⟩
    | cons y ys =>
      refine ⟨nofun, fun a hs => ?_, nofun⟩
      cases hs
      have hr := ((mem_methodsAllowed hrep hok m p y).mp (by simp [hma])).2.1
      refine ⟨hr, hown hr, nofun, hma ▸ methodsAllowed_nodup hrep.1 m p, fun x => ?_⟩
      rw [← hma, mem_methodsAllowed hrep hok m p x]
      simp [hr]

theorem sameVar_of_oneVar {tbl : Table} (h : oneVarPerPosition tbl = true) {a b : Route}
    (ha : a ∈ tbl) (hb : b ∈ tbl) (hm : a.method = b.method) :
    sameVarAfterCommonPrefix a.pats b.pats = true := by
  unfold oneVarPerPosition at h
  simp only [List.all_eq_true] at h
  simpa [hm] using h a ha b hb

theorem admissible_unique {tbl : Table} (hok : TblOK tbl) (hyp : oneVarPerPosition tbl = true)
    {m : String} {toks : List String} {a b : Route}
    (ha : a ∈ admissible tbl m toks) (hb : b ∈ admissible tbl m toks) : a = b := by
  obtain ⟨hca, hpa⟩ := mem_admissible.mp ha
  obtain ⟨hcb, hpb⟩ := mem_admissible.mp hb
  obtain ⟨hma, hmma, hmatcha⟩ := mem_candidates.mp hca
  obtain ⟨hmb, hmmb, hmatchb⟩ := mem_candidates.mp hcb
  have hmeq : a.method = b.method := hmma.trans hmmb.symm
  exact hok.2 a hma b hmb hmeq
    (prefers_antisymm _ _ toks hmatcha hmatchb (hpa b hcb) (hpb a hca) (sameVar_of_oneVar hyp hma hmb hmeq))

theorem preferredMatch_of_admissible {tbl : Table} (hok : TblOK tbl) (hyp : oneVarPerPosition tbl = true)
    {m : String} {toks : List String} {a : Route} (ha : a ∈ admissible tbl m toks) :
    preferredMatch tbl m toks = some a := by
  unfold preferredMatch
  cases hh : (admissible tbl m toks).head? with
  | none =>
    rw [List.head?_eq_none_iff] at hh
    rw [hh] at ha; cases ha
  | some b =>
    have hb : b ∈ admissible tbl m toks := List.mem_of_mem_head? (by simp [hh])
    rw [admissible_unique hok hyp ha hb]

theorem candidates_nil_admissible {tbl : Table} {m : String} {toks : List String}
    (h : candidates tbl m toks = []) : admissible tbl m toks = [] := by
  simp [admissible, h]

theorem candidates_nil_preferred {tbl : Table} {m : String} {toks : List String}
    (h : candidates tbl m toks = []) : preferredMatch tbl m toks = none := by
  simp [preferredMatch, candidates_nil_admissible h]

/-- **Under the hypothesis the search result is a function of the table**: whatever the order of the children maps,
`next` returns the preferred match with its bound segments. -/
theorem next_eq_preferred {tbl : Table} (hok : TblOK tbl) (hyp : oneVarPerPosition tbl = true) {root : Node}
    {m : String} (hrep : TreeRep root tbl m) (toks : List String) (hc : Clean toks) :
    next toks root = (preferredMatch tbl m toks).map fun r => (r.h, (binds r.pats toks).reverse) := by
  obtain ⟨hsome, hnone⟩ := search_table hok hrep toks hc
  cases h : next toks root with
  | none => rw [candidates_nil_preferred (hnone h)]; rfl
  | some x =>
    obtain ⟨route, hadm, hh, hps⟩ := hsome x.1 x.2 h
    rw [preferredMatch_of_admissible hok hyp hadm, Option.map_some, hh, ← hps]

theorem serve_handler_iff {r : Router} {m p : String} {h : H} {ps : Params} :
    serve r m p = .handler h ps ↔ searchClean (treeOf r m) p = some (h, ps) := by
  rw [serve_eq]
  cases searchClean (treeOf r m) p with
  | some x => simp [Prod.ext_iff]
  | none => cases methodsAllowed r m p <;> simp

theorem expect_notAllowed {tbl : Table} {m : String} {toks a : List String}
    (hc : candidates tbl m toks = []) (hne : a ≠ []) (hmem : ∀ x, x ∈ a ↔ x ≠ m ∧ candidates tbl x toks ≠ []) :
    ∃ a', expect tbl m (some toks) = .notAllowed a' ∧ ∀ x, x ∈ a ↔ x ∈ a' := by
  have hal : ∀ x, x ∈ a ↔ x ∈ allowed tbl m toks := fun x => (hmem x).trans mem_allowed.symm
  simp only [expect, candidates_nil_preferred hc]
  cases hall : allowed tbl m toks with
  | nil =>
    obtain ⟨x, hx⟩ := List.exists_mem_of_ne_nil _ hne
    rw [hal x, hall] at hx
    cases hx
  | cons y ys => exact ⟨y :: ys, rfl, fun x => by rw [hal x, hall]⟩

theorem expect_notFound {tbl : Table} {toks : List String} (h : ∀ x, candidates tbl x toks = []) (m : String) :
    expect tbl m (some toks) = .notFound := by
  have hall : allowed tbl m toks = [] :=
    List.eq_nil_iff_forall_not_mem.mpr fun x hx => (mem_allowed.mp hx).2 (h x)
  simp [expect, candidates_nil_preferred (h m), hall]

theorem binds_keys_sublist (pats toks : List String) :
    ((binds pats toks).map (·.1)).Sublist ((pats.filter isVar).map varName) := by
  induction pats generalizing toks with
  | nil => exact .slnil
  | cons k ks ih =>
    cases toks with
    | nil => exact List.nil_sublist _
    | cons t ts =>
      -- a variable token puts its name on both sides, a literal on neither
      rw [binds, List.filter_cons]
      cases isVar k
      · exact ih ts
      · exact (ih ts).cons_cons _

theorem binds_keys_nodup {pats : List String} (hd : distinctNames pats = true) (toks : List String) :
    ((binds pats toks).map (·.1)).Nodup := by
  unfold distinctNames at hd
  exact List.Nodup.sublist (binds_keys_sublist pats toks) (of_decide_eq_true hd)

theorem paramMap_binds {pats : List String} (hd : distinctNames pats = true) (toks : List String) :
    paramMap (binds pats toks).reverse = (binds pats toks).reverse := by
  apply paramMap_of_nodup
  rw [List.map_reverse]
  exact nodup_reverse _ (binds_keys_nodup hd _)

end GoZero.C09
