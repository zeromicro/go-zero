/-
C09 — the search theorem `next_raw_spec`: on every non-empty token list `next` is right for the stored keys that match the
raw elements (on a cleaned path `matchesRaw` and `matchesP` select the same stored keys, the root path on a root with an item
apart: `search_table`; `matchesRawB_iff` links `matchesRaw` to the `Spec.matchesRawB` the driver's monitor computes); and which inputs
`add` rejects with errDupSlash when `search.Tree` is used directly with uncleaned strings (`add_dupSlash_iff`, from `add_eq`).
-/
import GoZero.C09.ProofsClean
namespace GoZero.C09

open Spec

theorem add_dupSlash_iff (toks : List String) (h0 : toks ≠ []) (n : Node) (h : H) :
    add toks n h = .error .dupSlash ↔ "" ∈ toks.dropLast := by
  rw [add_eq toks h0]
  split
  · simp [*]
  · simpa [*] using addW_ne_dupSlash _ n h

theorem toksOf_ne_nil (route : String) : toksOf route ≠ [] := by
  unfold toksOf
  generalize (route.toList.drop 1) = cs
  suffices h : ∀ cur, splitSlash cs cur ≠ [] from h []
  induction cs with
  | nil => intro cur; simp [splitSlash]
  | cons c cs ih =>
    intro cur
    unfold splitSlash
    split
    · simp
    · exact ih _

/-- a stored key list matches a raw token list: segment by segment, or — when the raw list ends with an
empty element (trailing slash) — segment by segment without that element (the node's own item). -/
def matchesRaw (ks toks : List String) : Prop :=
  matchesP ks toks = true ∨ ∃ ts, toks = ts ++ [""] ∧ matchesP ks ts = true

theorem matchesRawB_iff (ks toks : List String) : matchesRawB ks toks = true ↔ matchesRaw ks toks := by
  unfold matchesRawB matchesRaw
  simp only [Bool.or_eq_true, Bool.and_eq_true, beq_iff_eq]
  constructor
  · rintro (h | ⟨h1, h2⟩)
    · exact Or.inl h
    · obtain ⟨ts, rfl⟩ := List.getLast?_eq_some_iff.mp h1
      exact Or.inr ⟨ts, rfl, by simpa using h2⟩
  · rintro (h | ⟨ts, rfl, h⟩)
    · exact Or.inl h
    · exact Or.inr ⟨by simp, by simpa using h⟩

theorem matchesRaw_cons_iff (ks' : List String) (t r : String) (rs : List String) :
    matchesRaw ks' (t :: r :: rs) ↔
      ∃ k ks, ks' = k :: ks ∧ matchTok k t = true ∧ matchesRaw ks (r :: rs) := by
  constructor
  · rintro (hm | ⟨ts, hts, hm⟩)
    · obtain ⟨k, ks, rfl, hk, hks⟩ := (matchesP_cons_iff _ _ _).mp hm
      exact ⟨k, ks, rfl, hk, Or.inl hks⟩
    · cases ts with
      | nil => simp at hts
      | cons a as =>
        simp only [List.cons_append, List.cons.injEq] at hts
        obtain ⟨rfl, hts⟩ := hts
        obtain ⟨k, ks, rfl, hk, hks⟩ := (matchesP_cons_iff _ _ _).mp hm
        exact ⟨k, ks, rfl, hk, Or.inr ⟨as, hts, hks⟩⟩
  · rintro ⟨k, ks, rfl, hk, hm | ⟨ts, hts, hm⟩⟩
    · exact Or.inl (by simp [matchesP, hk, hm])
    · exact Or.inr ⟨t :: ts, by rw [hts]; rfl, by simp [matchesP, hk, hm]⟩

theorem matchesRaw_single (ks : List String) (t : String) :
    matchesRaw ks [t] ↔ matchesP ks [t] = true ∨ (t = "" ∧ ks = []) := by
  constructor
  · rintro (hm | ⟨ts, hts, hm⟩)
    · exact Or.inl hm
    · cases ts with
      | nil =>
        simp only [List.nil_append, List.cons.injEq, and_true] at hts
        exact Or.inr ⟨hts, (matchesP_nil_iff ks).mp hm⟩
      | cons a as => have := congrArg List.length hts; simp at this
  · rintro (hm | ⟨rfl, rfl⟩)
    · exact Or.inl hm
    · exact Or.inr ⟨[], rfl, rfl⟩

/-- **Search theorem**: on any non-empty token list and any well-formed node — whatever the order of its children lists —
the search is right for the stored keys that match the raw elements (`matchesRaw`). -/
theorem next_raw_spec (toks : List String) : toks ≠ [] → ∀ (n : Node), WF n →
    Finds (next toks n) (fun ks => matchesRaw ks toks) toks n := by
  induction toks with
  | nil => intro h; exact absurd rfl h
  | cons t rest ih =>
    intro _ n hwf
    cases rest with
    | nil =>
      rw [next_single]
      by_cases h0 : t = "" ∧ n.item.isSome = true
      · obtain ⟨rfl, hi⟩ := h0
        obtain ⟨x, hx⟩ := Option.isSome_iff_exists.mp hi
        simp only [hx, Option.isSome_some, and_self, if_true, Option.map_some]
        constructor
        · intro h ps hs
          simp only [Option.some.injEq, Prod.mk.injEq] at hs
          obtain ⟨rfl, rfl⟩ := hs
          exact ⟨[], hx, Or.inr ⟨[], rfl, rfl⟩, rfl, fun ks' _ _ _ => by cases ks' <;> rfl⟩
        · intro hn; cases hn
      · -- the node's own item is not an answer here, so only segment-by-segment matches count
        rw [if_neg h0]
        refine (forEach_step hwf (fun ks' => matchesP_cons_iff ks' [] t) fun k c _ => finds_item c).congr
          fun ks h hl => ⟨Or.inl, fun hm => ?_⟩
        rcases (matchesRaw_single ks t).mp hm with hm | ⟨rfl, rfl⟩
        · exact hm
        · exact absurd ⟨rfl, by simp [show n.item = some h from hl]⟩ h0
    | cons r rs =>
      rw [next_cons_cons]
      exact forEach_step hwf (fun ks' => matchesRaw_cons_iff ks' t r rs)
        fun k c hc => ih (by simp) c (child_wf hwf hc)

theorem next_raw_isSome_iff (toks : List String) (h0 : toks ≠ []) (n : Node) (hwf : WF n) :
    (next toks n).isSome = true ↔ ∃ ks h, lookupW ks n = some h ∧ matchesRaw ks toks := by
  obtain ⟨hsome, hnone⟩ := next_raw_spec toks h0 n hwf
  constructor
  · intro hs
    obtain ⟨⟨h, ps⟩, hs⟩ := Option.isSome_iff_exists.mp hs
    obtain ⟨ks, hl, hm, _⟩ := hsome h ps hs
    exact ⟨ks, h, hl, hm⟩
  · rintro ⟨ks, h, hl, hm⟩
    cases hn : next toks n with
    | some x => rfl
    | none => exact absurd hm (hnone hn ks h hl)

theorem binds_append_of_matches (ks ts l : List String) (h : matchesP ks ts = true) :
    binds ks (ts ++ l) = binds ks ts := by
  induction ks generalizing ts with
  | nil => cases ts <;> simp [binds, matchesP] at h ⊢
  | cons k ks ih =>
    cases ts with
    | nil => simp [matchesP] at h
    | cons t ts =>
      simp only [matchesP, Bool.and_eq_true] at h
      simp [binds, ih ts h.2]

end GoZero.C09
