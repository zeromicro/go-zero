/-
C09 — route tables: a method tree represents the routes of its method (`TreeRep`, order-free); on a represented table
`next` over a cleaned path returns an admissible route of the declarative matcher (`search_table`); `handle` keeps the
representation and agrees with the registration rule (`handle_register`).
-/
import GoZero.C09.ProofsRaw
namespace GoZero.C09

open Spec

/-- table invariant: cleaned patterns, and (method, pattern) identifies the route. -/
def TblOK (tbl : Table) : Prop :=
  (∀ r ∈ tbl, Clean r.pats) ∧
  (∀ a ∈ tbl, ∀ b ∈ tbl, a.method = b.method → a.pats = b.pats → a = b)

/-- the tree `root` stores exactly the routes of method `m` (no statement about the order of any map). -/
def TreeRep (root : Node) (tbl : Table) (m : String) : Prop :=
  WF root ∧ ∀ ks h, lookupW ks root = some h ↔ ∃ r ∈ tbl, r.method = m ∧ wkey r.pats = ks ∧ r.h = h

def treeOf (r : Router) (m : String) : Node := (r.trees.lookup m).getD (newNode none)

/-- the router stores exactly the table. -/
def Rep (r : Router) (tbl : Table) : Prop :=
  (r.trees.map (·.1)).Nodup ∧ ∀ m, TreeRep (treeOf r m) tbl m

theorem mem_candidates {tbl : Table} {m : String} {toks : List String} {r : Route} :
    r ∈ candidates tbl m toks ↔ r ∈ tbl ∧ r.method = m ∧ matchesP r.pats toks = true := by
  simp [candidates, List.mem_filter]

theorem mem_admissible {tbl : Table} {m : String} {toks : List String} {r : Route} :
    r ∈ admissible tbl m toks ↔
      r ∈ candidates tbl m toks ∧ ∀ r' ∈ candidates tbl m toks, prefers r.pats r'.pats = true := by
  simp [admissible, List.mem_filter, List.all_eq_true]

theorem isVar_empty : isVar "" = false := by decide

theorem prefers_root (x : List String) : prefers [""] x = true := by
  cases x with
  | nil => simp [prefers]
  | cons k rest =>
    by_cases e : "" = k
    · subst e; cases rest <;> simp [prefers]
    · simp [prefers, e, isVar_empty]

theorem not_matches_root_of_NE {toks : List String} (hne : NE toks) : matchesP [""] toks = false := by
  cases toks with
  | nil => simp [matchesP]
  | cons t ts =>
    have ht : t ≠ "" := hne t (by simp)
    have : matchTok "" t = false := by
      simp [matchTok, isVar_empty]; exact fun e => ht e
    simp [matchesP, this]

/-- on a represented table, a search result that is right for the stored keys matching `toks` is an admissible route with its
bindings, and a miss means no candidate — when no matching route is the root pattern (whose key is `[]`, not its pattern). -/
theorem finds_table {tbl : Table} {root : Node} {m : String} (hrep : TreeRep root tbl m)
    (toks : List String) (htoks : toks ≠ []) (hroot : ∀ r' ∈ candidates tbl m toks, r'.pats ≠ [""])
    {res : Option (H × Params)} (hF : Finds res (fun ks => matchesP ks toks = true) toks root) :
    (∀ h ps, res = some (h, ps) →
      ∃ r ∈ admissible tbl m toks, r.h = h ∧ ps = (binds r.pats toks).reverse) ∧
    (res = none → candidates tbl m toks = []) := by
  obtain ⟨hwf, hlk⟩ := hrep
  have stored : ∀ r' ∈ candidates tbl m toks, lookupW r'.pats root = some r'.h := by
    intro r' hr'
    have hne := hroot r' hr'
    obtain ⟨hmem, hm, _⟩ := mem_candidates.mp hr'
    exact (hlk _ _).mpr ⟨r', hmem, hm, wkey_ne_root hne, rfl⟩
  obtain ⟨hsome, hnone⟩ := hF
  constructor
  · intro h ps hs
    obtain ⟨ks, hl, hm, hps, hpref⟩ := hsome h ps hs
    obtain ⟨r, hmem, hrm, hk, hrh⟩ := (hlk _ _).mp hl
    have hks : ks ≠ [] := by
      intro e; subst e
      cases toks with
      | nil => exact htoks rfl
      | cons t ts => simp [matchesP] at hm
    have hpr : r.pats ≠ [""] := by
      intro e; rw [e] at hk; simp [wkey] at hk; exact hks hk
    have hkp : ks = r.pats := by rw [← hk, wkey_ne_root hpr]
    subst hkp
    refine ⟨r, mem_admissible.mpr ⟨mem_candidates.mpr ⟨hmem, hrm, hm⟩, ?_⟩, hrh, hps⟩
    intro r' hr'
    exact hpref _ _ (stored r' hr') (mem_candidates.mp hr').2.2
  · intro hn
    rw [List.eq_nil_iff_forall_not_mem]
    intro r' hr'
    exact hnone hn _ _ (stored r' hr') (mem_candidates.mp hr').2.2

theorem search_table {tbl : Table} (hok : TblOK tbl) {root : Node} {m : String}
    (hrep : TreeRep root tbl m) (toks : List String) (hc : Clean toks) :
    (∀ h ps, next toks root = some (h, ps) →
      ∃ r ∈ admissible tbl m toks, r.h = h ∧ ps = (binds r.pats toks).reverse) ∧
    (next toks root = none → candidates tbl m toks = []) := by
  rcases hc with rfl | ⟨h0, hne⟩
  · cases hi : root.item with
    | some h0 =>
      have hl : lookupW [] root = some h0 := by simpa [lookupW] using hi
      obtain ⟨r0, hmem, hrm, hk, hrh⟩ := (hrep.2 _ _).mp hl
      have hp0 : r0.pats = [""] := wkey_inj (hok.1 r0 hmem) (Or.inl rfl) hk
      rw [show next [""] root = some (h0, []) by simp [next, hi]]
      constructor
      · intro h ps hs
        simp only [Option.some.injEq, Prod.mk.injEq] at hs
        obtain ⟨rfl, rfl⟩ := hs
        refine ⟨r0, mem_admissible.mpr ⟨mem_candidates.mpr ⟨hmem, hrm, ?_⟩, ?_⟩, hrh, ?_⟩
        · rw [hp0]; decide
        · intro r' _; rw [hp0]; exact prefers_root _
        · rw [hp0]; simp [binds, isVar_empty]
      · intro hn; cases hn
    | none =>
      have hroot : ∀ r' ∈ candidates tbl m [""], r'.pats ≠ [""] := by
        intro r' hr' e
        obtain ⟨hmem, hm, _⟩ := mem_candidates.mp hr'
        have : lookupW [] root = some r'.h := (hrep.2 _ _).mpr ⟨r', hmem, hm, by simp [e, wkey], rfl⟩
        simp [lookupW, hi] at this
      -- the root node has no item of its own, so a stored key matches `[""]` only segment by segment
      refine finds_table hrep [""] (by simp) hroot ((next_raw_spec [""] (by simp) root hrep.1).congr
        fun ks h hl => ⟨fun hm => ((matchesRaw_single ks "").mp hm).resolve_right fun e => ?_, Or.inl⟩)
      rw [e.2] at hl
      simp [lookupW, hi] at hl
  · -- no element is empty, so the list does not end with an empty element: the second alternative of `matchesRaw` is void
    refine finds_table hrep toks h0 ?_ ((next_raw_spec toks h0 root hrep.1).congr
      fun ks _ _ => ⟨fun hm => hm.elim id fun ⟨ts, e, _⟩ => absurd rfl (hne "" (by simp [e])), Or.inl⟩)
    intro r' hr' e
    have := (mem_candidates.mp hr').2.2
    rw [e, not_matches_root_of_NE hne] at this
    cases this

theorem next_newNode (toks : List String) : next toks (newNode none) = none := by
  cases toks with
  | nil => rfl
  | cons t rest =>
    cases rest with
    | nil => simp [next, newNode, forEach]
    | cons r rs => simp [next_cons_cons, newNode, forEach]

theorem treeOf_setTree (r : Router) (m : String) (t : Node) (m' : String) :
    treeOf { trees := setTree m t r.trees } m' = if m' = m then t else treeOf r m' := by
  simp only [treeOf, lookup_setTree]
  split <;> simp

/-- the verdict the property speaks about, read off `Handle`'s error.  (`dupSlash` and `notFromRoot` never come out of
`Handle` — last conjunct of `handle_register` —; their rows only make the function total.) -/
def verdictOf : Except HandleErr Router → RegVerdict
  | .ok _ => .ok
  | .error .invalidMethod => .badMethod
  | .error .invalidPath => .badPath
  | .error (.tree .dupItem) => .dup
  | .error (.tree .emptyItem) => .emptyHandler
  | .error (.tree .dupSlash) => .badPath
  | .error (.tree .notFromRoot) => .badPath

/-- **A new key in the tree of one method is a new route in the table** (`hlk'`: nothing else changed). -/
theorem rep_insert {r : Router} {tbl : Table} (hrep : Rep r tbl) (hok : TblOK tbl) {m : String} {pats : List String}
    (hclean : Clean pats) {h : H} {root' : Node} (hwf' : WF root') (hnone : lookupW (wkey pats) (treeOf r m) = none)
    (hlk' : ∀ ks, lookupW ks root' = if ks = wkey pats then some h else lookupW ks (treeOf r m)) :
    Rep { trees := setTree m root' r.trees } (tbl ++ [⟨m, pats, h⟩]) ∧ TblOK (tbl ++ [⟨m, pats, h⟩]) := by
  have htree := hrep.2 m
  have exists_snoc : ∀ (P : Route → Prop), (∃ r1 ∈ tbl ++ [⟨m, pats, h⟩], P r1) ↔
      (∃ r1 ∈ tbl, P r1) ∨ P ⟨m, pats, h⟩ := by
    intro P; simp [or_and_right, exists_or]
  have clash : ∀ x ∈ tbl, x.method = m → x.pats = pats → False := by
    intro x hx hxm hxp
    have := (htree.2 (wkey pats) x.h).mpr ⟨x, hx, hxm, by rw [hxp], rfl⟩
    rw [hnone] at this; cases this
  refine ⟨⟨?_, ?_⟩, ?_, ?_⟩
  · exact nodup_setTree _ _ _ hrep.1
  · intro m'
    rw [treeOf_setTree]
    by_cases hm : m' = m
    · subst hm
      rw [if_pos rfl]
      refine ⟨hwf', fun ks h' => ?_⟩
      rw [hlk', exists_snoc, ← htree.2]
      by_cases e : ks = wkey pats
      · subst e; simp [hnone]
      · rw [if_neg e]
        exact ⟨Or.inl, fun hh => hh.elim id fun hh => absurd hh.2.1.symm e⟩
    · rw [if_neg hm]
      refine ⟨(hrep.2 m').1, fun ks h' => ?_⟩
      rw [(hrep.2 m').2, exists_snoc]
      exact ⟨Or.inl, fun hh => hh.elim id fun hh => absurd hh.1.symm hm⟩
  · intro r1 hmem
    rcases List.mem_append.mp hmem with hmem | hmem
    · exact hok.1 r1 hmem
    · rw [List.mem_singleton.mp hmem]; exact hclean
  · intro a ha b hb hm hp
    simp only [List.mem_append, List.mem_singleton] at ha hb
    rcases ha with ha | rfl <;> rcases hb with hb | rfl
    · exact hok.2 a ha b hb hm hp
    · exact (clash a ha hm hp).elim
    · exact (clash b hb hm.symm hp.symm).elim
    · rfl

theorem any_dup_eq_stored {root : Node} {tbl : Table} {m : String} (htree : TreeRep root tbl m) (hok : TblOK tbl)
    {pats : List String} (hclean : Clean pats) :
    (tbl.any fun r => r.method == m && r.pats == pats) = (lookupW (wkey pats) root).isSome := by
  rw [Bool.eq_iff_iff, List.any_eq_true, Option.isSome_iff_exists]
  constructor
  · rintro ⟨r1, hmem, hc⟩
    simp only [Bool.and_eq_true, beq_iff_eq] at hc
    exact ⟨r1.h, (htree.2 _ _).mpr ⟨r1, hmem, hc.1, by rw [hc.2], rfl⟩⟩
  · rintro ⟨h1, hl1⟩
    obtain ⟨r1, hmem, hrm, hk, _⟩ := (htree.2 _ _).mp hl1
    exact ⟨r1, hmem, by simp [hrm, wkey_inj (hok.1 r1 hmem) hclean hk]⟩

theorem handle_register (r : Router) (tbl : Table) (hrep : Rep r tbl) (hok : TblOK tbl)
    (m p : String) (item : Option H) :
    verdictOf (handle r m p item) = (register tbl m p item).1 ∧
    (∀ r', handle r m p item = .ok r' → Rep r' (register tbl m p item).2 ∧ TblOK (register tbl m p item).2) ∧
    (∀ e, handle r m p item = .error e →
      (register tbl m p item).2 = tbl ∧ e ≠ .tree .dupSlash ∧ e ≠ .tree .notFromRoot) := by
  unfold handle register
  cases hvm : validMethod m
  · simp [verdictOf]
  cases hrt : rooted p
  · simp [verdictOf]
  cases item with
  | none => simp [verdictOf]
  | some h =>
    simp only [Bool.not_true, Bool.false_eq_true, if_false]
    have hclean := clean_cleanToks p
    have htree := hrep.2 m
    rw [add_clean hclean, any_dup_eq_stored htree hok hclean]
    change TreeRep ((r.trees.lookup m).getD (newNode none)) tbl m at htree
    obtain ⟨hokc, herrc⟩ := addW_spec (wkey (cleanToks p)) ((r.trees.lookup m).getD (newNode none)) h htree.1
    cases hadd : addW (wkey (cleanToks p)) ((r.trees.lookup m).getD (newNode none)) h with
    | error e =>
      obtain ⟨rfl, hs⟩ := herrc e hadd
      simp [show (lookupW (wkey (cleanToks p)) (treeOf r m)).isSome = true from hs, verdictOf]
    | ok root' =>
      obtain ⟨hwf', hnone, hlk'⟩ := hokc root' hadd
      simp only [show lookupW (wkey (cleanToks p)) (treeOf r m) = none from hnone, Option.isSome_none,
        Bool.false_eq_true, if_false, verdictOf, true_and]
      refine ⟨fun r' hr' => ?_, nofun⟩
      cases hr'
      exact rep_insert hrep hok hclean hwf' hnone hlk'

end GoZero.C09
