/-
C09 — property theorems: the public API of rest.Server (`AddRoutes` / `AddRoute` with any `RouteOption`s, one caller
slice passed any number of times) — route options act on a copy.  The Go code does not copy: `featuredRoutes{routes: rs}`
keeps the caller's backing array until a `WithPrefix` replaces it.  `Api` (Model.lean) has this aliasing; the theorems show
that it is unobservable: no call writes a method or a path through the alias, so every group reads — at `bindRoutes` time —
as the options applied to the routes as the caller wrote them, and every caller slice still reads as written.
-/
import GoZero.C09.ProofsApi
import GoZero.C09.PropsServer
namespace GoZero.C09

open Spec

/-- **Registering a group changes nothing else.**  One API call (the caller makes a slice, `AddRoutes` with any
options on any slice — also one that was added before —, `AddRoute`): every caller slice reads as before
(a new slice is appended, none is written), every group registered earlier reads as before, and the only new
group is the options applied to a copy of the routes as the caller wrote them. -/
theorem api_call_frame (a : Api) (hv : a.Valid) (op : ApiOp) :
    (∃ ext, (a.step op).heap = a.heap ++ ext) ∧ (a.step op).Valid ∧
    (a.step op).frs.map (resolve (a.step op).heap) =
      a.frs.map (resolve a.heap) ++
        (pureStep (a.heap, []) op).2.map Group.featured := by
  refine ⟨?_, step_valid a hv op, step_frame a hv op⟩
  cases op with
  | slice rs => exact ⟨[rs], rfl⟩
  | add k opts | addOne r opts => exact ⟨[], (List.append_nil _).symm⟩

/-- **Any history of API calls**: the caller's slices read exactly as written (in the order they were made),
and the engine's groups — read through their references when `bindRoutes` runs — are, group by group, the
options of that call applied to a copy of the routes as the caller wrote them (`Group.featured`): the same
slice under two prefixes gives two independent groups, a later call never changes an earlier group. -/
theorem api_history_is_pure (ops : List ApiOp) :
    let a := ops.foldl Api.step {}
    a.heap = ops.filterMap sliceOf ∧
    a.frs.map (resolve a.heap) = (pureRun ops).2.map Group.featured ∧
    a.regs = (pureRun ops).2.flatMap Group.regs := by
  intro a
  have h : Reads a (pureRun ops) := reads_run ops {} ([], []) ⟨fun f hf => absurd hf List.not_mem_nil, rfl, rfl⟩
  refine ⟨?_, h.2.2, regs_of_reads h⟩
  rw [h.2.1]
  have := pureRun_slices ops ([], [])
  simpa [pureRun] using this

/-- the prefixes among the options, in the order given. -/
def prefixesOf : List RouteOpt → List String
  | [] => []
  | .pfx g :: os => g :: prefixesOf os
  | _ :: os => prefixesOf os

/-- only `WithPrefix` options touch the routes: whatever `WithJwt` / `WithJwtTransition` / `WithTimeout` /
`WithMaxBytes` / `WithPriority` / `WithSSE` options stand before, between or after them, the routes of the group
are the prefixes applied in order (the later one is the outer one) … -/
theorem routes_only_prefixes (opts : List RouteOpt) (f : Featured) :
    (opts.foldl Featured.apply f).routes = (prefixesOf opts).foldl (fun rs g => rs.map (prefixReg g)) f.routes ∧
    (opts.foldl Featured.apply f).set = opts.foldl Settings.apply f.set := by
  induction opts generalizing f with
  | nil => exact ⟨rfl, rfl⟩
  | cons o os ih =>
    simp only [List.foldl_cons]
    obtain ⟨h1, h2⟩ := ih (f.apply o)
    rw [h1, h2]
    cases o <;> exact ⟨rfl, rfl⟩

theorem group_routes_only_prefixes (g : Group) :
    g.regs = (prefixesOf g.opts).foldl (fun rs x => rs.map (prefixReg x)) g.routes :=
  (routes_only_prefixes g.opts { routes := g.routes }).1

/-- … and a prefix keeps the number, the order, the methods and the handlers of the routes. -/
theorem group_keeps_methods_handlers (g : Group) :
    g.regs.map (fun r => (r.1, r.2.2)) = g.routes.map (fun r => (r.1, r.2.2)) := by
  rw [group_routes_only_prefixes]
  generalize g.routes = rs
  induction prefixesOf g.opts generalizing rs with
  | nil => rfl
  | cons x xs ih =>
    simp only [List.foldl_cons]
    rw [ih, List.map_map]
    rfl

/-- a group without `WithPrefix` registers the routes exactly as written. -/
theorem group_no_prefix (g : Group) (h : prefixesOf g.opts = []) : g.regs = g.routes := by
  rw [group_routes_only_prefixes, h]; rfl

/-- the router registers the same route for `path.Join(group, p)` (cleaned by `Join`, cleaned again by `Handle`)
as for the plain concatenation `group/p`. -/
theorem joinGo_handle (r : Router) (m g p : String) (item : Option H) :
    handle r m (joinGo g p) item = handle r m (joinRaw g p) item ∧ rooted (joinGo g p) = rooted (joinRaw g p) := by
  unfold joinGo
  cases hr : rooted (joinRaw g p) with
  | false => simp [hr]
  | true =>
    simp only [if_true]
    exact ⟨(clean_twice_irrelevant r m (joinRaw g p) item hr).1, by rw [rooted_cleanPath]⟩

/-- **`WithPrefix(group)` on a route path**, at the level of the cleaned tokens the router stores: the group's
cleaned tokens, then the elements of the path cleaned on top of them. -/
theorem withPrefix_route_tokens (g p : String) (hg : g ≠ "") (hr : rooted g = true) :
    rooted (joinGo g p) = true ∧
    cleanGo (toksOf (joinGo g p)) [] = cleanGo (splitSlash p.toList []) (cleanGo (toksOf g) []).reverse := by
  obtain ⟨_, h2, h3⟩ := withPrefix_tokens g p hg
  have hrj : rooted (joinRaw g p) = true := by rw [h2, hr]
  unfold joinGo
  simp only [hrj, if_true]
  exact ⟨rooted_cleanPath _, by rw [toksOf_cleanPath, cleanGo_cleanToks, h3]⟩

/-- **rest.Server through its public API, end to end.**  `NewServer` with any run options, then any history of
caller slices and `AddRoutes` / `AddRoute` calls with any route options (the same slice as often as one likes),
then `engine.bindRoutes` reading the groups through their references: the caller's slices read as written; the
router stores exactly the routes that the registration rule accepts — before its first rejection — from the list
"every call's options applied to a copy of the routes as written", the start-up error is that rejection; and
every request is then answered as the monitor (hence the declarative matcher) demands. -/
theorem public_api_is_declarative_matcher (ropts : List RunOpt) (ops : List ApiOp) (m p : String) :
    let a := ops.foldl Api.step {}
    let written := (pureRun ops).2.flatMap Group.regs
    let tbl := (bindTable [] written).1
    let pr : PatRouter := { (newServer ropts).router with core := (bindAll {} a.regs).1 }
    a.heap = ops.filterMap sliceOf ∧ a.regs = written ∧
    Rep pr.core tbl ∧ TblOK tbl ∧ bindVerdict (bindAll {} a.regs).2 = (bindTable [] written).2 ∧
    monitorObs tbl (oneVarPerPosition tbl) (customOf pr) m
      (if rooted p then some (cleanToks p) else none) (obsOf (pr.serveHTTP m p)) = .ok := by
  intro a written tbl pr
  obtain ⟨h1, _, h3⟩ := api_history_is_pure ops
  have h3' : a.regs = written := h3
  obtain ⟨r1, r2, r3⟩ := bindAll_empty written
  have hcore : pr.core = (bindAll {} written).1 := by show (bindAll {} a.regs).1 = _; rw [h3']
  have hrep : Rep pr.core tbl := by rw [hcore]; exact r1
  refine ⟨h1, h3', hrep, r2, by rw [h3']; exact r3, monitor_sound hrep r2 m p⟩

/-- **The clauses of the property, end to end through the public API** (call site `AddRoutes`/`AddRoute` with
options → `featuredRoutes` → `engine.bindRoutes` → `patRouter.Handle` → `Tree.Add`; request → `ServeHTTP` →
`Tree.Search`), for any history of calls, any iteration order of Go's maps, no hypothesis on the table.  With
`tbl` = the routes the registration rule accepts from "options applied to a copy of the routes as written":
(1) dispatch iff a route of the method matches the cleaned path; (2) the chosen route is admissible (literal
before variable at the first differing segment) and the parameters are its bound segments; (3) 405 lists exactly
the other methods with a matching route; (4) 404 iff no route of any method matches. -/
theorem public_api_clauses (ops : List ApiOp) (m p : String) :
    let a := ops.foldl Api.step {}
    let tbl := (bindTable [] ((pureRun ops).2.flatMap Group.regs)).1
    let r := (bindAll {} a.regs).1
    ((∃ h ps, serve r m p = .handler h ps) ↔
      (rooted p = true ∧ ∃ route ∈ tbl, route.method = m ∧ matchesP route.pats (cleanToks p) = true)) ∧
    (∀ h ps, serve r m p = .handler h ps →
      ∃ route ∈ admissible tbl m (cleanToks p), route.h = h ∧ ps = (binds route.pats (cleanToks p)).reverse) ∧
    (∀ al, serve r m p = .notAllowed al →
      candidates tbl m (cleanToks p) = [] ∧ al ≠ [] ∧ al.Nodup ∧
      ∀ x, x ∈ al ↔ (x ≠ m ∧ ∃ route ∈ tbl, route.method = x ∧ matchesP route.pats (cleanToks p) = true)) ∧
    (serve r m p = .notFound ↔
      (rooted p = true → ∀ route ∈ tbl, matchesP route.pats (cleanToks p) = false)) := by
  intro a tbl r
  have hrep : Rep r tbl := by
    show Rep (bindAll {} a.regs).1 _
    rw [show a.regs = _ from (api_history_is_pure ops).2.2]
    exact (bindAll_empty _).1
  have hok := (bindAll_empty ((pureRun ops).2.flatMap Group.regs)).2.1
  exact ⟨dispatch_iff_match hrep hok m p, fun h ps hs => chosen_is_admissible hrep hok hs,
    fun al hs => status_405_allow_exact hrep hok hs, status_404 hrep hok m p⟩

/-! non-vacuity: one slice added bare, under /v1 and under /v2 nested in /api, with WithJwt on one copy only -/

def exOps : List ApiOp :=
  [.slice [("GET", "/users/:id", some 1), ("POST", "users", some 2)],
   .add 0 [.pfx "/v1"],
   .add 0 [.jwt "secret-aaaa", .pfx "/v2/", .timeout 1500, .pfx "/api"],
   .addOne ("GET", "/health", some 3) [.sse]]

example : ((exOps.foldl Api.step {}).regs.map fun r => (r.1, r.2.1)) =
    [("GET", "/v1/users/:id"), ("POST", "/v1/users"), ("GET", "/api/v2/users/:id"), ("POST", "/api/v2/users"),
     ("GET", "/health")] := by decide +kernel
example : (exOps.foldl Api.step {}).heap = [[("GET", "/users/:id", some 1), ("POST", "users", some 2)]] := by
  decide +kernel
example : ((pureRun exOps).2.map fun g => g.featured.set.jwt) = [none, some ("secret-aaaa", ""), none] := by
  decide +kernel
example : serve (bindAll {} (exOps.foldl Api.step {}).regs).1 "GET" "/api/v2/users/7/" = .handler 1 [("id", "7")] ∧
    serve (bindAll {} (exOps.foldl Api.step {}).regs).1 "GET" "/users/7" = .notFound ∧
    serve (bindAll {} (exOps.foldl Api.step {}).regs).1 "PUT" "/v1/users" = .notAllowed ["POST"] := by decide +kernel
-- WithJwt after WithJwtTransition keeps the previous secret (as implemented: `WithJwt` does not reset it)
example : (({ opts := [.jwtTransition "s1-------" "s0-------", .jwt "s2-------"] } : Group).featured.set.jwt) =
    some ("s2-------", "s0-------") := by decide
-- the aliasing is real in the model: the bare group refers to the caller's slice, the prefixed one owns a copy
example : ((([.slice [("GET", "/a", some 1)], .add 0 [], .add 0 [.pfx "/p"]] : List ApiOp).foldl Api.step {}).frs.map
    fun f => match f.1 with | .caller k => some k | .own _ => none) = [some 0, none] := by decide

end GoZero.C09
