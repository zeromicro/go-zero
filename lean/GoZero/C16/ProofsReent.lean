/-
C16 — re-entrant use of the RWMutex (Reent.lean): the two situations a goroutine inside `Range` can get into, as
predicates that every step of the other goroutines keeps, hence every run of them.
-/
import GoZero.C16.Reent
namespace GoZero.C16.Reent

theorem envRun_inv {P : RW → Prop} (hP : ∀ s a s', P s → envStep s a = some s' → P s') {s s' : RW} {acts : List Env}
    (h : P s) (hr : envRun s acts = some s') : P s' := by
  induction acts generalizing s with
  | nil => cases hr; exact h
  | cons a as ih =>
    simp only [envRun] at hr
    cases hs : envStep s a with
    | none => simp [hs] at hr
    | some s1 => simp only [hs] at hr; exact ih (hP s a s1 h hs) hr

/-- behind a writer that somebody else has announced, a goroutine that holds a read lock stays where it is -/
def StuckBehindWriter (s : RW) : Prop := s.pending = true ∧ s.tReads ≥ 1 ∧ s.writer = false

theorem stuckBehindWriter_step {s s' : RW} (a : Env) (h : StuckBehindWriter s) (hs : envStep s a = some s') :
    StuckBehindWriter s' := by
  obtain ⟨h1, h2, h3⟩ := h
  cases a <;> simp only [envStep, canRLock, noReaders, h1, h3] at hs
  · simp at hs
  · split at hs
    · cases hs; exact ⟨rfl, h2, rfl⟩
    · cases hs
  · simp at hs
  · have : ¬ (s.tReads + s.envReads == 0) = true := by simp; omega
    simp [this] at hs
  · simp at hs

/-- T has announced its own `Lock()` from inside its read section -/
def SelfWriter (s : RW) : Prop := s.tPending = true ∧ s.tReads ≥ 1

theorem selfWriter_step {s s' : RW} (a : Env) (h : SelfWriter s) (hs : envStep s a = some s') : SelfWriter s' := by
  obtain ⟨h1, h2⟩ := h
  cases a <;> simp only [envStep, canRLock, noReaders, h1] at hs
  · simp at hs
  · split at hs
    · cases hs; exact ⟨rfl, h2⟩
    · cases hs
  · simp at hs
  · have : ¬ (s.tReads + s.envReads == 0) = true := by simp; omega
    simp [this] at hs
  · split at hs
    · cases hs; exact ⟨rfl, h2⟩
    · cases hs

end GoZero.C16.Reent
