/-
C16 — interleaving model of `Cache.Take` (core/collection/cache.go) for an unbounded number of goroutines
(core Lean only).

```
idle  a goroutine invokes Take(key, fetch)   — or performs, in one step, Set(key, v) / Del(key) (the map write
      under c.lock), or the environment removes an entry (`lose`: expiry callback / LRU eviction)
t0    if val, ok := c.doGet(key); ok { return val, nil }                    (c.lock held for the lookup)
b0    c.barrier.Do(key, func…): no flight for the key → become its leader;  else → wait for that flight
w0    (waiter) the flight is finished → take over its result
f0    (leader, inside the function) if val, ok := c.doGet(key); ok { return val, nil }
f1    v, e := fetch()          — the loader is called
f2    the loader returns (input: a value or an error);  if e != nil { return nil, e }
f3    fresh = true; c.Set(key, v)
e0    the flight ends: it is deleted, its result is published to the waiters
r0    return
```
The singleflight barrier is modelled by its specification — at most one flight per key between registering and
deleting, every waiter gets the result of the flight it joined — which is what C07 proves about
core/syncx/singleflight.go for all schedules (`sf_exclusive`, `sf_no_stale`; re-exported in PropsConc.lean as
`take_barrier_is_singleflight`).
Ghost counters per key: loader calls, failed loader calls, removals of a present entry.
-/
namespace GoZero.C16.CT

abbrev Tid := Nat
abbrev Key := Nat
abbrev CallId := Nat

def upd {α : Type} (f : Nat → α) (i : Nat) (v : α) : Nat → α := fun j => if j = i then v else f j

@[simp] theorem upd_same {α : Type} (f : Nat → α) (i : Nat) (v : α) : upd f i v i = v := by simp [upd]
theorem upd_other {α : Type} (f : Nat → α) (i j : Nat) (v : α) (h : j ≠ i) : upd f i v j = f j := by simp [upd, h]

inductive PC
  | idle | t0 | b0 | w0 | f0 | f1 | f2 | f3 | e0 | r0
  deriving DecidableEq, Repr

/-- environment input of a step -/
inductive In
  | take (k : Key) | set (k : Key) (v : Nat) | del (k : Key) | lose (k : Key)
  | ret (v : Option Nat)      -- what the loader returns (`none` = error)
  | tau
  deriving DecidableEq, Repr

/-- one returned Take (ghost) -/
structure TRet where
  tid     : Tid
  key     : Key
  calls   : Nat            -- loader calls made by this Take
  sawMiss : Bool           -- it looked the key up inside the barrier and missed
  res     : Option Nat
  deriving DecidableEq, Repr

structure St where
  data   : Key → Option Nat
  flight : Key → Option CallId      -- the barrier's map
  done   : CallId → Option (Option Nat)
  next   : CallId
  leader : CallId → Tid
  pc     : Tid → PC
  key    : Tid → Key
  cur    : Tid → CallId             -- the flight this goroutine leads / waits for
  tmp    : Tid → Nat                -- the loaded value
  res    : Tid → Option Nat
  -- ghost
  calls   : Tid → Nat
  sawMiss : Tid → Bool
  loads   : Key → Nat
  fails   : Key → Nat
  gone    : Key → Nat               -- Del / expiry / eviction of a present entry
  rets    : List TRet

def init : St :=
  { data := fun _ => none, flight := fun _ => none, done := fun _ => none, next := 0, leader := fun _ => 0,
    pc := fun _ => .idle, key := fun _ => 0, cur := fun _ => 0, tmp := fun _ => 0, res := fun _ => none,
    calls := fun _ => 0, sawMiss := fun _ => false, loads := fun _ => 0, fails := fun _ => 0, gone := fun _ => 0,
    rets := [] }

def remove (s : St) (k : Key) : St :=
  match s.data k with
  | some _ => { s with data := upd s.data k none, gone := upd s.gone k (s.gone k + 1) }
  | none => s

def step (s : St) (t : Tid) (x : In) : Option St :=
  match s.pc t with
  | .idle =>
    match x with
    | .take k => some { s with pc := upd s.pc t .t0, key := upd s.key t k, calls := upd s.calls t 0,
                               sawMiss := upd s.sawMiss t false, res := upd s.res t none }
    | .set k v => some { s with data := upd s.data k (some v) }
    | .del k => some (remove s k)
    | .lose k => some (remove s k)
    | _ => none
  | .t0 =>
    match s.data (s.key t) with
    | some v => some { s with res := upd s.res t (some v), pc := upd s.pc t .r0 }
    | none => some { s with pc := upd s.pc t .b0 }
  | .b0 =>
    match s.flight (s.key t) with
    | none => some { s with flight := upd s.flight (s.key t) (some s.next), leader := upd s.leader s.next t,
                            done := upd s.done s.next none, cur := upd s.cur t s.next, next := s.next + 1,
                            pc := upd s.pc t .f0 }
    | some c => some { s with cur := upd s.cur t c, pc := upd s.pc t .w0 }
  | .w0 =>
    match s.done (s.cur t) with
    | some r => some { s with res := upd s.res t r, pc := upd s.pc t .r0 }
    | none => none
  | .f0 =>
    match s.data (s.key t) with
    | some v => some { s with res := upd s.res t (some v), pc := upd s.pc t .e0 }
    | none => some { s with sawMiss := upd s.sawMiss t true, pc := upd s.pc t .f1 }
  | .f1 => some { s with loads := upd s.loads (s.key t) (s.loads (s.key t) + 1), calls := upd s.calls t (s.calls t + 1),
                         pc := upd s.pc t .f2 }
  | .f2 =>
    match x with
    | .ret (some v) => some { s with tmp := upd s.tmp t v, pc := upd s.pc t .f3 }
    | .ret none => some { s with fails := upd s.fails (s.key t) (s.fails (s.key t) + 1), res := upd s.res t none,
                                 pc := upd s.pc t .e0 }
    | _ => none
  | .f3 => some { s with data := upd s.data (s.key t) (some (s.tmp t)), res := upd s.res t (some (s.tmp t)),
                         pc := upd s.pc t .e0 }
  | .e0 => some { s with flight := upd s.flight (s.key t) none, done := upd s.done (s.cur t) (some (s.res t)),
                         pc := upd s.pc t .r0 }
  | .r0 => some { s with pc := upd s.pc t .idle,
                         rets := { tid := t, key := s.key t, calls := s.calls t, sawMiss := s.sawMiss t, res := s.res t } :: s.rets }

inductive Reach : St → Prop
  | init : Reach init
  | step {s s' : St} (t : Tid) (x : In) : Reach s → step s t x = some s' → Reach s'

def run (s : St) : List (Tid × In) → Option St
  | [] => some s
  | (t, x) :: rest => match step s t x with
    | some s' => run s' rest
    | none => none

/-- the goroutine leads a flight (is inside the function handed to the barrier) -/
def PC.lead : PC → Bool
  | .f0 | .f1 | .f2 | .f3 | .e0 => true
  | _ => false

/-- the loader is running -/
def PC.loading : PC → Bool
  | .f2 => true
  | _ => false

end GoZero.C16.CT
