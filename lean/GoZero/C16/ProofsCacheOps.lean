/-
C16 — Cache, operation by operation (any timer mechanism): the invariant of map and recency list is kept, what an
operation does to the entry of any key is read off the operation and what it reported (`set_lookup`, `step_lookup`),
and both lift to histories (`inv_after`, `frame_run`, `after_lookup`).
-/
import GoZero.C16.ProofsCache
namespace GoZero.C16

section
variable {T : Type} (ts : TStep T)

theorem inv_timers (c : CacheG T) (x : T) (h : c.Inv) : ({ c with timers := x } : CacheG T).Inv :=
  ⟨h.nodupData, h.nodupLru, h.sameKeys, h.lruLen⟩

theorem lruAdd_after_insert (c : CacheG T) (k v : Nat) (h : c.Inv) :
    LruAdded ts { c with data := ainsert c.data k v } k (CacheG.lruAdd ts { c with data := ainsert c.data k v } k) :=
  lruAdd_spec ts _ k (nodup_ainsert h.nodupData) h.nodupLru h.lruLen (fun hl k' => by
    show (k' ∈ c.lru ∨ k' = k) ↔ k' ∈ akeys (ainsert c.data k v)
    rw [mem_akeys_ainsert, h.sameKeys hl k']
    exact Or.comm)

theorem lruAdd_hit (c : CacheG T) (k : Nat) (h : c.Inv) (hk : k ∈ akeys c.data) :
    (CacheG.lruAdd ts c k).1.Inv ∧ (CacheG.lruAdd ts c k).1.limit = c.limit
    ∧ (CacheG.lruAdd ts c k).2 = [] ∧ (CacheG.lruAdd ts c k).1.data = c.data
    ∧ (CacheG.lruAdd ts c k).1.timers = c.timers := by
  obtain ⟨h1, h2, h3⟩ := lruAdd_spec ts c k h.nodupData h.nodupLru h.lruLen (fun hl k' => by
    rw [h.sameKeys hl k']
    exact ⟨fun e => e.elim id (· ▸ hk), Or.inl⟩)
  refine ⟨h1, h2, ?_⟩
  rcases h3 with h3 | ⟨old, _, _, _, _, hnot, _⟩
  · exact h3
  · by_cases hl : 0 < c.limit
    · exact absurd ((h.sameKeys hl k).2 hk) hnot
    · have : c.limit = 0 := by omega
      simp [CacheG.lruAdd, this]

theorem inv_set (c : CacheG T) (k v t : Nat) (h : c.Inv) :
    (CacheG.set ts c k v t).1.Inv ∧ (CacheG.set ts c k v t).1.limit = c.limit := by
  obtain ⟨h1, h2, _⟩ := lruAdd_after_insert ts c k v h
  unfold CacheG.set
  dsimp only
  rw [expire_limit]
  exact ⟨inv_expire ts _ _ (inv_timers _ _ h1), h2⟩

theorem mem_akeys_of_lookup {l : AL} {k v : Nat} (h : alookup l k = some v) : k ∈ akeys l :=
  (mem_akeys_iff l k).2 (by rw [h]; exact Option.some_ne_none v)

theorem get_result (c : CacheG T) (k : Nat) : (CacheG.get ts c k).2.result = alookup c.data k := by
  unfold CacheG.get
  split <;> simp [*]

theorem inv_get (c : CacheG T) (k : Nat) (h : c.Inv) :
    (CacheG.get ts c k).1.Inv ∧ (CacheG.get ts c k).1.limit = c.limit ∧ (CacheG.get ts c k).1.data = c.data := by
  unfold CacheG.get
  split
  · rename_i v hv
    have := lruAdd_hit ts c k h (mem_akeys_of_lookup hv)
    exact ⟨this.1, this.2.1, this.2.2.2.1⟩
  · exact ⟨h, rfl, rfl⟩

theorem inv_take (c : CacheG T) (k v : Nat) (f : Bool) (t : Nat) (h : c.Inv) :
    (CacheG.take ts c k v f t).1.Inv ∧ (CacheG.take ts c k v f t).1.limit = c.limit := by
  unfold CacheG.take
  split
  · rename_i x hx
    have := lruAdd_hit ts c k h (mem_akeys_of_lookup hx)
    exact ⟨this.1, this.2.1⟩
  · split
    · exact ⟨h, rfl⟩
    · exact inv_set ts c k v t h

theorem inv_tick (c : CacheG T) (h : c.Inv) : (CacheG.tick ts c).1.Inv ∧ (CacheG.tick ts c).1.limit = c.limit := by
  unfold CacheG.tick
  exact ⟨inv_expire ts _ _ (inv_timers c _ h), by rw [expire_limit]⟩

theorem inv_step (c : CacheG T) (op : COp) (h : c.Inv) :
    (CacheG.step ts c op).1.Inv ∧ (CacheG.step ts c op).1.limit = c.limit := by
  cases op with
  | set k v t => exact inv_set ts c k v t h
  | get k => exact ⟨(inv_get ts c k h).1, (inv_get ts c k h).2.1⟩
  | del k => exact ⟨inv_del ts c k h, del_limit ts c k⟩
  | take k v f t => exact inv_take ts c k v f t h
  | tick => exact inv_tick ts c h

def CacheG.after (c : CacheG T) (ops : List COp) : CacheG T := ops.foldl (fun c op => (CacheG.step ts c op).1) c

theorem inv_after (ops : List COp) : ∀ (c : CacheG T), c.Inv →
    (CacheG.after ts c ops).Inv ∧ (CacheG.after ts c ops).limit = c.limit := by
  induction ops with
  | nil => intro c h; exact ⟨h, rfl⟩
  | cons op ops ih =>
    intro c h
    obtain ⟨h1, h2⟩ := inv_step ts c op h
    have := ih _ h1
    exact ⟨this.1, this.2.trans h2⟩

theorem set_lookup (c : CacheG T) (k v t : Nat) (h : c.Inv) (k' : Nat) :
    alookup (CacheG.set ts c k v t).1.data k' =
      if k' ∈ (CacheG.set ts c k v t).2.expired ∨ k' ∈ (CacheG.set ts c k v t).2.evicted then none
      else if k' = k then some v else alookup c.data k' := by
  unfold CacheG.set
  dsimp only
  rw [expire_lookup]
  obtain ⟨_, _, h3⟩ := lruAdd_after_insert ts c k v h
  split
  · next hx => simp [hx]
  · next hx =>
    simp only [hx, false_or]
    rcases h3 with ⟨e1, e2, _⟩ | ⟨old, e1, e2, _⟩
    · rw [e1, e2, alookup_ainsert]; simp
    · rw [e1, e2, alookup_aerase, alookup_ainsert]
      simp only [List.mem_singleton]

end

/-- **The property's reference for one key**, computed only from the operations and from what each operation
*reported* (evicted / expired keys, whether the loader ran): the entry of `k` after one more operation.
Gone if reported evicted or expired; else the value just set (`Set`, or a `Take` that loaded successfully); gone after
`Del`; otherwise unchanged. -/
def Spec.aliveStep (k : Nat) (cur : Option Nat) (e : COp × CacheOut) : Option Nat :=
  if k ∈ e.2.expired ∨ k ∈ e.2.evicted then none
  else match e.1 with
    | .set k' v _ => if k = k' then some v else cur
    | .del k' => if k = k' then none else cur
    | .take k' v fails _ => if k = k' ∧ e.2.loaded = true ∧ fails = false then some v else cur
    | .get _ => cur
    | .tick => cur

/-- the latest value set for `k` that is still alive after the history `ops` whose operations reported `outs` -/
def Spec.latestAlive (k : Nat) (cur : Option Nat) (ops : List COp) (outs : List CacheOut) : Option Nat :=
  (ops.zip outs).foldl (Spec.aliveStep k) cur

section
variable {T : Type} (ts : TStep T)

theorem step_lookup (c : CacheG T) (op : COp) (h : c.Inv) (k : Nat) :
    alookup (CacheG.step ts c op).1.data k = Spec.aliveStep k (alookup c.data k) (op, (CacheG.step ts c op).2) := by
  cases op with
  | set k' v t =>
    simp only [CacheG.step, Spec.aliveStep]
    exact set_lookup ts c k' v t h k
  | get k' =>
    have hd := (inv_get ts c k' h).2.2
    simp only [CacheG.step] at hd ⊢
    rw [hd]
    unfold CacheG.get Spec.aliveStep
    split <;> simp
  | del k' =>
    simp only [CacheG.step, Spec.aliveStep, del_data, alookup_aerase]
    simp
  | take k' v f t =>
    simp only [CacheG.step]
    unfold CacheG.take Spec.aliveStep
    split
    · next x hx => rw [(lruAdd_hit ts c k' h (mem_akeys_of_lookup hx)).2.2.2.1]; simp
    · split
      · next hf => simp [hf]
      · simp only [set_lookup ts c k' v t h k]; simp_all
  | tick =>
    simp only [CacheG.step, CacheG.tick, Spec.aliveStep]
    rw [expire_lookup]
    simp only [List.not_mem_nil, or_false]

theorem after_lookup (ops : List COp) : ∀ (c : CacheG T), c.Inv → ∀ k,
    alookup (CacheG.after ts c ops).data k = Spec.latestAlive k (alookup c.data k) ops (CacheG.run ts c ops) := by
  induction ops with
  | nil => intro c _ k; rfl
  | cons op ops ih =>
    intro c h k
    have := ih (CacheG.step ts c op).1 (inv_step ts c op h).1 k
    simp only [CacheG.after, List.foldl_cons, Spec.latestAlive, CacheG.run, List.zip_cons_cons] at this ⊢
    rw [this, step_lookup ts c op h k]

/-- operations that address the entry of `k` themselves -/
def touches (k : Nat) : COp → Bool
  | .set k' _ _ => k' = k
  | .del k' => k' = k
  | .take k' _ _ _ => k' = k
  | .get _ => false
  | .tick => false

theorem aliveStep_untouched (k : Nat) (cur : Option Nat) (op : COp) (o : CacheOut) (hun : touches k op = false)
    (hg : k ∉ o.evicted ∧ k ∉ o.expired) : Spec.aliveStep k cur (op, o) = cur := by
  unfold Spec.aliveStep
  rw [if_neg (fun h => h.elim hg.2 hg.1)]
  cases op with
  | set k' v t => exact if_neg (fun e => by simp [touches, e] at hun)
  | del k' => exact if_neg (fun e => by simp [touches, e] at hun)
  | take k' v f t => exact if_neg (fun e => by simp [touches, e.1] at hun)
  | get k' => rfl
  | tick => rfl

theorem frame_run (ops : List COp) (c : CacheG T) (h : c.Inv) (k : Nat)
    (hun : ∀ op, op ∈ ops → touches k op = false)
    (hgone : ∀ o, o ∈ CacheG.run ts c ops → k ∉ o.evicted ∧ k ∉ o.expired) :
    alookup (CacheG.after ts c ops).data k = alookup c.data k := by
  rw [after_lookup ts ops c h k]
  unfold Spec.latestAlive
  generalize CacheG.run ts c ops = outs at hgone
  generalize alookup c.data k = cur
  induction ops generalizing outs with
  | nil => rfl
  | cons op ops ih =>
    cases outs with
    | nil => rfl
    | cons o outs =>
      rw [List.zip_cons_cons, List.foldl_cons, aliveStep_untouched k cur op o (hun op (by simp)) (hgone o (by simp))]
      exact ih (fun op h => hun op (by simp [h])) outs (fun o h => hgone o (by simp [h]))

end

end GoZero.C16
