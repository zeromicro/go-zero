/-
C16 — Cache: the cache over the timing wheel simulates the cache over the timer table (uses the C12 refinement);
invariants of the map + recency list, for any timer mechanism.
-/
import GoZero.C12.Refine
import GoZero.C16.SpecCache
import GoZero.C16.ProofsMap
namespace GoZero.C16

section Sim
variable {T1 T2 : Type} (ts1 : TStep T1) (ts2 : TStep T2) (R : T1 → T2 → Prop)

/-- the two timer mechanisms stay related and fire the same (key,value) pairs -/
def TSim : Prop := ∀ t1 t2 op, R t1 t2 → R (ts1 t1 op).1 (ts2 t2 op).1 ∧ (ts1 t1 op).2 = (ts2 t2 op).2

structure CRel (c1 : CacheG T1) (c2 : CacheG T2) : Prop where
  limit  : c1.limit = c2.limit
  data   : c1.data = c2.data
  lru    : c1.lru = c2.lru
  timers : R c1.timers c2.timers

variable {ts1 ts2 R}

theorem onEvict_rel (hs : TSim ts1 ts2 R) {c1 : CacheG T1} {c2 : CacheG T2} (h : CRel R c1 c2) (k : Nat) :
    CRel R (CacheG.onEvict ts1 c1 k) (CacheG.onEvict ts2 c2 k) :=
  ⟨h.limit, by simp only [CacheG.onEvict, h.data], h.lru, (hs _ _ _ h.timers).1⟩

theorem lruRemove_rel (hs : TSim ts1 ts2 R) {c1 : CacheG T1} {c2 : CacheG T2} (h : CRel R c1 c2) (k : Nat) :
    CRel R (CacheG.lruRemove ts1 c1 k) (CacheG.lruRemove ts2 c2 k) := by
  unfold CacheG.lruRemove
  rw [h.limit, h.lru]
  split
  · exact h
  · split
    · apply onEvict_rel hs
      exact ⟨rfl, h.data, rfl, h.timers⟩
    · exact h

theorem lruAdd_rel (hs : TSim ts1 ts2 R) {c1 : CacheG T1} {c2 : CacheG T2} (h : CRel R c1 c2) (k : Nat) :
    CRel R (CacheG.lruAdd ts1 c1 k).1 (CacheG.lruAdd ts2 c2 k).1
    ∧ (CacheG.lruAdd ts1 c1 k).2 = (CacheG.lruAdd ts2 c2 k).2 := by
  unfold CacheG.lruAdd
  rw [h.limit, h.lru]
  split
  · exact ⟨h, rfl⟩
  · split
    · exact ⟨⟨rfl, h.data, rfl, h.timers⟩, rfl⟩
    · split
      · split
        · refine ⟨?_, rfl⟩
          apply onEvict_rel hs
          exact ⟨rfl, h.data, rfl, h.timers⟩
        · exact ⟨⟨rfl, h.data, rfl, h.timers⟩, rfl⟩
      · exact ⟨⟨rfl, h.data, rfl, h.timers⟩, rfl⟩

theorem del_rel (hs : TSim ts1 ts2 R) {c1 : CacheG T1} {c2 : CacheG T2} (h : CRel R c1 c2) (k : Nat) :
    CRel R (CacheG.del ts1 c1 k) (CacheG.del ts2 c2 k) := by
  have h1 : CRel R { c1 with data := aerase c1.data k } { c2 with data := aerase c2.data k } :=
    ⟨h.limit, by simp only [h.data], h.lru, h.timers⟩
  have h2 := lruRemove_rel hs h1 k
  exact ⟨h2.limit, h2.data, h2.lru, (hs _ _ _ h2.timers).1⟩

theorem expire_rel (hs : TSim ts1 ts2 R) (fired : List (Nat × Nat)) : ∀ {c1 : CacheG T1} {c2 : CacheG T2},
    CRel R c1 c2 → CRel R (CacheG.expire ts1 c1 fired) (CacheG.expire ts2 c2 fired) := by
  induction fired with
  | nil => intro c1 c2 h; exact h
  | cons kv rest ih =>
    intro c1 c2 h
    simp only [CacheG.expire, List.foldl_cons]
    exact ih (del_rel hs h kv.1)

theorem set_rel (hs : TSim ts1 ts2 R) {c1 : CacheG T1} {c2 : CacheG T2} (h : CRel R c1 c2) (k v t : Nat) :
    CRel R (CacheG.set ts1 c1 k v t).1 (CacheG.set ts2 c2 k v t).1
    ∧ (CacheG.set ts1 c1 k v t).2 = (CacheG.set ts2 c2 k v t).2 := by
  unfold CacheG.set
  rw [h.data]
  have h1 : CRel R { c1 with data := ainsert c2.data k v } { c2 with data := ainsert c2.data k v } :=
    ⟨h.limit, rfl, h.lru, h.timers⟩
  obtain ⟨h2, h3⟩ := lruAdd_rel hs h1 k
  have h4 := hs _ _ (C12.Op.set k v t) h2.timers
  dsimp only
  rw [h3, h4.2]
  exact ⟨expire_rel hs _ ⟨h2.limit, h2.data, h2.lru, h4.1⟩, rfl⟩

theorem get_rel (hs : TSim ts1 ts2 R) {c1 : CacheG T1} {c2 : CacheG T2} (h : CRel R c1 c2) (k : Nat) :
    CRel R (CacheG.get ts1 c1 k).1 (CacheG.get ts2 c2 k).1
    ∧ (CacheG.get ts1 c1 k).2 = (CacheG.get ts2 c2 k).2 := by
  unfold CacheG.get
  rw [h.data]
  split
  · exact ⟨(lruAdd_rel hs h k).1, rfl⟩
  · exact ⟨h, rfl⟩

theorem take_rel (hs : TSim ts1 ts2 R) {c1 : CacheG T1} {c2 : CacheG T2} (h : CRel R c1 c2) (k v : Nat) (f : Bool) (t : Nat) :
    CRel R (CacheG.take ts1 c1 k v f t).1 (CacheG.take ts2 c2 k v f t).1
    ∧ (CacheG.take ts1 c1 k v f t).2 = (CacheG.take ts2 c2 k v f t).2 := by
  unfold CacheG.take
  rw [h.data]
  split
  · exact ⟨(lruAdd_rel hs h k).1, rfl⟩
  · split
    · exact ⟨h, rfl⟩
    · have := set_rel hs h k v t
      exact ⟨this.1, by rw [this.2]⟩

theorem tick_rel (hs : TSim ts1 ts2 R) {c1 : CacheG T1} {c2 : CacheG T2} (h : CRel R c1 c2) :
    CRel R (CacheG.tick ts1 c1).1 (CacheG.tick ts2 c2).1 ∧ (CacheG.tick ts1 c1).2 = (CacheG.tick ts2 c2).2 := by
  have h4 := hs _ _ C12.Op.tick h.timers
  unfold CacheG.tick
  rw [h4.2]
  exact ⟨expire_rel hs _ ⟨h.limit, h.data, h.lru, h4.1⟩, rfl⟩

theorem step_rel (hs : TSim ts1 ts2 R) {c1 : CacheG T1} {c2 : CacheG T2} (h : CRel R c1 c2) (op : COp) :
    CRel R (CacheG.step ts1 c1 op).1 (CacheG.step ts2 c2 op).1
    ∧ (CacheG.step ts1 c1 op).2 = (CacheG.step ts2 c2 op).2 := by
  cases op with
  | set k v t => exact set_rel hs h k v t
  | get k => exact get_rel hs h k
  | del k => exact ⟨del_rel hs h k, rfl⟩
  | take k v f t => exact take_rel hs h k v f t
  | tick => exact tick_rel hs h

theorem run_rel (hs : TSim ts1 ts2 R) (ops : List COp) : ∀ {c1 : CacheG T1} {c2 : CacheG T2},
    CRel R c1 c2 → CacheG.run ts1 c1 ops = CacheG.run ts2 c2 ops := by
  induction ops with
  | nil => intro _ _ _; rfl
  | cons op ops ih =>
    intro c1 c2 h
    obtain ⟨h1, h2⟩ := step_rel hs h op
    simp only [CacheG.run]
    rw [h2, ih h1]

end Sim

/-- the C12 refinement as a simulation: a well-formed wheel and the timer table it represents -/
def WheelRel (tw : C12.TW) (tbl : C12.Spec.Table) : Prop := C12.WF tw ∧ C12.abs tw = tbl

theorem wheel_sim : TSim C12.step C12.Spec.step WheelRel := by
  intro tw tbl op ⟨hwf, habs⟩
  obtain ⟨h1, h2, h3⟩ := C12.step_refines tw hwf op
  subst habs
  exact ⟨⟨h1, h2⟩, h3⟩

section Inv
variable {T : Type} (ts : TStep T)

theorem aerase_idem (l : AL) (k : Nat) : aerase (aerase l k) k = aerase l k := by
  simp [aerase, List.filter_filter]

@[simp] theorem onEvict_data (c : CacheG T) (k : Nat) : (CacheG.onEvict ts c k).data = aerase c.data k := rfl
@[simp] theorem onEvict_lru (c : CacheG T) (k : Nat) : (CacheG.onEvict ts c k).lru = c.lru := rfl
@[simp] theorem onEvict_limit (c : CacheG T) (k : Nat) : (CacheG.onEvict ts c k).limit = c.limit := rfl

theorem filter_ne_of_not_mem (l : List Nat) (k : Nat) (h : k ∉ l) : l.filter (· ≠ k) = l :=
  List.filter_eq_self.2 fun a ha => by
    simp only [ne_eq, decide_eq_true_eq]
    exact fun e => h (e ▸ ha)

theorem del_limit (c : CacheG T) (k : Nat) : (CacheG.del ts c k).limit = c.limit := by
  simp only [CacheG.del, CacheG.lruRemove]
  split
  · rfl
  · split <;> rfl

theorem del_data (c : CacheG T) (k : Nat) : (CacheG.del ts c k).data = aerase c.data k := by
  simp only [CacheG.del, CacheG.lruRemove]
  split
  · rfl
  · split
    · simp [aerase_idem]
    · rfl

theorem del_lru (c : CacheG T) (k : Nat) :
    (CacheG.del ts c k).lru = if c.limit = 0 then c.lru else c.lru.filter (· ≠ k) := by
  simp only [CacheG.del, CacheG.lruRemove]
  split
  · rfl
  · split
    · rfl
    · rename_i h; exact (filter_ne_of_not_mem _ _ h).symm

/-- map and recency list agree: unique keys; with an LRU, the list holds exactly the map's keys, once, and
never more than `limit` of them -/
structure CacheG.Inv (c : CacheG T) : Prop where
  nodupData : (akeys c.data).Nodup
  nodupLru  : 0 < c.limit → c.lru.Nodup
  sameKeys  : 0 < c.limit → ∀ k, k ∈ c.lru ↔ k ∈ akeys c.data
  lruLen    : 0 < c.limit → c.lru.length ≤ c.limit

theorem CacheG.Inv.size_le (c : CacheG T) (h : c.Inv) (hl : 0 < c.limit) : c.data.length ≤ c.limit := by
  have hp := (List.perm_ext_iff_of_nodup (h.nodupLru hl) h.nodupData).2 (h.sameKeys hl)
  have := hp.length_eq
  have := h.lruLen hl
  simp only [akeys, List.length_map] at *
  omega

theorem inv_del (c : CacheG T) (k : Nat) (h : c.Inv) : (CacheG.del ts c k).Inv := by
  refine ⟨?_, ?_, ?_, ?_⟩
  · rw [del_data]; exact nodup_aerase h.nodupData
  · rw [del_limit]; intro hl
    rw [del_lru, if_neg (by omega)]
    exact (h.nodupLru hl).sublist List.filter_sublist
  · rw [del_limit]; intro hl k'
    rw [del_lru, if_neg (by omega), del_data, mem_akeys_aerase, List.mem_filter, h.sameKeys hl k']
    simp
  · rw [del_limit]; intro hl
    rw [del_lru, if_neg (by omega)]
    exact Nat.le_trans (List.length_filter_le _ _) (h.lruLen hl)

/-- the expiry callbacks are `Del`s: what every `Del` keeps, they keep -/
theorem expire_keeps {P : CacheG T → Prop} (hdel : ∀ c k, P c → P (CacheG.del ts c k)) (fired : List (Nat × Nat)) :
    ∀ c, P c → P (CacheG.expire ts c fired) :=
  fun _ h => List.foldlRecOn fired _ h fun c hc kv _ => hdel c kv.1 hc

theorem expire_limit (fired : List (Nat × Nat)) (c : CacheG T) : (CacheG.expire ts c fired).limit = c.limit :=
  expire_keeps ts (P := fun c' => c'.limit = c.limit) (fun c' k h => (del_limit ts c' k).trans h) fired c rfl

theorem inv_expire (fired : List (Nat × Nat)) : ∀ (c : CacheG T), c.Inv → (CacheG.expire ts c fired).Inv :=
  expire_keeps ts (inv_del ts) fired

theorem expire_lookup (fired : List (Nat × Nat)) : ∀ (c : CacheG T) (k : Nat),
    alookup (CacheG.expire ts c fired).data k = if k ∈ fired.map (·.1) then none else alookup c.data k := by
  induction fired with
  | nil => intro c k; simp [CacheG.expire]
  | cons kv rest ih =>
    intro c k
    simp only [CacheG.expire, List.foldl_cons] at ih ⊢
    rw [ih, del_data, alookup_aerase]
    simp only [List.map_cons, List.mem_cons]
    by_cases h1 : k ∈ rest.map (·.1)
    · simp [h1]
    · by_cases h2 : k = kv.1 <;> simp [h1, h2]

theorem length_filter_ne_lt (l : List Nat) (k : Nat) (h : k ∈ l) : (l.filter (· ≠ k)).length < l.length :=
  List.length_filter_lt_length_iff_exists.2 ⟨k, h, by simp⟩

theorem cons_overflow (k : Nat) (l : List Nat) {limit : Nat} (hl : 0 < limit) (hov : (k :: l).length > limit) :
    ∃ ys old, l = ys ++ [old] ∧ (k :: l).getLast? = some old ∧ (k :: l).dropLast = k :: ys := by
  have hne : l ≠ [] := by
    intro e; rw [e] at hov; simp only [List.length_cons, List.length_nil] at hov; omega
  refine ⟨l.dropLast, l.getLast hne, (List.dropLast_concat_getLast hne).symm, ?_, ?_⟩
  · exact List.getLast?_eq_some_iff.2 ⟨k :: l.dropLast, by rw [List.cons_append, List.dropLast_concat_getLast hne]⟩
  · rw [List.dropLast_cons_of_ne_nil hne]

/-- what `keyLru.add(k)` makes of `c`: the invariant holds, the limit is kept, and either nothing else changed or the
last key of a full list, not `k`, left map, list and wheel -/
def LruAdded (c : CacheG T) (k : Nat) (r : CacheG T × List Nat) : Prop :=
  r.1.Inv ∧ r.1.limit = c.limit
  ∧ (r.2 = [] ∧ r.1.data = c.data ∧ r.1.timers = c.timers
     ∨ ∃ old, r.2 = [old] ∧ r.1.data = aerase c.data old ∧ c.lru.getLast? = some old ∧ old ≠ k ∧ k ∉ c.lru
         ∧ c.lru.length = c.limit ∧ r.1.timers = (ts c.timers (.remove old)).1)

/-- `keyLru.add(k)` once `k` is in the map: re-establishes the invariant; reports what it evicted -/
theorem lruAdd_spec (c : CacheG T) (k : Nat) (hd : (akeys c.data).Nodup)
    (hn : 0 < c.limit → c.lru.Nodup) (hlen : 0 < c.limit → c.lru.length ≤ c.limit)
    (hk : 0 < c.limit → ∀ k', (k' ∈ c.lru ∨ k' = k) ↔ k' ∈ akeys c.data) : LruAdded ts c k (CacheG.lruAdd ts c k) := by
  unfold LruAdded CacheG.lruAdd
  by_cases h0 : c.limit = 0
  · rw [if_pos h0]
    dsimp only
    exact ⟨⟨hd, fun h => by omega, fun h => by omega, fun h => by omega⟩, rfl, Or.inl ⟨rfl, rfl, rfl⟩⟩
  · have hl : 0 < c.limit := by omega
    rw [if_neg h0]
    by_cases hm : k ∈ c.lru
    · rw [if_pos hm]
      dsimp only
      refine ⟨⟨hd, fun _ => ?_, fun _ k' => ?_, fun _ => ?_⟩, rfl, Or.inl ⟨rfl, rfl, rfl⟩⟩
      · simp only [List.nodup_cons, List.mem_filter, ne_eq, not_true_eq_false, decide_false, and_false,
          not_false_eq_true, true_and, Bool.false_eq_true]
        exact (hn hl).sublist List.filter_sublist
      · simp only [List.mem_cons, List.mem_filter, ne_eq, decide_eq_true_eq]
        rw [← hk hl k']
        by_cases e : k' = k <;> simp [e]
      · simp only [List.length_cons]
        have := length_filter_ne_lt c.lru k hm
        have := hlen hl
        omega
    · rw [if_neg hm]
      by_cases hov : (k :: c.lru).length > c.limit
      · rw [if_pos hov]
        obtain ⟨ys, old, hys, hlast, hdrop⟩ := cons_overflow k c.lru hl hov
        rw [hlast]
        dsimp only
        have hnd := hn hl
        rw [hys, List.nodup_append] at hnd
        have hold : old ∉ ys := fun hh => hnd.2.2 old hh old (by simp) rfl
        have hkold : old ≠ k := by
          intro e; apply hm; rw [hys, e]; simp
        have hkys : k ∉ ys := fun hh => hm (by rw [hys]; exact List.mem_append_left _ hh)
        have hlen' := hlen hl
        refine ⟨⟨?_, fun _ => ?_, fun _ k' => ?_, fun _ => ?_⟩, rfl, Or.inr ⟨old, rfl, rfl, ?_, hkold, hm, ?_, rfl⟩⟩
        · exact nodup_aerase hd
        · rw [onEvict_lru, hdrop]
          exact List.nodup_cons.2 ⟨hkys, hnd.1⟩
        · rw [onEvict_lru, onEvict_data, hdrop, mem_akeys_aerase, ← hk hl k', hys]
          by_cases e : k' = old
          · simp [e, hkold, hold]
          · simp [e, or_comm]
        · rw [onEvict_lru, onEvict_limit, hdrop]
          rw [hys] at hlen'
          simp only [List.length_cons, List.length_append, List.length_nil] at hlen' ⊢
          omega
        · rw [hys]; simp
        · simp only [List.length_cons] at hov; omega
      · rw [if_neg hov]
        dsimp only
        refine ⟨⟨hd, fun _ => List.nodup_cons.2 ⟨hm, hn hl⟩, fun _ k' => ?_,
          fun _ => by simp only [List.length_cons] at hov ⊢; omega⟩, rfl, Or.inl ⟨rfl, rfl, rfl⟩⟩
        rw [← hk hl k']
        simp only [List.mem_cons]
        exact Or.comm

end Inv

end GoZero.C16
