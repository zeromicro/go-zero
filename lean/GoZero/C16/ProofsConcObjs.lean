/-
C16 — the statement-by-statement bodies of ConcObjs.lean, run alone, compute exactly the sequential models
(Model.lean); read operations do not write.
-/
import GoZero.C16.ConcObjs
import GoZero.C16.ProofsConc
namespace GoZero.C16

open Conc

section generic
variable {σ L Op : Type}

theorem Exec.one {o : Obj σ L Op} {op : Op} {a b : L × σ} (hb : o.body op a.1 a.2 = some b) : Exec o op a b :=
  Exec.tail b.1 b.2 (Exec.refl a) hb

theorem Exec.step1 {o : Obj σ L Op} {op : Op} {a b c : L × σ} (hb : o.body op a.1 a.2 = some b)
    (h : Exec o op b c) : Exec o op a c :=
  Exec.head o op b.1 b.2 hb h

end generic

namespace CMap

theorem readsPure (maxDel thr : Nat) : ReadsPure (obj maxDel thr) := by
  intro op l m l' m' hr hb
  cases op with
  | get k =>
    simp only [obj, bodyGet] at hb
    split at hb
    · split at hb <;> (cases hb; rfl)
    · cases hb; rfl
    · cases hb
  | size =>
    simp only [obj, bodySize] at hb
    split at hb
    · cases hb; rfl
    · cases hb
  | range =>
    simp only [obj, bodyRange] at hb
    split at hb
    · cases hb; rfl
    · split at hb <;> (cases hb; rfl)
    · split at hb <;> (cases hb; rfl)
    · cases hb
  | set k v => simp [obj, isRead] at hr
  | del k => simp [obj, isRead] at hr

/-! A statement of a body at a known statement counter is computed by unfolding: every step below is justified by
`rfl` or, at a branch, by the `if_pos` / `if_neg` of its condition, and the state it leads to is read off that equation. -/

/-- the copy loop of a migration into `dirtyNew` -/
theorem mig1_copy (maxDel thr k : Nat) (todo : AL) : ∀ m : SafeMap,
    Exec (obj maxDel thr) (.del k) ({ pc := 4, todo := todo }, m) ({ pc := 5 }, { m with new := acopyInto m.new todo }) := by
  induction todo with
  | nil => exact fun m => Exec.one rfl
  | cons p r ih => exact fun m => Exec.step1 rfl (ih _)

/-- the copy loop of a migration into `dirtyOld` -/
theorem mig2_copy (maxDel thr k : Nat) (todo : AL) : ∀ m : SafeMap,
    Exec (obj maxDel thr) (.del k) ({ pc := 10, todo := todo }, m) ({ pc := 11 }, { m with old := acopyInto m.old todo }) := by
  induction todo with
  | nil => exact fun m => Exec.one rfl
  | cons p r ih => exact fun m => Exec.step1 rfl (ih _)

/-- the two loops of `Range` -/
theorem range_visit (maxDel thr : Nat) (pc : Nat) (hpc : pc = 1 ∨ pc = 2) (m : SafeMap) (todo : AL) : ∀ acc : AL,
    Exec (obj maxDel thr) .range ({ pc := pc, todo := todo, acc := acc }, m) ({ pc := pc, acc := acc ++ todo }, m) := by
  induction todo with
  | nil => intro acc; rw [List.append_nil]; exact Exec.refl _
  | cons p r ih =>
    intro acc
    rw [List.append_cons]
    exact Exec.step1 (by rcases hpc with e | e <;> subst e <;> rfl) (ih _)

/-- where `Del k`, run alone, ends -/
def delEnd (maxDel thr : Nat) (m : SafeMap) (k : Nat) : Loc × SafeMap :=
  ({ pc := 13 }, m.del maxDel thr k)

theorem del_erase (maxDel thr k : Nat) (m : SafeMap) :
    Exec (obj maxDel thr) (.del k) ({ pc := 0 }, m) ({ pc := 3 }, m.del1 k) := by
  unfold SafeMap.del1
  by_cases h1 : ahas m.old k = true
  · rw [if_pos h1]
    exact Exec.step1 (if_pos h1) (Exec.one rfl)
  · rw [if_neg h1]
    by_cases h2 : ahas m.new k = true
    · rw [if_pos h2]
      exact Exec.step1 ((if_neg h1).trans (if_pos h2))
        (Exec.one rfl)
    · rw [if_neg h2]
      exact Exec.one ((if_neg h1).trans (if_neg h2))

theorem del_mig1 (maxDel thr k : Nat) (m : SafeMap) :
    Exec (obj maxDel thr) (.del k) ({ pc := 3 }, m) ({ pc := 9 }, m.mig1 maxDel thr) := by
  unfold SafeMap.mig1
  by_cases hc : m.delOld ≥ maxDel ∧ m.old.length < thr
  · rw [if_pos hc]
    refine Exec.step1 (if_pos hc) ?_
    refine Exec.trans' (mig1_copy maxDel thr k m.old m) ?_
    refine Exec.step1 rfl ?_
    refine Exec.step1 rfl ?_
    refine Exec.step1 rfl ?_
    exact Exec.one rfl
  · rw [if_neg hc]
    exact Exec.one (if_neg hc)

theorem del_mig2 (maxDel thr k : Nat) (m : SafeMap) :
    Exec (obj maxDel thr) (.del k) ({ pc := 9 }, m) ({ pc := 13 }, m.mig2 maxDel thr) := by
  unfold SafeMap.mig2
  by_cases hc : m.delNew ≥ maxDel ∧ m.new.length < thr
  · rw [if_pos hc]
    refine Exec.step1 (if_pos hc) ?_
    refine Exec.trans' (mig2_copy maxDel thr k m.new m) ?_
    refine Exec.step1 rfl ?_
    exact Exec.one rfl
  · rw [if_neg hc]
    exact Exec.one (if_neg hc)

theorem solo_del (maxDel thr k : Nat) (m : SafeMap) :
    Solo (obj maxDel thr) (.del k) m { pc := 13 } (m.del maxDel thr k) :=
  ⟨Exec.trans' (del_erase maxDel thr k m) (Exec.trans' (del_mig1 maxDel thr k _) (del_mig2 maxDel thr k _)), rfl⟩

theorem solo_set (maxDel k v : Nat) (thr : Nat) (m : SafeMap) :
    Solo (obj maxDel thr) (.set k v) m { pc := 7 } (m.set maxDel k v) := by
  refine ⟨?_, rfl⟩
  unfold SafeMap.set
  by_cases h0 : m.delOld ≤ maxDel
  · rw [if_pos h0]
    refine Exec.step1 (if_pos h0) ?_
    by_cases h1 : ahas m.new k = true
    · rw [if_pos h1, if_pos h1]
      refine Exec.step1 (if_pos h1) ?_
      refine Exec.step1 rfl ?_
      exact Exec.one rfl
    · rw [if_neg h1, if_neg h1]
      refine Exec.step1 (if_neg h1) ?_
      exact Exec.one rfl
  · rw [if_neg h0]
    refine Exec.step1 (if_neg h0) ?_
    by_cases h1 : ahas m.old k = true
    · rw [if_pos h1, if_pos h1]
      refine Exec.step1 (if_pos h1) ?_
      refine Exec.step1 rfl ?_
      exact Exec.one rfl
    · rw [if_neg h1, if_neg h1]
      refine Exec.step1 (if_neg h1) ?_
      exact Exec.one rfl

theorem solo_get (maxDel thr k : Nat) (m : SafeMap) :
    Solo (obj maxDel thr) (.get k) m { pc := 2, res := m.get k } m := by
  refine ⟨?_, rfl⟩
  show Exec _ _ (({ pc := 0 } : Loc), m) _
  unfold SafeMap.get
  cases h : alookup m.old k with
  | some v => exact Exec.one (by show (match alookup m.old k with | some v => _ | none => _) = _; rw [h])
  | none =>
    refine Exec.step1 (by show (match alookup m.old k with | some v => _ | none => _) = _; rw [h]) ?_
    exact Exec.one rfl

theorem solo_size (maxDel thr : Nat) (m : SafeMap) :
    Solo (obj maxDel thr) .size m { pc := 1, res := some m.size } m :=
  ⟨Exec.one rfl, rfl⟩

theorem solo_range (maxDel thr : Nat) (m : SafeMap) :
    Solo (obj maxDel thr) .range m { pc := 3, acc := m.range } m := by
  refine ⟨?_, rfl⟩
  refine Exec.step1 rfl ?_
  refine Exec.trans' (range_visit maxDel thr 1 (Or.inl rfl) m m.old []) ?_
  refine Exec.step1 rfl ?_
  refine Exec.trans' (range_visit maxDel thr 2 (Or.inr rfl) m m.new m.old) ?_
  exact Exec.one rfl

/-- the visible result of an operation is the sequential model's -/
def resultOK (m : SafeMap) (op : Op) (res : Loc) : Prop :=
  match op with
  | .get k => res.res = m.get k
  | .size => res.res = some m.size
  | .range => res.acc = m.range
  | _ => True

theorem solo_is_seq (maxDel thr : Nat) (op : Op) (m : SafeMap) (res : Loc) (post : SafeMap)
    (h : Solo (obj maxDel thr) op m res post) :
    post = seqPost maxDel thr m op ∧ resultOK m op res := by
  unfold resultOK
  cases op with
  | get k => obtain ⟨a, b⟩ := Solo.unique (solo_get maxDel thr k m) h; subst a; exact ⟨b, rfl⟩
  | size => obtain ⟨a, b⟩ := Solo.unique (solo_size maxDel thr m) h; subst a; exact ⟨b, rfl⟩
  | range => obtain ⟨a, b⟩ := Solo.unique (solo_range maxDel thr m) h; subst a; exact ⟨b, rfl⟩
  | set k v => obtain ⟨_, b⟩ := Solo.unique (solo_set maxDel k v thr m) h; exact ⟨b, trivial⟩
  | del k => obtain ⟨_, b⟩ := Solo.unique (solo_del maxDel thr k m) h; exact ⟨b, trivial⟩

end CMap

namespace CQueue

theorem readsPure : ReadsPure obj := by
  intro op l m l' m' hr _; simp [obj] at hr

def seqStep (q : Queue) : Op → Queue × QOut
  | .put x => q.step (.put x)
  | .take => q.step .take
  | .empty => q.step .empty

def visible (op : Op) (l : Loc) : QOut :=
  match op with
  | .put _ => .unit
  | .take => .val l.res
  | .empty => .bool (l.i = 1)

theorem solo_put (x : Nat) (q : Queue) : ∃ l : Loc, Solo obj (.put x) q l (q.put x) := by
  unfold Queue.put Queue.grow
  by_cases hc : q.head = q.tail ∧ q.count > 0
  · rw [if_pos hc]
    refine ⟨{ pc := 7, out := q.elems.drop q.head ++ q.elems.take q.head ++ List.replicate q.size 0 }, ?_, rfl⟩
    refine Exec.step1 (if_pos hc) ?_
    refine Exec.step1 rfl ?_
    refine Exec.step1 rfl ?_
    refine Exec.step1 rfl ?_
    refine Exec.step1 rfl ?_
    refine Exec.step1 rfl ?_
    exact Exec.one (by simp only [List.length_set]; rfl)
  · rw [if_neg hc]
    refine ⟨{ pc := 7 }, ?_, rfl⟩
    refine Exec.step1 (if_neg hc) ?_
    refine Exec.step1 rfl ?_
    refine Exec.step1 rfl ?_
    exact Exec.one (by simp only [List.length_set]; rfl)

theorem solo_take (q : Queue) : Solo obj .take q { pc := 4, res := (q.take).1 } (q.take).2 := by
  refine ⟨?_, rfl⟩
  unfold Queue.take
  by_cases hc : q.count = 0
  · rw [if_pos hc]
    exact Exec.one (if_pos hc)
  · rw [if_neg hc]
    refine Exec.step1 (if_neg hc) ?_
    refine Exec.step1 rfl ?_
    refine Exec.step1 rfl ?_
    exact Exec.one rfl

theorem solo_empty (q : Queue) : Solo obj .empty q { pc := 1, i := if q.count = 0 then 1 else 0 } q :=
  ⟨Exec.one rfl, rfl⟩

theorem solo_is_seq (op : Op) (q : Queue) (res : Loc) (post : Queue) (h : Solo obj op q res post) :
    (post, visible op res) = seqStep q op := by
  cases op with
  | put x =>
    obtain ⟨l, hl⟩ := solo_put x q
    obtain ⟨_, b⟩ := Solo.unique hl h
    subst b; rfl
  | take =>
    obtain ⟨a, b⟩ := Solo.unique (solo_take q) h
    subst a b; rfl
  | empty =>
    obtain ⟨a, b⟩ := Solo.unique (solo_empty q) h
    rw [a, b]
    simp only [visible, seqStep, Queue.step, Queue.empty]
    by_cases hc : q.count = 0 <;> simp [hc]

end CQueue

namespace CRing

theorem readsPure : ReadsPure obj := by
  intro op l m l' m' hr hb
  cases op with
  | add v => simp [obj] at hr
  | take =>
    simp only [obj, bodyTake] at hb
    split at hb
    · cases hb; rfl
    · split at hb <;> (cases hb; rfl)
    · cases hb

theorem solo_add (v : Nat) (r : Ring) : Solo obj (.add v) r { pc := 3 } (r.add v) := by
  refine ⟨?_, rfl⟩
  show Exec _ _ (({ pc := 0 } : Loc), r) _
  refine Exec.step1 rfl ?_
  refine Exec.step1 rfl ?_
  unfold Ring.add
  by_cases hc : r.index + 1 ≥ 2 * (r.elems.set (r.index % r.elems.length) v).length
  · rw [if_pos (by simpa using hc)]
    exact Exec.one ((if_pos hc).trans (by simp))
  · rw [if_neg (by simpa using hc)]
    exact Exec.one (if_neg hc)

/-- the copy loop of `Take`, from element `i` on -/
theorem take_copy (r : Ring) (n : Nat) : ∀ (i : Nat) (out : List Nat), i + n = r.sz →
    Exec obj .take ({ pc := 1, i := i, out := out }, r)
      ({ pc := 1, i := r.sz, out := out ++ (List.range' i n).map fun i => r.elems.getD ((r.start + i) % r.elems.length) 0 }, r) := by
  induction n with
  | zero => intro i out hi; rw [← hi]; simp only [Nat.add_zero, List.range'_zero, List.map_nil, List.append_nil]; exact Exec.refl _
  | succ n ih =>
    intro i out hi
    rw [List.range'_succ, List.map_cons, List.append_cons]
    exact Exec.step1 (if_pos (show i < r.sz by omega)) (ih (i + 1) _ (by omega))

theorem solo_take (r : Ring) : Solo obj .take r { pc := 2, i := r.sz, out := r.take } r := by
  refine ⟨?_, rfl⟩
  refine Exec.step1 rfl ?_
  refine Exec.trans' (take_copy r r.sz 0 [] (Nat.zero_add _)) ?_
  rw [List.nil_append, ← List.range_eq_range']
  exact Exec.one (if_neg (Nat.lt_irrefl _))

def resultOK (r : Ring) (op : Op) (res : Loc) (post : Ring) : Prop :=
  match op with
  | .add v => post = r.add v
  | .take => post = r ∧ res.out = r.take

theorem solo_is_seq (op : Op) (r : Ring) (res : Loc) (post : Ring) (h : Solo obj op r res post) :
    resultOK r op res post := by
  unfold resultOK
  cases op with
  | add v => exact (Solo.unique (solo_add v r) h).2
  | take =>
    obtain ⟨a, b⟩ := Solo.unique (solo_take r) h
    subst a; exact ⟨b, rfl⟩

end CRing
end GoZero.C16
