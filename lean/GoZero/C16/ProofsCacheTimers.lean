/-
C16 — abstract cache (timer table): every cached entry has exactly one pending timer and every pending timer
belongs to a cached entry; a tick expires exactly the entries whose timer is due; an entry stored with a non-positive
expiry (`SetTimer` rejects the delay, the wheel is not told) has no timer and outlives every tick.
-/
import GoZero.C12.SpecFacts
import GoZero.C16.ProofsCacheOps
namespace GoZero.C16

open GoZero.C12 (Op)
open GoZero.C12.Spec (Table Timer keys KeysNodup mem_keys_remove mem_keys_set mem_keys_tick fired_absent)

/-- C12 splits the keys of a table into those a tick keeps and those it fires (`mem_keys_tick`); with one timer per key
the two cases exclude each other (`fired_absent`). -/
theorem keys_tick (t : Table) (hnd : KeysNodup t) (k' : Nat) :
    k' ∈ keys (C12.Spec.tick t).1 ↔ k' ∈ keys t ∧ k' ∉ (C12.Spec.tick t).2.map (·.1) := by
  refine ⟨fun h => ⟨(mem_keys_tick t k').2 (Or.inl h), fun hf => ?_⟩, fun ⟨h1, h2⟩ => ((mem_keys_tick t k').1 h1).resolve_right h2⟩
  obtain ⟨⟨k, v⟩, hkv, rfl⟩ := List.mem_map.1 hf
  exact fired_absent t hnd k v hkv h

theorem table_no_immediate_fire (tbl : C12.Spec.Table) (k v t : Nat) :
    (C12.Spec.step tbl (C12.Op.set k v t)).2 = [] := by
  simp [C12.Spec.step]

/-- one pending timer per cached entry, no timer without an entry -/
structure TInv (c : Spec.ACache) : Prop where
  nodup : KeysNodup c.timers
  same  : ∀ k, k ∈ keys c.timers ↔ k ∈ akeys c.data

abbrev sstep : TStep Table := C12.Spec.step

theorem del_timers (c : Spec.ACache) (k : Nat) :
    KeysNodup c.timers → KeysNodup (CacheG.del sstep c k).timers
      ∧ ∀ k', k' ∈ keys (CacheG.del sstep c k).timers ↔ k' ∈ keys c.timers ∧ k' ≠ k := by
  intro hnd
  simp only [CacheG.del, CacheG.lruRemove, CacheG.onEvict]
  split
  · exact ⟨C12.Spec.step_keys_nodup _ hnd _, fun k' => mem_keys_remove _ _ _⟩
  · split
    · refine ⟨C12.Spec.step_keys_nodup _ (C12.Spec.step_keys_nodup _ hnd _) _, fun k' => ?_⟩
      show k' ∈ keys (C12.Spec.remove (C12.Spec.remove c.timers k) k) ↔ _
      rw [mem_keys_remove, mem_keys_remove]
      exact and_iff_left_of_imp And.right
    · exact ⟨C12.Spec.step_keys_nodup _ hnd _, fun k' => mem_keys_remove _ _ _⟩

theorem tinv_del (c : Spec.ACache) (k : Nat) (h : TInv c) : TInv (CacheG.del sstep c k) := by
  obtain ⟨h1, h2⟩ := del_timers c k h.nodup
  refine ⟨h1, fun k' => ?_⟩
  rw [h2, del_data, mem_akeys_aerase, h.same]

theorem tinv_expire (fired : List (Nat × Nat)) : ∀ (c : Spec.ACache), TInv c → TInv (CacheG.expire sstep c fired) :=
  expire_keeps sstep tinv_del fired

/-- data and timers after the expiry callbacks, from a state where the fired timers have already left the table -/
theorem expire_after_tick (fired : List (Nat × Nat)) : ∀ (c : Spec.ACache), KeysNodup c.timers →
    KeysNodup (CacheG.expire sstep c fired).timers
    ∧ (∀ k', k' ∈ keys (CacheG.expire sstep c fired).timers ↔ k' ∈ keys c.timers ∧ k' ∉ fired.map (·.1))
    ∧ (∀ k', k' ∈ akeys (CacheG.expire sstep c fired).data ↔ k' ∈ akeys c.data ∧ k' ∉ fired.map (·.1)) := by
  induction fired with
  | nil => intro c h; simp [CacheG.expire, h]
  | cons kv rest ih =>
    intro c h
    obtain ⟨d1, d2⟩ := del_timers c kv.1 h
    obtain ⟨i1, i2, i3⟩ := ih (CacheG.del sstep c kv.1) d1
    simp only [CacheG.expire, List.foldl_cons] at i1 i2 i3 ⊢
    refine ⟨i1, fun k' => ?_, fun k' => ?_⟩
    · rw [i2, d2, List.map_cons, List.mem_cons, not_or, and_assoc]
    · rw [i3, del_data, mem_akeys_aerase, List.map_cons, List.mem_cons, not_or, and_assoc]

theorem tinv_tick (c : Spec.ACache) (h : TInv c) : TInv (CacheG.tick sstep c).1 := by
  unfold CacheG.tick
  have hnd1 : KeysNodup (sstep c.timers Op.tick).1 := C12.Spec.step_keys_nodup _ h.nodup _
  obtain ⟨e1, e2, e3⟩ := expire_after_tick (sstep c.timers Op.tick).2 { c with timers := (sstep c.timers Op.tick).1 } hnd1
  refine ⟨e1, fun k' => ?_⟩
  rw [e2, e3]
  show k' ∈ keys (C12.Spec.tick c.timers).1 ∧ _ ↔ _
  rw [keys_tick c.timers h.nodup k', h.same k']
  exact ⟨fun ⟨⟨a, _⟩, b⟩ => ⟨a, b⟩, fun ⟨a, b⟩ => ⟨⟨a, b⟩, b⟩⟩

theorem tinv_set (c : Spec.ACache) (k v t : Nat) (hi : c.Inv) (h : TInv c) : TInv (CacheG.set sstep c k v t).1 := by
  unfold CacheG.set
  dsimp only
  rw [table_no_immediate_fire]
  simp only [CacheG.expire, List.foldl_nil]
  have hkeys : ∀ (tb : Table) k', k' ∈ keys (sstep tb (Op.set k v t)).1 ↔ k' = k ∨ k' ∈ keys tb :=
    fun tb k' => (mem_keys_set tb k v _ k').trans Or.comm
  rcases (lruAdd_after_insert sstep c k v hi).2.2 with ⟨_, d1, t1⟩ | ⟨old, _, d1, _, hne, _, _, t1⟩
  · refine ⟨?_, fun k' => ?_⟩
    · show KeysNodup (sstep _ _).1
      rw [t1]; exact C12.Spec.step_keys_nodup _ h.nodup _
    · show k' ∈ keys (sstep _ _).1 ↔ k' ∈ akeys (CacheG.lruAdd sstep _ k).1.data
      rw [t1, d1, hkeys, mem_akeys_ainsert, h.same]
  · have t1 : _ = C12.Spec.remove c.timers old := t1
    refine ⟨?_, fun k' => ?_⟩
    · show KeysNodup (sstep _ _).1
      rw [t1]
      exact C12.Spec.step_keys_nodup _ (C12.Spec.step_keys_nodup _ h.nodup (Op.remove old)) _
    · show k' ∈ keys (sstep _ _).1 ↔ k' ∈ akeys (CacheG.lruAdd sstep _ k).1.data
      rw [t1, d1, hkeys, mem_keys_remove, mem_akeys_aerase, mem_akeys_ainsert, h.same]
      by_cases e : k' = k <;> simp [e, hne.symm]

theorem tinv_lruAdd_hit (c : Spec.ACache) (k : Nat) (hi : c.Inv) (hk : k ∈ akeys c.data) (h : TInv c) :
    TInv (CacheG.lruAdd sstep c k).1 := by
  obtain ⟨_, _, _, hd, ht⟩ := lruAdd_hit sstep c k hi hk
  exact ⟨by rw [ht]; exact h.nodup, fun k' => by rw [ht, hd]; exact h.same k'⟩

theorem tinv_step (c : Spec.ACache) (op : COp) (hi : c.Inv) (h : TInv c) : TInv (CacheG.step sstep c op).1 := by
  cases op with
  | set k v t => exact tinv_set c k v t hi h
  | get k =>
    simp only [CacheG.step, CacheG.get]
    split
    · rename_i v hv; exact tinv_lruAdd_hit c k hi (mem_akeys_of_lookup hv) h
    · exact h
  | del k => exact tinv_del c k h
  | take k v f t =>
    simp only [CacheG.step, CacheG.take]
    split
    · rename_i x hx; exact tinv_lruAdd_hit c k hi (mem_akeys_of_lookup hx) h
    · split
      · exact h
      · exact tinv_set c k v t hi h
  | tick => exact tinv_tick c h

theorem tinv_after (ops : List COp) : ∀ (c : Spec.ACache), c.Inv → TInv c → TInv (CacheG.after sstep c ops) := by
  induction ops with
  | nil => intro c _ h; exact h
  | cons op ops ih =>
    intro c hi h
    exact ih _ (inv_step sstep c op hi).1 (tinv_step c op hi h)

theorem tick_expires_due (c : Spec.ACache) (k : Nat) :
    (k ∈ (CacheG.tick sstep c).2.expired ↔ ∃ v, (⟨k, v, 1⟩ : Timer) ∈ c.timers)
    ∧ (k ∈ (CacheG.tick sstep c).2.expired → alookup (CacheG.tick sstep c).1.data k = none) := by
  constructor
  · show k ∈ (C12.Spec.tick c.timers).2.map (·.1) ↔ _
    simp only [List.mem_map, Prod.exists, exists_and_right, exists_eq_right, C12.Spec.fired_iff]
  · intro hk
    unfold CacheG.tick at hk ⊢
    dsimp only at hk ⊢
    rw [expire_lookup]
    simp only [hk, if_true]

theorem no_timer_survives_tick (c : Spec.ACache) (hn : KeysNodup c.timers) (k : Nat) (hk : k ∉ keys c.timers) :
    k ∉ (CacheG.tick sstep c).2.expired
    ∧ alookup (CacheG.tick sstep c).1.data k = alookup c.data k
    ∧ KeysNodup (CacheG.tick sstep c).1.timers
    ∧ k ∉ keys (CacheG.tick sstep c).1.timers := by
  have hnd1 : KeysNodup (sstep c.timers Op.tick).1 := C12.Spec.step_keys_nodup _ hn _
  have hnot : k ∉ (sstep c.timers Op.tick).2.map (·.1) := fun hm => by
    obtain ⟨⟨k', v⟩, hkv, rfl⟩ := List.mem_map.1 hm
    exact hk (C12.Spec.fired_mem_keys c.timers Op.tick k' v hkv)
  obtain ⟨e1, e2, _⟩ := expire_after_tick (sstep c.timers Op.tick).2 { c with timers := (sstep c.timers Op.tick).1 } hnd1
  exact ⟨hnot, (expire_lookup sstep _ _ k).trans (if_neg hnot), e1,
    fun hm => hk ((keys_tick c.timers hn k).1 ((e2 k).1 hm).1).1⟩

def ticksN (c : Spec.ACache) : Nat → Spec.ACache
  | 0 => c
  | n + 1 => ticksN (CacheG.tick C12.Spec.step c).1 n

end GoZero.C16
