/-
C16 — Tie, the arithmetic: Go `int` arithmetic, slice programs and every decision-making condition, translated by the
extractor, are proven equal to the model's functions for all arguments — index updates of Queue and Ring, `span` /
`updateOffset` / `Reduce` of the RollingWindow (also with the clock behind `lastTime` and a negative interval), the
type switch of Set, the thresholds of SafeMap, the guards of the constructors and options, bucket slots and loop
bounds, and the 64-bit width of the ring index.  The theorems stand in two namespaces, `Tie` and `TieR5`: the names under
which the property's entry lists them.
-/
import GoZero.Extracted.C16
import GoZero.C16.Model
import GoZero.C16.ModelRW
import GoZero.C16.ModelCache
import GoZero.C16.ModelApi
import GoZero.C16.ProofsQueue
namespace GoZero.C16.Tie
open GoZero.C16
open GoZero.Extracted.C16

/-- `Queue.Put`: `q.tail = (q.tail + 1) % len(q.elements); q.count++` is the model's update -/
theorem tie_queuePutTail (q : Queue) (x : Nat) :
    queuePutTail q.grow.tail q.grow.elems.length q.grow.count
      = [("tail", ((q.put x).tail : Int)), ("count", ((q.put x).count : Int))] := by
  simp only [queuePutTail, Queue.put]
  rw [Int.tmod_eq_emod_of_nonneg (by omega)]
  norm_cast

/-- `Queue.Take` on a non-empty queue: `q.head = (q.head + 1) % len(q.elements); q.count--` -/
theorem tie_queueTakeTail (q : Queue) (h : q.count ≠ 0) :
    queueTakeTail q.head q.elems.length q.count
      = [("head", ((q.take).2.head : Int)), ("count", ((q.take).2.count : Int))] := by
  simp only [queueTakeTail, Queue.take, h, if_false]
  rw [Int.tmod_eq_emod_of_nonneg (by omega), Int.natCast_sub (Nat.pos_of_ne_zero h)]
  norm_cast

/-- `RollingWindow.span` (Go `int` division of `timex.Since(lastTime)` by the interval, truncating) is the
model's `RW.span` whenever the clock has not gone backwards -/
theorem tie_rwSpan (rw : RW) (now : Nat) (h : rw.lastTime ≤ now) :
    rwSpan rw.lastTime now rw.interval rw.size = (rw.span now : Int) := by
  unfold rwSpan clockSince RW.span
  rw [← Int.natCast_sub h, Int.tdiv_eq_ediv_of_nonneg (by omega), ← Int.natCast_ediv]
  generalize (now - rw.lastTime) / rw.interval = d
  push_cast
  simp only [Bool.and_eq_true, decide_eq_true_eq]
  split <;> split <;> omega

/-- the tail of `updateOffset`: new offset and re-aligned `lastTime` -/
theorem tie_rwUpdateTail (rw : RW) (now : Nat) (h : rw.lastTime ≤ now) (hs : rw.span now ≠ 0) :
    rwUpdateTail rw.offset (rw.span now) rw.size now rw.lastTime rw.interval
      = [("offset", ((rw.updateOffset now).offset : Int)), ("lastTime", ((rw.updateOffset now).lastTime : Int))] := by
  simp only [rwUpdateTail, clockNow, RW.updateOffset, hs, if_false]
  rw [← Int.natCast_sub h, Int.tmod_eq_emod_of_nonneg (by omega), Int.tmod_eq_emod_of_nonneg (by omega)]
  have hle : (now - rw.lastTime) % rw.interval ≤ now := Nat.le_trans (Nat.mod_le _ _) (Nat.sub_le _ _)
  rw [Int.natCast_sub hle]
  norm_cast

/-- the range check of `span()` on a quotient that truncating division made non-positive, `-(d / a)`: 0 while `d` is
less than one `a`, and a negative quotient otherwise, which fails `0 <= offset`: `size` -/
theorem span_of_neg_quot (d a size : Nat) (ha : 0 < a) :
    (if (decide (0 ≤ -((d / a : Nat) : Int)) && decide (-((d / a : Nat) : Int) < (size : Int))) then -((d / a : Nat) : Int)
      else (size : Int)) = ((if d < a then 0 else size : Nat) : Int) := by
  by_cases hlt : d < a
  · rw [Nat.div_eq_of_lt hlt, if_pos hlt]
    by_cases hz : (0 : Int) < (size : Int)
    · simp
    · have : size = 0 := by omega
      simp [this]
  · have hq : 1 ≤ d / a := (Nat.one_le_div_iff ha).2 (by omega)
    rw [if_neg hlt, if_neg (by simp; omega)]

/-- `RollingWindow.span` with the clock *behind* `lastTime`: Go's truncating division gives 0 for less than one interval
(span 0) and a negative quotient otherwise, which fails `0 <= offset`: span = size (`RW.spanB`) -/
theorem tie_rwSpanBackwards (rw : RW) (now : Nat) (h : now < rw.lastTime) (hi : 0 < rw.interval) :
    rwSpan rw.lastTime now rw.interval rw.size = (rw.spanB now : Int) := by
  unfold rwSpan clockSince RW.spanB
  simp only [h, if_true]
  rw [← Int.neg_sub (rw.lastTime : Int), ← Int.natCast_sub (Nat.le_of_lt h), Int.neg_tdiv, Int.tdiv_eq_ediv_of_nonneg (by omega)]
  exact span_of_neg_quot _ _ _ hi

/-- the tail of `updateOffset` with the clock behind `lastTime`: Go's `%` keeps the sign of the dividend, so `lastTime`
is re-aligned on its old grid at or after `now` (`RW.updateOffsetB`) -/
theorem tie_rwUpdateTailBackwards (rw : RW) (now : Nat) (h : now < rw.lastTime) (hs : rw.spanB now ≠ 0) (hi : 0 < rw.interval) :
    rwUpdateTail rw.offset (rw.spanB now) rw.size now rw.lastTime rw.interval
      = [("offset", ((rw.updateOffsetB now).offset : Int)), ("lastTime", ((rw.updateOffsetB now).lastTime : Int))] := by
  simp only [rwUpdateTail, clockNow, RW.updateOffsetB, hs, if_false, h, if_true]
  rw [← Int.neg_sub (rw.lastTime : Int), ← Int.natCast_sub (Nat.le_of_lt h), Int.neg_tmod, Int.tmod_eq_emod_of_nonneg (by omega), Int.tmod_eq_emod_of_nonneg (by omega)]
  norm_cast
  simp only [Int.sub_neg]
  norm_cast

/-- `Put` grows exactly when the model does -/
theorem tie_queueFullCond (q : Queue) :
    queueFullCond q.head q.tail q.count = decide (q.head = q.tail ∧ q.count > 0) := by
  unfold queueFullCond
  rw [← Bool.decide_and]
  exact decide_eq_decide.2 (by omega)

theorem tie_queueTakeEmptyCond (q : Queue) :
    queueTakeEmptyCond q.count = decide (q.count = 0) ∧ queueEmptyExpr q.count = q.empty :=
  ⟨decide_eq_decide.2 (by omega), decide_eq_decide.2 (by omega)⟩

/-- `copy(dst[len(a):], src)` on `dst = a ++ b` with room for `src` -/
theorem goCopy_append (a b src : List Nat) (h : src.length ≤ b.length) :
    goCopy (a ++ b) (a.length : Int) src = a ++ src ++ b.drop src.length := by
  unfold goCopy
  have e1 : ((a.length : Int)).toNat = a.length := Int.toNat_natCast _
  rw [e1]
  have e2 : (a ++ b).length - a.length = b.length := by simp
  rw [e2, List.take_left' rfl, List.take_of_length_le h, Nat.min_eq_left h, List.drop_length_add_append]

/-- **the growth block of `Put`, translated statement by statement (`make`, the two `copy` calls with their offsets, the
index resets), computes the model's `Queue.grow`**: new buffer = `elements[head:] ++ elements[:head] ++ zeros(size)`,
head 0, tail = old length — for every buffer, every wrapped head (`head ≤ len`), every growth step -/
theorem tie_queueGrowProg (elems : List Nat) (head size : Nat) (h : head ≤ elems.length) :
    queueGrowProg elems head size
      = (elems.drop head ++ elems.take head ++ List.replicate size 0, 0, (elems.length : Int)) := by
  unfold queueGrowProg
  simp only []
  have m : goMake ((elems.length : Int) + (size : Int)) = List.replicate (elems.length + size) 0 := by
    unfold goMake
    rw [← Int.natCast_add, Int.toNat_natCast]
  have s1 : goSlice elems (head : Int) (elems.length : Int) = elems.drop head := by
    unfold goSlice
    rw [Int.toNat_natCast, Int.toNat_natCast, List.take_length]
  have s2 : goSlice elems 0 (head : Int) = elems.take head := by
    unfold goSlice
    rw [Int.toNat_natCast]
    simp
  rw [m, s1, s2]
  have c1 : goCopy (List.replicate (elems.length + size) 0) 0 (elems.drop head)
      = elems.drop head ++ List.replicate (head + size) 0 := by
    have := goCopy_append [] (List.replicate (elems.length + size) 0) (elems.drop head) (by simp; omega)
    simp only [List.nil_append, List.length_nil, Int.natCast_zero] at this
    rw [this, List.drop_replicate, List.length_drop]
    congr 2
    omega
  rw [c1]
  rw [← Int.natCast_sub h, ← List.length_drop, goCopy_append _ _ _ (by simp; omega), List.drop_replicate, List.length_take, Nat.min_eq_left h]
  congr 3
  omega

/-- `Queue.grow` is the translated condition + the translated growth block -/
theorem tie_queueGrow (q : Queue) (h : q.head ≤ q.elems.length) :
    q.grow = if queueFullCond q.head q.tail q.count then
        { q with elems := (queueGrowProg q.elems q.head q.size).1,
                 head := (queueGrowProg q.elems q.head q.size).2.1.toNat,
                 tail := (queueGrowProg q.elems q.head q.size).2.2.toNat }
      else q := by
  rw [tie_queueFullCond, tie_queueGrowProg _ _ _ h]
  unfold Queue.grow
  by_cases c : q.head = q.tail ∧ q.count > 0
  · simp [c]
  · simp [c]

/-- … in every reachable state of every queue (any capacity ≥ 1, any history: any number of expansions, any wrapped
head), the growth step of the model is the translated condition and the translated growth block -/
theorem tie_queueGrow_reachable (size : Nat) (hs : 1 ≤ size) (ops : List QOp) :
    let q := (Queue.new size).after ops
    q.grow = if queueFullCond q.head q.tail q.count then
        { q with elems := (queueGrowProg q.elems q.head q.size).1,
                 head := (queueGrowProg q.elems q.head q.size).2.1.toNat,
                 tail := (queueGrowProg q.elems q.head q.size).2.2.toNat }
      else q := by
  intro q
  exact tie_queueGrow q (Nat.le_of_lt (Queue.inv_after ops _ (Queue.inv_new size hs)).head_lt)

/-- `NewRing` panics exactly for n < 1 (the driver's `nI < 1`) -/
theorem tie_newRingGuard (n : Int) : newRingGuard n = decide (n < 1) := rfl

/-- `Add` stores at `index % len` -/
theorem tie_ringAddSlot (r : Ring) : ringAddSlot r.index r.elems.length = ((r.index % r.elems.length : Nat) : Int) := by
  unfold ringAddSlot
  exact (Int.ofNat_tmod _ _).symm

/-- `r.index++; if r.index >= rlen<<1 { r.index -= rlen }` is the model's index update, for every index and length -/
theorem tie_ringAddIndex (r : Ring) (v : Nat) : ringAddIndex r.index r.elems.length = ((r.add v).index : Int) := by
  simp only [ringAddIndex, Ring.add, decide_eq_true_eq]
  split <;> split <;> omega

/-- `Take`: `size`, `start` as the model's `Ring.sz`, `Ring.start` -/
theorem tie_ringTakeWindow (r : Ring) : ringTakeWindow r.index r.elems.length = ((r.sz : Int), (r.start : Int)) := by
  simp only [ringTakeWindow, Ring.sz, Ring.start, decide_eq_true_eq, Int.tmod_eq_emod_of_nonneg (Int.natCast_nonneg _)]
  split <;> split
  · norm_cast
  · omega
  · omega
  · rfl

/-- element `i` of `Take` is read from slot `(start + i) % len`; the loop runs for `i < size` -/
theorem tie_ringTakeSlot (r : Ring) (i : Nat) :
    ringTakeSlot r.start i r.elems.length = (((r.start + i) % r.elems.length : Nat) : Int)
    ∧ ringTakeLoopCond i r.sz = decide (i ∈ List.range r.sz) := by
  constructor
  · unfold ringTakeSlot
    rw [Int.tmod_eq_emod_of_nonneg (by omega)]
    norm_cast
  · simp [ringTakeLoopCond]

theorem tie_setTypeConsts : setTypeConsts = [("unmanaged", 0), ("untyped", 1), ("intType", 2), ("int64Type", 3),
    ("uintType", 4), ("uint64Type", 5), ("stringType", 6)] := rfl

theorem tie_setTypeTags : ((tpUnmanaged : Int), (tpUntyped : Int)) = (0, 1) := rfl

theorem tie_setSetTypeCases : setSetTypeCases = [("int", "s.tp =", 2), ("int64", "s.tp =", 3), ("uint", "s.tp =", 4),
    ("uint64", "s.tp =", 5), ("string", "s.tp =", 6)] := rfl

theorem tie_setValidateCases : setValidateCases = [("int", "log if s.tp !=", 2), ("int64", "log if s.tp !=", 3),
    ("uint", "log if s.tp !=", 4), ("uint64", "log if s.tp !=", 5), ("string", "log if s.tp !=", 6)] := rfl

/-- the dynamic types `setType` knows are the model's `knownType`, and it sets the tag to the element's type code -/
theorem tie_knownType (t : Nat) : knownType t = decide ((t : Int) ∈ setSetTypeCases.map (·.2.2)) := by
  rw [tie_setSetTypeCases]
  simp only [knownType, List.map, List.mem_cons, List.not_mem_nil, or_false]
  exact decide_eq_decide.2 (by omega)

/-- `validate` logs exactly when the model's `GSet.mismatch` says so: not for an unmanaged set, and for a known dynamic
type whose code differs from the set's tag -/
theorem tie_setValidate (s : GSet) (x : Nat × Nat) :
    s.mismatch x = (!setValidateSkip s.tp && setValidateCases.any fun e => decide (e.2.2 = (x.1 : Int)) && decide ((s.tp : Int) ≠ e.2.2)) := by
  rw [tie_setValidateCases]
  simp only [GSet.mismatch, setValidateSkip, tpUnmanaged, knownType, List.any, Bool.or_false, ← decide_not,
    ← Bool.decide_and, ← Bool.decide_or, decide_eq_true_eq]
  exact decide_eq_decide.2 (by omega)

/-- `Contains` answers false on an empty set before looking (GSet.contains) -/
theorem tie_setContainsEmptyGuard (s : GSet) : setContainsEmptyGuard s.data.length = decide (s.data.length = 0) :=
  decide_eq_decide.2 (by omega)

theorem tie_safeMapSetOldCond (m : SafeMap) : safeMapSetOldCond m.delOld = decide (m.delOld ≤ 10000) :=
  decide_eq_decide.2 (by unfold maxDeletion; omega)

/-- the two migration conditions of `Del` are the guards of `SafeMap.mig1` / `mig2` at the extracted thresholds -/
theorem tie_safeMapMigrateConds (m : SafeMap) :
    safeMapMigrate1Cond m.delOld m.old.length = decide (m.delOld ≥ 10000 ∧ m.old.length < 1000)
    ∧ safeMapMigrate2Cond m.delNew m.new.length = decide (m.delNew ≥ 10000 ∧ m.new.length < 1000) := by
  unfold safeMapMigrate1Cond safeMapMigrate2Cond maxDeletion copyThreshold
  rw [← Bool.decide_and, ← Bool.decide_and]
  exact ⟨decide_eq_decide.2 (by omega), decide_eq_decide.2 (by omega)⟩

/-- `WithLimit(limit)` installs the `keyLru` iff `limit > 0`: the model's `limit = 0` (the driver maps the configured limit
with `Int.toNat`) is exactly "no LRU" -/
theorem tie_cacheLimitGuard (l : Int) : cacheLimitGuard l = decide (l.toNat ≠ 0) :=
  decide_eq_decide.2 (by omega)

/-- `keyLru.add` evicts iff the list — the new key included — is longer than the limit (`CacheG.lruAdd`) -/
theorem tie_lruOverflowCond (lru : List Nat) (k limit : Nat) :
    lruOverflowCond ((k :: lru).length : Nat) limit = decide ((k :: lru).length > limit) :=
  decide_eq_decide.2 (by omega)

/-- `SetTimer` rejects exactly the delays ≤ 0 for a non-nil key (the driver's `nsI ≤ 0` ⇒ `CacheG.setNoTimer`) -/
theorem tie_wheelSetTimerRejects (d : Int) : wheelSetTimerRejects d false = decide (d ≤ 0) := by
  simp [wheelSetTimerRejects]

/-- the wheel `NewCache` builds ticks once a second -/
theorem tie_cacheWheelInterval : cacheWheelIntervalNs = 1000000000 := by decide

theorem tie_rwUpdateSkip (rw : RW) (now : Nat) : rwUpdateSkip (rw.span now) = decide (rw.span now = 0) :=
  decide_eq_decide.2 (by omega)

/-- `Reduce`: the number of buckets visited (`diff`, when positive) and the slot of the first one, from the translated
statements — the model's `RW.diff` and the start index of `RW.reduce` (clock not behind `lastTime`) -/
theorem tie_rwReduce (rw : RW) (now : Nat) (h : rw.lastTime ≤ now) :
    (rwReduceDiff rw.lastTime now rw.interval rw.size rw.ignoreCurrent).toNat = rw.diff now
    ∧ rwReduceGuard (rwReduceDiff rw.lastTime now rw.interval rw.size rw.ignoreCurrent) = decide (0 < rw.diff now)
    ∧ rwReduceStart rw.offset (rw.span now) rw.size = (((rw.offset + rw.span now + 1) % rw.size : Nat) : Int) := by
  have hd : rwReduceDiff rw.lastTime now rw.interval rw.size rw.ignoreCurrent
      = (rw.size : Int) - (if rw.span now = 0 ∧ rw.ignoreCurrent = true then 1 else (rw.span now : Int)) := by
    simp only [rwReduceDiff, tie_rwSpan rw now h]
    by_cases h0 : rw.span now = 0
    · cases rw.ignoreCurrent <;> simp [h0]
    · simp [h0]
  have d0 : (rwReduceDiff rw.lastTime now rw.interval rw.size rw.ignoreCurrent).toNat = rw.diff now := by
    rw [hd]; unfold RW.diff; split <;> omega
  refine ⟨d0, ?_, ?_⟩
  · -- the guard `diff > 0` is read off the first clause
    rw [← d0]
    exact decide_eq_decide.2 Int.lt_toNat.symm
  · unfold rwReduceStart
    rw [Int.tmod_eq_emod_of_nonneg (by omega)]
    norm_cast

end GoZero.C16.Tie

namespace GoZero.C16.TieR5
open GoZero.C16
open GoZero.Extracted.C16

/-- `NewRing`: the constructor panics exactly when the translated guard `n < 1` holds -/
theorem tie_newRingApi (n : Int) : (Ring.newApi n).isNone = newRingGuard n := by
  unfold Ring.newApi newRingGuard
  by_cases h : n < 1 <;> simp [h]

/-- `NewRollingWindow`: the constructor panics exactly when the translated guard `size < 1` holds, whatever the options -/
theorem tie_newRollingWindowApi (size : Int) (interval : Nat) (opts : List RWOpt) (t0 : Nat) :
    (RW.newApi size interval opts t0).isNone = newRollingWindowGuard size := by
  unfold RW.newApi newRollingWindowGuard
  by_cases h : size < 1 <;> simp [h]

/-- `WithLimit(l)`: a keyLru of limit `l` is installed exactly when the translated guard `limit > 0` holds; otherwise
the cache keeps what it had -/
theorem tie_withLimitApply (c : CacheCfg) (l : Int) :
    (CacheOpt.apply c (.withLimit l)).limit = if cacheLimitGuard l then l.toNat else c.limit := by
  unfold CacheOpt.apply cacheLimitGuard
  by_cases h : l > 0 <;> simp [h]

/-- `if len(cache.name) == 0 { cache.name = defaultCacheName }` (a name is the natural 0 iff its length is 0) -/
theorem tie_cacheNameDefault (dflt : Nat) (opts : List CacheOpt) :
    effName dflt opts = if newCacheNameDefaultCond (cacheCfg opts).name then dflt else (cacheCfg opts).name := by
  unfold effName newCacheNameDefaultCond
  by_cases h : (cacheCfg opts).name = 0
  · simp [h]
  · simp [h]

/-- the error value the loader hands back, as `e == nil` sees it: a value comes with a nil error, `errors.New` and a
typed-nil pointer in the interface are both non-nil; a panic / Goexit never reaches the test -/
def Load.errNil : Load → Option Bool
  | .value _ => some true
  | .error => some false
  | .typedNilError => some false
  | _ => none

/-- `if e != nil { return nil, e }` inside the closure of `Take`: the load counts as failed exactly when the translated
condition holds; outcomes that do not return (panic, Goexit) never reach `c.Set` either -/
theorem tie_takeLoaderErrCond (l : Load) :
    (∀ b, Load.errNil l = some b → l.fails = cacheTakeLoaderErrCond b)
    ∧ (Load.errNil l = none → l.fails = true) := by
  cases l <;> simp [Load.errNil, Load.fails, cacheTakeLoaderErrCond]

/-- `window.add(offset, v)`: bucket `offset % size` — the slot `RW.add` writes -/
theorem tie_winAddSlot (offset size : Nat) : winAddSlot offset size = ((offset % size : Nat) : Int) := by
  unfold winAddSlot; exact (Int.ofNat_tmod _ _).symm

/-- `window.reduce(start, count, fn)`: the i-th visited bucket is `(start + i) % size` — the index of `RW.reduce` -/
theorem tie_winReduceSlot (start i size : Nat) : winReduceSlot start i size = (((start + i) % size : Nat) : Int) := by
  unfold winReduceSlot
  have := Int.ofNat_tmod (start + i) size
  push_cast at this ⊢
  exact this.symm

/-- `updateOffset`: the i-th expired bucket is `(offset + i + 1) % size` — the index `RW.resetLoop` clears; `resetBucket`
reduces it modulo `size` once more, which changes nothing -/
theorem tie_rwResetIndex (offset i size : Nat) :
    rwResetIndex offset i size = (((offset + i + 1) % size : Nat) : Int)
    ∧ winResetSlot (rwResetIndex offset i size) size = rwResetIndex offset i size := by
  have h1 : rwResetIndex offset i size = (((offset + i + 1) % size : Nat) : Int) := by
    unfold rwResetIndex
    have := Int.ofNat_tmod (offset + i + 1) size
    push_cast at this ⊢
    exact this.symm
  refine ⟨h1, ?_⟩
  rw [h1]
  unfold winResetSlot
  rw [← Int.ofNat_tmod, Nat.mod_mod]

/-- the loops run `i = 0 … n-1` (`List.range n` in the models) -/
theorem tie_windowLoopConds (i n : Nat) :
    winReduceLoopCond i n = decide (i < n) ∧ rwResetLoopCond i n = decide (i < n) ∧ newWindowLoopCond i n = decide (i < n) :=
  ⟨decide_eq_decide.2 (by omega), decide_eq_decide.2 (by omega), decide_eq_decide.2 (by omega)⟩

theorem wrap64_id (x : Int) (h1 : -9223372036854775808 ≤ x) (h2 : x < 9223372036854775808) : wrap64 x = x := by
  unfold wrap64; omega

/-- **`Ring.Add` does not overflow.**  With the index inside `[0, 2·rlen)` (`ring_index_lt_2n`: every reachable state) and
`rlen < 2^62` (a slice of 2^62 interface values — 2^66 bytes — cannot be allocated), the 64-bit reading of those
statements (`ringAddIndexW`, written by hand in ModelApi.lean: every intermediate result wrapped) is the unbounded one the model was proven
about (`ringAddIndex`, `tie_ringAddIndex`), and the new index is inside `[0, 2·rlen)` again. -/
theorem tie_ringAddIndex_width (index rlen : Int) (h0 : 0 ≤ index) (h1 : index < 2 * rlen)
    (hn : rlen < 4611686018427387904) :
    ringAddIndexW index rlen = ringAddIndex index rlen
    ∧ 0 ≤ ringAddIndex index rlen ∧ ringAddIndex index rlen < 2 * rlen := by
  unfold ringAddIndexW ringAddIndex
  rw [wrap64_id (index + 1) (by omega) (by omega), wrap64_id (rlen * 2) (by omega) (by omega)]
  simp only [ge_iff_le, decide_eq_true_eq]
  by_cases h : rlen * 2 ≤ index + 1
  · rw [wrap64_id (index + 1 - rlen) (by omega) (by omega)]
    simp only [h, if_true]
    exact ⟨trivial, by omega, by omega⟩
  · simp only [h, if_false]
    exact ⟨trivial, by omega, by omega⟩

/-- at the very edge the hypothesis is needed: with `rlen = 2^62` the guard `rlen<<1` wraps to `-2^63` and the index is
folded back on the first Add -/
example : ringAddIndexW 0 4611686018427387904 ≠ ringAddIndex 0 4611686018427387904 := by decide

/-- **`span()` with a negative interval** (clock not behind `lastTime`): 0 while less than `|interval|` has passed, `size`
from then on — so `Reduce` visits nothing and the next `Add` resets every bucket.  The property speaks about "the last
`size` intervals" and has no reading for intervals of negative length: `interval ≥ 1` is an explicit hypothesis (`hi`) of
every RollingWindow theorem.  (For `interval = 0` Go panics with a division by zero in every `Add` / `Reduce`; Lean's
`Int.tdiv x 0 = 0`, so the translated `rwSpan` does not describe that case.) -/
theorem tie_rwSpan_negativeInterval (lastTime now a size : Nat) (h : lastTime ≤ now) (ha : 0 < a) :
    rwSpan lastTime now (-(a : Int)) size = (RW.spanNeg lastTime now a size : Int) := by
  unfold rwSpan clockSince RW.spanNeg
  rw [← Int.natCast_sub h, Int.tdiv_neg, Int.tdiv_eq_ediv_of_nonneg (by omega)]
  exact Tie.span_of_neg_quot _ _ _ ha

example : rwSpan 10 14 (-5) 3 = 0 ∧ rwSpan 10 15 (-5) 3 = 3 ∧ rwSpan 10 99 (-5) 3 = 3 := by decide

end GoZero.C16.TieR5
