/-
C16 — Tie, the effects: a SEMANTICS for the typed call lists of TieTexts.lean.  Every (kind, callee, arguments) triple of the
decision-relevant Cache / RollingWindow methods is read as a transition of the model (`ceffOf`, `reffOf`: a triple that
is not one of the known transitions makes the reading fail), the transitions are run in source order under a lock
discipline (map and recency list only under `c.lock`, `SetTimer` only after the unlock), and the result is proven EQUAL to
the model's function for all states and arguments.  So a reordered, dropped or added call — or an argument that goes to
another parameter — breaks a theorem here, not only a string comparison.  Also: the two phases of Set / Del that the
interleaving model ConcWheel.lean schedules independently.  The theorems stand in the namespace `TieR5c`, the name under
which the property's entry lists them.
-/
import GoZero.C16.TieTexts
import GoZero.C16.ModelCache
import GoZero.C16.ModelRW
import GoZero.C16.ConcWheel
import GoZero.C16.Model
namespace GoZero.C16.TieR5c
open GoZero.C16
open GoZero.Extracted.C16

inductive CEff where
  | lock | unlock | dataDelete | dataStore | lruAdd | lruRemove | timerRemove | jitter | timerSet
  deriving Repr, DecidableEq

/-- which model transition a call / store of the Cache methods is; the argument texts are the method's own parameters
(`key`, `value`, `expire`) or the local `expiry` the jitter produced — anything else is not understood -/
def ceffOf : String × String × List String → Option CEff
  | ("call", "c.lock.Lock", []) => some .lock
  | ("call", "c.lock.Unlock", []) => some .unlock
  | ("call", "delete", ["c.data", "key"]) => some .dataDelete
  | ("store", "c.data", ["key", "value"]) => some .dataStore
  | ("call", "c.lruCache.add", ["key"]) => some .lruAdd
  | ("call", "c.lruCache.remove", ["key"]) => some .lruRemove
  | ("call", "c.timingWheel.RemoveTimer", ["key"]) => some .timerRemove
  | ("call", "c.unstableExpiry.AroundDuration", ["expire"]) => some .jitter
  | ("call", "c.timingWheel.SetTimer", ["key", "value", "expiry"]) => some .timerSet
  | _ => none

variable {T : Type} (ts : TStep T)

/-- one transition on (cache, what the call reported so far, is `c.lock` held); `none` = the lock discipline is broken
(map / recency list touched without the lock, lock taken twice, the timer started while the lock is held) -/
def CEff.run (k v ticks : Nat) : CacheG T × CacheOut × Bool → CEff → Option (CacheG T × CacheOut × Bool)
  | (c, o, false), .lock => some (c, o, true)
  | (c, o, true), .unlock => some (c, o, false)
  | (c, o, true), .dataDelete => some ({ c with data := aerase c.data k }, o, true)
  | (c, o, true), .dataStore => some ({ c with data := ainsert c.data k v }, o, true)
  | (c, o, true), .lruAdd => some ((CacheG.lruAdd ts c k).1, { o with evicted := (CacheG.lruAdd ts c k).2 }, true)
  | (c, o, true), .lruRemove => some (CacheG.lruRemove ts c k, o, true)
  | (c, o, l), .timerRemove => some ({ c with timers := (ts c.timers (.remove k)).1 }, o, l)
  | (c, o, false), .jitter => some (c, o, false)
  | (c, o, false), .timerSet =>
    some (CacheG.expire ts { c with timers := (ts c.timers (.set k v ticks)).1 } (ts c.timers (.set k v ticks)).2,
          { o with expired := (ts c.timers (.set k v ticks)).2.map (·.1) }, false)
  | _, _ => none

def runAll (k v ticks : Nat) (st : CacheG T × CacheOut × Bool) : List CEff → Option (CacheG T × CacheOut × Bool)
  | [] => some st
  | e :: es => match CEff.run ts k v ticks st e with
    | none => none
    | some st' => runAll k v ticks st' es

/-- **`Cache.Del` IS `CacheG.del`**: the extracted calls, read as transitions and run in source order from an unlocked
cache, give exactly the model's function (and end unlocked) -/
theorem tie_cacheDel_semantics :
    cacheDelCalls.mapM ceffOf = some [.lock, .dataDelete, .lruRemove, .unlock, .timerRemove]
    ∧ ∀ (T : Type) (ts : TStep T) (c : CacheG T) (k : Nat),
        runAll ts k 0 0 (c, {}, false) [.lock, .dataDelete, .lruRemove, .unlock, .timerRemove]
          = some (CacheG.del ts c k, {}, false) :=
  ⟨rfl, fun _ _ _ _ => rfl⟩

/-- **`Cache.SetWithExpire` IS `CacheG.set`** (state, evicted keys, expired keys) -/
theorem tie_cacheSetWithExpire_semantics :
    cacheSetWithExpireCalls.mapM ceffOf = some [.lock, .dataStore, .lruAdd, .unlock, .jitter, .timerSet]
    ∧ ∀ (T : Type) (ts : TStep T) (c : CacheG T) (k v ticks : Nat),
        runAll ts k v ticks (c, {}, false) [.lock, .dataStore, .lruAdd, .unlock, .jitter, .timerSet]
          = some ((CacheG.set ts c k v ticks).1, (CacheG.set ts c k v ticks).2, false) :=
  ⟨rfl, fun _ _ _ _ _ _ => rfl⟩

/-- **`Cache.onEvict` IS `CacheG.onEvict`** (called with the lock held) -/
theorem tie_cacheOnEvict_semantics :
    cacheOnEvictCalls.mapM ceffOf = some [.dataDelete, .timerRemove]
    ∧ ∀ (T : Type) (ts : TStep T) (c : CacheG T) (k : Nat),
        runAll ts k 0 0 (c, {}, true) [.dataDelete, .timerRemove] = some (CacheG.onEvict ts c k, {}, true) :=
  ⟨rfl, fun _ _ _ _ => rfl⟩

/-- `Cache.Set` forwards its two parameters and the CONFIGURED expiry, in this order, to `SetWithExpire` -/
theorem tie_cacheSet_forward : cacheSetCalls = [("call", "c.SetWithExpire", ["key", "value", "c.expire"])] :=
  TieR5.tie_cacheSetCalls

/-- the effects of a method before and after its (only) `Unlock` -/
def phases (l : List CEff) : List CEff × List CEff :=
  ((l.takeWhile (· ≠ .unlock)).filter (· ≠ .lock), (l.dropWhile (· ≠ .unlock)).drop 1)

/-- **The two phases the interleaving model schedules independently** (the actions `setLock` / `setWheel`, `delLock` /
`rmWheel` of `CW.Act`): under the lock the map and the recency list, after the unlock the wheel — and the map effect of the locked
phase is the one `CW.step` applies (`limit = 0`: the recency list does nothing).  The third component of the pending
`SetTimer` triple is NOT the `ticks` of `COp.set`: in `CW.step (.setWheel i)` a 0 stands for a delay ≤ 0, which `SetTimer`
rejects (no timer), while `CacheG.set … 0` is a positive delay below one interval, clamped to one tick (the rejected delay
is `CacheG.setNoTimer` there). -/
theorem tie_cachePhases :
    (cacheDelCalls.mapM ceffOf).map phases = some ([.dataDelete, .lruRemove], [.timerRemove])
    ∧ (cacheSetWithExpireCalls.mapM ceffOf).map phases = some ([.dataStore, .lruAdd], [.jitter, .timerSet])
    ∧ (∀ s k, (CW.step s (.delLock k)).map (·.data) = some (aerase s.data k))
    ∧ (∀ s k v t, (CW.step s (.setLock k v t none)).map (·.data) = some (ainsert s.data k v))
    ∧ (∀ s k, (CW.step s (.delLock k)).map (·.pendRm) = some (s.pendRm ++ [k]))
    ∧ (∀ s k v t, (CW.step s (.setLock k v t none)).map (·.pendSet) = some (s.pendSet ++ [(k, v, t)])) :=
  ⟨by rw [tie_cacheDel_semantics.1]; rfl, by rw [tie_cacheSetWithExpire_semantics.1]; rfl,
   fun _ _ => rfl, fun _ _ _ _ => rfl, fun _ _ => rfl, fun _ _ _ _ => rfl⟩

inductive REff where
  | lock | deferUnlock | updateOffset | winAdd
  deriving Repr, DecidableEq

def reffOf : String × String × List String → Option REff
  | ("call", "rw.lock.Lock", []) => some .lock
  | ("defer", "rw.lock.Unlock", []) => some .deferUnlock
  | ("call", "rw.updateOffset", []) => some .updateOffset
  | ("call", "rw.win.add", ["rw.offset", "v"]) => some .winAdd
  | _ => none

/-- `updateOffset()` moves the window to `now`; `win.add(rw.offset, v)` appends to the bucket at the CURRENT offset
(`tie_winAddSlot`: slot `offset % size`) -/
def REff.run (now v : Nat) (rw : RW) : REff → RW
  | .lock => rw
  | .deferUnlock => rw
  | .updateOffset => rw.updateOffset now
  | .winAdd => { rw with buckets := rw.buckets.set (rw.offset % rw.size) (rw.buckets.getD (rw.offset % rw.size) [] ++ [v]) }

/-- **`RollingWindow.Add` IS `RW.add`**: lock, deferred unlock, `updateOffset` BEFORE the bucket write, the write at the
updated offset -/
theorem tie_rwAdd_semantics :
    rwAddCalls.mapM reffOf = some [.lock, .deferUnlock, .updateOffset, .winAdd]
    ∧ ∀ (rw : RW) (now v : Nat) (hs : (rw.updateOffset now).size = rw.size),
        [REff.lock, .deferUnlock, .updateOffset, .winAdd].foldl (REff.run now v) rw = rw.add now v := by
  refine ⟨rfl, fun rw now v hs => ?_⟩
  simp only [List.foldl, REff.run, RW.add, hs]

theorem updateOffset_size (rw : RW) (now : Nat) : (rw.updateOffset now).size = rw.size := by
  unfold RW.updateOffset; split <;> rfl

/-! ### constructors: which argument initialises which field

The keyed struct literal of every constructor is read field by field (`initOf`: a parameter of the constructor, a fresh
container sized by a parameter, the clock, the package's empty LRU, …).  The readers `queueOf` / `ringOf` / `rwOf` /
`cacheOf` CHECK that every field is initialised from the expected source (or absent: Go's zero value) and then hand
out the model's initial value `Queue.new` / `Ring.new` / `RW.new` / (`default expiry`, `Cache.new 0`); they do not
compute that value from the fields.  So what the ties below establish is the check on the extracted field list: a
field initialised from the wrong parameter, or dropped, makes the reader answer `none`. -/

inductive Init where
  | param (name : String) | freshMap | freshSlice (len : String) | window (size : String) | clock | emptyLru | other (txt : String)
  deriving Repr, DecidableEq

def initOf : String → Init
  | "size" => .param "size" | "interval" => .param "interval" | "expire" => .param "expire" | "limit" => .param "limit"
  | "onEvict" => .param "onEvict" | "buckets" => .param "buckets"
  | "make(map[string]any)" => .freshMap | "make(map[string]*list.Element)" => .freshMap
  | "make([]any, size)" => .freshSlice "size" | "make([]any, n)" => .freshSlice "n"
  | "newWindow[T, B](newBucket, size)" => .window "size"
  | "timex.Now()" => .clock
  | "emptyLruCache" => .emptyLru
  | t => .other t

def fieldInit (fields : List (String × String)) (f : String) : Option Init := (fields.lookup f).map initOf

/-- a field the literal does not mention keeps Go's zero value: the reading must say so explicitly -/
def absent (fields : List (String × String)) (f : String) : Bool := (fields.lookup f).isNone

def queueOf (fields : List (String × String)) (size : Nat) : Option Queue :=
  if fieldInit fields "elements" = some (.freshSlice "size") ∧ fieldInit fields "size" = some (.param "size")
     ∧ absent fields "head" ∧ absent fields "tail" ∧ absent fields "count"
  then some { elems := List.replicate size 0, size := size, head := 0, tail := 0, count := 0 } else none

def ringOf (fields : List (String × String)) (n : Nat) : Option Ring :=
  if fieldInit fields "elements" = some (.freshSlice "n") ∧ absent fields "index"
  then some { elems := List.replicate n 0, index := 0 } else none

def rwOf (fields : List (String × String)) (size interval now : Nat) : Option RW :=
  if fieldInit fields "size" = some (.param "size") ∧ fieldInit fields "win" = some (.window "size")
     ∧ fieldInit fields "interval" = some (.param "interval") ∧ fieldInit fields "lastTime" = some .clock
     ∧ absent fields "offset" ∧ absent fields "ignoreCurrent"
  then some { size := size, interval := interval, ignoreCurrent := false, offset := 0, lastTime := now,
              buckets := List.replicate size [] } else none

/-- (the default expiry `Set` / `Take` will use, the empty cache) -/
def cacheOf (fields : List (String × String)) (expire slots : Nat) : Option (Nat × Cache) :=
  if fieldInit fields "data" = some .freshMap ∧ fieldInit fields "expire" = some (.param "expire")
     ∧ fieldInit fields "lruCache" = some .emptyLru
  then some (expire, Cache.new 0 slots) else none

theorem tie_newQueue_semantics (size : Nat) : queueOf newQueueFields size = some (Queue.new size) :=
  if_pos (by decide)

theorem tie_newRing_semantics (n : Nat) : ringOf newRingFields n = some (Ring.new n) :=
  if_pos (by decide)

theorem tie_newRollingWindow_semantics (size interval now : Nat) :
    rwOf newRollingWindowFields size interval now = some (RW.new size interval false now) :=
  if_pos (by decide)

/-- **`NewCache`: the default expiry IS the `expire` argument, the cache starts empty and unbounded** (options come after) -/
theorem tie_newCache_semantics (expire slots : Nat) : cacheOf newCacheFields expire slots = some (expire, Cache.new 0 slots) :=
  if_pos (by decide)

/-- `newKeyLru`: the limit and the eviction callback are the arguments; `newWindow`: the buckets built in the loop -/
theorem tie_newKeyLru_newWindow_fields :
    fieldInit newKeyLruFields "limit" = some (.param "limit") ∧ fieldInit newKeyLruFields "onEvict" = some (.param "onEvict")
    ∧ fieldInit newKeyLruFields "elements" = some .freshMap
    ∧ fieldInit newWindowFields "buckets" = some (.param "buckets") ∧ fieldInit newWindowFields "size" = some (.param "size") := by
  decide

end GoZero.C16.TieR5c
