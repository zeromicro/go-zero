/-
C16 — Cache used from one goroutine: the cache over the timing wheel behaves as the cache over the timer table, the
size bound, least-recently-used eviction, `Get` returns the latest value set unless deleted / expired / evicted,
`Take` loads only on a miss, expiry through the timers, every option list and every outcome of the loader; the two
defects found (one fixed, one open) as checked witnesses (lemmas: ProofsCache*, ProofsLru).  The statements use
`CacheG.Inv` (ProofsCache), `CacheG.after`, `touches`, `Spec.aliveStep` / `Spec.latestAlive` — the property's reference
for one key, computed from the operations and what they reported — (ProofsCacheOps), `ticksN` (ProofsCacheTimers),
`usedKey` and the ghost clock `Ghost` (ProofsLru).
-/
import GoZero.C16.ProofsCacheTimers
import GoZero.C16.ProofsLru
import GoZero.C16.ModelApi
namespace GoZero.C16

theorem cache_new_inv {T : Type} (limit : Nat) (x : T) : ({ limit := limit, data := [], lru := [], timers := x } : CacheG T).Inv :=
  ⟨by simp [akeys], fun _ => by simp, fun _ k => by simp [akeys], fun _ => by simp⟩

/-- **The cache over the timing wheel behaves as the cache over the timer table.**  For every limit
(0 = no LRU), every number of wheel slots ≥ 1 and every history of Set / Get / Del / Take / tick with any
(jittered) expiry, every operation of the model of the code (map + `keyLru` + C12 timing-wheel model) has the
same result, the same evicted keys, the same expired keys and the same loader calls as the abstract cache
whose timers are the table `key ↦ ticks remaining` (uses `C12.step_refines`). -/
theorem cache_refines_timer_table (limit slots : Nat) (hs : 1 ≤ slots) (ops : List COp) :
    CacheG.run C12.step (Cache.new limit slots) ops = CacheG.run C12.Spec.step (Spec.ACache.new limit) ops :=
  run_rel wheel_sim ops ⟨rfl, rfl, rfl, ⟨C12.init_wf slots hs, by simp [C12.abs, C12.TW.init, Cache.new, Spec.ACache.new]⟩⟩

/-- **Never more than `limit` entries** (any timer mechanism, any history). -/
theorem cache_size_le_limit {T : Type} (ts : TStep T) (limit : Nat) (hl : 0 < limit) (x : T) (ops : List COp) :
    (CacheG.after ts { limit := limit, data := [], lru := [], timers := x } ops).data.length ≤ limit := by
  obtain ⟨h1, h2⟩ := inv_after ts ops _ (cache_new_inv limit x)
  have := CacheG.Inv.size_le _ h1 (by rw [h2]; exact hl)
  rw [h2] at this
  exact this

/-- the recency list holds exactly the keys of the map, once each (invariant behind the size bound) -/
theorem cache_lru_tracks_keys {T : Type} (ts : TStep T) (limit : Nat) (x : T) (ops : List COp) :
    (CacheG.after ts { limit := limit, data := [], lru := [], timers := x } ops).Inv :=
  (inv_after ts ops _ (cache_new_inv limit x)).1

/-- **Eviction is in least-recently-used order.**  In any reachable state, a `Set` evicts at most one key, and
only when the key is new and the cache is full; the victim is the *last* element of the recency list (whose
head is always the key used most recently, see `cache_use_moves_to_front`) and never the key being set. -/
theorem cache_evicts_lru_order {T : Type} (ts : TStep T) (c : CacheG T) (h : c.Inv) (k v t : Nat) :
    (CacheG.set ts c k v t).2.evicted = []
    ∨ ∃ old, (CacheG.set ts c k v t).2.evicted = [old] ∧ c.lru.getLast? = some old ∧ old ≠ k
        ∧ k ∉ c.lru ∧ c.lru.length = c.limit := by
  have h3 := (lruAdd_after_insert ts c k v h).2.2
  unfold CacheG.set
  dsimp only
  rcases h3 with ⟨e, _⟩ | ⟨old, e1, _, e3, e4, e5, e6, _⟩
  · exact Or.inl e
  · exact Or.inr ⟨old, e1, e3, e4, e5, e6⟩

/-- **The evicted key is the least recently used one.**  Run any history with a ghost clock that stamps each
key at every use (a `Set`, a `Get`/`Take` hit, a successful `Take` load — `usedKey`); in the state reached, if a
`Set` evicts `old`, then `old`'s last use is older than the last use of every other cached key. -/
theorem cache_evicts_least_recently_used {T : Type} (ts : TStep T) (limit : Nat) (hl : 0 < limit) (x : T)
    (ops : List COp) (k v t old : Nat) :
    let g := Ghost.run ts ⟨{ limit := limit, data := [], lru := [], timers := x }, fun _ => 0, 0⟩ ops
    (CacheG.set ts g.c k v t).2.evicted = [old] →
    ∀ k', k' ∈ akeys g.c.data → k' ≠ old → g.stamp old < g.stamp k' := by
  intro g hev k' hk' hne
  obtain ⟨hg, hc⟩ := Ghost.inv_run ts ops ⟨{ limit := limit, data := [], lru := [], timers := x }, fun _ => 0, 0⟩
    (cache_new_inv limit x) ⟨fun _ => Nat.le_refl _, fun _ => List.Pairwise.nil⟩
  have hlim : 0 < g.c.limit := by
    have := (inv_after ts ops _ (cache_new_inv limit x)).2
    show 0 < (Ghost.run ts _ ops).c.limit
    rw [Ghost.run_c, this]; exact hl
  rcases cache_evicts_lru_order ts g.c hc k v t with e | ⟨old', e, hlast, _⟩
  · rw [e] at hev; cases hev
  · rw [e] at hev
    simp only [List.cons.injEq, and_true] at hev
    subst hev
    obtain ⟨ys, hys⟩ := List.getLast?_eq_some_iff.1 hlast
    have hs := hg.sorted hlim
    rw [hys, List.pairwise_append] at hs
    have hm : k' ∈ g.c.lru := (hc.sameKeys hlim k').2 hk'
    rw [hys, List.mem_append] at hm
    rcases hm with hm | hm
    · exact hs.2.2 k' hm old' (by simp)
    · exact absurd (List.mem_singleton.1 hm) hne

/-- limit 2: set 1, set 2, get 1 (stamps 1 ↦ 3, 2 ↦ 2); setting 3 evicts 2, the key used longest ago -/
example :
    let g := Ghost.run C12.Spec.step ⟨Spec.ACache.new 2, fun _ => 0, 0⟩ [.set 1 10 5, .set 2 20 5, .get 1]
    (CacheG.set C12.Spec.step g.c 3 30 5).2.evicted = [2] ∧ g.stamp 2 = 2 ∧ g.stamp 1 = 3 ∧ g.c.lru = [1, 2] := by
  decide

/-- a hit (`Get`, or `Take` on a present key) moves the key to the front of the recency list, evicts nothing -/
theorem cache_use_moves_to_front {T : Type} (ts : TStep T) (c : CacheG T) (hl : 0 < c.limit) (h : c.Inv)
    (k v : Nat) (hv : alookup c.data k = some v) :
    (CacheG.get ts c k).1.lru = k :: c.lru.filter (· ≠ k) ∧ (CacheG.get ts c k).2.evicted = [] := by
  have hm : k ∈ c.lru := (h.sameKeys hl k).2 (mem_akeys_of_lookup hv)
  have h0 : ¬ c.limit = 0 := by omega
  simp [CacheG.get, hv, CacheG.lruAdd, h0, hm]

/-- **`Take` calls the loader only on a miss** (and then exactly once), `Get`/`Take` on a hit return the stored value. -/
theorem take_loads_only_on_miss {T : Type} (ts : TStep T) (c : CacheG T) (k v : Nat) (f : Bool) (t : Nat) :
    ((CacheG.take ts c k v f t).2.loaded = true ↔ alookup c.data k = none)
    ∧ (∀ x, alookup c.data k = some x → (CacheG.take ts c k v f t).2.result = some x)
    ∧ (CacheG.get ts c k).2.result = alookup c.data k := by
  unfold CacheG.take CacheG.get
  cases h : alookup c.data k with
  | none => cases f <;> simp
  | some x => simp

/-- **`Get` returns the latest value set unless the entry was deleted, expired or evicted.**  After
`Set k v` in an invariant state (not expired on the spot: see `set_expires_later`), and any history that does not
address `k` and in which no operation reports `k` as evicted or expired, `Get k` returns `v`. -/
theorem cache_get_latest_unless_gone {T : Type} (ts : TStep T) (c : CacheG T) (h : c.Inv) (k v t : Nat)
    (ops : List COp) (hnow : k ∉ (CacheG.set ts c k v t).2.expired)
    (hun : ∀ op, op ∈ ops → touches k op = false)
    (hgone : ∀ o, o ∈ CacheG.run ts (CacheG.set ts c k v t).1 ops → k ∉ o.evicted ∧ k ∉ o.expired) :
    (CacheG.get ts (CacheG.after ts (CacheG.set ts c k v t).1 ops) k).2.result = some v := by
  rw [get_result, frame_run ts ops _ (inv_set ts c k v t h).1 k hun hgone, set_lookup ts c k v t h k]
  have hev : k ∉ (CacheG.set ts c k v t).2.evicted := by
    rcases cache_evicts_lru_order ts c h k v t with e | ⟨old, e, _, hne, _⟩
    · rw [e]; simp
    · rw [e]; exact fun x => hne (List.mem_singleton.1 x).symm
  simp [hnow, hev]

/-- nothing expires at the `Set` itself, whatever the (jittered) expiry — also below one wheel interval
(timer table; by `cache_refines_timer_table` the same holds for the wheel) -/
theorem set_expires_later (c : Spec.ACache) (k v t : Nat) :
    (CacheG.set C12.Spec.step c k v t).2.expired = [] := by
  unfold CacheG.set
  dsimp only
  rw [table_no_immediate_fire _ k v t]
  rfl

/-- **`Get` right after `Set` returns the value set**, for every expiry (corollary for the timer-table cache). -/
theorem cache_get_after_set (c : Spec.ACache) (h : c.Inv) (k v t : Nat) :
    (CacheG.get C12.Spec.step (CacheG.set C12.Spec.step c k v t).1 k).2.result = some v := by
  exact cache_get_latest_unless_gone C12.Spec.step c h k v t [] (by rw [set_expires_later]; simp)
    (by simp) (by simp [CacheG.run])

theorem tinv_new_after (limit : Nat) (ops : List COp) : TInv (CacheG.after C12.Spec.step (Spec.ACache.new limit) ops) :=
  tinv_after ops (Spec.ACache.new limit) (cache_new_inv limit [])
    ⟨by simp [Spec.ACache.new, C12.Spec.KeysNodup, C12.Spec.keys], by simp [Spec.ACache.new, C12.Spec.keys, akeys]⟩

/-- **One pending timer per cached entry, no timer without an entry** (abstract cache, any history): the keys
of the timer table are exactly the keys of the map, each once — for histories of `COp`, in which every `Set` starts a
timer (a `Set` with a non-positive expiry, `CacheG.setNoTimer` below, is not among them and leaves an entry without
one).  So in such a history no entry outlives its expiry for lack of a timer, and no stale timer (of an evicted,
deleted or expired entry) can delete a later entry of the same key. -/
theorem cache_timer_per_entry (limit : Nat) (ops : List COp) :
    let c := CacheG.after C12.Spec.step (Spec.ACache.new limit) ops
    (C12.Spec.keys c.timers).Nodup ∧ ∀ k, k ∈ C12.Spec.keys c.timers ↔ k ∈ akeys c.data :=
  ⟨(tinv_new_after limit ops).nodup, (tinv_new_after limit ops).same⟩

/-- **A tick expires exactly the entries whose timer is due** (one tick left), and they leave the cache. With
`C12`'s `pending_fires_exactly_at_due` for the table (a timer set with `s ≥ 1` is due at the `s`-th following
tick unless set again or removed) this is "has expired" in the property's sense. -/
theorem cache_tick_expires_due (limit : Nat) (ops : List COp) (k : Nat) :
    let c := CacheG.after C12.Spec.step (Spec.ACache.new limit) ops
    (k ∈ (CacheG.tick C12.Spec.step c).2.expired ↔ ∃ v, (⟨k, v, 1⟩ : C12.Spec.Timer) ∈ c.timers)
    ∧ (k ∈ (CacheG.tick C12.Spec.step c).2.expired → alookup (CacheG.tick C12.Spec.step c).1.data k = none) :=
  tick_expires_due _ k

/-- limit 2: keys 1, 2 set, 1 read (moves to front), 3 set → 2 is evicted, 1 and 3 stay; expiry after 3 ticks -/
example : (CacheG.run C12.step (Cache.new 2 300) [.set 1 10 3, .set 2 20 3, .get 1, .set 3 30 5, .get 2, .get 1, .tick, .tick, .tick, .get 1, .get 3]).map
      (fun o => (o.evicted, o.expired, o.result))
    = [([], [], none), ([], [], none), ([], [], some 10), ([2], [], none), ([], [], none), ([], [], some 10),
       ([], [], none), ([], [], none), ([], [1], none), ([], [], none), ([], [], some 30)] := by decide

/-! ### Non-positive expiry (`NewCache(0)`, `SetWithExpire(k, v, 0)`, a 1 ns expiry jittered down to 0)

`SetWithExpire` computes `expiry := AroundDuration(expire)` and calls `SetTimer(key, value, expiry)`, which rejects a
delay ≤ 0 with `ErrArgument`; the error is dropped.  The property text ("returns the latest value set for a key unless
it was deleted, has expired, or was evicted") has no clause that an entry must eventually expire, so this is modelled
as the code behaves (`CacheG.setNoTimer`) and not counted as a violation: -/

/-- **`Set` with a non-positive expiry**: the value is stored and returned by the next `Get`, the size bound and the
recency invariant hold, LRU eviction works as usual — and the timers are left alone (apart from the evicted key's):
a pending timer of the key keeps running, so the new value expires on the *old* schedule; a new key gets no timer. -/
theorem set_nonpositive_expiry {T : Type} (ts : TStep T) (c : CacheG T) (h : c.Inv) (k v : Nat) :
    (CacheG.setNoTimer ts c k v).1.Inv ∧ (CacheG.setNoTimer ts c k v).1.limit = c.limit
    ∧ (CacheG.get ts (CacheG.setNoTimer ts c k v).1 k).2.result = some v
    ∧ ((CacheG.setNoTimer ts c k v).2.evicted = [] ∧ (CacheG.setNoTimer ts c k v).1.timers = c.timers
       ∨ ∃ old, (CacheG.setNoTimer ts c k v).2.evicted = [old] ∧ old ≠ k ∧ c.lru.getLast? = some old
           ∧ (CacheG.setNoTimer ts c k v).1.timers = (ts c.timers (.remove old)).1) := by
  obtain ⟨h1, h2, h3⟩ := lruAdd_after_insert ts c k v h
  refine ⟨h1, h2, ?_, ?_⟩
  · have hl : alookup (CacheG.setNoTimer ts c k v).1.data k = some v := by
      show alookup (CacheG.lruAdd ts { c with data := ainsert c.data k v } k).1.data k = some v
      rcases h3 with ⟨_, e2, _⟩ | ⟨old, _, e2, _, hne, _⟩
      · rw [e2, alookup_ainsert]; simp
      · rw [e2, alookup_aerase, alookup_ainsert]; simp [hne.symm]
    simp [CacheG.get, hl]
  · rcases h3 with ⟨e1, _, e3⟩ | ⟨old, e1, _, e3, hne, _, _, e7⟩
    · exact Or.inl ⟨e1, e3⟩
    · exact Or.inr ⟨old, e1, hne, e3, e7⟩

/-- **an entry without a timer never expires**: whatever the number of ticks, it is still there (timer table) -/
theorem entry_without_timer_never_expires (c : Spec.ACache) (hn : C12.Spec.KeysNodup c.timers) (k : Nat)
    (hk : k ∉ C12.Spec.keys c.timers) (n : Nat) :
    alookup (ticksN c n).data k = alookup c.data k := by
  induction n generalizing c with
  | zero => rfl
  | succ n ih =>
    obtain ⟨_, b, c', d⟩ := no_timer_survives_tick c hn k hk
    simp only [ticksN]
    rw [ih _ c' d, b]

/-- key 1 set with expiry 0 in an empty cache: no timer, still there after 40 ticks; key 2 set with 2 ticks and then
re-set with expiry 0: the old timer keeps running and removes the new value at the second tick -/
example : (CacheG.setNoTimer C12.Spec.step (Spec.ACache.new 0) 1 10).1.timers = []
    ∧ alookup (ticksN (CacheG.setNoTimer C12.Spec.step (Spec.ACache.new 0) 1 10).1 40).data 1 = some 10
    ∧ alookup (ticksN (CacheG.setNoTimer C12.Spec.step (CacheG.set C12.Spec.step (Spec.ACache.new 0) 2 20 2).1 2 21).1 1).data 2 = some 21
    ∧ alookup (ticksN (CacheG.setNoTimer C12.Spec.step (CacheG.set C12.Spec.step (Spec.ACache.new 0) 2 20 2).1 2 21).1 2).data 2 = none := by
  decide

/-! ### The defect of `SetWithExpire` before fixes/C16-cache-reset-subsecond-expiry.patch (`CacheG.setPinned`; kept as a
machine-checked witness)

`SetWithExpire` used `MoveTimer` for a key that was already cached; `MoveTimer` with a delay below the wheel
interval (one second) runs the expiry callback at once.  So re-setting a key with a (jittered) expiry below
one second deleted the entry that had just been set: `Get` right after `Set` missed
(`NewCache(time.Second)`: about half of all re-Sets).  Replayed on the real code
(fixes/C16-cache-reset-subsecond-expiry.replay.json), fixed by fixes/C16-cache-reset-subsecond-expiry.patch. -/

/-- the faithful model of `SetWithExpire` before that patch (`CacheG.setPinned`) violates `cache_get_after_set`:
set 1 ↦ 10, set 1 ↦ 11 with an expiry of 0 whole ticks (e.g. 500 ms), get 1 misses -/
theorem pinned_set_subsecond_deletes :
    let c1 := (CacheG.setPinned C12.step (Cache.new 0 300) 1 10 1).1
    (CacheG.setPinned C12.step c1 1 11 0).2.expired = [1]
    ∧ (CacheG.get C12.step (CacheG.setPinned C12.step c1 1 11 0).1 1).2.result = none := by decide

/-- the fixed code on the same history -/
example : (CacheG.run C12.step (Cache.new 0 300) [.set 1 10 1, .set 1 11 0, .get 1]).map (fun o => (o.expired, o.result))
    = [([], none), ([], none), ([], some 11)] := by decide

/-! ### Open finding: the asynchronous expiry callback deletes a value set after the timer fired

`NewCache` hands `cache.Del(key)` to the wheel as expiry callback, and the wheel runs the callbacks of a tick in a new
goroutine.  If the user — a single goroutine suffices — calls `Set(k, v2)` after the tick has taken `k`'s timer out of
the wheel and before that goroutine runs, the callback deletes `v2` and removes `v2`'s fresh timer: `Get k` misses
although the latest value set was neither deleted by the user, nor expired, nor evicted.  Reproduced on the real code
with the callback goroutine delayed (fixes/C16-cache-expiry-callback-race.demo_test.go.txt); proposed fix
fixes/C16-cache-expiry-callback-race.patch (the timer carries the sequence number of its Set; a stale callback is
ignored).  `CacheG.tick` — the schedule in which the callbacks run at once — is the one all other theorems cover. -/

/-- witness (model of the code that exists, tick split into `fire` and the callbacks): set 1 ↦ 10 for one tick; the
tick fires key 1; set 1 ↦ 11 for 50 ticks; the delayed callback runs; get 1 misses and the new timer is gone -/
theorem pinned_expiry_callback_deletes_later_set :
    let c1 := (CacheG.set C12.Spec.step (Spec.ACache.new 0) 1 10 1).1
    let f := CacheG.fire C12.Spec.step c1
    let c2 := (CacheG.set C12.Spec.step f.1 1 11 50).1
    let c3 := CacheG.expire C12.Spec.step c2 f.2
    f.2 = [(1, 10)] ∧ (CacheG.get C12.Spec.step c2 1).2.result = some 11
    ∧ (CacheG.get C12.Spec.step c3 1).2.result = none ∧ c3.timers = [] := by decide

/-- `tick` = `fire` followed at once by the callbacks -/
theorem tick_is_fire_then_callbacks {T : Type} (ts : TStep T) (c : CacheG T) :
    (CacheG.tick ts c).1 = CacheG.expire ts (CacheG.fire ts c).1 (CacheG.fire ts c).2 := rfl

/-- **Clause "the Cache returns the latest value set for a key unless it was deleted, has expired, or was evicted" —
end to end, for every history.**  For every limit (0 = no LRU), every timer mechanism, every history of
Set / Get / Del / Take / tick from the empty cache and every key: `Get k` returns exactly `Spec.latestAlive`, which is
computed from the operations and from what they *reported* alone — the value of the last `Set k` (or of the last `Take k`
that loaded successfully), unless a `Del k` came later or a later operation reported `k` evicted or expired.  No side
condition on the history (`cache_get_latest_unless_gone` has one: that it does not address `k`). -/
theorem cache_get_is_latest_alive {T : Type} (ts : TStep T) (limit : Nat) (x : T) (ops : List COp) (k : Nat) :
    (CacheG.get ts (CacheG.after ts { limit := limit, data := [], lru := [], timers := x } ops) k).2.result
      = Spec.latestAlive k none ops (CacheG.run ts { limit := limit, data := [], lru := [], timers := x } ops) := by
  rw [get_result]
  exact after_lookup ts ops _ (cache_new_inv limit x) k

/-- the same for the model of the code (map + keyLru + C12 timing wheel with any number of slots) -/
theorem cache_code_get_is_latest_alive (limit slots : Nat) (ops : List COp) (k : Nat) :
    (CacheG.get C12.step (CacheG.after C12.step (Cache.new limit slots) ops) k).2.result
      = Spec.latestAlive k none ops (CacheG.run C12.step (Cache.new limit slots) ops) :=
  cache_get_is_latest_alive C12.step limit (C12.TW.init slots) ops k

/-- **Clause "Take calls the loader only on a miss" — end to end**: after any history, `Take k` calls the loader iff
the latest value set for `k` is not alive any more (or never was); otherwise it returns that value without loading. -/
theorem cache_take_loads_iff_not_alive {T : Type} (ts : TStep T) (limit : Nat) (x : T) (ops : List COp)
    (k v : Nat) (f : Bool) (t : Nat) :
    let c0 : CacheG T := { limit := limit, data := [], lru := [], timers := x }
    ((CacheG.take ts (CacheG.after ts c0 ops) k v f t).2.loaded = true
        ↔ Spec.latestAlive k none ops (CacheG.run ts c0 ops) = none)
    ∧ (∀ y, Spec.latestAlive k none ops (CacheG.run ts c0 ops) = some y →
        (CacheG.take ts (CacheG.after ts c0 ops) k v f t).2.result = some y) := by
  intro c0
  have h := take_loads_only_on_miss ts (CacheG.after ts c0 ops) k v f t
  rw [after_lookup ts ops c0 (cache_new_inv limit x) k] at h
  exact ⟨h.1, h.2.1⟩

/-- limit 2, one history with every way of losing an entry: key 1 evicted by the third Set, key 2 deleted, key 3
expired at the second tick, key 4 alive — and a `Take` loads only for the lost keys -/
example :
    let ops : List COp := [.set 1 10 9, .set 2 20 9, .set 3 30 2, .del 2, .set 4 40 9, .tick, .tick]
    let outs := CacheG.run C12.step (Cache.new 2 300) ops
    outs.map (fun o => (o.evicted, o.expired)) = [([], []), ([], []), ([1], []), ([], []), ([], []), ([], []), ([], [3])]
    ∧ [1, 2, 3, 4].map (fun k => Spec.latestAlive k none ops outs) = [none, none, none, some 40]
    ∧ [1, 2, 3, 4].map (fun k => (CacheG.take C12.step (CacheG.after C12.step (Cache.new 2 300) ops) k 99 false 5).2.loaded)
        = [true, true, true, false] := by decide

/-- `WithLimit(1)`: every new key evicts the previous one; `WithLimit(0)` (and negative limits, `tie_cacheLimitGuard`):
nothing is ever evicted -/
example : ((CacheG.run C12.step (Cache.new 1 300) [.set 1 10 9, .set 2 20 9, .set 2 21 9, .set 3 30 9]).map (·.evicted)
      = [[], [1], [], [2]])
    ∧ ((CacheG.run C12.step (Cache.new 0 300) [.set 1 10 9, .set 2 20 9, .set 3 30 9, .get 1]).map (·.evicted)
      = [[], [], [], []]) := by decide

theorem cacheCfg_append (opts : List CacheOpt) (o : CacheOpt) : cacheCfg (opts ++ [o]) = CacheOpt.apply (cacheCfg opts) o := by
  simp [cacheCfg, List.foldl_append]

/-- the limit `NewCache(expire, opts...)` ends up with, option by option: a positive `WithLimit` replaces the keyLru,
a non-positive one and `WithName` leave it -/
theorem effLimit_snoc (opts : List CacheOpt) (o : CacheOpt) :
    effLimit (opts ++ [o]) = (o.posLimit).getD (effLimit opts) := by
  unfold effLimit
  rw [cacheCfg_append]
  cases o with
  | withLimit l => by_cases h : l > 0 <;> simp [CacheOpt.apply, CacheOpt.posLimit, h]
  | withName n => simp [CacheOpt.apply, CacheOpt.posLimit]

theorem fold_limit_zero (opts : List CacheOpt) (c : CacheCfg) :
    (opts.foldl CacheOpt.apply c).limit = 0 ↔ c.limit = 0 ∧ ∀ o ∈ opts, o.posLimit = none := by
  induction opts generalizing c with
  | nil => simp
  | cons o r ih =>
    rw [List.foldl_cons, ih]
    cases o with
    | withName n => simp [CacheOpt.apply, CacheOpt.posLimit]
    | withLimit l =>
      by_cases h : l > 0
      · have : l.toNat ≠ 0 := by omega
        simp [CacheOpt.apply, CacheOpt.posLimit, h, this]
      · simp [CacheOpt.apply, CacheOpt.posLimit, h]

/-- the cache is unbounded exactly when no option carries a positive limit -/
theorem effLimit_zero_iff (opts : List CacheOpt) : effLimit opts = 0 ↔ ∀ o ∈ opts, o.posLimit = none := by
  unfold effLimit cacheCfg
  rw [fold_limit_zero]
  simp

theorem cache_newApi_eq (opts : List CacheOpt) (slots : Nat) :
    Cache.newApi opts slots = { limit := effLimit opts, data := [], lru := [], timers := C12.TW.init slots } := rfl

/-- **Clause "never holds more than its limit", for every option list** (several `WithLimit`s, non-positive ones,
`WithName` in between): if some option carries a positive limit, the cache built by `NewCache(expire, opts...)` never
holds more entries than the LAST such limit (`effLimit_snoc`), after any history. -/
theorem cache_api_size_le_limit (opts : List CacheOpt) (slots : Nat) (hl : 0 < effLimit opts) (ops : List COp) :
    (CacheG.after C12.step (Cache.newApi opts slots) ops).data.length ≤ effLimit opts := by
  rw [cache_newApi_eq]
  exact cache_size_le_limit C12.step (effLimit opts) hl (C12.TW.init slots) ops

/-- **Clause "returns the latest value set unless deleted / expired / evicted", for every option list.** -/
theorem cache_api_get_is_latest_alive (opts : List CacheOpt) (slots : Nat) (ops : List COp) (k : Nat) :
    (CacheG.get C12.step (CacheG.after C12.step (Cache.newApi opts slots) ops) k).2.result
      = Spec.latestAlive k none ops (CacheG.run C12.step (Cache.newApi opts slots) ops) :=
  cache_code_get_is_latest_alive (effLimit opts) slots ops k

/-- `WithLimit(3), WithName, WithLimit(0)`: the zero limit does NOT remove the keyLru of 3;
`WithLimit(2), WithLimit(5)`: the later one wins; only non-positive limits: unbounded -/
example : effLimit [.withLimit 3, .withName 7, .withLimit 0] = 3 ∧ effLimit [.withLimit 2, .withLimit 5] = 5
    ∧ effLimit [.withLimit 0, .withLimit (-4)] = 0 ∧ effLimit [] = 0
    ∧ effName 99 [.withName 0] = 99 ∧ effName 99 [.withName 4, .withLimit 1] = 4 := by decide

/-- **Clause "Take calls the loader only on a miss", for every outcome of the loader** (a value — also nil —, an error,
a typed-nil error, a panic with an error or another value, runtime.Goexit), in any state: the loader runs iff the key is
absent; on a hit the caller gets the cached value whatever the loader would have done, and the cache is touched exactly
as by `Get`; on a miss with a loader that does not deliver a value the cache is left exactly as it was (nothing is
stored, no timer is set, nothing is evicted) and the caller gets the error / panic / exit; on a miss with a value the
value is stored as by `Set`. -/
theorem take_every_loader_outcome {T : Type} (ts : TStep T) (c : CacheG T) (k : Nat) (l : Load) (ticks : Nat) :
    ((CacheG.takeL ts c k l ticks).2.loaded = true ↔ alookup c.data k = none)
    ∧ (∀ x, alookup c.data k = some x →
        CacheG.takeRet c k l = .val x ∧ (CacheG.takeL ts c k l ticks).1 = (CacheG.get ts c k).1)
    ∧ (alookup c.data k = none → l.fails = true →
        (CacheG.takeL ts c k l ticks).1 = c ∧ (CacheG.takeL ts c k l ticks).2.evicted = []
        ∧ (CacheG.takeL ts c k l ticks).2.expired = [] ∧ ∀ v, CacheG.takeRet c k l ≠ .val v)
    ∧ (∀ v, alookup c.data k = none → l = .value v →
        (CacheG.takeL ts c k l ticks).1 = (CacheG.set ts c k v ticks).1 ∧ CacheG.takeRet c k l = .val v) := by
  unfold CacheG.takeL CacheG.take CacheG.takeRet CacheG.get
  cases hk : alookup c.data k with
  | some x => simp
  | none => cases l <;> simp [Load.fails, Load.val]

/-- after a loader that did not deliver, the next `Take` of the key is a miss again (the loader runs again) -/
theorem take_reloads_after_failed_load {T : Type} (ts : TStep T) (c : CacheG T) (k : Nat) (l l' : Load) (t t' : Nat)
    (hm : alookup c.data k = none) (hf : l.fails = true) :
    (CacheG.takeL ts (CacheG.takeL ts c k l t).1 k l' t').2.loaded = true := by
  rw [((take_every_loader_outcome ts c k l t).2.2.1 hm hf).1]
  exact (take_every_loader_outcome ts c k l' t').1.2 hm

example : (CacheG.takeL C12.step (Cache.new 2 300) 1 .panicValue 3).1.data = []
    ∧ (CacheG.takeL C12.step (Cache.new 2 300) 1 (.value 0) 3).1.data = [(1, 0)]
    ∧ CacheG.takeRet (CacheG.takeL C12.step (Cache.new 2 300) 1 (.value 0) 3).1 1 .goexit = .val 0
    ∧ CacheG.takeRet (Cache.new 2 300) 1 .typedNilError = .err := by decide

/-- **`Take` in a cache whose jittered default expiry is ≤ 0** (`NewCache(0)`, the branch the driver takes when the
observed expiry is not positive): the loader still runs iff the key is absent; a hit is a `Get`; a failed load leaves
the cache as it was; a successful one stores the value without a timer (`set_nonpositive_expiry` then gives the
invariants, the size bound and `Get k = v`). -/
theorem take_nonpositive_expiry_every_outcome {T : Type} (ts : TStep T) (c : CacheG T) (k v : Nat) (fails : Bool) :
    ((CacheG.takeNoTimer ts c k v fails).2.loaded = true ↔ alookup c.data k = none)
    ∧ (∀ x, alookup c.data k = some x →
        (CacheG.takeNoTimer ts c k v fails).2.result = some x ∧ (CacheG.takeNoTimer ts c k v fails).1 = (CacheG.get ts c k).1)
    ∧ (alookup c.data k = none → fails = true →
        (CacheG.takeNoTimer ts c k v fails).1 = c ∧ (CacheG.takeNoTimer ts c k v fails).2.result = none)
    ∧ (alookup c.data k = none → fails = false →
        (CacheG.takeNoTimer ts c k v fails).1 = (CacheG.setNoTimer ts c k v).1
        ∧ (CacheG.takeNoTimer ts c k v fails).2.result = some v
        ∧ (CacheG.takeNoTimer ts c k v fails).2.evicted = (CacheG.setNoTimer ts c k v).2.evicted) := by
  unfold CacheG.takeNoTimer CacheG.get
  cases hk : alookup c.data k with
  | some x => simp
  | none => cases fails <;> simp

/-- the loaded entry of such a cache keeps every invariant and is returned by the next `Get` -/
theorem take_nonpositive_expiry_stores {T : Type} (ts : TStep T) (c : CacheG T) (h : c.Inv) (k v : Nat)
    (hm : alookup c.data k = none) :
    (CacheG.takeNoTimer ts c k v false).1.Inv
    ∧ (CacheG.get ts (CacheG.takeNoTimer ts c k v false).1 k).2.result = some v := by
  rw [((take_nonpositive_expiry_every_outcome ts c k v false).2.2.2 hm rfl).1]
  exact ⟨(set_nonpositive_expiry ts c h k v).1, (set_nonpositive_expiry ts c h k v).2.2.1⟩

example : (CacheG.takeNoTimer C12.step (Cache.new 1 300) 1 10 false).1.data = [(1, 10)]
    ∧ (CacheG.takeNoTimer C12.step (Cache.new 1 300) 1 10 false).1.timers = (Cache.new 1 300).timers
    ∧ (CacheG.takeNoTimer C12.step (Cache.new 1 300) 1 10 true).1.data = [] := by decide

end GoZero.C16
