/-
C16 — shared by the structures: index arithmetic of ring buffers (Queue, Ring: positions modulo the length, lists given
by a function on `List.range`), and the induction that carries a relation between a state and the history behind it
through a run.  (The bucket ring of the RollingWindow is done in Base/RollingWindow.lean.)
-/
namespace GoZero.C16

/-- `a % n` for `a < 2n` without a symbolic modulus (so that `omega` can finish) -/
theorem mod2 {a n : Nat} (h : a < 2 * n) : a % n = if a < n then a else a - n := by
  split
  · exact Nat.mod_eq_of_lt ‹_›
  · rw [Nat.mod_eq_sub_mod (by omega), Nat.mod_eq_of_lt (by omega)]

theorem pos_ne {n o x y : Nat} (hxy : x < y) (hd : y - x < n) : (o + x) % n ≠ (o + y) % n := fun e => by
  have := Nat.sub_mod_eq_zero_of_mod_eq e.symm
  rw [Nat.add_sub_add_left, Nat.mod_eq_of_lt hd] at this
  omega

theorem map_range_congr (f g : Nat → Nat) (n : Nat) (h : ∀ i, i < n → f i = g i) :
    (List.range n).map f = (List.range n).map g :=
  List.map_congr_left fun i hi => h i (List.mem_range.1 hi)

theorem foldl_hist {σ Op : Type} (step : σ → Op → σ) (P : σ → List Op → Prop)
    (hstep : ∀ s hist op, P s hist → P (step s op) (op :: hist)) (ops : List Op) :
    ∀ s hist, P s hist → P (ops.foldl step s) (ops.reverse ++ hist) := by
  induction ops with
  | nil => intro s hist h; simpa using h
  | cons op ops ih => intro s hist h; simpa using ih _ _ (hstep s hist op h)

end GoZero.C16
