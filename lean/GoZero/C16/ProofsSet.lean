/-
C16 — the Set model is the mathematical set: membership and duplicate-freedom per operation, then over histories.
-/
import GoZero.C16.Spec
import GoZero.C16.ProofsIndex
namespace GoZero.C16

theorem GSet.mem_add (s : GSet) (x y : Nat × Nat) : y ∈ (s.add x).data ↔ y = x ∨ y ∈ s.data := by
  simp only [GSet.add]
  by_cases h : x ∈ s.data
  · simp only [h, if_true]
    exact ⟨Or.inr, fun e => e.elim (· ▸ h) id⟩
  · simp [h]

theorem GSet.nodup_add (s : GSet) (x : Nat × Nat) (h : s.data.Nodup) : (s.add x).data.Nodup := by
  simp only [GSet.add]
  by_cases hx : x ∈ s.data
  · simpa [hx] using h
  · simp [hx, h]

theorem GSet.mem_remove (s : GSet) (x y : Nat × Nat) : y ∈ (s.remove x).data ↔ y ∈ s.data ∧ y ≠ x := by
  simp [GSet.remove]

theorem GSet.nodup_remove (s : GSet) (x : Nat × Nat) (h : s.data.Nodup) : (s.remove x).data.Nodup := by
  simp only [GSet.remove]; exact h.filter _

theorem GSet.contains_iff (s : GSet) (x : Nat × Nat) : s.contains x = true ↔ x ∈ s.data := by
  unfold GSet.contains
  split
  · simp [List.eq_nil_of_length_eq_zero ‹_›]
  · simp

def GSet.run (s : GSet) (ops : List SetOp) : GSet := ops.foldl GSet.step s

theorem GSet.run_spec (ops : List SetOp) (s : GSet) (hist : List SetOp) (hn : s.data.Nodup)
    (hm : ∀ y, y ∈ s.data ↔ Spec.setMem hist y = true) :
    (s.run ops).data.Nodup ∧ ∀ y, y ∈ (s.run ops).data ↔ Spec.setMem (ops.reverse ++ hist) y = true := by
  refine foldl_hist GSet.step (fun s hist => s.data.Nodup ∧ ∀ y, y ∈ s.data ↔ Spec.setMem hist y = true)
    (fun s hist op ⟨hn, hm⟩ => ?_) ops s hist ⟨hn, hm⟩
  cases op with
  | add x =>
    refine ⟨s.nodup_add x hn, fun y => ?_⟩
    simp only [GSet.step, GSet.mem_add, Spec.setMem, hm y]
    by_cases h : Spec.setMem hist y = true <;> simp [h]
  | remove x =>
    refine ⟨s.nodup_remove x hn, fun y => ?_⟩
    simp only [GSet.step, GSet.mem_remove, Spec.setMem, hm y]
    by_cases h : y = x <;> simp [h]

theorem GSet.addMany_eq_run (s : GSet) (xs : List (Nat × Nat)) : s.addMany xs = s.run (xs.map SetOp.add) := by
  unfold GSet.addMany GSet.run
  induction xs generalizing s with
  | nil => rfl
  | cons x xs ih => simp only [List.foldl_cons, List.map_cons]; exact ih _

theorem GSet.run_append (s : GSet) (a b : List SetOp) : s.run (a ++ b) = (s.run a).run b := by
  simp [GSet.run, List.foldl_append]

end GoZero.C16
