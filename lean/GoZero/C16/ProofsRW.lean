/-
C16 — RollingWindow is a view of the event log: the representation invariant is the generic one (`Ring.Rep`,
Base/RollingWindow.lean; here a bucket is the list of the values added) with the log `fun j => contentsAge t0 iv hist j 0`
read off the history, and `updateOffset`, `Add`, `Reduce` are its `update`, `modify`, `visible`.  `RW.Tracks` is that
invariant for a window of a given configuration read at a given time (`tracks_new`, `mono`, `add`, `tracks_run`, `reduce`).
`Ring.Rep`, `Ring.reset`, `Ring.Lget` … below are `GoZero.Ring` of Base (the bucket ring), not `C16.Ring` (ring.go).
-/
import GoZero.C16.SpecRW
import GoZero.Base.RollingWindow
namespace GoZero.C16

open Spec

theorem resetLoop_succ (n o s : Nat) (b : List (List Nat)) :
    RW.resetLoop n o (s + 1) b = (RW.resetLoop n o s b).set ((o + s + 1) % n) [] := by
  simp [RW.resetLoop, List.range_succ, List.foldl_append]

theorem resetLoop_eq (n o s : Nat) (b : List (List Nat)) : RW.resetLoop n o s b = Ring.reset [] n o s b := by
  induction s with
  | zero => rfl
  | succ s ih => rw [resetLoop_succ, ih]; rfl

/-- `Add` is `updateOffset`, then an append to the bucket at the offset -/
theorem RW.add_eq (rw : RW) (now v : Nat) :
    rw.add now v = { rw.updateOffset now with
      buckets := (rw.updateOffset now).buckets.modify ((rw.updateOffset now).offset % rw.size) (· ++ [v]) } := by
  rw [List.modify_eq_set, ← List.getD_eq_getElem?_getD]
  rfl

/-! ### representation invariant: the ring of buckets is the log cut into intervals -/

theorem contentsAge_eq (t0 iv : Nat) (hist : List (Nat × Nat)) (c a : Nat) :
    contentsAge t0 iv hist c a = Ring.Lget [] (fun j => contentsAge t0 iv hist j 0) c a := by
  unfold Ring.Lget contentsAge
  split
  · congr 1
    apply List.filter_congr
    intro e _
    congr 1
    exact propext (by omega)
  · rw [List.map_eq_nil_iff, List.filter_eq_nil_iff]
    intro e _
    simp only [decide_eq_true_eq]
    omega

variable {rw : RW} {size iv : Nat} {ign : Bool} {t0 : Nat} {hist : List (Nat × Nat)} {L now : Nat}

/-- `rw`, made with `size`, `iv`, `ign` at `t0` and read at a time `now` not before its last alignment, shows `hist`:
`lastTime` starts interval `L` and the ring holds the log `fun j => contentsAge t0 iv hist j 0` (that no addition is later
than interval `L` is `Ring.Rep.future`) -/
structure RW.Tracks (rw : RW) (n d : Nat) (ic : Bool) (t0 : Nat) (hist : List (Nat × Nat)) (L now : Nat) : Prop where
  size  : rw.size = n
  iv    : rw.interval = d
  ign   : rw.ignoreCurrent = ic
  le    : rw.lastTime ≤ now
  ring  : Ring.Rep [] n d rw.offset rw.lastTime rw.buckets t0 L fun j => contentsAge t0 d hist j 0

theorem RW.tracks_new (size iv : Nat) (ign : Bool) (t0 : Nat) (hs : 0 < size) (hi : 0 < iv) :
    (RW.new size iv ign t0).Tracks size iv ign t0 [] 0 t0 :=
  ⟨rfl, rfl, rfl, Nat.le_refl _, Ring.Rep.init hs hi t0⟩

theorem RW.Tracks.mono (h : rw.Tracks size iv ign t0 hist L now) {now' : Nat} (hle : now ≤ now') :
    rw.Tracks size iv ign t0 hist L now' :=
  { h with le := Nat.le_trans h.le hle }

/-- `updateOffset` at a time in interval `c ≥ L` re-bases the ring to `c`. -/
theorem RW.Tracks.update (h : rw.Tracks size iv ign t0 hist L now) :
    (rw.updateOffset now).Tracks size iv ign t0 hist (idx t0 iv now) now := by
  obtain ⟨rfl, rfl, rfl, le, g⟩ := h
  rw [idx, g.idx le]
  unfold RW.updateOffset
  split
  · next hz => exact ⟨rfl, rfl, rfl, le, g.stay hz⟩
  · have u := g.update le
    rw [← resetLoop_eq] at u
    exact ⟨rfl, rfl, rfl, Nat.sub_le _ _, u⟩

theorem contents_snoc (t0 iv : Nat) (hist : List (Nat × Nat)) (now v : Nat) :
    (fun j => contentsAge t0 iv (hist ++ [(now, v)]) j 0)
      = Ring.record (fun j => contentsAge t0 iv hist j 0) (idx t0 iv now) (· ++ [v]) := by
  funext j
  unfold contentsAge Ring.record
  rw [List.filter_append, List.map_append]
  by_cases h : j = idx t0 iv now <;> simp [List.filter, h, eq_comm]

theorem lastIdx_snoc (t0 iv : Nat) (hist : List (Nat × Nat)) (e : Nat × Nat) :
    lastIdx t0 iv (hist ++ [e]) = idx t0 iv e.1 := by
  simp [lastIdx]

/-- `Add` at time `now ≥ lastTime`: the log grows by `(now, v)` and the ring follows. -/
theorem RW.Tracks.add (h : rw.Tracks size iv ign t0 hist L now) (v : Nat) :
    (rw.add now v).Tracks size iv ign t0 (hist ++ [(now, v)]) (idx t0 iv now) now := by
  obtain ⟨hs, hi, hg, le, g⟩ := h.update
  rw [RW.add_eq]
  refine ⟨hs, hi, hg, le, ?_⟩
  rw [contents_snoc, h.size]
  exact g.modify _

/-- the number of buckets `Reduce` walks, in the terms of the log, for `s = min k n` of `k` elapsed intervals; none of them is
among the `s` youngest.  `L + k = L` is the shape `idx t0 iv now = L` has in `Tracks.reduce` once `idx` is rewritten to
`L + k`, so that the rewrite there matches syntactically. -/
theorem walked (n s k L : Nat) (ic : Bool) (hn : 0 < n) (hsn : s ≤ n) (hle : s ≤ k) (hso : s < n → s = k) :
    (if s = 0 ∧ ic then n - 1 else n - s) = n - (if L + k = L ∧ ic then 1 else k)
    ∧ (if s = 0 ∧ ic then n - 1 else n - s) + s ≤ n := by
  by_cases hc : s < n
  · -- not yet a full turn: `s = k`
    obtain rfl := hso hc
    simp only [Nat.add_eq_left]
    split
    · next h => exact ⟨rfl, by rw [h.1]; exact Nat.sub_le _ _⟩
    · exact ⟨rfl, by rw [Nat.sub_add_cancel hsn]; exact Nat.le_refl _⟩
  · -- a full turn or more: nothing is walked
    obtain rfl : s = n := Nat.le_antisymm hsn (Nat.le_of_not_lt hc)
    have hs0 : ¬ s = 0 := Nat.ne_of_gt hn
    have hk0 : ¬ L + k = L := fun e => hs0 (Nat.le_zero.1 (Nat.add_eq_left.1 e ▸ hle))
    rw [if_neg (fun h => hs0 h.1), if_neg (fun h => hk0 h.1), Nat.sub_self, Nat.sub_eq_zero_of_le hle]
    exact ⟨rfl, by rw [Nat.zero_add]; exact Nat.le_refl _⟩

/-- `Reduce` at time `now ≥ lastTime` hands out the log's intervals. -/
theorem RW.Tracks.reduce (h : rw.Tracks size iv ign t0 hist L now) :
    rw.reduce now = (agesDown size (if idx t0 iv now = L ∧ ign then 1 else idx t0 iv now - L)).map
      (contentsAge t0 iv hist (idx t0 iv now)) := by
  obtain ⟨rfl, rfl, rfl, hnow, g⟩ := h
  obtain ⟨hsn, hle, hso⟩ := Ring.span_facts rw.size rw.interval rw.lastTime now
  have hn := g.npos
  rw [idx, g.idx hnow, Nat.add_sub_cancel_left]
  unfold RW.reduce agesDown RW.diff
  rw [List.map_map, show rw.span now = Ring.span rw.size rw.interval rw.lastTime now from rfl]
  generalize hk0 : (now - rw.lastTime) / rw.interval = k at hle hso ⊢
  generalize hs : Ring.span rw.size rw.interval rw.lastTime now = s at hsn hle hso ⊢
  have hdiff := walked rw.size s k L rw.ignoreCurrent hn hsn hle hso
  rw [← hdiff.1]
  apply List.map_congr_left
  intro i hi
  simp only [Function.comp, Nat.mod_add_mod]
  rw [contentsAge_eq, ← hs, ← hk0]
  refine g.visible now ?_
  have := List.mem_range.1 hi
  omega

/-- all additions of a time-monotone history that starts not before `now`: the ring represents the whole log -/
theorem RW.tracks_run (evs : List (Nat × Nat)) : ∀ {rw : RW} {hist : List (Nat × Nat)} {L now : Nat},
    rw.Tracks size iv ign t0 hist L now → L = lastIdx t0 iv hist → List.Pairwise (· ≤ ·) (now :: evs.map (·.1)) →
    ∀ now', (∀ t, t ∈ now :: evs.map (·.1) → t ≤ now') →
    (rw.run evs).Tracks size iv ign t0 (hist ++ evs) (lastIdx t0 iv (hist ++ evs)) now' := by
  induction evs with
  | nil =>
    intro rw hist L now h hL _ now' hn
    subst hL
    simpa [RW.run] using h.mono (hn now (by simp))
  | cons e es ih =>
    intro rw hist L now h hL hp now' hn
    rw [List.map_cons, List.pairwise_cons] at hp
    have := ih ((h.mono (hp.1 e.1 (by simp))).add e.2) (lastIdx_snoc ..).symm hp.2 now'
      fun t ht => hn t (List.mem_cons_of_mem _ ht)
    simpa [RW.run] using this

/-- a new window after any time-monotone history of additions, looked at from a time not before them -/
theorem RW.tracks_new_run (size iv : Nat) (hs : 1 ≤ size) (hi : 1 ≤ iv) (ign : Bool) (t0 : Nat)
    (evs : List (Nat × Nat)) (hmono : List.Pairwise (· ≤ ·) (t0 :: evs.map (·.1)))
    (now : Nat) (hnow : ∀ t, t ∈ t0 :: evs.map (·.1) → t ≤ now) :
    ((RW.new size iv ign t0).run evs).Tracks size iv ign t0 evs (lastIdx t0 iv evs) now :=
  RW.tracks_run evs (RW.tracks_new size iv ign t0 hs hi) rfl hmono now hnow

/-- read at `now`, the clock is `k` intervals past interval `L`, and the `k` youngest buckets hold nothing -/
theorem RW.Tracks.young (h : rw.Tracks size iv ign t0 hist L now) :
    ∃ k, idx t0 iv now = L + k ∧ ∀ a, a < k → contentsAge t0 iv hist (L + k) a = [] :=
  ⟨_, h.ring.idx h.le, fun _ ha => (contentsAge_eq ..).trans (h.ring.young ha)⟩

/-! ### dropping buckets that cannot hold anything does not change the visited values -/

theorem agesDown_succ (size lo : Nat) (h : lo < size) : agesDown size lo = agesDown size (lo + 1) ++ [lo] := by
  unfold agesDown
  have e : size - lo = (size - (lo + 1)) + 1 := by omega
  rw [e, List.range_succ, List.map_append]
  congr 1
  simp only [List.map_cons, List.map_nil, List.cons.injEq, and_true]
  omega

theorem agesDown_empty (size lo : Nat) (h : size ≤ lo) : agesDown size lo = [] := by
  unfold agesDown
  have : size - lo = 0 := by omega
  rw [this]; rfl

theorem agesDown_flatten_skip (size : Nat) (f : Nat → List Nat) {lo' lo : Nat} (hle : lo' ≤ lo)
    (h : ∀ a, lo' ≤ a → a < lo → f a = []) :
    ((agesDown size lo').map f).flatten = ((agesDown size lo).map f).flatten := by
  obtain ⟨d, rfl⟩ := Nat.exists_eq_add_of_le hle
  clear hle
  induction d generalizing lo' with
  | zero => rfl
  | succ d ih =>
    have h1 := ih (lo' := lo' + 1) (fun a h1 h2 => h a (by omega) (by omega))
    rw [show lo' + 1 + d = lo' + (d + 1) by omega] at h1
    rw [← h1]
    by_cases hl : lo' < size
    · rw [agesDown_succ size lo' hl, List.map_append, List.flatten_append]
      simp [h lo' (Nat.le_refl _) (by omega)]
    · rw [agesDown_empty size lo' (by omega), agesDown_empty size (lo' + 1) (by omega)]

end GoZero.C16
