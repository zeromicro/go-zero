/-
C16 — Tie, the texts: what the extractor read from core/collection/{fifo,ring,set,safemap,rollingwindow,cache}.go
*now* equals what the models were written against — constants, the statements of the transcribed functions (locking,
logging, statistics dropped), the lock frames the interleaving models assume, and the typed call lists (kind, callee,
forwarded arguments) of the delegating entry points and constructors.  A failing obligation means the code moved away
from the model.  The theorems stand in two namespaces, `Tie` and `TieR5`: the names under which the property's entry
lists them.
-/
import GoZero.Extracted.C16
import GoZero.C16.Model
import GoZero.C16.ModelCache
import GoZero.C16.ConcObjs
namespace GoZero.C16.Tie
open GoZero.C16
open GoZero.Extracted.C16

theorem extraction_clean : extractionErrors = [] := rfl

/-- SafeMap: generation switch after 10000 deletions -/
theorem tie_maxDeletion : maxDeletion = 10000 := by decide
/-- SafeMap: a generation is merged only when it holds fewer than 1000 keys -/
theorem tie_copyThreshold : copyThreshold = 1000 := by decide
/-- Cache: the wheel has 300 slots (one-second interval: `tie_cacheWheel`) -/
theorem tie_cacheSlots : cacheSlots = 300 := by decide
/-- Cache: expiry jitter ±5 % = 1/20, i.e. a factor in [19/20, 21/20] = [0.95, 1.05] (the bounds of the driver's monitor) -/
theorem tie_expiryDeviation : expiryDeviation = (1 : Rat) / 20 := rfl

/-- `NewQueue(size)`: `size` zeroed slots, growth step `size` (Queue.new) -/
theorem tie_newQueueStmts : newQueueStmts = [
    "return &Queue{ elements: make([]any, size), size: size, }"] := rfl

/-- `Put`: full ⇔ head = tail ∧ count > 0 → unrolled copy into a buffer `size` longer, head 0, tail = old length; then store at tail, tail+1 mod len, count+1 (Queue.grow / Queue.put) -/
theorem tie_queuePutStmts : queuePutStmts = [
    "if q.head == q.tail && q.count > 0 {",
    "nodes := make([]any, len(q.elements)+q.size)",
    "copy(nodes, q.elements[q.head:])",
    "copy(nodes[len(q.elements)-q.head:], q.elements[:q.head])",
    "q.head = 0",
    "q.tail = len(q.elements)",
    "q.elements = nodes",
    "}",
    "q.elements[q.tail] = element",
    "q.tail = (q.tail + 1) % len(q.elements)",
    "q.count++"] := rfl

/-- `Take`: empty → (nil,false); else element at head, head+1 mod len, count-1 (Queue.take) -/
theorem tie_queueTakeStmts : queueTakeStmts = [
    "if q.count == 0 {",
    "return nil, false",
    "}",
    "element := q.elements[q.head]",
    "q.head = (q.head + 1) % len(q.elements)",
    "q.count--",
    "return element, true"] := rfl

/-- `Empty` (Queue.empty) -/
theorem tie_queueEmptyStmts : queueEmptyStmts = [
    "empty := q.count == 0",
    "return empty"] := rfl

/-- `Add`: store at index mod n, index+1, folded back by n once it reaches 2n (Ring.add) -/
theorem tie_ringAddStmts : ringAddStmts = [
    "rlen := len(r.elements)",
    "r.elements[r.index%rlen] = v",
    "r.index++",
    "if r.index >= rlen<<1 {",
    "r.index -= rlen",
    "}"] := rfl

/-- `Take`: index > n → n elements from index mod n, else the first `index` elements (Ring.take) -/
theorem tie_ringTakeStmts : ringTakeStmts = [
    "var size int",
    "var start int",
    "rlen := len(r.elements)",
    "if r.index > rlen {",
    "size = rlen",
    "start = r.index % rlen",
    "}",
    "else {",
    "size = r.index",
    "}",
    "elements := make([]any, size)",
    "for i := 0; i < size; i++ {",
    "elements[i] = r.elements[(start+i)%rlen]",
    "}",
    "return elements"] := rfl

/-- `Set`: deletionOld ≤ maxDeletion → move the key out of dirtyNew (counted), write dirtyOld; else the mirror image (SafeMap.set) -/
theorem tie_safeMapSetStmts : safeMapSetStmts = [
    "if m.deletionOld <= maxDeletion {",
    "if _, ok := m.dirtyNew[key]; ok {",
    "delete(m.dirtyNew, key)",
    "m.deletionNew++",
    "}",
    "m.dirtyOld[key] = value",
    "}",
    "else {",
    "if _, ok := m.dirtyOld[key]; ok {",
    "delete(m.dirtyOld, key)",
    "m.deletionOld++",
    "}",
    "m.dirtyNew[key] = value",
    "}"] := rfl

/-- `Del`: delete from the generation holding the key (counted); merge old→new and swap when deletionOld ≥ maxDeletion ∧ |old| < copyThreshold; merge new→old when deletionNew ≥ maxDeletion ∧ |new| < copyThreshold (SafeMap.del1 / mig1 / mig2) -/
theorem tie_safeMapDelStmts : safeMapDelStmts = [
    "if _, ok := m.dirtyOld[key]; ok {",
    "delete(m.dirtyOld, key)",
    "m.deletionOld++",
    "}",
    "else {",
    "if _, ok := m.dirtyNew[key]; ok {",
    "delete(m.dirtyNew, key)",
    "m.deletionNew++",
    "}",
    "}",
    "if m.deletionOld >= maxDeletion && len(m.dirtyOld) < copyThreshold {",
    "range k, v := m.dirtyOld {",
    "m.dirtyNew[k] = v",
    "}",
    "m.dirtyOld = m.dirtyNew",
    "m.deletionOld = m.deletionNew",
    "m.dirtyNew = make(map[any]any)",
    "m.deletionNew = 0",
    "}",
    "if m.deletionNew >= maxDeletion && len(m.dirtyNew) < copyThreshold {",
    "range k, v := m.dirtyNew {",
    "m.dirtyOld[k] = v",
    "}",
    "m.dirtyNew = make(map[any]any)",
    "m.deletionNew = 0",
    "}"] := rfl

/-- `Get`: dirtyOld first, then dirtyNew (SafeMap.get) -/
theorem tie_safeMapGetStmts : safeMapGetStmts = [
    "if val, ok := m.dirtyOld[key]; ok {",
    "return val, true",
    "}",
    "val, ok := m.dirtyNew[key]",
    "return val, ok"] := rfl

/-- `Size` (SafeMap.size) -/
theorem tie_safeMapSizeStmts : safeMapSizeStmts = [
    "size := len(m.dirtyOld) + len(m.dirtyNew)",
    "return size"] := rfl

/-- `Range`: dirtyOld then dirtyNew (SafeMap.range) -/
theorem tie_safeMapRangeStmts : safeMapRangeStmts = [
    "range k, v := m.dirtyOld {",
    "if !f(k, v) {",
    "return",
    "}",
    "}",
    "range k, v := m.dirtyNew {",
    "if !f(k, v) {",
    "return",
    "}",
    "}"] := rfl

/-- `add`: the type tag only selects setType / validate (logging); the element is always inserted (GSet.add) -/
theorem tie_setAddStmts : setAddStmts = [
    "switch s.tp {",
    "case unmanaged:",
    "case untyped:",
    "s.setType(i)",
    "default:",
    "s.validate(i)",
    "}",
    "s.data[i] = lang.Placeholder"] := rfl

/-- `Contains` (GSet.contains) -/
theorem tie_setContainsStmts : setContainsStmts = [
    "if len(s.data) == 0 {",
    "return false",
    "}",
    "s.validate(i)",
    "_, ok := s.data[i]",
    "return ok"] := rfl

/-- `Remove` (GSet.remove) -/
theorem tie_setRemoveStmts : setRemoveStmts = [
    "s.validate(i)",
    "delete(s.data, i)"] := rfl

/-- `Count` (GSet.count) -/
theorem tie_setCountStmts : setCountStmts = [
    "return len(s.data)"] := rfl

/-- `Add`: updateOffset, then add into the bucket at `offset` (RW.add) -/
theorem tie_rwAddStmts : rwAddStmts = [
    "rw.updateOffset()",
    "rw.win.add(rw.offset, v)"] := rfl

/-- `Reduce`: diff = size-1 if span = 0 ∧ ignoreCurrent else size-span; visits diff buckets from (offset+span+1) mod size (RW.diff / RW.reduce) -/
theorem tie_rwReduceStmts : rwReduceStmts = [
    "var diff int",
    "span := rw.span()",
    "if span == 0 && rw.ignoreCurrent {",
    "diff = rw.size - 1",
    "}",
    "else {",
    "diff = rw.size - span",
    "}",
    "if diff > 0 {",
    "offset := (rw.offset + span + 1) % rw.size",
    "rw.win.reduce(offset, diff, fn)",
    "}"] := rfl

/-- `updateOffset`: span ≤ 0 → nothing; reset buckets (offset+i+1) mod size for i < span; offset+span mod size; lastTime aligned (RW.updateOffset / RW.resetLoop) -/
theorem tie_rwUpdateStmts : rwUpdateStmts = [
    "span := rw.span()",
    "if span <= 0 {",
    "return",
    "}",
    "offset := rw.offset",
    "for i := 0; i < span; i++ {",
    "rw.win.resetBucket((offset + i + 1) % rw.size)",
    "}",
    "rw.offset = (offset + span) % rw.size",
    "now := timex.Now()",
    "rw.lastTime = now - (now-rw.lastTime)%rw.interval"] := rfl

/-- `window.add` (RW.add: index mod size) -/
theorem tie_winAddStmts : winAddStmts = [
    "w.buckets[offset%w.size].Add(v)"] := rfl

/-- `window.reduce`: count buckets from start, indices mod size (RW.reduce) -/
theorem tie_winReduceStmts : winReduceStmts = [
    "for i := 0; i < count; i++ {",
    "fn(w.buckets[(start+i)%w.size])",
    "}"] := rfl

/-- `window.resetBucket` (RW.resetLoop) -/
theorem tie_winResetStmts : winResetStmts = [
    "w.buckets[offset%w.size].Reset()"] := rfl

/-- `Del`: delete from the map, `lruCache.remove`, `RemoveTimer` (CacheG.del) -/
theorem tie_cacheDelStmts : cacheDelStmts = [
    "delete(c.data, key)",
    "c.lruCache.remove(key)",
    "c.timingWheel.RemoveTimer(key)"] := rfl

/-- `SetWithExpire`: write; `lruCache.add`; jittered expiry; `SetTimer` for new and pending keys alike — no
`MoveTimer` (which would fire at once for a delay below one interval) (CacheG.set) -/
theorem tie_cacheSetStmts : cacheSetStmts = [
    "c.data[key] = value",
    "c.lruCache.add(key)",
    "expiry := c.unstableExpiry.AroundDuration(expire)",
    "c.timingWheel.SetTimer(key, value, expiry)"] := rfl

/-- `Set` = SetWithExpire with the configured expiry -/
theorem tie_cacheSetDefaultStmts : cacheSetDefaultStmts = [
    "c.SetWithExpire(key, value, c.expire)"] := rfl

/-- `Take`: hit → value; else (inside the barrier) re-check, fetch, on success `Set` and return the value (CacheG.take) -/
theorem tie_cacheTakeStmts : cacheTakeStmts = [
    "if val, ok := c.doGet(key); ok {",
    "return val, nil",
    "}",
    "var fresh bool",
    "val, err := c.barrier.Do(key, func() (any, error) { if val, ok := c.doGet(key); ok { return val, nil } v, e := fetch() if e != nil { return nil, e } fresh = true c.Set(key, v) return v, nil })",
    "if err != nil {",
    "return nil, err",
    "}",
    "if fresh {",
    "return val, nil",
    "}",
    "return val, nil"] := rfl

/-- `doGet`: lookup, a hit touches the recency list (CacheG.get) -/
theorem tie_cacheDoGetStmts : cacheDoGetStmts = [
    "value, ok := c.data[key]",
    "if ok {",
    "c.lruCache.add(key)",
    "}",
    "return value, ok"] := rfl

/-- `onEvict`: delete from the map, `RemoveTimer` (CacheG.onEvict) -/
theorem tie_cacheOnEvictStmts : cacheOnEvictStmts = [
    "delete(c.data, key)",
    "c.timingWheel.RemoveTimer(key)"] := rfl

/-- `WithLimit`: a keyLru only for limit > 0 (CacheG.limit = 0 ⇒ emptyLru) -/
theorem tie_cacheWithLimitStmts : cacheWithLimitStmts = [
    "return func(cache *Cache) { if limit > 0 { cache.lruCache = newKeyLru(limit, cache.onEvict) } }"] := rfl

/-- `keyLru.add`: present → MoveToFront; else PushFront and, if longer than limit, removeOldest (CacheG.lruAdd) -/
theorem tie_lruAddStmts : lruAddStmts = [
    "if elem, ok := klru.elements[key]; ok {",
    "klru.evicts.MoveToFront(elem)",
    "return",
    "}",
    "elem := klru.evicts.PushFront(key)",
    "klru.elements[key] = elem",
    "if klru.evicts.Len() > klru.limit {",
    "klru.removeOldest()",
    "}"] := rfl

/-- `keyLru.remove` (CacheG.lruRemove) -/
theorem tie_lruRemoveStmts : lruRemoveStmts = [
    "if elem, ok := klru.elements[key]; ok {",
    "klru.removeElement(elem)",
    "}"] := rfl

/-- `keyLru.removeOldest`: the back of the list -/
theorem tie_lruRemoveOldestStmts : lruRemoveOldestStmts = [
    "elem := klru.evicts.Back()",
    "if elem != nil {",
    "klru.removeElement(elem)",
    "}"] := rfl

/-- `keyLru.removeElement`: unlink, forget, `onEvict` -/
theorem tie_lruRemoveElementStmts : lruRemoveElementStmts = [
    "klru.evicts.Remove(e)",
    "key := e.Value.(string)",
    "delete(klru.elements, key)",
    "klru.onEvict(key)"] := rfl

/-- the wheel of `NewCache`: interval one second, `slots` slots, callback = `cache.Del(key)` (CacheG.expire) -/
theorem tie_cacheWheel : cacheWheel = [
    "time.Second",
    "slots",
    "key, ok := k.(string)",
    "if !ok {",
    "return",
    "}",
    "cache.Del(key)"] := rfl

/-! ### lock frames: what the interleaving models (Conc.lean, ConcObjs.lean, ConcTake.lean) assume about locking

`body` stands for the statements executed while the lock is held (their text is the subject of the statement lists above); a statement
outside the locked region appears verbatim and must not touch shared state. -/

/-- Queue: Put / Take / Empty hold the exclusive lock over their whole body (`CQueue.obj.isRead = false`) -/
theorem tie_queueLocks :
    queuePutLocks = ["q.lock.Lock()", "defer q.lock.Unlock()", "body"]
    ∧ queueTakeLocks = ["q.lock.Lock()", "defer q.lock.Unlock()", "body"]
    ∧ queueEmptyLocks = ["q.lock.Lock()", "body", "q.lock.Unlock()", "return empty"] := ⟨rfl, rfl, rfl⟩

/-- Ring: Add under the write lock, Take (the whole copy loop) under the read lock (`CRing.obj.isRead`) -/
theorem tie_ringLocks :
    ringAddLocks = ["r.lock.Lock()", "defer r.lock.Unlock()", "body"]
    ∧ ringTakeLocks = ["r.lock.RLock()", "defer r.lock.RUnlock()", "body"] := ⟨rfl, rfl⟩

/-- SafeMap: Set / Del (including both migrations) under the write lock; Get / Size / Range (including the callback
calls) under the read lock (`CMap.isRead`) -/
theorem tie_safeMapLocks :
    safeMapSetLocks = ["m.lock.Lock()", "defer m.lock.Unlock()", "body"]
    ∧ safeMapDelLocks = ["m.lock.Lock()", "defer m.lock.Unlock()", "body"]
    ∧ safeMapGetLocks = ["m.lock.RLock()", "defer m.lock.RUnlock()", "body"]
    ∧ safeMapSizeLocks = ["m.lock.RLock()", "body", "m.lock.RUnlock()", "return size"]
    ∧ safeMapRangeLocks = ["m.lock.RLock()", "defer m.lock.RUnlock()", "body"] := ⟨rfl, rfl, rfl, rfl, rfl⟩

/-- the model's read operations are exactly the methods that take `RLock` -/
theorem tie_readOps :
    (CMap.isRead (.get 0), CMap.isRead .size, CMap.isRead .range, CMap.isRead (.set 0 0), CMap.isRead (.del 0))
      = (true, true, true, false, false)
    ∧ (CRing.obj.isRead .take, CRing.obj.isRead (.add 0)) = (true, false)
    ∧ (CQueue.obj.isRead .take, CQueue.obj.isRead (.put 0), CQueue.obj.isRead .empty) = (false, false, false) := by decide

/-- Cache: `doGet` (lookup + recency touch) and the map writes of `Del` / `SetWithExpire` are single critical sections
of `c.lock` (one atomic step each in `CT.step`); the timer calls come after the unlock -/
theorem tie_cacheLocks :
    cacheDoGetLocks = ["c.lock.Lock()", "defer c.lock.Unlock()", "body"]
    ∧ cacheDelLocks = ["c.lock.Lock()", "body", "c.lock.Unlock()", "c.timingWheel.RemoveTimer(key)"]
    ∧ cacheSetLocks = ["c.lock.Lock()", "body", "c.lock.Unlock()", "expiry := c.unstableExpiry.AroundDuration(expire)",
                       "c.timingWheel.SetTimer(key, value, expiry)"]
    ∧ cacheSizeLocks = ["c.lock.Lock()", "defer c.lock.Unlock()", "body"] := ⟨rfl, rfl, rfl, rfl⟩

/-- `Get`: exactly one of hit / miss per call (the driver's hit/miss accounting) -/
theorem tie_cacheGetStatStmts : cacheGetStatStmts = [
    "value, ok := c.doGet(key)",
    "if ok {",
    "c.stats.IncrementHit()",
    "}",
    "else {",
    "c.stats.IncrementMiss()",
    "}",
    "return value, ok"] := rfl

/-- `Take`: found at once = hit; loaded by this call (`fresh`) = miss; result shared through the barrier (or found by
the re-check) = hit; error = neither -/
theorem tie_cacheTakeStatStmts : cacheTakeStatStmts = [
    "if val, ok := c.doGet(key); ok {",
    "c.stats.IncrementHit()",
    "return val, nil",
    "}",
    "var fresh bool",
    "val, err := c.barrier.Do(key, func() (any, error) { if val, ok := c.doGet(key); ok { return val, nil } v, e := fetch() if e != nil { return nil, e } fresh = true c.Set(key, v) return v, nil })",
    "if err != nil {",
    "return nil, err",
    "}",
    "if fresh {",
    "c.stats.IncrementMiss()",
    "return val, nil",
    "}",
    "c.stats.IncrementHit()",
    "return val, nil"] := rfl

/-- `SetTimer` rejects a delay ≤ 0 before anything is sent to the wheel (`CacheG.setNoTimer`: no timer operation) -/
theorem tie_wheelSetTimerStmts : wheelSetTimerStmts = [
    "if delay <= 0 || key == nil {",
    "return ErrArgument",
    "}",
    "select { case tw.setChannel <- timingEntry{ baseEntry: baseEntry{ delay: delay, key: key, }, value: value, }: return nil case <-tw.stopChannel: return ErrClosed }"] := rfl

/-- `NewRing`: panics for n < 1, else n zeroed slots (Ring.new; the guard is `tie_newRingGuard`) -/
theorem tie_newRingStmts : newRingStmts = [
  "if n < 1 {",
  "panic(\"n should be greater than 0\")",
  "}",
  "return &Ring{ elements: make([]any, n), }"] := rfl

/-- `NewSet`: empty map, tag `untyped` (GSet.new true) -/
theorem tie_newSetStmts : newSetStmts = [
  "return &Set{ data: make(map[any]lang.PlaceholderType), tp: untyped, }"] := rfl

/-- `NewUnmanagedSet`: empty map, tag `unmanaged` (GSet.new false) -/
theorem tie_newUnmanagedSetStmts : newUnmanagedSetStmts = [
  "return &Set{ data: make(map[any]lang.PlaceholderType), tp: unmanaged, }"] := rfl

/-- `Add(i ...any)`: every element, in order, through `add` (GSet.addMany) -/
theorem tie_setPubAddStmts : setPubAddStmts = [
  "range _, each := i {",
  "s.add(each)",
  "}"] := rfl

theorem tie_setPubAddIntStmts : setPubAddIntStmts = [
  "range _, each := ii {",
  "s.add(each)",
  "}"] := rfl

theorem tie_setPubAddInt64Stmts : setPubAddInt64Stmts = [
  "range _, each := ii {",
  "s.add(each)",
  "}"] := rfl

theorem tie_setPubAddUintStmts : setPubAddUintStmts = [
  "range _, each := ii {",
  "s.add(each)",
  "}"] := rfl

theorem tie_setPubAddUint64Stmts : setPubAddUint64Stmts = [
  "range _, each := ii {",
  "s.add(each)",
  "}"] := rfl

theorem tie_setPubAddStrStmts : setPubAddStrStmts = [
  "range _, each := ss {",
  "s.add(each)",
  "}"] := rfl

/-- `Keys`: every key of the map -/
theorem tie_setPubKeysStmts : setPubKeysStmts = [
  "var keys []any",
  "range key := s.data {",
  "keys = append(keys, key)",
  "}",
  "return keys"] := rfl

/-- `KeysInt`: exactly the keys of dynamic type int -/
theorem tie_setPubKeysIntStmts : setPubKeysIntStmts = [
  "var keys []int",
  "range key := s.data {",
  "if intKey, ok := key.(int); ok {",
  "keys = append(keys, intKey)",
  "}",
  "}",
  "return keys"] := rfl

theorem tie_setPubKeysInt64Stmts : setPubKeysInt64Stmts = [
  "var keys []int64",
  "range key := s.data {",
  "if intKey, ok := key.(int64); ok {",
  "keys = append(keys, intKey)",
  "}",
  "}",
  "return keys"] := rfl

theorem tie_setPubKeysUintStmts : setPubKeysUintStmts = [
  "var keys []uint",
  "range key := s.data {",
  "if intKey, ok := key.(uint); ok {",
  "keys = append(keys, intKey)",
  "}",
  "}",
  "return keys"] := rfl

theorem tie_setPubKeysUint64Stmts : setPubKeysUint64Stmts = [
  "var keys []uint64",
  "range key := s.data {",
  "if intKey, ok := key.(uint64); ok {",
  "keys = append(keys, intKey)",
  "}",
  "}",
  "return keys"] := rfl

theorem tie_setPubKeysStrStmts : setPubKeysStrStmts = [
  "var keys []string",
  "range key := s.data {",
  "if strKey, ok := key.(string); ok {",
  "keys = append(keys, strKey)",
  "}",
  "}",
  "return keys"] := rfl

/-- `newKeyLru`: a fresh list and index per call, the limit and the eviction callback as given -/
theorem tie_newKeyLruStmts : newKeyLruStmts = [
  "return &keyLru{ limit: limit, evicts: list.New(), elements: make(map[string]*list.Element), onEvict: onEvict, }"] := rfl

/-- `Cache.size` (the statistics callback): number of entries -/
theorem tie_cacheSizeStmts : cacheSizeStmts = [
  "return len(c.data)"] := rfl

/-- `newCacheStat`: keeps the size callback it is given -/
theorem tie_newCacheStatStmts : newCacheStatStmts = [
  "st := &cacheStat{ name: name, sizeCallback: sizeCallback, }",
  "go st.statLoop()",
  "return st"] := rfl

/-- `NewCache`: fresh map per cache, options applied to this cache, statistics over this cache's `size`, wheel of one-second interval and `slots` slots whose callback deletes from this cache -/
theorem tie_newCacheStmts : newCacheStmts = [
  "cache := &Cache{ data: make(map[string]any), expire: expire, lruCache: emptyLruCache, barrier: syncx.NewSingleFlight(), unstableExpiry: mathx.NewUnstable(expiryDeviation), }",
  "range _, opt := opts {",
  "opt(cache)",
  "}",
  "if len(cache.name) == 0 {",
  "cache.name = defaultCacheName",
  "}",
  "cache.stats = newCacheStat(cache.name, cache.size)",
  "timingWheel, err := NewTimingWheel(time.Second, slots, func(k, v any) { key, ok := k.(string) if !ok { return } cache.Del(key) })",
  "if err != nil {",
  "return nil, err",
  "}",
  "cache.timingWheel = timingWheel",
  "return cache, nil"] := rfl

/-- `NewSafeMap`: two fresh empty generations (SafeMap.init) -/
theorem tie_newSafeMapStmts : newSafeMapStmts = [
  "return &SafeMap{ dirtyOld: make(map[any]any), dirtyNew: make(map[any]any), }"] := rfl

/-- `NewRollingWindow`: size < 1 panics; buckets from `newWindow`; `lastTime` = the clock at creation; options applied (RW.new) -/
theorem tie_newRollingWindowStmts : newRollingWindowStmts = [
  "if size < 1 {",
  "panic(\"size must be greater than 0\")",
  "}",
  "w := &RollingWindow[T, B]{ size: size, win: newWindow[T, B](newBucket, size), interval: interval, lastTime: timex.Now(), }",
  "range _, opt := opts {",
  "opt(w)",
  "}",
  "return w"] := rfl

/-- `newWindow`: `size` buckets, each from its own `newBucket()` call -/
theorem tie_newWindowStmts : newWindowStmts = [
  "buckets := make([]B, size)",
  "for i := 0; i < size; i++ {",
  "buckets[i] = newBucket()",
  "}",
  "return &window[T, B]{ buckets: buckets, size: size, }"] := rfl

/-- `IgnoreCurrentBucket`: sets `ignoreCurrent` -/
theorem tie_ignoreCurrentStmts : ignoreCurrentStmts = [
  "return func(w *RollingWindow[T, B]) { w.ignoreCurrent = true }"] := rfl

/-- `Bucket.Add`: sum and count -/
theorem tie_bucketAddStmts : bucketAddStmts = [
  "b.Sum += v",
  "b.Count++"] := rfl

/-- `Bucket.Reset`: both back to zero -/
theorem tie_bucketResetStmts : bucketResetStmts = [
  "b.Sum = 0",
  "b.Count = 0"] := rfl

end GoZero.C16.Tie

namespace GoZero.C16.TieR5
open GoZero.C16
open GoZero.Extracted.C16

theorem tie_defaultCacheName : defaultCacheName = "proc" := by decide

/-! ### Range: both loops RETURN when the callback answers false (`rangeLoop`'s stop flag ends `SafeMap.rangeUntil`) -/

theorem tie_safeMapRangeLoops : safeMapRangeLoops = [("m.dirtyOld", "if !f(k, v) return"), ("m.dirtyNew", "if !f(k, v) return")] := by
  decide

/-- `Set` forwards key, value and the CONFIGURED expiry to SetWithExpire (the driver maps `setd` to `COp.set` with the section's expire) -/
theorem tie_cacheSetCalls : cacheSetCalls = [
  ("call", "c.SetWithExpire", ["key", "value", "c.expire"])
] := rfl

/-- `Get` forwards the key to doGet; one statistics call per branch -/
theorem tie_cacheGetCalls : cacheGetCalls = [
  ("call", "c.doGet", ["key"]),
  ("call", "c.stats.IncrementHit", []),
  ("call", "c.stats.IncrementMiss", [])
] := rfl

/-- `Del`: under the lock the recency list, after the unlock the wheel - each with the key (CacheG.del) -/
theorem tie_cacheDelCalls : cacheDelCalls = [
  ("call", "c.lock.Lock", []),
  ("call", "delete", ["c.data", "key"]),
  ("call", "c.lruCache.remove", ["key"]),
  ("call", "c.lock.Unlock", []),
  ("call", "c.timingWheel.RemoveTimer", ["key"])
] := rfl

/-- `SetWithExpire`: recency list under the lock; the jitter is applied to the expire ARGUMENT; SetTimer gets key, value and the jittered expiry (CacheG.set) -/
theorem tie_cacheSetWithExpireCalls : cacheSetWithExpireCalls = [
  ("call", "c.lock.Lock", []),
  ("store", "c.data", ["key", "value"]),
  ("call", "c.lruCache.add", ["key"]),
  ("call", "c.lock.Unlock", []),
  ("call", "c.unstableExpiry.AroundDuration", ["expire"]),
  ("call", "c.timingWheel.SetTimer", ["key", "value", "expiry"])
] := rfl

/-- `Take`: doGet(key); barrier.Do(key, closure); inside the closure doGet(key) again, fetch(), Set(key, v) with the FETCHED value (CacheG.take / takeL) -/
theorem tie_cacheTakeCalls : cacheTakeCalls = [
  ("call", "c.doGet", ["key"]),
  ("call", "c.stats.IncrementHit", []),
  ("call", "c.barrier.Do", ["key", "func"]),
  ("call", "c.doGet", ["key"]),
  ("call", "fetch", []),
  ("call", "c.Set", ["key", "v"]),
  ("call", "c.stats.IncrementMiss", []),
  ("call", "c.stats.IncrementHit", [])
] := rfl

/-- `doGet`: lock, deferred unlock, a hit touches the recency list with the key -/
theorem tie_cacheDoGetCalls : cacheDoGetCalls = [
  ("call", "c.lock.Lock", []),
  ("defer", "c.lock.Unlock", []),
  ("call", "c.lruCache.add", ["key"])
] := rfl

/-- `onEvict`: the evicted key's timer is removed -/
theorem tie_cacheOnEvictCalls : cacheOnEvictCalls = [
  ("call", "delete", ["c.data", "key"]),
  ("call", "c.timingWheel.RemoveTimer", ["key"])
] := rfl

/-- `size`: lock, deferred unlock -/
theorem tie_cacheSizeCalls : cacheSizeCalls = [
  ("call", "c.lock.Lock", []),
  ("defer", "c.lock.Unlock", [])
] := rfl

/-- `NewCache`: every option is applied to the cache being built, in order (cacheCfg); the statistics get the name and the size callback; the wheel gets one second, `slots` and a callback that deletes the fired KEY -/
theorem tie_newCacheCalls : newCacheCalls = [
  ("call", "syncx.NewSingleFlight", []),
  ("call", "mathx.NewUnstable", ["expiryDeviation"]),
  ("call", "opt", ["cache"]),
  ("call", "newCacheStat", ["cache.name", "cache.size"]),
  ("call", "NewTimingWheel", ["time.Second", "slots", "func"]),
  ("call", "cache.Del", ["key"])
] := rfl

/-- `WithLimit`: the keyLru gets the limit and THIS cache's onEvict -/
theorem tie_withLimitCalls : withLimitCalls = [
  ("call", "newKeyLru", ["limit", "cache.onEvict"])
] := rfl

/-- `newCacheStat`: starts the statistics loop (outside the model) -/
theorem tie_newCacheStatCalls : newCacheStatCalls = [
  ("go", "st.statLoop", [])
] := rfl

theorem tie_lruAddCalls : lruAddCalls = [
  ("call", "klru.evicts.MoveToFront", ["elem"]),
  ("call", "klru.evicts.PushFront", ["key"]),
  ("store", "klru.elements", ["key", "elem"]),
  ("call", "klru.evicts.Len", []),
  ("call", "klru.removeOldest", [])
] := rfl

theorem tie_lruRemoveCalls : lruRemoveCalls = [
  ("call", "klru.removeElement", ["elem"])
] := rfl

/-- `keyLru.removeOldest`: the BACK of the list -/
theorem tie_lruRemoveOldestCalls : lruRemoveOldestCalls = [
  ("call", "klru.evicts.Back", []),
  ("call", "klru.removeElement", ["elem"])
] := rfl

/-- `keyLru.removeElement`: the list element, then onEvict with its key -/
theorem tie_lruRemoveElementCalls : lruRemoveElementCalls = [
  ("call", "klru.evicts.Remove", ["e"]),
  ("call", "delete", ["klru.elements", "key"]),
  ("call", "klru.onEvict", ["key"])
] := rfl

/-- `NewRollingWindow`: newWindow gets the bucket constructor and the size; lastTime is the clock; every option is applied to the window being built (RW.newApi) -/
theorem tie_newRollingWindowCalls : newRollingWindowCalls = [
  ("call", "newWindow[T, B]", ["newBucket", "size"]),
  ("call", "timex.Now", []),
  ("call", "opt", ["w"])
] := rfl

/-- `Add`: write lock, updateOffset, then the value goes to the bucket at rw.offset (RW.add) -/
theorem tie_rwAddCalls : rwAddCalls = [
  ("call", "rw.lock.Lock", []),
  ("defer", "rw.lock.Unlock", []),
  ("call", "rw.updateOffset", []),
  ("call", "rw.win.add", ["rw.offset", "v"])
] := rfl

/-- `Reduce`: read lock, span, then win.reduce(start offset, count, callback) (RW.reduce) -/
theorem tie_rwReduceCalls : rwReduceCalls = [
  ("call", "rw.lock.RLock", []),
  ("defer", "rw.lock.RUnlock", []),
  ("call", "rw.span", []),
  ("call", "rw.win.reduce", ["offset", "diff", "fn"])
] := rfl

/-- `updateOffset`: span, one resetBucket per expired interval at (offset+i+1) % size, the clock (RW.updateOffset) -/
theorem tie_rwUpdateCalls : rwUpdateCalls = [
  ("call", "rw.span", []),
  ("call", "rw.win.resetBucket", ["(offset + i + 1) % rw.size"]),
  ("call", "timex.Now", [])
] := rfl

/-- `Range`: read lock held over both loops; the callback gets key and value (SafeMap.rangeUntil) -/
theorem tie_safeMapRangeCalls : safeMapRangeCalls = [
  ("call", "m.lock.RLock", []),
  ("defer", "m.lock.RUnlock", []),
  ("call", "f", ["k", "v"]),
  ("call", "f", ["k", "v"])
] := rfl

/-- `Get`: read lock -/
theorem tie_safeMapGetCalls : safeMapGetCalls = [
  ("call", "m.lock.RLock", []),
  ("defer", "m.lock.RUnlock", [])
] := rfl

/-- `Size`: read lock around the sum -/
theorem tie_safeMapSizeCalls : safeMapSizeCalls = [
  ("call", "m.lock.RLock", []),
  ("call", "m.lock.RUnlock", [])
] := rfl

/-- `Empty`: the lock around the comparison -/
theorem tie_queueEmptyCalls : queueEmptyCalls = [
  ("call", "q.lock.Lock", []),
  ("call", "q.lock.Unlock", [])
] := rfl

/-- `Take`: read lock, deferred unlock -/
theorem tie_ringTakeCalls : ringTakeCalls = [
  ("call", "r.lock.RLock", []),
  ("defer", "r.lock.RUnlock", []),
  ("store", "elements", ["i", "r.elements[(start+i)%rlen]"])
] := rfl

end GoZero.C16.TieR5
