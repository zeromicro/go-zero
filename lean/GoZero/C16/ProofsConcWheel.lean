/-
C16 — Cache with the goroutines of its timing wheel (ConcWheel.lean): the invariant of every schedule — the map is what
the newest locked section per key left, and only keys that were ever stored reach the wheel, its pending calls and the
expiry callbacks — and its preservation by every action.
-/
import GoZero.C16.ProofsMap
import GoZero.C16.ConcWheel
namespace GoZero.C16.CW

structure Inv (s : St) : Prop where
  data  : ∀ k, alookup s.data k = lastWrite s.log k
  fired : ∀ k, k ∈ s.fired → k ∈ everSet s.log
  timer : ∀ p, p ∈ s.timers → p.1 ∈ everSet s.log
  pend  : ∀ p, p ∈ s.pendSet → p.1 ∈ everSet s.log

theorem inv_init : Inv init := ⟨fun _ => rfl, by simp [init], by simp [init], by simp [init]⟩

theorem everSet_mono {x : Nat} {l : List Ev} (e : Ev) (h : x ∈ everSet l) : x ∈ everSet (e :: l) := by
  cases e
  · exact List.mem_cons_of_mem _ h
  · exact h

theorem mem_terase {t : List (Nat × Nat)} {k : Nat} {p : Nat × Nat} (h : p ∈ terase t k) : p ∈ t :=
  (List.mem_filter.1 h).1

theorem inv_step {s s' : St} (a : Act) (hi : Inv s) (h : step s a = some s') : Inv s' := by
  obtain ⟨h1, h2, h3, h4⟩ := hi
  cases a with
  | setLock k v ticks victim =>
    have pend : ∀ p, p ∈ s.pendSet ++ [(k, v, ticks)] → p.1 ∈ everSet (.store k v :: s.log) := fun p hp => by
      rcases List.mem_append.1 hp with hp | hp
      · exact everSet_mono _ (h4 p hp)
      · simp only [List.mem_singleton] at hp; subst hp; exact List.mem_cons_self
    cases victim with
    | none =>
      cases h
      exact ⟨fun k' => by simp only [lastWrite, alookup_ainsert, h1], fun x hx => everSet_mono _ (h2 x hx),
        fun p hp => everSet_mono _ (h3 p hp), pend⟩
    | some o =>
      simp only [step] at h
      split at h
      · cases h
      · cases h
        exact ⟨fun k' => by simp only [lastWrite, alookup_aerase, alookup_ainsert, h1],
          fun x hx => everSet_mono _ (everSet_mono _ (h2 x hx)),
          fun p hp => everSet_mono _ (everSet_mono _ (h3 p (mem_terase hp))), fun p hp => everSet_mono _ (pend p hp)⟩
  | setWheel i =>
    simp only [step] at h
    cases hp : s.pendSet[i]? with
    | none => simp [hp] at h
    | some q =>
      obtain ⟨k, v, ticks⟩ := q
      rw [hp] at h; cases h
      have hk : k ∈ everSet s.log := h4 (k, v, ticks) (List.mem_of_getElem? hp)
      refine ⟨h1, h2, fun p hp' => ?_, fun p hp' => h4 p (List.mem_of_mem_eraseIdx hp')⟩
      by_cases ht : ticks = 0
      · simp only [ht, if_true] at hp'; exact h3 p hp'
      · simp only [ht, if_false, List.mem_cons] at hp'
        rcases hp' with e | e
        · subst e; exact hk
        · exact h3 p (mem_terase e)
  | delLock k =>
    cases h
    exact ⟨fun k' => by simp only [lastWrite, alookup_aerase, h1], h2, h3, h4⟩
  | rmWheel i =>
    simp only [step] at h
    cases hp : s.pendRm[i]? with
    | none => simp [hp] at h
    | some k =>
      rw [hp] at h; cases h
      exact ⟨h1, h2, fun p hp' => h3 p (mem_terase hp'), h4⟩
  | tick =>
    cases h
    refine ⟨h1, fun x hx => ?_, fun p hp => ?_, h4⟩
    · rcases List.mem_append.1 hx with hx | hx
      · exact h2 x hx
      · obtain ⟨p, hp, rfl⟩ := List.mem_map.1 hx
        exact h3 p (List.mem_filter.1 hp).1
    · obtain ⟨q, hq, rfl⟩ := List.mem_map.1 hp
      exact h3 q (List.mem_filter.1 hq).1
  | cbLock i =>
    simp only [step] at h
    cases hp : s.fired[i]? with
    | none => simp [hp] at h
    | some k =>
      rw [hp] at h; cases h
      exact ⟨fun k' => by simp only [lastWrite, alookup_aerase, h1],
             fun x hx => h2 x (List.mem_of_mem_eraseIdx hx), h3, h4⟩
  | get k =>
    cases h
    exact ⟨h1, h2, h3, h4⟩

end GoZero.C16.CW
