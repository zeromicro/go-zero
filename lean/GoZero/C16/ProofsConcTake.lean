/-
C16 — invariants of the `Cache.Take` interleaving model (every schedule, unbounded goroutines).

Two layers.  `Bar`: a goroutine that leads a flight finds its key in the barrier's map, and leads it alone; that pair is
inductive as it stands — a goroutine becomes a leader only at `b0` with no flight for its key, so no leader has that key,
and the flight is deleted only by its leader at `e0` — so the flight identifiers (`cur`, `leader`, `next`, `done`) do not
enter.  `Acct`: the loader calls of a key are paid for; the credit is held by the key itself while no flight is on and by
the leader of its flight otherwise, so every clause speaks of one key or one goroutine and a step touches one of each.
Beside them, per call: `callsOK` — program counter by program counter, how many loader calls this Take has made (0 up to
`f1`, 1 in `f2` / `f3`, ≤ 1 from `e0` on) and that a call implies a miss seen inside the barrier; `rets` — the same of every
returned record (`take_conc_loads_only_on_miss` is read off these two).
-/
import GoZero.C16.ConcTake
namespace GoZero.C16.CT

variable {s s' : St} {t : Tid} {x : In}

theorem remove_frame (s : St) (k : Key) :
    (remove s k).flight = s.flight ∧ (remove s k).pc = s.pc ∧ (remove s k).key = s.key ∧ (remove s k).calls = s.calls
    ∧ (remove s k).sawMiss = s.sawMiss ∧ (remove s k).rets = s.rets := by
  unfold remove; split <;> simp

/-- what a step of `t` leaves alone: the other goroutines; the barrier's map, whether `t` leads and a leader's key, except
at `b0` without a flight and at `e0`; the returned records, except at `r0` -/
theorem step_frame (hs : step s t x = some s') :
    (∀ u, u ≠ t → s'.pc u = s.pc u ∧ s'.key u = s.key u ∧ s'.calls u = s.calls u ∧ s'.sawMiss u = s.sawMiss u)
    ∧ (¬ (s.pc t = .b0 ∧ s.flight (s.key t) = none) → s.pc t ≠ .e0 →
        s'.flight = s.flight ∧ (s'.pc t).lead = (s.pc t).lead ∧ ((s.pc t).lead = true → s'.key t = s.key t))
    ∧ (s.pc t ≠ .r0 → s'.rets = s.rets) := by
  unfold step at hs
  split at hs
  · next hpc => split at hs <;> cases hs <;> simp +contextual [upd, hpc, PC.lead, remove_frame]
  all_goals (next hpc => (try split at hs) <;> cases hs <;> simp_all +contextual [upd, PC.lead])

structure Bar (s : St) : Prop where
  has  : ∀ t, (s.pc t).lead = true → s.flight (s.key t) ≠ none
  excl : ∀ t u, (s.pc t).lead = true → (s.pc u).lead = true → s.key t = s.key u → t = u

/-- `upd_other` for `simp` / `rw`, with the inequality as the only explicit argument -/
@[simp] theorem upd_ne {α : Type} {f : Nat → α} {i j : Nat} {v : α} (h : j ≠ i) : upd f i v j = f j := upd_other f i j v h

theorem lead_upd {pc : Tid → PC} {t u : Tid} {p : PC} (hu : (upd pc t p u).lead = true) :
    u = t ∨ u ≠ t ∧ (pc u).lead = true := by
  by_cases e : u = t
  · exact Or.inl e
  · rw [upd_ne e] at hu; exact Or.inr ⟨e, hu⟩

theorem bar_register (h : Bar s) (hf : s.flight (s.key t) = none) {ld : CallId → Tid} {d : CallId → Option (Option Nat)}
    {cu : Tid → CallId} {n : CallId} :
    Bar { s with flight := upd s.flight (s.key t) (some s.next), leader := ld, done := d, cur := cu, next := n,
                 pc := upd s.pc t .f0 } := by
  -- no leader has `t`'s key: its key is in the map
  have other : ∀ u, (s.pc u).lead = true → s.key u ≠ s.key t := fun u hu e => h.has u hu (e ▸ hf)
  refine ⟨fun u hu => ?_, fun u v hu hv hk => ?_⟩
  · show upd s.flight _ _ (s.key u) ≠ none
    by_cases e : s.key u = s.key t
    · rw [e, upd_same]; exact Option.some_ne_none _
    · rw [upd_ne e]
      rcases lead_upd hu with rfl | ⟨_, hl⟩
      · exact absurd rfl e
      · exact h.has u hl
  · rcases lead_upd hu with rfl | ⟨_, hu'⟩ <;> rcases lead_upd hv with rfl | ⟨_, hv'⟩
    · rfl
    · exact absurd hk.symm (other v hv')
    · exact absurd hk (other u hu')
    · exact h.excl u v hu' hv' hk

theorem bar_finish (h : Bar s) (hpc : s.pc t = .e0) (d : CallId → Option (Option Nat)) :
    Bar { s with flight := upd s.flight (s.key t) none, done := d, pc := upd s.pc t .r0 } := by
  have ht : (s.pc t).lead = true := by rw [hpc]; rfl
  -- who still leads is not `t`, so its key is not `t`'s
  have old : ∀ u, (upd s.pc t .r0 u).lead = true → u ≠ t ∧ (s.pc u).lead = true := fun u hu => by
    rcases lead_upd hu with rfl | h'
    · rw [upd_same] at hu; cases hu
    · exact h'
  refine ⟨fun u hu => ?_, fun u v hu hv hk => h.excl u v (old u hu).2 (old v hv).2 hk⟩
  obtain ⟨hut, hl⟩ := old u hu
  show upd s.flight _ _ (s.key u) ≠ none
  rw [upd_ne fun e => hut (h.excl u t hl ht e)]
  exact h.has u hl

theorem bar_step (h : Bar s) (hs : step s t x = some s') : Bar s' := by
  by_cases hb : s.pc t = .b0 ∧ s.flight (s.key t) = none
  · obtain ⟨hpc, hf⟩ := hb
    simp [step, hpc, hf] at hs; subst hs
    exact bar_register h hf
  by_cases he : s.pc t = .e0
  · simp [step, he] at hs; subst hs
    exact bar_finish h he _
  · obtain ⟨ho, hq, _⟩ := step_frame hs
    obtain ⟨hf, hp, hk⟩ := hq hb he
    -- who leads, and the key of a leader, are as before
    have hl : ∀ u, (s'.pc u).lead = true → (s.pc u).lead = true ∧ s'.key u = s.key u := fun u hu => by
      by_cases hut : u = t
      · subst hut; rw [hp] at hu; exact ⟨hu, hk hu⟩
      · rw [(ho u hut).1] at hu; exact ⟨hu, (ho u hut).2.1⟩
    refine ⟨fun u hu => ?_, fun u v hu hv e => h.excl u v (hl u hu).1 (hl v hv).1 ?_⟩
    · rw [hf, (hl u hu).2]; exact h.has u (hl u hu).1
    · rw [← (hl u hu).2, ← (hl v hv).2]; exact e

/-! ### loader calls are paid for

One initial credit per key, one more per removal of the present entry and per failed load: `loads ≤ gone + fails + 1`.
What keeps it inductive is who holds the credit: without a flight an absent key has it (`idle`); the leader of the
flight holds it from its lookup to the loader call and has used it afterwards (`owes`). -/

/-- the obligation of a leader at `p`, `d` the entry of its key, `P` "every load of the key so far is paid for":
inside the loader or about to store, none; about to call the loader, `P`; before the lookup or finishing, `P` if the
key is absent -/
def owes (p : PC) (d : Option Nat) (P : Prop) : Prop :=
  match p with
  | .f2 | .f3 => True
  | .f1 => P
  | _ => d = none → P

theorem owes_mono {p : PC} {d d' : Option Nat} {P P' : Prop} (hd : d' = none → d = none) (hP : P → P')
    (h : owes p d P) : owes p d' P' := by
  cases p
  case f2 | f3 => trivial
  case f1 => exact hP h
  all_goals exact fun e => hP (h (hd e))

theorem owes_of {p : PC} {d : Option Nat} {P : Prop} (h : P) : owes p d P := by
  cases p
  case f2 | f3 => trivial
  case f1 => exact h
  all_goals exact fun _ => h

/-- `owes` at key `k` of `s`: `d` its entry, `P` "the loads of `k` are paid for without the spare credit"
(`loads k ≤ gone k + fails k`) -/
def ob (s : St) (p : PC) (k : Key) : Prop := owes p (s.data k) (s.loads k ≤ s.gone k + s.fails k)

structure Acct (s : St) : Prop where
  le   : ∀ k, s.loads k ≤ s.gone k + s.fails k + 1
  idle : ∀ k, s.flight k = none → s.data k = none → s.loads k ≤ s.gone k + s.fails k
  ld   : ∀ t, (s.pc t).lead = true → ob s (s.pc t) (s.key t)

theorem upd_some_none {α : Type} {f : Nat → Option α} {i j : Nat} {v : α} (h : upd f i (some v) j = none) : f j = none := by
  by_cases e : j = i
  · subst e; rw [upd_same] at h; cases h
  · rwa [upd_ne e] at h

theorem le_upd_succ (f : Nat → Nat) (i j : Nat) : f j ≤ upd f i (f i + 1) j := by
  by_cases e : j = i
  · subst e; rw [upd_same]; exact Nat.le_succ _
  · rw [upd_ne e]; exact Nat.le_refl _

/-- after `t` moved to `p`: `t`'s new obligation and the others' old ones -/
theorem ld_move {pc : Tid → PC} {key : Tid → Key} (Q : PC → Key → Prop) (t : Tid) (p : PC)
    (h : ∀ u, (pc u).lead = true → Q (pc u) (key u)) (ht : p.lead = true → Q p (key t)) :
    ∀ u, (upd pc t p u).lead = true → Q (upd pc t p u) (key u) := by
  intro u hu
  by_cases e : u = t
  · subst e; rw [upd_same] at hu ⊢; exact ht hu
  · rw [upd_ne e] at hu ⊢; exact h u hu

/-- `ld_move` to a `p` that does not lead: only the others' old obligations are needed -/
theorem ld_leave {pc : Tid → PC} {key : Tid → Key} (Q : PC → Key → Prop) (t : Tid) {p : PC} (hp : p.lead = false)
    (h : ∀ u, (pc u).lead = true → Q (pc u) (key u)) : ∀ u, (upd pc t p u).lead = true → Q (upd pc t p u) (key u) :=
  ld_move Q t p h (fun hl => by rw [hp] at hl; cases hl)

/-- removing a present entry pays for one more load of the key; for the other keys nothing gets harder -/
theorem Acct.remove (h : Acct s) (k' : Key) : Acct (remove s k') := by
  unfold CT.remove; split
  · have m := fun k => Nat.add_le_add_right (le_upd_succ s.gone k' k) (s.fails k)
    have paid : s.loads k' ≤ upd s.gone k' (s.gone k' + 1) k' + s.fails k' := by
      rw [upd_same]; have := h.le k'; omega
    refine ⟨fun k => Nat.le_trans (h.le k) (Nat.succ_le_succ (m k)), fun k hf hd => ?_, fun u hu => ?_⟩
    · by_cases e : k = k'
      · subst e; exact paid
      · exact Nat.le_trans (h.idle k hf (by rw [← upd_ne (f := s.data) (v := none) e]; exact hd)) (m k)
    · by_cases e : s.key u = k'
      · exact owes_of (e ▸ paid)
      · exact owes_mono (fun hd => by rw [← upd_ne (f := s.data) (v := none) e]; exact hd)
          (fun hP => Nat.le_trans hP (m _)) (h.ld u hu)
  · exact h

theorem acct_step (hb : Bar s) (h : Acct s) (hs : step s t x = some s') : Acct s' := by
  unfold step at hs
  split at hs
  · next hpc =>
    split at hs <;> cases hs
    · refine ⟨h.le, h.idle, fun u hu => ?_⟩
      have e : u ≠ t := fun e => by subst e; have hu : (upd s.pc u .t0 u).lead = true := hu; rw [upd_same] at hu; cases hu
      show ob s (upd s.pc t .t0 u) (upd s.key t _ u)
      rw [upd_ne e, upd_ne e]; exact h.ld u (by rw [← upd_ne (f := s.pc) (v := .t0) e]; exact hu)
    · exact ⟨h.le, fun k hf hd => h.idle k hf (upd_some_none hd), fun u hu => owes_mono upd_some_none id (h.ld u hu)⟩
    all_goals exact h.remove _
  · next hpc =>
    split at hs <;> cases hs <;>
      exact ⟨h.le, h.idle, ld_leave (ob s) t rfl h.ld⟩
  · next hpc =>
    split at hs <;> cases hs
    · next hfl =>
      exact ⟨h.le, fun k hf hd => h.idle k (upd_some_none hf) hd,
        ld_move (ob s) t .f0 h.ld (fun _ => h.idle (s.key t) hfl)⟩
    · exact ⟨h.le, h.idle, ld_leave (ob s) t rfl h.ld⟩
  · next hpc =>
    split at hs <;> cases hs
    exact ⟨h.le, h.idle, ld_leave (ob s) t rfl h.ld⟩
  · next hpc =>
    have ht := h.ld t (by rw [hpc]; rfl)
    rw [hpc] at ht
    split at hs <;> cases hs
    · next v hd =>
      exact ⟨h.le, h.idle, ld_move (ob s) t .e0 h.ld (fun _ e => by rw [hd] at e; cases e)⟩
    · next hd => exact ⟨h.le, h.idle, ld_move (ob s) t .f1 h.ld (fun _ => ht hd)⟩
  · next hpc =>
    -- the loader call uses the credit the leader holds; nobody else leads this key
    have hl : (s.pc t).lead = true := by rw [hpc]; rfl
    have ht : s.loads (s.key t) ≤ s.gone (s.key t) + s.fails (s.key t) := by have := h.ld t hl; rwa [hpc] at this
    cases hs
    refine ⟨fun k => ?_, fun k hf hd => ?_, fun u hu => ?_⟩
    · show upd s.loads (s.key t) _ k ≤ _
      by_cases e : k = s.key t
      · subst e; rw [upd_same]; exact Nat.succ_le_succ ht
      · rw [upd_ne e]; exact h.le k
    · have e : k ≠ s.key t := fun e => hb.has t hl (e ▸ hf)
      show upd s.loads (s.key t) _ k ≤ _
      rw [upd_ne e]; exact h.idle k hf hd
    · by_cases e : u = t
      · subst e; show owes (upd s.pc u .f2 u) _ _; rw [upd_same]; trivial
      · have hu' : (s.pc u).lead = true := by rw [← upd_ne (f := s.pc) (v := .f2) e]; exact hu
        have ek : s.key u ≠ s.key t := fun ek => e (hb.excl u t hu' hl ek)
        show owes (upd s.pc t .f2 u) _ (upd s.loads (s.key t) _ (s.key u) ≤ _)
        rw [upd_ne e, upd_ne ek]; exact h.ld u hu'
  · next hpc =>
    split at hs <;> cases hs
    · exact ⟨h.le, h.idle, ld_move (ob s) t .f3 h.ld (fun _ => trivial)⟩
    · -- a failed load is one more credit
      have m := le_upd_succ s.fails (s.key t)
      refine ⟨fun k => Nat.le_trans (h.le k) (Nat.succ_le_succ (Nat.add_le_add_left (m k) _)),
        fun k hf hd => Nat.le_trans (h.idle k hf hd) (Nat.add_le_add_left (m k) _), ?_⟩
      refine ld_move (fun p k => owes p (s.data k) (s.loads k ≤ s.gone k + upd s.fails (s.key t) (s.fails (s.key t) + 1) k))
        t .e0
        (fun u hu => owes_mono id (fun hP => Nat.le_trans hP (Nat.add_le_add_left (m _) _)) (h.ld u hu)) (fun _ _ => ?_)
      rw [upd_same]; exact h.le _
  · next hpc =>
    cases hs
    refine ⟨h.le, fun k hf hd => h.idle k hf (upd_some_none hd), ?_⟩
    exact ld_move (fun p k => owes p (upd s.data (s.key t) (some (s.tmp t)) k) (s.loads k ≤ s.gone k + s.fails k))
      t .e0 (fun u hu => owes_mono upd_some_none id (h.ld u hu))
      (fun _ e => by rw [upd_same] at e; cases e)
  · next hpc =>
    have ht := h.ld t (by rw [hpc]; rfl)
    rw [hpc] at ht
    cases hs
    refine ⟨h.le, fun k hf hd => ?_, ld_leave (ob s) t rfl h.ld⟩
    by_cases e : k = s.key t
    · subst e; exact ht hd
    · exact h.idle k (by rw [← upd_ne (f := s.flight) (v := none) e]; exact hf) hd
  · next hpc =>
    cases hs
    exact ⟨h.le, h.idle, ld_leave (ob s) t rfl h.ld⟩

def callsOK (s : St) (t : Tid) : Prop :=
  match s.pc t with
  | .idle => True
  | .t0 | .b0 | .w0 | .f0 => s.calls t = 0
  | .f1 => s.calls t = 0 ∧ s.sawMiss t = true
  | .f2 | .f3 => s.calls t = 1 ∧ s.sawMiss t = true
  | .e0 | .r0 => s.calls t ≤ 1 ∧ (s.calls t = 1 → s.sawMiss t = true)

structure Inv (s : St) : Prop where
  bar   : Bar s
  acct  : Acct s
  calls : ∀ t, callsOK s t
  rets  : ∀ r, r ∈ s.rets → r.calls ≤ 1 ∧ (r.calls = 1 → r.sawMiss = true)

theorem inv_init : Inv init := by
  refine ⟨⟨?_, ?_⟩, ⟨?_, ?_, ?_⟩, ?_, ?_⟩ <;> simp [init, callsOK, PC.lead]

/-- `callsOK` speaks of one goroutine's program counter and counters: for `t` itself it is read off the step, program
counter by program counter; the others are not touched (`step_frame`) -/
theorem calls_step (h : ∀ u, callsOK s u) (hs : step s t x = some s') : ∀ u, callsOK s' u := by
  intro u
  by_cases hut : u = t
  · subst hut
    have hc := h u
    unfold callsOK at *
    unfold step at hs
    split at hs
    · next hpc => split at hs <;> simp at hs <;> (try subst hs) <;> simp [upd, hpc, remove_frame]
    all_goals (next hpc => (try split at hs) <;> simp at hs <;> (try subst hs) <;> simp [hpc] at hc <;> simp [upd, hc] <;> grind)
  · obtain ⟨a, _, b, c⟩ := (step_frame hs).1 u hut
    have := h u
    unfold callsOK at *
    rw [a, b, c]; exact this

/-- only the return at `r0` adds a record, and it carries the counters that `callsOK` bounds there -/
theorem rets_step (hc : callsOK s t) (h : ∀ r, r ∈ s.rets → r.calls ≤ 1 ∧ (r.calls = 1 → r.sawMiss = true))
    (hs : step s t x = some s') : ∀ r, r ∈ s'.rets → r.calls ≤ 1 ∧ (r.calls = 1 → r.sawMiss = true) := by
  by_cases h0 : s.pc t = .r0
  · simp [step, h0] at hs; subst hs
    unfold callsOK at hc
    rw [h0] at hc
    intro r hr
    rcases List.mem_cons.1 hr with e | hr
    · subst e; exact hc
    · exact h r hr
  · rw [(step_frame hs).2.2 h0]; exact h

theorem inv_step (h : Inv s) (hs : step s t x = some s') : Inv s' :=
  ⟨bar_step h.bar hs, acct_step h.bar h.acct hs, calls_step h.calls hs, rets_step (h.calls t) h.rets hs⟩

theorem inv_reach {s : St} (h : Reach s) : Inv s := by
  induction h with
  | init => exact inv_init
  | step t x _ hs ih => exact inv_step ih hs

end GoZero.C16.CT
