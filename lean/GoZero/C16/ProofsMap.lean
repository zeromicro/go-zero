/-
C16 — lemmas about association lists (Go maps) and the SafeMap model: lookups and key sets per operation, the
representation invariant (generations disjoint), then whole histories against the pointwise-updated function.
-/
import GoZero.C16.Spec
import GoZero.C16.ModelApi
import GoZero.C16.ProofsIndex
namespace GoZero.C16

def akeys (l : AL) : List Nat := l.map (·.1)

theorem alookup_aerase (l : AL) (k k' : Nat) :
    alookup (aerase l k) k' = if k' = k then none else alookup l k' := by
  induction l with
  | nil => simp [aerase, alookup]
  | cons p r ih =>
    simp only [aerase, List.filter_cons] at ih ⊢
    split <;> grind [alookup]

theorem alookup_ainsert (l : AL) (k v k' : Nat) :
    alookup (ainsert l k v) k' = if k' = k then some v else alookup l k' := by
  simp only [ainsert, alookup]
  by_cases h : k' = k
  · subst h; simp
  · have : ¬ k = k' := fun e => h e.symm
    simp [h, this, alookup_aerase]

theorem alookup_none_iff (l : AL) (k : Nat) : alookup l k = none ↔ k ∉ akeys l := by
  induction l with
  | nil => simp [alookup, akeys]
  | cons p r ih => simp only [alookup, akeys, List.map_cons, List.mem_cons] at ih ⊢; grind

theorem mem_akeys_iff (l : AL) (k : Nat) : k ∈ akeys l ↔ alookup l k ≠ none := by
  rw [ne_eq, alookup_none_iff, Decidable.not_not]

theorem ahas_iff (l : AL) (k : Nat) : ahas l k = true ↔ k ∈ akeys l := by
  rw [mem_akeys_iff, ahas, Option.isSome_iff_ne_none]

theorem ahas_false_iff (l : AL) (k : Nat) : ahas l k = false ↔ k ∉ akeys l := by
  rw [← ahas_iff]; cases ahas l k <;> simp

theorem aerase_cons (a b : Nat) (r : AL) (k : Nat) :
    aerase ((a, b) :: r) k = if a = k then aerase r k else (a, b) :: aerase r k := by
  by_cases h : a = k <;> simp [aerase, h]

theorem akeys_aerase (l : AL) (k : Nat) : akeys (aerase l k) = (akeys l).filter (· ≠ k) := by
  simp [akeys, aerase, List.filter_map, Function.comp_def]

theorem mem_akeys_aerase (l : AL) (k k' : Nat) : k' ∈ akeys (aerase l k) ↔ k' ∈ akeys l ∧ k' ≠ k := by
  rw [akeys_aerase]; simp

theorem nodup_aerase {l : AL} {k : Nat} (h : (akeys l).Nodup) : (akeys (aerase l k)).Nodup := by
  rw [akeys_aerase]; exact h.filter _

theorem nodup_ainsert {l : AL} {k v : Nat} (h : (akeys l).Nodup) : (akeys (ainsert l k v)).Nodup := by
  simp only [ainsert, akeys, List.map_cons, List.nodup_cons]
  exact ⟨fun hm => ((mem_akeys_aerase l k k).1 hm).2 rfl, nodup_aerase h⟩

theorem mem_akeys_ainsert (l : AL) (k v k' : Nat) : k' ∈ akeys (ainsert l k v) ↔ k' = k ∨ k' ∈ akeys l := by
  simp only [mem_akeys_iff, alookup_ainsert]
  by_cases h : k' = k <;> simp [h]

theorem aerase_of_not_mem (l : AL) (k : Nat) (h : k ∉ akeys l) : aerase l k = l :=
  List.filter_eq_self.2 fun p hp => by
    simp only [ne_eq, decide_eq_true_eq]
    exact fun (e : p.1 = k) => h (e ▸ List.mem_map_of_mem (f := (·.1)) hp)

theorem length_aerase_mem (l : AL) (k : Nat) (hn : (akeys l).Nodup) (h : k ∈ akeys l) :
    (aerase l k).length + 1 = l.length := by
  -- among distinct keys, filtering `k` out is erasing its one occurrence
  have e : (akeys (aerase l k)).length = (akeys l).length - 1 := by
    rw [akeys_aerase, ← List.length_erase_of_mem h, hn.erase_eq_filter]
    congr 2
    funext a
    simp [bne, BEq.beq]
  have := List.length_pos_of_mem h
  simp only [akeys, List.length_map] at e this
  omega

theorem mem_iff_alookup (l : AL) (hn : (akeys l).Nodup) (k v : Nat) :
    (k, v) ∈ l ↔ alookup l k = some v := by
  induction l with
  | nil => simp [alookup]
  | cons p r ih =>
    simp only [akeys, List.map_cons, List.nodup_cons] at hn
    -- the head's key occurs nowhere in the tail
    have hp : ∀ w, (p.1, w) ∉ r := fun w hw => hn.1 (List.mem_map_of_mem (f := (·.1)) hw)
    have := ih hn.2
    grind [alookup]

/-- copying `src` into `dst` (`for k, v := range src { dst[k] = v }`): `src` wins. -/
theorem alookup_acopyInto (src : AL) : ∀ (dst : AL), (akeys src).Nodup → ∀ k,
    alookup (acopyInto dst src) k = match alookup src k with
      | some v => some v
      | none => alookup dst k := by
  induction src with
  | nil => intro dst _ k; simp [acopyInto, alookup]
  | cons p r ih =>
    intro dst hn k
    obtain ⟨a, b⟩ := p
    simp only [akeys, List.map_cons, List.nodup_cons] at hn
    have := ih (ainsert dst a b) hn.2 k
    simp only [acopyInto, List.foldl_cons] at this ⊢
    rw [this]
    simp only [alookup]
    by_cases h : a = k
    · subst h
      have hnone : alookup r a = none := (alookup_none_iff r a).2 hn.1
      simp [hnone, alookup_ainsert]
    · have h' : ¬ k = a := fun e => h e.symm
      simp only [h, if_false, alookup_ainsert, h']

theorem nodup_acopyInto (src : AL) : ∀ (dst : AL), (akeys dst).Nodup → (akeys (acopyInto dst src)).Nodup := by
  induction src with
  | nil => intro dst h; exact h
  | cons p r ih =>
    intro dst h
    simp only [acopyInto, List.foldl_cons]
    exact ih _ (nodup_ainsert h)

theorem length_ainsert_new (l : AL) (k v : Nat) (h : k ∉ akeys l) : (ainsert l k v).length = l.length + 1 := by
  simp [ainsert, aerase_of_not_mem l k h]

theorem length_acopyInto (src : AL) : ∀ (dst : AL), (akeys src).Nodup →
    (∀ k, k ∈ akeys src → k ∉ akeys dst) → (acopyInto dst src).length = dst.length + src.length := by
  induction src with
  | nil => intro dst _ _; rfl
  | cons p r ih =>
    intro dst hn hd
    simp only [akeys, List.map_cons, List.nodup_cons] at hn
    simp only [acopyInto, List.foldl_cons]
    have h1 : p.1 ∉ akeys dst := hd p.1 (by simp [akeys])
    have := ih (ainsert dst p.1 p.2) hn.2 (by
      intro k hk hk2
      rcases (mem_akeys_ainsert dst p.1 p.2 k).1 hk2 with e | e
      · subst e; exact hn.1 hk
      · exact hd k (by simp only [akeys, List.map_cons, List.mem_cons]; exact Or.inr hk) e)
    simp only [acopyInto] at this
    rw [this, length_ainsert_new dst p.1 p.2 h1]
    simp only [List.length_cons]
    omega

theorem mem_akeys_acopyInto (src dst : AL) (hn : (akeys src).Nodup) (k : Nat) :
    k ∈ akeys (acopyInto dst src) ↔ k ∈ akeys src ∨ k ∈ akeys dst := by
  simp only [mem_akeys_iff, alookup_acopyInto src dst hn k]
  cases alookup src k <;> simp

structure SafeMap.Inv (m : SafeMap) : Prop where
  nodupOld : (akeys m.old).Nodup
  nodupNew : (akeys m.new).Nodup
  disjoint : ∀ k, k ∈ akeys m.old → k ∉ akeys m.new

theorem SafeMap.inv_init : SafeMap.init.Inv := ⟨by simp [SafeMap.init, akeys], by simp [SafeMap.init, akeys], by simp [SafeMap.init, akeys]⟩

theorem ite_aerase (l : AL) (k : Nat) : (if ahas l k then aerase l k else l) = aerase l k := by
  by_cases h : ahas l k = true
  · simp [h]
  · have : ahas l k = false := by simpa using h
    simp [this, aerase_of_not_mem l k ((ahas_false_iff l k).1 this)]

theorem SafeMap.get_set (maxDel : Nat) (m : SafeMap) (k v k' : Nat) :
    (m.set maxDel k v).get k' = if k' = k then some v else m.get k' := by
  unfold SafeMap.set
  -- whichever generation takes the write, the other one loses the key
  split
  all_goals
    unfold SafeMap.get
    simp only [ite_aerase, alookup_ainsert, alookup_aerase]
    by_cases h : k' = k <;> simp [h]

theorem disjoint_insert_erase {a b : AL} (h : ∀ k, k ∈ akeys a → k ∉ akeys b) (k v : Nat) :
    ∀ k', k' ∈ akeys (ainsert a k v) → k' ∉ akeys (aerase b k) := fun k' h1 h2 => by
  have h2 := (mem_akeys_aerase _ _ _).1 h2
  rcases (mem_akeys_ainsert _ _ _ _).1 h1 with e | e
  · exact h2.2 e
  · exact h k' e h2.1

theorem SafeMap.inv_set (maxDel : Nat) (m : SafeMap) (k v : Nat) (hi : m.Inv) : (m.set maxDel k v).Inv := by
  unfold SafeMap.set
  split
  · simp only [ite_aerase]
    exact ⟨nodup_ainsert hi.nodupOld, nodup_aerase hi.nodupNew, disjoint_insert_erase hi.disjoint k v⟩
  · simp only [ite_aerase]
    exact ⟨nodup_aerase hi.nodupOld, nodup_ainsert hi.nodupNew,
      fun k' h1 h2 => disjoint_insert_erase (fun k a b => hi.disjoint k b a) k v k' h2 h1⟩

theorem SafeMap.inv_del1 (m : SafeMap) (k : Nat) (hi : m.Inv) : (m.del1 k).Inv := by
  unfold SafeMap.del1
  split
  · exact ⟨nodup_aerase hi.nodupOld, hi.nodupNew, fun k' h => hi.disjoint k' ((mem_akeys_aerase _ _ _).1 h).1⟩
  · split
    · exact ⟨hi.nodupOld, nodup_aerase hi.nodupNew, fun k' h h2 => hi.disjoint k' h ((mem_akeys_aerase _ _ _).1 h2).1⟩
    · exact hi

theorem SafeMap.get_del1 (m : SafeMap) (k k' : Nat) (hi : m.Inv) :
    (m.del1 k).get k' = if k' = k then none else m.get k' := by
  -- by cases on the generation that holds `k`; disjointness settles the lookup of `k` itself in the other one
  have hd := hi.disjoint k
  simp only [mem_akeys_iff] at hd
  unfold SafeMap.del1 SafeMap.get ahas
  cases ho : alookup m.old k with
  | some a => simp only [Option.isSome_some, if_true, alookup_aerase]; grind
  | none =>
    cases hn : alookup m.new k with
    | some b => simp only [Option.isSome_none, Option.isSome_some, if_true, alookup_aerase, Bool.false_eq_true, if_false]; grind
    | none => simp only [Option.isSome_none, Bool.false_eq_true, if_false]; grind

theorem SafeMap.inv_mig1 (a b : Nat) (m : SafeMap) (hi : m.Inv) : (m.mig1 a b).Inv := by
  unfold SafeMap.mig1
  split
  · exact ⟨nodup_acopyInto _ _ hi.nodupNew, by simp [akeys], by simp [akeys]⟩
  · exact hi

theorem SafeMap.get_mig1 (a b : Nat) (m : SafeMap) (hi : m.Inv) (k : Nat) : (m.mig1 a b).get k = m.get k := by
  unfold SafeMap.mig1
  split
  · simp only [SafeMap.get, alookup_acopyInto m.old m.new hi.nodupOld k]
    cases h : alookup m.old k with
    | some v => simp
    | none => cases h2 : alookup m.new k <;> simp [alookup]
  · rfl

theorem SafeMap.inv_mig2 (a b : Nat) (m : SafeMap) (hi : m.Inv) : (m.mig2 a b).Inv := by
  unfold SafeMap.mig2
  split
  · exact ⟨nodup_acopyInto _ _ hi.nodupOld, by simp [akeys], by simp [akeys]⟩
  · exact hi

theorem SafeMap.get_mig2 (a b : Nat) (m : SafeMap) (hi : m.Inv) (k : Nat) : (m.mig2 a b).get k = m.get k := by
  have hd := hi.disjoint k
  rw [mem_akeys_iff, mem_akeys_iff] at hd
  unfold SafeMap.mig2
  split
  · simp only [SafeMap.get, alookup_acopyInto m.new m.old hi.nodupNew k]
    grind [alookup]
  · rfl

theorem SafeMap.inv_del (a b : Nat) (m : SafeMap) (k : Nat) (hi : m.Inv) : (m.del a b k).Inv :=
  SafeMap.inv_mig2 _ _ _ (SafeMap.inv_mig1 _ _ _ (SafeMap.inv_del1 _ _ hi))

theorem SafeMap.get_del (a b : Nat) (m : SafeMap) (k k' : Nat) (hi : m.Inv) :
    (m.del a b k).get k' = if k' = k then none else m.get k' := by
  unfold SafeMap.del
  rw [SafeMap.get_mig2 _ _ _ (SafeMap.inv_mig1 _ _ _ (SafeMap.inv_del1 _ _ hi)),
      SafeMap.get_mig1 _ _ _ (SafeMap.inv_del1 _ _ hi), SafeMap.get_del1 _ _ _ hi]

theorem SafeMap.inv_step (a b : Nat) (m : SafeMap) (op : MapOp) (hi : m.Inv) : (m.step a b op).Inv := by
  cases op with
  | set k v => exact SafeMap.inv_set _ _ _ _ hi
  | del k => exact SafeMap.inv_del _ _ _ _ hi

theorem SafeMap.size_mig1 (a b : Nat) (m : SafeMap) (hi : m.Inv) : (m.mig1 a b).size = m.size := by
  unfold SafeMap.mig1
  split
  · simp only [SafeMap.size, List.length_nil, Nat.add_zero]
    rw [length_acopyInto m.old m.new hi.nodupOld hi.disjoint]; omega
  · rfl

theorem SafeMap.size_mig2 (a b : Nat) (m : SafeMap) (hi : m.Inv) : (m.mig2 a b).size = m.size := by
  unfold SafeMap.mig2
  split
  · simp only [SafeMap.size, List.length_nil, Nat.add_zero]
    rw [length_acopyInto m.new m.old hi.nodupNew (fun k h h2 => hi.disjoint k h2 h)]
  · rfl

theorem SafeMap.range_nodup (m : SafeMap) (hi : m.Inv) : (akeys m.range).Nodup := by
  simp only [SafeMap.range, akeys, List.map_append]
  exact List.nodup_append.2 ⟨hi.nodupOld, hi.nodupNew, fun a ha b hb e => hi.disjoint a ha (e ▸ hb)⟩

theorem SafeMap.alookup_range (m : SafeMap) (k : Nat) : alookup m.range k = m.get k := by
  unfold SafeMap.range SafeMap.get
  generalize m.old = o
  induction o with
  | nil => simp [alookup]
  | cons p r ih =>
    obtain ⟨a, b⟩ := p
    simp only [List.cons_append, alookup]
    by_cases h : a = k <;> simp [h, ih]

def SafeMap.run (a b : Nat) (m : SafeMap) (ops : List MapOp) : SafeMap := ops.foldl (SafeMap.step a b) m

theorem SafeMap.run_spec (a b : Nat) (ops : List MapOp) (m : SafeMap) (hist : List MapOp) (hi : m.Inv)
    (hg : ∀ k, m.get k = Spec.mapGet hist k) :
    (m.run a b ops).Inv ∧ ∀ k, (m.run a b ops).get k = Spec.mapGet (ops.reverse ++ hist) k := by
  refine foldl_hist (SafeMap.step a b) (fun m hist => m.Inv ∧ ∀ k, m.get k = Spec.mapGet hist k)
    (fun m hist op ⟨hi, hg⟩ => ⟨SafeMap.inv_step a b m op hi, fun k => ?_⟩) ops m hist ⟨hi, hg⟩
  cases op with
  | set k' v => simp only [SafeMap.step, SafeMap.get_set, Spec.mapGet, hg k]
  | del k' => simp only [SafeMap.step, SafeMap.get_del _ _ _ _ _ hi, Spec.mapGet, hg k]

/-- the executable map monitor (one association list) is the pointwise-updated function -/
theorem alStep_lookup (ops : List MapOp) (s : AL) (hist : List MapOp) (hn : (akeys s).Nodup)
    (hg : ∀ k, alookup s k = Spec.mapGet hist k) :
    (akeys (ops.foldl Spec.alStep s)).Nodup ∧ ∀ k, alookup (ops.foldl Spec.alStep s) k = Spec.mapGet (ops.reverse ++ hist) k := by
  refine foldl_hist Spec.alStep (fun s hist => (akeys s).Nodup ∧ ∀ k, alookup s k = Spec.mapGet hist k)
    (fun s hist op ⟨hn, hg⟩ => ?_) ops s hist ⟨hn, hg⟩
  cases op with
  | set k' v => exact ⟨nodup_ainsert hn, fun k => by simp only [Spec.alStep, alookup_ainsert, Spec.mapGet, hg k]⟩
  | del k' => exact ⟨nodup_aerase hn, fun k => by simp only [Spec.alStep, alookup_aerase, Spec.mapGet, hg k]⟩

theorem rangeLoop_zero (l : AL) (seen : Nat) : rangeLoop 0 l seen = (l, false) := by
  induction l generalizing seen with
  | nil => rfl
  | cons p r ih => simp [rangeLoop, ih]

theorem rangeLoop_spec (stop : Nat) (l : AL) (seen : Nat) (h : seen < stop) :
    (rangeLoop stop l seen).1 = l.take (stop - seen) ∧ ((rangeLoop stop l seen).2 = true ↔ stop - seen ≤ l.length) := by
  induction l generalizing seen with
  | nil =>
    simp [rangeLoop]
    omega
  | cons p r ih =>
    unfold rangeLoop
    by_cases he : seen + 1 = stop
    · have : stop - seen = 1 := by omega
      simp [he, this]
    · obtain ⟨i1, i2⟩ := ih (seen + 1) (by omega)
      rw [if_neg he, i1, show stop - seen = (stop - (seen + 1)) + 1 by omega, List.take_succ_cons, i2, List.length_cons]
      exact ⟨rfl, by omega⟩

/-- `Range(f)` hands `f` the first `stop` pairs of the enumeration dirtyOld ++ dirtyNew when `f` answers false at its
`stop`-th call: in particular a stop inside the first generation also skips the second one -/
theorem SafeMap.rangeUntil_eq (m : SafeMap) (stop : Nat) :
    m.rangeUntil stop = if stop = 0 then m.range else m.range.take stop := by
  unfold SafeMap.rangeUntil SafeMap.range
  by_cases h0 : stop = 0
  · subst h0
    simp [rangeLoop_zero]
  · simp only [h0, if_false]
    obtain ⟨a1, a2⟩ := rangeLoop_spec stop m.old 0 (by omega)
    simp only [Nat.sub_zero] at a1 a2
    by_cases hs : stop ≤ m.old.length
    · rw [if_pos (a2.2 hs), a1, List.take_append_of_le_length hs]
    · have hn : ¬ (rangeLoop stop m.old 0).2 = true := fun h => hs (a2.1 h)
      rw [if_neg hn, a1]
      rw [List.length_take, Nat.min_eq_right (by omega)]
      obtain ⟨b1, _⟩ := rangeLoop_spec stop m.new m.old.length (by omega)
      rw [b1, List.take_append, List.take_of_length_le (by omega)]

end GoZero.C16
