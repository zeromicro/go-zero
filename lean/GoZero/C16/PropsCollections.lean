/-
C16 — Queue, Ring, Set and SafeMap, used from one goroutine: each is its mathematical reference (FIFO, the last n
elements, a set, a map) after every sequence of operations, also through the public constructors and callbacks
(models: Model.lean, ModelApi.lean).  Statements and short proofs from the lemmas of ProofsQueue / ProofsSet / ProofsMap,
with examples that the hypotheses can be met.  The statements use `Queue.Inv`, `Queue.after`, `Ring.run` (ProofsQueue),
`GSet.run` (ProofsSet), `akeys`, `SafeMap.Inv`, `SafeMap.run` (ProofsMap) and the references of Spec.lean.
-/
import GoZero.C16.ProofsSet
import GoZero.C16.ProofsMap
import GoZero.C16.ProofsQueue
import GoZero.C16.ModelApi
namespace GoZero.C16

/-- **Queue ⊑ FIFO.**  For every initial capacity `size ≥ 1` and every sequence of Put / Take / Empty, the
results of the slice-based queue (head/tail indices modulo the buffer length, growth by `size` when
full — also when the buffer is wrapped) are those of the list `s ↦ s ++ [x]` / `head, tail`. -/
theorem queue_refines_fifo (size : Nat) (hs : 1 ≤ size) (ops : List QOp) :
    Queue.run (Queue.new size) ops = Spec.Fifo.run [] ops := by
  have := Queue.run_refines ops (Queue.new size) (Queue.inv_new size hs)
  rwa [Queue.abs_new] at this

/-- wrap-around + growth with a wrapped buffer (size 2: put 1 2, take, put 3 → full with head = 1, put 4 grows) -/
example : Queue.run (Queue.new 2) [.put 1, .put 2, .take, .put 3, .put 4, .take, .take, .take, .take]
    = [.unit, .unit, .val (some 1), .unit, .unit, .val (some 2), .val (some 3), .val (some 4), .val none] := by decide

example : ((((Queue.new 2).put 1).put 2).take.2.put 3).head = 1 ∧ ((((Queue.new 2).put 1).put 2).take.2.put 3).tail = 1 := by
  decide

/-- **Queue: the representation invariant holds in every reachable state** (head inside the buffer, count ≤ length,
tail = head + count modulo the length) — after any number of expansions, with any wrapped head.  This is the
hypothesis under which the Tie proves the translated growth block equal to `Queue.grow` (`tie_queueGrow`). -/
theorem queue_reachable_inv (size : Nat) (hs : 1 ≤ size) (ops : List QOp) : ((Queue.new size).after ops).Inv :=
  Queue.inv_after ops _ (Queue.inv_new size hs)

/-- size 2, three expansions, each with a different wrapped head -/
example : ((Queue.new 2).after [.put 1, .put 2, .take, .put 3, .put 4, .take, .take, .put 5, .put 6, .put 7, .put 8,
      .take, .put 9, .put 10, .put 11]).elems.length = 8
    ∧ Queue.run (Queue.new 2) [.put 1, .put 2, .take, .put 3, .put 4, .take, .take, .put 5, .put 6, .put 7, .put 8,
      .take, .put 9, .put 10, .put 11, .take, .take, .take, .take, .take, .take, .take, .take]
      = [.unit, .unit, .val (some 1), .unit, .unit, .val (some 2), .val (some 3), .unit, .unit, .unit, .unit,
         .val (some 4), .unit, .unit, .unit, .val (some 5), .val (some 6), .val (some 7), .val (some 8), .val (some 9),
         .val (some 10), .val (some 11), .val none] := by decide

/-- **Ring = last n.**  For every `n ≥ 1` and every sequence of added values, `Take` returns exactly the
last `n` of them (all of them while fewer than `n` were added), oldest first — including the index
fold-back at `2n`. -/
theorem ring_keeps_last_n_in_order (n : Nat) (hn : 1 ≤ n) (vs : List Nat) :
    ((Ring.new n).run vs).take = vs.drop (vs.length - n) := by
  simpa [Spec.lastN] using (Ring.holds_run vs (Ring.holds_new n hn)).take

/-- n = 3, seven additions: index has been folded back (7 ≥ 2·3) -/
example : ((Ring.new 3).run [1, 2, 3, 4, 5, 6, 7]).take = [5, 6, 7] ∧ ((Ring.new 3).run [1, 2, 3, 4, 5, 6, 7]).index = 4 := by
  decide

/-- **`NewRing(n)` for every `n : Int`.**  Either the constructor panics (exactly when `n < 1`) or the ring it returns
keeps the last `n` elements in order after any sequence of `Add`s. -/
theorem ring_api_keeps_last_n (n : Int) (vs : List Nat) :
    (n < 1 ∧ Ring.newApi n = none)
    ∨ (1 ≤ n ∧ ∃ r, Ring.newApi n = some r ∧ (r.run vs).take = vs.drop (vs.length - n.toNat)) := by
  by_cases h : n < 1
  · exact Or.inl ⟨h, by simp [Ring.newApi, h]⟩
  · refine Or.inr ⟨by omega, Ring.new n.toNat, by simp [Ring.newApi, h], ?_⟩
    exact ring_keeps_last_n_in_order n.toNat (by omega) vs

example : Ring.newApi 0 = none ∧ Ring.newApi (-3) = none ∧ (Ring.newApi 2).isSome = true := by decide

/-- **The ring index never leaves `[0, 2n)`** (every `n ≥ 1`, every sequence of `Add`s) — with `n < 2^62` all of
`index + 1`, `rlen << 1` and `index - rlen` therefore fit a 64-bit Go `int`, and `tie_ringAddIndex_width` shows that the
machine's wrapped arithmetic is the unbounded arithmetic `ring_keeps_last_n_in_order` is about. -/
theorem ring_index_lt_2n (n : Nat) (hn : 1 ≤ n) (vs : List Nat) :
    ((Ring.new n).run vs).elems.length = n ∧ ((Ring.new n).run vs).index < 2 * n :=
  ⟨(Ring.holds_run vs (Ring.holds_new n hn)).len, (Ring.holds_run vs (Ring.holds_new n hn)).idx⟩

example : ((Ring.new 3).run [1, 2, 3, 4, 5, 6, 7, 8, 9, 10, 11]).index = 5 := by decide

/-- **Set = mathematical set** (managed/typed or unmanaged): after any sequence of Add / Remove of
elements of any dynamic types, `Contains y` is true iff the last operation on `y` was an `Add`;
the key list has no duplicates, so `Count` is the cardinality of that set. -/
theorem set_refines_finset (managed : Bool) (ops : List SetOp) (y : Nat × Nat) :
    (((GSet.new managed).run ops).contains y = Spec.setMemAfter ops y)
    ∧ ((GSet.new managed).run ops).data.Nodup
    ∧ ((GSet.new managed).run ops).count = ((GSet.new managed).run ops).data.length
    ∧ (y ∈ ((GSet.new managed).run ops).data ↔ Spec.setMemAfter ops y = true) := by
  have h := GSet.run_spec ops (GSet.new managed) [] (by simp [GSet.new]) (by simp [GSet.new, Spec.setMem])
  simp only [List.append_nil] at h
  exact ⟨Bool.eq_iff_iff.2 ((GSet.contains_iff _ y).trans (h.2 y)), h.1, rfl, h.2 y⟩

example : ((GSet.new true).run [.add (2, 1), .add (6, 1), .remove (2, 1), .add (2, 5)]).contains (6, 1) = true
    ∧ ((GSet.new true).run [.add (2, 1), .add (6, 1), .remove (2, 1), .add (2, 5)]).contains (2, 1) = false
    ∧ ((GSet.new true).run [.add (2, 1), .add (6, 1), .remove (2, 1), .add (2, 5)]).count = 2 := by decide

/-- **Set: the variadic adds** (`Add(i ...any)`, `AddInt(ii ...int)`, …: `GSet.addMany`) after any history are the
mathematical set with all the elements added: membership is `setMemAfter` of the history extended by one `add` per
element, and the key list stays duplicate-free. -/
theorem set_variadic_add_refines_finset (managed : Bool) (pre : List SetOp) (xs : List (Nat × Nat)) (y : Nat × Nat) :
    ((((GSet.new managed).run pre).addMany xs).contains y = Spec.setMemAfter (pre ++ xs.map SetOp.add) y)
    ∧ (((GSet.new managed).run pre).addMany xs).data.Nodup := by
  rw [GSet.addMany_eq_run, ← GSet.run_append]
  exact ⟨(set_refines_finset managed _ y).1, (set_refines_finset managed _ y).2.1⟩

example : (((GSet.new true).run [.add (2, 1), .remove (2, 1)]).addMany [(2, 5), (2, 1), (2, 5), (3, 7)]).count = 3
    ∧ (((GSet.new true).run [.add (2, 1), .remove (2, 1)]).addMany [(2, 5), (2, 1), (2, 5), (3, 7)]).tp = 2 := by decide

/-- **SafeMap ⊑ map**, for every pair of thresholds (`maxDeletion`, `copyThreshold`) and every sequence
of Set / Del — including the long runs of deletions that switch and merge the two generations:
`Get k` is the value of the last `Set k` unless a `Del k` came after it. -/
theorem safemap_refines_map (maxDel copyThr : Nat) (ops : List MapOp) (k : Nat) :
    (SafeMap.init.run maxDel copyThr ops).get k = Spec.mapGetAfter ops k := by
  have := (SafeMap.run_spec maxDel copyThr ops SafeMap.init [] SafeMap.inv_init (by simp [SafeMap.init, SafeMap.get, alookup, Spec.mapGet])).2 k
  simpa [Spec.mapGetAfter] using this

/-- the two generations stay key-disjoint and duplicate-free (the invariant behind the refinement) -/
theorem safemap_generations_disjoint (maxDel copyThr : Nat) (ops : List MapOp) :
    (SafeMap.init.run maxDel copyThr ops).Inv :=
  (SafeMap.run_spec maxDel copyThr ops SafeMap.init [] SafeMap.inv_init (by simp [SafeMap.init, SafeMap.get, alookup, Spec.mapGet])).1

/-- **`Range` enumerates the map's graph exactly once and `Size` is its cardinality.** -/
theorem safemap_range_size (maxDel copyThr : Nat) (ops : List MapOp) :
    let m := SafeMap.init.run maxDel copyThr ops
    (akeys m.range).Nodup
    ∧ (∀ k v, (k, v) ∈ m.range ↔ Spec.mapGetAfter ops k = some v)
    ∧ m.size = m.range.length := by
  intro m
  have hi : m.Inv := safemap_generations_disjoint maxDel copyThr ops
  refine ⟨m.range_nodup hi, fun k v => ?_, by simp [SafeMap.size, SafeMap.range]⟩
  rw [mem_iff_alookup m.range (m.range_nodup hi), SafeMap.alookup_range]
  show (SafeMap.init.run maxDel copyThr ops).get k = some v ↔ _
  rw [safemap_refines_map]

/-- the executable monitor used by the driver (one association list) computes the same function -/
theorem map_monitor_is_map (ops : List MapOp) (k : Nat) :
    alookup (ops.foldl Spec.alStep []) k = Spec.mapGetAfter ops k := by
  have := (alStep_lookup ops [] [] (by simp [akeys]) (by simp [alookup, Spec.mapGet])).2 k
  simpa [Spec.mapGetAfter] using this

/-- small thresholds (2 deletions, copy below 2 keys) so that the generation switch and a merge happen in
a short history: key 4 moves old → new, then the generations are merged, every lookup sees the latest value -/
example : (SafeMap.init.run 2 2 [.set 1 10, .set 2 20, .set 3 30, .set 4 40, .set 5 50, .del 1, .del 2, .del 3, .set 4 41]).new = [(4, 41)]
    ∧ (SafeMap.init.run 2 2 [.set 1 10, .set 2 20, .set 3 30, .set 4 40, .set 5 50, .del 1, .del 2, .del 3, .set 4 41]).old = [(5, 50)] := by
  decide

example : (SafeMap.init.run 2 2 [.set 1 10, .set 2 20, .set 3 30, .set 4 40, .set 5 50, .del 1, .del 2, .del 3, .set 4 41,
      .set 6 60, .del 6]).new = []
    ∧ (SafeMap.init.run 2 2 [.set 1 10, .set 2 20, .set 3 30, .set 4 40, .set 5 50, .del 1, .del 2, .del 3, .set 4 41,
      .set 6 60, .del 6]).get 4 = some 41 := by
  decide

/-- **Clause "SafeMap behaves as a map", for `Range` with a callback that stops** (every threshold pair, every history,
every stop position): `f` is called exactly `min stop size` times (`size` times when it never says stop), never twice
with the same key, and only with pairs of the map (`Get k = v`).  A `Range` that went on into the second generation
after `f` had answered false in the first would break the first conjunct. -/
theorem safemap_range_stops (maxDel copyThr : Nat) (ops : List MapOp) (stop : Nat) :
    let m := SafeMap.init.run maxDel copyThr ops
    (m.rangeUntil stop).length = (if stop = 0 then m.size else min stop m.size)
    ∧ (akeys (m.rangeUntil stop)).Nodup
    ∧ ∀ k v, (k, v) ∈ m.rangeUntil stop → Spec.mapGetAfter ops k = some v := by
  intro m
  obtain ⟨hn, hmem, hsz⟩ := safemap_range_size maxDel copyThr ops
  rw [SafeMap.rangeUntil_eq]
  by_cases h0 : stop = 0
  · simp only [h0, if_true]
    exact ⟨hsz.symm, hn, fun k v h => (hmem k v).1 h⟩
  · simp only [h0, if_false]
    refine ⟨by rw [List.length_take, hsz], ?_, fun k v h => (hmem k v).1 (List.mem_of_mem_take h)⟩
    unfold akeys
    rw [List.map_take]
    exact List.Sublist.nodup (List.take_sublist _ _) hn

/-- thresholds 2/2: after the history below both generations are non-empty (old = [(5,50)], new = [(4,41)]);
stopping at the first call visits one pair — of the OLD generation — and not the new one -/
example : (SafeMap.init.run 2 2 [.set 1 10, .set 2 20, .set 3 30, .set 4 40, .set 5 50, .del 1, .del 2, .del 3, .set 4 41]).rangeUntil 1 = [(5, 50)]
    ∧ (SafeMap.init.run 2 2 [.set 1 10, .set 2 20, .set 3 30, .set 4 40, .set 5 50, .del 1, .del 2, .del 3, .set 4 41]).rangeUntil 2 = [(5, 50), (4, 41)]
    ∧ (SafeMap.init.run 2 2 [.set 1 10, .set 2 20, .set 3 30, .set 4 40, .set 5 50, .del 1, .del 2, .del 3, .set 4 41]).rangeUntil 0 = [(5, 50), (4, 41)] := by
  decide

end GoZero.C16
