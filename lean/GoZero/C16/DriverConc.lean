/-
C16 — driver for the concurrency harness (TestVerifC16Conc, built with -race).
One section = one concurrent run on one real object; one line = one call
    c id=… g=… y=… op=… [k=…] [v=…] [f=…] [ly=…]  =>  inv=<stamp> ret=<stamp> res=<…> [calls=… ls=… le=…]
The stamps come from one atomic counter, taken before the call and after it returned: if `a.ret < b.inv` then `a`
really finished before `b` started.  The monitors only use that implication, so every alarm is a real violation of
"behaves as its sequential reference model" under the lock (linearizability: PropsConc.lean `conc_calls_atomic`);
silence is not a proof (that is the theorems' job).
-/
import GoZero.Base.Trace
namespace GoZero.C16
open GoZero

structure CEv where
  line  : Nat
  id    : Nat
  g     : Int
  op    : String
  k     : Nat
  v     : Nat
  fail  : Bool
  inv   : Nat
  ret   : Nat
  res   : String
  calls : Nat
  ls    : Nat
  le    : Nat
  deriving Repr, Inhabited

def parseCEv (l : Line) : Option CEv :=
  match l.op with
  | "c" :: rest =>
    match kv? rest "id", kv? rest "op", kv? l.obs "inv", kv? l.obs "ret", kv? l.obs "res" with
    | some id, some op, some inv, some ret, some res =>
      match id.toNat?, inv.toNat?, ret.toNat? with
      | some id, some inv, some ret =>
        some { line := l.idx, id := id, g := kvInt rest "g" 0, op := op, k := kvNat rest "k" 0, v := kvNat rest "v" 0,
               fail := kvNat rest "f" 0 = 1, inv := inv, ret := ret, res := res, calls := kvNat l.obs "calls" 0,
               ls := kvNat l.obs "ls" 0, le := kvNat l.obs "le" 0 }
      | _, _, _ => none
    | _, _, _, _, _ => none
  | _ => none

def resNat (s : String) : Option Nat := if s = "none" ∨ s = "-" then none else s.toNat?

/-- number of leading elements whose `ret` is below `t` (the array is ordered by time) -/
def countBefore (ws : Array (Nat × Nat × Option Nat)) (t : Nat) : Nat := Id.run do
  let mut lo := 0
  let mut hi := ws.size
  for _ in [0:64] do
    if lo < hi then
      let mid := (lo + hi) / 2
      if (ws[mid]!).2.1 < t then lo := mid + 1 else hi := mid
  return lo

/-- outcomes a read of one key may see: the last write that finished before the read began (or the empty map),
and every write that overlaps the read -/
def admissible (ws : Array (Nat × Nat × Option Nat)) (inv ret : Nat) : List (Option Nat) := Id.run do
  let n0 := countBefore ws inv
  let mut out : List (Option Nat) := [if n0 = 0 then none else (ws[n0 - 1]!).2.2]
  let mut j := n0
  for _ in [0:ws.size] do
    if j < ws.size ∧ (ws[j]!).1 < ret then
      out := (ws[j]!).2.2 :: out
      j := j + 1
  return out

def optStr : Option Nat → String
  | none => "none"
  | some v => toString v

/-- `k:v,k:v` -/
def parsePairs (s : String) : Option (List (Nat × Nat)) :=
  if s = "-" then some [] else
  (s.splitOn ",").mapM fun t =>
    match t.splitOn ":" with
    | [a, b] => do pure ((← a.toNat?), (← b.toNat?))
    | _ => none

def parseList (s : String) : Option (List Nat) :=
  if s = "-" then some [] else (s.splitOn ",").mapM (·.toNat?)

/-! ### SafeMap -/

def monCMap (r : Report) (s : Section) (evs : Array CEv) : Report := Id.run do
  let mut r := r
  -- writes per key, in file order (= program order of the key's only writer)
  let mut keys : List Nat := []
  let mut owner : List (Nat × Int) := []
  let mut shared : List Nat := []
  for e in evs do
    if e.op = "set" ∨ e.op = "del" then
      if ¬ keys.contains e.k then keys := e.k :: keys
      match owner.lookup e.k with
      | none => owner := (e.k, e.g) :: owner
      | some g => if g ≠ e.g ∧ ¬ shared.contains e.k then shared := e.k :: shared
  let writesOf := fun (k : Nat) =>
    evs.foldl (fun (acc : Array (Nat × Nat × Option Nat)) e =>
      if e.k = k ∧ e.op = "set" then acc.push (e.inv, e.ret, some e.v)
      else if e.k = k ∧ e.op = "del" then acc.push (e.inv, e.ret, none) else acc) #[]
  let tbl : List (Nat × Array (Nat × Nat × Option Nat)) := keys.map fun k => (k, writesOf k)
  for e in evs do
    if e.op = "get" then
      let ws := (tbl.lookup e.k).getD #[]
      if shared.contains e.k then r := r.addCover "cmap-get-sharedkey" else
      let adm := admissible ws e.inv e.ret
      let got := resNat e.res
      r := r.addCover (if adm.length > 1 then "cmap-get-overlaps-write" else "cmap-get")
      if ¬ adm.contains got then
        r := r.violation s.idx e.line s!"struct=safemap concurrent Get k={e.k} returned {optStr got}; possible under the lock: {adm.map optStr}"
    else if e.op = "range" then
      if e.res.startsWith "dup" then
        r := r.violation s.idx e.line s!"struct=safemap concurrent Range handed a key to the callback twice: {e.res}"
      else match parsePairs e.res with
      | none => r := r.mismatch s.idx e.line "k:v,…" e.res
      | some ps =>
        r := r.addCover (if e.g < 0 then "cmap-range-final" else "cmap-range")
        for p in ps do
          if ¬ keys.contains p.1 then
            r := r.violation s.idx e.line s!"struct=safemap concurrent Range produced key {p.1} that was never set"
        for (k, ws) in tbl do
          if ¬ shared.contains k then
            let adm := admissible ws e.inv e.ret
            let got := ps.lookup k
            if adm.length > 1 then r := r.addCover "cmap-range-overlaps-write"
            if ¬ adm.contains got then
              r := r.violation s.idx e.line s!"struct=safemap concurrent Range saw k={k} as {optStr got}; possible under the lock: {adm.map optStr}"
    else if e.op = "size" then
      match e.res.toNat? with
      | none => r := r.mismatch s.idx e.line "a number" e.res
      | some n =>
        let mut lo := 0
        let mut hi := 0
        for (k, ws) in tbl do
          let adm := if shared.contains k then [none, some 0] else admissible ws e.inv e.ret
          if adm.all (·.isSome) then lo := lo + 1
          if adm.any (·.isSome) then hi := hi + 1
        r := r.addCover (if lo = hi then "cmap-size-exact" else "cmap-size-range")
        if n < lo ∨ n > hi then
          r := r.violation s.idx e.line s!"struct=safemap concurrent Size returned {n}; possible under the lock: {lo}..{hi}"
    else if e.op = "set" ∨ e.op = "del" then
      r := r.addCover (if e.op = "set" then "cmap-set" else "cmap-del")
    else r := r.mismatch s.idx e.line "cmap op" e.op
  if kvNat s.cfg "long" 0 = 1 then r := r.addCover "cmap-long-section-with-migration"
  return r

/-! ### Queue -/

def monCQueue (r : Report) (s : Section) (evs : Array CEv) : Report := Id.run do
  let mut r := r
  let puts := evs.filter (·.op = "put")
  let takes := evs.filter (·.op = "take")
  let takeOf := fun (v : Nat) => takes.find? fun t => resNat t.res = some v
  -- every taken value was put, once
  let mut seen : List Nat := []
  for t in takes do
    match resNat t.res with
    | none =>
      r := r.addCover (if t.g < 0 then "cqueue-take-final-empty" else "cqueue-take-empty")
      -- Take found the queue empty although a value was in it during the whole call
      for p in puts do
        if p.ret < t.inv then
          match takeOf p.v with
          | none => r := r.violation s.idx t.line s!"struct=queue concurrent Take returned none but {p.v} was put before and never taken"
          | some t' =>
            if t'.inv > t.ret then
              r := r.violation s.idx t.line s!"struct=queue concurrent Take returned none but {p.v} was in the queue (put before, taken after)"
    | some v =>
      r := r.addCover "cqueue-take"
      if seen.contains v then
        r := r.violation s.idx t.line s!"struct=queue concurrent Take returned {v} twice"
      seen := v :: seen
      match puts.find? (·.v = v) with
      | none => r := r.violation s.idx t.line s!"struct=queue concurrent Take returned {v} that was never put"
      | some p =>
        if ¬ p.inv < t.ret then
          r := r.violation s.idx t.line s!"struct=queue concurrent Take returned {v} before it was put"
  -- FIFO: a put entirely before b  ⇒  b is not taken entirely before a
  for a in puts do
    match takeOf a.v with
    | none => pure ()
    | some ta =>
      for b in puts do
        if a.ret < b.inv then
          match takeOf b.v with
          | none => pure ()
          | some tb =>
            if a.g = b.g then r := r.addCover "cqueue-fifo-pair-same-producer" else r := r.addCover "cqueue-fifo-pair"
            if tb.ret < ta.inv then
              r := r.violation s.idx tb.line s!"struct=queue concurrent FIFO order broken: {a.v} was put before {b.v} but {b.v} was taken first"
  -- Empty
  for e in evs do
    if e.op = "empty" then
      if e.res = "true" then
        r := r.addCover "cqueue-empty-true"
        for p in puts do
          if p.ret < e.inv then
            let gone : Bool := match takeOf p.v with | none => false | some t' => decide (t'.inv ≤ e.ret)
            if gone = false then
              r := r.violation s.idx e.line s!"struct=queue concurrent Empty returned true but {p.v} was in the queue"
      else if e.res = "false" then
        r := r.addCover "cqueue-empty-false"
        let allGone := puts.all fun p => decide (e.ret ≤ p.inv) || (match takeOf p.v with | none => false | some t' => decide (t'.ret < e.inv))
        if allGone then
          r := r.violation s.idx e.line s!"struct=queue concurrent Empty returned false but every value put so far had been taken"
      else r := r.mismatch s.idx e.line "true|false" e.res
    else if e.op ≠ "put" ∧ e.op ≠ "take" then r := r.mismatch s.idx e.line "cqueue op" e.op
  return r

/-! ### Ring -/

def monCRing (r : Report) (s : Section) (evs : Array CEv) : Report := Id.run do
  let mut r := r
  let n := kvNat s.cfg "n" 1
  let adds := evs.filter (·.op = "add")
  for e in evs do
    if e.op = "take" then
      match parseList e.res with
      | none => r := r.mismatch s.idx e.line "v,v,…" e.res
      | some vs =>
        r := r.addCover (if e.g < 0 then "cring-take-final" else if vs.length = n then "cring-take-full" else "cring-take-partial")
        if vs.length > n then
          r := r.violation s.idx e.line s!"struct=ring concurrent Take returned {vs.length} elements, n={n}"
        let before := (adds.filter (·.ret < e.inv)).size
        let started := (adds.filter (·.inv < e.ret)).size
        if vs.length < min n before ∨ vs.length > started then
          r := r.violation s.idx e.line s!"struct=ring concurrent Take returned {vs.length} elements; {before} adds had finished, {started} had started, n={n}"
        if ¬ vs.Nodup then
          r := r.violation s.idx e.line s!"struct=ring concurrent Take returned an element twice: {e.res}"
        -- every element was added, in an order compatible with real time
        let evOf := fun (v : Nat) => adds.find? (·.v = v)
        let mut prev : Option CEv := none
        for v in vs do
          match evOf v with
          | none => r := r.violation s.idx e.line s!"struct=ring concurrent Take returned {v} that was never added"
          | some a =>
            if ¬ a.inv < e.ret then
              r := r.violation s.idx e.line s!"struct=ring concurrent Take returned {v} before it was added"
            match prev with
            | some p =>
              if a.ret < p.inv then
                r := r.violation s.idx e.line s!"struct=ring concurrent Take order: {p.v} before {a.v}, but {a.v} was added first"
            | none => pure ()
            prev := some a
            -- a later add that finished before the Take began cannot be missing
            for b in adds do
              if a.ret < b.inv ∧ b.ret < e.inv ∧ ¬ vs.contains b.v then
                r := r.violation s.idx e.line s!"struct=ring concurrent Take holds {a.v} but not the later {b.v}"
    else if e.op = "held" then
      r := r.addCover "cring-held-slices-rechecked"
      if e.res ≠ "same" then
        r := r.violation s.idx e.line s!"struct=ring a slice returned by Take changed after later Adds: {e.res}"
    else if e.op = "add" then r := r.addCover "cring-add"
    else r := r.mismatch s.idx e.line "cring op" e.op
  return r

/-! ### Cache.Take -/

def monCTake (r : Report) (s : Section) (evs : Array CEv) : Report := Id.run do
  let mut r := r
  let takes := evs.filter (·.op = "take")
  let loads := takes.filter (·.calls > 0)
  let keys := (evs.toList.map (·.k)).eraseDups
  -- per call
  for t in takes do
    if t.calls > 1 then
      r := r.violation s.idx t.line s!"struct=cache concurrent Take k={t.k} called its loader {t.calls} times"
    r := r.addCover (if t.calls = 0 then (if t.res = "err" then "ctake-shared-error" else "ctake-hit-or-shared")
                     else if t.fail then "ctake-load-fails" else "ctake-load")
    -- the result is a value somebody produced for this key
    match resNat t.res with
    | some v =>
      let fromLoad := loads.any fun l => l.k = t.k ∧ l.v = v ∧ ¬ l.fail ∧ l.ls < t.ret
      let fromSet := evs.any fun e => e.op = "set" ∧ e.k = t.k ∧ e.v = v ∧ e.inv < t.ret
      if ¬ (fromLoad ∨ fromSet) then
        r := r.violation s.idx t.line s!"struct=cache concurrent Take k={t.k} returned {v}, which no loader of the key and no Set produced"
      if t.calls > 0 ∧ ¬ t.fail ∧ v ≠ t.v then
        r := r.violation s.idx t.line s!"struct=cache concurrent Take k={t.k} loaded {t.v} itself but returned {v}"
    | none =>
      if t.res ≠ "err" then r := r.mismatch s.idx t.line "value|err" t.res
      else if ¬ loads.any (fun l => l.k = t.k ∧ l.fail ∧ l.ls < t.ret) then
        r := r.violation s.idx t.line s!"struct=cache concurrent Take k={t.k} returned an error but no loader of the key failed"
    -- the loader was called although the key was present during the whole call
    if t.calls > 0 then
      let dels := evs.filter fun e => e.op = "del" ∧ e.k = t.k
      let producers := evs.filter fun e => e.k = t.k ∧ e.ret < t.inv ∧
        ((e.op = "set") ∨ (e.op = "take" ∧ e.calls > 0 ∧ ¬ e.fail ∧ e.res ≠ "err"))
      for p in producers do
        if dels.all (fun d => d.ret < p.inv ∨ d.inv > t.ret) then
          r := r.violation s.idx t.line s!"struct=cache loader called on a hit: Take k={t.k} called the loader although call id={p.id} had stored the key before and no Del ran since"
  for k in keys do
    let lk := loads.filter (·.k = k)
    -- loader executions of one key never overlap
    for a in lk do
      for b in lk do
        if a.id < b.id ∧ ¬ (a.le < b.ls ∨ b.le < a.ls) then
          r := r.violation s.idx b.line s!"struct=cache concurrent loaders of k={k} overlap: calls id={a.id} [{a.ls},{a.le}] and id={b.id} [{b.ls},{b.le}]"
    -- at most once per miss
    let nd := (evs.filter fun e => e.op = "del" ∧ e.k = k).size
    let nf := (lk.filter (·.fail)).size
    if lk.size > 1 then r := r.addCover "ctake-key-loaded-again"
    if (takes.filter (·.k = k)).size > lk.size + 1 then r := r.addCover "ctake-loads-shared"
    if lk.size > nd + nf + 1 then
      r := r.violation s.idx 0 s!"struct=cache concurrent Take called the loader of k={k} {lk.size} times with {nd} Del calls and {nf} failed loads: more than once per miss"
  -- other ops, statistics
  for e in evs do
    if e.op = "get" then
      r := r.addCover (if e.res = "none" then "ctake-get-miss" else "ctake-get-hit")
      match resNat e.res with
      | some v =>
        let ok := (loads.any fun l => l.k = e.k ∧ l.v = v ∧ ¬ l.fail ∧ l.ls < e.ret) ∨ (evs.any fun x => x.op = "set" ∧ x.k = e.k ∧ x.v = v ∧ x.inv < e.ret)
        if ¬ ok then r := r.violation s.idx e.line s!"struct=cache concurrent Get k={e.k} returned {v}, which nobody stored"
      | none => pure ()
    else if e.op = "stats" then
      r := r.addCover "ctake-stats"
      let done := evs.filter (·.ret < e.inv)
      let miss := (done.filter fun x => (x.op = "get" ∧ x.res = "none") ∨ (x.op = "take" ∧ x.res ≠ "err" ∧ x.calls > 0)).size
      let hit := (done.filter fun x => (x.op = "get" ∧ x.res ≠ "none") ∨ (x.op = "take" ∧ x.res ≠ "err" ∧ x.calls = 0)).size
      let want := s!"hit:{hit},miss:{miss}"
      if e.res ≠ want then
        r := r.violation s.idx e.line s!"struct=cache statistics: counted {e.res}, the calls made {want} (Get hit/miss, Take found-or-shared = hit, Take loaded = miss, Take error = none)"
    else if e.op ≠ "take" ∧ e.op ≠ "set" ∧ e.op ≠ "del" then r := r.mismatch s.idx e.line "ctake op" e.op
  return r

def runConcSection (r : Report) (s : Section) : Report := Id.run do
  let mut r := r
  let mut evs : Array CEv := #[]
  for l in s.lines do
    r := { r with ops := r.ops + 1 }
    match parseCEv l with
    | none => r := r.mismatch s.idx l.idx "c id=… op=… => inv=… ret=… res=…" (joinSp (l.op ++ ["=>"] ++ l.obs))
    | some e =>
      if e.res = "STUCK" then
        r := r.violation s.idx l.idx s!"struct={kvStr s.cfg "s"} concurrent call id={e.id} op={e.op} never returned (deadlock)"
      else if e.res = "PANIC" then
        r := r.violation s.idx l.idx s!"struct={kvStr s.cfg "s"} concurrent call id={e.id} op={e.op} panicked"
      else if ¬ e.inv < e.ret then r := r.mismatch s.idx l.idx "inv < ret" (joinSp l.obs)
      else evs := evs.push e
  match kvStr s.cfg "s" with
  | "cmap" => return (monCMap r s evs).addCover "sections-cmap"
  | "cqueue" => return (monCQueue r s evs).addCover "sections-cqueue"
  | "cring" => return (monCRing r s evs).addCover "sections-cring"
  | "ctake" => return (monCTake r s evs).addCover "sections-ctake"
  | other => return r.mismatch s.idx 0 "known concurrent structure" other

def driverConc (secs : List Section) : Report := secs.foldl runConcSection {}

end GoZero.C16
