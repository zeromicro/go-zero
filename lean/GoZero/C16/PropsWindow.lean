/-
C16 — RollingWindow is a view of the event log: `Reduce` visits exactly the values of the last `size` intervals, for
every history with a non-decreasing clock and through the constructor with every size and option list; what the code
does when the clock goes backwards (lemmas: ProofsRW; models: ModelRW.lean, ModelApi.lean).
-/
import GoZero.C16.ProofsRW
import GoZero.C16.ModelApi
namespace GoZero.C16

/-- **RollingWindow is a view of the event log.**  For every `size ≥ 1`, `interval ≥ 1`, `ignoreCurrent`, creation time `t0`, every
time-monotone history of additions `(time, value)` and every later time `now` — landing on, before or after
bucket boundaries, with gaps shorter or longer than the window — `Reduce` at `now` hands out, oldest first,
exactly the buckets of the last `size` intervals as cut from the log (`Spec.visible`): the bucket of age `a`
holds the values added during interval `idx now - a`, in arrival order; buckets younger than the newest
addition are not visited (they cannot hold anything) and the current interval is left out when
`ignoreCurrent` is set. -/
theorem rw_refines_log (size interval : Nat) (hs : 1 ≤ size) (hi : 1 ≤ interval) (ign : Bool) (t0 : Nat)
    (evs : List (Nat × Nat)) (hmono : List.Pairwise (· ≤ ·) (t0 :: evs.map (·.1)))
    (now : Nat) (hnow : ∀ t, t ∈ t0 :: evs.map (·.1) → t ≤ now) :
    ((RW.new size interval ign t0).run evs).reduce now = Spec.visible size ign t0 interval evs now := by
  exact (RW.tracks_new_run size interval hs hi ign t0 evs hmono now hnow).reduce

/-- **The property in its own words**: under the same hypotheses, the values `Reduce` visits are exactly the
values added during the last `size` intervals — ages `size-1 … 0` — or `size-1 … 1` when the current interval
is ignored, in the order oldest bucket first, arrival order inside a bucket (the statement compares the concatenations;
the bucket boundaries are `rw_refines_log`). -/
theorem rw_reduce_visits_last_intervals (size interval : Nat) (hs : 1 ≤ size) (hi : 1 ≤ interval) (ign : Bool) (t0 : Nat)
    (evs : List (Nat × Nat)) (hmono : List.Pairwise (· ≤ ·) (t0 :: evs.map (·.1)))
    (now : Nat) (hnow : ∀ t, t ∈ t0 :: evs.map (·.1) → t ≤ now) :
    (((RW.new size interval ign t0).run evs).reduce now).flatten
      = (Spec.lastIntervals size ign t0 interval evs now).flatten := by
  rw [rw_refines_log size interval hs hi ign t0 evs hmono now hnow]
  obtain ⟨k, hc, hy⟩ := (RW.tracks_new_run size interval hs hi ign t0 evs hmono now hnow).young
  simp only [Spec.visible, Spec.lastIntervals]
  rw [hc, Nat.add_sub_cancel_left]
  generalize Spec.lastIdx t0 interval evs = L at hy ⊢
  cases ign with
  | false =>
    simp only [Bool.false_eq_true, and_false, if_false]
    exact (agesDown_flatten_skip size _ (Nat.zero_le _) fun a _ h2 => hy a h2).symm
  | true =>
    simp only [and_true, if_true]
    by_cases hk : k = 0
    · simp [hk]
    · simp only [show ¬ L + k = L by omega, if_false]
      exact (agesDown_flatten_skip size _ (by omega) fun a _ h2 => hy a h2).symm

/-- window spans of exactly size-1 / size / size+1 buckets (size 3, interval 10, t0 = 5): additions in
intervals 0, 1, 2; reduce in interval 2 (all three), 3 (two left), 4 (one left), 5 (none) -/
example : ((RW.new 3 10 false 5).run [(5, 1), (14, 2), (15, 3), (25, 4)]).reduce 34 = [[1, 2], [3], [4]]
    ∧ ((RW.new 3 10 false 5).run [(5, 1), (14, 2), (15, 3), (25, 4)]).reduce 35 = [[3], [4]]
    ∧ ((RW.new 3 10 false 5).run [(5, 1), (14, 2), (15, 3), (25, 4)]).reduce 45 = [[4]]
    ∧ ((RW.new 3 10 false 5).run [(5, 1), (14, 2), (15, 3), (25, 4)]).reduce 55 = []
    ∧ ((RW.new 3 10 true 5).run [(5, 1), (14, 2), (15, 3), (25, 4)]).reduce 34 = [[1, 2], [3]] := by decide

example : List.Pairwise (· ≤ ·) (5 :: [(5, 1), (14, 2), (15, 3), (25, 4)].map (·.1)) := by decide

/-! ### RollingWindow when the clock goes backwards (outside the property; characterisation of the code)

The theorems above assume a non-decreasing clock.  `timex.Now()` is `time.Since(initTime)` with
`initTime = time.Now().AddDate(-1, -1, -1)`; `AddDate` builds its result with `time.Date`, which carries no monotonic
reading, so `time.Since` falls back to the wall clock: `timex.Now()` follows the wall clock and *can* go backwards
when the system time is stepped back (observed by the glue test `timex-inittime-has-no-monotonic-reading`).  What the
window then does (`RW.spanB` …, tied to the source by `tie_rwSpanBackwards` / `tie_rwUpdateTailBackwards`, compared
with the real code by the correspondence harness): -/

/-- with a clock that has not gone back, the backwards-aware model is the model -/
theorem rw_backwards_model_agrees (rw : RW) (now v : Nat) (h : rw.lastTime ≤ now) :
    rw.addB now v = rw.add now v ∧ rw.reduceB now = rw.reduce now := by
  have hs : rw.spanB now = rw.span now := by simp [RW.spanB, Nat.not_lt.2 h]
  have hu : rw.updateOffsetB now = rw.updateOffset now := by simp [RW.updateOffsetB, RW.updateOffset, hs, Nat.not_lt.2 h]
  exact ⟨by simp [RW.addB, RW.add, hu], by simp [RW.reduceB, RW.reduce, RW.diffB, RW.diff, hs]⟩

/-- **less than one interval back**: nothing expires, `Add` adds to the newest bucket, `Reduce` sees what it would see
at `lastTime`; **one interval or more back**: `Reduce` visits nothing — the window reads as empty although its values
were added during the last `size` intervals — and the next `Add` runs the reset loop over all `size` buckets. -/
theorem rw_backwards_characterised (rw : RW) (now : Nat) (h : now < rw.lastTime) :
    (rw.lastTime - now < rw.interval → rw.spanB now = 0 ∧ rw.updateOffsetB now = rw ∧ rw.reduceB now = rw.reduce rw.lastTime)
    ∧ (rw.interval ≤ rw.lastTime - now → rw.spanB now = rw.size ∧ rw.reduceB now = []
        ∧ (0 < rw.size → (rw.updateOffsetB now).buckets = RW.resetLoop rw.size rw.offset rw.size rw.buckets
            ∧ now ≤ (rw.updateOffsetB now).lastTime)) := by
  constructor
  · intro hlt
    have hs : rw.spanB now = 0 := by simp [RW.spanB, h, hlt]
    have hs0 : rw.span rw.lastTime = 0 := by
      unfold RW.span; simp only [Nat.sub_self, Nat.zero_div]; split <;> omega
    refine ⟨hs, by simp [RW.updateOffsetB, hs], ?_⟩
    simp [RW.reduceB, RW.reduce, RW.diffB, RW.diff, hs, hs0]
  · intro hge
    have hs : rw.spanB now = rw.size := by simp [RW.spanB, h, Nat.not_lt.2 hge]
    refine ⟨hs, by simp [RW.reduceB, RW.diffB, hs]; intro h0 _; omega, fun hpos => ?_⟩
    have hne : ¬ rw.size = 0 := by omega
    simp [RW.updateOffsetB, hs, hne, h]

/-- size 3, interval 10: values in three buckets; the clock steps back 25: Reduce sees nothing; an Add then wipes all -/
example : ((RW.new 3 10 false 0).run [(5, 1), (15, 2), (25, 3)]).reduceB 0 = []
    ∧ ((RW.new 3 10 false 0).run [(5, 1), (15, 2), (25, 3)]).reduceB 25 = [[1], [2], [3]]
    ∧ ((RW.new 3 10 false 0).run [(5, 1), (15, 2), (25, 3)]).reduceB 12 = [[1], [2], [3]]
    ∧ (((RW.new 3 10 false 0).run [(5, 1), (15, 2), (25, 3)]).addB 0 9).buckets = [[], [], [9]]
    ∧ (((RW.new 3 10 false 0).run [(5, 1), (15, 2), (25, 3)]).addB 0 9).lastTime = 0 := by decide

theorem rwopts_fold (opts : List RWOpt) (w : RW) :
    opts.foldl RWOpt.apply w = if opts.isEmpty then w else { w with ignoreCurrent := true } := by
  induction opts generalizing w with
  | nil => rfl
  | cons o r ih =>
    cases o
    rw [List.foldl_cons, ih]
    cases r <;> simp [RWOpt.apply]

/-- the option loop of `NewRollingWindow`: any number ≥ 1 of `IgnoreCurrentBucket()` options sets the flag, none
leaves it false; `size < 1` panics before anything is built -/
theorem rw_newApi_eq (size : Int) (interval : Nat) (opts : List RWOpt) (t0 : Nat) :
    RW.newApi size interval opts t0
      = if size < 1 then none else some (RW.new size.toNat interval (!opts.isEmpty) t0) := by
  unfold RW.newApi
  split
  · rfl
  · rw [rwopts_fold]
    cases opts <;> simp [RW.new]

/-- **Clause "Reduce visits exactly the values added during the last `size` intervals, excluding the current one when
so configured" through the constructor, for every `size : Int`, every interval ≥ 1 and every option list.** -/
theorem rw_api_reduce_visits_last_intervals (size : Int) (interval : Nat) (hi : 1 ≤ interval) (opts : List RWOpt) (t0 : Nat)
    (evs : List (Nat × Nat)) (hmono : List.Pairwise (· ≤ ·) (t0 :: evs.map (·.1)))
    (now : Nat) (hnow : ∀ t, t ∈ t0 :: evs.map (·.1) → t ≤ now) :
    (size < 1 ∧ RW.newApi size interval opts t0 = none)
    ∨ (1 ≤ size ∧ ∃ w, RW.newApi size interval opts t0 = some w
        ∧ ((w.run evs).reduce now).flatten
            = (Spec.lastIntervals size.toNat (!opts.isEmpty) t0 interval evs now).flatten) := by
  by_cases h : size < 1
  · exact Or.inl ⟨h, by simp [rw_newApi_eq, h]⟩
  · refine Or.inr ⟨by omega, RW.new size.toNat interval (!opts.isEmpty) t0, by simp [rw_newApi_eq, h], ?_⟩
    exact rw_reduce_visits_last_intervals size.toNat interval (by omega) hi _ t0 evs hmono now hnow

example : RW.newApi 0 10 [.ignoreCurrent] 5 = none
    ∧ (RW.newApi 3 10 [.ignoreCurrent, .ignoreCurrent] 5).map (·.ignoreCurrent) = some true
    ∧ (RW.newApi 3 10 [] 5).map (·.ignoreCurrent) = some false := by decide

end GoZero.C16
