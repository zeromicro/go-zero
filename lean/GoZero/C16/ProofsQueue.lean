/-
C16 — Queue ⊑ FIFO: representation invariant, refinement per operation, histories; Ring = last n: `Ring.Holds`, the relation
between a ring and the additions behind it, kept by `Add`, read by `Take`.
-/
import GoZero.C16.Spec
import GoZero.C16.ProofsIndex
namespace GoZero.C16

/-- `c` consecutive slots of the circular buffer `l`, from position `s` on: the content of a Queue (`Queue.abs`) and what
`Ring.Take` returns (`Ring.take` is `cwin r.elems r.start r.sz` by unfolding, used in `Ring.Holds.take`) -/
def cwin (l : List Nat) (s c : Nat) : List Nat := (List.range c).map fun i => l.getD ((s + i) % l.length) 0

theorem cwin_congr (l : List Nat) {s s' : Nat} (c : Nat) (h : s % l.length = s' % l.length) : cwin l s c = cwin l s' c :=
  map_range_congr _ _ c fun i _ => by rw [Nat.add_mod, h, ← Nat.add_mod]

theorem cwin_snoc (l : List Nat) (s c : Nat) : cwin l s (c + 1) = cwin l s c ++ [l.getD ((s + c) % l.length) 0] := by
  simp [cwin, List.range_succ]

theorem cwin_cons (l : List Nat) (s c : Nat) : cwin l s (c + 1) = l.getD (s % l.length) 0 :: cwin l (s + 1) c := by
  unfold cwin
  rw [List.range_succ_eq_map, List.map_cons, List.map_map]
  exact congrArg _ (map_range_congr _ _ c fun i _ => by rw [Nat.add_assoc, Nat.add_comm 1 i]; rfl)

/-- the slots of the window are less than one turn away from the one written (`pos_ne`) -/
theorem cwin_set_snoc (l : List Nat) (s c x : Nat) (hc : c < l.length) :
    cwin (l.set ((s + c) % l.length) x) s (c + 1) = cwin l s c ++ [x] := by
  rw [cwin_snoc, List.length_set, List.getD_eq_getElem?_getD, List.getElem?_set_self (Nat.mod_lt _ (by omega))]
  refine congrArg (· ++ [x]) (map_range_congr _ _ c fun i hi => ?_)
  rw [List.length_set, List.getD_eq_getElem?_getD, List.getD_eq_getElem?_getD, List.getElem?_set_ne]
  exact (pos_ne hi (by omega)).symm

/-- writing the oldest slot of a full window moves the window on by one: the oldest element leaves, the new one is last -/
theorem cwin_set_full (l : List Nat) (s x : Nat) (hn : 0 < l.length) :
    cwin (l.set (s % l.length) x) (s + 1) l.length = (cwin l s l.length ++ [x]).drop 1 := by
  obtain ⟨m, hm⟩ : ∃ m, m + 1 = l.length := ⟨l.length - 1, by omega⟩
  have h := cwin_set_snoc l (s + 1) m x (by omega)
  rw [show (s + 1 + m) % l.length = s % l.length by rw [← Nat.add_mod_right s]; congr 1; omega, hm] at h
  rw [h, ← hm, cwin_cons]
  rfl

/-- the queue's content, oldest first -/
def Queue.abs (q : Queue) : List Nat := cwin q.elems q.head q.count

structure Queue.Inv (q : Queue) : Prop where
  size_pos : 0 < q.size
  len_pos  : 0 < q.elems.length
  head_lt  : q.head < q.elems.length
  count_le : q.count ≤ q.elems.length
  tail_eq  : q.tail = (q.head + q.count) % q.elems.length

theorem Queue.inv_new (size : Nat) (h : 0 < size) : (Queue.new size).Inv :=
  ⟨h, by simp [Queue.new, h], by simp [Queue.new, h], by simp [Queue.new], by simp [Queue.new]⟩

theorem Queue.abs_new (size : Nat) : (Queue.new size).abs = [] := by simp [Queue.new, Queue.abs, cwin]

theorem Queue.full_iff (q : Queue) (hi : q.Inv) : (q.head = q.tail ∧ q.count > 0) ↔ q.count = q.elems.length := by
  have h1 := hi.tail_eq
  have := hi.head_lt
  have := hi.count_le
  rw [mod2 (by omega)] at h1
  split at h1 <;> omega

theorem getD_rot (l : List Nat) (h i : Nat) (hh : h < l.length) (hi : i < l.length) :
    (l.drop h ++ l.take h)[i]?.getD 0 = l[(h + i) % l.length]?.getD 0 := by
  rw [mod2 (by omega)]
  by_cases hc : h + i < l.length
  · simp only [hc, if_true]
    rw [List.getElem?_append_left (by simp; omega)]
    simp
  · simp only [hc, if_false]
    rw [List.getElem?_append_right (by simp; omega)]
    simp only [List.length_drop]
    rw [List.getElem?_take_of_lt (by omega)]
    congr 2
    omega

theorem Queue.grow_spec (q : Queue) (hi : q.Inv) :
    q.grow.Inv ∧ q.grow.abs = q.abs ∧ q.grow.count = q.count ∧ q.grow.count < q.grow.elems.length := by
  unfold Queue.grow
  by_cases hf : q.head = q.tail ∧ q.count > 0
  · have hc := (q.full_iff hi).1 hf
    have := hi.size_pos
    have := hi.head_lt
    rw [if_pos hf]
    have hl : (q.elems.drop q.head ++ q.elems.take q.head ++ List.replicate q.size 0).length = q.elems.length + q.size := by
      simp; omega
    refine ⟨⟨hi.size_pos, ?_, ?_, ?_, ?_⟩, ?_, rfl, ?_⟩
    · dsimp only; omega
    · dsimp only; omega
    · dsimp only; omega
    · dsimp only; rw [hl, hc, Nat.zero_add, Nat.mod_eq_of_lt (by omega)]
    · unfold Queue.abs cwin
      dsimp only
      rw [hl]
      apply map_range_congr
      intro i hi'
      rw [hc] at hi'
      rw [Nat.zero_add, Nat.mod_eq_of_lt (by omega)]
      simp only [List.getD_eq_getElem?_getD]
      rw [List.getElem?_append_left (by simp; omega)]
      exact getD_rot q.elems q.head i (by omega) hi'
    · dsimp only; omega
  · have hlt : q.count < q.elems.length := Nat.lt_of_le_of_ne hi.count_le fun e => hf ((q.full_iff hi).2 e)
    rw [if_neg hf]
    exact ⟨hi, rfl, rfl, hlt⟩

theorem Queue.put_core (q : Queue) (x : Nat) (hi : q.Inv) (hlt : q.count < q.elems.length) :
    let q' : Queue := { q with elems := q.elems.set q.tail x, tail := (q.tail + 1) % q.elems.length, count := q.count + 1 }
    q'.Inv ∧ q'.abs = q.abs ++ [x] := by
  intro q'
  have hlen : q'.elems.length = q.elems.length := by simp [q']
  refine ⟨⟨hi.size_pos, hlen ▸ hi.len_pos, hlen ▸ hi.head_lt, by rw [hlen]; simp only [q']; omega, ?_⟩, ?_⟩
  · simp only [q', List.length_set]
    rw [hi.tail_eq, Nat.mod_add_mod]
    rfl
  · show cwin (q.elems.set q.tail x) q.head (q.count + 1) = _
    rw [hi.tail_eq]
    exact cwin_set_snoc _ _ _ _ hlt

theorem Queue.put_spec (q : Queue) (x : Nat) (hi : q.Inv) : (q.put x).Inv ∧ (q.put x).abs = q.abs ++ [x] := by
  obtain ⟨h1, h2, _, h4⟩ := q.grow_spec hi
  have := Queue.put_core q.grow x h1 h4
  rw [h2] at this
  exact this

theorem Queue.take_spec (q : Queue) (hi : q.Inv) :
    (q.take).2.Inv ∧ (q.take).1 = q.abs.head? ∧ (q.take).2.abs = q.abs.tail := by
  unfold Queue.take
  by_cases hc : q.count = 0
  · simp only [hc, if_true]
    refine ⟨hi, ?_, ?_⟩ <;> simp [Queue.abs, cwin, hc]
  · simp only [hc, if_false]
    obtain ⟨c, hc'⟩ : ∃ c, q.count = c + 1 := ⟨q.count - 1, by omega⟩
    have := hi.count_le
    have ha : q.abs = q.elems.getD q.head 0 :: cwin q.elems (q.head + 1) c := by
      rw [Queue.abs, hc', cwin_cons, Nat.mod_eq_of_lt hi.head_lt]
    refine ⟨⟨hi.size_pos, hi.len_pos, Nat.mod_lt _ hi.len_pos, by simp only []; omega, ?_⟩, by rw [ha]; rfl, ?_⟩
    · simp only []
      rw [Nat.mod_add_mod, hi.tail_eq]
      congr 1
      omega
    · rw [ha, List.tail_cons, cwin_congr _ c (Nat.mod_mod _ _).symm]
      simp only [Queue.abs, hc', Nat.add_sub_cancel]

theorem Queue.step_refines (q : Queue) (hi : q.Inv) (op : QOp) :
    (q.step op).1.Inv ∧ (q.step op).1.abs = (Spec.Fifo.step q.abs op).1 ∧ (q.step op).2 = (Spec.Fifo.step q.abs op).2 := by
  cases op with
  | put x =>
    have := q.put_spec x hi
    exact ⟨this.1, this.2, rfl⟩
  | take =>
    have := q.take_spec hi
    refine ⟨this.1, this.2.2, ?_⟩
    simp only [Queue.step, Spec.Fifo.step, this.2.1]
  | empty =>
    refine ⟨hi, rfl, ?_⟩
    simp only [Queue.step, Spec.Fifo.step, Queue.empty, Queue.abs, cwin]
    congr 1
    by_cases h : q.count = 0 <;> simp [h]

theorem Queue.run_refines (ops : List QOp) : ∀ (q : Queue), q.Inv → Queue.run q ops = Spec.Fifo.run q.abs ops := by
  induction ops with
  | nil => intro q _; rfl
  | cons op ops ih =>
    intro q hi
    obtain ⟨h1, h2, h3⟩ := q.step_refines hi op
    simp only [Queue.run, Spec.Fifo.run]
    rw [ih _ h1, h2, h3]

def Queue.after (q : Queue) (ops : List QOp) : Queue := ops.foldl (fun q op => (q.step op).1) q

theorem Queue.inv_after (ops : List QOp) (q : Queue) (h : q.Inv) : (q.after ops).Inv :=
  List.foldlRecOn ops _ h fun q hq op _ => (q.step_refines hq op).1

theorem cwin_drop (l : List Nat) (s a b : Nat) : (cwin l s (a + b)).drop a = cwin l (s + a) b := by
  induction a generalizing s with
  | zero => rw [Nat.zero_add]; rfl
  | succ a ih => rw [Nat.add_right_comm, cwin_cons, List.drop_succ_cons, ih, Nat.add_assoc, Nat.add_comm 1 a]

/-- `r`, of `n` slots, after the additions `hist`: read as a full window that starts at the slot written next, the ring
is the last `n` of `hist` behind `n` zeros; `Take` leaves out the zeros that are still there.  `le`, `eq`: below `n` the
index is the number of additions, from `n` on at most that number — how `Take` knows how many zeros are left. -/
structure Ring.Holds (r : Ring) (n : Nat) (hist : List Nat) : Prop where
  pos : 0 < n
  len : r.elems.length = n
  idx : r.index < 2 * n
  le  : r.index ≤ hist.length
  eq  : r.index < n → hist.length ≤ r.index
  win : cwin r.elems r.index n = (List.replicate n 0 ++ hist).drop hist.length

theorem Ring.holds_new (n : Nat) (hn : 0 < n) : (Ring.new n).Holds n [] :=
  ⟨hn, List.length_replicate, Nat.mul_pos (by decide) hn, Nat.le_refl _, fun _ => Nat.le_refl _, by simp [Ring.new, cwin, Nat.mod_lt _ hn, List.map_const']⟩

/-- every `Add` moves the full window on by one (`cwin_set_full`); the fold-back of the index by `n` does not show
modulo `n` -/
theorem Ring.Holds.add {r : Ring} {n : Nat} {hist : List Nat} (h : r.Holds n hist) (v : Nat) :
    (r.add v).Holds n (hist ++ [v]) := by
  obtain ⟨hn, rfl, hx, hle, heq, hw⟩ := h
  have hidx : (r.add v).index = if r.index + 1 ≥ 2 * r.elems.length then r.index + 1 - r.elems.length else r.index + 1 := rfl
  have e : (r.add v).index % r.elems.length = (r.index + 1) % r.elems.length := by
    rw [hidx]; split
    · exact (Nat.mod_eq_sub_mod (by omega)).symm
    · rfl
  refine ⟨hn, List.length_set, by rw [hidx]; split <;> omega, ?_, ?_, ?_⟩
  · rw [hidx, List.length_append, List.length_singleton]; split <;> omega
  · rw [hidx, List.length_append, List.length_singleton]; split <;> omega
  · show cwin (r.elems.set (r.index % r.elems.length) v) _ _ = _
    rw [cwin_congr (s' := r.index + 1) _ _ (by rw [List.length_set]; exact e), cwin_set_full _ _ _ hn, hw,
      ← List.append_assoc, List.length_append, List.length_singleton, ← List.drop_drop (j := hist.length),
      List.drop_append_of_le_length (l₁ := _ ++ hist) (l₂ := [v]) (by simp)]

/-- the last `s` slots of the full window, for an `s` that is `min hist.length n` -/
theorem Ring.Holds.last {r : Ring} {n : Nat} {hist : List Nat} (h : r.Holds n hist) {s : Nat} (h1 : s ≤ n)
    (h2 : s ≤ hist.length) (h3 : hist.length - s = hist.length - n) :
    cwin r.elems (r.index + (n - s)) s = hist.drop (hist.length - n) := by
  obtain ⟨-, rfl, -, -, -, hw⟩ := h
  rw [← cwin_drop, Nat.sub_add_cancel h1, hw, List.drop_drop, List.drop_append,
    List.drop_eq_nil_of_le (by rw [List.length_replicate]; omega), List.nil_append, List.length_replicate, ← h3]
  congr 1
  omega

/-- what `Take` returns: `n` slots from `index` on once the index has passed `n`, the first `index` slots before -/
theorem Ring.Holds.take {r : Ring} {n : Nat} {hist : List Nat} (h : r.Holds n hist) :
    r.take = Spec.lastN n hist := by
  have hl := h.len
  have hle := h.le
  have heq := h.eq
  show cwin r.elems r.start r.sz = hist.drop (hist.length - n)
  unfold Ring.start Ring.sz
  split
  · rw [← h.last (s := n) (Nat.le_refl _) (by omega) rfl, hl]
    exact cwin_congr _ _ (by rw [Nat.sub_self, Nat.add_zero, hl, Nat.mod_mod])
  · rw [← h.last (s := r.index) (by omega) hle (by omega)]
    exact cwin_congr _ _ (by rw [hl, Nat.add_sub_cancel' (by omega), Nat.mod_self, Nat.zero_mod])

def Ring.run (r : Ring) (vs : List Nat) : Ring := vs.foldl Ring.add r

theorem Ring.holds_run {n : Nat} (vs : List Nat) : ∀ {r : Ring} {hist : List Nat}, r.Holds n hist →
    (r.run vs).Holds n (hist ++ vs) := by
  induction vs with
  | nil => intro r hist h; simpa [Ring.run] using h
  | cons v vs ih => intro r hist h; simpa [Ring.run] using ih (h.add v)

end GoZero.C16
