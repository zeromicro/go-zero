/-
C16 — the recency list really is "ordered by last use": a ghost clock stamps every use of a key; in every
reachable state the list is strictly decreasing in the stamps, so the evicted key (the last one) is the
least recently used of all cached keys.
-/
import GoZero.C16.ProofsCacheOps
namespace GoZero.C16

section
variable {T : Type} (ts : TStep T)

/-- the key an operation *uses* (reads successfully or writes), if any -/
def usedKey (c : CacheG T) : COp → Option Nat
  | .set k _ _ => some k
  | .get k => if (alookup c.data k).isSome then some k else none
  | .take k _ fails _ => if (alookup c.data k).isSome then some k else if fails then none else some k
  | .del _ => none
  | .tick => none

/-- cache + ghost: stamp of the last use of every key, and the ghost clock -/
structure Ghost (T : Type) where
  c     : CacheG T
  stamp : Nat → Nat
  clock : Nat

def Ghost.step (g : Ghost T) (op : COp) : Ghost T :=
  match usedKey g.c op with
  | some k => { c := (CacheG.step ts g.c op).1, stamp := fun x => if x = k then g.clock + 1 else g.stamp x, clock := g.clock + 1 }
  | none => { g with c := (CacheG.step ts g.c op).1 }

def Ghost.run (g : Ghost T) (ops : List COp) : Ghost T := ops.foldl (Ghost.step ts) g

theorem Ghost.run_c (ops : List COp) : ∀ (g : Ghost T), (Ghost.run ts g ops).c = CacheG.after ts g.c ops := by
  induction ops with
  | nil => intro g; rfl
  | cons op ops ih =>
    intro g
    simp only [Ghost.run, List.foldl_cons, CacheG.after] at ih ⊢
    rw [ih]
    congr 1
    unfold Ghost.step
    split <;> rfl

theorem del_lru_sublist (c : CacheG T) (k : Nat) : (CacheG.del ts c k).lru.Sublist c.lru := by
  rw [del_lru]
  split
  · exact List.Sublist.refl _
  · exact List.filter_sublist

theorem expire_lru_sublist (fired : List (Nat × Nat)) (c : CacheG T) : (CacheG.expire ts c fired).lru.Sublist c.lru :=
  expire_keeps ts (P := fun c' => c'.lru.Sublist c.lru) (fun c' k h => (del_lru_sublist ts c' k).trans h) fired c
    (List.Sublist.refl _)

/-- `keyLru.add(k)` leaves the list moved to the front, `k :: lru.filter (· ≠ k)`, or — on overflow — that list without its
last key (`k` was not in the list then, so the filter took nothing out) -/
theorem lruAdd_shape (c : CacheG T) (k : Nat) (hl : 0 < c.limit) :
    (CacheG.lruAdd ts c k).1.lru.Sublist (k :: c.lru.filter (· ≠ k)) := by
  have h0 : ¬ c.limit = 0 := by omega
  unfold CacheG.lruAdd
  rw [if_neg h0]
  by_cases hm : k ∈ c.lru
  · rw [if_pos hm]; exact List.Sublist.refl _
  · rw [if_neg hm, filter_ne_of_not_mem _ _ hm]
    by_cases hov : (k :: c.lru).length > c.limit
    · rw [if_pos hov]
      obtain ⟨ys, old, hys, hlast, hdrop⟩ := cons_overflow k c.lru hl hov
      rw [hlast]
      dsimp only
      rw [onEvict_lru, hdrop, hys]
      exact (List.sublist_append_left _ _).cons_cons k
    · rw [if_neg hov]; exact List.Sublist.refl _

theorem step_lru (c : CacheG T) (op : COp) (hl : 0 < c.limit) :
    (CacheG.step ts c op).1.lru.Sublist (match usedKey c op with
      | none => c.lru
      | some k => k :: c.lru.filter (· ≠ k)) := by
  -- `set` is `lruAdd` on the cache with the new value, then the expiry of what the timer fired
  have hset : ∀ k v t, (CacheG.set ts c k v t).1.lru.Sublist (k :: c.lru.filter (· ≠ k)) := fun k v t =>
    (expire_lru_sublist ts _ _).trans (lruAdd_shape ts { c with data := ainsert c.data k v } k hl)
  cases op with
  | set k v t => exact hset k v t
  | get k =>
    simp only [CacheG.step, CacheG.get, usedKey]
    cases hv : alookup c.data k with
    | none => exact List.Sublist.refl _
    | some x => exact lruAdd_shape ts c k hl
  | del k => exact del_lru_sublist ts c k
  | take k v f t =>
    simp only [CacheG.step, CacheG.take, usedKey]
    cases hv : alookup c.data k with
    | some x => exact lruAdd_shape ts c k hl
    | none =>
      cases f with
      | true => exact List.Sublist.refl _
      | false => exact hset k v t
  | tick =>
    simp only [CacheG.step, CacheG.tick, usedKey]
    exact expire_lru_sublist ts _ _

structure Ghost.Inv (g : Ghost T) : Prop where
  le     : ∀ k, g.stamp k ≤ g.clock
  sorted : 0 < g.c.limit → g.c.lru.Pairwise (fun a b => g.stamp a > g.stamp b)

theorem Ghost.inv_step (g : Ghost T) (op : COp) (hc : g.c.Inv) (h : g.Inv) : (Ghost.step ts g op).Inv := by
  have hlim := (_root_.GoZero.C16.inv_step ts g.c op hc).2
  have hstep := fun hl => step_lru ts g.c op hl
  unfold Ghost.step
  cases hu : usedKey g.c op with
  | none =>
    dsimp only
    refine ⟨h.le, fun hl => ?_⟩
    rw [hlim] at hl
    have hs := hstep hl
    rw [hu] at hs
    exact (h.sorted hl).sublist hs
  | some k =>
    dsimp only
    refine ⟨fun x => ?_, fun hl => ?_⟩
    · have := h.le x
      dsimp only
      split <;> omega
    · rw [hlim] at hl
      have hs := hstep hl
      rw [hu] at hs
      -- the other keys keep their stamps, `k` gets the newest one
      have hst : ∀ a, a ∈ g.c.lru.filter (· ≠ k) → (if a = k then g.clock + 1 else g.stamp a) = g.stamp a :=
        fun a ha => if_neg (by simpa using (List.mem_filter.1 ha).2)
      refine List.Pairwise.sublist hs (List.pairwise_cons.2 ⟨fun b hb => ?_, ?_⟩)
      · have := h.le b
        simp only [if_true, hst b hb]
        omega
      · refine ((h.sorted hl).sublist List.filter_sublist).imp_of_mem fun ha hb hab => ?_
        simp only [hst _ ha, hst _ hb]
        exact hab

theorem Ghost.inv_run (ops : List COp) : ∀ (g : Ghost T), g.c.Inv → g.Inv →
    (Ghost.run ts g ops).Inv ∧ (Ghost.run ts g ops).c.Inv := by
  induction ops with
  | nil => intro g hc h; exact ⟨h, hc⟩
  | cons op ops ih =>
    intro g hc h
    have h2 : (Ghost.step ts g op).c.Inv := by
      have := (_root_.GoZero.C16.inv_step ts g.c op hc).1
      unfold Ghost.step
      split <;> exact this
    exact ih _ h2 (Ghost.inv_step ts g op hc h)

end
end GoZero.C16
