/-
C16 — the lock gives atomicity: inductive invariant of `Conc.step`, for every object, every schedule.
-/
import GoZero.C16.Conc
namespace GoZero.C16.Conc

variable {σ L Op : Type}

/-- The record of a returned call against the commit history: it found commit number `pos` and left commit `pos + w`
(`w = 0` for a read), its body run alone does exactly that (`solo`), and `pos` lies between the commit counts at its
invocation and at its return, so the serial order respects real time. -/
structure RecOK (o : Obj σ L Op) (s : St σ L Op) (r : Rec σ L Op) : Prop where
  pre   : r.pre = s.hist r.pos
  post  : r.post = s.hist (r.pos + r.w o)
  solo  : Solo o r.op r.pre r.res r.post
  inv   : r.invN ≤ r.pos
  ret   : r.pos + r.w o ≤ r.retN
  le    : r.retN ≤ s.n

/-- `lockW` … `nodup` are the lock discipline: the writer field and the readers list are exactly the goroutines inside a
write / read body.  The rest is the ghost history, and what makes it inductive is `inT`: a goroutine inside took the lock
at the current commit (`pos = n`, `snap = hist n`), and its locals and the shared state are where its body, run alone from
`snap`, has got to — readers do not write and a writer is alone, so nobody disturbs that run; at the release it has become
the `Solo` of the call's record (`recs`).  `every` (each commit has the record of the write that made it) is read by
`conc_commits_explained` only. -/
structure Inv (o : Obj σ L Op) (s : St σ L Op) : Prop where
  lockW   : ∀ t, s.writer = some t → s.pc t = .inside ∧ o.isRead (s.op t) = false ∧ s.readers = []
  insideW : ∀ t, s.pc t = .inside → o.isRead (s.op t) = false → s.writer = some t
  insideR : ∀ t, s.pc t = .inside → o.isRead (s.op t) = true → t ∈ s.readers
  rdrs    : ∀ t, t ∈ s.readers → s.pc t = .inside ∧ o.isRead (s.op t) = true
  nodup   : s.readers.Nodup
  commit  : s.writer = none → s.sh = s.hist s.n
  inT     : ∀ t, s.pc t = .inside → s.pos t = s.n ∧ s.snap t = s.hist s.n ∧ s.invN t ≤ s.n
              ∧ Exec o (s.op t) (o.start (s.op t), s.snap t) (s.loc t, s.sh)
  wantT   : ∀ t, s.pc t = .want → s.invN t ≤ s.n
  recs    : ∀ r, r ∈ s.rets → RecOK o s r
  every   : ∀ i, i < s.n → ∃ r, r ∈ s.rets ∧ o.isRead r.op = false ∧ r.pos = i

theorem inv_init (o : Obj σ L Op) (s0 : σ) (o0 : Op) (l0 : L) : Inv o (init s0 o0 l0) := by
  refine ⟨?_, ?_, ?_, ?_, ?_, ?_, ?_, ?_, ?_, ?_⟩ <;> simp [init]

theorem pc_upd (s : St σ L Op) (t u : Tid) (p : PC) : upd s.pc t p u = if u = t then p else s.pc u := rfl

theorem upd_ne {α : Type} {f : Nat → α} {i j : Nat} {v : α} (h : j ≠ i) : upd f i v j = f j := upd_other f i j v h

/-- a goroutine found at `p` after `t` moved to another program counter is not `t` and was at `p` before -/
theorem of_upd_pc {pc : Tid → PC} {t u : Tid} {q p : PC} (hq : q ≠ p) (hu : upd pc t q u = p) : u ≠ t ∧ pc u = p := by
  by_cases hut : u = t
  · subst hut; rw [upd_same] at hu; exact absurd hu hq
  · exact ⟨hut, by rwa [upd_ne hut] at hu⟩

theorem RecOK.mono {o : Obj σ L Op} {s s' : St σ L Op} {r : Rec σ L Op} (h : RecOK o s r)
    (hh : ∀ j, j ≤ s.n → s'.hist j = s.hist j) (hn : s.n ≤ s'.n) : RecOK o s' r := by
  have := h.ret
  have := h.le
  exact ⟨by rw [hh _ (by omega)]; exact h.pre, by rw [hh _ (by omega)]; exact h.post, h.solo, h.inv, h.ret,
    Nat.le_trans h.le hn⟩

/-- the records of the returned calls speak of the commits only -/
theorem recs_frame {o : Obj σ L Op} {s s' : St σ L Op} (h : ∀ r, r ∈ s.rets → RecOK o s r) (hr : s'.rets = s.rets)
    (hh : s'.hist = s.hist) (hn : s'.n = s.n) : ∀ r, r ∈ s'.rets → RecOK o s' r := fun r hm =>
  (h r (hr ▸ hm)).mono (fun _ _ => by rw [hh]) (Nat.le_of_eq hn.symm)

theorem Inv.writer_alone {o : Obj σ L Op} {s : St σ L Op} (h : Inv o s) {t : Tid} (hw : s.writer = some t) :
    ∀ u, s.pc u = .inside → u = t := by
  intro u hu
  cases hru : o.isRead (s.op u) with
  | true => have := h.insideR u hu hru; rw [(h.lockW t hw).2.2] at this; cases this
  | false => have := h.insideW u hu hru; rw [hw] at this; cases this; rfl

theorem Inv.no_writer {o : Obj σ L Op} {s : St σ L Op} (h : Inv o s) {t : Tid} (hm : t ∈ s.readers) : s.writer = none := by
  cases hw : s.writer with
  | none => rfl
  | some u => have := (h.lockW u hw).2.2; rw [this] at hm; cases hm

theorem inv_invoke (o : Obj σ L Op) (s : St σ L Op) (h : Inv o s) (t : Tid) (x : Op) (hpc : s.pc t = .idle) :
    Inv o { s with pc := upd s.pc t .want, op := upd s.op t x, invN := upd s.invN t s.n } := by
  have hne : ∀ u, s.pc u = .inside → u ≠ t := fun u hu e => by rw [e, hpc] at hu; cases hu
  refine ⟨?_, ?_, ?_, ?_, h.nodup, h.commit, ?_, ?_, ?_, h.every⟩
  · intro u hu
    have := h.lockW u hu
    have hut := hne u this.1
    simp only [upd_ne hut]
    exact this
  · intro u hu
    obtain ⟨hut, hu⟩ := of_upd_pc (by decide) hu
    simp only [upd_ne hut]; exact h.insideW u hu
  · intro u hu
    obtain ⟨hut, hu⟩ := of_upd_pc (by decide) hu
    simp only [upd_ne hut]; exact h.insideR u hu
  · intro u hu
    have := h.rdrs u hu
    have hut := hne u this.1
    simp only [upd_ne hut]
    exact this
  · intro u hu
    obtain ⟨hut, hu⟩ := of_upd_pc (by decide) hu
    simp only [upd_ne hut]; exact h.inT u hu
  · intro u hu
    by_cases hut : u = t
    · subst hut; simp
    · simp only [upd_ne hut] at hu ⊢; exact h.wantT u hu
  · exact recs_frame h.recs rfl rfl rfl

theorem inv_acquireR (o : Obj σ L Op) (s : St σ L Op) (h : Inv o s) (t : Tid) (hpc : s.pc t = .want)
    (hr : o.isRead (s.op t) = true) (hw : s.writer = none) :
    Inv o { s with readers := t :: s.readers, pc := upd s.pc t .inside, loc := upd s.loc t (o.start (s.op t)),
                   snap := upd s.snap t s.sh, pos := upd s.pos t s.n } := by
  have hnot : t ∉ s.readers := fun hm => by have := (h.rdrs t hm).1; rw [hpc] at this; cases this
  refine ⟨?_, ?_, ?_, ?_, ?_, h.commit, ?_, ?_, ?_, h.every⟩
  · intro u hu; rw [hw] at hu; cases hu
  · intro u hu hru
    by_cases hut : u = t
    · subst hut; rw [hr] at hru; cases hru
    · simp only [upd_ne hut] at hu; exact h.insideW u hu hru
  · intro u hu hru
    by_cases hut : u = t
    · subst hut; simp
    · simp only [upd_ne hut] at hu
      exact List.mem_cons_of_mem _ (h.insideR u hu hru)
  · intro u hu
    by_cases hut : u = t
    · subst hut; simp [hr]
    · simp only [List.mem_cons, hut, false_or] at hu
      simp only [upd_ne hut]; exact h.rdrs u hu
  · exact List.nodup_cons.2 ⟨hnot, h.nodup⟩
  · intro u hu
    by_cases hut : u = t
    · subst hut
      simp only [upd_same]
      exact ⟨trivial, h.commit hw, h.wantT u hpc, Exec.refl _⟩
    · simp only [upd_ne hut] at hu ⊢; exact h.inT u hu
  · intro u hu
    obtain ⟨hut, hu⟩ := of_upd_pc (by decide) hu
    exact h.wantT u hu
  · exact recs_frame h.recs rfl rfl rfl

theorem inv_acquireW (o : Obj σ L Op) (s : St σ L Op) (h : Inv o s) (t : Tid) (hpc : s.pc t = .want)
    (hr : o.isRead (s.op t) = false) (hw : s.writer = none) (hrd : s.readers = []) :
    Inv o { s with writer := some t, pc := upd s.pc t .inside, loc := upd s.loc t (o.start (s.op t)),
                   snap := upd s.snap t s.sh, pos := upd s.pos t s.n } := by
  -- nobody is inside
  have hnone : ∀ u, s.pc u ≠ .inside := by
    intro u hu
    cases hru : o.isRead (s.op u) with
    | true => have := h.insideR u hu hru; rw [hrd] at this; cases this
    | false => have := h.insideW u hu hru; rw [hw] at this; cases this
  refine ⟨?_, ?_, ?_, ?_, h.nodup, ?_, ?_, ?_, ?_, h.every⟩
  · intro u hu
    cases hu
    simp [hr, hrd]
  · intro u hu _
    by_cases hut : u = t
    · subst hut; rfl
    · simp only [upd_ne hut] at hu; exact absurd hu (hnone u)
  · intro u hu hru
    by_cases hut : u = t
    · subst hut; rw [hr] at hru; cases hru
    · simp only [upd_ne hut] at hu; exact absurd hu (hnone u)
  · intro u hu; simp only [hrd] at hu; cases hu
  · intro hc; cases hc
  · intro u hu
    by_cases hut : u = t
    · subst hut
      simp only [upd_same]
      exact ⟨trivial, h.commit hw, h.wantT u hpc, Exec.refl _⟩
    · simp only [upd_ne hut] at hu; exact absurd hu (hnone u)
  · intro u hu
    obtain ⟨hut, hu⟩ := of_upd_pc (by decide) hu
    exact h.wantT u hu
  · exact recs_frame h.recs rfl rfl rfl

theorem inv_body (o : Obj σ L Op) (hp : ReadsPure o) (s : St σ L Op) (h : Inv o s) (t : Tid) (hpc : s.pc t = .inside)
    (l : L) (sh' : σ) (hb : o.body (s.op t) (s.loc t) s.sh = some (l, sh')) :
    Inv o { s with loc := upd s.loc t l, sh := sh' } := by
  cases hr : o.isRead (s.op t) with
  | true =>
    -- a reader: the shared state does not change
    have e : sh' = s.sh := hp _ _ _ _ _ hr hb
    subst e
    refine ⟨h.lockW, h.insideW, h.insideR, h.rdrs, h.nodup, h.commit, ?_, h.wantT, ?_, h.every⟩
    · intro u hu
      by_cases hut : u = t
      · subst hut
        obtain ⟨a, b, c, d⟩ := h.inT u hu
        simp only [upd_same]
        exact ⟨a, b, c, Exec.tail l s.sh d hb⟩
      · simp only [upd_ne hut]; exact h.inT u hu
    · exact recs_frame h.recs rfl rfl rfl
  | false =>
    have hw := h.insideW t hpc hr
    have honly := h.writer_alone hw
    refine ⟨h.lockW, h.insideW, h.insideR, h.rdrs, h.nodup, ?_, ?_, h.wantT, ?_, h.every⟩
    · intro hc; change s.writer = none at hc; rw [hw] at hc; cases hc
    · intro u hu
      have hut := honly u hu
      subst hut
      obtain ⟨a, b, c, d⟩ := h.inT u hu
      simp only [upd_same]
      exact ⟨a, b, c, Exec.tail l sh' d hb⟩
    · exact recs_frame h.recs rfl rfl rfl

/-- the record a call of `t` leaves when it returns with `retN` commits made -/
def retRec (s : St σ L Op) (t : Tid) (retN : Nat) : Rec σ L Op :=
  { tid := t, op := s.op t, invN := s.invN t, pos := s.pos t, retN := retN, pre := s.snap t, post := s.sh, res := s.loc t }

theorem inv_releaseR (o : Obj σ L Op) (s : St σ L Op) (h : Inv o s) (t : Tid) (hpc : s.pc t = .inside)
    (hb : o.body (s.op t) (s.loc t) s.sh = none) (hr : o.isRead (s.op t) = true) :
    Inv o { s with readers := s.readers.erase t, pc := upd s.pc t .idle, rets := retRec s t s.n :: s.rets } := by
  have hmem := h.insideR t hpc hr
  have hwn := h.no_writer hmem
  obtain ⟨i1, i2, i3, i4⟩ := h.inT t hpc
  refine ⟨?_, ?_, ?_, ?_, h.nodup.erase t, h.commit, ?_, ?_, ?_, ?_⟩
  · intro u hu; change s.writer = some u at hu; rw [hwn] at hu; cases hu
  · intro u hu hru
    obtain ⟨hut, hu⟩ := of_upd_pc (by decide) hu
    exact h.insideW u hu hru
  · intro u hu hru
    obtain ⟨hut, hu⟩ := of_upd_pc (by decide) hu
    exact (List.mem_erase_of_ne hut).2 (h.insideR u hu hru)
  · intro u hu
    have hut : u ≠ t := fun e => by subst e; exact (h.nodup.mem_erase_iff.1 hu).1 rfl
    simp only [upd_ne hut]
    exact h.rdrs u (List.mem_of_mem_erase hu)
  · exact fun u hu => h.inT u (of_upd_pc (by decide) hu).2
  · exact fun u hu => h.wantT u (of_upd_pc (by decide) hu).2
  · intro r hr'
    simp only [List.mem_cons] at hr'
    rcases hr' with e | hr'
    · subst e
      have hw0 : (retRec s t s.n).w o = 0 := by simp [Rec.w, retRec, hr]
      refine ⟨?_, ?_, ⟨i4, hb⟩, ?_, ?_, Nat.le_refl _⟩
      · show s.snap t = s.hist (s.pos t); rw [i1, i2]
      · show s.sh = s.hist (s.pos t + _); rw [hw0, i1, Nat.add_zero]; exact h.commit hwn
      · show s.invN t ≤ s.pos t; rw [i1]; exact i3
      · show s.pos t + _ ≤ s.n; rw [hw0, i1]; exact Nat.le_refl _
    · exact (h.recs r hr').mono (fun _ _ => rfl) (Nat.le_refl _)
  · intro i hi
    obtain ⟨r, hr1, hr2⟩ := h.every i hi
    exact ⟨r, List.mem_cons_of_mem _ hr1, hr2⟩

theorem inv_releaseW (o : Obj σ L Op) (s : St σ L Op) (h : Inv o s) (t : Tid) (hpc : s.pc t = .inside)
    (hb : o.body (s.op t) (s.loc t) s.sh = none) (hr : o.isRead (s.op t) = false) :
    Inv o { s with writer := none, pc := upd s.pc t .idle, n := s.n + 1, hist := upd s.hist (s.n + 1) s.sh,
                   rets := retRec s t (s.n + 1) :: s.rets } := by
  have hw := h.insideW t hpc hr
  have hrd := (h.lockW t hw).2.2
  -- the writer was alone inside, so after its release nobody is
  have gone : ∀ u, upd s.pc t .idle u ≠ .inside := fun u hu =>
    let ⟨hut, hu⟩ := of_upd_pc (by decide) hu; hut (h.writer_alone hw u hu)
  obtain ⟨i1, i2, i3, i4⟩ := h.inT t hpc
  have hold : ∀ j, j ≤ s.n → upd s.hist (s.n + 1) s.sh j = s.hist j := fun j hj => upd_ne (by omega)
  refine ⟨?_, ?_, ?_, ?_, h.nodup, ?_, ?_, ?_, ?_, ?_⟩
  · intro u hu; cases hu
  · exact fun u hu _ => absurd hu (gone u)
  · exact fun u hu _ => absurd hu (gone u)
  · intro u hu; change u ∈ s.readers at hu; rw [hrd] at hu; cases hu
  · intro _; show s.sh = upd s.hist (s.n + 1) s.sh (s.n + 1); simp
  · exact fun u hu => absurd hu (gone u)
  · intro u hu
    obtain ⟨hut, hu⟩ := of_upd_pc (by decide) hu
    have := h.wantT u hu
    show s.invN u ≤ s.n + 1
    omega
  · intro r hr'
    simp only [List.mem_cons] at hr'
    rcases hr' with e | hr'
    · subst e
      have hw1 : (retRec s t (s.n + 1)).w o = 1 := by simp [Rec.w, retRec, hr]
      refine ⟨?_, ?_, ⟨i4, hb⟩, ?_, ?_, Nat.le_refl _⟩
      · show s.snap t = upd s.hist (s.n + 1) s.sh (s.pos t); rw [i1, hold _ (Nat.le_refl _), i2]
      · show s.sh = upd s.hist (s.n + 1) s.sh (s.pos t + _); rw [hw1, i1]; simp
      · show s.invN t ≤ s.pos t; rw [i1]; exact i3
      · show s.pos t + _ ≤ s.n + 1; rw [hw1, i1]; exact Nat.le_refl _
    · exact (h.recs r hr').mono hold (Nat.le_succ _)
  · intro i hi
    by_cases hin : i < s.n
    · obtain ⟨r, hr1, hr2⟩ := h.every i hin
      exact ⟨r, List.mem_cons_of_mem _ hr1, hr2⟩
    · have : i = s.n := by change i < s.n + 1 at hi; omega
      subst this
      exact ⟨_, List.mem_cons_self, hr, i1⟩

theorem inv_step (o : Obj σ L Op) (hp : ReadsPure o) {s s' : St σ L Op} {t : Tid} {x : Op} (h : Inv o s)
    (hs : step o s t x = some s') : Inv o s' := by
  unfold step at hs
  split at hs
  · next hpc => cases hs; exact inv_invoke o s h t x hpc
  · next hpc =>
    split at hs
    · next hr =>
      split at hs
      · next hw => cases hs; exact inv_acquireR o s h t hpc hr hw
      · cases hs
    · next hr =>
      split at hs
      · next hw => cases hs; exact inv_acquireW o s h t hpc (by simpa using hr) hw.1 hw.2
      · cases hs
  · next hpc =>
    split at hs
    · next l sh' hb => cases hs; exact inv_body o hp s h t hpc l sh' hb
    · next hb =>
      split at hs
      · next hr => cases hs; exact inv_releaseR o s h t hpc hb hr
      · next hr => cases hs; exact inv_releaseW o s h t hpc hb (by simpa using hr)

theorem inv_reach (o : Obj σ L Op) (hp : ReadsPure o) {s0 : σ} {o0 : Op} {l0 : L} {s : St σ L Op}
    (h : Reach o s0 o0 l0 s) : Inv o s := by
  induction h with
  | init => exact inv_init o s0 o0 l0
  | step t x _ hs ih => exact inv_step o hp ih hs

theorem n_mono (o : Obj σ L Op) {s s' : St σ L Op} {t : Tid} {x : Op} (hs : step o s t x = some s') :
    s.n ≤ s'.n ∧ ∀ i, i ≤ s.n → s'.hist i = s.hist i := by
  unfold step at hs
  split at hs
  · cases hs; exact ⟨Nat.le_refl _, fun _ _ => rfl⟩
  · split at hs
    · split at hs
      · cases hs; exact ⟨Nat.le_refl _, fun _ _ => rfl⟩
      · cases hs
    · split at hs
      · cases hs; exact ⟨Nat.le_refl _, fun _ _ => rfl⟩
      · cases hs
  · split at hs
    · cases hs; exact ⟨Nat.le_refl _, fun _ _ => rfl⟩
    · split at hs
      · cases hs; exact ⟨Nat.le_refl _, fun _ _ => rfl⟩
      · cases hs; exact ⟨Nat.le_succ _, fun i hi => upd_ne (by omega)⟩

theorem hist0 (o : Obj σ L Op) {s0 : σ} {o0 : Op} {l0 : L} {s : St σ L Op} (h : Reach o s0 o0 l0 s) : s.hist 0 = s0 := by
  induction h with
  | init => rfl
  | step t x _ hs ih => rw [(n_mono o hs).2 0 (Nat.zero_le _)]; exact ih

theorem Exec.trans' {o : Obj σ L Op} {op : Op} {a b c : L × σ} (h1 : Exec o op a b) (h2 : Exec o op b c) : Exec o op a c := by
  induction h2 with
  | refl => exact h1
  | tail l sh _ hb ih => exact Exec.tail l sh ih hb

/-- head-first view of an execution -/
theorem Exec.head (o : Obj σ L Op) (op : Op) {a c : L × σ} (l : L) (sh : σ) (hb : o.body op a.1 a.2 = some (l, sh))
    (h : Exec o op (l, sh) c) : Exec o op a c :=
  Exec.trans' (Exec.tail l sh (Exec.refl a) hb) h

theorem Exec.cases_head (o : Obj σ L Op) (op : Op) {a c : L × σ} (h : Exec o op a c) :
    a = c ∨ ∃ l sh, o.body op a.1 a.2 = some (l, sh) ∧ Exec o op (l, sh) c := by
  induction h with
  | refl => exact Or.inl rfl
  | tail l sh h' hb ih =>
    rcases ih with e | ⟨l1, sh1, hb1, h1⟩
    · subst e; exact Or.inr ⟨l, sh, hb, Exec.refl _⟩
    · exact Or.inr ⟨l1, sh1, hb1, Exec.tail l sh h1 hb⟩

/-- an execution that has ended at `b` passes through everything reachable from its start (the body is a function) -/
theorem Exec.to_end (o : Obj σ L Op) (op : Op) {a b c : L × σ} (h1 : Exec o op a b) (hb : o.body op b.1 b.2 = none)
    (h2 : Exec o op a c) : Exec o op c b := by
  induction h2 with
  | refl => exact h1
  | tail l sh _ hc ih =>
    rcases Exec.cases_head o op ih with e | ⟨l1, sh1, hb1, h⟩
    · subst e; rw [hb] at hc; cases hc
    · rw [hc] at hb1; cases hb1; exact h

theorem Exec.det (o : Obj σ L Op) (op : Op) {a b c : L × σ} (h1 : Exec o op a b) (hb : o.body op b.1 b.2 = none)
    (h2 : Exec o op a c) (hc : o.body op c.1 c.2 = none) : b = c := by
  rcases Exec.cases_head o op (Exec.to_end o op h1 hb h2) with e | ⟨l1, sh1, hb1, _⟩
  · exact e.symm
  · rw [hc] at hb1; cases hb1

theorem Solo.unique {o : Obj σ L Op} {op : Op} {pre : σ} {res0 res : L} {post0 post : σ}
    (h0 : Solo o op pre res0 post0) (h : Solo o op pre res post) : res = res0 ∧ post = post0 := by
  have := Exec.det o op h.1 h.2 h0.1 h0.2
  exact ⟨congrArg Prod.fst this, congrArg Prod.snd this⟩

end GoZero.C16.Conc
