/-
C18 — Tie: what the extractor reads from the go-zero working tree at every build equals what the model was written against.
A failing obligation here means the code moved away from the model (or the fix in fixes/ is not applied).
-/
import GoZero.Extracted.C18
import GoZero.C18.Proofs
namespace GoZero.C18.Tie
open GoZero.C18
open GoZero.Extracted.C18

theorem extraction_clean : extractionErrors = [] := rfl

/-- the seven registered claim names `Authorize` drops are the model's `standardClaims` -/
theorem tie_standardClaims :
    [jwtAudience, jwtExpire, jwtId, jwtIssueAt, jwtIssuer, jwtNotBefore, jwtSubject] = standardClaims := rfl

theorem tie_resetDuration : claimHistoryResetDuration = ({} : Hist).resetDuration := rfl

/-- 24 h, the property's number -/
theorem tie_resetDuration_24h : claimHistoryResetDuration = 24 * 3600 * 1000000000 := by decide

theorem tie_headerNames : contentSecurityHeader = "X-Content-Security" ∧ httpxContentSecurity = "X-Content-Security"
    ∧ requestUriHeader = "X-Request-Uri" := ⟨rfl, rfl, rfl⟩

/-- the field names `parseContentSecurity` looks up -/
theorem tie_fieldNames : keyField = "key" ∧ secretField = "secret" ∧ signatureField = "signature"
    ∧ timeField = "time" ∧ typeField = "type" := ⟨rfl, rfl, rfl, rfl, rfl⟩

theorem tie_cryptionType : cryptionType = 1 := rfl

/-- the codes `verifySignature` returns -/
theorem tie_codes : codeSignaturePass = 0 ∧ codeSignatureInvalidHeader = 1 ∧ codeSignatureWrongTime = 2
    ∧ codeSignatureInvalidToken = 3 := ⟨rfl, rfl, rfl, rfl⟩

/-- `maxBytes` here is the model's constant: in this namespace the bare name resolves to `GoZero.C18.maxBytes` before the opened
`Extracted.C18.maxBytes`. What ties the source's constant is `tie_maxBytes_model`. -/
theorem tie_maxBytes : maxBytes = 1048576 := rfl

/-- `seconds+toleranceSeconds < now || now+toleranceSeconds < seconds` is the model's window. Both sides add in `Int`; Go adds
`int64`, so for a negative tolerance and a timestamp within that distance of the int64 minimum the Go sum wraps and the
two differ. -/
theorem tie_outsideWindow (s t n : Int) : Extracted.C18.outsideWindow s t n = GoZero.C18.outsideWindow s t n := rfl

/-- the window is `|now − seconds| ≤ tolerance` -/
theorem window_is_tolerance (s t n : Int) :
    GoZero.C18.outsideWindow s t n = false ↔ (n - s ≤ t ∧ s - n ≤ t) := by
  unfold GoZero.C18.outsideWindow
  simp only [Bool.or_eq_false_iff, decide_eq_false_iff_not]
  omega

/-- the rejection test of `pkcs5Unpadding`, on naturals (the condition the model's `unpad` writes out) -/
theorem tie_unpadRejects (u len bs : Nat) :
    unpadRejects u len bs = decide (u > len ∨ u > bs) := by
  unfold unpadRejects
  congr 1 <;> simp

theorem tie_unpadKeep (len u : Nat) (h : u ≤ len) : unpadKeep len u = ((len - u : Nat) : Int) := by
  unfold unpadKeep; omega

/-- `padding := blockSize - len%blockSize` is the model's pad length -/
theorem tie_padLen (bs len : Nat) (hbs : 0 < bs) : padLen bs len = ((bs - len % bs : Nat) : Int) := by
  unfold padLen
  rw [Int.tmod_eq_emod_of_nonneg (by omega)]
  have h := Nat.le_of_lt (Nat.mod_lt len hbs)
  omega

theorem tie_lengthExceeded (limit cl : Int) : lengthExceeded limit cl = decide (limit > 0 ∧ cl > limit) := by
  unfold lengthExceeded
  simp [Bool.decide_and]

/-- `count > prevCount` chooses the current secret first — the model's `firstSecond` -/
theorem tie_currentFirst (h : Hist) (secret prev : String) :
    firstSecond h secret prev =
      if currentFirst (h.count secret) (h.count prev) then (secret, prev) else (prev, secret) := by
  unfold firstSecond currentFirst
  by_cases hc : h.count secret > h.count prev
  · simp [hc]
  · simp [hc]

theorem tie_historyExpired (rt rd now : Int) : historyExpired rt rd now = decide (rt + rd < now) := rfl

/-- `Authorize`: ParseToken → on error / `!tok.Valid` / claims not a map: `unauthorized` and return; the switch that drops the seven registered claim names; `next.ServeHTTP` last -/
theorem tie_authorizeShape : authorizeShape =
    ["range opts {", "call opt", "}", "call token.NewTokenParser", "func{", "func{", "call parser.ParseToken",
     "if err != nil {", "call unauthorized", "return", "}", "if !tok.Valid {", "call unauthorized", "return",
     "}", "if !ok {", "call unauthorized", "return", "}", "call r.Context", "range claims {", "switch k {",
     "case jwtAudience, jwtExpire, jwtId, jwtIssueAt, jwtIssuer, jwtNotBefore, jwtSubject:", "default:",
     "call context.WithValue", "}", "}", "call r.WithContext", "call next.ServeHTTP", "}",
     "call http.HandlerFunc", "return", "}", "return"] := rfl

/-- `unauthorized`: callback first, then `WriteHeader` (401) on the header-once writer -/
theorem tie_unauthorizedShape : unauthorizedShape =
    ["call response.NewHeaderOnceResponseWriter", "if err != nil {", "call err.Error", "call detailAuthLog",
     "}", "else{", "call detailAuthLog", "}", "if callback != nil {", "call callback", "}",
     "call writer.WriteHeader"] := rfl

/-- `ParseToken`: two counts, the first/second choice, second attempt only after the first failed, increment of the one that succeeded; single attempt without previous secret -/
theorem tie_parseTokenShape : parseTokenShape =
    ["if len(prevSecret) > 0 {", "call tp.loadCount", "call tp.loadCount", "if count > prevCount {", "}",
     "else{", "}", "call tp.doParseToken", "if err != nil {", "call tp.doParseToken", "if err != nil {",
     "return", "}", "call tp.incrementCount", "}", "else{", "call tp.incrementCount", "}", "}", "else{",
     "call tp.doParseToken", "if err != nil {", "return", "}", "}", "return"] := rfl

/-- `doParseToken`: `request.ParseFromRequest` with the key function returning the secret bytes and go-zero's parser -/
theorem tie_doParseTokenShape : doParseTokenShape =
    ["func{", "call ?", "return", "}", "call request.WithParser", "call request.ParseFromRequest", "return"] := rfl

/-- `newParser`: `jwt.NewParser(jwt.WithJSONNumber())` — no option that skips claims validation or restricts nothing -/
theorem tie_newParserShape : newParserShape =
    ["call jwt.WithJSONNumber", "call jwt.NewParser", "return"] := rfl

/-- `incrementCount`: reset test, delete-all, then add or store -/
theorem tie_incrementCountShape : incrementCountShape =
    ["call timex.Now", "if tp.resetTime+tp.resetDuration < now {", "func{", "call tp.history.Delete", "return",
     "}", "call tp.history.Range", "}", "call tp.history.Load", "if ok {", "call atomic.AddUint64", "}",
     "else{", "call tp.history.Store", "}"] := rfl

/-- `LimitContentSecurityHandler`: the method switch (DELETE, GET, POST, PUT), parse → verify → cryption (any request
with a body, `ContentLength != 0`, after fixes/C18-chunked-body.patch) or next; `default:` calls next -/
theorem tie_contentSecurityShape : contentSecurityShape =
    ["if len(callbacks) == 0 {", "}", "func{", "func{", "switch r.Method {",
     "case http.MethodDelete, http.MethodGet, http.MethodPost, http.MethodPut:",
     "call security.ParseContentSecurity", "if err != nil {", "call r.Context", "call r.Header.Get",
     "call err.Error", "call logc.Errorf", "call executeCallbacks", "}", "else{",
     "call security.VerifySignature", "if code != httpx.CodeSignaturePass {", "call r.Context",
     "call r.Header.Get", "call logc.Errorf", "call executeCallbacks", "}", "else{",
     "if r.ContentLength != 0 && header.Encrypted() {", "call ?",
     "call LimitCryptionHandler(limitBytes, header.Key)(next).ServeHTTP", "}", "else{", "call next.ServeHTTP",
     "}", "}", "}", "default:", "call next.ServeHTTP", "}", "}", "call http.HandlerFunc", "return", "}",
     "return"] := rfl

theorem tie_executeCallbacksShape : executeCallbacksShape =
    ["range callbacks {", "call callback", "}"] := rfl

/-- `handleVerificationFailure`: strict ⇒ `WriteHeader` (403) and nothing else -/
theorem tie_verificationFailureShape : verificationFailureShape =
    ["if strict {", "call w.WriteHeader", "}", "else{", "call next.ServeHTTP", "}"] := rfl

/-- `ParseContentSecurity`: empty-field test, decrypter lookup, decrypt, second ParseHeader, key decoding, Atoi -/
theorem tie_parseContentSecurityShape : parseContentSecurityShape =
    ["call r.Header.Get", "call httpx.ParseHeader",
     "if len(fingerprint) == 0 || len(secret) == 0 || len(signature) == 0 {", "return", "}", "if !ok {",
     "return", "}", "call decrypter.DecryptBase64", "if err != nil {", "return", "}", "call httpx.ParseHeader",
     "call base64.StdEncoding.DecodeString", "if err != nil {", "return", "}", "if err != nil {", "return",
     "}", "return"] := rfl

/-- `VerifySignature`: ParseInt, window, getPathQuery, body digest, HmacBase64, comparison -/
theorem tie_verifySignatureShape : verifySignatureShape =
    ["if err != nil {", "return", "}", "call tolerance.Seconds",
     "if seconds+toleranceSeconds < now || now+toleranceSeconds < seconds {", "return", "}",
     "call getPathQuery", "call computeBodySignature", "call codec.HmacBase64",
     "if securityHeader.Signature == actualSignature {", "return", "}", "call r.Context", "call logc.Infof",
     "return"] := rfl

/-- `computeBodySignature`: duplicate the body, hash one copy, put the other back -/
theorem tie_bodySignatureShape : bodySignatureShape =
    ["call iox.DupReadCloser", "store r.Body", "call sha256.New", "call io.Copy", "store r.Body",
     "call sha.Sum", "return"] := rfl

def isBranch (st : String) : Bool :=
  (st.toList.take 3 == "if ".toList) || (st.toList.take 7 == "switch ".toList) || st == "else{"

/-- `computeBodySignature` does not branch at all — in particular not on `r.ContentLength`, `r.Body == nil` or the
method: whatever `r.Body` yields is hashed (the model's `bodySignature` takes the body bytes only) -/
theorem tie_bodySignature_unconditional : bodySignatureShape.all (fun st => !isBranch st) = true := by decide +kernel

/-- it returns the lower-case hex text of the digest -/
theorem tie_bodySignatureReturns : bodySignatureReturns = ["fmt.Sprintf(\"%x\", sha.Sum(nil))"] := rfl

/-- `iox.DupReadCloser`: a tee of the body into a buffer, and that buffer — both readers yield the same bytes, one
after the other (the hash reads the tee to its end first) -/
theorem tie_dupReadCloser : dupReadCloserShape = ["call io.TeeReader", "call io.NopCloser", "call io.NopCloser", "return"]
    ∧ dupReadCloserReturns = ["io.NopCloser(tee), io.NopCloser(&buf)"] := ⟨rfl, rfl⟩

/-- `ContentSecurityHeader.Encrypted` is `ContentType == CryptionType` (= 1, `tie_cryptionType`) -/
theorem tie_encryptedReturns : encryptedReturns = ["h.ContentType == httpx.CryptionType"] := rfl

/-- `httpx.ParseHeader`: fields separated by `;`, empty ones skipped, those that do not split into two at the first
`=` skipped, assignment into the map in order (the last one wins) -/
theorem tie_parseHeaderShape : parseHeaderShape =
    ["range fields {", "if len(field) == 0 {", "continue", "}", "if len(kv) != tokensInAttribute {", "continue", "}",
     "mapset ret", "}", "return"] ∧ headerSeparator = ";" ∧ tokensInAttribute = 2 := ⟨rfl, rfl, rfl⟩

/-- `TokenParser.loadCount`: the stored counter, 0 for an unknown secret -/
theorem tie_loadCountShape : loadCountShape = ["call tp.history.Load", "if ok {", "return", "}", "return"] := rfl

/-- what `getPathQuery` returns on its three paths: the request's own path/query twice, the header's once -/
theorem tie_getPathQueryReturns : getPathQueryReturns =
    ["r.URL.Path, r.URL.RawQuery", "r.URL.Path, r.URL.RawQuery", "uri.Path, uri.RawQuery"] := rfl

/-- `getPathQuery`: header empty or unparsable ⇒ the request's own path/query -/
theorem tie_getPathQueryShape : getPathQueryShape =
    ["call r.Header.Get", "if len(requestUri) == 0 {", "return", "}", "call url.Parse", "if err != nil {",
     "return", "}", "return"] := rfl

/-- `LimitCryptionHandler` (after fixes/C18-chunked-body.patch): deferred flush; `ContentLength == 0` ⇒ next;
decrypt error ⇒ 400 and return; next -/
theorem tie_cryptionShape : cryptionShape =
    ["func{", "func{", "defer{", "call r.Context", "call cw.flush", "}", "if r.ContentLength == 0 {",
     "call next.ServeHTTP", "return", "}", "call decryptBody", "if err != nil {", "call w.WriteHeader",
     "return", "}", "call next.ServeHTTP", "}", "call http.HandlerFunc", "return", "}", "return"] := rfl

/-- `decryptBody` (after the fix): limit test; a declared length is read in full, an unknown one up to the limit
(`maxBytes` without one) with a probe for more; nothing read ⇒ nothing to decrypt; base64, EcbDecrypt, replace body -/
theorem tie_decryptBodyShape : decryptBodyShape =
    ["if limitBytes > 0 && r.ContentLength > limitBytes {", "return", "}", "if r.ContentLength > 0 {",
     "call io.ReadFull", "}", "else{", "if max <= 0 {", "}", "call io.LimitReader", "call io.ReadAll",
     "if err == nil && int64(len(content)) == max {", "call io.ReadFull", "if n > 0 {", "}", "}", "}",
     "if err != nil {", "return", "}", "if len(content) == 0 {", "return", "}",
     "call base64.StdEncoding.DecodeString", "if err != nil {", "return", "}",
     "call codec.EcbDecrypt", "if err != nil {", "return", "}", "call buf.Write", "call io.NopCloser",
     "store r.Body", "return"] := rfl

/-- the framing tests, this one and the two below, are the conditions the model writes out: `cl = 0` no body, `cl > 0`
declared length, otherwise unknown length with the cap `if limit > 0 then limit else maxBytes` -/
theorem tie_noBodyGate (cl : Int) : noBodyGate cl = decide (cl = 0) := rfl

theorem tie_declaredLength (cl : Int) : declaredLength cl = decide (cl > 0) := rfl

theorem tie_noLimitConfigured (limit : Int) :
    (if noLimitConfigured limit then GoZero.C18.maxBytes else limit) = (if limit > 0 then limit else GoZero.C18.maxBytes) := by
  rw [← unknownCap_eq]
  simp [noLimitConfigured, unknownCap]

theorem tie_maxBytes_model : Extracted.C18.maxBytes = GoZero.C18.maxBytes := rfl

/-- `flush`: nothing for an empty buffer; EcbEncrypt error ⇒ 500; base64; write -/
theorem tie_flushShape : flushShape =
    ["if w.buf.Len() == 0 {", "return", "}", "call w.buf.Bytes", "call codec.EcbEncrypt", "if err != nil {",
     "call w.WriteHeader", "return", "}", "call base64.StdEncoding.EncodeToString", "call io.WriteString",
     "if err != nil {", "call logc.Errorf", "}", "else{", "if n < len(body) {", "call logc.Errorf", "}", "}"] := rfl

/-- `cryptionResponseWriter.Write` buffers -/
theorem tie_cwWriteShape : cwWriteShape =
    ["call w.buf.Write", "return"] := rfl

/-- `EcbEncrypt`: NewCipher, pad, CryptBlocks -/
theorem tie_ecbEncryptShape : ecbEncryptShape =
    ["call aes.NewCipher", "if err != nil {", "return", "}", "call block.BlockSize", "call pkcs5Padding",
     "call NewECBEncrypter", "call encrypter.CryptBlocks", "return"] := rfl

/-- `EcbDecrypt`: NewCipher, CryptBlocks, unpad -/
theorem tie_ecbDecryptShape : ecbDecryptShape =
    ["call aes.NewCipher", "if err != nil {", "return", "}", "call NewECBDecrypter",
     "call decrypter.CryptBlocks", "call decrypter.BlockSize", "call pkcs5Unpadding", "return"] := rfl

theorem tie_pkcs5PaddingShape : pkcs5PaddingShape =
    ["call byte", "call bytes.Repeat", "return"] := rfl

/-- `pkcs5Unpadding` (after fixes/C18-unpad-empty.patch): empty input ⇒ error; the rejection test; the slice -/
theorem tie_pkcs5UnpaddingShape : pkcs5UnpaddingShape =
    ["if length == 0 {", "return", "}", "if unpadding > length || unpadding > blockSize {", "return", "}",
     "return"] := rfl

theorem tie_hmacShape : hmacShape =
    ["call hmac.New", "call io.WriteString", "call h.Sum", "return"] := rfl

theorem tie_hmacBase64Shape : hmacBase64Shape =
    ["call Hmac", "call base64.StdEncoding.EncodeToString", "return"] := rfl

/-- `rsaBase.crypt`: pieces of `bytesLimit` bytes -/
theorem tie_rsaCryptShape : rsaCryptShape =
    ["for i*r.bytesLimit < inputLen {", "if r.bytesLimit*(i+1) > inputLen {", "}", "else{", "}",
     "call cryptFn", "if err != nil {", "return", "}", "}", "return"] := rfl

theorem tie_rsaDecryptBase64Shape : rsaDecryptBase64Shape =
    ["if len(input) == 0 {", "return", "}", "call base64.StdEncoding.DecodeString", "if err != nil {",
     "return", "}", "call r.Decrypt", "return"] := rfl

/-- `engine.appendAuthHandler`: jwt enabled ⇒ `Authorize` (with the previous secret when configured) appended; then the signature verifier -/
theorem tie_appendAuthHandlerShape : appendAuthHandlerShape =
    ["if fr.jwt.enabled {", "if len(fr.jwt.prevSecret) == 0 {", "call handler.WithUnauthorizedCallback",
     "call handler.Authorize", "call chn.Append", "}", "else{", "call handler.WithPrevSecret",
     "call handler.WithUnauthorizedCallback", "call handler.Authorize", "call chn.Append", "}", "}",
     "call verifier", "return"] := rfl

/-- `engine.signatureVerifier`: strict without keys is a configuration error; otherwise `LimitContentSecurityHandler` with the route's strictness -/
theorem tie_signatureVerifierShape : signatureVerifierShape =
    ["if !signature.enabled {", "func{", "return", "}", "return", "}", "if len(signature.PrivateKeys) == 0 {",
     "if signature.Strict {", "return", "}", "func{", "return", "}", "return", "}",
     "range signature.PrivateKeys {", "call codec.NewRsaDecrypter", "if err != nil {", "return", "}",
     "mapset decrypters", "}", "func{", "if ng.unsignedCallback == nil {",
     "call handler.LimitContentSecurityHandler", "call chn.Append", "return", "}",
     "call handler.LimitContentSecurityHandler", "call chn.Append", "return", "}", "return"] := rfl

/-- the signed text: timestamp, method, path, query, body digest, joined by line feeds -/
theorem tie_signContentParts : signContentParts =
    ["securityHeader.Timestamp", "r.Method", "reqPath", "reqQuery", "computeBodySignature(r)", "sep=\"\\n\""] := rfl

end GoZero.C18.Tie
