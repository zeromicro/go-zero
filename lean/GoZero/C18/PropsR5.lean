/-
C18 — the decrypters of a route group (no key of another group is ever accepted), the option list of `Authorize`, the converse
direction (valid credentials reach the handler), `restMonitor` on the model, user callbacks of the signature gate, a route
behind both gates, configuration errors failing closed.
-/
import GoZero.C18.PropsRest
namespace GoZero.C18

/-- the step of the fold in `loadDecrypters`, named so that lemmas can speak of a fold that has already failed or already holds
some entries (`tie_loadDecrypters` is `rfl` against the model's inline lambda) -/
def ldStep {D : Type} (load : String → Option D) (acc : Option (List (String × D))) (k : KeyConf) :
    Option (List (String × D)) :=
  acc.bind fun m => (load k.2).map fun d => m ++ [(k.1, d)]

theorem loadDecrypters_eq {D : Type} (load : String → Option D) (keys : List KeyConf) :
    loadDecrypters load keys = keys.foldl (ldStep load) (some []) := rfl

theorem loadDecrypters_failed_stays_failed {D : Type} (load : String → Option D) (keys : List KeyConf) :
    keys.foldl (ldStep load) none = none := by
  induction keys with
  | nil => rfl
  | cons k ks ih => simpa [List.foldl, ldStep] using ih

theorem loadDecrypters_fingerprints_from {D : Type} (load : String → Option D) (keys : List KeyConf) (m0 m : List (String × D))
    (h : keys.foldl (ldStep load) (some m0) = some m) : m.map (·.1) = m0.map (·.1) ++ keys.map (·.1) := by
  induction keys generalizing m0 with
  | nil => cases h; simp
  | cons k ks ih =>
    cases hl : load k.2 with
    | none => simp [ldStep, hl, loadDecrypters_failed_stays_failed] at h
    | some d =>
      simp only [List.foldl_cons, ldStep, hl, Option.bind_some, Option.map_some] at h
      simp [ih _ h]

/-- the map a group's gate is handed has exactly one entry per key of the group's OWN list, in order: nothing else
(nothing of the engine, nothing of another group) is in it -/
theorem loadDecrypters_fingerprints {D : Type} (load : String → Option D) (keys : List KeyConf) (m : List (String × D))
    (h : loadDecrypters load keys = some m) : m.map (·.1) = keys.map (·.1) := by
  rw [loadDecrypters_eq] at h
  simpa using loadDecrypters_fingerprints_from load keys [] m h

/-- a fingerprint the group did not configure has no decrypter — whichever other group of the server configured it -/
theorem foreign_fingerprint_has_no_decrypter {D : Type} (load : String → Option D) (keys : List KeyConf)
    (m : List (String × D)) (fp : String) (hfp : fp ∉ keys.map (·.1)) (h : loadDecrypters load keys = some m) :
    decrypterOf m fp = none := by
  unfold decrypterOf
  rw [List.find?_eq_none.mpr, Option.map_none]
  intro x hx hxe
  exact hfp (loadDecrypters_fingerprints load keys m h ▸ List.mem_map.mpr ⟨x, by simpa using hx, by simpa using hxe⟩)

/-- a fingerprint configured twice: the later key file is the one in force -/
theorem decrypterOf_last_wins {D : Type} (m : List (String × D)) (fp : String) (d : D) :
    decrypterOf (m ++ [(fp, d)]) fp = some d := by
  simp [decrypterOf]

/-- the decrypters of every group of a server: each loaded from ITS OWN key list -/
def serverDecrypters {D : Type} (load : String → Option D) (groups : List (List KeyConf)) :
    List (Option (List (String × D))) := groups.map (loadDecrypters load)

/-- non-interference: what group `i` verifies against does not depend on which other groups the server has, nor on
their keys, nor on the order in which they were added -/
theorem decrypters_of_a_group_ignore_the_other_groups {D : Type} (load : String → Option D)
    (gs1 gs2 : List (List KeyConf)) (i j : Nat) (h : gs1[i]? = gs2[j]?) :
    (serverDecrypters load gs1)[i]? = (serverDecrypters load gs2)[j]? := by
  simp [serverDecrypters, h]

/-- the gate of a group, strict, for a method it checks: a header whose fingerprint is not one of the GROUP's own is
refused with 403 and the handler does not run — for every secret, signature, body and framing, and whatever RSA does -/
theorem cs_rejects_fingerprint_of_another_group {D : Type} (C : BlockCipher) (env : CsEnv) (cfg : CsCfg) (req : CsReq)
    (inner : Inner) (load : String → Option D) (dec : D → String → Option String) (keys : List KeyConf)
    (m : List (String × D)) (hload : loadDecrypters load keys = some m) (henv : env.rsa = groupRsa dec m)
    (hstrict : cfg.strict = true) (hg : gatedMethods.contains req.method = true)
    (hfp : (headerTriple req).1 ∉ keys.map (·.1)) :
    contentSecurity C env cfg req inner = { ran := false, status := 403 } := by
  have hno := foreign_fingerprint_has_no_decrypter load keys m _ hfp hload
  -- the header does not parse: its fingerprint has no decrypter
  have hn : ¬ ∃ h, Verified env cfg req h := by
    rintro ⟨h, hp, _⟩
    unfold parseContentSecurity at hp
    simp only [henv, groupRsa, hno] at hp
    split at hp <;> cases hp
  rw [contentSecurity_unverified C inner hg hn, hstrict]
  rfl

/-- END TO END, for a server with ANY groups: a route of group `i` registered `WithSignature` (strict, with keys) — any base
chain, any middlewares, any other options — does not run its handler for a request whose header names a fingerprint that
is not among group `i`'s own keys — whatever the other groups of the server configured. -/
theorem rest_signed_route_rejects_key_of_another_group {D : Type} (custom : Option (List String)) (mw : MwConf)
    (opts : List RouteOption) (uses chn : List String) (C : BlockCipher) (env : CsEnv) (cfg : CsCfg) (req : CsReq)
    (inner : Inner) (others : String → Option Nat) (load : String → Option D) (dec : D → String → Option String)
    (groups : List (List KeyConf)) (i : Nat) (keys : List KeyConf) (m : List (String × D))
    (hi : groups[i]? = some keys) (hload : (serverDecrypters load groups)[i]? = some (some m))
    (henv : env.rsa = groupRsa dec m)
    (hs : (applyOptions opts).sig = true) (hk : (applyOptions opts).sigKeys = true)
    (hstrict : cfg.strict = true) (hg : gatedMethods.contains req.method = true)
    (hfp : (headerTriple req).1 ∉ keys.map (·.1))
    (hb : bindRoute custom mw (applyOptions opts) uses = some chn) :
    (runChain (fun n => if n = contentSecurityName then respVerdict (contentSecurity C env cfg req inner)
                        else others n) chn).ran = false := by
  have hl : loadDecrypters load keys = some m := by
    simp only [serverDecrypters, List.getElem?_map, hi, Option.map_some] at hload
    exact Option.some.inj hload
  have hrej := cs_rejects_fingerprint_of_another_group C env cfg req inner load dec keys m hl henv hstrict hg hfp
  have hin := signature_gate_in_every_chain custom mw _ uses chn hs hk hb
  rw [Bool.eq_false_iff]
  intro hr
  have := (runChain_ran_iff _ chn).mp hr contentSecurityName hin
  simp [respVerdict, hrej] at this

/-- the last `WithPrevSecret` wins, whatever came before it -/
theorem authOptions_prev_last_wins (opts : List AuthOption) (s : String) :
    (authOptions (opts ++ [.prevSecret s])).prev = s := by
  simp [authOptions, List.foldl_append, AuthOption.apply]

/-- a callback option — wherever it stands in the list — does not touch the previous secret -/
theorem authOptions_callback_irrelevant (pre post : List AuthOption) (b : Bool) :
    (authOptions (pre ++ .callback b :: post)).prev = (authOptions (pre ++ post)).prev := by
  unfold authOptions
  rw [List.foldl_append, List.foldl_append, List.foldl_cons]
  exact List.foldl_rel (r := fun o1 o2 : AuthOpts => o1.prev = o2.prev) rfl
    fun a _ o1 o2 h => by cases a <;> simp [AuthOption.apply, h]

/-- without any `WithPrevSecret` no previous secret is in force -/
theorem authOptions_no_prev (opts : List AuthOption) (h : ∀ o ∈ opts, ∃ b, o = .callback b) :
    (authOptions opts).prev = "" := by
  induction opts with
  | nil => rfl
  | cons a t ih =>
    obtain ⟨b, rfl⟩ := h _ (List.mem_cons_self ..)
    exact (authOptions_callback_irrelevant [] t b).trans (ih fun o ho => h o (List.mem_cons_of_mem _ ho))

/-- over the WHOLE constructor space: `Authorize(secret, opts...)` with ANY option list runs the handler exactly for a
credential that is valid under `secret` or under the previous secret IN FORCE after the options were applied -/
theorem authorize_with_options_runs_iff {V : Type} (f : TokenFacts V) (now : Int) (h : Hist) (secret : String)
    (opts : List AuthOption) (clock : Int) :
    (authorizeWith (jwtVerify f now) h secret opts clock).2.ran = credentialOk f now secret (authOptions opts).prev := by
  unfold authorizeWith
  exact jwt_handler_runs_iff_valid_credential f now h secret _ clock

/-- a secret named by an OVERRIDDEN `WithPrevSecret` is worth nothing: a token that verifies only under it is refused -/
theorem overridden_prev_secret_is_refused {V : Type} (f : TokenFacts V) (now : Int) (h : Hist) (secret disc prev : String)
    (pre : List AuthOption) (clock : Int) (h1 : f.sigOk secret = false) (h2 : f.sigOk prev = false) :
    (authorizeWith (jwtVerify f now) h secret (pre ++ [.prevSecret disc, .prevSecret prev]) clock).2.ran = false := by
  rw [authorize_with_options_runs_iff]
  have : (authOptions (pre ++ [.prevSecret disc, .prevSecret prev])).prev = prev := by
    have := authOptions_prev_last_wins (pre ++ [.prevSecret disc]) prev
    simpa using this
  rw [this]
  simp [credentialOk, h1, h2]

/-- a rejected request is answered 401 unless the user's callback answered first -/
theorem unauthorized_default_401 : unauthorizedStatus none = 401 := rfl

example : authOptions [.prevSecret "a", .callback true, .prevSecret "b"] = { prev := "b", callback := true } := by decide
example : authOptions [.callback false] = { prev := "", callback := false } := by decide

/-- the completeness monitor never fires on what the model does: the gate turns away ONLY requests without a valid
credential (for every token, time, history, secret pair and clock) -/
theorem jwt_complete_monitor_sound {V : Type} (f : TokenFacts V) (now : Int) (h : Hist) (secret prev : String) (clock : Int) :
    jwtCompleteMonitor f now secret prev (authorize (jwtVerify f now) h secret prev clock).2 = none := by
  have hiff := jwt_handler_runs_iff_valid_credential f now h secret prev clock
  unfold jwtCompleteMonitor
  rw [← hiff]
  cases (authorize (jwtVerify f now) h secret prev clock).2.ran <;> simp

/-- a valid credential is accepted whatever the history counters say and whichever of the two secrets signed it:
`Authorize(secret, WithPrevSecret(prev))` runs the handler for every token that is valid under `secret` or under a
non-empty `prev` -/
theorem jwt_valid_credential_runs_handler {V : Type} (f : TokenFacts V) (now : Int) (h : Hist) (secret prev : String)
    (clock : Int) (hc : credentialOk f now secret prev = true) :
    (authorize (jwtVerify f now) h secret prev clock).2.ran = true := by
  rw [jwt_handler_runs_iff_valid_credential]; exact hc

theorem cryptionHandler_not_403 (C : BlockCipher) (limit : Int) (key : Bytes) (cl : Int) (raw : Bytes) (inner : Inner)
    (h : (cryptionHandler C limit key cl raw inner).ran = false) : (cryptionHandler C limit key cl raw inner).status ≠ 403 := by
  by_cases hcl : cl = 0
  · unfold cryptionHandler at h
    rw [if_pos hcl, (flushResp_ran_seen C key raw (inner raw)).1] at h
    cases h
  · rcases cryptionHandler_cases C limit key cl raw inner hcl with ⟨p, _, _, e⟩ | ⟨_, h403⟩
    · rw [e, (flushResp_ran_seen C key p (inner p)).1] at h; cases h
    · exact h403

/-- the completeness monitor of the signature gate never fires on the model: a request whose signature covers it is
never refused with 403 — for every configuration (strict or not), framing, body, key and cipher -/
theorem cs_complete_monitor_sound (C : BlockCipher) (env : CsEnv) (cfg : CsCfg) (req : CsReq) (inner : Inner) :
    csCompleteMonitor env cfg req (contentSecurity C env cfg req inner) = none := by
  unfold csCompleteMonitor
  apply if_neg
  rintro ⟨hg, hu, hc, hran, _, hst⟩
  obtain ⟨h, hv⟩ := (csCovers_iff_verified env cfg req (by simpa using hu)).mp hc
  rw [contentSecurity_verified C inner hg hv] at hran hst
  by_cases he : req.cl ≠ 0 ∧ h.contentType = 1
  · rw [if_pos he] at hran hst
    exact cryptionHandler_not_403 C cfg.limit h.key req.cl req.body inner (by simpa using hran) hst
  · simp [he, plainNext] at hran

/-- at the level of a server, for EVERY base chain, `Use` list and option set: when every middleware of the base chain,
every gate the route declared and every `Use` middleware passes the request on, the route's handler runs -/
theorem rest_valid_request_reaches_handler (custom : Option (List String)) (m : MwConf) (o : RouteOpts)
    (uses chn : List String) (v : String → Option Nat) (hb : bindRoute custom m o uses = some chn)
    (hbase : ∀ n ∈ custom.getD (nativeChain m), v n = none) (hgates : ∀ g ∈ gatesOf o, v g = none)
    (huses : ∀ n ∈ uses, v n = none) : (runChain v chn).ran = true := by
  rw [bindRoute_chain custom m o uses chn hb]
  apply (runChain_ran_iff v _).mpr
  intro n hn
  simp only [List.mem_append] at hn
  rcases hn with (hn | hn) | hn
  · exact hbase n hn
  · exact hgates n hn
  · exact huses n hn

private def exValidFacts : TokenFacts String :=
  { present := true, segs := 3, hdrOk := true, clmOk := true, alg := some "HS256", sigOk := fun s => s = "k",
    exp := .at 10, nbf := .absent, iat := .absent, claims := [] }

/-- the monitor clause fires on a rejected valid token and is silent on an accepted one -/
example : jwtCompleteMonitor exValidFacts 5 "k" "" { ran := false, status := 401, ctx := [] } ≠ none := by decide
example : jwtCompleteMonitor exValidFacts 5 "k" "" { ran := true, status := 200, ctx := [] } = none := by decide
example : restCompleteMonitor { jwt := true } true true false true false 401 ≠ none := by decide
example : restCompleteMonitor { jwt := true } true false false true false 401 = none := by decide

/-- serving a request through the chain `bindRoute` bound, when the base chain and the `Use` middlewares contain no gate and
share no name: the gates alone decide, and the `Use` middlewares see exactly the requests every gate passed on -/
theorem restServe_bound {V : Type} (custom : Option (List String)) (m : MwConf) (o : RouteOpts) (uses chn : List String)
    (out : AuthOut V) (cs : Option Nat) (hb : bindRoute custom m o uses = some chn)
    (hbase : ∀ n ∈ custom.getD (nativeChain m), n ≠ authorizeName ∧ n ≠ contentSecurityName ∧ n ∉ uses)
    (hu1 : authorizeName ∉ uses) (hu2 : contentSecurityName ∉ uses) :
    restServe o uses chn out cs =
      if ∀ g ∈ gatesOf o, gateVerdict (authVerdict out) cs g = none then
        { ran := true, status := 200, ctx := if o.jwt then out.ctx else [], usesRan := uses.length }
      else { ran := false, status := (runChain (gateVerdict (authVerdict out) cs) chn).status, ctx := [], usesRan := 0 } := by
  have hv : ∀ n, n ≠ authorizeName → n ≠ contentSecurityName → gateVerdict (authVerdict out) cs n = none := by
    intro n h1 h2; simp [gateVerdict, h1, h2]
  have hnu : ∀ n ∈ custom.getD (nativeChain m) ++ gatesOf o, (uses.contains n) = false := by
    intro n hn
    rcases List.mem_append.mp hn with hn | hn
    · simpa using (hbase n hn).2.2
    · rcases (mem_gatesOf o n).mp hn with ⟨_, rfl⟩ | ⟨_, rfl⟩ <;> simpa
  unfold restServe
  by_cases hall : ∀ g ∈ gatesOf o, gateVerdict (authVerdict out) cs g = none
  · rw [if_pos hall]
    have hrun := runChain_all_pass (gateVerdict (authVerdict out) cs) chn (by
      rw [bindRoute_chain custom m o uses chn hb]
      simp only [List.mem_append]
      rintro n ((hn | hn) | hn)
      · exact hv n (hbase n hn).1 (hbase n hn).2.1
      · exact hall n hn
      · exact hv n (fun e => hu1 (e ▸ hn)) (fun e => hu2 (e ▸ hn)))
    rw [hrun, bindRoute_chain custom m o uses chn hb, List.filter_append, List.filter_eq_nil_iff.mpr (by simpa using hnu),
      List.filter_eq_self.mpr (by simp)]
    simp
  · rw [if_neg hall]
    obtain ⟨hran, hsaw⟩ := rest_use_middlewares_are_behind_the_gates custom m o uses chn _ hb
      (fun n hn => hv n (hbase n hn).1 (hbase n hn).2.1) (by simpa using hall)
    rw [hran, List.filter_eq_nil_iff.mpr (by simpa using fun n hn => hnu n (hsaw n hn))]
    rfl

/-- the model's context on an accepted request is what the monitor demands -/
theorem authorize_ctx_forwarded {V : Type} [DecidableEq V] (f : TokenFacts V) (now : Int) (h : Hist) (secret prev : String)
    (clock : Int) (hr : (authorize (jwtVerify f now) h secret prev clock).2.ran = true) :
    (authorize (jwtVerify f now) h secret prev clock).2.ctx = forwarded f.claims := by
  rw [authorize_snd, parseToken_jwt] at hr ⊢
  revert hr
  cases credentialOk f now secret prev
  · intro hr; cases hr
  · intro _; rfl

/-- `restMonitor` never fires on the model: for EVERY base chain (user chain or native one under every switch setting),
`Use` list, option set, token, clock, history and signature verdict (default callbacks) -/
theorem rest_monitor_sound {V : Type} [DecidableEq V] (custom : Option (List String)) (m : MwConf) (o : RouteOpts)
    (uses chn : List String) (f : TokenFacts V) (now : Int) (h : Hist) (secret prev : String) (clock : Int)
    (gated covered : Bool)
    (hb : bindRoute custom m o uses = some chn)
    (hbase : ∀ n ∈ custom.getD (nativeChain m), n ≠ authorizeName ∧ n ≠ contentSecurityName ∧ n ∉ uses)
    (hu1 : authorizeName ∉ uses) (hu2 : contentSecurityName ∉ uses) :
    restMonitor o gated (credentialOk f now secret prev) covered f.claims uses.length
      (restServe o uses chn (authorize (jwtVerify f now) h secret prev clock).2 (csGateVerdict o.sigStrict false gated covered)).ran
      (restServe o uses chn (authorize (jwtVerify f now) h secret prev clock).2 (csGateVerdict o.sigStrict false gated covered)).status
      (restServe o uses chn (authorize (jwtVerify f now) h secret prev clock).2 (csGateVerdict o.sigStrict false gated covered)).ctx
      (restServe o uses chn (authorize (jwtVerify f now) h secret prev clock).2 (csGateVerdict o.sigStrict false gated covered)).usesRan
      = none := by
  generalize hout : (authorize (jwtVerify f now) h secret prev clock).2 = out
  rw [restServe_bound custom m o uses chn out _ hb hbase hu1 hu2]
  have hcred : out.ran = credentialOk f now secret prev := by
    rw [← hout]; exact jwt_handler_runs_iff_valid_credential f now h secret prev clock
  unfold restMonitor
  by_cases hall : ∀ g ∈ gatesOf o, gateVerdict (authVerdict out) (csGateVerdict o.sigStrict false gated covered) g = none
  · -- every gate passed: what that says about the request refutes each clause of the monitor
    simp only [if_pos hall, if_true]
    have hj : o.jwt = true → out.ran = true := fun hj =>
      (authVerdict_none out).mp (by simpa [gateVerdict] using hall _ ((mem_gatesOf o _).mpr (Or.inl ⟨hj, rfl⟩)))
    have hs : o.sig = true ∧ o.sigKeys = true → csGateVerdict o.sigStrict false gated covered = none := fun hs => by
      simpa [gateVerdict, gateNames_ne] using
        hall _ ((mem_gatesOf o _).mpr (Or.inr ⟨hs, rfl⟩))
    rw [if_neg, if_neg, if_neg, if_neg (by simp)]
    · rintro ⟨hjwt, hctx⟩
      rw [hjwt, if_pos rfl, ← hout] at hctx
      exact hctx (authorize_ctx_forwarded f now h secret prev clock (hout ▸ hj hjwt))
    · rintro ⟨h1, h2, h3, h4, h5⟩
      have := hs ⟨h1, h2⟩
      rw [h3, h4] at this
      simp [csGateVerdict] at this h5
      simp [this] at h5
    · rintro ⟨hjwt, hc⟩
      rw [← hcred, hj hjwt] at hc
      cases hc
  · -- a gate answered: the route has one
    simp only [if_neg hall, Bool.false_eq_true, if_false]
    rw [if_neg, if_neg (by simp)]
    rintro ⟨h1, h2⟩
    apply hall
    intro g hg
    rcases (mem_gatesOf o g).mp hg with ⟨hj, _⟩ | ⟨hs, _⟩
    · simp [hj] at h1
    · simp [hs] at h2

/-- a jwt route behind a user chain: a rejected request stops at the gate, no `Use` middleware sees it -/
example : restServe (V := String) { jwt := true } ["use0"] ["cm0", authorizeName, "use0"] { ran := false, status := 401, ctx := [] } none =
    { ran := false, status := 401, ctx := [], usesRan := 0 } := by decide
example : restServe (V := String) { jwt := true } ["use0"] ["cm0", authorizeName, "use0"] { ran := true, status := 200, ctx := [("uid", "1")] } none =
    { ran := true, status := 200, ctx := [("uid", "1")], usesRan := 1 } := by decide

theorem contentSecurity_strictness_only_matters_on_failure (C : BlockCipher) (env : CsEnv) (cfg : CsCfg) (req : CsReq)
    (inner : Inner) (b : Bool) (h : csVerificationFails env cfg req = false) :
    contentSecurity C env { cfg with strict := b } req inner = contentSecurity C env cfg req inner := by
  by_cases hg : gatedMethods.contains req.method = true
  · obtain ⟨hd, hv⟩ := (csVerificationFails_iff env cfg req hg).mp h
    rw [contentSecurity_verified C inner hg hv, contentSecurity_verified C (cfg := { cfg with strict := b }) inner hg hv]
  · rw [method_gate_bypass C env cfg req inner (by simpa using hg), method_gate_bypass C env _ req inner (by simpa using hg)]

/-- with user callbacks (which replace the default one) the handler runs only when both checks passed — in strict AND in
loose mode; for a checked method without X-Request-Uri that means: only with a covering signature -/
theorem cs_with_callbacks_runs_only_if_signature_covers_request (C : BlockCipher) (env : CsEnv) (cfg : CsCfg) (req : CsReq)
    (inner : Inner) (st : Nat) (hg : gatedMethods.contains req.method = true) (hu : req.uri = "")
    (hran : (contentSecurityWithCallbacks C env cfg req inner st).ran = true) : csCovers env cfg req = true := by
  unfold contentSecurityWithCallbacks at hran
  by_cases hf : csVerificationFails env cfg req = true
  · rw [if_pos hf] at hran; cases hran
  · exact (csCovers_iff_verified env cfg req hu).mpr ((csVerificationFails_iff env cfg req hg).mp (by simpa using hf))

/-- END TO END over the whole configuration space: a route registered with a jwt option AND `WithSignature` (strict, with
keys) — any order of the options, any other options, any base chain (`WithChain` or native under every switch setting), any
`Server.Use` middlewares — runs its handler only for a request that carries BOTH a valid token and a signature that covers
it (checked method, no X-Request-Uri). -/
theorem rest_route_behind_both_gates_needs_both {V : Type} (custom : Option (List String)) (m : MwConf)
    (opts : List RouteOption) (uses chn : List String) (f : TokenFacts V) (now : Int) (h : Hist) (secret prev : String)
    (clock : Int) (C : BlockCipher) (env : CsEnv) (cfg : CsCfg) (req : CsReq) (inner : Inner) (others : String → Option Nat)
    (hopt : RouteOption.withJwt ∈ opts ∨ ∃ b, RouteOption.withJwtTransition b ∈ opts)
    (hs : (applyOptions opts).sig = true) (hk : (applyOptions opts).sigKeys = true)
    (hstrict : cfg.strict = true) (hg : gatedMethods.contains req.method = true) (hu : req.uri = "")
    (hb : bindRoute custom m (applyOptions opts) uses = some chn)
    (hran : (runChain (fun n => if n = authorizeName then authVerdict (authorize (jwtVerify f now) h secret prev clock).2
                                else if n = contentSecurityName then respVerdict (contentSecurity C env cfg req inner)
                                else others n) chn).ran = true) :
    credentialOk f now secret prev = true ∧ csCovers env cfg req = true := by
  constructor
  · exact rest_jwt_route_runs_only_with_valid_credential custom m opts uses chn f now h secret prev clock
      (fun n => if n = contentSecurityName then respVerdict (contentSecurity C env cfg req inner) else others n) hopt hb hran
  · have hne := gateNames_ne
    have := (runChain_ran_iff _ chn).mp hran contentSecurityName (signature_gate_in_every_chain custom m _ uses chn hs hk hb)
    simp only [hne, if_false, if_true, respVerdict_none] at this
    exact cs_runs_only_if_signature_covers_request C env cfg req inner hstrict hg hu this

example : bindRoute (some ["cm0"]) ⟨true, true, true, true, true, true, true, true, true, true, true⟩
    (applyOptions [.withSignature true true, .other, .withJwtTransition false]) ["use0"] =
    some ["cm0", authorizeName, contentSecurityName, "use0"] := rfl

/-- a group with signature keys of which one cannot be loaded gets NO verifier: `bindFeaturedRoutes` returns the error and
binds none of its routes (strict without keys: strict_signature_without_keys_binds_nothing) -/
theorem unloadable_key_binds_nothing {D : Type} (load : String → Option D) (o : RouteOpts) (keys : List KeyConf)
    (hs : o.sig = true) (hk : o.sigKeys = true) (hl : loadDecrypters load keys = none) :
    ∃ e, verifierFor load o keys = .error e := by
  unfold verifierFor
  cases hv : signatureVerifier o with
  | none => exact ⟨_, rfl⟩
  | some v => simp [hs, hk, hl]

/-- one unloadable file among the keys is enough, wherever it stands in the list -/
theorem loadDecrypters_fails_on_any_unloadable_key {D : Type} (load : String → Option D) (pre post : List KeyConf)
    (k : KeyConf) (hk : load k.2 = none) : loadDecrypters load (pre ++ k :: post) = none := by
  rw [loadDecrypters_eq, List.foldl_append, List.foldl_cons]
  simp [ldStep, hk, loadDecrypters_failed_stays_failed]

/-- when a verifier IS returned for a group with keys, every key was loaded and the gate is the one the decision list chose -/
theorem verifierFor_ok {D : Type} (load : String → Option D) (o : RouteOpts) (keys : List KeyConf)
    (v : List String → List String) (h : verifierFor load o keys = .ok v) :
    signatureVerifier o = some v ∧ (o.sig = true → o.sigKeys = true → (loadDecrypters load keys).isSome = true) := by
  unfold verifierFor at h
  cases hv : signatureVerifier o with
  | none => simp [hv] at h
  | some v' =>
    simp only [hv] at h
    by_cases hc : (o.sig && o.sigKeys) = true
    · rw [if_pos hc] at h
      cases hl : loadDecrypters load keys with
      | none => simp [hl] at h
      | some m =>
        simp only [hl] at h
        injection h with h
        exact ⟨by rw [h], fun _ _ => rfl⟩
    · rw [if_neg hc] at h
      injection h with h
      refine ⟨by rw [h], fun h1 h2 => ?_⟩
      simp [h1, h2] at hc

example : (verifierFor (fun f => if f = "missing" then none else some f) { sig := true, sigKeys := true, sigStrict := true } [("good", "missing")]).isOk = false := by decide

/-- two groups with their own keys; the fingerprint of the second is unknown to the first -/
example : (serverDecrypters (fun f => some f) [[("good", "k1")], [("alt", "k2")]]) =
    [some [("good", "k1")], some [("alt", "k2")]] := by decide
example : decrypterOf [("good", "k1")] "alt" = none := by decide
example : decrypterOf [("good", "k2"), ("good", "k1")] "good" = some "k1" := by decide
example : loadDecrypters (fun f => if f = "missing" then none else some f) [("a", "k1"), ("b", "missing")] = none := by decide

end GoZero.C18
