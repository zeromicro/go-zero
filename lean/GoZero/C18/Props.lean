/-
C18 — the gates one by one: `Authorize` and `TokenParser.history`; the content-security gate with the two recorded findings
(`method_gate_bypass`, `request_uri_override`); padding, ECB and base64 round trips and what the handler reads under each framing.
The `…Pinned` statements are witnesses of the code before fixes/C18-unpad-empty.patch and fixes/C18-chunked-body.patch.
-/
import GoZero.C18.Proofs
namespace GoZero.C18

/-- The wrapped handler runs only if `doParseToken` succeeded (valid token with map claims) under the current
or the previous secret — whatever the history counters are. -/
theorem handler_runs_only_if_verified {V : Type} (verify : String → Parsed (List (String × V)))
    (h : Hist) (secret prev : String) (clock : Int)
    (hran : (authorize verify h secret prev clock).2.ran = true) :
    (∃ c, verify secret = .tok true (some c)) ∨ (prev.length > 0 ∧ ∃ c, verify prev = .tok true (some c)) := by
  obtain ⟨c, hc⟩ := (authorize_ran_iff verify h secret prev clock).mp hran
  by_cases hp : prev.length > 0
  · rcases parseToken_rotation verify h secret prev clock hp with ⟨_, _, e⟩ | ⟨x, hx, _, e⟩ <;> rw [e] at hc
    · cases hc
    · rcases hx with rfl | rfl
      · exact Or.inl ⟨c, hc⟩
      · exact Or.inr ⟨hp, c, hc⟩
  · rw [parseToken_no_prev verify h secret prev clock hp] at hc
    exact Or.inl ⟨c, hc⟩

theorem outcome_independent_of_history {V : Type} (verify : String → Parsed (List (String × V)))
    (h h' : Hist) (secret prev : String) (clock clock' : Int)
    (hagree : (verify secret).isErr = false → (verify prev).isErr = false → verify secret = verify prev) :
    (authorize verify h secret prev clock).2 = (authorize verify h' secret prev clock').2 := by
  rw [authorize_snd, authorize_snd, parseToken_result_independent verify h h' secret prev clock clock' hagree]

theorem jwt_handler_runs_iff_valid_credential {V : Type} (f : TokenFacts V) (now : Int) (h : Hist)
    (secret prev : String) (clock : Int) :
    (authorize (jwtVerify f now) h secret prev clock).2.ran = credentialOk f now secret prev := by
  rw [authorize_snd, parseToken_jwt]
  cases credentialOk f now secret prev <;> rfl

/-- for go-zero's use of golang-jwt the hypothesis of `outcome_independent_of_history` always holds -/
theorem jwt_outcome_independent_of_history {V : Type} (f : TokenFacts V) (now : Int) (h h' : Hist)
    (secret prev : String) (clock clock' : Int) :
    (authorize (jwtVerify f now) h secret prev clock).2 = (authorize (jwtVerify f now) h' secret prev clock').2 :=
  outcome_independent_of_history _ h h' secret prev clock clock' (jwtVerify_agree f now secret prev)

/-- any request that is not let through gets 401 and no context values -/
theorem rejected_gets_401 {V : Type} (verify : String → Parsed (List (String × V)))
    (h : Hist) (secret prev : String) (clock : Int)
    (hr : (authorize verify h secret prev clock).2.ran = false) :
    (authorize verify h secret prev clock).2.status = 401 ∧ (authorize verify h secret prev clock).2.ctx = [] := by
  rw [authorize_snd] at hr ⊢
  generalize (parseToken verify h secret prev clock).2 = p at hr ⊢
  rcases p with _ | ⟨_ | _, _ | _⟩ <;> first | exact ⟨rfl, rfl⟩ | cases hr

/-- on success the handler's context holds exactly the non-standard claims of the verified token -/
theorem claims_forwarded {V : Type} (verify : String → Parsed (List (String × V)))
    (h : Hist) (secret prev : String) (clock : Int) (c : List (String × V))
    (hp : (parseToken verify h secret prev clock).2 = .tok true (some c)) :
    (authorize verify h secret prev clock).2.ctx = forwarded c ∧
      (∀ kv ∈ (authorize verify h secret prev clock).2.ctx, kv.1 ∉ standardClaims) ∧
      (∀ kv ∈ c, kv.1 ∉ standardClaims → kv ∈ (authorize verify h secret prev clock).2.ctx) := by
  rw [authorize_snd, hp]
  refine ⟨rfl, fun kv hkv => ?_, fun kv hkv hn => List.mem_filter.mpr ⟨hkv, ?_⟩⟩
  · simpa [standardClaims] using (List.mem_filter.mp hkv).2
  · simpa [standardClaims] using hn

/-- `alg: none` never opens the gate -/
theorem jwt_rejects_alg_none {V : Type} (f : TokenFacts V) (now : Int) (h : Hist) (secret prev : String)
    (clock : Int) (ha : f.alg = some "none") :
    (authorize (jwtVerify f now) h secret prev clock).2.ran = false := by
  simp [jwt_handler_runs_iff_valid_credential, credentialOk, ha, hmacAlgs]

/-- no algorithm outside the HMAC family (RS256, ES256, PS256, EdDSA, unknown names) opens the gate -/
theorem jwt_rejects_non_hmac_alg {V : Type} (f : TokenFacts V) (now : Int) (h : Hist) (secret prev : String)
    (clock : Int) (a : String) (ha : f.alg = some a) (hn : a ∉ hmacAlgs) :
    (authorize (jwtVerify f now) h secret prev clock).2.ran = false := by
  simp [jwt_handler_runs_iff_valid_credential, credentialOk, ha, hn]

/-- a token whose signature verifies under neither configured secret (tampered header/payload/signature,
wrong secret) is rejected -/
theorem jwt_rejects_bad_signature {V : Type} (f : TokenFacts V) (now : Int) (h : Hist) (secret prev : String)
    (clock : Int) (h1 : f.sigOk secret = false) (h2 : f.sigOk prev = false) :
    (authorize (jwtVerify f now) h secret prev clock).2.ran = false := by
  simp [jwt_handler_runs_iff_valid_credential, credentialOk, h1, h2]

/-- an expired token (`exp ≤ now`), one used before `nbf`/`iat`, or one whose time claim is not a number is rejected -/
theorem jwt_rejects_invalid_time {V : Type} (f : TokenFacts V) (now : Int) (h : Hist) (secret prev : String)
    (clock : Int) (ht : timeValid f now = false) :
    (authorize (jwtVerify f now) h secret prev clock).2.ran = false := by
  simp [jwt_handler_runs_iff_valid_credential, credentialOk, ht]

theorem expired_is_invalid {V : Type} (f : TokenFacts V) (now t : Int) (he : f.exp = .at t) (hle : t ≤ now) :
    timeValid f now = false := by
  unfold timeValid expOk
  simp [he]; omega

/-- a missing or malformed credential is rejected -/
theorem jwt_rejects_malformed {V : Type} (f : TokenFacts V) (now : Int) (h : Hist) (secret prev : String)
    (clock : Int) (hm : f.present = false ∨ f.segs ≠ 3 ∨ f.hdrOk = false ∨ f.clmOk = false ∨ f.alg = none) :
    (authorize (jwtVerify f now) h secret prev clock).2.ran = false := by
  rcases hm with h | h | h | h | h <;> simp [jwt_handler_runs_iff_valid_credential, credentialOk, h]

/-- the executable monitor never fires on what the model does -/
theorem jwt_monitor_sound {V : Type} [DecidableEq V] (f : TokenFacts V) (now : Int) (h : Hist)
    (secret prev : String) (clock : Int) :
    jwtMonitor f now secret prev (authorize (jwtVerify f now) h secret prev clock).2 = none := by
  rw [authorize_snd, parseToken_jwt]
  unfold jwtMonitor
  cases hc : credentialOk f now secret prev <;> simp [authOutcome]

/-- `TokenParser.history` changes only when a token verified: a rejected request leaves the counters alone -/
theorem history_unchanged_on_failure {C : Type} (verify : String → Parsed C) (h : Hist) (secret prev : String)
    (clock : Int) (he : (parseToken verify h secret prev clock).2.isErr = true) :
    (parseToken verify h secret prev clock).1 = h := by
  by_cases hp : prev.length > 0
  · rcases parseToken_rotation verify h secret prev clock hp with ⟨_, _, e⟩ | ⟨x, _, hx, e⟩ <;> rw [e] at he ⊢
    exact absurd he (by simp [hx])
  · rw [parseToken_no_prev verify h secret prev clock hp]

/-- on success with a previous secret configured, exactly the counter of a secret under which the token verified is
incremented (after the reset test) -/
theorem history_counts_the_verifying_secret {C : Type} (verify : String → Parsed C) (h : Hist) (secret prev : String)
    (clock : Int) (hp : prev.length > 0) (hok : (parseToken verify h secret prev clock).2.isErr = false) :
    ∃ x, (x = secret ∨ x = prev) ∧ (verify x).isErr = false ∧
      (parseToken verify h secret prev clock).1 = h.increment x clock ∧
      (parseToken verify h secret prev clock).2 = verify x := by
  rcases parseToken_rotation verify h secret prev clock hp with ⟨_, _, e⟩ | ⟨x, hx, hv, e⟩ <;> rw [e] at hok ⊢
  · cases hok
  · exact ⟨x, hx, hv, rfl, rfl⟩

/-- after the reset time every success starts the counters afresh: only the secret just counted is present -/
theorem history_reset (h : Hist) (s : String) (clock : Int) (hexp : h.resetTime + h.resetDuration < clock) :
    (h.increment s clock).counts = [(s, 1)] := by
  unfold Hist.increment
  simp [hexp]

example : (parseToken (fun s => if s = "old" then Parsed.tok true (some ()) else .err) {} "new" "old" 5).1.counts
    = [("old", 1)] := by decide
example : (parseToken (fun _ => (Parsed.err : Parsed Unit)) { counts := [("old", 3)] } "new" "old" 5).1.counts
    = [("old", 3)] := by decide

theorem cs_runs_only_if_signature_covers_request (C : BlockCipher) (env : CsEnv) (cfg : CsCfg) (req : CsReq)
    (inner : Inner) (hs : cfg.strict = true) (hg : gatedMethods.contains req.method = true)
    (hu : req.uri = "") (hran : (contentSecurity C env cfg req inner).ran = true) :
    csCovers env cfg req = true :=
  (csCovers_iff_verified env cfg req hu).mpr (contentSecurity_strict_ran C env cfg req inner hs hg hran)

/-- witness of the open finding cs-method-gate: for a method outside DELETE / GET / POST / PUT the gate calls the handler without
looking at the request, strict or not -/
theorem method_gate_bypass (C : BlockCipher) (env : CsEnv) (cfg : CsCfg) (req : CsReq) (inner : Inner)
    (hm : gatedMethods.contains req.method = false) :
    contentSecurity C env cfg req inner = plainNext inner req.body := by
  unfold contentSecurity
  rw [if_neg (by rw [hm]; exact Bool.false_ne_true)]

/-- witness of the open finding cs-request-uri-override: a signature over the path and query that a parsable X-Request-Uri header
names is accepted, whatever the request's own path and query are -/
theorem request_uri_override (C : BlockCipher) (env : CsEnv) (cfg : CsCfg) (req : CsReq) (inner : Inner)
    (h : CsHeader) (s : Int) (p' q' : String)
    (hg : gatedMethods.contains req.method = true)
    (hparse : parseContentSecurity env req = .ok h) (hts : parseInt64 h.timestamp = some s)
    (hw : outsideWindow s cfg.tol env.now = false)
    (huri : req.uri.isEmpty = false) (hup : env.urlParse req.uri = some (p', q'))
    (hsig : h.signature = env.hmacB64 h.key (signContent env h.timestamp req.method p' q' req.body))
    (hplain : ¬ (req.cl ≠ 0 ∧ h.contentType = 1)) :
    contentSecurity C env cfg req inner = plainNext inner req.body := by
  have hpq : pathQuery env req = (p', q') := by unfold pathQuery; simp [huri, hup]
  have hv : Verified env cfg req h :=
    ⟨hparse, (verifySignature_pass_iff env cfg.tol req h).mpr ⟨s, hts, hw, by rw [hpq]; exact hsig⟩⟩
  rw [contentSecurity_verified C inner hg hv, if_neg hplain]

/-- the monitor never fires on the model for the requests the property's statement is true of
(a checked method, no X-Request-Uri header); the two other cases are the recorded findings -/
theorem cs_monitor_sound (C : BlockCipher) (env : CsEnv) (cfg : CsCfg) (req : CsReq) (inner : Inner)
    (hg : gatedMethods.contains req.method = true) (hu : req.uri = "")
    (hnp : (contentSecurity C env cfg req inner).panic = false) :
    csMonitor env cfg req (contentSecurity C env cfg req inner) = none := by
  unfold csMonitor
  cases hs : cfg.strict with
  | false => simp
  | true =>
    by_cases hv : ∃ h, Verified env cfg req h
    · simp [(csCovers_iff_verified env cfg req hu).mpr hv]
    · rw [contentSecurity_unverified C inner hg hv, hs]
      simp [verificationFailure]

theorem unpad_pad (bs : Nat) (hbs : 0 < bs) (hbs' : bs ≤ 255) (p : Bytes) :
    unpad bs (pad bs p) = .ok p := by
  obtain ⟨n, h1, h2, hb, e⟩ := pad_eq bs hbs hbs' p
  obtain ⟨hl, hlen, ht, _⟩ := padded p n (UInt8.ofNat n) h1
  unfold unpad
  rw [e, hl]
  simp only [hb]
  rw [if_neg (by omega), ht]

/-- the pinned code: round trip exactly for non-empty payloads -/
theorem unpadPinned_pad (bs : Nat) (hbs : 0 < bs) (hbs' : bs ≤ 255) (p : Bytes) :
    unpadPinned bs (pad bs p) = .ok p ↔ p ≠ [] := by
  obtain ⟨n, h1, h2, hb, e⟩ := pad_eq bs hbs hbs' p
  obtain ⟨hl, hlen, ht, _⟩ := padded p n (UInt8.ofNat n) h1
  unfold unpadPinned
  rw [e, hl]
  simp only [hb, ht]
  -- `unpadding ≥ length` refuses exactly the block without payload
  by_cases hp : p = []
  · subst hp; simp
  · have := List.length_pos_iff.mpr hp
    rw [if_neg (by omega)]
    simp [hp]

theorem ecbDecrypt_of_encrypt (C : BlockCipher) (key : Bytes) (hs : C.Sound key) (hbs : 0 < C.bs) (hbs' : C.bs ≤ 255)
    (p ct : Bytes) (he : ecbEncrypt C key p = some ct) : ecbDecrypt C key ct = .ok p := by
  unfold ecbEncrypt at he
  split at he
  · rename_i hk
    obtain ⟨k, hk'⟩ := pad_length C.bs hbs p
    obtain ⟨l1, l2⟩ := cryptBlocks_round_trip C key hs hbs k _ hk'
    have hm : ∀ l : Bytes, l.length = k * C.bs → ¬ l.length % C.bs ≠ 0 := fun l h => by rw [h]; simp
    cases he
    unfold ecbDecrypt cryptBlocks
    rw [if_pos hk, if_neg (hm _ hk'), if_neg (hm _ l1), l2, unpad_pad C.bs hbs hbs' p]
  · cases he

/-- AES-ECB with PKCS padding round-trips every payload (with fixes/C18-unpad-empty.patch: the empty payload included), for any
sound block cipher -/
theorem ecb_round_trip (C : BlockCipher) (key : Bytes) (hk : C.keyOk key = true) (hs : C.Sound key)
    (hbs : 0 < C.bs) (hbs' : C.bs ≤ 255) (p : Bytes) :
    ∃ ct, ecbEncrypt C key p = some ct ∧ ecbDecrypt C key ct = .ok p :=
  have he : ecbEncrypt C key p = some _ := if_pos hk
  ⟨_, he, ecbDecrypt_of_encrypt C key hs hbs hbs' p _ he⟩

theorem b64_text_pos (C : BlockCipher) (key ct p : Bytes) (hd : ecbDecrypt C key ct = .ok p) :
    0 < (asciiBytes (b64Encode ct)).length := by
  rw [asciiBytes_b64_length]
  exact List.length_pos_iff.mpr (b64EncodeChars_ne_nil ct fun h => ecbDecrypt_nil_not_ok C key p (h ▸ hd))

/-- the cryption handler on the base64 text of a ciphertext, sent with its length declared (within the limit) or with
unknown length (chunked; within the limit or `maxBytes`): the wrapped handler is called on the plaintext -/
theorem cryptionHandler_b64 (C : BlockCipher) (limit : Int) (key ct p : Bytes) (inner : Inner) (cl : Int)
    (hd : ecbDecrypt C key ct = .ok p)
    (hfr : (cl = (asciiBytes (b64Encode ct)).length ∧ ¬ (limit > 0 ∧ cl > limit)) ∨
           (cl = -1 ∧ ((asciiBytes (b64Encode ct)).length : Int) ≤ (if limit > 0 then limit else maxBytes))) :
    cryptionHandler C limit key cl (asciiBytes (b64Encode ct)) inner = flushResp C key p (inner p) := by
  have hlen := b64_text_pos C key ct p hd
  rw [← decryptAndServe_b64 C key ct p inner hd]
  generalize asciiBytes (b64Encode ct) = raw at hfr hlen ⊢
  unfold cryptionHandler
  rcases hfr with ⟨rfl, hl⟩ | ⟨rfl, hl⟩
  · rw [if_neg (by omega), if_neg hl, if_pos (by omega), if_neg (by omega)]
    simp
  · have hne : raw.isEmpty = false := List.isEmpty_eq_false_iff.mpr (List.length_pos_iff.mp hlen)
    rw [if_neg (by omega), if_neg (by omega), if_neg (by omega), if_neg (by omega), hne]
    rfl

/-- "an encrypted body reaches the handler decrypted … round-tripping any payload": for EVERY payload `p` (the empty one
included) the text `base64 (E (pad p))`, sent as the body with its length declared (`cl = length`, within the limit) or
with unknown length (`cl = -1`, chunked; within the limit or `maxBytes`), makes the cryption handler call the wrapped
handler on exactly `p`, and what the client gets is `flushResp` of the handler's reply (see `reply_round_trip`). -/
theorem body_round_trip (C : BlockCipher) (key : Bytes) (hk : C.keyOk key = true) (hs : C.Sound key)
    (hbs : 0 < C.bs) (hbs' : C.bs ≤ 255) (limit : Int) (p : Bytes) (inner : Inner) :
    ∃ ct, ecbEncrypt C key p = some ct ∧
      (¬ (limit > 0 ∧ ((asciiBytes (b64Encode ct)).length : Int) > limit) →
        cryptionHandler C limit key (asciiBytes (b64Encode ct)).length (asciiBytes (b64Encode ct)) inner
          = flushResp C key p (inner p)) ∧
      (((asciiBytes (b64Encode ct)).length : Int) ≤ (if limit > 0 then limit else maxBytes) →
        cryptionHandler C limit key (-1) (asciiBytes (b64Encode ct)) inner = flushResp C key p (inner p)) := by
  obtain ⟨ct, he, hd⟩ := ecb_round_trip C key hk hs hbs hbs' p
  exact ⟨ct, he, fun hl => cryptionHandler_b64 C limit key ct p inner _ hd (Or.inl ⟨rfl, hl⟩),
    fun hl => cryptionHandler_b64 C limit key ct p inner _ hd (Or.inr ⟨rfl, hl⟩)⟩

/-- "the response is returned encrypted": what the client receives for a non-empty reply `out` is the base64 text of
a ciphertext that decrypts to `out` (and an empty reply stays empty). -/
theorem reply_round_trip (C : BlockCipher) (key : Bytes) (hk : C.keyOk key = true) (hs : C.Sound key)
    (hbs : 0 < C.bs) (hbs' : C.bs ≤ 255) (seen out : Bytes) (hne : out ≠ []) :
    ∃ ct, (flushResp C key seen out) = { ran := true, seen := seen, status := 200, body := asciiBytes (b64Encode ct) } ∧
      b64Decode (bytesToString (flushResp C key seen out).body) = some ct ∧ ecbDecrypt C key ct = .ok out := by
  obtain ⟨ct, he, hd⟩ := ecb_round_trip C key hk hs hbs hbs' out
  have hf : flushResp C key seen out = { ran := true, seen := seen, status := 200, body := asciiBytes (b64Encode ct) } := by
    simp [flushResp, hne, he]
  refine ⟨ct, hf, ?_, hd⟩
  rw [hf, bytesToString_asciiBytes_b64, b64Decode_encode]

theorem flushResp_empty (C : BlockCipher) (key seen : Bytes) :
    flushResp C key seen [] = { ran := true, seen := seen, status := 200 } := by
  unfold flushResp; simp

/-- the signature check reads the body, never `r.ContentLength`: the same bytes verify alike whether they come with a
declared length, with unknown length (chunked) or with a wrong length -/
theorem verifySignature_ignores_content_length (env : CsEnv) (tol : Int) (req : CsReq) (h : CsHeader) (c : Int) :
    verifySignature env tol { req with cl := c } h = verifySignature env tol req h := rfl

theorem csCovers_ignores_content_length (env : CsEnv) (cfg : CsCfg) (req : CsReq) (c : Int) :
    csCovers env cfg { req with cl := c } = csCovers env cfg req := by
  unfold csCovers
  rw [parseContentSecurity_of_headers env req { req with cl := c } rfl]

/-- strict mode, a checked method, no X-Request-Uri: whenever the handler runs on a request that is not marked
encrypted, it reads exactly the bytes whose digest the signature covers — for every framing -/
theorem cs_handler_reads_signed_body (C : BlockCipher) (env : CsEnv) (cfg : CsCfg) (req : CsReq) (inner : Inner)
    (hs : cfg.strict = true) (hg : gatedMethods.contains req.method = true) (hu : req.uri = "")
    (hran : (contentSecurity C env cfg req inner).ran = true) :
    ∃ h, parseContentSecurity env req = .ok h ∧ csCovers env cfg req = true ∧
      (h.contentType ≠ 1 → (contentSecurity C env cfg req inner).seen = req.body) := by
  obtain ⟨h, hv⟩ := contentSecurity_strict_ran C env cfg req inner hs hg hran
  refine ⟨h, hv.1, (csCovers_iff_verified env cfg req hu).mpr ⟨h, hv⟩, fun ht => ?_⟩
  rw [contentSecurity_verified C inner hg hv, if_neg fun hc => ht hc.2]
  rfl

theorem cs_body_monitor_sound (C : BlockCipher) (env : CsEnv) (cfg : CsCfg) (req : CsReq) (inner : Inner)
    (hg : gatedMethods.contains req.method = true) (hu : req.uri = "") :
    csBodyMonitor env cfg req (contentSecurity C env cfg req inner) = none := by
  unfold csBodyMonitor
  by_cases hc : cfg.strict = true ∧ (contentSecurity C env cfg req inner).ran = true ∧ csCovers env cfg req = true
  · rw [if_pos hc]
    obtain ⟨h, hp, _, hseen⟩ := cs_handler_reads_signed_body C env cfg req inner hc.1 hg hu hc.2.1
    rw [hp]
    by_cases ht : h.contentType = 1
    · simp [ht]
    · simp [ht, hseen ht]
  · rw [if_neg hc]

/-- a verified request marked encrypted is handed to the cryption handler for EVERY framing with a body
(`ContentLength ≠ 0`), a chunked one included -/
theorem cs_encrypted_goes_to_cryption (C : BlockCipher) (env : CsEnv) (cfg : CsCfg) (req : CsReq) (inner : Inner)
    (h : CsHeader) (hg : gatedMethods.contains req.method = true)
    (hp : parseContentSecurity env req = .ok h) (hv : verifySignature env cfg.tol req h = 0)
    (ht : h.contentType = 1) (hcl : req.cl ≠ 0) :
    contentSecurity C env cfg req inner = cryptionHandler C cfg.limit h.key req.cl req.body inner := by
  rw [contentSecurity_verified C inner hg ⟨hp, hv⟩, if_pos ⟨hcl, ht⟩]

/-- the whole path: a verified, encrypted body — sent with its length or chunked — reaches the handler as the
payload the client encrypted -/
theorem cs_encrypted_body_round_trip (C : BlockCipher) (env : CsEnv) (cfg : CsCfg) (req : CsReq) (inner : Inner)
    (h : CsHeader) (hg : gatedMethods.contains req.method = true)
    (hp : parseContentSecurity env req = .ok h) (hv : verifySignature env cfg.tol req h = 0)
    (ht : h.contentType = 1)
    (hk : C.keyOk h.key = true) (hs : C.Sound h.key) (hbs : 0 < C.bs) (hbs' : C.bs ≤ 255)
    (p ct : Bytes) (he : ecbEncrypt C h.key p = some ct) (hbody : req.body = asciiBytes (b64Encode ct))
    (hfr : (req.cl = req.body.length ∧ ¬ (cfg.limit > 0 ∧ req.cl > cfg.limit)) ∨
           (req.cl = -1 ∧ (req.body.length : Int) ≤ (if cfg.limit > 0 then cfg.limit else maxBytes))) :
    contentSecurity C env cfg req inner = flushResp C h.key p (inner p) := by
  have hd := ecbDecrypt_of_encrypt C h.key hs hbs hbs' p ct he
  have hlen := b64_text_pos C h.key ct p hd
  have hcl : req.cl ≠ 0 := by
    rcases hfr with ⟨e, _⟩ | ⟨e, _⟩ <;> rw [e]
    · rw [hbody]; omega
    · omega
  rw [cs_encrypted_goes_to_cryption C env cfg req inner h hg hp hv ht hcl]
  rw [hbody] at hfr ⊢
  exact cryptionHandler_b64 C cfg.limit h.key ct p inner req.cl hd hfr

/-- the monitor's notion of "the client encrypted `p` properly" holds of what a client computes -/
theorem properlyEncrypted_of_encrypt (C : BlockCipher) (key : Bytes) (hk : C.keyOk key = true) (hs : C.Sound key)
    (hbs : 0 < C.bs) (hbs' : C.bs ≤ 255) (p ct : Bytes) (he : ecbEncrypt C key p = some ct) :
    properlyEncrypted C key (asciiBytes (b64Encode ct)) = some p := by
  obtain ⟨k, hk'⟩ := pad_length C.bs hbs p
  obtain ⟨l1, l2⟩ := cryptBlocks_round_trip C key hs hbs k _ hk'
  obtain ⟨n, h1, h2, hb, e⟩ := pad_eq C.bs hbs hbs' p
  obtain ⟨hl, hlen, ht, hdr⟩ := padded p n (UInt8.ofNat n) h1
  have hkpos : 0 < k * C.bs := by rw [← hk', e, hlen]; omega
  have hct : ct = (chunks C.bs (pad C.bs p)).flatMap (C.enc key) := by
    unfold ecbEncrypt cryptBlocks at he
    rw [if_pos hk, if_neg (by rw [hk']; simp)] at he
    exact (Option.some.inj he).symm
  unfold properlyEncrypted
  rw [bytesToString_asciiBytes_b64, b64Decode_encode]
  simp only
  rw [if_neg (by rw [List.isEmpty_iff_length_eq_zero, hct, l1]; simp; omega), hct, l2, e, hl]
  simp only [hb, ht, hdr]
  rw [if_neg (by omega)]
  simp

/-- the cryption monitor never fires on what the model answers to a properly encrypted payload -/
theorem crypt_monitor_sound (C : BlockCipher) (key : Bytes) (hk : C.keyOk key = true) (hs : C.Sound key)
    (hbs : 0 < C.bs) (hbs' : C.bs ≤ 255) (p reply : Bytes) :
    cryptMonitor C key (some p) reply (flushResp C key p reply) = none := by
  unfold cryptMonitor
  cases hr : reply with
  | nil => simp [flushResp]
  | cons a t =>
    obtain ⟨ct, he, _⟩ := ecb_round_trip C key hk hs hbs hbs' (a :: t)
    have hpe := properlyEncrypted_of_encrypt C key hk hs hbs hbs' (a :: t) ct he
    simp [flushResp, he, hpe]

/-- the cryption monitor never fires on what the handler answers to a properly encrypted body, under both framings of the
request: declared length and unknown length (chunked) -/
theorem crypt_monitor_sound_on_handler (C : BlockCipher) (key : Bytes) (hk : C.keyOk key = true) (hs : C.Sound key)
    (hbs : 0 < C.bs) (hbs' : C.bs ≤ 255) (limit : Int) (p ct : Bytes) (inner : Inner)
    (he : ecbEncrypt C key p = some ct) (cl : Int)
    (hfr : (cl = (asciiBytes (b64Encode ct)).length ∧ ¬ (limit > 0 ∧ cl > limit)) ∨
           (cl = -1 ∧ ((asciiBytes (b64Encode ct)).length : Int) ≤ (if limit > 0 then limit else maxBytes))) :
    cryptMonitor C key (properlyEncrypted C key (asciiBytes (b64Encode ct))) (inner p)
      (cryptionHandler C limit key cl (asciiBytes (b64Encode ct)) inner) = none := by
  rw [properlyEncrypted_of_encrypt C key hk hs hbs hbs' p ct he,
    cryptionHandler_b64 C limit key ct p inner cl (ecbDecrypt_of_encrypt C key hs hbs hbs' p ct he) hfr]
  exact crypt_monitor_sound C key hk hs hbs hbs' p (inner p)

/-- witness (pinned code): with `ContentLength = -1` (chunked) the handler got the ciphertext text as it was sent -/
theorem chunked_body_not_decrypted_pinned (C : BlockCipher) (limit : Int) (key raw : Bytes) (inner : Inner) :
    cryptionHandlerPinned C limit key (-1) raw inner = flushResp C key raw (inner raw) := by
  unfold cryptionHandlerPinned
  rw [if_pos (by omega)]

/-- witness (pinned code): a body that decodes to no bytes makes `pkcs5Unpadding` index out of range -/
theorem unpadPinned_empty_panics (bs : Nat) : unpadPinned bs [] = .panic := rfl

/-- witness (pinned code): the encryption of the empty payload — one block of padding — is rejected -/
theorem unpadPinned_rejects_all_padding : unpadPinned 16 (pad 16 []) = .errPaddingSize := by decide

/-- with fixes/C18-unpad-empty.patch an empty input is an ordinary error -/
theorem unpad_empty_is_error (bs : Nat) : unpad bs [] = .errPaddingSize := rfl

/-- base64 on CHARACTERS: encoding then decoding gives the bytes back. The same on text (`b64Encode` / `b64Decode`, which also skips
line breaks) is `b64Decode_encode`. -/
theorem b64_round_trip (b : Bytes) : b64DecodeChars (b64EncodeChars b) = some b := b64DecodeChars_encode b

section Examples

private def exFacts : TokenFacts String :=
  { present := true, segs := 3, hdrOk := true, clmOk := true, alg := some "HS256",
    sigOk := fun s => s == "old-secret", exp := .at 2000, nbf := .at 900, iat := .absent,
    claims := [("exp", "2000"), ("iss", "me"), ("role", "admin"), ("uid", "7")] }

/-- a token signed with the previous secret, inside its validity window: runs, sees role and uid only -/
example : (authorize (jwtVerify exFacts 1000) {} "new-secret" "old-secret" 0).2
    = { ran := true, status := 200, ctx := [("role", "admin"), ("uid", "7")] } := by decide

/-- the same token at `now = exp`: 401 -/
example : (authorize (jwtVerify exFacts 2000) {} "new-secret" "old-secret" 0).2
    = { ran := false, status := 401, ctx := [] } := by decide

/-- the same token with `alg: none` -/
example : (authorize (jwtVerify { exFacts with alg := some "none" } 1000) {} "new-secret" "old-secret" 0).2.ran = false := by
  decide

/-- history: a success under the previous secret is counted -/
example : (authorize (jwtVerify exFacts 1000) {} "new-secret" "old-secret" 5).1.counts = [("old-secret", 1)] := by decide

example : unpad 16 (pad 16 [1, 2, 3]) = .ok [1, 2, 3] := by decide
example : unpad 16 (pad 16 []) = .ok [] := by decide
example : unpadPinned 16 (pad 16 [1, 2, 3]) = .ok [1, 2, 3] := by decide
example : b64EncodeChars [104, 105] = ['a', 'G', 'k', '='] := by decide
example : b64DecodeChars ['a', 'G', 'k', '='] = some [104, 105] := by decide

private def exEnv : CsEnv :=
  { rsa := fun fp _ => if fp = "good" then .ok "type=0; key=QUJD; time=100" else .noKey,
    hmacB64 := fun _ t => t, sha256Hex := fun _ => "d", urlParse := fun u => some (u, ""), now := 103 }

private def exC : BlockCipher := { bs := 16, keyOk := fun _ => true, enc := fun _ b => b, dec := fun _ b => b }

private def exReq (m p sig uri : String) : CsReq :=
  { method := m, path := p, query := "", uri := uri, headers := ["key=good; secret=S; signature=" ++ sig], cl := 0, body := [] }

theorem Except.eq_ok_of_toOption {ε α : Type} {e : Except ε α} {a : α} (h : e.toOption = some a) : e = .ok a := by
  cases e <;> simp_all [Except.toOption]

/-- what `ParseContentSecurity` makes of the example requests' header, evaluated once for the three signature texts used below
(the parser reads nothing but the header; through `toOption` because `Except` has no decidable equality) -/
theorem exParse (m p sig uri : String) (h : sig ∈ ["100\nPOST\n/a\n\nd", "forged", "100\nPOST\n/other\n\nd"]) :
    parseContentSecurity exEnv (exReq m p sig uri) = .ok ⟨[65, 66, 67], "100", 0, sig⟩ :=
  (parseContentSecurity_of_headers exEnv (exReq "" "" sig "") (exReq m p sig uri) rfl).trans
    (Except.eq_ok_of_toOption ((by decide +kernel : ∀ s ∈ ["100\nPOST\n/a\n\nd", "forged", "100\nPOST\n/other\n\nd"],
      (parseContentSecurity exEnv (exReq "" "" s "")).toOption = some ⟨[65, 66, 67], "100", 0, s⟩) sig h))

/-- a correctly signed POST inside the window: runs, and the signature covers the request -/
example : (contentSecurity exC exEnv ⟨true, 3, 0⟩ (exReq "POST" "/a" "100\nPOST\n/a\n\nd" "") id).ran = true
    ∧ csCovers exEnv ⟨true, 3, 0⟩ (exReq "POST" "/a" "100\nPOST\n/a\n\nd" "") = true := by
  rw [contentSecurity, csCovers, exParse _ _ _ _ (by decide)]; decide +kernel

/-- one second outside the tolerance, another path, another method: 403 without calling the handler -/
example : contentSecurity exC exEnv ⟨true, 2, 0⟩ (exReq "POST" "/a" "100\nPOST\n/a\n\nd" "") id
    = { ran := false, status := 403 } := by rw [contentSecurity, exParse _ _ _ _ (by decide)]; decide +kernel
example : contentSecurity exC exEnv ⟨true, 3, 0⟩ (exReq "POST" "/b" "100\nPOST\n/a\n\nd" "") id
    = { ran := false, status := 403 } := by rw [contentSecurity, exParse _ _ _ _ (by decide)]; decide +kernel
example : contentSecurity exC exEnv ⟨true, 3, 0⟩ (exReq "PUT" "/a" "100\nPOST\n/a\n\nd" "") id
    = { ran := false, status := 403 } := by rw [contentSecurity, exParse _ _ _ _ (by decide)]; decide +kernel

/-- finding 1 (method gate): a forged PATCH request runs in strict mode and is not covered -/
example : (contentSecurity exC exEnv ⟨true, 3, 0⟩ (exReq "PATCH" "/a" "forged" "") id).ran = true
    ∧ csCovers exEnv ⟨true, 3, 0⟩ (exReq "PATCH" "/a" "forged" "") = false := by
  rw [contentSecurity, csCovers, exParse _ _ _ _ (by decide)]; decide +kernel

/-- finding 2 (X-Request-Uri): a signature for `/other` is accepted on `/a` when the header names `/other` -/
example : (contentSecurity exC exEnv ⟨true, 3, 0⟩ (exReq "POST" "/a" "100\nPOST\n/other\n\nd" "/other") id).ran = true
    ∧ csCovers exEnv ⟨true, 3, 0⟩ (exReq "POST" "/a" "100\nPOST\n/other\n\nd" "/other") = false := by
  rw [contentSecurity, csCovers, exParse _ _ _ _ (by decide)]; decide +kernel

/-- the identity "cipher" satisfies the hypotheses of the round-trip theorems -/
example : exC.Sound [] := fun _ h => ⟨h, rfl⟩

private def exRaw : Bytes := asciiBytes (b64Encode (pad 16 [1, 2, 3]))

/-- the text `AQIDDQ0NDQ0NDQ0NDQ0NDQ==` -/
theorem exRaw_val : asciiBytes (b64Encode (pad 16 [1, 2, 3])) =
    [65, 81, 73, 68, 68, 81, 48, 78, 68, 81, 48, 78, 68, 81, 48, 78, 68, 81, 48, 78, 68, 81, 61, 61] := by
  rw [asciiBytes_b64Encode]; decide +kernel

/-- a chunked encrypted body (`ContentLength = -1`): with fixes/C18-chunked-body.patch the handler hands the payload on, before it
(`cryptionHandlerPinned`) the text as it was sent -/
example : (cryptionHandler exC 0 [] (-1) exRaw (fun _ => [])).seen = [1, 2, 3] := by rw [exRaw, exRaw_val]; decide +kernel
example : (cryptionHandlerPinned exC 0 [] (-1) exRaw (fun _ => [])).seen = exRaw := by rw [exRaw, exRaw_val]; decide +kernel
example : cryptMonitor exC [] (some [1, 2, 3]) [] (cryptionHandlerPinned exC 0 [] (-1) exRaw (fun _ => []))
    = some "crypt: the handler did not see the decrypted payload" := by rw [exRaw, exRaw_val]; decide +kernel
example : cryptMonitor exC [] (some [1, 2, 3]) [] (cryptionHandler exC 0 [] (-1) exRaw (fun _ => [])) = none := by
  rw [exRaw, exRaw_val]; decide +kernel
/-- declared length, no body, a body longer than the limit, a body exactly at the limit -/
example : (cryptionHandler exC 0 [] 24 exRaw (fun _ => [])).seen = [1, 2, 3] := by rw [exRaw, exRaw_val]; decide +kernel
example : (cryptionHandler exC 0 [] 0 [] (fun _ => [7])).body = asciiBytes (b64Encode (pad 16 [7])) := by
  simp only [cryptionHandler, flushResp, asciiBytes_b64Encode]; decide +kernel
example : cryptionHandler exC 20 [] (-1) exRaw (fun _ => []) = { ran := false, status := 400 } := by
  rw [exRaw, exRaw_val]; decide +kernel
example : cryptionHandler exC 24 [] (-1) exRaw (fun _ => []) = { ran := true, seen := [1, 2, 3], status := 200 } := by
  rw [exRaw, exRaw_val]; decide +kernel

end Examples

end GoZero.C18
