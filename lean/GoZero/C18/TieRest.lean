/-
C18 — Tie, second part: statements of the working tree translated into Lean functions and proven equal to the model's definitions
for all arguments (the wiring of the gates in rest/engine.go and rest/server.go, the limit decision of `decryptBody`, the gates'
closures as decision functions, the accesses to the shared history), and the arguments forwarded along the property's path.
-/
import GoZero.Extracted.C18
import GoZero.C18.Model
import GoZero.Base.StringLit
namespace GoZero.C18.TieRest
open GoZero.C18
open GoZero.Extracted.C18

/-- `buildChainWithNativeMiddlewares` consults the eleven switches of `RestConf.Middlewares` in the model's order and
appends the model's handler for each — and does nothing else (the extractor refuses any other statement) -/
theorem tie_nativeTable (m : MwConf) :
    List.zip [m.trace, m.log, m.prometheus, m.maxConns, m.breaker, m.shedding, m.timeout, m.recover, m.metrics, m.maxBytes, m.gunzip]
      nativeHandlers = nativeTable m := rfl

theorem tie_nativeSwitches : nativeSwitches =
    ["Trace", "Log", "Prometheus", "MaxConns", "Breaker", "Shedding", "Timeout", "Recover", "Metrics", "MaxBytes", "Gunzip"] := rfl

/-- no native middleware is a gate -/
theorem tie_nativeHandlers_no_gate : authorizeName ∉ nativeHandlers ∧ contentSecurityName ∉ nativeHandlers := by decide +kernel

/-- `bindRoute`, statement by statement, for EVERY user chain, native chain, auth step and `Use` list: the user's chain or
the native one, then — unconditionally — the auth handlers, then the `Use` middlewares. (A change that makes the auth
step conditional on the default chain, or puts it behind the `Use` middlewares, breaks this.) -/
theorem tie_bindRouteChain (custom : Option (List String)) (native : List String) (auth : List String → List String)
    (uses : List String) :
    bindRouteChain custom native auth uses = some (auth (custom.getD native) ++ uses) := by
  unfold bindRouteChain
  cases custom <;> simp

/-- the translated `bindRoute` with the model's pieces plugged in is the model's `bindRoute` -/
theorem tie_bindRoute_model (custom : Option (List String)) (m : MwConf) (o : RouteOpts) (uses : List String)
    (v : List String → List String) (hv : signatureVerifier o = some v) :
    bindRouteChain custom (nativeChain m) (GoZero.C18.appendAuthHandler o v) uses = GoZero.C18.bindRoute custom m o uses := by
  rw [tie_bindRouteChain]
  unfold GoZero.C18.bindRoute
  rw [hv]

/-- after the assembly: the chain wraps the ROUTE's handler and is registered under the ROUTE's method and path -/
theorem tie_bindRouteTail : bindRouteTail =
    ["handle := chn.ThenFunc(route.Handler)", "return router.Handle(route.Method, route.Path, handle)"] := rfl

/-- the name under which the model knows an appended middleware: its constructor -/
def ctorName (call : String) : String := String.ofList (call.toList.takeWhile (· ≠ '('))

theorem ctorName_of_chars (s f : String) (rest : List Char) (hs : s.toList = f.toList ++ '(' :: rest)
    (h : ∀ c ∈ f.toList, c ≠ '(') : ctorName s = f := by
  unfold ctorName
  rw [hs, List.takeWhile_append_of_pos (by simpa using h)]
  simp

/-- `appendAuthHandler`: jwt enabled ⇒ `handler.Authorize(…)` appended (with or without the previous secret), then the
verifier — for every chain and verifier -/
theorem tie_appendAuth (o : RouteOpts) (v : List String → List String) (chn : List String) :
    (appendAuth o.jwt (!o.prev) (fun c => v (c.map ctorName)) chn) = GoZero.C18.appendAuthHandler o v (chn.map ctorName) := by
  -- both texts the source appends are `handler.Authorize(` and then the arguments; `lit_chars` takes the literals apart into
  -- their characters, so that character lists are compared and no text is encoded or decoded
  have key : ∀ s args, s.toList = authorizeName.toList ++ '(' :: args →
      v (chn.map ctorName ++ [ctorName s]) = v (chn.map ctorName ++ [authorizeName]) := fun s args e => by
    rw [ctorName_of_chars s authorizeName args e (by unfold authorizeName; lit_chars; decide)]
  unfold appendAuth GoZero.C18.appendAuthHandler
  cases o.jwt <;> cases o.prev <;> simp
  · exact key _ "fr.jwt.secret, handler.WithUnauthorizedCallback(ng.unauthorizedCallback))".toList
      (by unfold authorizeName; lit_chars; decide)
  · exact key _ "fr.jwt.secret, handler.WithPrevSecret(fr.jwt.prevSecret), handler.WithUnauthorizedCallback(ng.unauthorizedCallback))".toList
      (by unfold authorizeName; lit_chars; decide)

/-- the secrets and the callback are the route group's own (`fr.jwt.secret`, `fr.jwt.prevSecret` only when it is set) -/
theorem tie_authorizeArgs : authorizeArgs =
    ["fr.jwt.secret | handler.WithUnauthorizedCallback(ng.unauthorizedCallback)",
     "fr.jwt.secret | handler.WithPrevSecret(fr.jwt.prevSecret) | handler.WithUnauthorizedCallback(ng.unauthorizedCallback)"] := rfl

/-- `signatureVerifier`'s decision list is the model's: disabled ⇒ identity, no keys ⇒ error when strict else identity,
otherwise the gate -/
theorem tie_signatureVerifierKind (o : RouteOpts) (nkeys : Nat) (hk : o.sigKeys = decide (nkeys > 0)) :
    signatureVerifierKind o.sig nkeys o.sigStrict =
      (match signatureVerifier o with
       | none => "error"
       | some f => if f [] = [] then "identity" else "gate") := by
  unfold signatureVerifierKind signatureVerifier
  cases hs : o.sig <;> cases hst : o.sigStrict <;> rcases Nat.eq_zero_or_pos nkeys with h0 | h0 <;>
    simp [hk, h0, contentSecurityName] <;> omega

/-- the gate gets the server's limit, the group's decrypters, tolerance and strictness (and the user callback only when
there is one) -/
theorem tie_contentSecurityArgs : contentSecurityArgs =
    ["ng.conf.MaxBytes | decrypters | signature.Expiry | signature.Strict",
     "ng.conf.MaxBytes | decrypters | signature.Expiry | signature.Strict | ng.unsignedCallback"] := rfl

/-- every route of a group is bound with the group's settings and the group's verifier; an error of the verifier or of a
route ends the binding -/
theorem tie_bindFeaturedRoutes : bindRouteArgs = ["fr | router | metrics | route | verifier"]
    ∧ signatureVerifierArgs = ["fr.signature"]
    ∧ bindFeaturedRoutesShape = ["call ng.signatureVerifier", "if err != nil {", "return", "}", "range fr.routes {",
        "call ng.bindRoute", "if err != nil {", "return", "}", "}", "return"]
    ∧ bindRoutesShape = ["call ng.createMetrics", "range ng.routes {", "call ng.bindFeaturedRoutes", "if err != nil {",
        "return", "}", "}", "return"] := ⟨rfl, rfl, rfl, rfl⟩

/-- `WithJwt` enables the gate and sets the secret — and leaves `prevSecret` alone (the model's `.withJwt`) -/
theorem tie_withJwt : withJwtAssigns = ["validateSecret(secret)", "r.jwt.enabled = true", "r.jwt.secret = secret"] := rfl

theorem tie_withJwtTransition : withJwtTransitionAssigns =
    ["validateSecret(secret)", "r.jwt.enabled = true", "r.jwt.secret = secret", "r.jwt.prevSecret = prevSecret"] := rfl

theorem tie_withSignature : withSignatureAssigns =
    ["r.signature.enabled = true", "r.signature.Strict = signature.Strict", "r.signature.Expiry = signature.Expiry",
     "r.signature.PrivateKeys = signature.PrivateKeys"] := rfl

theorem tie_serverGlue : withChainAssigns = ["svr.ngin.chain = chn"]
    ∧ withUnauthorizedCallbackCalls = ["svr.ngin.setUnauthorizedCallback(callback)"]
    ∧ addRoutesShape = ["range opts {", "call opt", "}", "call s.ngin.addRoutes"]
    ∧ serverUseShape = ["call s.ngin.use"] ∧ engineUseShape = ["store ng.middlewares"]
    ∧ engineAddRoutesShape = ["if r.sse {", "call buildSSERoutes", "store r.routes", "}", "store ng.routes",
        "if r.timeout > ng.timeout {", "store ng.timeout", "}"]
    ∧ convertMiddlewareShape = ["func{", "call ware", "return", "}", "return"] := ⟨rfl, rfl, rfl, rfl, rfl, rfl, rfl⟩

/-- `err == nil && int64(len(content)) == max` is the model's "the limit is used up" — equality, not an order -/
theorem tie_limitUsedUp (e len max : Int) : Extracted.C18.limitUsedUp e e len max = GoZero.C18.limitUsedUp len max := by
  unfold Extracted.C18.limitUsedUp GoZero.C18.limitUsedUp
  simp

/-- `n > 0` after reading one more byte is the model's `probeMore` (`n` = the number of bytes the probe got: 0 or 1) -/
theorem tie_probeFoundMore (max : Int) (raw : Bytes) :
    probeFoundMore (((raw.drop max.toNat).take 1).length : Nat) = GoZero.C18.probeMore max raw := by
  unfold probeFoundMore GoZero.C18.probeMore
  cases raw.drop max.toNat <;> simp

/-- `max := limitBytes; if max <= 0 { max = maxBytes }` -/
theorem tie_unknownCap (limit : Int) :
    (if noLimitConfigured limit then Extracted.C18.maxBytes else limit) = unknownCap limit := by
  unfold noLimitConfigured unknownCap
  by_cases h : limit ≤ 0 <;> simp [h] <;> decide

/-- `readBody`'s three tests are the extracted ones -/
theorem tie_readBody (limit cl : Int) (raw : Bytes) :
    readBody limit cl raw =
      (if lengthExceeded limit cl then none
       else if declaredLength cl then readDeclared cl raw
       else readUnknown (if noLimitConfigured limit then Extracted.C18.maxBytes else limit) raw) := by
  rw [tie_unknownCap]
  unfold readBody lengthExceeded declaredLength
  by_cases h1 : limit > 0 <;> by_cases h2 : cl > limit <;> by_cases h3 : cl > 0 <;> simp [h1, h2, h3]

/-- what is read, decoded, decrypted and with which key / limit, along the path -/
theorem tie_cryptionArgs : limitReaderArgs = ["r.Body | max"]
    ∧ readFullArgs = ["r.Body | content", "r.Body | make([]byte, 1)"]
    ∧ decodeArgs = ["string(content)"] ∧ ecbDecryptArgs = ["key | content"] ∧ ecbEncryptArgs = ["key | w.buf.Bytes()"]
    ∧ decryptBodyArgs = ["limitBytes | key | r"] ∧ cryptionHandlerArgs = ["maxBytes | key"] := ⟨rfl, rfl, rfl, rfl, rfl, rfl, rfl⟩

/-- the content-security handler verifies THIS request with the parsed header and the configured tolerance, hands an
encrypted body to the cryption handler with the configured limit and the HEADER's key, and passes its strictness on -/
theorem tie_contentSecurityCalls : verifySignatureArgs = ["r | header | tolerance"]
    ∧ csCryptionArgs = ["limitBytes | header.Key"]
    ∧ executeCallbacksArgs = ["w | r | next | strict | httpx.CodeSignatureInvalidHeader | callbacks",
                              "w | r | next | strict | code | callbacks"]
    ∧ hmacBase64Args = ["securityHeader.Key | signContent"] := ⟨rfl, rfl, rfl, rfl⟩

/-- the default failure handler is installed exactly when the caller passed no callback -/
theorem tie_noUserCallback (n : Nat) : noUserCallback n = decide (n = 0) := by
  unfold noUserCallback; simp

/-- `Authorize` verifies THIS request under the configured secret and the configured previous secret -/
theorem tie_parseTokenArgs : parseTokenArgs = ["r | secret | authOpts.PrevSecret"] := rfl

/-- codec: HMAC-SHA256 under the given key; unpadding of the decrypted bytes with the cipher's block size; padding of the
source with the cipher's block size, `padding` bytes of value `byte(padding)` -/
theorem tie_codecArgs : hmacNewArgs = ["sha256.New | key"] ∧ unpaddingArgs = ["decrypted | decrypter.BlockSize()"]
    ∧ paddingArgs = ["src | block.BlockSize()"] ∧ padRepeatArgs = ["[]byte{byte(padding)} | padding"] := ⟨rfl, rfl, rfl, rfl⟩

/-- `rsaBase.crypt` cuts at `bytesLimit`: the last piece is the one that would run past the input -/
theorem tie_rsaLastChunk (limit i len : Int) : rsaLastChunk limit i len = decide (limit * (i + 1) > len) := rfl

theorem tie_rsaEmptyInput (n : Nat) : rsaEmptyInput n = decide (n = 0) := by
  unfold rsaEmptyInput; simp

/-- the key loading of `signatureVerifier`, TRANSLATED: a map made fresh for the call, one store
`decrypters[key.Fingerprint] = NewRsaDecrypter(key.KeyFile)` per key of the group's own `signature.PrivateKeys`, a failed
load ends it — equal to the model's `loadDecrypters` for EVERY loader and key list. (A map kept in the engine and shared
between groups, a swapped fingerprint / file, a store before the error check are refused by the translator.) -/
theorem tie_loadDecrypters {D : Type} (load : String → Option D) (keys : List KeyConf) :
    svLoadDecrypters load keys = GoZero.C18.loadDecrypters load keys := rfl

/-- … and that map — no other — is the gate's second argument, on both call sites -/
theorem tie_gateMap : svGateMap = ["decrypters"]
    ∧ contentSecurityArgs = ["ng.conf.MaxBytes | decrypters | signature.Expiry | signature.Strict",
        "ng.conf.MaxBytes | decrypters | signature.Expiry | signature.Strict | ng.unsignedCallback"] :=
  ⟨rfl, tie_contentSecurityArgs⟩

/-- `ParseContentSecurity` gets the gate's decrypters and THIS request; the secret field is what is decrypted, the first
header value and the decrypted secret are what `ParseHeader` splits -/
theorem tie_parseContentSecurityCalls : parseContentSecurityArgs = ["decrypters | r"]
    ∧ decryptBase64Args = ["secret"] ∧ parseHeaderArgs = ["contentSecurity", "string(decryptedSecret)"] := ⟨rfl, rfl, rfl⟩

/-- the one-line constructors forward everything: `ContentSecurityHandler(decrypters, tolerance, strict, callbacks...)` =
`LimitContentSecurityHandler(maxBytes, decrypters, tolerance, strict, callbacks...)` -/
theorem tie_contentSecurityWrapper : contentSecurityWrapperArgs = ["maxBytes | decrypters | tolerance | strict | callbacks..."] := rfl

/-- `HmacBase64(key, body)` is the base64 of `Hmac(key, body)`, which writes exactly `body` into the keyed hash -/
theorem tie_hmacCalls : hmacCallArgs = ["key | body"] ∧ hmacWriteArgs = ["h | body"] := ⟨rfl, rfl⟩

/-- the options of `Authorize` and the server-level callback setters store what they are given -/
theorem tie_authorizeOptions : withPrevSecretAssigns = ["opts.PrevSecret = secret"]
    ∧ authWithCallbackAssigns = ["opts.Callback = callback"]
    ∧ withUnsignedCallbackCalls = ["svr.ngin.setUnsignedCallback(callback)"] := ⟨rfl, rfl, rfl⟩

/-- `Authorize`'s closure: parse; an error, an invalid token, claims of another type each end in `unauthorized` (and
nothing else); only otherwise the wrapped handler is called, with the request that carries the new context -/
theorem tie_authorizeEffects (e v c : Bool) : authorizeEffects e v c =
    "parser.ParseToken(r, secret, authOpts.PrevSecret)" ::
      (if e then ["unauthorized(w, r, err, authOpts.Callback)"]
       else if !v then ["unauthorized(w, r, errInvalidToken, authOpts.Callback)"]
       else if !c then ["unauthorized(w, r, errNoClaims, authOpts.Callback)"]
       else ["next.ServeHTTP(w, r.WithContext(ctx))"]) := by
  cases e <;> cases v <;> cases c <;> rfl

/-- `tok.Valid` of what `ParseToken` returned -/
def parsedValid {C : Type} : Parsed C → Bool
  | .tok v _ => v
  | .err => false

/-- the token's claims are a `jwt.MapClaims` -/
def parsedHasClaims {C : Type} : Parsed C → Bool
  | .tok _ (some _) => true
  | _ => false

/-- … which is the model's `authorize`: the extracted decision, fed with what `ParseToken` returned, calls the handler
exactly when the model says it runs — for every verify function, history, secret pair and clock -/
theorem tie_authorize_model {V : Type} (verify : String → Parsed (List (String × V))) (h : Hist) (secret prev : String)
    (clock : Int) :
    ("next.ServeHTTP(w, r.WithContext(ctx))" ∈
        authorizeEffects (parseToken verify h secret prev clock).2.isErr (parsedValid (parseToken verify h secret prev clock).2)
          (parsedHasClaims (parseToken verify h secret prev clock).2))
      ↔ (authorize verify h secret prev clock).2.ran = true := by
  unfold authorize
  simp only []
  rcases hr : (parseToken verify h secret prev clock).2 with _ | ⟨valid, claims⟩
  · simp [Parsed.isErr, authorizeEffects]
  · cases valid <;> cases claims <;> simp [Parsed.isErr, parsedValid, parsedHasClaims, authorizeEffects]

/-- `unauthorized`: the user's callback (when there is one) goes FIRST, then 401 is written — in every case -/
theorem tie_unauthorizedEffects (hasErr hasCallback : Bool) : unauthorizedEffects hasErr hasCallback =
    (if hasCallback then ["callback(writer, r, err)"] else []) ++ ["writer.WriteHeader(http.StatusUnauthorized)"] := by
  cases hasErr <;> cases hasCallback <;> rfl

/-- the gate's closure as a decision function of the method, the two checks' results and the body/type flags -/
theorem tie_csGateEffects (method : String) (pe pass hb enc : Bool) : csGateEffects method pe pass hb enc =
    (if gatedMethods.contains method then
       "security.ParseContentSecurity(decrypters, r)" ::
         (if pe then ["executeCallbacks(w, r, next, strict, httpx.CodeSignatureInvalidHeader, callbacks)"]
          else "security.VerifySignature(r, header, tolerance)" ::
            (if !pass then ["executeCallbacks(w, r, next, strict, code, callbacks)"]
             else if hb && enc then ["LimitCryptionHandler(limitBytes, header.Key)(next).ServeHTTP(w, r)"]
             else ["next.ServeHTTP(w, r)"]))
     else ["next.ServeHTTP(w, r)"]) := by
  unfold csGateEffects gatedMethods
  cases pe <;> cases pass <;> cases hb <;> cases enc <;> rfl

/-- what the LAST effect of the gate's closure does to the request, in the model's terms (default callback) -/
def csInterpret (C : BlockCipher) (cfg : CsCfg) (req : CsReq) (inner : Inner) (key : Bytes) (last : String) : Resp :=
  if last = "next.ServeHTTP(w, r)" then plainNext inner req.body
  else if last = "LimitCryptionHandler(limitBytes, header.Key)(next).ServeHTTP(w, r)" then
    cryptionHandler C cfg.limit key req.cl req.body inner
  else verificationFailure cfg.strict inner req.body

/-- `err != nil` after `ParseContentSecurity` -/
def parseFailed : Except CsParseErr CsHeader → Bool
  | .error _ => true
  | .ok _ => false

/-- the parsed header; a dummy after a failed parse, where the translated decision does not look at it -/
def headerOf : Except CsParseErr CsHeader → CsHeader
  | .ok h => h
  | .error _ => { key := [], timestamp := "", contentType := 0, signature := "" }

/-- THE MODEL'S GATE IS THE EXTRACTED DECISION: `contentSecurity` = the last effect of the translated closure, fed with
the results of `parseContentSecurity` / `verifySignature` and the framing / type flags, interpreted with the model's
pieces — for every cipher, environment, configuration, request and handler -/
theorem tie_csGate_model (C : BlockCipher) (env : CsEnv) (cfg : CsCfg) (req : CsReq) (inner : Inner) :
    contentSecurity C env cfg req inner =
      csInterpret C cfg req inner (headerOf (parseContentSecurity env req)).key
        ((csGateEffects req.method (parseFailed (parseContentSecurity env req))
            (decide (verifySignature env cfg.tol req (headerOf (parseContentSecurity env req)) = 0))
            (decide (req.cl ≠ 0)) (decide ((headerOf (parseContentSecurity env req)).contentType = 1))).getLast?.getD "") := by
  rw [tie_csGateEffects]
  unfold contentSecurity
  by_cases hg : gatedMethods.contains req.method = true
  · rw [if_pos hg, if_pos hg]
    cases hp : parseContentSecurity env req with
    | error e => simp [parseFailed, csInterpret]
    | ok h =>
      simp only [parseFailed, headerOf]
      by_cases hv : verifySignature env cfg.tol req h = 0
      · by_cases h1 : req.cl = 0 <;> by_cases h2 : h.contentType = 1 <;> simp [hv, h1, h2, csInterpret]
      · simp [hv, csInterpret]
  · rw [if_neg hg, if_neg hg]
    simp [csInterpret]

/-- `handleVerificationFailure`: strict ⇒ 403 and NOTHING else; the handler is called only in the non-strict case — the
model's `verificationFailure` -/
theorem tie_verificationFailureEffects (strict : Bool) : verificationFailureEffects strict =
    (if strict then ["w.WriteHeader(http.StatusForbidden)"] else ["next.ServeHTTP(w, r)"]) := by
  cases strict <;> rfl

theorem tie_verificationFailure_model (strict : Bool) (inner : Inner) (body : Bytes) :
    ("next.ServeHTTP(w, r)" ∈ verificationFailureEffects strict) ↔ (verificationFailure strict inner body).ran = true := by
  cases strict <;> simp [verificationFailureEffects, verificationFailure, plainNext]

/-- `executeCallbacks` calls every callback, each with this request, the handler, the strictness and the code -/
theorem tie_executeCallbacksEffects : executeCallbacksEffects = ["range callbacks", "callback(w, r, next, strict, code)"] := rfl

/-- `LimitCryptionHandler`'s closure: the flush is deferred FIRST; no body ⇒ the handler with the cryption writer; otherwise
the body is decrypted, an error ⇒ 400 and nothing else, success ⇒ the handler with the cryption writer -/
theorem tie_cryptionEffects (noBody decryptErr : Bool) : cryptionEffects noBody decryptErr =
    "defer cw.flush(r.Context(), key)" ::
      (if noBody then ["next.ServeHTTP(cw, r)"]
       else "decryptBody(limitBytes, key, r)" ::
         (if decryptErr then ["w.WriteHeader(http.StatusBadRequest)"] else ["next.ServeHTTP(cw, r)"])) := by
  cases noBody <;> cases decryptErr <;> rfl

/-- … the handler is called iff there is no body or the body could be read and decrypted (the shape of the model's
`cryptionHandlerViaRead`) -/
theorem tie_cryption_model (noBody decryptErr : Bool) :
    ("next.ServeHTTP(cw, r)" ∈ cryptionEffects noBody decryptErr) ↔ (noBody = true ∨ decryptErr = false) := by
  cases noBody <;> cases decryptErr <;> simp [cryptionEffects]

/-- `TokenParser.ParseToken` executed symbolically (every call with the secret it is given) IS the model's call list, for
every secret pair, both settings of "a previous secret is configured" and "the current secret's counter leads", and every
outcome of the two verifications: the second attempt is a call of the SAME `doParseToken(r, ·)` with the OTHER secret, made
only after the first failed; the counter of the secret that verified is incremented; nothing else decides the result -/
theorem tie_parseTokenCalls (secret prev : String) (hasPrev lead : Bool) (err : String → Bool) :
    Extracted.C18.parseTokenCalls secret prev hasPrev lead err = GoZero.C18.parseTokenCalls secret prev hasPrev lead err := by
  cases hasPrev <;> cases lead <;> rfl

/-- `cryptionResponseWriter.flush` TRANSLATED, for every outcome of its four conditions: nothing buffered ⇒ nothing at all;
encryption fails ⇒ 500 and nothing else; otherwise the base64 of the ciphertext is written to the underlying writer ONCE —
and a write error or a short write changes NOTHING (both branches only log): the list does not depend on them -/
theorem tie_flushEffects (empty encErr writeErr short : Bool) : flushEffects empty encErr writeErr short =
    (if empty then []
     else "codec.EcbEncrypt(key, w.buf.Bytes())" ::
       (if encErr then ["w.WriteHeader(http.StatusInternalServerError)"]
        else ["base64.StdEncoding.EncodeToString(content)", "io.WriteString(w.ResponseWriter, body)"])) := by
  cases empty <;> cases encErr <;> cases writeErr <;> cases short <;> rfl

/-- … which agrees with the model's `flushResp` in the two cases stated: nothing is written exactly for an empty reply, and
500 is written exactly when the reply is not empty and the model answers 500 (a key the cipher refuses) -/
theorem tie_flush_model (C : BlockCipher) (key seen out : Bytes) (we sh : Bool) :
    (flushEffects out.isEmpty (ecbEncrypt C key out).isNone we sh = [] ↔ out.isEmpty = true) ∧
    ("w.WriteHeader(http.StatusInternalServerError)" ∈ flushEffects out.isEmpty (ecbEncrypt C key out).isNone we sh ↔
      (out.isEmpty = false ∧ (flushResp C key seen out).status = 500)) := by
  rw [tie_flushEffects]
  unfold flushResp
  cases ho : out.isEmpty <;> cases he : ecbEncrypt C key out <;> simp

/-- what a return statement of `ParseContentSecurity` means in the model -/
def parseResultOf (hdr : CsHeader) (last : String) : Except CsParseErr CsHeader :=
  if last = "return nil, ErrInvalidHeader" then .error .invalidHeader
  else if last = "return nil, ErrInvalidPublicKey" then .error .invalidPublicKey
  else if last = "return nil, ErrInvalidSecret" then .error .invalidSecret
  else if last = "return nil, ErrInvalidKey" then .error .invalidKey
  else if last = "return nil, ErrInvalidContentType" then .error .invalidContentType
  else .ok hdr

/-- the decrypted secret, empty where there is none -/
def rsaPlain : RsaRes → String
  | .ok p => p
  | _ => ""

/-- THE MODEL'S `parseContentSecurity` IS THE TRANSLATED FUNCTION: the same five tests in the same order (an empty field, a
fingerprint without decrypter, an undecryptable secret, a key that is not base64, a type that is no integer), each ending in
its own error, and on success the header built from the decoded key, the timestamp, the type and the SIGNATURE FIELD OF THE
HEADER — for every environment and request -/
theorem tie_parseContentSecurity_model (env : CsEnv) (req : CsReq) :
    parseContentSecurity env req =
      parseResultOf
        { key := (b64Decode (attr (parseHeaderFields (rsaPlain (env.rsa (headerTriple req).1 (headerTriple req).2.1))) "key")).getD [],
          timestamp := attr (parseHeaderFields (rsaPlain (env.rsa (headerTriple req).1 (headerTriple req).2.1))) "time",
          contentType := (parseInt64 (attr (parseHeaderFields (rsaPlain (env.rsa (headerTriple req).1 (headerTriple req).2.1))) "type")).getD 0,
          signature := (headerTriple req).2.2 }
        ((parseContentSecurityEffects
            (decide ((headerTriple req).1.isEmpty = true ∨ (headerTriple req).2.1.isEmpty = true ∨ (headerTriple req).2.2.isEmpty = true))
            (decide (env.rsa (headerTriple req).1 (headerTriple req).2.1 = .noKey))
            (decide (env.rsa (headerTriple req).1 (headerTriple req).2.1 = .err))
            (b64Decode (attr (parseHeaderFields (rsaPlain (env.rsa (headerTriple req).1 (headerTriple req).2.1))) "key")).isNone
            (parseInt64 (attr (parseHeaderFields (rsaPlain (env.rsa (headerTriple req).1 (headerTriple req).2.1))) "type")).isNone).getLast?.getD "") := by
  unfold parseContentSecurity parseContentSecurityEffects
  by_cases h0 : (headerTriple req).1.isEmpty = true ∨ (headerTriple req).2.1.isEmpty = true ∨ (headerTriple req).2.2.isEmpty = true
  · rw [if_pos h0]
    simp only [decide_eq_true h0]
    simp [parseResultOf]
  · rw [if_neg h0]
    simp only [decide_eq_false h0]
    cases hr : env.rsa (headerTriple req).1 (headerTriple req).2.1 with
    | noKey => simp [parseResultOf]
    | err => simp [parseResultOf]
    | ok plain =>
      simp only [rsaPlain]
      split
      · rename_i hk; simp [hk, parseResultOf]
      · rename_i key hk
        split
        · rename_i ht; simp [hk, ht, parseResultOf]
        · rename_i ct ht; simp [hk, ht, parseResultOf]

/-- the code a return statement of `VerifySignature` stands for -/
def codeOf (last : String) : Nat :=
  if last = "return httpx.CodeSignaturePass" then 0
  else if last = "return httpx.CodeSignatureInvalidHeader" then 1
  else if last = "return httpx.CodeSignatureWrongTime" then 2
  else 3

/-- THE MODEL'S `verifySignature` IS THE TRANSLATED FUNCTION: timestamp parse, then the window, then path / query, the HMAC
under the HEADER's key, and pass exactly on equality with the header's signature. (`outsideWindow` is the model's here; the
extracted condition is the same function: `Tie.tie_outsideWindow`.) -/
theorem tie_verifySignature_model (env : CsEnv) (tol : Int) (req : CsReq) (h : CsHeader) :
    verifySignature env tol req h =
      codeOf ((verifySignatureEffects (parseInt64 h.timestamp).isNone
          (outsideWindow ((parseInt64 h.timestamp).getD 0) tol env.now)
          (decide (h.signature = env.hmacB64 h.key
            (signContent env h.timestamp req.method (pathQuery env req).1 (pathQuery env req).2 req.body)))).getLast?.getD "") := by
  unfold verifySignature verifySignatureEffects
  cases hp : parseInt64 h.timestamp with
  | none => simp [codeOf]
  | some sec =>
    by_cases hw : outsideWindow sec tol env.now = true
    · simp [hw, codeOf]
    · by_cases hs : h.signature = env.hmacB64 h.key
          (signContent env h.timestamp req.method (pathQuery env req).1 (pathQuery env req).2 req.body)
      · simp [hw, hs, codeOf]
      · simp [hw, hs, codeOf]

/-- the codes are the constants of rest/httpx (tie_codes) -/
theorem tie_codeOf : codeOf "return httpx.CodeSignaturePass" = 0 ∧ codeOf "return httpx.CodeSignatureInvalidHeader" = 1
    ∧ codeOf "return httpx.CodeSignatureWrongTime" = 2 ∧ codeOf "return httpx.CodeSignatureInvalidToken" = 3 := by simp [codeOf]

/-- `incrementCount` TRANSLATED: clock, clearing (a `Range` whose body deletes every key — checked by the extractor) when the
reset time has passed, `Load`, then atomic add on the loaded cell or a fresh `Store` — the model's `incrAccesses`, for
both outcomes of both conditions -/
theorem tie_incrementCountEffects (expired present : Bool) :
    incrementCountEffects expired present = Conc.incrAccesses expired present := by
  cases expired <;> cases present <;> rfl

theorem tie_loadCountEffects (present : Bool) : loadCountEffects present = Conc.loadAccesses present := by
  cases present <;> rfl

/-- after `computeBodySignature` `r.Body` is the second reader of `iox.DupReadCloser`, which reads from a `bytes.Buffer`
DECLARED IN THAT CALL (`var buf bytes.Buffer`, returned as `io.NopCloser(&buf)`): a fresh buffer per request — the model's
`Own.stepFresh`. The package has no variable besides its five errors: no pool, no buffer reachable from two requests. (A
pooled buffer — seeded C18-9, the model's `Own.stepPooled` — changes the assignments AND adds a package variable.) -/
theorem tie_bodyOwnedByRequest : bodyAssignments = ["r.Body, dup = iox.DupReadCloser(r.Body)", "r.Body = dup"]
    ∧ dupReadCloserLocals = ["var buf bytes.Buffer"]
    ∧ dupReadCloserReturns = ["io.NopCloser(tee), io.NopCloser(&buf)"]
    ∧ securityPackageVars = ["ErrInvalidContentType = errors.New", "ErrInvalidHeader = errors.New", "ErrInvalidKey = errors.New",
        "ErrInvalidPublicKey = errors.New", "ErrInvalidSecret = errors.New"] := ⟨rfl, rfl, rfl, rfl⟩

/-- the decrypted body likewise: `decryptBody` hands the handler a reader over a buffer declared in the call; the package's
only variable is an error -/
theorem tie_decryptedBodyOwnedByRequest : decryptBodyAssignments = ["r.Body = io.NopCloser(&buf)"]
    ∧ decryptBodyLocals = ["var content []byte", "var err error", "var buf bytes.Buffer"]
    ∧ cryptionPackageVars = ["errContentLengthExceeded = errors.New"] := ⟨rfl, rfl, rfl⟩

end GoZero.C18.TieRest
