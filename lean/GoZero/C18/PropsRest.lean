/-
C18 — the gates as rest/engine.go and rest/server.go bind them (`bindRoute`, the route options, `runChain`, the end-to-end
statements from server options to handler), and the limit decision of `decryptBody` (`readBody`, `cryptionHandlerViaRead`).
-/
import GoZero.C18.Props
namespace GoZero.C18

theorem runChain_ran_iff (v : String → Option Nat) (chn : List String) :
    (runChain v chn).ran = true ↔ ∀ n ∈ chn, v n = none := by
  induction chn with
  | nil => simp [runChain]
  | cons a t ih =>
    unfold runChain
    cases h : v a with
    | some st => simp [h]
    | none => simp [h, ih]

/-- a request that does not reach the handler was answered by one of the middlewares of the chain, with its status -/
theorem runChain_rejected_by_member (v : String → Option Nat) (chn : List String)
    (h : (runChain v chn).ran = false) : ∃ n ∈ chn, v n = some (runChain v chn).status := by
  induction chn with
  | nil => simp [runChain] at h
  | cons a t ih =>
    unfold runChain at h ⊢
    cases hv : v a with
    | some st => exact ⟨a, by simp, by simp [hv]⟩
    | none =>
      simp only [hv] at h ⊢
      obtain ⟨n, hn, hs⟩ := ih h
      exact ⟨n, by simp [hn], hs⟩

theorem runChain_append (v : String → Option Nat) (l1 l2 : List String) :
    runChain v (l1 ++ l2) =
      if (runChain v l1).ran then { runChain v l2 with saw := l1 ++ (runChain v l2).saw } else runChain v l1 := by
  induction l1 with
  | nil => rfl
  | cons a t ih =>
    match h : v a with
    | some st => simp [runChain, h]
    | none =>
      simp only [List.cons_append, runChain, h, ih]
      split <;> rfl

theorem runChain_saw_subset (v : String → Option Nat) (l : List String) : ∀ u ∈ (runChain v l).saw, u ∈ l := by
  induction l with
  | nil => simp [runChain]
  | cons a t ih =>
    unfold runChain
    cases v a with
    | some st => simp
    | none => simpa using fun u hu => Or.inr (ih u hu)

theorem runChain_all_pass (v : String → Option Nat) (chn : List String) (h : ∀ n ∈ chn, v n = none) :
    runChain v chn = { saw := chn, ran := true, status := 200 } := by
  induction chn with
  | nil => rfl
  | cons a t ih =>
    have ha : v a = none := h a (by simp)
    have := ih (fun n hn => h n (by simp [hn]))
    simp only [runChain, ha, this]

/-- the two gates have different names (what `gateVerdict` and the membership lemmas of a bound chain compare) -/
theorem gateNames_ne : contentSecurityName ≠ authorizeName := by decide

/-- the gates a group of routes gets -/
def gatesOf (o : RouteOpts) : List String :=
  (if o.jwt then [authorizeName] else []) ++ (if o.sig ∧ o.sigKeys then [contentSecurityName] else [])

theorem mem_gatesOf (o : RouteOpts) (n : String) :
    n ∈ gatesOf o ↔ (o.jwt = true ∧ n = authorizeName) ∨ ((o.sig = true ∧ o.sigKeys = true) ∧ n = contentSecurityName) := by
  unfold gatesOf
  by_cases hj : o.jwt = true <;> by_cases hs : o.sig = true ∧ o.sigKeys = true <;> simp [hj, hs]

theorem signatureVerifier_some (o : RouteOpts) (v : List String → List String) (h : signatureVerifier o = some v)
    (c : List String) : v c = c ++ if o.sig ∧ o.sigKeys then [contentSecurityName] else [] := by
  unfold signatureVerifier at h
  cases hs : o.sig <;> cases hk : o.sigKeys <;> simp [hs, hk] at h ⊢
  · rw [← h]; rfl
  · rw [← h]; rfl
  · rw [← h.2]; rfl
  · rw [← h]

/-- `bindRoute` for EVERY base chain (the user's `WithChain` chain, or the native one under every setting of
`RestConf.Middlewares`), every list of `Server.Use` middlewares and every option set: base ++ gates ++ uses, or nothing
at all when the signature configuration is refused -/
theorem bindRoute_chain (custom : Option (List String)) (m : MwConf) (o : RouteOpts) (uses chn : List String)
    (h : bindRoute custom m o uses = some chn) :
    chn = custom.getD (nativeChain m) ++ gatesOf o ++ uses := by
  unfold bindRoute at h
  cases hv : signatureVerifier o with
  | none => rw [hv] at h; cases h
  | some v =>
    rw [hv] at h
    cases h
    unfold appendAuthHandler gatesOf
    rw [signatureVerifier_some o v hv]
    split <;> simp

theorem bindRoute_none_iff (custom : Option (List String)) (m : MwConf) (o : RouteOpts) (uses : List String) :
    bindRoute custom m o uses = none ↔ (o.sig = true ∧ o.sigKeys = false ∧ o.sigStrict = true) := by
  unfold bindRoute signatureVerifier
  cases hs : o.sig <;> cases hk : o.sigKeys <;> cases hst : o.sigStrict <;> simp

/-- jwt enabled ⇒ `Authorize` is in the chain — with the native chain and with a user-supplied one alike -/
theorem jwt_gate_in_every_chain (custom : Option (List String)) (m : MwConf) (o : RouteOpts) (uses chn : List String)
    (hj : o.jwt = true) (h : bindRoute custom m o uses = some chn) : authorizeName ∈ chn := by
  rw [bindRoute_chain custom m o uses chn h]
  simp [gatesOf, hj]

/-- signature enabled with keys ⇒ `LimitContentSecurityHandler` is in the chain, for every configuration -/
theorem signature_gate_in_every_chain (custom : Option (List String)) (m : MwConf) (o : RouteOpts) (uses chn : List String)
    (hs : o.sig = true) (hk : o.sigKeys = true) (h : bindRoute custom m o uses = some chn) : contentSecurityName ∈ chn := by
  rw [bindRoute_chain custom m o uses chn h]
  simp [gatesOf, hs, hk]

/-- strict signature checking without a key is refused: no route of the group is bound at all -/
theorem strict_signature_without_keys_binds_nothing (custom : Option (List String)) (m : MwConf) (o : RouteOpts)
    (uses : List String) (hs : o.sig = true) (hk : o.sigKeys = false) (hst : o.sigStrict = true) :
    bindRoute custom m o uses = none := (bindRoute_none_iff custom m o uses).mpr ⟨hs, hk, hst⟩

/-- the gates are present on EXACTLY the routes that declared them: none is added to a route that did not ask for it
(unless the user's own chain / middlewares contain it) -/
theorem no_jwt_gate_unless_declared (custom : Option (List String)) (m : MwConf) (o : RouteOpts) (uses chn : List String)
    (hj : o.jwt = false) (hbase : authorizeName ∉ custom.getD (nativeChain m)) (huses : authorizeName ∉ uses)
    (h : bindRoute custom m o uses = some chn) : authorizeName ∉ chn := by
  rw [bindRoute_chain custom m o uses chn h]
  simp [mem_gatesOf, hj, hbase, huses, gateNames_ne.symm]

theorem no_signature_gate_unless_declared (custom : Option (List String)) (m : MwConf) (o : RouteOpts) (uses chn : List String)
    (hs : ¬ (o.sig = true ∧ o.sigKeys = true)) (hbase : contentSecurityName ∉ custom.getD (nativeChain m))
    (huses : contentSecurityName ∉ uses) (h : bindRoute custom m o uses = some chn) : contentSecurityName ∉ chn := by
  rw [bindRoute_chain custom m o uses chn h]
  simp [mem_gatesOf, hs, hbase, huses, gateNames_ne]

/-- the native chain never contains a gate by itself, whatever `RestConf.Middlewares` says -/
theorem nativeChain_has_no_gate (m : MwConf) : authorizeName ∉ nativeChain m ∧ contentSecurityName ∉ nativeChain m := by
  have key : ∀ n ∈ nativeChain m, n ∈ (nativeTable m).map (·.2) := by
    intro n hn
    obtain ⟨e, he, hv⟩ := List.mem_filterMap.mp hn
    split at hv
    · exact List.mem_map.mpr ⟨e, he, Option.some.inj hv⟩
    · cases hv
  constructor <;> intro h <;> have := key _ h <;> simp [nativeTable, authorizeName, contentSecurityName] at this

/-- a flag that one option of the list sets and no option clears is set after the whole list -/
theorem foldl_sets {α β : Type} (f : β → α → β) (P : β → Prop) (keep : ∀ b x, P b → P (f b x)) (a : α)
    (sets : ∀ b, P (f b a)) : ∀ (l : List α) (b : β), P b ∨ a ∈ l → P (l.foldl f b)
  | [], _, h => h.elim id (by simp)
  | x :: t, b, h => foldl_sets f P keep a sets t (f b x) <| by
      rcases h with h | h
      · exact Or.inl (keep b x h)
      · rcases List.mem_cons.mp h with rfl | h
        · exact Or.inl (sets b)
        · exact Or.inr h

/-- `WithJwt` / `WithJwtTransition` anywhere in the option list enables the gate; no later option switches it off -/
theorem jwt_option_enables_the_gate (opts : List RouteOption)
    (h : RouteOption.withJwt ∈ opts ∨ ∃ b, RouteOption.withJwtTransition b ∈ opts) : (applyOptions opts).jwt = true := by
  have keep : ∀ (o : RouteOpts) (x : RouteOption), o.jwt = true → (RouteOption.apply o x).jwt = true := by
    intro o x h; cases x <;> simp [RouteOption.apply, h]
  rcases h with h | ⟨b, h⟩ <;>
    exact foldl_sets _ (fun o : RouteOpts => o.jwt = true) keep _ (fun _ => rfl) opts {} (Or.inr h)

/-- `WithSignature` anywhere in the option list enables signature checking -/
theorem signature_option_enables_the_gate (opts : List RouteOption)
    (h : ∃ s k, RouteOption.withSignature s k ∈ opts) : (applyOptions opts).sig = true := by
  have keep : ∀ (o : RouteOpts) (x : RouteOption), o.sig = true → (RouteOption.apply o x).sig = true := by
    intro o x h; cases x <;> simp [RouteOption.apply, h]
  obtain ⟨s, k, h⟩ := h
  exact foldl_sets _ (fun o : RouteOpts => o.sig = true) keep _ (fun _ => rfl) opts {} (Or.inr h)

/-- state that persists between options: `WithJwt` after `WithJwtTransition` keeps the previous secret in force -/
theorem withJwt_keeps_previous_secret (o : RouteOpts) : (RouteOption.apply o .withJwt).prev = o.prev := rfl

example : applyOptions [.withJwtTransition false, .other, .withJwt] = { jwt := true, prev := true } := by decide
example : applyOptions [.withJwt, .withSignature true true] = { jwt := true, sig := true, sigKeys := true, sigStrict := true } := by decide

/-- the verdict of the content-security gate from its model outcome -/
def respVerdict (r : Resp) : Option Nat := if r.ran then none else some r.status

theorem respVerdict_none (r : Resp) : respVerdict r = none ↔ r.ran = true := by
  unfold respVerdict; cases r.ran <;> simp

theorem authVerdict_none {V : Type} (out : AuthOut V) : authVerdict out = none ↔ out.ran = true := by
  unfold authVerdict; cases out.ran <;> simp

/-- A route registered `WithJwt` / `WithJwtTransition` (anywhere among its options), on a server with ANY base chain
(`WithChain` or native, any `RestConf.Middlewares`), any `Server.Use` middlewares and any other route options: the
handler runs only if the request carries a valid credential — whatever the other middlewares and the signature gate
decide. (call site → wrapper → core: `AddRoutes` options, `bindRoute`, `Authorize`, `ParseToken`, golang-jwt's table.) `secret`
and `prev` are free here: that `Authorize` is handed the group's own secrets is a Tie obligation (`tie_authorizeArgs`). -/
theorem rest_jwt_route_runs_only_with_valid_credential {V : Type} (custom : Option (List String)) (m : MwConf)
    (opts : List RouteOption) (uses chn : List String) (f : TokenFacts V) (now : Int) (h : Hist) (secret prev : String)
    (clock : Int) (others : String → Option Nat)
    (hopt : RouteOption.withJwt ∈ opts ∨ ∃ b, RouteOption.withJwtTransition b ∈ opts)
    (hb : bindRoute custom m (applyOptions opts) uses = some chn)
    (hran : (runChain (fun n => if n = authorizeName then authVerdict (authorize (jwtVerify f now) h secret prev clock).2
                                else others n) chn).ran = true) :
    credentialOk f now secret prev = true := by
  have hin := jwt_gate_in_every_chain custom m _ uses chn (jwt_option_enables_the_gate opts hopt) hb
  have := (runChain_ran_iff _ chn).mp hran authorizeName hin
  simp only [if_true, authVerdict_none, jwt_handler_runs_iff_valid_credential] at this
  exact this

/-- A route registered `WithSignature` (strict, with keys), on a server with any base chain and any middlewares: for the
methods the handler checks and without X-Request-Uri the handler runs only if the signature covers the request. `cfg` is free
here: that the gate is handed the group's strictness, keys and tolerance is a Tie obligation (`tie_contentSecurityArgs`). -/
theorem rest_signed_route_runs_only_with_covering_signature (custom : Option (List String)) (m : MwConf)
    (opts : List RouteOption) (uses chn : List String) (C : BlockCipher) (env : CsEnv) (cfg : CsCfg) (req : CsReq)
    (inner : Inner) (others : String → Option Nat)
    (hs : (applyOptions opts).sig = true) (hk : (applyOptions opts).sigKeys = true)
    (hstrict : cfg.strict = true) (hg : gatedMethods.contains req.method = true) (hu : req.uri = "")
    (hb : bindRoute custom m (applyOptions opts) uses = some chn)
    (hran : (runChain (fun n => if n = contentSecurityName then respVerdict (contentSecurity C env cfg req inner)
                                else others n) chn).ran = true) :
    csCovers env cfg req = true := by
  have hin := signature_gate_in_every_chain custom m _ uses chn hs hk hb
  have := (runChain_ran_iff _ chn).mp hran contentSecurityName hin
  simp only [if_true, respVerdict_none] at this
  exact cs_runs_only_if_signature_covers_request C env cfg req inner hstrict hg hu this

/-- the `Server.Use` middlewares are behind the gates: when a gate answers the request the handler does not run, and whatever
saw the request stands in the base chain or is a gate -/
theorem rest_use_middlewares_are_behind_the_gates (custom : Option (List String)) (m : MwConf) (o : RouteOpts)
    (uses chn : List String) (v : String → Option Nat)
    (hb : bindRoute custom m o uses = some chn)
    (hbase : ∀ n ∈ custom.getD (nativeChain m), v n = none)
    (hrej : ∃ g ∈ gatesOf o, v g ≠ none) :
    (runChain v chn).ran = false ∧ ∀ u ∈ (runChain v chn).saw, u ∈ custom.getD (nativeChain m) ++ gatesOf o := by
  rw [bindRoute_chain custom m o uses chn hb, runChain_append]
  have hr : (runChain v (custom.getD (nativeChain m) ++ gatesOf o)).ran = false := by
    obtain ⟨g, hg, hv⟩ := hrej
    rw [Bool.eq_false_iff]
    exact fun hr => hv ((runChain_ran_iff v _).mp hr g (List.mem_append_right _ hg))
  rw [hr]
  exact ⟨hr, runChain_saw_subset v _⟩

private def allOn : MwConf := ⟨true, true, true, true, true, true, true, true, true, true, true⟩

example : bindRoute none allOn (applyOptions [.withJwt]) ["use0"] =
    some (nativeChain allOn ++ [authorizeName] ++ ["use0"]) := rfl
/-- a user-supplied (here: empty) chain still gets both gates, jwt first -/
example : bindRoute (some []) allOn (applyOptions [.withSignature true true, .withJwt]) ["use0"] =
    some [authorizeName, contentSecurityName, "use0"] := rfl
example : bindRoute (some ["cm0"]) allOn (applyOptions [.other]) [] = some ["cm0"] := by decide
example : bindRoute (some []) allOn (applyOptions [.withSignature true false]) [] = none := by decide
example : runChain (gateVerdict (some 401) none) ["cm0", authorizeName, contentSecurityName, "use0"] =
    { saw := ["cm0", authorizeName], ran := false, status := 401 } := by decide
example : runChain (gateVerdict none none) ["cm0", authorizeName, "use0"] =
    { saw := ["cm0", authorizeName, "use0"], ran := true, status := 200 } := by decide

theorem take_eq_self_of_length_le (l : Bytes) (n : Nat) (h : l.length ≤ n) : l.take n = l :=
  List.take_of_length_le h

/-- the unknown-length branch (for a positive cap): what `io.LimitReader` cut off is noticed by the probe -/
theorem readUnknown_eq (max : Int) (raw : Bytes) (hmax : 0 < max) :
    readUnknown max raw = if (raw.length : Int) > max then none else some raw := by
  unfold readUnknown limitUsedUp probeMore limitRead
  by_cases hlen : (raw.length : Int) ≤ max
  · -- nothing is cut off and the probe finds nothing
    have hn : raw.length ≤ max.toNat := by omega
    simp [List.take_of_length_le hn, List.drop_of_length_le hn, Int.not_lt.mpr hlen]
  · -- cut at `max`: the limit is used up and the probe finds a byte
    have hn : max.toNat < raw.length := by omega
    simp [Int.not_le.mp hlen, List.length_take, Nat.min_eq_left (Nat.le_of_lt hn)]
    omega

/-- the unknown-length branch hands on the WHOLE body or fails -/
theorem readUnknown_never_truncates (max : Int) (raw c : Bytes) (hmax : 0 < max)
    (h : readUnknown max raw = some c) : c = raw := by
  rw [readUnknown_eq max raw hmax] at h
  split at h
  · cases h
  · exact (Option.some.inj h).symm

theorem readUnknown_none_iff (max : Int) (raw : Bytes) (hmax : 0 < max) :
    readUnknown max raw = none ↔ (raw.length : Int) > max := by
  rw [readUnknown_eq max raw hmax]
  split <;> simp [*]

theorem readDeclared_exact (cl : Int) (raw c : Bytes) (h : readDeclared cl raw = some c) :
    c = raw.take cl.toNat ∧ (cl ≥ 0 → (c.length : Int) = cl) := by
  unfold readDeclared at h
  split at h
  · cases h
  · cases h
    refine ⟨rfl, fun hc => ?_⟩
    rw [List.length_take]; omega

theorem unknownCap_pos (limit : Int) : 0 < unknownCap limit := by
  unfold unknownCap maxBytes
  split <;> omega

theorem readBody_eq (limit cl : Int) (raw : Bytes) :
    readBody limit cl raw = if readAdmits limit cl raw.length then some (delivered cl raw) else none := by
  unfold readBody readAdmits delivered readDeclared
  rw [readUnknown_eq _ raw (unknownCap_pos limit)]
  by_cases h1 : limit > 0 ∧ cl > limit
  · simp [h1]
  · by_cases h2 : cl > 0
    · by_cases h3 : (raw.length : Int) < cl <;> simp [h1, h2, h3] <;> omega
    · by_cases h3 : (raw.length : Int) > unknownCap limit <;> simp [h1, h2, h3] <;> omega

/-- both branches together: what `decryptBody` goes on to decode is exactly what the framing delivers of the client's
body — all of it — or the request is refused; it is never a prefix cut at the limit -/
theorem readBody_whole_or_error (limit cl : Int) (raw c : Bytes)
    (h : readBody limit cl raw = some c) : c = delivered cl raw := by
  rw [readBody_eq] at h
  split at h
  · exact (Option.some.inj h).symm
  · cases h

/-- the handler model used everywhere else is the statement-by-statement one -/
theorem cryptionHandler_eq_viaRead (C : BlockCipher) (limit : Int) (key : Bytes) (cl : Int) (raw : Bytes) (inner : Inner) :
    cryptionHandler C limit key cl raw inner = cryptionHandlerViaRead C limit key cl raw inner := by
  unfold cryptionHandler cryptionHandlerViaRead
  rw [readBody_eq, ← unknownCap_eq]
  unfold readAdmits delivered
  by_cases h0 : cl = 0
  · rw [if_pos h0, if_pos h0]
  · by_cases h1 : limit > 0 ∧ cl > limit
    · simp [h0, h1]
    · by_cases h2 : cl > 0
      · by_cases h3 : (raw.length : Int) < cl
        · simp [h0, h1, h2, h3, Int.not_le.mpr h3]
        · -- at least `cl > 0` bytes are there, so what is read is not empty
          have hne : (raw.take cl.toNat).isEmpty = false := by
            rw [List.isEmpty_eq_false_iff, ← List.length_pos_iff, List.length_take]; omega
          simp [h0, h1, h2, h3, Int.not_lt.mp h3, hne]
      · by_cases h3 : (raw.length : Int) > unknownCap limit
        · simp [h0, h1, h2, h3, Int.not_le.mpr h3]
        · simp [h0, h1, h2, h3, Int.not_lt.mp h3]

theorem flushResp_ran_seen (C : BlockCipher) (key seen out : Bytes) :
    (flushResp C key seen out).ran = true ∧ (flushResp C key seen out).seen = seen := by
  unfold flushResp
  split
  · exact ⟨rfl, rfl⟩
  · split <;> exact ⟨rfl, rfl⟩

/-- For a request with a body the cryption handler either serves the decryption of the whole delivered body or refuses, and not
with 403: that status is the signature gate's own answer (`cryptionHandler_not_403`, for `cs_complete_monitor_sound`). -/
theorem cryptionHandler_cases (C : BlockCipher) (limit : Int) (key : Bytes) (cl : Int) (raw : Bytes) (inner : Inner)
    (hcl : cl ≠ 0) :
    (∃ p, readAdmits limit cl raw.length = true ∧ decryptWhole C key (delivered cl raw) = some p ∧
        cryptionHandler C limit key cl raw inner = flushResp C key p (inner p)) ∨
    ((cryptionHandler C limit key cl raw inner).ran = false ∧ (cryptionHandler C limit key cl raw inner).status ≠ 403) := by
  rw [cryptionHandler_eq_viaRead]
  unfold cryptionHandlerViaRead
  rw [if_neg hcl, readBody_eq]
  by_cases ha : readAdmits limit cl raw.length = true
  · rw [if_pos ha]
    simp only []
    unfold decryptWhole decryptAndServe
    by_cases he : (delivered cl raw).isEmpty = true
    · rw [if_pos he, if_pos he]
      exact Or.inl ⟨[], ha, rfl, rfl⟩
    · rw [if_neg he, if_neg he]
      cases b64Decode (bytesToString (delivered cl raw)) with
      | none => exact Or.inr ⟨rfl, by simp⟩
      | some ct =>
        simp only []
        cases ecbDecrypt C key ct with
        | ok p => exact Or.inl ⟨p, ha, rfl, rfl⟩
        | _ => exact Or.inr ⟨rfl, by simp⟩
  · rw [if_neg ha]
    exact Or.inr ⟨rfl, by simp⟩

/-- "an encrypted body reaches the handler decrypted", as a safety statement for EVERY body, limit, key and framing
(declared length, chunked, declared-but-short): whenever the handler behind `LimitCryptionHandler` runs on a request with a
body, what it reads is the decryption of the WHOLE body the client sent — never of a prefix cut at the limit. -/
theorem crypt_handler_sees_decryption_of_whole_body (C : BlockCipher) (limit : Int) (key : Bytes) (cl : Int) (raw : Bytes)
    (inner : Inner) (hcl : cl ≠ 0) (hran : (cryptionHandler C limit key cl raw inner).ran = true) :
    decryptWhole C key (delivered cl raw) = some (cryptionHandler C limit key cl raw inner).seen := by
  rcases cryptionHandler_cases C limit key cl raw inner hcl with ⟨p, _, hd, e⟩ | ⟨hr, _⟩
  · rw [e, (flushResp_ran_seen C key p (inner p)).2]
    exact hd
  · rw [hr] at hran; cases hran

/-- the monitor clause never fires on the model -/
theorem crypt_seen_monitor_sound (C : BlockCipher) (limit : Int) (key : Bytes) (cl : Int) (raw : Bytes) (inner : Inner) :
    cryptSeenMonitor C key cl raw (cryptionHandler C limit key cl raw inner) = none := by
  unfold cryptSeenMonitor
  by_cases h : cl ≠ 0 ∧ (cryptionHandler C limit key cl raw inner).ran = true
  · have := crypt_handler_sees_decryption_of_whole_body C limit key cl raw inner h.1 h.2
    simp [this]
  · have : ¬ (cl ≠ 0 ∧ (cryptionHandler C limit key cl raw inner).ran = true ∧
        decryptWhole C key (delivered cl raw) ≠ some (cryptionHandler C limit key cl raw inner).seen) := fun hh => h ⟨hh.1, hh.2.1⟩
    rw [if_neg this]

/-- the same through the content-security handler: a verified request marked encrypted, whatever its framing -/
theorem cs_encrypted_handler_sees_decryption_of_whole_body (C : BlockCipher) (env : CsEnv) (cfg : CsCfg) (req : CsReq)
    (inner : Inner) (h : CsHeader) (hg : gatedMethods.contains req.method = true)
    (hp : parseContentSecurity env req = .ok h) (hv : verifySignature env cfg.tol req h = 0)
    (ht : h.contentType = 1) (hcl : req.cl ≠ 0) (hran : (contentSecurity C env cfg req inner).ran = true) :
    decryptWhole C h.key (delivered req.cl req.body) = some (contentSecurity C env cfg req inner).seen := by
  rw [cs_encrypted_goes_to_cryption C env cfg req inner h hg hp hv ht hcl] at hran ⊢
  exact crypt_handler_sees_decryption_of_whole_body C cfg.limit h.key req.cl req.body inner hcl hran

private def exC2 : BlockCipher := { bs := 16, keyOk := fun _ => true, enc := fun _ b => b, dec := fun _ b => b }
private def exRaw2 : Bytes := asciiBytes (b64Encode (pad 16 [1, 2, 3]))

/-- limit 24 = the length of the text: accepted whole; limit 20: refused, not cut -/
example : readUnknown 24 exRaw2 = some exRaw2 := by rw [exRaw2, exRaw_val]; decide +kernel
example : readUnknown 20 exRaw2 = none := by rw [exRaw2, exRaw_val]; decide +kernel
example : readUnknown 23 exRaw2 = none := by rw [exRaw2, exRaw_val]; decide +kernel
example : readUnknown 25 exRaw2 = some exRaw2 := by rw [exRaw2, exRaw_val]; decide +kernel
example : (cryptionHandler exC2 24 [] (-1) exRaw2 (fun _ => [])).seen = [1, 2, 3] := by rw [exRaw2, exRaw_val]; decide +kernel
example : cryptSeenMonitor exC2 [] (-1) exRaw2 { ran := true, seen := [1, 2], status := 200 } ≠ none := by
  rw [exRaw2, exRaw_val]; decide +kernel
example : cryptSeenMonitor exC2 [] (-1) exRaw2 { ran := true, seen := [1, 2, 3], status := 200 } = none := by
  rw [exRaw2, exRaw_val]; decide +kernel

end GoZero.C18
