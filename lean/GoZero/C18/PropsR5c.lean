/-
C18 — `ParseToken`'s two attempts (both are full verifications, their order does not matter) and its typed call list;
several requests on one `TokenParser` under every schedule (`Conc`); bodies around the cap of `decryptBody`; a failing or
short write in `flush`.
-/
import GoZero.C18.PropsR5
namespace GoZero.C18

/-- with a previous secret `ParseToken`'s result IS the two attempts, in the order the history counters choose -/
theorem parseToken_eq_attempts {C : Type} (verify : String → Parsed C) (h : Hist) (secret prev : String) (clock : Int)
    (hp : prev.length > 0) :
    (parseToken verify h secret prev clock).2 = attempts verify (firstSecond h secret prev).1 (firstSecond h secret prev).2 := by
  rw [parseToken_snd, if_pos hp]

/-- for EVERY verification function: whether the two attempts accept does not depend on their order -/
theorem attempts_isErr_comm {C : Type} (verify : String → Parsed C) (a b : String) :
    (attempts verify a b).isErr = (attempts verify b a).isErr := by
  rw [attempts_isErr_iff, attempts_isErr_iff, Bool.and_comm]

/-- for golang-jwt as go-zero calls it the RESULT (validity flag and claims, not only acceptance) is the same in both orders -/
theorem jwt_attempts_comm {V : Type} (f : TokenFacts V) (now : Int) (a b : String) :
    attempts (jwtVerify f now) a b = attempts (jwtVerify f now) b a :=
  attempts_comm_of_agree _ a b (jwtVerify_agree f now a b)

/-- `ParseToken` never hands out a token that was not FULLY verified: for every history (that is: whichever secret was
tried first and whichever attempt accepted), secret pair and clock an accepted token is marked valid, its signature
verifies under the current secret or a non-empty previous one, and its time claims are valid NOW -/
theorem parseToken_accepts_only_fully_verified {V : Type} (f : TokenFacts V) (now : Int) (h : Hist) (secret prev : String)
    (clock : Int) (hok : (parseToken (jwtVerify f now) h secret prev clock).2.isErr = false) :
    (parseToken (jwtVerify f now) h secret prev clock).2 = .tok true (some f.claims) ∧ timeValid f now = true ∧
      (f.sigOk secret = true ∨ (prev ≠ "" ∧ f.sigOk prev = true)) := by
  rw [parseToken_jwt] at hok ⊢
  cases hc : credentialOk f now secret prev <;> rw [hc] at hok
  · cases hok
  · simp only [credentialOk, Bool.and_eq_true, Bool.or_eq_true, decide_eq_true_eq] at hc
    exact ⟨rfl, hc.2, hc.1.2⟩

/-- the accepted set is independent of the order of the attempts: two parsers with ANY two histories (one tries the
current secret first, the other the previous one) return the same result for the same request -/
theorem parseToken_accepted_set_independent_of_order {V : Type} (f : TokenFacts V) (now : Int) (h h' : Hist)
    (secret prev : String) (clock clock' : Int) :
    (parseToken (jwtVerify f now) h secret prev clock).2 = (parseToken (jwtVerify f now) h' secret prev clock').2 :=
  parseToken_result_independent _ h h' secret prev clock clock' (jwtVerify_agree f now secret prev)

theorem attemptCalls_cases (a b : String) (err : String → Bool) :
    (err a = false ∧ attemptCalls a b err = [("parse", a), ("incr", a), ("return-token", "")]) ∨
    (err a = true ∧ err b = false ∧
      attemptCalls a b err = [("parse", a), ("parse", b), ("incr", b), ("return-token", "")]) ∨
    (err a = true ∧ err b = true ∧ attemptCalls a b err = [("parse", a), ("parse", b), ("return-err", "")]) := by
  unfold attemptCalls
  cases err a <;> cases err b <;> simp

theorem parseTokenCalls_rotation (h : Hist) (secret prev : String) (err : String → Bool) :
    parseTokenCalls secret prev true (decide (h.count secret > h.count prev)) err =
      ("load", secret) :: ("load", prev) :: attemptCalls (firstSecond h secret prev).1 (firstSecond h secret prev).2 err := by
  unfold parseTokenCalls firstSecond
  by_cases hc : h.count secret > h.count prev <;> simp [hc]

theorem parse_mem_attemptCalls (a b s : String) (err : String → Bool) (h : ("parse", s) ∈ attemptCalls a b err) :
    s = a ∨ s = b := by
  rcases attemptCalls_cases a b err with ⟨_, e⟩ | ⟨_, _, e⟩ | ⟨_, _, e⟩ <;> rw [e] at h <;> simp at h
  · exact Or.inl h
  · exact h
  · exact h

/-- in the typed call list of `ParseToken` (tied to the source by tie_parseTokenCalls) only the two configured secrets are
ever handed to `doParseToken` -/
theorem calls_parse_only_the_two_secrets (secret prev : String) (hasPrev lead : Bool) (err : String → Bool) (s : String)
    (hm : ("parse", s) ∈ parseTokenCalls secret prev hasPrev lead err) : s = secret ∨ s = prev := by
  cases hasPrev
  · simp only [parseTokenCalls, Bool.false_eq_true, if_false, List.mem_cons] at hm
    rcases hm with hm | hm
    · exact Or.inl (by simpa using hm)
    · split at hm <;> simp at hm
  · simp only [parseTokenCalls, if_true] at hm
    have := parse_mem_attemptCalls _ _ s err (by simpa using hm)
    cases lead
    · simpa [or_comm] using this
    · simpa using this

/-- the model's `parseToken` does what the call list says: an error is returned exactly when the list ends in
`return-err`, and when the list increments the counter of `s` the result is the full verification under `s` and exactly
that counter was incremented -/
theorem parseToken_follows_calls {C : Type} (verify : String → Parsed C) (h : Hist) (secret prev : String) (clock : Int) :
    ((parseToken verify h secret prev clock).2.isErr = true ↔
        ("return-err", "") ∈ parseTokenCalls secret prev (decide (prev.length > 0)) (decide (h.count secret > h.count prev))
          (fun s => (verify s).isErr)) ∧
    (∀ s, ("incr", s) ∈ parseTokenCalls secret prev (decide (prev.length > 0)) (decide (h.count secret > h.count prev))
          (fun s => (verify s).isErr) →
        (parseToken verify h secret prev clock) = (h.increment s clock, verify s) ∧ (verify s).isErr = false) := by
  by_cases hp : prev.length > 0
  · rw [decide_eq_true hp, parseTokenCalls_rotation]
    unfold parseToken
    rw [if_pos hp]
    rcases attemptCalls_cases (firstSecond h secret prev).1 (firstSecond h secret prev).2 (fun s => (verify s).isErr)
      with ⟨e1, e⟩ | ⟨e1, e2, e⟩ | ⟨e1, e2, e⟩ <;> rw [e]
    · simp [e1]
    · simp [e1, e2]
    · simp [e1, e2]
  · rw [decide_eq_false hp, parseToken_no_prev verify h secret prev clock hp]
    unfold parseTokenCalls
    cases he : (verify secret).isErr <;> simp [he]

namespace Conc

/-- the outcome of a request is the two attempts in one of the two orders -/
def Outcome {C : Type} (req : Req C) (r : Parsed C) : Prop :=
  r = attempts req.verify req.secret req.prev ∨ r = attempts req.verify req.prev req.secret

/-- what the invariant says about a thread: once it carries a result, that result is an `Outcome` -/
def Good {C : Type} (req : Req C) : Pc C → Prop
  | .incrReset _ r => Outcome req r
  | .incrLoad _ r => Outcome req r
  | .incrWrite _ r _ => Outcome req r
  | .done r => Outcome req r
  | _ => True

/-- the program counter the step `parse` leaves carries the two attempts, in the order it was given -/
theorem good_attempts {C : Type} (req : Req C) (cs : List (String × Nat)) (a b : String)
    (hab : Outcome req (attempts req.verify a b)) :
    Good req (if (req.verify a).isErr then
        if (req.verify b).isErr then (cs, Pc.done .err) else (cs, .incrReset b (req.verify b))
      else (cs, .incrReset a (req.verify a))).2 := by
  unfold attempts at hab
  split <;> rename_i h1
  · rw [if_pos h1] at hab
    split <;> rename_i h2
    · rw [(Parsed.isErr_iff _).mp h2] at hab; exact hab
    · exact hab
  · rw [if_neg h1] at hab; exact hab

/-- one step keeps a thread good — whatever counter values it READ (they may be stale, torn by a reset, or lost updates) -/
theorem stepPc_good {C : Type} (req : Req C) (expired : Bool) (cs : List (String × Nat)) (pc : Pc C)
    (h : Good req pc) : Good req (stepPc req expired cs pc).2 := by
  cases pc with
  | loadCur => trivial
  | loadPrev c => trivial
  | parse c p =>
    unfold stepPc
    by_cases hc : c > p <;> simp only [hc, if_true, if_false]
    · exact good_attempts req cs _ _ (Or.inl rfl)
    · exact good_attempts req cs _ _ (Or.inr rfl)
  | incrReset s r => exact h
  | incrLoad s r => exact h
  | incrWrite s r present => exact h
  | done r => exact h

/-- Every thread that carries a result carries an `Outcome`. Nothing is said about `St.counts`: that one thread does to the shared
counters what `parseToken` does to `Hist` is not proved. -/
def Inv {C : Type} (reqs : List (Req C)) (st : St C) : Prop :=
  ∀ (t : Nat) (req : Req C) (pc : Pc C), reqs[t]? = some req → st.pcs[t]? = some pc → Good req pc

theorem step_inv {C : Type} (reqs : List (Req C)) (st : St C) (t : Nat) (expired : Bool) (h : Inv reqs st) :
    Inv reqs (step reqs st t expired) := by
  unfold step
  split
  · rename_i req pc hr hp
    intro t' req' pc' hr' hp'
    simp only [List.getElem?_set] at hp'
    split at hp'
    · subst t'
      split at hp'
      · cases hp'
        rw [hr] at hr'
        cases hr'
        exact stepPc_good req expired st.counts pc (h t req pc hr hp)
      · cases hp'
    · exact h t' req' pc' hr' hp'
  · exact h

theorem run_inv {C : Type} (reqs : List (Req C)) (sched : List (Nat × Bool)) (st : St C) (h : Inv reqs st) :
    Inv reqs (run reqs st sched) := by
  induction sched generalizing st with
  | nil => exact h
  | cons te rest ih => exact ih _ (step_inv reqs st te.1 te.2 h)

theorem init_inv {C : Type} (reqs : List (Req C)) (n : Nat) (counts : List (String × Nat)) : Inv reqs (init n counts) := by
  intro t req pc _ hp
  unfold init at hp
  simp only [List.getElem?_replicate] at hp
  by_cases hlt : t < n
  · simp [hlt] at hp; subst hp; trivial
  · simp [hlt] at hp

/-- FOR EVERY SCHEDULE of any number of concurrent requests on one `TokenParser` — any interleaving of their accesses to
the shared history, any initial counters, any reset happening in between, lost updates included — the result of each
request is the two attempts (full verifications) in one of the two orders: the history decides the ORDER, nothing else -/
theorem concurrent_outcome_is_the_attempts_in_some_order {C : Type} (reqs : List (Req C)) (n : Nat)
    (counts : List (String × Nat)) (sched : List (Nat × Bool)) (t : Nat) (req : Req C) (r : Parsed C)
    (hreq : reqs[t]? = some req) (hdone : (run reqs (init n counts) sched).pcs[t]? = some (.done r)) :
    Outcome req r :=
  run_inv reqs sched _ (init_inv reqs n counts) t req _ hreq hdone

/-- … so whether a request is ACCEPTED does not depend on the schedule: it is accepted iff one of the two full
verifications accepts it -/
theorem concurrent_acceptance_independent_of_schedule {C : Type} (reqs : List (Req C)) (n : Nat)
    (counts : List (String × Nat)) (sched : List (Nat × Bool)) (t : Nat) (req : Req C) (r : Parsed C)
    (hreq : reqs[t]? = some req) (hdone : (run reqs (init n counts) sched).pcs[t]? = some (.done r)) :
    r.isErr = ((req.verify req.secret).isErr && (req.verify req.prev).isErr) := by
  rcases concurrent_outcome_is_the_attempts_in_some_order reqs n counts sched t req r hreq hdone with h | h
  · rw [h, attempts_isErr_iff]
  · rw [h, attempts_isErr_iff, Bool.and_comm]

/-- … and for golang-jwt as go-zero calls it the whole RESULT is the sequential one: what a request gets under any
schedule is what `ParseToken` returns for it on a parser of its own with ANY history at ANY clock reading — hence (by
`parseToken_accepts_only_fully_verified`) fully verified -/
theorem concurrent_jwt_outcome_is_sequential {V : Type} (reqs : List (Req (List (String × V)))) (n : Nat)
    (counts : List (String × Nat)) (sched : List (Nat × Bool)) (t : Nat) (f : TokenFacts V) (now : Int)
    (secret prev : String) (r : Parsed (List (String × V))) (hp : prev.length > 0)
    (hreq : reqs[t]? = some { verify := jwtVerify f now, secret := secret, prev := prev })
    (hdone : (run reqs (init n counts) sched).pcs[t]? = some (.done r)) (h : Hist) (clock : Int) :
    r = (parseToken (jwtVerify f now) h secret prev clock).2 := by
  rw [parseToken_eq_attempts _ h secret prev clock hp]
  rcases concurrent_outcome_is_the_attempts_in_some_order reqs n counts sched t _ r hreq hdone with ho | ho <;>
    rcases firstSecond_cases h secret prev with e | e <;> rw [ho, e]
  · exact jwt_attempts_comm f now secret prev
  · exact jwt_attempts_comm f now prev secret

/-- the three steps `incrReset`, `incrLoad`, `incrWrite` of the interleaving model, one after the other: clear iff expired, then
increment the cell when the (possibly just cleared) map has it, store (s, 1) otherwise. (That these are the accesses of the
source's `incrementCount` is `Conc.incrAccesses` / tie_incrementCountEffects, to which no theorem links `stepPc`.) -/
theorem incr_steps_are_the_accesses {C : Type} (req : Req C) (e1 e2 e3 : Bool) (cs : List (String × Nat)) (s : String)
    (r : Parsed C) :
    (stepPc req e3 (stepPc req e2 (stepPc req e1 cs (.incrReset s r)).1 (stepPc req e1 cs (.incrReset s r)).2).1
        (stepPc req e2 (stepPc req e1 cs (.incrReset s r)).1 (stepPc req e1 cs (.incrReset s r)).2).2)
      = ((if (if e1 then [] else cs).any (·.1 = s) then bump (if e1 then [] else cs) s else store (if e1 then [] else cs) s),
         .done r) := rfl

private def exReqs : List (Req Unit) :=
  [{ verify := fun s => if s = "cur" then .tok true none else .err, secret := "cur", prev := "old" },
   { verify := fun s => if s = "old" then .tok true none else .err, secret := "cur", prev := "old" }]

/-- two requests; the second overtakes the first between its two loads and resets the map: both still get their outcome
(and the first one's increment, read before the reset, lands in the new map) -/
example : (run exReqs (init 2 [("cur", 3)]) [(0, false), (1, false), (1, false), (1, false), (1, true), (1, false), (1, false),
      (0, false), (0, false), (0, false), (0, false), (0, false)]).pcs = [.done (.tok true none), .done (.tok true none)] := by decide

end Conc

/-- `decryptBody` reads the body iff the LENGTHS admit it — for every limit, framing and body -/
theorem readBody_isSome_iff_admits (limit cl : Int) (raw : Bytes) :
    (readBody limit cl raw).isSome = readAdmits limit cl raw.length := by
  rw [readBody_eq]
  cases readAdmits limit cl raw.length <;> rfl

/-- the handler behind `LimitCryptionHandler` runs on a request with a body only when the lengths admit it -/
theorem crypt_handler_runs_only_if_admitted (C : BlockCipher) (limit : Int) (key : Bytes) (cl : Int) (raw : Bytes)
    (inner : Inner) (hcl : cl ≠ 0) (hran : (cryptionHandler C limit key cl raw inner).ran = true) :
    readAdmits limit cl raw.length = true := by
  rcases cryptionHandler_cases C limit key cl raw inner hcl with ⟨_, ha, _⟩ | ⟨hr, _⟩
  · exact ha
  · rw [hr] at hran; cases hran

/-- AT THE DEFAULT CAP, unknown length (chunked), no limit configured (`limitBytes <= 0`) or the default one
(`CryptionHandler`, `ContentSecurityHandler`: `maxBytes`): a body of maxBytes-1 or maxBytes bytes is read whole, a body of
maxBytes+1 bytes (or any longer one) is refused — it is never cut at the cap -/
theorem cap_boundary_unknown_length (limit : Int) (hl : limit ≤ 0 ∨ limit = maxBytes) (len : Nat) :
    readAdmits limit (-1) len = decide (len ≤ 1048576) := by
  unfold readAdmits unknownCap maxBytes at *
  rw [if_neg (by omega), if_neg (by omega)]
  apply decide_eq_decide.mpr
  split <;> omega

/-- declared length at the default limit: exactly the bodies up to maxBytes are read (and they must be complete) -/
theorem cap_boundary_declared_length (len : Nat) (hpos : 0 < len) :
    readAdmits maxBytes len len = decide (len ≤ 1048576) := by
  unfold readAdmits maxBytes
  by_cases h : len ≤ 1048576
  · rw [if_neg (by omega), if_pos (by omega)]
    simp [h]
  · rw [if_pos (by omega)]
    simp [h]

/-- with NO limit configured a DECLARED length is not capped: whatever the client declares and delivers is read (the 1 MiB
cap protects the unknown-length branch only) — stated so that the asymmetry is on record -/
theorem declared_length_uncapped_without_limit (limit : Int) (hl : limit ≤ 0) (len : Nat) (hpos : 0 < len) :
    readAdmits limit len len = true := by
  unfold readAdmits
  rw [if_neg (by omega), if_pos (by omega)]
  simp

/-- what reaches the handler at the cap, end to end through the content-security gate as well: a verified `type=1` request
whose handler runs was admitted by its lengths and the handler read the decryption of the WHOLE body -/
theorem cs_encrypted_runs_only_if_admitted (C : BlockCipher) (env : CsEnv) (cfg : CsCfg) (req : CsReq) (inner : Inner)
    (h : CsHeader) (hg : gatedMethods.contains req.method = true) (hp : parseContentSecurity env req = .ok h)
    (hv : verifySignature env cfg.tol req h = 0) (ht : h.contentType = 1) (hcl : req.cl ≠ 0)
    (hran : (contentSecurity C env cfg req inner).ran = true) :
    readAdmits cfg.limit req.cl req.body.length = true ∧
      decryptWhole C h.key (delivered req.cl req.body) = some (contentSecurity C env cfg req inner).seen := by
  refine ⟨?_, cs_encrypted_handler_sees_decryption_of_whole_body C env cfg req inner h hg hp hv ht hcl hran⟩
  rw [cs_encrypted_goes_to_cryption C env cfg req inner h hg hp hv ht hcl] at hran
  exact crypt_handler_runs_only_if_admitted C cfg.limit h.key req.cl req.body inner hcl hran

example : readAdmits 0 (-1) 1048575 = true ∧ readAdmits 0 (-1) 1048576 = true ∧ readAdmits 0 (-1) 1048577 = false := by decide
example : readAdmits 1048576 1048577 1048577 = false ∧ readAdmits 0 1048577 1048577 = true := by decide

/-- a writer that takes only `n` bytes: what the client gets is that prefix of the body the complete write would have
delivered (for a non-empty reply the base64 ciphertext, `reply_round_trip`), and the handler's run, what it saw and the
status are untouched -/
theorem flush_partial_write_is_ciphertext_prefix (C : BlockCipher) (key seen out : Bytes) (n : Nat) :
    (writtenPrefix n (flushResp C key seen out)).body = ((flushResp C key seen out).body).take n ∧
    (writtenPrefix n (flushResp C key seen out)).ran = (flushResp C key seen out).ran ∧
    (writtenPrefix n (flushResp C key seen out)).seen = seen ∧
    (writtenPrefix n (flushResp C key seen out)).status = (flushResp C key seen out).status :=
  ⟨rfl, rfl, (flushResp_ran_seen C key seen out).2, rfl⟩

/-- a writer that takes everything: nothing changes -/
theorem flush_complete_write (r : Resp) (n : Nat) (h : r.body.length ≤ n) : writtenPrefix n r = r := by
  unfold writtenPrefix
  rw [List.take_of_length_le h]

example : (writtenPrefix 4 { ran := true, status := 200, body := [1, 2, 3, 4, 5, 6] : Resp }).body = [1, 2, 3, 4] := by decide

private def expiredFacts : TokenFacts String :=
  { present := true, segs := 3, hdrOk := true, clmOk := true, alg := some "HS256", sigOk := fun s => s = "cur",
    exp := .at 10, nbf := .absent, iat := .absent, claims := [] }

/-- the signature-only check of the already decoded token -/
private def sigOnly (f : TokenFacts String) (s : String) : Parsed (List (String × String)) :=
  if f.sigOk s then .tok true (some f.claims) else .err

/-- an EXPIRED token signed with the secret that happens to be tried second is accepted by the signature-only fallback —
and by the real retry (the same full verification) it is refused, in both orders -/
theorem signature_only_fallback_accepts_expired :
    (attemptsSignatureOnlyFallback (jwtVerify expiredFacts 50) (sigOnly expiredFacts) "prev" "cur").isErr = false ∧
    credentialOk expiredFacts 50 "cur" "prev" = false ∧
    (attempts (jwtVerify expiredFacts 50) "prev" "cur").isErr = true ∧
    (attempts (jwtVerify expiredFacts 50) "cur" "prev").isErr = true := by decide

example : parseTokenCalls "cur" "prev" true false (fun s => s = "prev") =
    [("load", "cur"), ("load", "prev"), ("parse", "prev"), ("parse", "cur"), ("incr", "cur"), ("return-token", "")] := by decide
example : (parseToken (jwtVerify expiredFacts 5) {} "other" "cur" 0).2 = .tok true (some []) := by decide

end GoZero.C18
