/-
C18 — the body a verified request's handler reads is its own (`Own`: a fresh buffer per request; the pooled variant as a
witness), and the read-side monitor of the signature gate.
-/
import GoZero.C18.PropsR5c
namespace GoZero.C18

namespace Own

/-- the buffer request `r` reads from holds `b` -/
def Holds (st : St) (r : Nat) (b : Bytes) : Prop := ∃ n, st.owner r = some n ∧ st.bufs[n]? = some b

/-- one more event of ANOTHER request (or a read of anybody) leaves what `r` owns untouched: buffers are only ever added -/
theorem stepFresh_keeps (st : St) (r : Nat) (b : Bytes) (e : Ev) (he : ∀ body, e ≠ .verify r body) (h : Holds st r b) :
    Holds (stepFresh st e) r b := by
  obtain ⟨n, ho, hb⟩ := h
  cases e with
  | read r' => exact ⟨n, ho, hb⟩
  | verify r' body =>
    have hne : r ≠ r' := fun e' => he body (by rw [e'])
    refine ⟨n, by simp [stepFresh, hne, ho], ?_⟩
    simp only [stepFresh]
    rw [List.getElem?_append_left (List.getElem?_eq_some_iff.mp hb).1]
    exact hb

theorem fresh_keeps_verified_body (st : St) (r : Nat) (b : Bytes) (post : List Ev)
    (hpost : ∀ e ∈ post, ∀ body, e ≠ .verify r body) (h : Holds st r b) :
    Holds (post.foldl stepFresh st) r b := by
  induction post generalizing st with
  | nil => exact h
  | cons e t ih =>
    exact ih _ (fun e' he' => hpost e' (by simp [he'])) (stepFresh_keeps st r b e (hpost e (by simp)) h)

/-- THE BODY THE HANDLER READS IS THE VERIFIED BODY, whatever other requests do in between: for every history `pre`, every
sequence `post` of verifications of OTHER requests (valid, forged, other routes — each digests its body) and reads, the
handler of request `r`, verified with body `b`, reads exactly `b` -/
theorem handler_reads_its_verified_body (pre post : List Ev) (r : Nat) (b : Bytes)
    (hpost : ∀ e ∈ post, ∀ body, e ≠ .verify r body) :
    readOf ((pre ++ [Ev.verify r b] ++ post).foldl stepFresh {}) r = some b := by
  rw [List.foldl_append, List.foldl_append]
  have h0 : Holds ([Ev.verify r b].foldl stepFresh (pre.foldl stepFresh {})) r b := by
    refine ⟨(pre.foldl stepFresh {}).bufs.length, by simp [stepFresh], ?_⟩
    simp [stepFresh]
  obtain ⟨n, ho, hb⟩ := fresh_keeps_verified_body _ r b post hpost h0
  unfold readOf
  rw [ho]
  exact hb

/-- witness (seeded C18-9): with a pooled buffer a FORGED request that merely goes through the verifier swaps the payload
of a verified one -/
theorem pooled_buffer_swaps_bodies :
    readOf ([Ev.verify 0 [1, 2, 3], Ev.verify 1 [9, 9, 9]].foldl stepPooled {}) 0 = some [9, 9, 9] ∧
    readOf ([Ev.verify 0 [1, 2, 3], Ev.verify 1 [9, 9, 9]].foldl stepFresh {}) 0 = some [1, 2, 3] := by decide

end Own

/-- the read-side monitor never fires on the model: the handler of an unencrypted verified request reads the signed bytes -/
theorem cs_read_monitor_sound (C : BlockCipher) (env : CsEnv) (cfg : CsCfg) (req : CsReq) (inner : Inner) :
    csReadMonitor env cfg req (contentSecurity C env cfg req inner) = none := by
  unfold csReadMonitor
  by_cases hc : cfg.strict = true ∧ (contentSecurity C env cfg req inner).ran = true ∧
      gatedMethods.contains req.method = true ∧ req.uri.isEmpty = true
  · rw [if_pos hc]
    have hu : req.uri = "" := by simpa using hc.2.2.2
    obtain ⟨h, hp, hcov, hseen⟩ := cs_handler_reads_signed_body C env cfg req inner hc.1 hc.2.2.1 hu hc.2.1
    simp only [hp]
    by_cases ht : h.contentType = 1
    · simp [ht]
    · have : ({ req with body := (contentSecurity C env cfg req inner).seen } : CsReq) = req := by
        rw [hseen ht]
      simp [this, hcov]
  · rw [if_neg hc]

end GoZero.C18
