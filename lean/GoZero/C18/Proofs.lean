/-
C18 — the normal forms of the model that the property modules rewrite with: `authorize` through `authOutcome`, `parseToken`
through `attempts` (for golang-jwt the history drops out: `parseToken_jwt`), the signature gate as a two-way branch on
`Verified`; and the codec facts: padding, ECB over blocks, base64 as text and as bytes.
-/
import GoZero.C18.Spec
namespace GoZero.C18

@[simp] theorem Parsed.isErr_err {C : Type} : (Parsed.err : Parsed C).isErr = true := rfl

theorem Parsed.isErr_iff {C : Type} (p : Parsed C) : p.isErr = true ↔ p = .err := by
  cases p <;> simp [Parsed.isErr]

/-- what `Authorize` answers to what `ParseToken` returned -/
def authOutcome {V : Type} : Parsed (List (String × V)) → AuthOut V
  | .tok true (some c) => { ran := true, status := 200, ctx := forwarded c }
  | _ => { ran := false, status := 401, ctx := [] }

theorem authorize_snd {V : Type} (verify : String → Parsed (List (String × V))) (h : Hist) (secret prev : String)
    (clock : Int) : (authorize verify h secret prev clock).2 = authOutcome (parseToken verify h secret prev clock).2 := by
  unfold authorize
  generalize parseToken verify h secret prev clock = r
  rcases r with ⟨_, _ | ⟨_ | _, _ | _⟩⟩ <;> rfl

theorem authorize_ran_iff {V : Type} (verify : String → Parsed (List (String × V)))
    (h : Hist) (secret prev : String) (clock : Int) :
    (authorize verify h secret prev clock).2.ran = true ↔
      ∃ c, (parseToken verify h secret prev clock).2 = .tok true (some c) := by
  rw [authorize_snd]
  rcases (parseToken verify h secret prev clock).2 with _ | ⟨_ | _, _ | _⟩ <;> simp [authOutcome]

theorem firstSecond_cases (h : Hist) (secret prev : String) :
    firstSecond h secret prev = (secret, prev) ∨ firstSecond h secret prev = (prev, secret) := by
  unfold firstSecond; split <;> simp

theorem attempts_isErr_iff {C : Type} (verify : String → Parsed C) (a b : String) :
    (attempts verify a b).isErr = ((verify a).isErr && (verify b).isErr) := by
  unfold attempts
  cases h : (verify a).isErr <;> simp [h]

theorem attempts_comm_of_agree {C : Type} (verify : String → Parsed C) (a b : String)
    (hagree : (verify a).isErr = false → (verify b).isErr = false → verify a = verify b) :
    attempts verify a b = attempts verify b a := by
  unfold attempts
  cases ha : (verify a).isErr <;> cases hb : (verify b).isErr <;> simp
  · exact hagree ha hb
  · rw [(Parsed.isErr_iff _).mp ha, (Parsed.isErr_iff _).mp hb]

theorem parseToken_snd {C : Type} (verify : String → Parsed C) (h : Hist) (secret prev : String) (clock : Int) :
    (parseToken verify h secret prev clock).2 =
      if prev.length > 0 then attempts verify (firstSecond h secret prev).1 (firstSecond h secret prev).2
      else verify secret := by
  unfold parseToken attempts
  split
  · cases h1 : (verify (firstSecond h secret prev).1).isErr <;>
      cases h2 : (verify (firstSecond h secret prev).2).isErr <;> simp [h1, h2]
    exact ((Parsed.isErr_iff _).mp h2).symm
  · rfl

theorem parseToken_no_prev {C : Type} (verify : String → Parsed C) (h : Hist) (secret prev : String) (clock : Int)
    (hp : ¬ prev.length > 0) : parseToken verify h secret prev clock = (h, verify secret) := by
  unfold parseToken; rw [if_neg hp]

theorem parseToken_rotation {C : Type} (verify : String → Parsed C) (h : Hist) (secret prev : String) (clock : Int)
    (hp : prev.length > 0) :
    ((verify secret).isErr = true ∧ (verify prev).isErr = true ∧ parseToken verify h secret prev clock = (h, .err)) ∨
    ∃ x, (x = secret ∨ x = prev) ∧ (verify x).isErr = false ∧
      parseToken verify h secret prev clock = (h.increment x clock, verify x) := by
  unfold parseToken
  rw [if_pos hp]
  rcases firstSecond_cases h secret prev with e | e <;> rw [e] <;>
    cases h1 : (verify secret).isErr <;> cases h2 : (verify prev).isErr <;> simp [h1, h2]

/-- `ParseToken` succeeds iff one of the attempts it makes succeeds; which one comes first is irrelevant -/
theorem parseToken_ok_iff {C : Type} (verify : String → Parsed C) (h : Hist) (secret prev : String) (clock : Int) :
    (parseToken verify h secret prev clock).2.isErr = false ↔
      ((verify secret).isErr = false ∨ (prev.length > 0 ∧ (verify prev).isErr = false)) := by
  by_cases hp : prev.length > 0
  · rcases parseToken_rotation verify h secret prev clock hp with ⟨h1, h2, e⟩ | ⟨x, hx, hv, e⟩ <;> rw [e]
    · simp [h1, h2]
    · rcases hx with rfl | rfl <;> simp [hv, hp]
  · simp [parseToken_no_prev verify h secret prev clock hp, hp]

/-- a successful `ParseToken` returns the result of one of its two attempts -/
theorem parseToken_result_is_attempt {C : Type} (verify : String → Parsed C) (h : Hist) (secret prev : String)
    (clock : Int) (hok : (parseToken verify h secret prev clock).2.isErr = false) :
    (parseToken verify h secret prev clock).2 = verify secret ∨ (parseToken verify h secret prev clock).2 = verify prev := by
  by_cases hp : prev.length > 0
  · rcases parseToken_rotation verify h secret prev clock hp with ⟨_, _, e⟩ | ⟨x, hx, _, e⟩ <;> rw [e] at hok ⊢
    · cases hok
    · rcases hx with rfl | rfl
      · exact Or.inl rfl
      · exact Or.inr rfl
  · rw [parseToken_no_prev verify h secret prev clock hp]
    exact Or.inl rfl

theorem parseToken_result_independent {C : Type} (verify : String → Parsed C) (h h' : Hist) (secret prev : String)
    (clock clock' : Int)
    (hagree : (verify secret).isErr = false → (verify prev).isErr = false → verify secret = verify prev) :
    (parseToken verify h secret prev clock).2 = (parseToken verify h' secret prev clock').2 := by
  rw [parseToken_snd, parseToken_snd]
  split
  · rcases firstSecond_cases h secret prev with e | e <;> rcases firstSecond_cases h' secret prev with e' | e' <;>
      rw [e, e']
    · exact attempts_comm_of_agree verify secret prev hagree
    · exact (attempts_comm_of_agree verify secret prev hagree).symm
  · rfl

/-- every check of `jwtVerify` under the secret `s`, as one Boolean -/
def verifiesUnder {V : Type} (f : TokenFacts V) (now : Int) (s : String) : Bool :=
  f.present && decide (f.segs = 3) && f.hdrOk && f.clmOk
    && (match f.alg with | some a => hmacAlgs.contains a | none => false) && f.sigOk s && timeValid f now

theorem ite_ite_else {α : Type} (p q : Prop) [Decidable p] [Decidable q] (a b : α) :
    (if p then if q then a else b else b) = if p ∧ q then a else b := by
  by_cases hp : p <;> simp [hp]

theorem jwtVerify_eq {V : Type} (f : TokenFacts V) (now : Int) (s : String) :
    jwtVerify f now s = if verifiesUnder f now s then .tok true (some f.claims) else .err := by
  unfold jwtVerify verifiesUnder
  cases f.alg with
  | none => simp
  | some a => simp [ite_ite_else, and_assoc]

theorem jwtVerify_isErr {V : Type} (f : TokenFacts V) (now : Int) (s : String) :
    (jwtVerify f now s).isErr = !verifiesUnder f now s := by
  rw [jwtVerify_eq]; cases verifiesUnder f now s <;> rfl

theorem credentialOk_eq {V : Type} (f : TokenFacts V) (now : Int) (secret prev : String) :
    credentialOk f now secret prev =
      (verifiesUnder f now secret || (decide (prev ≠ "") && verifiesUnder f now prev)) := by
  unfold credentialOk verifiesUnder
  cases f.sigOk secret <;> cases f.sigOk prev <;> cases decide (prev ≠ "") <;> simp <;> rfl

theorem length_pos_iff_ne_empty (s : String) : s.length > 0 ↔ s ≠ "" := by
  rw [Ne, ← String.length_eq_zero_iff]; omega

/-- under go-zero's use of the library the two secrets can never produce different successful results -/
theorem jwtVerify_agree {V : Type} (f : TokenFacts V) (now : Int) (a b : String)
    (ha : (jwtVerify f now a).isErr = false) (hb : (jwtVerify f now b).isErr = false) :
    jwtVerify f now a = jwtVerify f now b := by
  rw [jwtVerify_isErr, Bool.not_eq_false'] at ha hb
  rw [jwtVerify_eq, jwtVerify_eq, ha, hb]

theorem jwt_attempts_eq {V : Type} (f : TokenFacts V) (now : Int) (a b : String) :
    attempts (jwtVerify f now) a b =
      if verifiesUnder f now a || verifiesUnder f now b then .tok true (some f.claims) else .err := by
  unfold attempts
  rw [jwtVerify_isErr, jwtVerify_eq, jwtVerify_eq]
  cases verifiesUnder f now a <;> cases verifiesUnder f now b <;> rfl

/-- what `ParseToken` returns when `doParseToken` is golang-jwt: the history has dropped out -/
theorem parseToken_jwt {V : Type} (f : TokenFacts V) (now : Int) (h : Hist) (secret prev : String) (clock : Int) :
    (parseToken (jwtVerify f now) h secret prev clock).2 =
      if credentialOk f now secret prev then .tok true (some f.claims) else .err := by
  rw [parseToken_snd, credentialOk_eq]
  split
  · rename_i hp
    rw [jwt_attempts_eq, decide_eq_true ((length_pos_iff_ne_empty prev).mp hp), Bool.true_and]
    rcases firstSecond_cases h secret prev with e | e <;> rw [e]
    rw [Bool.or_comm]
  · rename_i hp
    have : ¬ prev ≠ "" := fun hne => hp ((length_pos_iff_ne_empty prev).mpr hne)
    rw [jwtVerify_eq, decide_eq_false this, Bool.false_and, Bool.or_false]

theorem verificationFailure_strict (inner : Inner) (body : Bytes) :
    (verificationFailure true inner body).ran = false := rfl

theorem pathQuery_no_uri (env : CsEnv) (req : CsReq) (hu : req.uri = "") :
    pathQuery env req = (req.path, req.query) := by
  unfold pathQuery; simp [hu]

/-- Stated with a hypothesis: `rfl` between two requests with the same headers makes the unifier unfold the whole parser. -/
theorem parseContentSecurity_of_headers (env : CsEnv) (req req' : CsReq) (h : req'.headers = req.headers) :
    parseContentSecurity env req' = parseContentSecurity env req := by
  unfold parseContentSecurity headerTriple
  rw [h]

theorem verifySignature_pass_iff (env : CsEnv) (tol : Int) (req : CsReq) (h : CsHeader) :
    verifySignature env tol req h = 0 ↔
      ∃ s, parseInt64 h.timestamp = some s ∧ outsideWindow s tol env.now = false ∧
        h.signature = env.hmacB64 h.key
          (signContent env h.timestamp req.method (pathQuery env req).1 (pathQuery env req).2 req.body) := by
  unfold verifySignature
  cases parseInt64 h.timestamp with
  | none => simp
  | some s => cases hw : outsideWindow s tol env.now <;> simp [hw]

/-- both checks of the gate passed; `h` is the parsed header -/
def Verified (env : CsEnv) (cfg : CsCfg) (req : CsReq) (h : CsHeader) : Prop :=
  parseContentSecurity env req = .ok h ∧ verifySignature env cfg.tol req h = 0

theorem contentSecurity_verified (C : BlockCipher) {env : CsEnv} {cfg : CsCfg} {req : CsReq} (inner : Inner)
    {h : CsHeader} (hg : gatedMethods.contains req.method = true) (hv : Verified env cfg req h) :
    contentSecurity C env cfg req inner =
      if req.cl ≠ 0 ∧ h.contentType = 1 then cryptionHandler C cfg.limit h.key req.cl req.body inner
      else plainNext inner req.body := by
  unfold contentSecurity
  rw [if_pos hg, hv.1]
  simp only [hv.2, ne_eq, not_true_eq_false, if_false]

theorem contentSecurity_unverified (C : BlockCipher) {env : CsEnv} {cfg : CsCfg} {req : CsReq} (inner : Inner)
    (hg : gatedMethods.contains req.method = true) (hn : ¬ ∃ h, Verified env cfg req h) :
    contentSecurity C env cfg req inner = verificationFailure cfg.strict inner req.body := by
  unfold contentSecurity
  rw [if_pos hg]
  cases hp : parseContentSecurity env req with
  | error e => rfl
  | ok h => exact if_pos fun hv => hn ⟨h, hp, hv⟩

theorem contentSecurity_strict_ran (C : BlockCipher) (env : CsEnv) (cfg : CsCfg) (req : CsReq) (inner : Inner)
    (hs : cfg.strict = true) (hg : gatedMethods.contains req.method = true)
    (hran : (contentSecurity C env cfg req inner).ran = true) : ∃ h, Verified env cfg req h := by
  apply Classical.byContradiction
  intro hn
  rw [contentSecurity_unverified C inner hg hn, hs, verificationFailure_strict] at hran
  exact absurd hran (by decide)

/-- without X-Request-Uri the property's "the signature covers the request" is exactly "both checks pass" -/
theorem csCovers_iff_verified (env : CsEnv) (cfg : CsCfg) (req : CsReq) (hu : req.uri = "") :
    csCovers env cfg req = true ↔ ∃ h, Verified env cfg req h := by
  unfold csCovers Verified
  cases parseContentSecurity env req with
  | error e => simp
  | ok h =>
    simp only [Except.ok.injEq, exists_eq_left', verifySignature_pass_iff, pathQuery_no_uri env req hu]
    cases parseInt64 h.timestamp <;> simp

theorem csVerificationFails_iff (env : CsEnv) (cfg : CsCfg) (req : CsReq)
    (hg : gatedMethods.contains req.method = true) :
    csVerificationFails env cfg req = false ↔ ∃ h, Verified env cfg req h := by
  unfold csVerificationFails Verified
  rw [hg]
  cases parseContentSecurity env req <;> simp

theorem pad_eq (bs : Nat) (hbs : 0 < bs) (hbs' : bs ≤ 255) (p : Bytes) :
    ∃ n, 1 ≤ n ∧ n ≤ bs ∧ (UInt8.ofNat n).toNat = n ∧ pad bs p = p ++ List.replicate n (UInt8.ofNat n) := by
  have := Nat.mod_lt p.length hbs
  exact ⟨bs - p.length % bs, by omega, by omega, by rw [UInt8.toNat_ofNat']; omega, rfl⟩

theorem padded (p : Bytes) (n : Nat) (b : UInt8) (h1 : 1 ≤ n) :
    (p ++ List.replicate n b).getLast? = some b ∧ (p ++ List.replicate n b).length = p.length + n ∧
      (p ++ List.replicate n b).take ((p ++ List.replicate n b).length - n) = p ∧
      (p ++ List.replicate n b).drop ((p ++ List.replicate n b).length - n) = List.replicate n b := by
  have hn : n ≠ 0 := by omega
  simp [List.getLast?_append, List.getLast?_replicate, hn]

theorem chunksAux_cons_eq (n fuel : Nat) (x : UInt8) (xs : Bytes) :
    chunksAux n (fuel + 1) (x :: xs) = (x :: xs).take n :: chunksAux n fuel ((x :: xs).drop n) := rfl

theorem chunksAux_fuel (n : Nat) (hn : 0 < n) : ∀ (fuel fuel' : Nat) (l : Bytes), l.length ≤ fuel → l.length ≤ fuel' →
    chunksAux n fuel l = chunksAux n fuel' l
  | f, f', [], _, _ => by cases f <;> cases f' <;> rfl
  | f + 1, f' + 1, x :: xs, h, h' => by
    rw [chunksAux_cons_eq, chunksAux_cons_eq,
      chunksAux_fuel n hn f f' _ (by simp at h ⊢; omega) (by simp at h' ⊢; omega)]

theorem chunks_cons (n : Nat) (hn : 0 < n) (blk rest : Bytes) (hb : blk.length = n) :
    chunks n (blk ++ rest) = blk :: chunks n rest := by
  obtain ⟨x, xs, rfl⟩ := List.exists_cons_of_length_pos (hb ▸ hn)
  unfold chunks
  rw [List.cons_append, List.length_cons, chunksAux_cons_eq, ← List.cons_append, List.take_left' hb, List.drop_left' hb]
  congr 1
  exact chunksAux_fuel _ hn _ _ rest (by simp) (Nat.le_refl _)

/-- a block cipher: length preserving on blocks, `dec` undoes `enc` -/
def BlockCipher.Sound (C : BlockCipher) (key : Bytes) : Prop :=
  ∀ blk : Bytes, blk.length = C.bs → (C.enc key blk).length = C.bs ∧ C.dec key (C.enc key blk) = blk

theorem cryptBlocks_round_trip (C : BlockCipher) (key : Bytes) (hs : C.Sound key) (hbs : 0 < C.bs) :
    ∀ (k : Nat) (src : Bytes), src.length = k * C.bs →
      ((chunks C.bs src).flatMap (C.enc key)).length = k * C.bs ∧
      (chunks C.bs ((chunks C.bs src).flatMap (C.enc key))).flatMap (C.dec key) = src := by
  intro k
  induction k with
  | zero =>
    intro src h
    simp only [Nat.zero_mul, List.length_eq_zero_iff] at h
    subst h
    simp [chunks, chunksAux]
  | succ k ih =>
    intro src h
    rw [Nat.succ_mul] at h
    -- `chunks_cons` peels the first block off the plaintext and, since `enc` keeps the length, off the ciphertext
    obtain ⟨blk, rest, rfl, hl, hr⟩ : ∃ blk rest, src = blk ++ rest ∧ blk.length = C.bs ∧ rest.length = k * C.bs :=
      ⟨src.take C.bs, src.drop C.bs, (List.take_append_drop _ _).symm, by rw [List.length_take]; omega,
        by rw [List.length_drop]; omega⟩
    obtain ⟨e1, e2⟩ := hs _ hl
    obtain ⟨i1, i2⟩ := ih _ hr
    rw [chunks_cons _ hbs _ _ hl, List.flatMap_cons, chunks_cons _ hbs _ _ e1, List.flatMap_cons, List.length_append,
      e2, i2, e1, i1, Nat.succ_mul]
    exact ⟨by omega, rfl⟩

theorem pad_length (bs : Nat) (hbs : 0 < bs) (p : Bytes) : ∃ k, (pad bs p).length = k * bs := by
  unfold pad
  have := Nat.mod_lt p.length hbs
  refine ⟨p.length / bs + 1, ?_⟩
  simp only [List.length_append, List.length_replicate]
  have := Nat.div_add_mod p.length bs
  rw [Nat.add_mul, Nat.one_mul, Nat.mul_comm]
  omega

theorem b64Val_b64Char : ∀ n, n < 64 → b64Val (b64Char n) = some n := by decide +kernel

/-- the padding character has no value -/
theorem b64Char_ne_pad (n : Nat) (h : n < 64) : b64Char n ≠ '=' := fun e =>
  nomatch (e ▸ b64Val_b64Char n h : b64Val '=' = some n)

/-- a two-digit number `q * k + r` (low digit `r < k`): its digits, and its size when the high digit is below `m` -/
theorem digits (q r k : Nat) (h : r < k) : (q * k + r) / k = q ∧ (q * k + r) % k = r ∧ ∀ m, q < m → q * k + r < m * k :=
  ⟨by rw [Nat.mul_comm, Nat.mul_add_div (Nat.zero_lt_of_lt h), Nat.div_eq_of_lt h, Nat.add_zero],
   by rw [Nat.mul_comm, Nat.mul_add_mod, Nat.mod_eq_of_lt h],
   fun m hm => Nat.lt_of_lt_of_le (Nat.add_lt_add_left h _) (Nat.succ_mul q k ▸ Nat.mul_le_mul_right k hm)⟩

/-- three bytes cut into four sextets and put together again -/
theorem sextets (a b c : Nat) (ha : a < 256) (hb : b < 256) (hc : c < 256) :
    (a / 4 < 64 ∧ a % 4 * 16 + b / 16 < 64 ∧ b % 16 * 4 + c / 64 < 64 ∧ c % 64 < 64) ∧
    a / 4 * 4 + (a % 4 * 16 + b / 16) / 16 = a ∧
    (a % 4 * 16 + b / 16) % 16 * 16 + (b % 16 * 4 + c / 64) / 4 = b ∧
    (b % 16 * 4 + c / 64) % 4 * 64 + c % 64 = c := by
  obtain ⟨d1, m1, l1⟩ := digits (a % 4) (b / 16) 16 (Nat.div_lt_of_lt_mul hb)
  obtain ⟨d2, m2, l2⟩ := digits (b % 16) (c / 64) 4 (Nat.div_lt_of_lt_mul hc)
  rw [d1, m1, d2, m2]
  exact ⟨⟨Nat.div_lt_of_lt_mul ha, l1 4 (Nat.mod_lt _ (by decide)), l2 16 (Nat.mod_lt _ (by decide)), Nat.mod_lt _ (by decide)⟩,
    Nat.div_add_mod' a 4, Nat.div_add_mod' b 16, Nat.div_add_mod' c 64⟩

theorem b64DecodeChars_encode (b : Bytes) : b64DecodeChars (b64EncodeChars b) = some b := by
  induction b using b64EncodeChars.induct with
  | case1 => rfl
  | case2 a =>
    obtain ⟨⟨h0, h1, _, _⟩, e0, _, _⟩ := sextets a.toNat 0 0 a.toNat_lt (by decide) (by decide)
    simp only [Nat.zero_div, Nat.add_zero] at h1 e0
    simp only [b64EncodeChars, b64DecodeChars, b64Val_b64Char _ h0, b64Val_b64Char _ h1, ↓reduceIte, List.isEmpty_nil,
      Bool.not_true, Bool.false_eq_true, Option.bind_eq_bind, Option.bind_some, Option.pure_def, e0, UInt8.ofNat_toNat]
  | case3 a b =>
    obtain ⟨⟨h0, h1, h2, _⟩, e0, e1, _⟩ := sextets a.toNat b.toNat 0 a.toNat_lt b.toNat_lt (by decide)
    simp only [Nat.zero_div, Nat.add_zero] at h2 e1
    simp only [b64EncodeChars, b64DecodeChars, b64Val_b64Char _ h0, b64Val_b64Char _ h1, b64Val_b64Char _ h2,
      b64Char_ne_pad _ h2, ↓reduceIte, List.isEmpty_nil, Bool.not_true, Bool.false_eq_true, Option.bind_eq_bind,
      Option.bind_some, Option.pure_def, e0, e1, UInt8.ofNat_toNat]
  | case4 a b c rest ih =>
    obtain ⟨⟨h0, h1, h2, h3⟩, e0, e1, e2⟩ := sextets a.toNat b.toNat c.toNat a.toNat_lt b.toNat_lt c.toNat_lt
    simp only [b64EncodeChars, b64DecodeChars, b64Val_b64Char _ h0, b64Val_b64Char _ h1, b64Val_b64Char _ h2,
      b64Val_b64Char _ h3, b64Char_ne_pad _ h3, ih, ↓reduceIte, Option.bind_eq_bind, Option.bind_some, Option.pure_def,
      e0, e1, e2, UInt8.ofNat_toNat]

/-- for EVERY index: beyond the alphabet `b64Char` answers 'A' -/
theorem b64Char_ascii (n : Nat) : (b64Char n).toNat < 128 ∧ b64Char n ≠ '\r' ∧ b64Char n ≠ '\n' := by
  have key : ∀ c ∈ 'A' :: b64Alphabet, c.toNat < 128 ∧ c ≠ '\r' ∧ c ≠ '\n' := by decide +kernel
  apply key
  unfold b64Char
  rw [List.getD_eq_getElem?_getD]
  cases h : b64Alphabet[n]? with
  | none => simp
  | some c => simp [List.mem_of_getElem? h]

theorem b64EncodeChars_ascii (b : Bytes) : ∀ c ∈ b64EncodeChars b, c.toNat < 128 ∧ c ≠ '\r' ∧ c ≠ '\n' := by
  induction b using b64EncodeChars.induct <;> simp_all [b64EncodeChars, b64Char_ascii]

theorem bytesToString_asciiBytes_b64 (b : Bytes) : bytesToString (asciiBytes (b64Encode b)) = b64Encode b := by
  unfold bytesToString asciiBytes b64Encode
  rw [String.toList_ofList, List.map_map]
  congr 1
  refine (List.map_congr_left fun c hc => ?_).trans (List.map_id' _)
  have h := (b64EncodeChars_ascii b c hc).1
  simp only [Function.comp]
  rw [UInt8.toNat_ofNat', Nat.mod_eq_of_lt (by omega)]
  exact Char.ofNat_toNat c

/-- no character of the encoding is a line break, so the filter in `b64Decode` leaves the text alone -/
theorem b64Decode_encode (b : Bytes) : b64Decode (b64Encode b) = some b := by
  unfold b64Decode b64Encode
  rw [String.toList_ofList]
  have : (b64EncodeChars b).filter (fun c => decide (c ≠ '\r' ∧ c ≠ '\n')) = b64EncodeChars b := by
    apply List.filter_eq_self.mpr
    intro c hc
    have h := b64EncodeChars_ascii b c hc
    simp [h.2.1, h.2.2]
  rw [this]
  exact b64DecodeChars_encode b

theorem b64EncodeChars_ne_nil (b : Bytes) (h : b ≠ []) : b64EncodeChars b ≠ [] := by
  match b, h with
  | [a], _ => simp [b64EncodeChars]
  | [a, b], _ => simp [b64EncodeChars]
  | a :: b :: c :: rest, _ => simp [b64EncodeChars]

/-- the text between the base64 characters and the bytes on the wire is transparent -/
theorem asciiBytes_b64Encode (b : Bytes) :
    asciiBytes (b64Encode b) = (b64EncodeChars b).map fun c => UInt8.ofNat c.toNat := by
  unfold asciiBytes b64Encode
  rw [String.toList_ofList]

theorem asciiBytes_b64_length (b : Bytes) : (asciiBytes (b64Encode b)).length = (b64EncodeChars b).length := by
  rw [asciiBytes_b64Encode, List.length_map]

/-- `decryptBody` tests `max <= 0`, `cryptionHandler` is written with `limit > 0` -/
theorem unknownCap_eq (limit : Int) : unknownCap limit = (if limit > 0 then limit else maxBytes) := by
  unfold unknownCap
  by_cases h : limit ≤ 0
  · rw [if_pos h, if_neg (by omega)]
  · rw [if_neg h, if_pos (by omega)]

theorem ecbDecrypt_nil_not_ok (C : BlockCipher) (key p : Bytes) : ecbDecrypt C key [] ≠ .ok p := by
  unfold ecbDecrypt cryptBlocks
  split <;> simp [chunks, chunksAux, unpad]

theorem decryptAndServe_b64 (C : BlockCipher) (key ct p : Bytes) (inner : Inner)
    (hd : ecbDecrypt C key ct = .ok p) :
    decryptAndServe C key (asciiBytes (b64Encode ct)) inner = flushResp C key p (inner p) := by
  unfold decryptAndServe
  rw [bytesToString_asciiBytes_b64, b64Decode_encode]
  simp only [hd]

end GoZero.C18
