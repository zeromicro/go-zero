/-
C10 — termination: a measure that every step of every actor strictly decreases (both for the code as it
was and for the repaired code).  With `Progress.stuck_is_final` this gives: every run of the repaired code
is finite and ends with the caller returned and no goroutine of the call alive.
-/
import GoZero.C10.InvReach
namespace GoZero.C10

/- The weights.  A step that takes an item from the source is paid by the 10 per item, so `.spawn` may stand above
`.recv`; a guarded write goes `.run (write :: sc)` (4·|sc| + 14) → `.send` (+ 13) → `.run sc` (+ 10), which also pays
for the value it adds to the collector; `.idle` stands one above `.run` of the whole script. -/
def gWt : GPc → Nat
  | .run => 4 | .pwrite => 3 | .psend => 2 | .close => 1 | .done => 0

def dWt : DPc → Nat
  | .spawn _ => 8 | .loop => 7 | .sel => 6 | .recv => 5 | .unpool => 4 | .wait => 3 | .closeColl => 2 | .drain => 1
  | .done => 0

def mWt (c : Cfg) (i : Nat) : MPc → Nat
  | .idle => 4 * (c.mscript i).length + 11
  | .run sc => 4 * sc.length + 10
  | .send _ sc => 4 * sc.length + 13
  | .cdrain sc => 4 * sc.length + 11
  | .recovered => 9 | .pwrite => 8 | .psend => 7 | .wgdone => 6 | .unpool => 5 | .done => 0 | .crash => 0

def rWt : RPc → Nat
  | .run sc => 4 * sc.length + 10
  | .send _ sc => 4 * sc.length + 13
  | .cdrain sc => 4 * sc.length + 11
  | .drain _ => 5 | .pwrite _ => 4 | .psend _ => 3 | .finish => 2 | .done => 0

def cWt : CPc → Nat
  | .sel => 7 | .cancelEnter => 6 | .cdrain => 5 | .drainOut _ => 4 | .defer _ => 3 | .check _ => 2 | .done _ => 0

/-- remaining work of the mapper goroutines of the items `< n`. -/
def sumM (c : Cfg) (f : Nat → MPc) : Nat → Nat
  | 0 => 0
  | n + 1 => sumM c f n + mWt c n (f n)

theorem sumM_eq_sumOver (c : Cfg) (f : Nat → MPc) (n : Nat) : sumM c f n = sumOver (mWt c) f n := by
  induction n with
  | zero => rfl
  | succ n ih => simp [sumM, sumOver, ih]

theorem sumM_ge (c : Cfg) (f : Nat → MPc) (i n : Nat) (hi : i < n) : mWt c i (f i) ≤ sumM c f n := by
  simpa only [sumM_eq_sumOver] using sumOver_ge (mWt c) f i n hi

theorem sumM_upd_eq (c : Cfg) (f : Nat → MPc) (i : Nat) (x : MPc) (n : Nat) (hi : i < n) :
    sumM c (upd f i x) n = sumM c f n - mWt c i (f i) + mWt c i x := by
  simpa only [sumM_eq_sumOver] using sumOver_upd_eq (mWt c) f i x n hi

/-- the measure: items still to be taken from the source, remaining work of every goroutine, values
buffered in the collector, and the context's one possible transition. -/
def mu (c : Cfg) (s : St) : Nat :=
  10 * (c.n - s.gNext) + gWt s.gpc + dWt s.dpc + sumM c s.mp c.n + rWt s.rpc + cWt s.cpc + s.collQ.length
    + (if s.ctxDone then 0 else 1)

theorem srcRecv_lt {c : Cfg} {s : St} {i : Nat} (h : srcRecv c s = some (some i)) : s.gNext < c.n :=
  (srcRecv_item h).2.1

section
attribute [local grind] gWt dWt rWt cWt mWt

theorem mu_disp {c : Cfg} {s s' : St} (I : Inv c s) (h : stepDisp c s = some s') : mu c s' < mu c s := by
  have hlt := fun i => @srcRecv_lt c s i
  have hsp := I.spawnlt
  have hsi := I.spawnidle
  clear I
  cases step_leaf (a := .disp) h
  case dSpawn i hd =>
    have hi := hsp i hd
    have hge := sumM_ge c s.mp i c.n hi
    simp only [mu, sumM_upd_eq c s.mp i _ c.n hi]
    grind
  all_goals (simp only [mu]; grind)

theorem mu_mapper {c : Cfg} {s s' : St} (i : Nat) (I : Inv c s) (h : stepMapper c s i = some s') : mu c s' < mu c s := by
  have hlt := fun i => @srcRecv_lt c s i
  have hmlt := I.mlt i
  clear I
  by_cases hidle : s.mp i = .idle
  · simp [stepMapper, hidle] at h
  have hi := hmlt hidle
  have hge := sumM_ge c s.mp i c.n hi
  cases step_leaf (a := (.mapper i)) h
  all_goals (simp only [mu, sumM_upd_eq c s.mp i _ c.n hi]; grind)

/-- **Every step strictly decreases the measure.** -/
theorem mu_step {c : Cfg} {s s' : St} (a : Actor) (hr : Reach c s) (h : step c s a = some s') : mu c s' < mu c s := by
  cases a with
  | disp => exact mu_disp (inv_reach hr) h
  | mapper i => exact mu_mapper i (inv_reach hr) h
  | _ =>
    have hlt := fun i => @srcRecv_lt c s i
    cases step_leaf h
    all_goals (simp only [mu]; grind)

end

/-- **Descent.**  Under a step function that keeps `R` and decreases `μ`, every `R`-configuration has a run to a
configuration in which no actor can move.  `S` is any reflexive relation closed under prefixing a step (`Steps`,
`StepsA`, `Props6.StepsA'`). -/
theorem run_to_stuck (stp : St → Actor → Option St) (R : St → Prop) (μ : St → Nat) (S : St → St → Prop)
    (hrefl : ∀ s, S s s) (hcons : ∀ {s s1 s2} a, stp s a = some s1 → S s1 s2 → S s s2)
    (hstep : ∀ s a s', R s → stp s a = some s' → R s' ∧ μ s' < μ s) (s : St) (h : R s) :
    ∃ s', S s s' ∧ R s' ∧ ∀ a, stp s' a = none := by
  generalize hm : μ s = m
  induction m using Nat.strongRecOn generalizing s with
  | _ m ih =>
    by_cases hst : ∀ a, stp s a = none
    · exact ⟨s, hrefl s, h, hst⟩
    · obtain ⟨a, ha⟩ := Classical.not_forall.mp hst
      obtain ⟨s1, hs1⟩ := Option.ne_none_iff_exists'.mp ha
      obtain ⟨h1, hlt⟩ := hstep s a s1 h hs1
      obtain ⟨s', hs', hrest⟩ := ih (μ s1) (by omega) s1 h1 rfl
      exact ⟨s', hcons a hs1 hs', hrest⟩

end GoZero.C10
