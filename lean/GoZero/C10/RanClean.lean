/-
C10 — before any cancel and any mapper panic, what a mapper has executed contained neither (`RanCleanInv`).
-/
import GoZero.C10.Inv
import GoZero.C10.Effects
namespace GoZero.C10

theorem hasCancel_nil : hasCancel [] = false := rfl

theorem hasPanic_nil : hasPanic [] = false := rfl

theorem hasCancel_cons (a : UAct) (l : List UAct) : hasCancel (a :: l) = (isCancel a || hasCancel l) := by
  simp [hasCancel]

theorem hasPanic_cons (a : UAct) (l : List UAct) : hasPanic (a :: l) = (decide (a = .panic) || hasPanic l) := by
  simp only [hasPanic, List.contains_cons]
  cases a <;> simp

theorem ranClean_init (c : Cfg) : RanCleanInv c (init c) := ⟨fun _ _ _ => trivial⟩

theorem ranClean_step {c : Cfg} {s s' : St} (a : Actor) (IG : InvG s) (I : RanCleanInv c s)
    (h : step c s a = some s') : RanCleanInv c s' := by
  obtain ⟨ran⟩ := I
  cases a
  case mapper i =>
    -- the goroutine's own rows: the assertion of the position it moves to
    have n6 := IG.n6 i
    clear IG
    cases step_leaf h
    all_goals refine ⟨fun h0 hf j => ?_⟩
    all_goals first
      | exact ran h0 hf j
      | exact absurd h0 Nat.one_ne_zero
      | exact absurd h0 (Nat.succ_ne_zero 1)
      | exact absurd hf (Nat.succ_ne_zero _)
      | (refine upd_ind ?_ (ran h0 hf) j; simp only [RanAt]; done)
      | (refine upd_ind ?_ (ran h0 hf) j
         have hi := ran h0 hf i
         rw [‹s.mp i = _›] at hi; simp only [RanAt] at hi ⊢
         grind [hasCancel_cons, hasPanic_cons, hasCancel_nil, hasPanic_nil, isCancel])
  case disp =>
    -- the dispatcher starts a goroutine at the head of its script
    cases step_leaf h
    all_goals first
      | exact ⟨ran⟩
      | exact ⟨fun h0 hf => upd_ind (P := RanAt c) ⟨rfl, rfl⟩ (ran h0 hf)⟩
  all_goals
    -- nobody else touches a mapper goroutine, and `once`, `failed` only go up
    have hmp := mp_others h (by simp) (by simp)
    have m := step_mono h
    exact ⟨fun h0 hf => hmp ▸ ran (Decidable.of_not_not fun x => m.once x h0) (Decidable.of_not_not fun x => m.failed x hf)⟩

end GoZero.C10
