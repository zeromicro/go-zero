/-
C10 — concrete schedules (`runSched`), configurations in which no actor can move (`stuck`, `stuckB`), and the two
witness configurations of the code as it was.
-/
import GoZero.C10.InvReach
namespace GoZero.C10

def runSched (c : Cfg) : List Actor → St → Option St
  | [], s => some s
  | a :: as, s => (step c s a).bind (runSched c as)

theorem reach_runSched {c : Cfg} (as : List Actor) {s s' : St} (h : Reach c s) (hs : runSched c as s = some s') :
    Reach c s' := by
  induction as generalizing s with
  | nil => simp [runSched] at hs; subst hs; exact h
  | cons a as ih =>
    simp only [runSched, Option.bind_eq_some_iff] at hs
    obtain ⟨s1, h1, h2⟩ := hs
    exact ih (Reach.step a h h1) h2

def stuck (c : Cfg) (s : St) : Prop := ∀ a, step c s a = none

/-- no existing actor can move (decidable form). -/
def stuckB (c : Cfg) (s : St) : Bool := (actors c.n).all fun a => (step c s a).isNone

theorem stuck_of_stuckB {c : Cfg} {s : St} (h : Reach c s) (hb : stuckB c s = true) : stuck c s := by
  intro a
  have key : ∀ a ∈ actors c.n, step c s a = none := by
    intro a ha
    have := (List.all_eq_true.mp hb) a ha
    simpa using this
  cases a with
  | mapper i =>
    by_cases hi : i < c.n
    · exact key _ (by simp [actors]; exact hi)
    · have I := inv_reach h
      simp [step, stepMapper, I.idle i (by have := I.gle; omega)]
  | _ => exact key _ (by simp [actors])

/-- the reducer writes its result and then panics (no items). -/
def cfgWritePanic (fixed : Bool) : Cfg :=
  { n := 0, workers := 1, gPanicAt := none, mscript := fun _ => [], rscript := [.write 8, .panic],
    ctxCan := false, ctxPre := false, fixed := fixed }

def schedWritePanic : List Actor :=
  [.gen, .gen, .disp, .disp, .disp, .disp, .disp, .disp, .disp, .red, .red, .red, .red, .red]

/-- mapper 0 cancels, mapper 1 panics after the caller has returned. -/
def cfgCancelThenPanic (fixed : Bool) : Cfg :=
  { n := 2, workers := 2, gPanicAt := none,
    mscript := fun i => if i = 0 then [.cancel (some 1)] else [.panic], rscript := [.readAll],
    ctxCan := false, ctxPre := false, fixed := fixed }

def schedCancelThenPanic : List Actor :=
  [.disp, .disp, .disp, .disp, .disp, .disp, .disp, .disp, .mapper 0, .gen, .gen, .mapper 0, .callerOut, .caller,
   .mapper 0, .mapper 0, .mapper 0, .mapper 1, .mapper 1, .mapper 1, .disp]

end GoZero.C10
