/-
C10 — what leaving the dispatcher's loop, a dropped item, a counted mapper panic and a recorded error each presuppose
(`InvF`), for every run.  Its step lemma uses `InvE`: a `finish` by the reducer goroutine comes only after the dispatcher has
closed the collector, so the dispatcher never leaves its loop through `done` unless some cancel has begun.
-/
import GoZero.C10.Inv
import GoZero.C10.Effects
namespace GoZero.C10

theorem invF_init (c : Cfg) : InvF c (init c) := by
  constructor <;> simp [init, DispAt]

/-- the dispatcher's own rows: each proves the assertion of the position it moves to. -/
theorem dispAt_step {c : Cfg} {s s' : St} (a : Actor) (hd : isDisp a = true) (I : DispAt s s.dpc)
    (hfin : s.fin = true → s.once ≠ 0 ∨ dAfter s.dpc = true) (h : step c s a = some s') : DispAt s' s'.dpc := by
  have hsc := @srcRecv_closed c s
  cases a <;> first | (simp [isDisp] at hd; done) | skip
  all_goals cases step_leaf h
  all_goals first
    | exact trivial
    | (rw [‹s.dpc = _›] at I; exact I)
    | (rw [‹s.dpc = _›] at I ⊢; exact I)
    | (rw [‹s.dpc = _›] at I; exact Or.inr (Or.inr (Or.inr I)))
    | exact Or.inl ‹_›
    | exact Or.inr (Or.inl (And.right ‹_›))
    | exact hsc ‹_›
    | (have hg := ‹s.dpc = .sel ∧ s.fin = true›; have := hfin hg.2; simp only [DispAt]; grind [dAfter])

/-- everybody else leaves the dispatcher where it is, and what its position says only becomes truer. -/
theorem DispAt.mono {s s' : St} {p : DPc} (I : DispAt s p) (m : Mono s s') (src : s.srcClosed = true → s'.srcClosed = true) :
    DispAt s' p := by
  cases p <;> first | exact trivial | exact src I | exact I.imp m.failed (Or.imp m.ctx (Or.imp m.once src))

/-- the clauses of `InvF` that read no position of the dispatcher hold for every actor from the accounts of the fields
they read (for an item dropped by the dispatcher's own drain, from what its position said before; `gend`: the generator's
own rows, `gen_owns` for the others); its position by
`dispAt_step` / `DispAt.mono`. -/
theorem invF_step {c : Cfg} {s s' : St} (a : Actor) (IC : InvC c s) (IB : InvB c s) (IE : InvE c s) (I : InvF c s)
    (h : step c s a = some s') : InvF c s' := by
  obtain ⟨f1, disp, f3, f4, f5, gend⟩ := I
  have hsr := fun i h => (@srcRecv_item c s i h).2.2
  have m := step_mono h
  have ctx := m.ctx; have once := m.once; have failed := m.failed; have gdone := m.gdone
  obtain ⟨src, dropped, wfailed, ret, gnext⟩ := step_writes h
  refine ⟨?_, ?_, ?_, ?_, ?_, ?_⟩
  · grind
  · by_cases hd : isDisp a = true
    · exact dispAt_step a hd disp (fun hf =>
        (IC.finw hf).imp (by omega) fun hr => (IB.collc (IE.r1 (by simp [hr, rAfterDrain])).1).1) h
    · exact disp_owns h (by simpa using hd) ▸ disp.mono m fun x => src.elim (fun e => e ▸ x) (·.1)
  · have hmcd := IC.mcd
    have hrcd := IC.rcd
    have hccd := IC.ccd
    have hf2 : s.dpc = .drain → s.failed ≠ 0 ∨ s.ctxDone = true ∨ s.once ≠ 0 ∨ s.srcClosed = true := fun e => by
      rw [e] at disp; exact disp
    clear disp m
    grind [draining]
  · rcases wfailed with e | ⟨i, hi⟩
    · rw [e]; exact f4
    · exact fun _ => anyMapper_of (IB.mlt IC.gle i (by simp [hi])) (IC.mpan i (Or.inl hi))
  · grind
  · by_cases hg : a = .gen
    · subst hg
      have hgle := IC.gle
      have hgp := IC.gp
      clear IC IB IE disp m
      cases step_leaf h <;> grind [genPanics]
    · have := gen_owns h hg
      grind

/-- before any cancel, with the context not over: the dispatcher leaves its loop only after a mapper panic or at the end
of the source, and nothing is dropped unless a mapper has panicked. -/
theorem noDrop_of {c : Cfg} {s : St} (I : Inv c s) (hx : s.ctxDone = false) (h0 : s.once = 0) :
    (dLeft s.dpc = true → s.failed ≠ 0 ∨ s.srcClosed = true) ∧ (s.failed = 0 → s.dropped = []) := by
  refine ⟨fun hd => ?_, fun hf => ?_⟩
  · have := I.disp
    cases hp : s.dpc <;> simp_all [dLeft, DispAt]
  · have := I.f3
    cases hq : s.dropped <;> simp_all

end GoZero.C10
