/-
C10 — executable small-step model of core/mr/mapreduce.go (MapReduce → mapReduceWithPanicChan,
buildSource, executeMappers, guardedWriter.Write, onceChan, once/cancel/finish).

Threads: the generator goroutine (buildSource), the dispatcher (executeMappers), one mapper goroutine
per item (unbounded number), the reducer goroutine, the caller (`main`: select + deferred function), and
the environment (the context ends).  User functions are arbitrary finite scripts (`UAct`).
`step cfg s a` is the effect of the next atomic action of actor `a` (`none` = blocked / finished /
not applicable); reachability quantifies over every actor choice, hence over every schedule.

`cfg.fixed = false` is the code as pinned before the fix (unbuffered panic channel, no re-raise in the
caller's deferred function); `cfg.fixed = true` is the repaired code (`newOnceChan`: capacity 1, and
`panicChan.repanic()` at the end of the caller's deferred function).

Atomicity choices (documented, each merges statements of ONE goroutine none of which can block):
 * `once.Do` entry + `retErr.Set`;  `finish()` (= close(done); close(output) under closeOnce) + the
   Once's completion;  `wg.Add(1)` + `go`;  receive from `output` + `retErr.Load()`.
 * an unbuffered channel operation is a rendezvous executed by ONE of the two parties' steps
   (source: the receiver pulls; output / unbuffered panicChan: the sender pushes into the waiting caller).
-/
namespace GoZero.C10

inductive Err | user (k : Nat) | nilCancel | deadline | noOutput
  deriving DecidableEq, Repr

/-- values that can be re-raised: the three kinds of user panics and the two panics of the library/runtime. -/
inductive PVal | gen | mapper (i : Nat) | reducer | multi | sendClosed
  deriving DecidableEq, Repr

inductive Res | val (v : Nat) | err (e : Err) | panic (p : PVal)
  deriving DecidableEq, Repr

/-- one action of a user function (mappers ignore the two read actions). -/
inductive UAct | write (v : Nat) | cancel (e : Option Nat) | panic | readOne | readAll
  deriving DecidableEq, Repr

def cancelErr : Option Nat → Err
  | none => .nilCancel
  | some k => .user k

structure Cfg where
  n : Nat                       -- the generator emits items 0 … n-1
  workers : Nat                 -- after WithWorkers' clamp: ≥ 1 is NOT assumed by the model
  gPanicAt : Option Nat         -- the generator panics before sending item k (k = n: after the last)
  mscript : Nat → List UAct
  rscript : List UAct
  ctxCan : Bool                 -- the context can end during the call
  ctxPre : Bool                 -- the context is over before the call
  fixed : Bool

inductive GPc | run | pwrite | psend | close | done
  deriving DecidableEq, Repr
inductive DPc | loop | sel | recv | spawn (i : Nat) | unpool | wait | closeColl | drain | done
  deriving DecidableEq, Repr
inductive MPc | idle | run (sc : List UAct) | send (v : Nat) (sc : List UAct) | cdrain (sc : List UAct)
  | recovered | pwrite | psend | wgdone | unpool | done
  | crash   -- send on the closed collector: proven unreachable (`Props.collector_open_while_mappers_run`)
  deriving DecidableEq, Repr
inductive RPc | run (sc : List UAct) | send (v : Nat) (sc : List UAct) | cdrain (sc : List UAct)
  | drain (p : Option PVal) | pwrite (p : PVal) | psend (p : PVal) | finish | done
  deriving DecidableEq, Repr
inductive CPc | sel | cancelEnter | cdrain | drainOut (p : PVal) | defer (r : Res) | check (r : Res) | done (r : Res)
  deriving DecidableEq, Repr

/-- who runs `cancel`'s function under the sync.Once (ghost). -/
inductive Canceller | mapper (i : Nat) | reducer | caller
  deriving DecidableEq, Repr

structure St where
  gpc : GPc := .run
  gNext : Nat := 0
  srcClosed : Bool := false
  dpc : DPc := .loop
  mp : Nat → MPc := fun _ => .idle
  rpc : RPc
  cpc : CPc := .sel
  collQ : List Nat := []
  collClosed : Bool := false
  fin : Bool := false           -- done and output are closed
  retErr : Option Err := none
  once : Nat := 0               -- cancel's sync.Once: 0 not entered, 1 running, 2 completed
  wrote : Bool := false         -- onceChan.wrote
  pbuf : Option PVal := none    -- buffer of the panic channel (fixed code only)
  pool : Nat := 0
  wg : Nat := 0
  failed : Nat := 0
  ctxDone : Bool
  -- ghost logs and snapshots (never read by the steps, except to keep a snapshot once taken)
  mapped : List Nat := []       -- items handed to a mapper
  dropped : List Nat := []      -- items taken from source by a drain
  sent : List Nat := []         -- values accepted by the collector
  reduced : List Nat := []      -- values received by the reducer function
  drained : List Nat := []      -- values received by the reducer goroutine's deferred drain
  wSnap : Option Bool := none   -- at the reducer's FIRST Write (its guard): was an error recorded / the context over?
  eSnap : Option Bool := none   -- at the end of the reducer function: was an error recorded?
  onceBy : Option Canceller := none   -- who entered cancel's sync.Once
  wroteBy : Option PVal := none       -- whose panic won the CAS of onceChan.write
  consumed : Bool := false            -- the caller has received the panic value

def init (c : Cfg) : St := { rpc := .run c.rscript, ctxDone := c.ctxPre }

/-- a ghost snapshot is taken once. -/
def snapOnce (o : Option Bool) (b : Bool) : Option Bool :=
  match o with
  | none => some b
  | some x => some x

def upd (f : Nat → MPc) (i : Nat) (x : MPc) : Nat → MPc := fun j => if j = i then x else f j

inductive Actor | gen | dispCtx | dispDone | disp | mapper (i : Nat) | red | callerCtx | callerPanic | callerOut | caller | env
  deriving DecidableEq, Repr

/-- the generator stands at `source <- gNext`. -/
def genSending (c : Cfg) (s : St) : Bool :=
  s.gpc = .run && s.gNext < c.n && c.gPanicAt ≠ some s.gNext

/-- `v, ok := <-source` by any receiver: `some (some i)` item i, `some none` closed, `none` blocked. -/
def srcRecv (c : Cfg) (s : St) : Option (Option Nat) :=
  if genSending c s then some (some s.gNext)
  else if s.srcClosed then some none else none

/-- `panicChan.channel <- v` (after the CAS succeeded). -/
def panicSend (c : Cfg) (s : St) (v : PVal) : Option St :=
  if c.fixed then
    if s.pbuf = none then some { s with pbuf := some v } else none
  else
    if s.cpc = .sel then some { s with cpc := .drainOut v } else none

def stepGen (c : Cfg) (s : St) : Option St :=
  match s.gpc with
  | .run =>
    if c.gPanicAt = some s.gNext then some { s with gpc := .pwrite }
    else if c.n ≤ s.gNext then some { s with gpc := .close }
    else none                       -- waits at the send; the receiver's step moves it
  | .pwrite => if s.wrote then some { s with gpc := .close } else some { s with wrote := true, gpc := .psend, wroteBy := some .gen }
  | .psend => (panicSend c s .gen).map fun s' => { s' with gpc := .close }
  | .close => some { s with srcClosed := true, gpc := .done }
  | .done => none

def stepDisp (c : Cfg) (s : St) : Option St :=
  match s.dpc with
  | .loop => if s.failed = 0 then some { s with dpc := .sel } else some { s with dpc := .wait }
  | .sel => if s.pool < c.workers then some { s with pool := s.pool + 1, dpc := .recv } else none
  | .recv =>
    match srcRecv c s with
    | some (some i) => some { s with gNext := s.gNext + 1, dpc := .spawn i }
    | some none => some { s with dpc := .unpool }
    | none => none
  | .spawn i => some { s with wg := s.wg + 1, mp := upd s.mp i (.run (c.mscript i)), mapped := s.mapped ++ [i], dpc := .loop }
  | .unpool => some { s with pool := s.pool - 1, dpc := .wait }
  | .wait => if s.wg = 0 then some { s with dpc := .closeColl } else none
  | .closeColl => some { s with collClosed := true, dpc := .drain }
  | .drain =>
    match srcRecv c s with
    | some (some i) => some { s with gNext := s.gNext + 1, dropped := s.dropped ++ [i] }
    | some none => some { s with dpc := .done }
    | none => none
  | .done => none

def stepMapper (c : Cfg) (s : St) (i : Nat) : Option St :=
  match s.mp i with
  | .idle => none
  | .run [] => some { s with mp := upd s.mp i .wgdone }
  | .run (.write v :: sc) =>
    if s.ctxDone || s.fin then some { s with mp := upd s.mp i (.run sc) }
    else some { s with mp := upd s.mp i (.send v sc) }
  | .run (.cancel e :: sc) =>
    if s.once = 0 then some { s with once := 1, retErr := some (cancelErr e), mp := upd s.mp i (.cdrain sc), onceBy := some (.mapper i) }
    else if s.once = 1 then none
    else some { s with mp := upd s.mp i (.run sc) }
  | .run (.panic :: _) => some { s with mp := upd s.mp i .recovered }
  | .run (.readOne :: sc) => some { s with mp := upd s.mp i (.run sc) }
  | .run (.readAll :: sc) => some { s with mp := upd s.mp i (.run sc) }
  | .send v sc =>
    if s.collClosed then some { s with mp := upd s.mp i .crash }
    else if s.collQ.length < c.workers then
      some { s with collQ := s.collQ ++ [v], sent := s.sent ++ [v], mp := upd s.mp i (.run sc) }
    else none
  | .cdrain sc =>
    match srcRecv c s with
    | some (some j) => some { s with gNext := s.gNext + 1, dropped := s.dropped ++ [j] }
    | some none => some { s with fin := true, once := 2, mp := upd s.mp i (.run sc) }
    | none => none
  | .recovered => some { s with failed := s.failed + 1, mp := upd s.mp i .pwrite }
  | .pwrite =>
    if s.wrote then some { s with mp := upd s.mp i .wgdone }
    else some { s with wrote := true, mp := upd s.mp i .psend, wroteBy := some (.mapper i) }
  | .psend => (panicSend c s (.mapper i)).map fun s' => { s' with mp := upd s'.mp i .wgdone }
  | .wgdone => some { s with wg := s.wg - 1, mp := upd s.mp i .unpool }
  | .unpool => some { s with pool := s.pool - 1, mp := upd s.mp i .done }
  | .done => none
  | .crash => none

def stepRed (c : Cfg) (s : St) : Option St :=
  match s.rpc with
  | .run [] => some { s with rpc := .drain none, eSnap := snapOnce s.eSnap s.retErr.isSome }
  | .run (.readOne :: sc) =>
    match s.collQ with
    | v :: q => some { s with collQ := q, reduced := s.reduced ++ [v], rpc := .run sc }
    | [] => if s.collClosed then some { s with rpc := .run sc } else none
  | .run (.readAll :: sc) =>
    match s.collQ with
    | v :: q => some { s with collQ := q, reduced := s.reduced ++ [v] }
    | [] => if s.collClosed then some { s with rpc := .run sc } else none
  | .run (.write v :: sc) =>
    if s.ctxDone || s.fin then some { s with rpc := .run sc, wSnap := snapOnce s.wSnap (s.retErr.isSome || s.ctxDone) }
    else some { s with rpc := .send v sc, wSnap := snapOnce s.wSnap (s.retErr.isSome || s.ctxDone) }
  | .run (.cancel e :: sc) =>
    if s.once = 0 then some { s with once := 1, retErr := some (cancelErr e), rpc := .cdrain sc, onceBy := some .reducer }
    else if s.once = 1 then none
    else some { s with rpc := .run sc }
  | .run (.panic :: _) => some { s with rpc := .drain (some .reducer), eSnap := snapOnce s.eSnap s.retErr.isSome }
  | .send v sc =>
    if s.fin then some { s with rpc := .drain (some .sendClosed), eSnap := snapOnce s.eSnap s.retErr.isSome }      -- send on closed channel
    else match s.cpc with
      | .sel => some { s with cpc := .defer (match s.retErr with | some e => .err e | none => .val v), rpc := .run sc }
      | .drainOut _ => some { s with rpc := .run sc }
      | .defer _ => some { s with cpc := .done (.panic .multi), rpc := .run sc }
      | _ => none
  | .cdrain sc =>
    match srcRecv c s with
    | some (some j) => some { s with gNext := s.gNext + 1, dropped := s.dropped ++ [j] }
    | some none => some { s with fin := true, once := 2, rpc := .run sc }
    | none => none
  | .drain p =>
    match s.collQ with
    | v :: q => some { s with collQ := q, drained := s.drained ++ [v] }
    | [] =>
      if s.collClosed then
        match p with
        | some pv => some { s with rpc := .pwrite pv }
        | none => some { s with rpc := .finish }
      else none
  | .pwrite pv => if s.wrote then some { s with rpc := .finish } else some { s with wrote := true, rpc := .psend pv, wroteBy := some pv }
  | .psend pv => (panicSend c s pv).map fun s' => { s' with rpc := .finish }
  | .finish => some { s with fin := true, rpc := .done }
  | .done => none

def outRes (s : St) : Res :=
  match s.retErr with
  | some e => .err e
  | none => .err .noOutput

def stepCaller (c : Cfg) (s : St) : Option St :=
  match s.cpc with
  | .sel => none                       -- the three select cases are separate actors
  | .cancelEnter =>
    if s.once = 0 then some { s with once := 1, retErr := some .deadline, cpc := .cdrain, onceBy := some .caller }
    else if s.once = 1 then none
    else some { s with cpc := .defer (.err .deadline) }
  | .cdrain =>
    match srcRecv c s with
    | some (some j) => some { s with gNext := s.gNext + 1, dropped := s.dropped ++ [j] }
    | some none => some { s with fin := true, once := 2, cpc := .defer (.err .deadline) }
    | none => none
  | .drainOut p => if s.fin then some { s with cpc := .done (.panic p) } else none
  | .defer r => if s.fin then (if c.fixed then some { s with cpc := .check r } else some { s with cpc := .done r }) else none
  | .check r =>
    match s.pbuf with
    | some p => some { s with pbuf := none, cpc := .done (.panic p), consumed := true }
    | none => some { s with cpc := .done r }
  | .done _ => none

def step (c : Cfg) (s : St) : Actor → Option St
  | .gen => stepGen c s
  | .dispCtx => if s.dpc = .sel ∧ s.ctxDone then some { s with dpc := .wait } else none
  | .dispDone => if s.dpc = .sel ∧ s.fin then some { s with dpc := .wait } else none
  | .disp => stepDisp c s
  | .mapper i => stepMapper c s i
  | .red => stepRed c s
  | .callerCtx => if s.cpc = .sel ∧ s.ctxDone then some { s with cpc := .cancelEnter } else none
  | .callerPanic =>
    if s.cpc = .sel ∧ c.fixed then
      match s.pbuf with
      | some p => some { s with pbuf := none, cpc := .drainOut p, consumed := true }
      | none => none
    else none
  | .callerOut => if s.cpc = .sel ∧ s.fin then some { s with cpc := .defer (outRes s) } else none
  | .caller => stepCaller c s
  | .env => if c.ctxCan ∧ ¬ s.ctxDone then some { s with ctxDone := true } else none

/-- every configuration some schedule can reach. -/
inductive Reach (c : Cfg) : St → Prop
  | init : Reach c (init c)
  | step {s s' : St} (a : Actor) : Reach c s → step c s a = some s' → Reach c s'

/-! ### running the model under a concrete scheduler (used by the driver and by `example`s) -/

/-- all actors that could possibly move in a configuration with `n` items. -/
def actors (n : Nat) : List Actor :=
  [.gen, .dispCtx, .dispDone, .disp, .red, .callerCtx, .callerPanic, .callerOut, .caller, .env]
    ++ (List.range n).map .mapper

/-- run with a priority list: always the first enabled actor of `prio`; stops when none is enabled. -/
def runPrio (c : Cfg) (prio : List Actor) : Nat → St → St
  | 0, s => s
  | fuel + 1, s =>
    match prio.findSome? (fun a => step c s a) with
    | some s' => runPrio c prio fuel s'
    | none => s

/-! ### the code as it is now: `onceChan.write` is `select { case oc.channel <- val: default: }`

`step` keeps the weaker form the code had before (`if CAS(&wrote,0,1) { channel <- val }`: two steps `pwrite`,
`psend` with other goroutines in between — `Props.generator_panic_can_be_lost` lives in that window).  The
non-blocking send into the capacity-1 channel is ONE atomic channel operation: it is the CAS form with the
winner sending at once.  `stepA` is that fusion: whenever an actor's step lands on its `psend`, the send is
executed in the same atomic action.  Every `stepA`-run is a `step`-run (`AtomicWrite.reachA_reach`), so every
theorem about `Reach` holds for `ReachA`; in `ReachA` nobody ever stands between the CAS and the send, and
`wrote` is exactly "the buffer was filled" (`AtomicWrite.j_reachA`).  Abstraction (documented): after the caller has
emptied the buffer (`consumed`), a later write of the real code re-fills it, the model's does not (`wrote`
stays true); the buffer is never read again after `consumed` (the caller reads it at most once: `callerPanic`
or `check`), so no step of any actor depends on the difference. -/

/-- actor `a` stands at the send of `onceChan.write`. -/
def atPsend (s : St) : Actor → Bool
  | .gen => s.gpc = .psend
  | .mapper i => s.mp i = .psend
  | .red => match s.rpc with
    | .psend _ => true
    | _ => false
  | _ => false

def stepA (c : Cfg) (s : St) (a : Actor) : Option St :=
  match step c s a with
  | none => none
  | some s1 => if atPsend s1 a then step c s1 a else some s1

/-- every configuration some schedule of the code as it is now can reach. -/
inductive ReachA (c : Cfg) : St → Prop
  | init : ReachA c (init c)
  | step {s s' : St} (a : Actor) : ReachA c s → stepA c s a = some s' → ReachA c s'

def runPrioA (c : Cfg) (prio : List Actor) : Nat → St → St
  | 0, s => s
  | fuel + 1, s =>
    match prio.findSome? (fun a => stepA c s a) with
    | some s' => runPrioA c prio fuel s'
    | none => s

def result (s : St) : Option Res :=
  match s.cpc with
  | .done r => some r
  | _ => none

/-- the goroutines of the call that have not ended (the caller itself excluded). -/
def aliveCount (c : Cfg) (s : St) : Nat :=
  (if s.gpc = .done then 0 else 1) + (if s.dpc = .done then 0 else 1) + (if s.rpc = .done then 0 else 1)
    + ((List.range c.n).filter fun i => s.mp i ≠ .idle ∧ s.mp i ≠ .done).length

end GoZero.C10
