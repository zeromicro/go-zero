/-
C10 — Tie: what the extractor read from core/mr/mapreduce.go and core/errorx/atomicerror.go *now*
equals what the model's step tables were written against.  Each list is the synchronisation skeleton
(channel operations, select cases, close, go/defer structure, wait-group / atomic / once calls) of one
function; the comment names the model steps written against it.  A moved `wg.Done`, a send that became
blocking or non-blocking, a dropped `drain`, a changed channel capacity or select case breaks an obligation.
-/
import GoZero.Extracted.C10
import GoZero.C10.Driver
import GoZero.C10.Props5
import GoZero.C10.Props6
namespace GoZero.C10.Tie
open GoZero.Extracted.C10

theorem extraction_clean : extractionErrors = [] := rfl

/-- `WithWorkers` clamps to 1, the driver's `minWorkers`. -/
theorem tie_minWorkers : GoZero.Extracted.C10.minWorkers = (GoZero.C10.minWorkers : Int) := rfl

/-- MapReduce = buildSource (generator goroutine) + mapReduceWithPanicChan. -/
theorem tie_mapReduceShape : mapReduceShape =
    ["call buildSource", "call mapReduceWithPanicChan", "return"] := rfl

/-- MapReduceVoid: the reducer gets no writer; ErrReduceNoOutput becomes nil (driver: `ok`). -/
theorem tie_mapReduceVoidShape : mapReduceVoidShape =
    ["func{", "call markCancel", "call mapper", "}", "func{", "call markCancel", "call reducer", "}", "call MapReduce",
    "if ok {", "return", "}", "if errors.Is(err, ErrReduceNoOutput) {", "return", "}", "return"] := rfl

/-- (fix C10-void-cancel-sentinel) BOTH user functions of MapReduceVoid get the marking cancel — item and
writer are forwarded unchanged. -/
theorem tie_mapReduceVoidMapperArgs : mapReduceVoidMapperArgs = ["item, writer, markCancel(cancel)"] := rfl
theorem tie_mapReduceVoidReducerArgs : mapReduceVoidReducerArgs = ["input, markCancel(cancel)"] := rfl
theorem tie_markCancelShape : markCancelShape =
    ["func{", "if err != nil {", "}", "call cancel", "}", "return"] := rfl

/-- `markCancel`: a non-nil error is marked, nil is passed on unmarked (`SpecGlue.markCancelArgM`), for all errors. -/
theorem tie_markCancelArg (err : Option Nat) :
    GoZero.Extracted.C10.markCancelArg err = GoZero.C10.markCancelArgM err := by
  cases err <;> rfl

/-- ForEach: dispatcher goroutine + the caller loop `select {panicChan → panic; collector closed → repanic, return}`. -/
theorem tie_forEachShape : forEachShape =
    ["call buildOptions", "call buildSource", "go{", "func{", "call mapper", "}", "call executeMappers", "}",
    "for {", "select{", "case recv panicChan.channel:", "panic", "case recv collector:", "if !ok {",
    "call panicChan.repanic", "return", "}", "}", "}"] := rfl

/-- WithWorkers clamps to minWorkers (driver `parseRun`). -/
theorem tie_withWorkersShape : withWorkersShape =
    ["func{", "if workers < minWorkers {", "store opts.workers", "}", "else{", "store opts.workers", "}", "}",
    "return"] := rfl

/-- generator goroutine: GPc.run → (recover → pwrite/psend) → close(source) (`stepGen`). -/
theorem tie_buildSourceShape : buildSourceShape =
    ["go{", "func{", "defer{", "func{", "recover", "if r != nil {", "call panicChan.write", "}",
    "close source", "}", "call func", "}", "call generate", "}", "call func", "}", "return"] := rfl

/-- drain = receive until closed (DPc.drain, MPc/RPc/CPc.cdrain, RPc.drain). -/
theorem tie_drainShape : drainShape =
    ["range channel {", "}"] := rfl

/-- dispatcher: DPc.loop (failed==0) → sel {ctx, done, pool<-} → recv source → (!ok: <-pool, return) → wg.Add; go mapper; deferred wait/close(collector)/drain(source); mapper goroutine deferred: recover → failed++ → panicChan.write → wg.Done → <-pool (`stepDisp`, `stepMapper`). -/
theorem tie_executeMappersShape : executeMappersShape =
    ["defer{", "func{", "call wg.Wait", "close mCtx.collector", "call drain", "}", "call func", "}",
    "for atomic.LoadInt32(&failed) == 0 {", "select{", "case recv mCtx.ctx.Done(); call mCtx.ctx.Done:",
    "return", "case recv mCtx.doneChan:", "return", "case send pool:", "recv mCtx.source", "if !ok {",
    "recv pool", "return", "}", "call wg.Add", "go{", "func{", "defer{", "func{", "recover", "if r != nil {",
    "call atomic.AddInt32", "call mCtx.panicChan.write", "}", "call wg.Done", "recv pool", "}", "call func",
    "}", "call mCtx.mapper", "}", "call func", "}", "}", "}"] := rfl

/-- caller: deferred {range output → panic multi; repanic}; finish = closeOnce{close done; close output}; cancel = once{retErr.Set; drain(source); finish}; reducer goroutine deferred {drain(collector); recover → panicChan.write; finish}; select {ctx → cancel(DeadlineExceeded); panicChan → drain(output), panic; output → retErr.Load / ok} (`stepRed`, `stepCaller`, `step`). -/
theorem tie_mapReduceWithPanicChanShape : mapReduceWithPanicChanShape =
    ["call buildOptions", "defer{", "func{", "range output {", "panic", "}", "call panicChan.repanic", "}",
    "call func", "}", "func{", "func{", "close done", "close output", "}", "call closeOnce.Do", "}", "func{",
    "if err != nil {", "call retErr.Set", "}", "else{", "call retErr.Set", "}", "call drain", "call finish",
    "}", "call once", "go{", "func{", "defer{", "func{", "call drain", "recover", "if r != nil {",
    "call panicChan.write", "}", "call finish", "}", "call func", "}", "call reducer", "}", "call func", "}",
    "go{", "func{", "call mapper", "}", "call executeMappers", "}", "select{",
    "case recv options.ctx.Done(); call options.ctx.Done:", "call cancel", "case recv panicChan.channel:",
    "call drain", "panic", "case recv output:", "call retErr.Load", "if e != nil {", "}", "else{", "if ok {",
    "}", "else{", "}", "}", "}", "return"] := rfl

/-- cancel runs under a sync.Once (St.once). -/
theorem tie_onceShape : onceShape =
    ["func{", "func{", "call fn", "}", "call once.Do", "}", "return"] := rfl

/-- guardedWriter.Write: dropped when ctx or done is over, else a blocking send (UAct.write: check, then MPc.send / RPc.send). -/
theorem tie_guardedWriteShape : guardedWriteShape =
    ["select{", "case recv gw.ctx.Done(); call gw.ctx.Done:", "case recv gw.done:", "default:",
    "send gw.channel", "}"] := rfl

/-- newOnceChan only constructs. -/
theorem tie_newOnceChanShape : newOnceChanShape =
    ["return"] := rfl

/-- onceChan.write: ONE non-blocking send into the capacity-1 channel (`Model.stepA`: the CAS form with the window
between "won" and "sent" closed).  The CAS form `if atomic.CompareAndSwapInt32(&oc.wrote, 0, 1) { send }` is not accepted:
the full `PropsNow.panic_not_lost` is stated for the atomic form and is FALSE for the CAS form
(`Props.generator_panic_can_be_lost`). -/
theorem tie_onceChanWriteShape : onceChanWriteShape =
    ["select{", "case send oc.channel:", "default:", "}"] := rfl

/-- onceChan.repanic: non-blocking receive, re-raise (CPc.check). -/
theorem tie_onceChanRepanicShape : onceChanRepanicShape =
    ["select{", "case recv oc.channel:", "panic", "default:", "}"] := rfl

/-- THE FIX: the panic channel has capacity 1, so its single write never blocks (Cfg.fixed = true). -/
theorem tie_newOnceChanMakes : newOnceChanMakes =
    ["make(chan any, 1)"] := rfl

/-- ForEach: collector and done unbuffered. -/
theorem tie_forEachMakes : forEachMakes =
    ["make(chan any)", "make(chan struct{})"] := rfl

/-- MapReduce constructs no channel itself. -/
theorem tie_mapReduceMakes : mapReduceMakes =
    [] := rfl

/-- MapReduceChan constructs no channel itself. -/
theorem tie_mapReduceChanMakes : mapReduceChanMakes =
    [] := rfl

/-- source is unbuffered (rendezvous: `srcRecv`). -/
theorem tie_buildSourceMakes : buildSourceMakes =
    ["make(chan T)"] := rfl

/-- the pool has `workers` slots (`stepDisp` .sel). -/
theorem tie_executeMappersMakes : executeMappersMakes =
    ["make(chan struct{}, mCtx.workers)"] := rfl

/-- output unbuffered, collector capacity = workers, done unbuffered. -/
theorem tie_mapReduceWithPanicChanMakes : mapReduceWithPanicChanMakes =
    ["make(chan V)", "make(chan U, options.workers)", "make(chan struct{})"] := rfl

/-- every entry point builds its panic channel with newOnceChan. -/
theorem tie_mapReducePanicChan : mapReducePanicChan =
    ["newOnceChan()"] := rfl

/-- every entry point builds its panic channel with newOnceChan. -/
theorem tie_mapReduceChanPanicChan : mapReduceChanPanicChan =
    ["newOnceChan()"] := rfl

/-- every entry point builds its panic channel with newOnceChan. -/
theorem tie_forEachPanicChan : forEachPanicChan =
    ["newOnceChan()"] := rfl

/-- the three errors the caller can assign: DeadlineExceeded, the cancel error, ErrReduceNoOutput (`stepCaller`, `outRes`). -/
theorem tie_callerErrAssignments : callerErrAssignments =
    ["context.DeadlineExceeded", "e", "ErrReduceNoOutput"] := rfl

/-- the value is the one received from output. -/
theorem tie_callerValAssignments : callerValAssignments =
    ["v"] := rfl

/-- AtomicError.Set stores non-nil errors. -/
theorem tie_atomicErrorSetShape : atomicErrorSetShape =
    ["if err != nil {", "call ae.err.Store", "}"] := rfl

/-- AtomicError.Load returns the stored error or nil. -/
theorem tie_atomicErrorLoadShape : atomicErrorLoadShape =
    ["call ae.err.Load", "if v != nil {", "return", "}", "return"] := rfl

/-! ### the remaining entry points, the option plumbing, forwarded arguments -/

/-- MapReduceChan = mapReduceWithPanicChan on the caller's source (no generator goroutine of the library: `PropsNow.chan_outcome`). -/
theorem tie_mapReduceChanShape : mapReduceChanShape =
    ["call mapReduceWithPanicChan", "return"] := rfl

/-- Finish: empty → nil; generator sends every fn; mapper = fn() and cancel(err) iff err != nil; empty reducer; WithWorkers(len(fns)) → MapReduceVoid (`Spec.finishCfg`). -/
theorem tie_finishShape : finishShape =
    ["if len(fns) == 0 {", "return", "}", "func{", "range fns {", "send source", "}", "}", "func{", "call fn", "if err != nil {", "call cancel", "}", "}", "func{", "}", "call WithWorkers", "call MapReduceVoid", "return"] := rfl

/-- FinishVoid: empty → return; generator sends every fn; mapper = fn(); WithWorkers(len(fns)) → ForEach (`Spec.forEachCfg`). -/
theorem tie_finishVoidShape : finishVoidShape =
    ["if len(fns) == 0 {", "return", "}", "func{", "range fns {", "send source", "}", "}", "func{", "call fn", "}", "call WithWorkers", "call ForEach"] := rfl

/-- WithContext stores the context. -/
theorem tie_withContextShape : withContextShape =
    ["func{", "store opts.ctx", "}", "return"] := rfl

/-- buildOptions applies EVERY option, in order (`Spec.workersOf`: the last WithWorkers wins). -/
theorem tie_buildOptionsShape : buildOptionsShape =
    ["range opts {", "call opt", "}", "return"] := rfl

/-- newOptions only constructs. -/
theorem tie_newOptionsShape : newOptionsShape =
    ["call context.Background", "return"] := rfl

/-- newGuardedWriter only constructs. -/
theorem tie_newGuardedWriterShape : newGuardedWriterShape =
    ["return"] := rfl

/-- buildOptions starts from newOptions() — a fresh struct per call. -/
theorem tie_buildOptionsInit : buildOptionsInit =
    ["newOptions()"] := rfl

/-- WithContext stores ITS argument into opts.ctx. -/
theorem tie_withContextStores : withContextStores =
    ["opts.ctx = ctx"] := rfl

/-- newGuardedWriter forwards ctx / channel / done into the fields of the same name (Write selects on gw.ctx.Done() and gw.done, sends to gw.channel). -/
theorem tie_newGuardedWriterFields : newGuardedWriterFields =
    ["ctx: ctx", "channel: channel", "done: done"] := rfl

/-- ForEach hands the dispatcher the options' context and worker count, its own source / panicChan / collector / done. -/
theorem tie_forEachFields : forEachFields =
    ["ctx: options.ctx", "mapper: func", "source: source", "panicChan: panicChan", "collector: collector", "doneChan: done", "workers: options.workers"] := rfl

/-- the caller hands the dispatcher the options' context and worker count, the source, panicChan, collector and done. -/
theorem tie_mapReduceWithPanicChanFields : mapReduceWithPanicChanFields =
    ["ctx: options.ctx", "mapper: func", "source: source", "panicChan: panicChan", "collector: collector", "doneChan: done", "workers: options.workers"] := rfl

/-- the reducer's writer guards `output` with the options' context and `done`. -/
theorem tie_callerWriterArgs : callerWriterArgs =
    ["options.ctx, output, done"] := rfl

/-- the mappers' writer guards the collector with the same context and done channel. -/
theorem tie_mapperWriterArgs : mapperWriterArgs =
    ["mCtx.ctx, mCtx.collector, mCtx.doneChan"] := rfl

/-- all options are forwarded to buildOptions. -/
theorem tie_callerBuildOptionsArgs : callerBuildOptionsArgs =
    ["opts..."] := rfl

/-- all options are forwarded to buildOptions. -/
theorem tie_forEachBuildOptionsArgs : forEachBuildOptionsArgs =
    ["opts..."] := rfl

/-- MapReduce forwards source, panicChan, mapper, reducer and ALL options. -/
theorem tie_mapReduceForwardArgs : mapReduceForwardArgs =
    ["source, panicChan, mapper, reducer, opts..."] := rfl

/-- the generator goroutine writes its panic into the SAME panicChan the caller reads. -/
theorem tie_mapReduceBuildSourceArgs : mapReduceBuildSourceArgs =
    ["generate, panicChan"] := rfl

/-- the generator goroutine writes its panic into the SAME panicChan the caller reads. -/
theorem tie_forEachBuildSourceArgs : forEachBuildSourceArgs =
    ["generate, panicChan"] := rfl

/-- MapReduceChan forwards source, panicChan, mapper, reducer and ALL options. -/
theorem tie_mapReduceChanForwardArgs : mapReduceChanForwardArgs =
    ["source, panicChan, mapper, reducer, opts..."] := rfl

/-- MapReduceVoid forwards generate, mapper, its wrapper reducer and ALL options. -/
theorem tie_mapReduceVoidForwardArgs : mapReduceVoidForwardArgs =
    ["generate, func, func, opts..."] := rfl

/-- the reducer reads the collector, writes through the guarded writer, gets the once-cancel. -/
theorem tie_reducerCallArgs : reducerCallArgs =
    ["collector, writer, cancel"] := rfl

/-- the mapper gets the item, the guarded writer and the once-cancel. -/
theorem tie_mapperCallArgs : mapperCallArgs =
    ["item, w, cancel"] := rfl

/-- cancel drains the SOURCE, the reducer goroutine's deferred function the COLLECTOR, the panic case the OUTPUT. -/
theorem tie_callerDrainArgs : callerDrainArgs =
    ["source", "collector", "output"] := rfl

/-- the dispatcher's deferred function drains the source. -/
theorem tie_dispatcherDrainArgs : dispatcherDrainArgs =
    ["mCtx.source"] := rfl

/-- the mapper goroutine gets the item received from the source and the guarded writer. -/
theorem tie_dispatcherMapperArgs : dispatcherMapperArgs =
    ["item, writer"] := rfl

/-- one wait-group unit per mapper goroutine (`stepDisp` .spawn: wg + 1). -/
theorem tie_dispatcherWgAddArgs : dispatcherWgAddArgs =
    ["1"] := rfl

/-- the defaults: background context, defaultWorkers. -/
theorem tie_newOptionsFields : newOptionsFields =
    ["ctx: context.Background()", "workers: defaultWorkers"] := rfl

/-- newOptions returns the address of a FRESH literal: no options struct is shared between calls. -/
theorem tie_newOptionsReturns : newOptionsReturns =
    ["&literal"] := rfl

/-- the only package-level variables are the two sentinel errors: no state persists between calls or instances. -/
theorem tie_packageVars : packageVars =
    ["ErrCancelWithNil", "ErrReduceNoOutput"] := rfl

/-! ### semantic ties: Go conditions / assignments translated to Lean functions by `extract/c10.go` and
proven equal, for ALL arguments, to the functions the model and the driver use -/

/-- `defaultWorkers` is the 16 of `Spec.defaultWorkersN` (a call without WithWorkers: `Spec.workersOf []`). -/
theorem tie_defaultWorkers : GoZero.Extracted.C10.defaultWorkers = (GoZero.C10.defaultWorkersN : Int) := rfl

/-- `WithWorkers(w)` stores `clampWorkers w` — comparison operator, both branches and the constant, for every w. -/
theorem tie_withWorkers (w : Int) : GoZero.Extracted.C10.withWorkers w = (GoZero.C10.clampWorkers w : Int) := by
  have hm : GoZero.Extracted.C10.minWorkers = 1 := rfl
  unfold GoZero.Extracted.C10.withWorkers GoZero.C10.clampWorkers GoZero.C10.minWorkersN
  rw [hm]
  by_cases h : w < 1 <;> simp [h] <;> omega

/-- the dispatcher goes on iff `failed = 0` (`stepDisp` .loop), and a recovered mapper panic adds exactly 1 (`.recovered`). -/
theorem tie_dispatcherLoopCond (f : Nat) : GoZero.Extracted.C10.dispatcherLoopCond f = decide (f = 0) := by
  unfold GoZero.Extracted.C10.dispatcherLoopCond
  cases f <;> simp <;> omega

theorem tie_dispatcherLoop_is_model (c : GoZero.C10.Cfg) (s : GoZero.C10.St) (h : s.dpc = .loop) :
    GoZero.C10.stepDisp c s = some { s with dpc := if GoZero.Extracted.C10.dispatcherLoopCond s.failed then .sel else .wait } := by
  unfold GoZero.C10.stepDisp
  rw [h, tie_dispatcherLoopCond]
  by_cases h0 : s.failed = 0 <;> simp [h0]

theorem tie_failedDelta : GoZero.Extracted.C10.failedDelta = 1 := rfl

/-- `AtomicError.Set` / `Load` are `Spec.aeSet` / `Spec.aeLoad` for every content and argument. -/
theorem tie_atomicErrorSet (cur err : Option Nat) : GoZero.Extracted.C10.atomicErrorSet cur err = GoZero.C10.aeSet cur err := rfl
theorem tie_atomicErrorLoad (cur : Option Nat) : GoZero.Extracted.C10.atomicErrorLoad cur = GoZero.C10.aeLoad cur := rfl

/-- `cancel(err)` records err, or ErrCancelWithNil for nil (`Spec.cancelRecords`; model: `retErr := some (cancelErr e)`,
`PropsNow.cancel_records_an_error`). -/
theorem tie_cancelRecords (err : Option Nat) : GoZero.Extracted.C10.cancelRecords err = GoZero.C10.cancelRecords err := by
  cases err <;> rfl

/-- the caller's output branch: recorded error first, then the value, else ErrReduceNoOutput (`Spec.callerOutput`;
model: `PropsNow.callerOutput_is_model`).  The order of the three tests is part of the equality. -/
theorem tie_callerOutput (e : Option Nat) (ok : Bool) (v : Nat) :
    GoZero.Extracted.C10.callerOutput e ok v = GoZero.C10.callerOutput e ok v := by
  cases e <;> cases ok <;> rfl

/-- the caller's context case cancels with and returns DeadlineExceeded (`stepCaller` .cancelEnter / .cdrain). -/
theorem tie_callerCtxCase : GoZero.Extracted.C10.callerCtxCase =
    (some (GoZero.C10.encErr .deadline), some (GoZero.C10.encErr .deadline)) := rfl

/-- the translated `errors.Is(err, ErrReduceNoOutput)` is `Spec.isNoOutput`: true of the sentinel and also of a user error that is
or wraps it (codes 111, 112) — which is why `MapReduceVoid` tests the mark first (`tie_voidReturn`). -/
theorem tie_errorsIs_noOutput (err : Option Nat) :
    GoZero.Extracted.C10.errorsIs err (some GoZero.Extracted.C10.errReduceNoOutput) = GoZero.C10.isNoOutput err := by
  simp [GoZero.Extracted.C10.errorsIs, GoZero.C10.isNoOutput, GoZero.C10.encErr, GoZero.Extracted.C10.errReduceNoOutput,
    Bool.or_assoc]

/-- the marked error is returned as it is, THEN `errors.Is(err, ErrReduceNoOutput)` ↦ nil, for all errors and
both values of the mark (`SpecGlue.voidReturnNow`; `errors.Is` also matches a user error that is / wraps the sentinel:
`Spec.isNoOutput`). -/
theorem tie_voidReturn (fromCancel : Bool) (err : Option Nat) :
    GoZero.Extracted.C10.voidReturn fromCancel err = GoZero.C10.voidReturnNow fromCancel err := by
  unfold GoZero.Extracted.C10.voidReturn GoZero.C10.voidReturnNow GoZero.C10.voidReturnIs
  rw [tie_errorsIs_noOutput]

/-- Finish / FinishVoid: return at once iff there is no function; pass WithWorkers(len(fns)) (`Spec.finishCfg`,
`Spec.forEachCfg`); Finish's mapper cancels with the function's error iff it is not nil (`Spec.fnScript`). -/
theorem tie_finishEmptyGuard (n : Nat) : GoZero.Extracted.C10.finishEmptyGuard n = decide (n = 0) := by
  unfold GoZero.Extracted.C10.finishEmptyGuard; cases n <;> simp <;> omega
theorem tie_finishVoidEmptyGuard (n : Nat) : GoZero.Extracted.C10.finishVoidEmptyGuard n = decide (n = 0) := by
  unfold GoZero.Extracted.C10.finishVoidEmptyGuard; cases n <;> simp <;> omega
theorem tie_finishWorkers (n : Nat) : GoZero.Extracted.C10.withWorkers (GoZero.Extracted.C10.finishWorkersArg n) = ((GoZero.C10.finishCfg (List.replicate n .ok)).workers : Int) := by
  simp [GoZero.Extracted.C10.finishWorkersArg, tie_withWorkers, GoZero.C10.finishCfg]
theorem tie_finishVoidWorkers (n : Nat) : GoZero.Extracted.C10.withWorkers (GoZero.Extracted.C10.finishVoidWorkersArg n) = (GoZero.C10.clampWorkers n : Int) := by
  simp [GoZero.Extracted.C10.finishVoidWorkersArg, tie_withWorkers]
theorem tie_finishMapperCancel (err : Option Nat) : GoZero.Extracted.C10.finishMapperCancel err = err.map some := by
  cases err <;> rfl

/-! ### the ORDER OF EFFECTS of the cleanup paths as typed lists (`Extracted.C10.Eff`), in source order

Each list is what the model's step table for that actor was written against; a statement outside the vocabulary would
appear as `Eff.other …` and break the equality. -/

/-- `cancel`: the error is recorded FIRST (model: the step that takes the once also sets `retErr`,
`Props5.cancel_sets_error_first`), then the source is drained (`.cdrain`), then `finish` (seeded C10-4 swapped the
first two). -/
theorem tie_cancelEffects : cancelEffects = [.retErrSet, .drainSource, .finish] := rfl

/-- `cancel` IS the closure above handed to `once(…)`, and `once` runs its function under a fresh
`sync.Once` for the first call only — cancel is idempotent after the first call (model: `St.once`, the guard
`s.once = 0` of the cancel steps, `Props5.later_cancel_is_a_noop`, `Props.first_cancel_wins`; the cell therefore sees
ONE Store per call: `Props5.once_records_the_first`, `once_never_panics`; without it: `without_once_panics_or_overwrites`,
seeded C10-8). -/
theorem tie_cancelDef : cancelDef = .onceOf [.retErrSet, .drainSource, .finish] := rfl
theorem tie_onceIsSyncOnce : onceIsSyncOnce = true := rfl

/-- `finish`: `done` is closed before `output` (model: `fin := true` is one step; a writer that sees `output` closed
has `done` closed). -/
theorem tie_finishEffects : finishEffects = [.closeDone, .closeOutput] := rfl

/-- the caller's deferred function: first wait until `output` is closed (the reducer goroutine has ended), THEN look
for a captured panic (model: `CPc.defer` → `CPc.check`; seeded C10-2 swapped them). -/
theorem tie_callerDeferEffects : callerDeferEffects = [.rangeOutputPanic, .repanic] := rfl

/-- the reducer goroutine: user reducer, then drain the collector, hand over a panic, finish (`stepRed`: `.run` →
`.drain` → `.pwrite`/`.psend` → `.finish`). -/
theorem tie_reducerGoEffects : reducerGoEffects =
    [.callUser "reducer", .drainCollector, .recoverBegin, .panicWrite, .recoverEnd, .finish] := rfl

/-- the caller's panic case drains `output` before re-raising; its context case cancels with DeadlineExceeded and
returns DeadlineExceeded (`stepCaller`). -/
theorem tie_callerPanicCaseEffects : callerPanicCaseEffects = [.drainOutput, .panicV] := rfl
theorem tie_callerCtxCaseEffects : callerCtxCaseEffects = [.cancelDeadline, .errDeadline] := rfl

/-- the dispatcher's deferred function: wait for every worker, THEN close the collector, THEN drain the source
(`stepDisp`: `.wait` → `.closeColl` → `.drain`; `Props.collector_open_while_mappers_run`). -/
theorem tie_dispatcherDeferEffects : dispatcherDeferEffects = [.wgWait, .closeCollector, .drainSource] := rfl

/-- one worker: the mapper, then on a panic `failed += 1` BEFORE the hand-over, then `wg.Done`, then the pool slot
(`stepMapper`: `.recovered` → `.pwrite` → `.psend` → `.wgdone` → `.unpool`). -/
theorem tie_workerGoEffects : workerGoEffects =
    [.callUser "mapper", .recoverBegin, .failedInc, .panicWrite, .recoverEnd, .wgDone, .poolRelease] := rfl

/-- the generator goroutine: generate, hand over a panic, THEN close the source (`stepGen`: `.run` → `.pwrite` →
`.psend` → `.close`). -/
theorem tie_generatorGoEffects : generatorGoEffects =
    [.callUser "generate", .recoverBegin, .panicWrite, .recoverEnd, .closeSource] := rfl

/-! ### the functions AS EXTRACTED, composed along the path of a cancel error -/

/-- the whole path of an error through the code as it is now — `markCancel` → `cancel` (records through
`AtomicError.Set`) → the caller's output branch (reads through `AtomicError.Load`) → `MapReduceVoid`'s return — composed
from the TRANSLATED Go functions: the error that was passed to cancel comes back, for every error code (also the zero
valued classes, the library's sentinels and what wraps them), ErrCancelWithNil (code 0) for nil. -/
theorem tie_void_path_returns_the_cancel_error (e : Option Nat) (ok : Bool) (v : Nat) :
    GoZero.Extracted.C10.voidReturn (GoZero.Extracted.C10.markCancelArg e).2
      (GoZero.Extracted.C10.callerOutput (GoZero.Extracted.C10.cancelRecords (GoZero.Extracted.C10.markCancelArg e).1) ok v).2
      = some (e.getD 0) := by
  rw [tie_markCancelArg, tie_cancelRecords, tie_callerOutput, tie_voidReturn]
  exact GoZero.C10.Props5.void_returns_the_cancel_error e ok v

/-- `Finish`: a function that returns a non-nil error makes the mapper call cancel with exactly that error, and the
path above returns it. -/
theorem tie_finish_path_returns_the_function_error (k : Nat) (ok : Bool) (v : Nat) :
    (GoZero.Extracted.C10.finishMapperCancel (some k)).map (fun a =>
      GoZero.Extracted.C10.voidReturn (GoZero.Extracted.C10.markCancelArg a).2
        (GoZero.Extracted.C10.callerOutput (GoZero.Extracted.C10.cancelRecords (GoZero.Extracted.C10.markCancelArg a).1) ok v).2)
      = some (some k) := by
  rw [tie_finishMapperCancel]
  simp [tie_void_path_returns_the_cancel_error]

/-- `MapReduce` / `MapReduceChan`: cancel(e) then the caller's output branch, from the translated functions. -/
theorem tie_mr_path_returns_the_cancel_error (k : Nat) (ok : Bool) (v : Nat) :
    (GoZero.Extracted.C10.callerOutput (GoZero.Extracted.C10.cancelRecords (some k)) ok v) = (0, some k) := by
  rw [tie_cancelRecords, tie_callerOutput]
  simp [GoZero.C10.callerOutput, GoZero.C10.cancelRecords, GoZero.C10.aeSet, GoZero.C10.aeLoad]

/-! ### `cancelError` as the wrapper it is — the error path rendered over VALUES (`Extracted.C10.GErr`) -/

/-- the extractor's value type is the model's. -/
def convG : GoZero.Extracted.C10.GErr → GoZero.C10.GErr
  | .code k => .code k
  | .marked i => .marked (convG i)

theorem tie_markCancelW (e : Option GoZero.Extracted.C10.GErr) :
    (GoZero.Extracted.C10.markCancelW e).map convG = GoZero.C10.markCancelW (e.map convG) := by
  cases e <;> simp [GoZero.Extracted.C10.markCancelW, GoZero.C10.markCancelW, convG]

theorem tie_cancelRecordsW (e : Option GoZero.Extracted.C10.GErr) :
    (GoZero.Extracted.C10.cancelRecordsW e).map convG = GoZero.C10.cancelRecordsW (e.map convG) := by
  cases e <;> simp [GoZero.Extracted.C10.cancelRecordsW, GoZero.Extracted.C10.atomicErrorSetW, GoZero.C10.cancelRecordsW, convG,
    GoZero.Extracted.C10.errCancelWithNil, GoZero.C10.encErr]

theorem tie_callerOutputW (e : Option GoZero.Extracted.C10.GErr) (ok : Bool) (v : Nat) :
    ((GoZero.Extracted.C10.callerOutputW e ok v).1, (GoZero.Extracted.C10.callerOutputW e ok v).2.map convG) =
      GoZero.C10.callerOutputW (e.map convG) ok v := by
  cases e <;> cases ok <;> simp [GoZero.Extracted.C10.callerOutputW, GoZero.Extracted.C10.atomicErrorLoadW, GoZero.C10.callerOutputW,
    convG, GoZero.Extracted.C10.errReduceNoOutput, GoZero.C10.encErr]

theorem tie_voidReturnW (e : Option GoZero.Extracted.C10.GErr) :
    (GoZero.Extracted.C10.voidReturnW e).map convG = GoZero.C10.voidReturnW (e.map convG) := by
  cases e with
  | none => simp [GoZero.Extracted.C10.voidReturnW, GoZero.Extracted.C10.errorsIsW, GoZero.C10.voidReturnW, GoZero.C10.isNoOutputW]
  | some x =>
    cases x with
    | marked i => simp [GoZero.Extracted.C10.voidReturnW, GoZero.C10.voidReturnW, convG]
    | code k =>
      have h := tie_errorsIs_noOutput (some k)
      cases hb : GoZero.C10.isNoOutput (some k) <;>
        simp [GoZero.Extracted.C10.voidReturnW, GoZero.Extracted.C10.errorsIsW, GoZero.C10.voidReturnW,
          GoZero.C10.isNoOutputW, convG, h, hb]

/-- the composed TRANSLATED functions over values: `MapReduceVoid` / `Finish` return the user's value itself. -/
theorem tie_void_path_identity (e : GoZero.Extracted.C10.GErr) (ok : Bool) (v : Nat) :
    (GoZero.Extracted.C10.voidReturnW (GoZero.Extracted.C10.callerOutputW
      (GoZero.Extracted.C10.cancelRecordsW (GoZero.Extracted.C10.markCancelW (some e))) ok v).2) = some e := by
  simp [GoZero.Extracted.C10.markCancelW, GoZero.Extracted.C10.cancelRecordsW, GoZero.Extracted.C10.atomicErrorSetW,
    GoZero.Extracted.C10.callerOutputW, GoZero.Extracted.C10.atomicErrorLoadW, GoZero.Extracted.C10.voidReturnW]

/-! ### the user function is the ONLY statement of its goroutine outside the deferred cleanup, and the
deferred function is installed first: `runtime.Goexit` inside a user function runs exactly the cleanup of a return
(`SpecValues.goroutineRuns`, `Props6.goexit_is_return`); go.mod says go ≥ 1.21: `panic(nil)` is recovered as a non-nil
value (`Props6.panicNil_is_panic`). -/
theorem tie_reducerGoBody : reducerGoBody = [.callUser "reducer"] := rfl
theorem tie_workerGoBody : workerGoBody = [.callUser "mapper"] := rfl
theorem tie_generatorGoBody : generatorGoBody = [.callUser "generate"] := rfl
theorem tie_goDirective : goDirective.1 > 1 ∨ (goDirective.1 = 1 ∧ goDirective.2 ≥ 21) := by decide

/-! ### WHERE the per-call state comes from (typed allocation sites)

The model starts every call from `init c`: empty panic buffer, no recorded error, nothing closed, a fresh once.  That
is sound only if every piece of state of a call is allocated BY that call.  `Props6.stale_panic_buffer_is_reraised`
shows what a recycled panic channel does (seeded C10-9: a sync.Pool of onceChans). -/

/-- allocated by the call itself (a `freshCall` is resolved by the tie of the called constructor). -/
def isPerCall : Alloc → Bool
  | .other _ => false
  | _ => true

theorem tie_coreState : coreState =
    [("options", .freshCall "buildOptions"), ("output", .makeChan "0"), ("collector", .makeChan "options.workers"),
     ("done", .makeChan "0"), ("retErr", .localVar "errorx.AtomicError"), ("closeOnce", .localVar "sync.Once")] := rfl

/-- every entry point gets its panic channel from `newOnceChan`, which returns a fresh literal with a fresh channel of
capacity 1 (never a pooled / package-level object). -/
theorem tie_mapReduceState : mapReduceState = [("panicChan", .freshCall "newOnceChan"), ("source", .freshCall "buildSource")] := rfl
theorem tie_mapReduceChanState : mapReduceChanState = [("panicChan", .freshCall "newOnceChan")] := rfl
theorem tie_forEachState : forEachState =
    [("options", .freshCall "buildOptions"), ("panicChan", .freshCall "newOnceChan"), ("source", .freshCall "buildSource"),
     ("collector", .makeChan "0"), ("done", .makeChan "0")] := rfl
theorem tie_newOnceChanAlloc : newOnceChanAlloc = .addrOfLiteral [("channel", "make(chan any, 1)")] := rfl
theorem tie_newOptionsAlloc : newOptionsAlloc =
    .addrOfLiteral [("ctx", "context.Background()"), ("workers", "defaultWorkers")] := rfl
theorem tie_constructorStates : executeMappersState = [("pool", .makeChan "mCtx.workers")] ∧
    buildSourceState = [("source", .makeChan "0")] ∧ buildOptionsState = [("options", .freshCall "newOptions")] ∧
    onceState = [("once", .newOf "sync.Once")] := ⟨rfl, rfl, rfl, rfl⟩

/-- nothing of it comes from anywhere else, and the package has no variable besides the two immutable sentinels. -/
theorem tie_all_state_per_call :
    (coreState ++ mapReduceState ++ mapReduceChanState ++ forEachState ++ executeMappersState ++ buildSourceState ++
      buildOptionsState ++ onceState).all (fun p => isPerCall p.2) = true ∧
    isPerCall newOnceChanAlloc = true ∧ isPerCall newOptionsAlloc = true := by decide
theorem tie_packageState : packageState = [.sentinel "ErrCancelWithNil", .sentinel "ErrReduceNoOutput"] := rfl

end GoZero.C10.Tie
