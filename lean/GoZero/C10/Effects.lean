/-
C10 — the step table read per field.  `Leaf` lists what each branch of `step` does; an invariant clause asks the
opposite question: which steps can change the two or three fields it reads, and how.  Answered here once, from the
table: what only goes up (`Mono`), who writes a field and when (`Writes`), who owns what (a thread's program counter
and private ghosts are moved by its own actor only: `gen_owns` … `atPsend_owns`), and what a step does to `onceChan`
(`OnceChanStep`).  With these a group of clauses of `Inv` is kept by every step of another thread without looking at
the table; only the rows of the thread whose program counter it reads are taken one by one.
-/
import GoZero.C10.StepTable
namespace GoZero.C10

/-- the flags only go up, the caller only ever leaves its select, a snapshot once taken stays. -/
structure Mono (s s' : St) : Prop where
  sel : s'.cpc = .sel → s.cpc = .sel
  ctx : s.ctxDone = true → s'.ctxDone = true
  fin : s.fin = true → s'.fin = true
  ret : s.retErr ≠ none → s'.retErr ≠ none
  once : s.once ≠ 0 → s'.once ≠ 0
  failed : s.failed ≠ 0 → s'.failed ≠ 0
  gdone : s.gpc = .done → s'.gpc = .done
  coll : s.collClosed = true → s'.collClosed = true
  wrote : s.wrote = true → s'.wrote = true
  /-- the writes the reducer may still attempt only get fewer -/
  rw : rW s'.rpc ≤ rW s.rpc
  wsnap : ∀ b, s.wSnap = some b → s'.wSnap = some b
  esnap : ∀ b, s.eSnap = some b → s'.eSnap = some b

theorem step_mono {c : Cfg} {s s' : St} {a : Actor} (h : step c s a = some s') : Mono s s' := by
  cases step_leaf h <;> constructor <;>
    first | exact id | exact fun _ => id | exact fun _ => rfl | exact Nat.le_refl _ | (intro b hb; rw [hb]; rfl)
          | (simp_all [rW, rRem, writesOf]; done)

/-- somebody stands in a `drain(source)`. -/
def draining (s : St) : Prop :=
  s.dpc = .drain ∨ (∃ i sc, s.mp i = .cdrain sc) ∨ (∃ sc, s.rpc = .cdrain sc) ∨ s.cpc = .cdrain

/-- who writes a field, and when. -/
structure Writes (c : Cfg) (s s' : St) : Prop where
  /-- the source is closed by the generator's last step -/
  src : s'.srcClosed = s.srcClosed ∨ (s'.srcClosed = true ∧ s'.gpc = .done)
  /-- an item is dropped by a drain of the source -/
  dropped : s'.dropped = s.dropped ∨ ((∃ j, srcRecv c s = some (some j)) ∧ draining s)
  /-- `failed` is counted up by a mapper goroutine that has recovered a panic -/
  failed : s'.failed = s.failed ∨ ∃ i, s.mp i = .recovered
  /-- an error is recorded by the step that enters cancel's once, and by no other -/
  ret : s'.retErr = s.retErr ∨ (s.once = 0 ∧ s'.once ≠ 0)
  /-- an item leaves the source only while the generator stands at its send -/
  gNext : s'.gNext = s.gNext ∨ s.gpc = .run

theorem step_writes {c : Cfg} {s s' : St} {a : Actor} (h : step c s a = some s') : Writes c s s' := by
  cases step_leaf h <;> constructor <;>
    first | exact Or.inl rfl | exact Or.inr ⟨rfl, rfl⟩ | exact Or.inr ⟨_, ‹_›⟩ | exact Or.inr ⟨‹_›, Nat.one_ne_zero⟩
          | exact Or.inr ⟨⟨_, ‹_›⟩, Or.inl ‹_›⟩ | exact Or.inr ⟨⟨_, ‹_›⟩, Or.inr (Or.inl ⟨_, _, ‹_›⟩)⟩
          | exact Or.inr ⟨⟨_, ‹_›⟩, Or.inr (Or.inr (Or.inl ⟨_, ‹_›⟩))⟩ | exact Or.inr ⟨⟨_, ‹_›⟩, Or.inr (Or.inr (Or.inr ‹_›))⟩
          | exact Or.inr (srcRecv_item ‹_›).2.2

theorem gen_owns {c : Cfg} {s s' : St} {a : Actor} (h : step c s a = some s') (ha : a ≠ .gen) : s'.gpc = s.gpc := by
  cases step_leaf h <;> first | rfl | exact absurd rfl ha

/-- the array of mapper goroutines is written by a mapper goroutine (its own entry) and by the dispatcher's spawn. -/
theorem mp_others {c : Cfg} {s s' : St} {a : Actor} (h : step c s a = some s') (hm : ∀ i, a ≠ .mapper i) (hd : a ≠ .disp) :
    s'.mp = s.mp := by
  cases step_leaf h <;> first | rfl | exact absurd rfl (hm _) | exact absurd rfl hd

/-- the dispatcher's three actors. -/
def isDisp : Actor → Bool
  | .disp | .dispCtx | .dispDone => true
  | _ => false

theorem disp_owns {c : Cfg} {s s' : St} {a : Actor} (h : step c s a = some s') (ha : isDisp a = false) : s'.dpc = s.dpc := by
  cases step_leaf h <;> first | rfl | exact absurd ha (by simp [isDisp])

theorem red_owns {c : Cfg} {s s' : St} {a : Actor} (h : step c s a = some s') (ha : a ≠ .red) :
    s'.rpc = s.rpc ∧ s'.wSnap = s.wSnap ∧ s'.eSnap = s.eSnap := by
  cases step_leaf h <;> first | exact ⟨rfl, rfl, rfl⟩ | exact absurd rfl ha

/-- the collector's queue: mappers append while it is open; only the reducer goroutine takes from it. -/
theorem collQ_owns {c : Cfg} {s s' : St} {a : Actor} (h : step c s a = some s') (ha : a ≠ .red) :
    s'.drained = s.drained ∧ (s'.collQ = s.collQ ∨ s.collClosed = false) := by
  cases step_leaf h <;> first | exact ⟨rfl, Or.inl rfl⟩ | exact absurd rfl ha | exact ⟨rfl, Or.inr (by simpa using ‹¬ s.collClosed = true›)⟩

/-- a recorded error is never replaced (cancel runs under a `sync.Once`). -/
theorem retErr_stable {c : Cfg} {s s' : St} {a : Actor} {e : Err} (h : step c s a = some s')
    (ho : s.once ≠ 0) (he : s.retErr = some e) : s'.retErr = some e :=
  (step_writes h).ret.elim (fun eq => eq ▸ he) fun x => absurd x.1 ho

/-- the collector is closed and empty: once true it stays (mappers append only while it is open). -/
def closedEmpty (s : St) : Prop := s.collClosed = true ∧ s.collQ = []

theorem closedEmpty_keeps {c : Cfg} {s s' : St} {a : Actor} (h : step c s a = some s') (ha : a ≠ .red) :
    closedEmpty s → closedEmpty s' := fun ⟨h1, h2⟩ =>
  ⟨(step_mono h).coll h1, ((collQ_owns h ha).2.resolve_right (by simp [h1])).trans h2⟩

/-- a mapper goroutine is moved by its own actor; the dispatcher starts it from idle. -/
theorem mp_owns {c : Cfg} {s s' : St} {a : Actor} (hsi : ∀ i, s.dpc = .spawn i → s.mp i = .idle)
    (h : step c s a = some s') (j : Nat) (ha : a ≠ .mapper j) :
    s'.mp j = s.mp j ∨ (s.mp j = .idle ∧ ∃ sc, s'.mp j = .run sc) := by
  cases step_leaf h
  case dSpawn i hpc =>
    by_cases e : j = i
    · subst e; exact Or.inr ⟨hsi _ hpc, _, upd_same _ _ _⟩
    · exact Or.inl (upd_other _ _ _ _ e)
  all_goals first | exact Or.inl rfl | exact Or.inl (upd_other _ _ _ _ fun e => ha (e ▸ rfl))

/-- a step changes nobody's standing at the send but the mover's. -/
theorem atPsend_owns {c : Cfg} {s s' : St} {a : Actor} (hsi : ∀ i, s.dpc = .spawn i → s.mp i = .idle)
    (h : step c s a = some s') (b : Actor) (hb : b ≠ a) : atPsend s' b = atPsend s b := by
  cases b <;>
    first | rfl | (simp only [atPsend, gen_owns h hb.symm]; done) | (simp only [atPsend, (red_owns h hb.symm).1]; done)
          | (rcases mp_owns hsi h _ hb.symm with e | ⟨e, _, e'⟩ <;> simp [atPsend, *])

/-- what one step of `a` does to `onceChan` (everybody else stands where he stood: `atPsend_owns`). -/
inductive OnceChanStep (c : Cfg) (s s' : St) (a : Actor) : Prop
  /-- nothing: also a goroutine that finds the flag set and goes on -/
  | idle (hw : s'.wrote = s.wrote) (hb : s'.pbuf = s.pbuf) (hc : s'.consumed = s.consumed)
      (hn : atPsend s a = false) (hn' : atPsend s' a = false)
  /-- `a` sets the flag and stands at the send -/
  | won (hw : s.wrote = false) (hw' : s'.wrote = true) (hb : s'.pbuf = s.pbuf) (hc : s'.consumed = s.consumed)
      (ha' : atPsend s' a = true)
  /-- `a` sends: into the buffer in the repaired code -/
  | sent (ha : atPsend s a = true) (ha' : atPsend s' a = false) (hw : s'.wrote = s.wrote) (hc : s'.consumed = s.consumed)
      (hf : c.fixed = true → s'.pbuf ≠ none)
  /-- the caller takes the value out of the buffer -/
  | taken (hw : s'.wrote = s.wrote) (hb : s'.pbuf = none) (hc : s'.consumed = true)
      (hn : atPsend s a = false) (hn' : atPsend s' a = false)

theorem step_onceChan {c : Cfg} {s s' : St} {a : Actor} (h : step c s a = some s') : OnceChanStep c s s' a := by
  cases a
  case gen =>
    cases step_leaf h <;> first
      | (refine .idle rfl rfl rfl ?_ rfl; simp only [atPsend]; rw [‹s.gpc = _›]; rfl)
      | (refine .won ?_ rfl rfl rfl rfl; simpa using ‹¬ s.wrote = true›)
      | (refine .sent ?_ rfl rfl rfl ?_ <;> simp_all [atPsend]; done)
  case mapper i =>
    cases step_leaf h <;> first
      | (refine .idle rfl rfl rfl ?_ ?_ <;> simp only [atPsend, upd_same] <;> first | rfl | (rw [‹s.mp i = _›]; rfl))
      | (refine .won ?_ rfl rfl rfl ?_ <;> simp_all [atPsend, upd]; done)
      | (refine .sent ?_ ?_ rfl rfl ?_ <;> simp_all [atPsend, upd]; done)
  case red =>
    cases step_leaf h <;> first
      | (refine .idle rfl rfl rfl ?_ ?_ <;> simp only [atPsend, ‹s.rpc = _›]; done)
      | (refine .won ?_ rfl rfl rfl rfl; simpa using ‹¬ s.wrote = true›)
      | (refine .sent ?_ rfl rfl rfl ?_ <;> simp_all [atPsend]; done)
  all_goals (cases step_leaf h <;> first | exact .idle rfl rfl rfl rfl rfl | exact .taken rfl rfl rfl rfl rfl)

end GoZero.C10
