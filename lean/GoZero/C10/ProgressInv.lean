/-
C10 — progress invariants of the repaired code (towards `Props.no_deadlock`): the panic channel's single
write never blocks, a goroutine waiting in `cancel`'s sync.Once implies a runner draining the source, the
collector is closed once the dispatcher drains, the reducer goroutine ends only on a closed and empty
collector, the caller passes its deferred function only after `finish`.

The `onceChan` group follows from the account of what a step does to it (`Effects.step_onceChan`); `CloseInv` and
`RedEndInv` each have one or two owners whose rows are taken from the table, everybody else keeps them by ownership and
the flags going up; `CallerEndInv` is an assertion by the caller's position; `OnceInv` is kept through its `frame`
lemma (a step that leaves the fields and views it reads alone) and argued clause by clause on the other rows.
-/
import GoZero.C10.Inv
import GoZero.C10.Effects
namespace GoZero.C10

/-- by what the step does to `onceChan` (`step_onceChan`, `atPsend_owns`), without the table. -/
theorem onceChan_step {c : Cfg} {s s' : St} {a : Actor} (IB : InvB c s) (I : OnceChanInv c s)
    (h : step c s a = some s') : OnceChanInv c s' := by
  obtain ⟨p1, one, filled⟩ := I
  have ho := atPsend_owns IB.spawnidle h
  -- if the mover's own standing is unchanged, everybody's is
  have same : atPsend s' a = atPsend s a → ∀ b, atPsend s' b = atPsend s b := fun e b =>
    if eb : b = a then eb ▸ e else ho b eb
  cases step_onceChan h with
  | idle hw hb hc hn hn' =>
    have hp := same (hn'.trans hn.symm)
    exact ⟨by simpa only [hw, hb, hp] using p1, by simpa only [hb, hp] using one, by simpa only [hw, hb, hc, hp] using filled⟩
  | won hw hw' hb hc ha =>
    -- nobody stood at the send before: `a` is the only one now
    obtain ⟨hb0, hn⟩ := p1 hw
    have only : ∀ b, atPsend s' b = true → b = a := fun b hb' =>
      Decidable.byContradiction fun ne => by rw [ho b ne, hn b] at hb'; cases hb'
    exact ⟨fun x => (by rw [hw'] at x; cases x), fun b hb' => ⟨hb ▸ hb0, fun b' h' => (only b' h').trans (only b hb').symm⟩,
      fun _ _ => Or.inr (Or.inr ⟨a, ha⟩)⟩
  | sent ha ha' hw hc hf =>
    -- `a` was the only one: nobody stands there any more
    obtain ⟨-, huniq⟩ := one a ha
    have none' : ∀ b, atPsend s' b = false := fun b => by
      by_cases e : b = a
      · exact e ▸ ha'
      · rw [ho b e]; exact Bool.eq_false_iff.mpr fun x => e (huniq b x)
    exact ⟨fun x => (by rw [(p1 (hw ▸ x)).2 a] at ha; cases ha), fun b hb' => (by rw [none' b] at hb'; cases hb'),
      fun hfx _ => Or.inl (hf hfx)⟩
  | taken hw hb hc hn hn' =>
    have hp := same (hn'.trans hn.symm)
    exact ⟨fun x => ⟨hb, by simpa only [hp] using (p1 (hw ▸ x)).2⟩,
      fun b hb' => ⟨hb, by simpa only [hp] using (one b (hp b ▸ hb')).2⟩, fun _ _ => Or.inr (Or.inl hc)⟩

theorem OnceInv.frame {s s' : St} (I : OnceInv s) (ho : s'.once = s.once) (hb : s'.onceBy = s.onceBy)
    (hm : ∀ j, mIsCdrain (s'.mp j) = mIsCdrain (s.mp j)) (hr : rIsCdrain s'.rpc = rIsCdrain s.rpc)
    (hc : (s'.cpc = .cdrain) = (s.cpc = .cdrain)) : OnceInv s' := by
  obtain ⟨o1a, o1m, o1r, o1c⟩ := I
  constructor <;> simp only [ho, hb, hm, hr, hc] <;> assumption

/-- the generator's rows for g1, the dispatcher's for d1 and d2; for everybody else the two program counters stay and
`srcClosed`, `collClosed` only go up. -/
theorem close_step {c : Cfg} {s s' : St} {a : Actor} (I : CloseInv s) (h : step c s a = some s') : CloseInv s' := by
  obtain ⟨g1, d1, d2⟩ := I
  have srcUp : s.srcClosed = true → s'.srcClosed = true := fun x => (step_writes h).src.elim (fun e => e ▸ x) (·.1)
  have g1' : s'.gpc = .done → s'.srcClosed = true := by
    by_cases ha : a = .gen
    · subst ha
      cases step_leaf h <;> first | exact fun _ => rfl | (intro x; cases x; done)
    · exact fun x => srcUp (g1 (gen_owns h ha ▸ x))
  by_cases hd : isDisp a = true
  · have hsc := @srcRecv_closed c s
    cases a <;> first | (simp [isDisp] at hd; done) | skip
    all_goals cases step_leaf h
    all_goals (refine ⟨g1', ?_, ?_⟩ <;> first | assumption | (intro x; cases x; done) | (simp_all; done))
  · have e := disp_owns h (by simpa using hd)
    exact ⟨g1', fun x => (step_mono h).coll (d1 (e ▸ x)), fun x => srcUp (d2 (e ▸ x))⟩

/-- everybody else leaves the reducer goroutine alone, a closed and empty collector stays so, `fin` stays; the
reducer's own rows one by one. -/
theorem redEnd_step {c : Cfg} {s s' : St} {a : Actor} (I : RedEndInv s) (h : step c s a = some s') : RedEndInv s' := by
  obtain ⟨r1, r2⟩ := I
  by_cases ha : a = .red
  · subst ha
    cases step_leaf h <;> (constructor <;> first | assumption | (intro x; cases x; done) | (simp_all [rAfterDrain]; done))
  · have hr := (red_owns h ha).1
    have keep := closedEmpty_keeps h ha
    exact ⟨fun x => keep (r1 (hr ▸ x)), fun x => (step_mono h).fin (r2 (hr ▸ x))⟩

/-- `fin` stays, and the writes still to come only get fewer. -/
theorem CallerEndAt.mono {c : Cfg} {s s' : St} {p : CPc} (I : CallerEndAt c s p) (m : Mono s s') : CallerEndAt c s' p := by
  have := m.rw
  cases p <;> first | exact trivial | exact m.fin I | exact I.imp m.fin fun ⟨h1, h2⟩ => ⟨h1, by omega⟩
                     | exact fun hf => Nat.le_trans (Nat.succ_le_succ this) (I (Bool.eq_false_iff.mpr fun x => by simp [m.fin x] at hf))

theorem invE_init (c : Cfg) : InvE c (init c) := by
  refine ⟨⟨fun _ => ⟨rfl, fun a => (by cases a <;> rfl)⟩, fun a ha => (by cases a <;> simp [atPsend, init] at ha),
    fun _ hw => (by simp [init] at hw)⟩, ?_, ?_, ?_, ⟨trivial⟩⟩ <;> constructor <;> simp [init, rIsCdrain, rAfterDrain]

theorem invE_step {c : Cfg} {s s' : St} (a : Actor) (IC : InvC c s) (IB : InvB c s) (I : InvE c s)
    (h : step c s a = some s') : InvE c s' := by
  have hoc := onceChan_step IB I.toOnceChanInv h
  have hre := redEnd_step I.toRedEndInv h
  have hcl := close_step I.toCloseInv h
  have hle : ∀ l, rRem s.rpc = some l → (writesOf l).length ≤ (writesOf c.rscript).length :=
    fun l hl => writesOf_suffix_le (IC.rsuf l hl)
  have honce2 : s.once ≠ 0 → s.once ≠ 1 → s.fin = true := fun h0 h1 => IC.once2 (by have := IC.ole; omega)
  have m := step_mono h
  have hsi := IB.spawnidle
  clear IC IB
  cases step_leaf h
  all_goals refine ⟨hoc, ?_, hcl, hre, ?_⟩
  all_goals first
    | (refine I.toOnceInv.frame ?_ ?_ ?_ ?_ ?_ <;>
        first | rfl | exact fun _ => rfl | (refine upd_keeps mIsCdrain ?_; simp [*, mIsCdrain]; done) | (simp [*, rIsCdrain]; done))
    | exact ⟨I.ce.mono m⟩
    | exact ⟨trivial⟩
    | (show OnceInv _; obtain ⟨o1a, o1m, o1r, o1c⟩ := I.toOnceInv; clear I hle m; constructor <;> first | assumption | grind [rIsCdrain, mIsCdrain, upd])
    | (show CallerEndInv _ _; have ce := I.ce; clear I hsi m; rw [‹s.cpc = _›] at ce
       simp only [CallerEndAt] at ce; refine ⟨?_⟩; simp only [CallerEndAt]; grind [rW, rRem, writesOf])
    | exact ⟨fun hf => by simp_all⟩

end GoZero.C10
