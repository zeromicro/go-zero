/-
C10 — the code as it is now (`onceChan.write` = one atomic non-blocking send, `Model.stepA`).
`ReachA ⊆ Reach`; in `ReachA` the flag `wrote` means "the buffer was filled" (`J`); and the FULL statement of
"a captured panic is re-raised" (also for a panicking generator) holds (`settled_reachA`).
-/
import GoZero.C10.NoCancel
import GoZero.C10.Termination
namespace GoZero.C10

theorem stepA_cases {c : Cfg} {s s' : St} {a : Actor} (h : stepA c s a = some s') :
    (step c s a = some s' ∧ atPsend s' a = false) ∨
    (∃ s1, step c s a = some s1 ∧ atPsend s1 a = true ∧ step c s1 a = some s') := by
  unfold stepA at h
  split at h
  · simp at h
  next s1 h1 =>
    split at h
    next hp => exact Or.inr ⟨s1, h1, hp, h⟩
    next hp => simp at h; subst h; exact Or.inl ⟨h1, by simpa using hp⟩

theorem reachA_reach {c : Cfg} {s : St} (h : ReachA c s) : Reach c s := by
  induction h with
  | init => exact Reach.init
  | step a _ hs ih =>
    rcases stepA_cases hs with ⟨h1, _⟩ | ⟨s1, h1, _, h2⟩
    · exact Reach.step a ih h1
    · exact Reach.step a (Reach.step a ih h1) h2

/-- `wrote` means: the buffer was filled (and possibly emptied by the caller), whether or not somebody cancels.  A
`step` keeps it unless the actor has just won the CAS and stands at its send (`Effects.step_onceChan`); the send that
`stepA` executes in the same action restores it. -/
def J (s : St) : Prop := s.wrote = true → s.pbuf ≠ none ∨ s.consumed = true

/-- the send of `onceChan.write` in the repaired code fills the buffer and leaves the caller alone. -/
theorem psend_effect {c : Cfg} {s s' : St} {a : Actor} (hfx : c.fixed = true) (hp : atPsend s a = true)
    (h : step c s a = some s') : s'.pbuf ≠ none ∧ s'.cpc = s.cpc := by
  cases step_leaf h <;> simp_all [atPsend]

theorem j_reachA {c : Cfg} (hfx : c.fixed = true) {s : St} (h : ReachA c s) : J s := by
  induction h with
  | init => exact fun hw => by simp [init] at hw
  | step a hr hs ih =>
    rcases stepA_cases hs with ⟨h1, hp⟩ | ⟨s1, h1, hp, h2⟩
    · cases step_onceChan h1 with
      | idle hw hb hc _ _ => unfold J; rw [hw, hb, hc]; exact ih
      | won _ _ _ _ ha' => rw [hp] at ha'; cases ha'
      | sent _ _ _ _ hf => exact fun _ => Or.inl (hf hfx)
      | taken _ _ hc _ _ => exact fun _ => Or.inr hc
    · exact fun _ => Or.inl (psend_effect hfx hp h2).1

/-- over `ReachA` (the code as it is), whoever panics: `entry` is `J`; the second half of an atomic write is no step
of the caller. -/
theorem settled_reachA {c : Cfg} (hfx : c.fixed = true) {s : St} (h : ReachA c s) : Settled s := by
  induction h with
  | init => intro r hc; cases hc
  | @step s0 _ a hr hs ih =>
    have R := reachA_reach hr
    have I := inv_reach R
    have entry : ∀ r, s0.cpc = .check r → s0.pbuf = none → s0.wrote = false := fun r hc hb =>
      Bool.eq_false_iff.mpr fun hw => (j_reachA hfx hr hw).elim (fun x => x hb) fun x => by
        have := I.k2 x; simp [hc, cPan] at this
    rcases stepA_cases hs with ⟨h1, _⟩ | ⟨s1, h1, hp, h2⟩
    · exact ih.step hfx I (inv_reach (R.step a h1)) (fun r _ hc hb _ => entry r hc hb) h1
    · have I1 := inv_reach (R.step a h1)
      refine (ih.step hfx I I1 (fun r _ hc hb _ => entry r hc hb) h1).step hfx I1
        (inv_reach ((R.step a h1).step a h2)) (fun r ha => ?_) h2
      subst ha; cases hp

/-- the send of `onceChan.write` never blocks in the repaired code (capacity-1 buffer, single writer). -/
theorem psend_enabled {c : Cfg} {s : St} (a : Actor) (hfx : c.fixed = true) (I : Inv c s) (hp : atPsend s a = true) :
    step c s a ≠ none := by
  cases a <;> simp only [atPsend] at hp <;> try (simp at hp; done)
  · have h := of_decide_eq_true hp
    simp [step, stepGen, h, panicSend, hfx, (I.one .gen hp).1]
  next i =>
    have h := of_decide_eq_true hp
    simp [step, stepMapper, h, panicSend, hfx, (I.one (.mapper i) hp).1]
  · cases hr : s.rpc <;> simp [hr] at hp
    simp [step, stepRed, hr, panicSend, hfx, (I.one .red (by simp [atPsend, hr])).1]

theorem stepA_none_iff {c : Cfg} {s : St} (a : Actor) (hfx : c.fixed = true) (h : Reach c s) :
    stepA c s a = none ↔ step c s a = none := by
  unfold stepA
  cases hs : step c s a with
  | none => simp
  | some s1 =>
    simp only [reduceCtorEq, iff_false]
    split
    next hp => exact psend_enabled a hfx (inv_reach (Reach.step a h hs)) hp
    next => simp

theorem muA_step {c : Cfg} {s s' : St} (a : Actor) (hr : Reach c s) (h : stepA c s a = some s') : mu c s' < mu c s := by
  rcases stepA_cases h with ⟨h1, _⟩ | ⟨s1, h1, _, h2⟩
  · exact mu_step a hr h1
  · have := mu_step a hr h1
    have := mu_step a (Reach.step a hr h1) h2
    omega

end GoZero.C10
