/-
C10 — `ForEach` with a context as an instance of the core.  ForEach's caller has no context case: the
actor `callerCtx` never moves (`stepF`).  Invariant: the caller never enters its cancel(DeadlineExceeded) branch, no
deadline error is ever recorded or returned.
-/
import GoZero.C10.AtomicWrite
namespace GoZero.C10

/-- the code as it is now without the caller's context case (ForEach / FinishVoid). -/
def stepF (c : Cfg) (s : St) (a : Actor) : Option St := if a = .callerCtx then none else stepA c s a

inductive ReachF (c : Cfg) : St → Prop
  | init : ReachF c (init c)
  | step {s s' : St} (a : Actor) : ReachF c s → stepF c s a = some s' → ReachF c s'

theorem stepF_stepA {c : Cfg} {s s' : St} {a : Actor} (h : stepF c s a = some s') : a ≠ .callerCtx ∧ stepA c s a = some s' := by
  unfold stepF at h
  split at h
  · simp at h
  · exact ⟨by assumption, h⟩

theorem reachF_reachA {c : Cfg} {s : St} (h : ReachF c s) : ReachA c s := by
  induction h with
  | init => exact ReachA.init
  | step a _ hs ih => exact ReachA.step a ih (stepF_stepA hs).2

/-- no cancel of any user function carries the deadline error, the caller is not in its context branch. -/
structure InvFJ (s : St) : Prop where
  j1 : s.cpc ≠ .cancelEnter
  j2 : s.cpc ≠ .cdrain
  j3 : s.retErr ≠ some .deadline
  j4 : ∀ r, (s.cpc = .defer r ∨ s.cpc = .check r ∨ s.cpc = .done r) → r ≠ .err .deadline

theorem InvFJ.frame {s s' : St} (I : InvFJ s) (hc : s'.cpc = s.cpc) (hr : s'.retErr = s.retErr) : InvFJ s' := by
  obtain ⟨j1, j2, j3, j4⟩ := I
  constructor <;> simp only [hc, hr] <;> assumption

theorem cancelErr_ne_deadline (e : Option Nat) : cancelErr e ≠ .deadline := by
  cases e <;> simp [cancelErr]

theorem invFJ_step {c : Cfg} {s s' : St} {a : Actor} (ha : a ≠ .callerCtx) (h : step c s a = some s') (I : InvFJ s) : InvFJ s' := by
  have hce := cancelErr_ne_deadline
  cases step_leaf h
  all_goals first
    | exact I.frame rfl rfl
    | exact absurd rfl ha
    | (obtain ⟨j1, j2, j3, j4⟩ := I; constructor <;> first | assumption | grind [outRes])

theorem invFJ_reachF {c : Cfg} {s : St} (h : ReachF c s) : InvFJ s := by
  induction h with
  | init => constructor <;> simp [init]
  | step a _ hs ih =>
    obtain ⟨hne, hA⟩ := stepF_stepA hs
    rcases stepA_cases hA with ⟨h1, _⟩ | ⟨s1, h1, _, h2⟩
    · exact invFJ_step hne h1 ih
    · exact invFJ_step hne h2 (invFJ_step hne h1 ih)

end GoZero.C10
