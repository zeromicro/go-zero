/-
C10 — counting invariant: the wait group counts the live mapper goroutines, the pool channel counts the
mapper goroutines that hold a slot (plus the dispatcher's reservation), the pool never exceeds `workers`,
and the collector is closed only when no mapper goroutine is left.
-/
import GoZero.C10.Inv
namespace GoZero.C10

/-- `Σ_{k<n} w k (f k)`: the shape `cnt`, `sumM` (the measure) and `sumP` (pending writes) share. -/
def sumOver (w : Nat → MPc → Nat) (f : Nat → MPc) : Nat → Nat
  | 0 => 0
  | n + 1 => sumOver w f n + w n (f n)

theorem sumOver_upd_ge (w : Nat → MPc → Nat) (f : Nat → MPc) (i : Nat) (x : MPc) (n : Nat) (h : n ≤ i) :
    sumOver w (upd f i x) n = sumOver w f n := by
  induction n with
  | zero => rfl
  | succ n ih =>
    have : n ≠ i := by omega
    simp [sumOver, upd, this, ih (by omega)]

theorem sumOver_ge (w : Nat → MPc → Nat) (f : Nat → MPc) (i n : Nat) (hi : i < n) : w i (f i) ≤ sumOver w f n := by
  induction n with
  | zero => omega
  | succ n ih =>
    simp only [sumOver]
    by_cases h : i = n
    · subst h; omega
    · have := ih (by omega); omega

/-- rewriting one entry exchanges its weight. -/
theorem sumOver_upd (w : Nat → MPc → Nat) (f : Nat → MPc) (i : Nat) (x : MPc) (n : Nat) (hi : i < n) :
    sumOver w (upd f i x) n + w i (f i) = sumOver w f n + w i x := by
  induction n with
  | zero => omega
  | succ n ih =>
    by_cases h : i = n
    · subst h
      simp only [sumOver, upd_same, sumOver_upd_ge w f i x i (Nat.le_refl _)]
      omega
    · have hn : n ≠ i := fun e => h e.symm
      simp only [sumOver, upd, hn, if_false]
      omega

theorem sumOver_upd_eq (w : Nat → MPc → Nat) (f : Nat → MPc) (i : Nat) (x : MPc) (n : Nat) (hi : i < n) :
    sumOver w (upd f i x) n = sumOver w f n - w i (f i) + w i x := by
  have := sumOver_upd w f i x n hi
  have := sumOver_ge w f i n hi
  omega

theorem sumOver_zero (w : Nat → MPc → Nat) (f : Nat → MPc) (n : Nat) (h : ∀ i, i < n → w i (f i) = 0) :
    sumOver w f n = 0 := by
  induction n with
  | zero => rfl
  | succ n ih => simp [sumOver, ih (fun i hi => h i (by omega)), h n (by omega)]

theorem cnt_eq_sumOver (p : MPc → Bool) (f : Nat → MPc) (n : Nat) : cnt p f n = sumOver (fun _ x => b2n (p x)) f n := by
  induction n with
  | zero => rfl
  | succ n ih => simp [cnt, sumOver, ih]

theorem cnt_upd (p : MPc → Bool) (f : Nat → MPc) (i : Nat) (x : MPc) (n : Nat) (hi : i < n) :
    cnt p (upd f i x) n + b2n (p (f i)) = cnt p f n + b2n (p x) := by
  simpa only [cnt_eq_sumOver] using sumOver_upd (fun _ x => b2n (p x)) f i x n hi

theorem cnt_ge (p : MPc → Bool) (f : Nat → MPc) (n i : Nat) (hi : i < n) : b2n (p (f i)) ≤ cnt p f n := by
  simpa only [cnt_eq_sumOver] using sumOver_ge (fun _ x => b2n (p x)) f i n hi

theorem cnt_zero_of (p : MPc → Bool) (f : Nat → MPc) (n : Nat) (h : ∀ i, i < n → p (f i) = false) : cnt p f n = 0 := by
  rw [cnt_eq_sumOver]
  exact sumOver_zero _ f n fun i hi => by simp [h i hi, b2n]

theorem cnt_mono (p q : MPc → Bool) (f : Nat → MPc) (n : Nat) (h : ∀ x, p x = true → q x = true) :
    cnt p f n ≤ cnt q f n := by
  induction n with
  | zero => exact Nat.le_refl _
  | succ n ih =>
    simp only [cnt]
    have : b2n (p (f n)) ≤ b2n (q (f n)) := by
      unfold b2n
      cases hp : p (f n) <;> simp
      simp [h _ hp]
    omega

theorem invB_init (c : Cfg) : InvB c (init c) := by
  have h1 : cnt inWg (fun _ => MPc.idle) c.n = 0 := cnt_zero_of _ _ _ fun _ _ => rfl
  have h2 : cnt inPool (fun _ => MPc.idle) c.n = 0 := cnt_zero_of _ _ _ fun _ _ => rfl
  constructor <;> simp [init, h1, h2, b2n, dHolds, dAfter]

/-- the step leaves everything the counting invariant talks about unchanged (the source may have advanced). -/
def frameB (s s' : St) : Prop :=
  s'.wg = s.wg ∧ s'.mp = s.mp ∧ s'.pool = s.pool ∧ s'.dpc = s.dpc ∧ s'.collClosed = s.collClosed ∧ s.gNext ≤ s'.gNext

theorem invB_frame {c : Cfg} {s s' : St} (I : InvB c s) (f : frameB s s') : InvB c s' := by
  obtain ⟨h1, h2, h3, h4, h5, h6⟩ := f
  refine ⟨by rw [h1, h2]; exact I.wgc, by rw [h3, h2, h4]; exact I.poolc, by rw [h3]; exact I.poolle, ?_, ?_, ?_, ?_, ?_, ?_⟩
  · intro j hj; rw [h2]; exact I.idle j (by omega)
  · intro j hj; rw [h2]; rw [h4] at hj; exact I.spawnidle j hj
  · intro j hj; rw [h4] at hj; have := I.nogap j hj; omega
  · rw [h4, h1]; exact I.dafter
  · rw [h5, h4]; exact I.collc
  · rw [h2]; exact I.nocrash

/-- the generic effect of a mapper goroutine's step on the counters. -/
theorem invB_mp_upd {c : Cfg} {s s' : St} (I : InvB c s) {i : Nat} (hi : i < c.n) (x : MPc)
    (hne : s.mp i ≠ .idle) (hxc : x ≠ .crash)
    (hmp : s'.mp = upd s.mp i x) (hg : s.gNext ≤ s'.gNext) (hd : s'.dpc = s.dpc) (hcc : s'.collClosed = s.collClosed)
    (hwg : s'.wg + b2n (inWg (s.mp i)) = s.wg + b2n (inWg x))
    (hpool : s'.pool + b2n (inPool (s.mp i)) = s.pool + b2n (inPool x))
    (hwl : s'.wg ≤ s.wg) (hpl : s'.pool ≤ s.pool) : InvB c s' := by
  have e1 := cnt_upd inWg s.mp i x c.n hi
  have e2 := cnt_upd inPool s.mp i x c.n hi
  have w := I.wgc
  have p := I.poolc
  refine ⟨?_, ?_, ?_, ?_, ?_, ?_, ?_, ?_, ?_⟩
  · rw [hmp]; omega
  · rw [hmp, hd]; omega
  · have := I.poolle; omega
  · intro j hj
    rw [hmp]
    have hji : j ≠ i := by
      intro e; subst e
      exact hne (I.idle j (by omega))
    rw [upd_other _ _ _ _ hji]; exact I.idle j (by omega)
  · intro j hj
    rw [hd] at hj
    have := I.spawnidle j hj
    have hji : j ≠ i := by intro e; subst e; exact hne this
    rw [hmp, upd_other _ _ _ _ hji]; exact this
  · intro j hj
    rw [hd] at hj
    have := I.nogap j hj
    omega
  · rw [hd]; intro h; have := I.dafter h; omega
  · rw [hcc, hd]; exact I.collc
  · intro j
    rw [hmp]
    by_cases hji : j = i
    · subst hji; rw [upd_same]; exact hxc
    · rw [upd_other _ _ _ _ hji]; exact I.nocrash j

theorem invB_mapper {c : Cfg} {s s' : St} (i : Nat) (IC : InvC c s) (I : InvB c s)
    (h : stepMapper c s i = some s') : InvB c s' := by
  by_cases hne : s.mp i = .idle
  · simp [stepMapper, hne] at h
  have hi := I.mlt IC.gle i hne
  have hw := cnt_ge inWg s.mp c.n i hi
  have hp := cnt_ge inPool s.mp c.n i hi
  have hwg := I.wgc
  have hpool := I.poolc
  cases step_leaf (a := (.mapper i)) h
  -- every branch but two rewrites the goroutine's own program counter and, at most, its own wait-group / pool token
  all_goals first
    | (refine invB_mp_upd I hi _ hne ?_ rfl (Nat.le_refl _) rfl rfl ?_ ?_ ?_ ?_ <;>
        first | (simp; done) | (simp_all [inWg, inPool, b2n] <;> omega))
    | -- the collector cannot be closed while this mapper is counted by the wait group
      (have h0 := I.dafter (I.collc (by assumption)).1; simp_all [inWg, b2n]; omega)
    | -- a drain takes an item from the source
      exact invB_frame I ⟨rfl, rfl, rfl, rfl, rfl, Nat.le_succ _⟩

/-- a dispatcher step that only moves its program counter, not to a spawn, with the same claim on the pool. -/
theorem invB_dpc_upd {c : Cfg} {s : St} (I : InvB c s) (d : DPc) (hh : dHolds d = dHolds s.dpc) (hsp : ∀ i, d ≠ .spawn i)
    (ha : dAfter d = true → s.wg = 0) (hc : s.collClosed = true → dAfter d = true ∧ d ≠ .closeColl) :
    InvB c { s with dpc := d } :=
  { I with poolc := by rw [hh]; exact I.poolc, spawnidle := fun i h => absurd h (hsp i), nogap := fun i h => absurd h (hsp i),
           dafter := ha, collc := hc }

theorem invB_disp {c : Cfg} {s s' : St} (IC : InvC c s) (I : InvB c s) (h : stepDisp c s = some s') : InvB c s' := by
  have hda := I.dafter
  have hcl := I.collc
  cases step_leaf (a := .disp) h
  case dLoop hd _ | dFailed hd _ | dRecvClosed hd _ | dWait hd _ | dDrainClosed hd _ =>
    exact invB_dpc_upd I _ (by simp [hd, dHolds]) (by simp) (by simp_all [dAfter]) (by simp_all [dAfter])
  case dCloseColl hd =>
    exact { invB_dpc_upd I .drain (by simp [hd, dHolds]) (by simp) (by simp_all [dAfter]) (by simp [dAfter]) with
              collc := by simp [dAfter] }
  case dSel hd _ =>
    exact { I with poolc := by have := I.poolc; simp [hd, dHolds, b2n] at this ⊢; omega, spawnidle := by simp, nogap := by simp,
                   poolle := by simp; omega,
                   dafter := by simp [dAfter], collc := by simpa [hd, dAfter] using hcl }
  case dRecv i hd hr =>
    have hi := srcRecv_item hr
    exact { I with poolc := by simpa [hd, dHolds] using I.poolc,
                   idle := fun j hj => I.idle j (by simp at hj; omega),
                   spawnidle := by intro j hj; simp at hj; subst hj; exact I.idle _ (by omega),
                   nogap := by intro j hj; simp at hj; subst hj; simp; omega,
                   dafter := by simp [dAfter], collc := by simpa [hd, dAfter] using hcl }
  case dSpawn i hd =>
    have hi := I.spawnlt IC.gle i hd
    have hid := I.spawnidle i hd
    have e1 := cnt_upd inWg s.mp i (.run (c.mscript i)) c.n hi
    have e2 := cnt_upd inPool s.mp i (.run (c.mscript i)) c.n hi
    rw [hid] at e1 e2
    simp [inWg, inPool, b2n] at e1 e2
    have hw := I.wgc
    have hp := I.poolc
    simp [hd, dHolds, b2n] at hp
    have hng := I.nogap i hd
    refine ⟨by simp; omega, by simp [dHolds, b2n]; omega, I.poolle, ?_, by simp, by simp, by simp [dAfter], ?_, ?_⟩
    · intro j hj
      have hji : j ≠ i := by simp at hj; omega
      simp [upd, hji]; exact I.idle j hj
    · simpa [hd, dAfter] using hcl
    · intro j
      by_cases hji : j = i
      · subst hji; simp [upd]
      · simp [upd, hji]; exact I.nocrash j
  case dUnpool hd =>
    have hp := I.poolc
    simp [hd, dHolds, b2n] at hp
    exact { I with poolc := by simp [dHolds, b2n]; omega, poolle := by have := I.poolle; simp; omega, spawnidle := by simp,
                   nogap := by simp, dafter := by simp [dAfter], collc := by simpa [hd, dAfter] using hcl }
  case dDrain j hd hr => exact invB_frame I ⟨rfl, rfl, rfl, rfl, rfl, Nat.le_succ _⟩

theorem invB_step {c : Cfg} {s s' : St} (a : Actor) (IC : InvC c s) (I : InvB c s) (h : step c s a = some s') : InvB c s' := by
  cases a with
  | disp => exact invB_disp IC I h
  | mapper i => exact invB_mapper i IC I h
  | dispCtx | dispDone =>
    have hcl := I.collc
    cases step_leaf h
    next hg => exact invB_dpc_upd I .wait (by simp [hg.1, dHolds]) (by simp) (by simp [dAfter]) (by simp_all [dAfter])
  | _ =>
    -- the generator, the reducer, the caller and the context touch nothing the invariant reads (a drain advances the source)
    cases step_leaf h
    all_goals first
      | exact invB_frame I ⟨rfl, rfl, rfl, rfl, rfl, Nat.le_refl _⟩
      | exact invB_frame I ⟨rfl, rfl, rfl, rfl, rfl, Nat.le_succ _⟩

end GoZero.C10
