/-
C10 — round 5c: error VALUES with the private wrapper `cancelError` as the wrapper it is (round 5 carried a boolean
mark next to the error code), and the exit kinds of user functions.
-/
import GoZero.C10.SpecGlue
namespace GoZero.C10

/-- a Go error value: an error identified by a code (`Spec.encErr` for the library's own, anything else the user's),
or `cancelError{inner}`. -/
inductive GErr
  | code (k : Nat)
  | marked (inner : GErr)
  deriving DecidableEq, Repr

def GErr.isMarked : GErr → Bool
  | .marked _ => true
  | .code _ => false

/-- `errors.Is(err, ErrReduceNoOutput)` on values: `cancelError` embeds the error interface, no `Unwrap` is promoted, so
a wrapped value never matches. -/
def isNoOutputW : Option GErr → Bool
  | some (.code k) => isNoOutput (some k)
  | _ => false

/-- `markCancel(cancel)(err)`: `if err != nil { err = cancelError{err} }; cancel(err)`. -/
def markCancelW (err : Option GErr) : Option GErr := err.map .marked

/-- `cancel(err)` → `retErr` (through `AtomicError.Set`). -/
def cancelRecordsW (err : Option GErr) : Option GErr :=
  if err != none then err else some (.code (encErr .nilCancel))

/-- the caller's output branch (through `AtomicError.Load`). -/
def callerOutputW (retErr : Option GErr) (ok : Bool) (v : Nat) : Nat × Option GErr :=
  if retErr != none then (0, retErr) else if ok then (v, none) else (0, some (.code (encErr .noOutput)))

/-- `MapReduceVoid`'s return. -/
def voidReturnW (err : Option GErr) : Option GErr :=
  match err with
  | some (.marked inner) => some inner
  | _ => if isNoOutputW err then none else err

/-- what the public entry points return when a user function's `cancel(e)` wins: `MapReduce` / `MapReduceChan` … -/
def mrPathW (e : Option GErr) (ok : Bool) (v : Nat) : Option GErr := (callerOutputW (cancelRecordsW e) ok v).2

/-- … and `MapReduceVoid` / `Finish` (ForEach / FinishVoid return no error at all). -/
def voidPathW (e : Option GErr) (ok : Bool) (v : Nat) : Option GErr :=
  voidReturnW (callerOutputW (cancelRecordsW (markCancelW e)) ok v).2

/-- what they return for the errors the LIBRARY reports itself (context end, no output, nothing). -/
def voidOwnW (own : Option Err) : Option GErr := voidReturnW (own.map fun x => .code (encErr x))

/-! ### exit kinds of a user function

A user function is a script followed by the way it ends.  The library runs every user function as the ONLY statement
of a goroutine body outside the deferred cleanup (`Tie.tie_*GoBody`), so `runtime.Goexit` — which runs the deferred
calls and lets `recover()` return nil — is indistinguishable from a return; `panic(nil)` is a panic with a non-nil
recovered value (`*runtime.PanicNilError`, go.mod `go 1.21`, `Tie.tie_goDirective`). -/

inductive UExit | ret | goexit | panicVal | panicNil
  deriving DecidableEq, Repr

/-- the core script of a user function that runs `sc` and then ends by `x`. -/
def withExit (sc : List UAct) : UExit → List UAct
  | .ret => sc
  | .goexit => sc
  | .panicVal => sc ++ [.panic]
  | .panicNil => sc ++ [.panic]

/-- one goroutine of the library: the statements outside the deferred function, then the deferred ones.  What runs
when the user function (the body) ends by `x`: on return and on Goexit the deferred list with `recover() = nil`
(`rec = false`), on a panic the deferred list with a recovered value. -/
def goroutineRuns (deferred : Bool → List String) : UExit → List String
  | .ret => deferred false
  | .goexit => deferred false
  | .panicVal => deferred true
  | .panicNil => deferred true

/-- the configuration in which every user function ends by the given exit kind. -/
def withExits (c : Cfg) (mx : Nat → UExit) (rx : UExit) : Cfg :=
  { c with mscript := fun i => withExit (c.mscript i) (mx i), rscript := withExit c.rscript rx }

/-- the generator ends by `gx` after its `n` items: return / Goexit = it returns; a panic = `gPanicAt = n`. -/
def withGenExit (c : Cfg) : UExit → Cfg
  | .ret => c
  | .goexit => c
  | .panicVal => { c with gPanicAt := some c.n }
  | .panicNil => { c with gPanicAt := some c.n }

end GoZero.C10
