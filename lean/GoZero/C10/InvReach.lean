/-
C10 — `Inv` holds in every reachable configuration: the groups' step lemmas put together (`inv_step`, `inv_reach`).
-/
import GoZero.C10.Provenance
import GoZero.C10.Counting
import GoZero.C10.Snapshots
import GoZero.C10.ProgressInv
import GoZero.C10.Faults
import GoZero.C10.Ghosts
import GoZero.C10.RanClean
import GoZero.C10.Logs
namespace GoZero.C10

theorem inv_init (c : Cfg) : Inv c (init c) :=
  { toInvC := invC_init c, toInvB := invB_init c, toInvE := invE_init c, toInvF := invF_init c, toInvD := invD_init c,
    toInvG := ⟨by simp [init], by simp [init], by simp [init]⟩, toInvG2 := ⟨by simp [init]⟩,
    toRanCleanInv := ranClean_init c, ex := trivial, val := fun v => by simp [init], item := fun v => by simp [init] }

theorem inv_step {c : Cfg} {s s' : St} (a : Actor) (I : Inv c s) (h : step c s a = some s') : Inv c s' :=
  have G := invG_step a I.toInvB I.toInvG I.toInvG2 h
  have L := logFrame_step a h
  { toInvC := invC_step a I.toInvC (fun r hc => (hc ▸ I.ce : CallerEndAt c s (.defer r))) I.idle h, toInvB := invB_step a I.toInvC I.toInvB h,
    toInvE := invE_step a I.toInvC I.toInvB I.toInvE h, toInvF := invF_step a I.toInvC I.toInvB I.toInvE I.toInvF h,
    toInvD := invD_step a I.toInvC I.toInvD h, toInvG := G.1, toInvG2 := G.2,
    toRanCleanInv := ranClean_step a I.toInvG I.toRanCleanInv h,
    ex := ex_step a I.toInvC I.toInvD I.ex h, val := valInv_frame I.val L.1, item := itemInv_frame I.item L.2 }

theorem inv_reach {c : Cfg} {s : St} (h : Reach c s) : Inv c s := by
  induction h with
  | init => exact inv_init c
  | step a _ hs ih => exact inv_step a ih hs

end GoZero.C10
