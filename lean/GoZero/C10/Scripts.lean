/-
C10 — what is left of a script (`mRem`, `rRem`, `rW`), the errors `cancel` can have stored (`errOK`), and list lemmas
about scripts, for the invariants that follow.
-/
import GoZero.C10.Spec
namespace GoZero.C10

/-- what is left of a mapper's script (a pending guarded write counts as not yet done). -/
def mRem : MPc → Option (List UAct)
  | .run sc => some sc
  | .send v sc => some (.write v :: sc)
  | .cdrain sc => some sc
  | _ => none

def rRem : RPc → Option (List UAct)
  | .run sc => some sc
  | .send v sc => some (.write v :: sc)
  | .cdrain sc => some sc
  | _ => none

/-- number of writes the reducer may still attempt. -/
def rW (p : RPc) : Nat :=
  match rRem p with
  | some l => (writesOf l).length
  | none => 0

/-- errors that `cancel` can have stored. -/
def errOK (c : Cfg) : Err → Prop
  | .noOutput => False
  | e => allowed0 c (.err e) = true

theorem writesOf_cons_le (a : UAct) (l : List UAct) : (writesOf l).length ≤ (writesOf (a :: l)).length := by
  cases a <;> simp [writesOf]

theorem writesOf_suffix_le {l L : List UAct} (h : l <:+ L) : (writesOf l).length ≤ (writesOf L).length := by
  obtain ⟨pre, rfl⟩ := h
  induction pre with
  | nil => simp
  | cons a pre ih => exact Nat.le_trans ih (writesOf_cons_le a _)

theorem mem_writesOf {v : Nat} {l : List UAct} : v ∈ writesOf l ↔ UAct.write v ∈ l := by
  induction l with
  | nil => simp [writesOf]
  | cons a l ih => cases a <;> simp [writesOf, ih]

theorem suffix_tail {a : UAct} {l L : List UAct} (h : a :: l <:+ L) : l <:+ L :=
  List.IsSuffix.trans (List.suffix_cons a l) h

theorem suffix_head_mem {a : UAct} {l L : List UAct} (h : a :: l <:+ L) : a ∈ L :=
  h.subset (List.mem_cons_self)

theorem anyMapper_of {c : Cfg} {p : List UAct → Bool} {i : Nat} (hi : i < c.n) (h : p (c.mscript i) = true) :
    anyMapper c p = true := by
  simp only [anyMapper, List.any_eq_true, List.mem_range]
  exact ⟨i, hi, h⟩

theorem anyScript_of_mapper {c : Cfg} {p : List UAct → Bool} {i : Nat} (hi : i < c.n) (h : p (c.mscript i) = true) :
    anyScript c p = true := by
  simp only [anyScript, anyMapper, Bool.or_eq_true, List.any_eq_true, List.mem_range]
  exact Or.inl ⟨i, hi, h⟩

theorem anyScript_of_reducer {c : Cfg} {p : List UAct → Bool} (h : p c.rscript = true) : anyScript c p = true := by
  simp [anyScript, h]

theorem anyScript_mono {c : Cfg} {p q : List UAct → Bool} (hpq : ∀ l, p l = true → q l = true)
    (h : anyScript c p = true) : anyScript c q = true := by
  simp only [anyScript, anyMapper, Bool.or_eq_true, List.any_eq_true] at *
  rcases h with ⟨i, hi, h⟩ | h
  · exact Or.inl ⟨i, hi, hpq _ h⟩
  · exact Or.inr (hpq _ h)

theorem hasCancel_of_contains {l : List UAct} {e : Option Nat} (h : l.contains (.cancel e) = true) : hasCancel l = true := by
  simp only [hasCancel, List.any_eq_true]
  exact ⟨_, by simpa using h, rfl⟩

theorem hasCancel_of_suffix {e : Option Nat} {sc L : List UAct} (h : UAct.cancel e :: sc <:+ L) : hasCancel L = true := by
  simp only [hasCancel, List.any_eq_true]
  exact ⟨_, suffix_head_mem h, rfl⟩

theorem hasPanic_of_suffix {sc L : List UAct} (h : UAct.panic :: sc <:+ L) : hasPanic L = true := by
  simpa [hasPanic] using suffix_head_mem h

theorem errOK_cancel {c : Cfg} {e : Option Nat} (h : anyScript c (·.contains (.cancel e)) = true) : errOK c (cancelErr e) := by
  cases e <;> exact h

theorem errOK_faulty {c : Cfg} {e : Err} (h : errOK c e) :
    c.ctxCan = true ∨ c.ctxPre = true ∨ anyScript c hasCancel = true := by
  cases e with
  | noOutput => exact h.elim
  | deadline => simp only [errOK, allowed0, Bool.or_eq_true] at h; rcases h with h | h <;> simp [h]
  | nilCancel | user k => exact Or.inr (Or.inr (anyScript_mono (fun l => hasCancel_of_contains) h))

theorem errOK_allowed {c : Cfg} {e : Err} (h : errOK c e) : allowed0 c (.err e) = true := by
  cases e <;> first | exact h | rfl

end GoZero.C10
