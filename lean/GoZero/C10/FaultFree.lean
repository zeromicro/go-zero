/-
C10 — the fault-free case ("nothing is cancelled"): `faultFree c` unpacked (`FFacts`), what `Inv` excludes then (`XS`,
`xs_of`), and what is left of the returned-error table (`allowed0_faultFree`); with `Inv.ex` these give
`Props.faultfree_result`.
-/
import GoZero.C10.NoCancel
namespace GoZero.C10

/-- `faultFree c` unpacked. -/
structure FFacts (c : Cfg) : Prop where
  ctxCan : c.ctxCan = false
  ctxPre : c.ctxPre = false
  gen : genPanics c = false
  mcancel : ∀ i, i < c.n → hasCancel (c.mscript i) = false
  rcancel : hasCancel c.rscript = false
  mpanic : ∀ i, i < c.n → hasPanic (c.mscript i) = false
  rpanic : hasPanic c.rscript = false

theorem ffacts_of {c : Cfg} (h : faultFree c = true) : FFacts c := by
  simp only [faultFree, anyScript, anyMapper, Bool.and_eq_true, Bool.not_eq_true', Bool.or_eq_false_iff,
    List.any_eq_false, List.mem_range] at h
  obtain ⟨⟨⟨⟨h1, h2⟩, h3⟩, h4, h5⟩, h6, h7⟩ := h
  exact ⟨h1, h2, h3, fun i hi => by simpa using h4 i hi, h5, fun i hi => by simpa using h6 i hi, h7⟩

/-- what the returned-error invariant excludes when nothing can be cancelled: the complete list, clause by clause,
whether or not a proof reads each of them. -/
structure XS (s : St) : Prop where
  retErr : s.retErr = none
  once : s.once = 0
  ctxDone : s.ctxDone = false
  gpc1 : s.gpc ≠ .pwrite
  gpc2 : s.gpc ≠ .psend
  mp1 : ∀ i, s.mp i ≠ .recovered ∧ s.mp i ≠ .pwrite ∧ s.mp i ≠ .psend
  mp2 : ∀ i sc, s.mp i ≠ .cdrain sc
  mp3 : ∀ i e sc, s.mp i ≠ .run (.cancel e :: sc)
  mp4 : ∀ i sc, s.mp i ≠ .run (.panic :: sc)
  rpc1 : ∀ sc, s.rpc ≠ .cdrain sc
  rpc2 : ∀ e sc, s.rpc ≠ .run (.cancel e :: sc)
  rpc3 : ∀ sc, s.rpc ≠ .run (.panic :: sc)
  cpc1 : s.cpc ≠ .cancelEnter
  cpc2 : s.cpc ≠ .cdrain
  finr : s.fin = true → s.rpc = .done

theorem xs_of {c : Cfg} {s : St} (F : FFacts c) (I : Inv c s) : XS s := by
  obtain ⟨hret, honce, hctx, hg1, hg2, hfinr⟩ := xn_of ⟨F.ctxCan, F.ctxPre, F.mcancel, F.rcancel⟩ F.gen I
  have hmc : ∀ i e sc, s.mp i ≠ .run (.cancel e :: sc) := by
    intro i e sc h
    have := hasCancel_of_suffix (I.msuf i (.cancel e :: sc) (by simp [h, mRem]))
    simp [F.mcancel i (I.mlt i (by simp [h]))] at this
  have hmp : ∀ i sc, s.mp i ≠ .run (.panic :: sc) := by
    intro i sc h
    have := hasPanic_of_suffix (I.msuf i (.panic :: sc) (by simp [h, mRem]))
    simp [F.mpanic i (I.mlt i (by simp [h]))] at this
  refine ⟨hret, honce, hctx, hg1, hg2, ?_, ?_, hmc, hmp, ?_, ?_, ?_, ?_, ?_, hfinr⟩
  · intro i
    have key : ∀ x, s.mp i = x → (x = .recovered ∨ x = .pwrite ∨ x = .psend) → False := by
      intro x hx hor
      have hi := I.mlt i (by rcases hor with h | h | h <;> simp [hx, h])
      have := I.mpan i (by rw [hx]; exact hor)
      simp [F.mpanic i hi] at this
    exact ⟨fun h => key _ h (Or.inl rfl), fun h => key _ h (Or.inr (Or.inl rfl)), fun h => key _ h (Or.inr (Or.inr rfl))⟩
  · intro i sc h; exact I.mcd i sc h honce
  · intro sc h; exact I.rcd sc h honce
  · intro e sc h
    have := hasCancel_of_suffix (I.rsuf (.cancel e :: sc) (by simp [h, rRem]))
    simp [F.rcancel] at this
  · intro sc h
    have := hasPanic_of_suffix (I.rsuf (.panic :: sc) (by simp [h, rRem]))
    simp [F.rpanic] at this
  · intro h; rcases I.cce (Or.inl h) with h1 | h1 <;> simp [F.ctxCan, F.ctxPre] at h1
  · intro h; exact I.ccd h honce

theorem list_of_head_len {l : List Nat} {v : Nat} (h : l.head? = some v) (hl : l.length = 1) : l = [v] := by
  cases l with
  | nil => simp at hl
  | cons a t =>
    cases t with
    | nil => simp at h; simp [h]
    | cons b t => simp at hl

/-- nothing cancelled: of the table only the three expected outcomes are left. -/
theorem allowed0_faultFree {c : Cfg} (F : FFacts c) {r : Res} (h : allowed0 c r = true) :
    (∃ v, r = .val v) ∨ r = .err .noOutput ∨ (r = .panic .multi ∧ 2 ≤ (writesOf c.rscript).length) := by
  have hc : anyScript c hasCancel = false := by
    simp only [anyScript, anyMapper, Bool.or_eq_false_iff, List.any_eq_false, List.mem_range]
    exact ⟨fun i hi => by simp [F.mcancel i hi], F.rcancel⟩
  have hcc : ∀ e, anyScript c (·.contains (.cancel e)) = false := fun e =>
    Bool.eq_false_iff.mpr fun x => by simp [anyScript_mono (fun l => hasCancel_of_contains) x] at hc
  rcases r with v | e | p
  · exact Or.inl ⟨v, rfl⟩
  · cases e <;> simp_all [allowed0, F.ctxCan, F.ctxPre]
  · cases p <;> simp_all [allowed0, F.gen, F.rpanic, F.ctxCan, F.ctxPre]
    next i => simp [F.mpanic i h.1] at h

end GoZero.C10
