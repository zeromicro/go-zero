/-
C10 — the refined returned-error table (the value is the reducer's first write,
ErrReduceNoOutput needs an empty/droppable/panicking reducer) and the ghost snapshots behind the
schedule-aware table (`Spec.allowedAt`): `InvD`; and `ExAt` (a value in the caller's hand = exactly one write used up,
while no cancel has begun), kept the same way (`ex_step`).
-/
import GoZero.C10.Inv
import GoZero.C10.Effects
namespace GoZero.C10

def isValRes (r : Res) (v : Nat) : Prop := r = .val v

theorem snapOnce_ne_none (o : Option Bool) (b : Bool) : snapOnce o b ≠ none := by cases o <;> simp [snapOnce]

theorem snapOnce_none (b : Bool) : snapOnce none b = some b := rfl

theorem snapOnce_eq_some {o : Option Bool} {b x : Bool} : snapOnce o b = some x ↔ o = some x ∨ (o = none ∧ b = x) := by
  cases o <;> simp [snapOnce]

theorem optBool_cases (o : Option Bool) : o = none ∨ o = some true ∨ o = some false := by
  rcases o with _ | _ | _ <;> simp

theorem Taken.mono {c : Cfg} {s s' : St} {r : Res} (I : Taken c s r) (m : Mono s s') : Taken c s' r := by
  unfold Taken at *
  split <;> simp_all [m.wsnap, m.esnap]

theorem TakenAt.mono {c : Cfg} {s s' : St} {p : CPc} (I : TakenAt c s p) (m : Mono s s') : TakenAt c s' p := by
  cases p <;> first | exact trivial | exact Taken.mono I m

/-- a step of another thread keeps it: the caller may leave its select, an error may be recorded, the context may end,
`finish` may happen. -/
theorem RedAt.mono {c : Cfg} {s s' : St} {p : RPc} (I : RedAt c s p) (m : Mono s s') (hw : s'.wSnap = s.wSnap)
    (he : s'.eSnap = s.eSnap) : RedAt c s' p := by
  have m1 := m.sel; have m2 := m.ctx; have m3 := m.fin; have m4 := m.ret
  clear m
  cases p <;> simp only [RedAt, hw, he] at I ⊢ <;> grind

theorem invD_init (c : Cfg) : InvD c (init c) := by
  constructor <;> simp [init, TakenAt, RedAt]

theorem invD_step {c : Cfg} {s s' : St} (a : Actor) (IC : InvC c s) (I : InvD c s) (h : step c s a = some s') : InvD c s' := by
  have m := step_mono h
  obtain ⟨tk, w1, n1', red⟩ := I
  have hret : s.retErr ≠ some .noOutput := fun he => IC.ret _ he
  have hfinw := IC.finw
  have honce1 := IC.once1
  by_cases ha : a = .red
  · -- the reducer's own rows: the assertion of the position it moves to, and the outcome it hands to the caller
    subst ha
    have hlen : ∀ l, rRem s.rpc = some l → (writesOf l).length ≤ (writesOf c.rscript).length :=
      fun l hl => writesOf_suffix_le (IC.rsuf l hl)
    have hpan : ∀ sc, s.rpc = .run (.panic :: sc) → hasPanic c.rscript = true :=
      fun sc hsc => hasPanic_of_suffix (IC.rsuf (.panic :: sc) (by simp [hsc, rRem]))
    clear IC
    cases step_leaf h
    all_goals refine ⟨?_, ?_, ?_, ?_⟩
    all_goals first
      | exact tk.mono m
      | exact fun x => (w1 x).imp m.ret m.ctx
      | exact fun x => m.ret (n1' x)
      | exact trivial
      | (rw [‹s.rpc = _›] at red; simp only [RedAt, TakenAt, Taken, snapOnce_eq_some] at red ⊢
         grind [writesOf, rRem, snapOnce_ne_none, snapOnce_none])
  · -- every other step leaves the reducer and its snapshots alone; the caller's rows move the outcome it holds
    obtain ⟨hr, hw, he⟩ := red_owns h ha
    have hctx := IC.ctx
    clear IC
    refine ⟨?_, ?_, ?_, hr ▸ red.mono m hw he⟩
    · cases step_leaf h
      all_goals first
        | exact tk.mono m
        | exact absurd rfl ha
        | exact trivial
        | (rw [‹s.cpc = _›] at tk; exact tk.mono m)
        | -- the caller takes the closed output: without a recorded error the reducer goroutine has ended
          (have hfin := ‹s.cpc = .sel ∧ s.fin = true›
           cases he : s.retErr with
           | some e => simp only [TakenAt, outRes, he]; cases e <;> first | exact trivial | exact absurd he hret
           | none =>
             have hd : s.rpc = .done := (hfinw hfin.2).resolve_left fun h2 => honce1 (by omega) he
             have := optBool_cases s.eSnap
             rw [hd] at red; simp only [RedAt] at red; simp only [TakenAt, outRes, he, Taken]; grind)
    · rw [hw]; exact fun x => (w1 x).imp m.ret m.ctx
    · rw [he]; exact fun x => m.ret (n1' x)

theorem ExRes.mono {c : Cfg} {s s' : St} {r : Res} (I : ExRes c s r) (m : Mono s s') (hr : rW s'.rpc = rW s.rpc) :
    ExRes c s' r := by
  cases r <;> first | exact trivial | skip
  intro h0 hx hp
  rw [hr]
  exact I (Decidable.of_not_not fun x => m.once x h0) (Bool.eq_false_iff.mpr fun x => by simp [m.ctx x] at hx) hp

theorem ExAt.mono {c : Cfg} {s s' : St} {p : CPc} (I : ExAt c s p) (m : Mono s s') (hr : rW s'.rpc = rW s.rpc) :
    ExAt c s' p := by
  cases p <;> first | exact trivial | exact ExRes.mono I m hr

/-- a row of the reducer on which the guards cannot all hold afterwards. -/
theorem ExAt.vacuous {c : Cfg} {s' : St} {p : CPc}
    (hx : s'.once = 0 → s'.ctxDone = false → hasPanic c.rscript = false → False) : ExAt c s' p := by
  cases p <;> first | exact trivial | skip
  all_goals (rename_i r; cases r <;> first | exact trivial | exact fun a b d => (hx a b d).elim)

theorem ex_step {c : Cfg} {s s' : St} (a : Actor) (IC : InvC c s) (ID : InvD c s) (I : ExAt c s s.cpc)
    (h : step c s a = some s') : ExAt c s' s'.cpc := by
  have m := step_mono h
  by_cases ha : a = .red
  · subst ha
    have hv1s := ID.v1s
    -- with no cancel begun, `finish` has happened only when the reducer goroutine has ended
    have hfin : s.once = 0 → s.fin = true → s.rpc = .done := fun h0 hf => (IC.finw hf).resolve_left (by omega)
    have hpan : ∀ sc, s.rpc = .run (.panic :: sc) → hasPanic c.rscript = true :=
      fun sc hsc => hasPanic_of_suffix (IC.rsuf (.panic :: sc) (by simp [hsc, rRem]))
    clear IC ID
    cases step_leaf h
    -- a write is skipped only with the context over or after `finish`; a panic needs one in the script
    case rWriteSkip hpc hg | rSendClosed hpc hg =>
      exact .vacuous fun h0 hx _ => by simp_all
    case rPanic sc hpc => exact .vacuous fun _ _ hp => by simp [hpan sc hpc] at hp
    case rCancel | rCdrainClosed => exact .vacuous fun h0 _ _ => by simp at h0
    -- the value the caller takes is the first write
    case rSendVal v sc hpc _ hc _ =>
      intro _ _ _
      simp [rW, rRem, hv1s hc v sc hpc]
    case rSendErr | rSendSecond => exact trivial
    case rSendDropped hc => rw [show _ = CPc.drainOut _ from hc]; exact trivial
    case rSendCaller => exact trivial
    all_goals exact I.mono m (by simp [rW, rRem, writesOf, *])
  · have hr := (red_owns h ha).1
    cases step_leaf h
    case cOut => show ExRes c _ (outRes s); unfold outRes; split <;> exact trivial
    all_goals first
      | exact absurd rfl ha
      | exact trivial
      | exact I.mono m (congrArg rW hr)
      | (rw [‹s.cpc = _›] at I; exact ExRes.mono I m (congrArg rW hr))

end GoZero.C10
