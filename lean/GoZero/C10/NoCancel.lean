/-
C10 — "a user panic is re-raised": a call that returns without panicking, while no cancel has begun and the
context is live, has left nobody behind who could capture a panic (`Calm`, `Settled`): one argument for one
`step` (`Settled.step`), carried over `Reach` here (`settled_reach`: the generator must not panic, because of
`Props.generator_panic_can_be_lost`, a race of the two-step `onceChan.write`) and over `ReachA` in `AtomicWrite`.

Also: what "nobody cancels" excludes (`NC`, `xm_of`, `xn_of`) and the quiet configuration after `finish`
(`quiet_of_fin`).
-/
import GoZero.C10.InvReach
namespace GoZero.C10

/-- nobody cancels and the context cannot end (user panics — also of the generator — are possible). -/
structure NC (c : Cfg) : Prop where
  ctxCan : c.ctxCan = false
  ctxPre : c.ctxPre = false
  mcancel : ∀ i, i < c.n → hasCancel (c.mscript i) = false
  rcancel : hasCancel c.rscript = false

theorem nc_of {c : Cfg} (h : noCancel c = true) : NC c := by
  simp only [noCancel, anyScript, anyMapper, Bool.and_eq_true, Bool.not_eq_true', Bool.or_eq_false_iff,
    List.any_eq_false, List.mem_range] at h
  obtain ⟨⟨h1, h2⟩, h4, h5⟩ := h
  exact ⟨h1, h2, fun i hi => by simpa using h4 i hi, h5⟩

/-- what `InvC` excludes when nobody cancels. -/
structure XM (s : St) : Prop where
  retErr : s.retErr = none
  once : s.once = 0
  ctxDone : s.ctxDone = false
  finr : s.fin = true → s.rpc = .done

theorem xm_of {c : Cfg} {s : St} (F : NC c) (I : Inv c s) : XM s := by
  have hret : s.retErr = none := by
    cases h : s.retErr with
    | none => rfl
    | some e =>
      rcases errOK_faulty (I.ret e h) with h1 | h1 | h1
      · simp [F.ctxCan] at h1
      · simp [F.ctxPre] at h1
      · exfalso
        simp only [anyScript, anyMapper, Bool.or_eq_true, List.any_eq_true, List.mem_range] at h1
        rcases h1 with ⟨i, hi, h2⟩ | h2
        · simp [F.mcancel i hi] at h2
        · simp [F.rcancel] at h2
  have honce := I.once_zero hret
  refine ⟨hret, honce, I.ctx_false F.ctxCan F.ctxPre, ?_⟩
  intro h
  rcases I.finw h with h2 | h2
  · omega
  · exact h2

/-- `XM`, and the generator does not stand in `onceChan.write` (it does not panic). -/
structure XN (s : St) : Prop where
  retErr : s.retErr = none
  once : s.once = 0
  ctxDone : s.ctxDone = false
  gpc1 : s.gpc ≠ .pwrite
  gpc2 : s.gpc ≠ .psend
  finr : s.fin = true → s.rpc = .done

theorem xn_of {c : Cfg} {s : St} (F : NC c) (hg : genPanics c = false) (I : Inv c s) : XN s := by
  obtain ⟨hret, honce, hctx, hfinr⟩ := xm_of F I
  have hgp : ¬ genPanics c = true := by simp [hg]
  exact ⟨hret, honce, hctx, fun h => hgp (I.gp (Or.inl h)), fun h => hgp (I.gp (Or.inr h)), hfinr⟩

/-- once `finish` has happened while no cancel has begun: the reducer goroutine has ended, no mapper goroutine
is in the wait group any more, the dispatcher is past `close(collector)`. -/
theorem quiet_of_fin {c : Cfg} {s : St} (I : Inv c s) (h0 : s.once = 0)
    (hf : s.fin = true) : s.rpc = .done ∧ (∀ i, inWg (s.mp i) = false) ∧ dAfter s.dpc = true := by
  have hr : s.rpc = .done := by
    rcases I.finw hf with h2 | h2
    · omega
    · exact h2
  have hda := (I.collc (I.r1 (by simp [hr, rAfterDrain])).1).1
  refine ⟨hr, fun i => ?_, hda⟩
  have hwg : s.wg = 0 := I.dafter hda
  by_cases hi : i < c.n
  · have := cnt_ge inWg s.mp c.n i hi
    rw [← I.wgc, hwg] at this
    cases hx : inWg (s.mp i) <;> simp [hx, b2n] at this ⊢
  · simp [I.idle i (by have := I.gle; omega), inWg]

def resIsPanic : Res → Bool
  | .panic _ => true
  | _ => false

theorem atPsend_cases {s : St} {a : Actor} (h : atPsend s a = true) :
    s.gpc = .psend ∨ (∃ i, s.mp i = .psend) ∨ rIsPsend s.rpc = true := by
  cases a <;> simp only [atPsend, decide_eq_true_eq, reduceCtorEq] at h
  · exact Or.inl h
  · exact Or.inr (Or.inl ⟨_, h⟩)
  · exact Or.inr (Or.inr (by cases hr : s.rpc <;> simp_all [rIsPsend]))

/-- the caller comes to a normal return only from its check with the buffer empty (repaired code). -/
theorem done_from {c : Cfg} {s s' : St} {a : Actor} {r : Res} (hfx : c.fixed = true) (h : step c s a = some s')
    (hc : s'.cpc = .done r) (hnp : resIsPanic r = false) :
    s.cpc = .done r ∨ (a = .caller ∧ s.cpc = .check r ∧ s.pbuf = none) := by
  cases step_leaf h <;> first
    | exact Or.inl hc
    | (cases hc; done)
    | (cases hc; first | cases hnp | exact Or.inr ⟨rfl, ‹_›, ‹_›⟩ | exact absurd hfx ‹_›)

/-- nobody is left who could still capture a panic: `finish` has happened (so, with no cancel begun, the reducer goroutine has
ended and no mapper goroutine is in the wait group), no panic has been captured, no mapper has panicked, the generator has
ended. -/
structure Calm (s : St) : Prop where
  fin : s.fin = true
  wrote : s.wrote = false
  failed : s.failed = 0
  gdone : s.gpc = .done

/-- it stays so: whoever could still call `onceChan.write` has ended. -/
theorem Calm.step {c : Cfg} {s s' : St} {a : Actor} (C : Calm s) (I : Inv c s) (I' : Inv c s') (h0 : s.once = 0)
    (h0' : s'.once = 0) (h : step c s a = some s') : Calm s' := by
  have m := step_mono h
  obtain ⟨hrd, hq, -⟩ := quiet_of_fin I h0 C.fin
  obtain ⟨hrd', hq', -⟩ := quiet_of_fin I' h0' (m.fin C.fin)
  refine ⟨m.fin C.fin, ?_, ?_, m.gdone C.gdone⟩
  · cases step_onceChan h with
    | idle hw _ _ _ _ | taken hw _ _ _ _ => exact hw ▸ C.wrote
    | sent ha _ _ _ _ => rw [(I.p1 C.wrote).2 a] at ha; cases ha
    | won _ _ _ _ ha' =>
      rcases atPsend_cases ha' with hg | ⟨i, hi⟩ | hr
      · rw [m.gdone C.gdone] at hg; cases hg
      · have := hq' i; simp [hi, inWg] at this
      · simp [hrd', rIsPsend] at hr
  · rcases (step_writes h).failed with e | ⟨i, hi⟩
    · exact e ▸ C.failed
    · have := hq i; simp [hi, inWg] at this

/-- a call that has returned without a panic, while no cancel has begun and the context is live, has left nobody behind who
could capture one. -/
def Settled (s : St) : Prop := ∀ r, s.cpc = .done r → resIsPanic r = false → s.once = 0 → s.ctxDone = false → Calm s

/-- the caller passes its check with an empty buffer only if no panic has been captured (`entry`: by `OnceChanInv.filled`
when the generator does not panic, by `J` for the atomic write); from then on `Calm.step`. -/
theorem Settled.step {c : Cfg} {s s' : St} {a : Actor} (K : Settled s) (hfx : c.fixed = true) (I : Inv c s)
    (I' : Inv c s') (entry : ∀ r, a = .caller → s.cpc = .check r → s.pbuf = none → s.once = 0 → s.wrote = false)
    (h : step c s a = some s') : Settled s' := by
  intro r hc hnp h0' hx'
  have m := step_mono h
  have h0 : s.once = 0 := Decidable.of_not_not fun x => m.once x h0'
  have hx : s.ctxDone = false := Bool.eq_false_iff.mpr fun x => by simp [m.ctx x] at hx'
  refine Calm.step ?_ I I' h0 h0' h
  rcases done_from hfx h hc hnp with e | ⟨ha, h1, hb⟩
  · exact K r e hnp h0 hx
  · have hf := I.c1 _ h1
    have hw := entry _ ha h1 hb h0
    obtain ⟨-, hq, hda⟩ := quiet_of_fin I h0 hf
    have hf0 : s.failed = 0 := Decidable.byContradiction fun hne => by
      simpa [hw] using I.toInvG2.wrote_of_quiet hq hne
    have hdl : dLeft s.dpc = true := by cases hm : s.dpc <;> simp [hm, dAfter, dLeft] at hda ⊢
    exact ⟨hf, hw, hf0, I.f1 (((noDrop_of I hx h0).1 hdl).resolve_left fun x => x hf0)⟩

/-- over `Reach` (the two-step `onceChan.write`), where `entry` needs a generator that does not panic
(`Props.generator_panic_can_be_lost`). -/
theorem settled_reach {c : Cfg} (hg : genPanics c = false) (hfx : c.fixed = true) {s : St} (h : Reach c s) : Settled s := by
  induction h with
  | init => intro r hc; cases hc
  | step a hr hs ih =>
    have I := inv_reach hr
    refine ih.step hfx I (inv_reach (hr.step a hs)) (fun r _ hc hb h0 => ?_) hs
    -- a set flag with the buffer empty: the value was taken, or its winner stands at the send: not after `finish`
    obtain ⟨hrd, hq, -⟩ := quiet_of_fin I h0 (I.c1 r hc)
    refine Bool.eq_false_iff.mpr fun hw => ?_
    rcases I.filled hfx hw with x | x | ⟨b, hb'⟩
    · exact x hb
    · have := I.k2 x; simp [hc, cPan] at this
    · rcases atPsend_cases hb' with hg' | ⟨i, hi⟩ | hr'
      · simp [I.gp (Or.inr hg')] at hg
      · have := hq i; simp [hi, inWg] at this
      · simp [hrd, rIsPsend] at hr'

end GoZero.C10
