/-
C10 — deadlock freedom of the repaired code: in every reachable configuration in which the caller has not returned or
a goroutine of the call is still alive, some actor can take a step.
 * no bound on the number of reducer writes: a stuck configuration is final, OR the reducer is blocked in a Write that
   is at least its third (the caller has left with the library's panic "more than one element written in reducer");
 * the caller's context case is not needed for progress: the lemma only asks the OTHER actors to be stuck — this is
   what makes `ForEach` (whose caller has no context case) with a context an instance of the core.
-/
import GoZero.C10.InvReach
namespace GoZero.C10

/-! ### what a blocked thread looks like

While the source is ready (`srcRecv c s ≠ none`) no receive from it blocks: neither the dispatcher's nor a drain. -/

theorem gen_blocked {c : Cfg} {s : St} (h : stepGen c s = none) :
    (s.gpc = .run ∧ genSending c s = true) ∨ (s.gpc = .psend ∧ panicSend c s .gen = none) ∨ s.gpc = .done := by
  unfold stepGen at h
  split at h
  · split at h
    · simp at h
    · split at h
      · simp at h
      · left; simp_all [genSending]
  · split at h <;> simp at h
  · right; left; simp_all
  · simp at h
  · right; right; assumption

theorem disp_blocked {c : Cfg} {s : St} (hs : srcRecv c s ≠ none) (h : stepDisp c s = none) :
    (s.dpc = .sel ∧ c.workers ≤ s.pool) ∨ (s.dpc = .wait ∧ s.wg ≠ 0) ∨ s.dpc = .done := by
  unfold stepDisp at h
  repeat' split at h
  all_goals (try (simp at h))
  all_goals simp_all
  all_goals omega

theorem mapper_blocked {c : Cfg} {s : St} {i : Nat} (hs : srcRecv c s ≠ none) (h : stepMapper c s i = none) :
    s.mp i = .idle ∨ s.mp i = .done ∨ s.mp i = .crash ∨
    (∃ e sc, s.mp i = .run (.cancel e :: sc) ∧ s.once = 1) ∨
    (∃ v sc, s.mp i = .send v sc ∧ s.collClosed = false ∧ c.workers ≤ s.collQ.length) ∨
    (s.mp i = .psend ∧ panicSend c s (.mapper i) = none) := by
  unfold stepMapper at h
  repeat' split at h
  all_goals (try (simp at h))
  all_goals simp_all
  all_goals omega

theorem red_blocked {c : Cfg} {s : St} (hs : srcRecv c s ≠ none) (h : stepRed c s = none) :
    s.rpc = .done ∨
    (∃ e sc, s.rpc = .run (.cancel e :: sc) ∧ s.once = 1) ∨
    ((∃ sc, s.rpc = .run (.readOne :: sc) ∨ s.rpc = .run (.readAll :: sc)) ∧ s.collQ = [] ∧ s.collClosed = false) ∨
    (∃ p, s.rpc = .drain p ∧ s.collQ = [] ∧ s.collClosed = false) ∨
    (∃ v sc, s.rpc = .send v sc ∧ s.fin = false ∧
       (s.cpc = .cancelEnter ∨ s.cpc = .cdrain ∨ (∃ r, s.cpc = .check r) ∨ (∃ r, s.cpc = .done r))) ∨
    (∃ p, s.rpc = .psend p ∧ panicSend c s p = none) := by
  unfold stepRed at h
  repeat' split at h
  all_goals (try (simp at h))
  all_goals simp_all
  -- what remains: the send with the caller neither at its select, nor draining, nor in its deferred loop
  all_goals (cases hc : s.cpc <;> simp_all)

theorem caller_blocked {c : Cfg} {s : St} (hs : srcRecv c s ≠ none) (h : stepCaller c s = none) :
    s.cpc = .sel ∨ (∃ r, s.cpc = .done r) ∨ (s.cpc = .cancelEnter ∧ s.once = 1) ∨ ((∃ p, s.cpc = .drainOut p) ∧ s.fin = false) ∨
    ((∃ r, s.cpc = .defer r) ∧ s.fin = false) := by
  unfold stepCaller at h
  repeat' split at h
  all_goals (try (simp at h))
  all_goals simp_all

theorem alive_zero_of {c : Cfg} {s : St} (hg : s.gpc = .done) (hd : s.dpc = .done) (hr : s.rpc = .done)
    (hm : ∀ i, s.mp i = .idle ∨ s.mp i = .done) : aliveCount c s = 0 := by
  have : (List.filter (fun i => decide (s.mp i ≠ MPc.idle ∧ s.mp i ≠ MPc.done)) (List.range c.n)) = [] := by
    rw [List.filter_eq_nil_iff]
    intro i _
    rcases hm i with h | h <;> simp [h]
  unfold aliveCount
  rw [this]
  simp [hg, hd, hr]

theorem panicSend_fixed {c : Cfg} {s : St} {v : PVal} (hf : c.fixed = true) (hp : s.pbuf = none) :
    panicSend c s v ≠ none := by
  simp [panicSend, hf, hp]


/-- the reducer stands in a `Write` on `output` that nobody will ever take: the caller has returned with the
"more than one element" panic, the output is not closed, and this is at least the third write of the script. -/
def blockedInLateWrite (c : Cfg) (s : St) : Prop :=
  ∃ v sc, s.rpc = .send v sc ∧ s.cpc = .done (.panic .multi) ∧ s.fin = false ∧
    rW s.rpc + 2 ≤ (writesOf c.rscript).length

/-- **Progress, general form.** -/
theorem stuck_core (c : Cfg) (hf : c.fixed = true) (hw : 1 ≤ c.workers) (s : St) (h : Reach c s)
    (hstuck : ∀ a, a ≠ .callerCtx → step c s a = none) :
    (result s ≠ none ∧ aliveCount c s = 0) ∨ blockedInLateWrite c s := by
  have I := inv_reach h
  -- the source is ready for every receiver: the generator stands at its send, or has closed it
  have hsrc : srcRecv c s ≠ none := by
    have hg := gen_blocked (c := c) (s := s) (by simpa [step] using hstuck .gen (by simp))
    rcases hg with ⟨_, hs⟩ | ⟨hp, hn⟩ | hd
    · simp [srcRecv, hs]
    · exact absurd hn (panicSend_fixed hf (I.one .gen (by simp [atPsend, hp])).1)
    · have := I.g1 hd
      simp [srcRecv, genSending, hd, this]
  have hm := fun i => mapper_blocked (i := i) hsrc (by simpa [step] using hstuck (.mapper i) (by simp))
  have hred := red_blocked hsrc (by simpa [step] using hstuck .red (by simp))
  have hcal := caller_blocked hsrc (by simpa [step] using hstuck .caller (by simp))
  have hdi := disp_blocked hsrc (by simpa [step] using hstuck .disp (by simp))
  -- nobody waits inside cancel's sync.Once: its runner could drain
  have honce : s.once ≠ 1 := by
    intro h1
    have hby := I.o1a h1
    cases hb : s.onceBy with
    | none => exact hby hb
    | some x =>
      cases x with
      | mapper i =>
        have hc := I.o1m i h1 hb
        rcases hm i with h | h | h | ⟨e, sc, h, _⟩ | ⟨v, sc, h, _⟩ | ⟨h, _⟩
        all_goals (rw [h] at hc; simp [mIsCdrain] at hc)
      | reducer =>
        have hc := I.o1r h1 hb
        rcases hred with h | ⟨e, sc, h, _⟩ | ⟨⟨sc, h | h⟩, _⟩ | ⟨p, h, _⟩ | ⟨v, sc, h, _⟩ | ⟨p, h, _⟩
        all_goals (rw [h] at hc; simp [rIsCdrain] at hc)
      | caller =>
        have hc := I.o1c h1 hb
        rcases hcal with h | ⟨r, h⟩ | ⟨h, _⟩ | ⟨⟨p, h⟩, _⟩ | ⟨⟨r, h⟩, _⟩
        all_goals (rw [h] at hc; simp at hc)
  -- a mapper goroutine is idle, ended, or blocked writing to a full open collector: not the last when the collector is
  -- empty or closed
  have hquiet : s.collQ = [] ∨ s.collClosed = true → ∀ i, s.mp i = .idle ∨ s.mp i = .done := by
    intro hc i
    rcases hm i with h | h | h | ⟨e, sc, _, h1⟩ | ⟨v, sc, _, hcl, hfull⟩ | ⟨hp, hn⟩
    · exact Or.inl h
    · exact Or.inr h
    · exact absurd h (I.nocrash i)
    · exact absurd h1 honce
    · rcases hc with hq | hc
      · rw [hq] at hfull; simp at hfull; omega
      · rw [hc] at hcl; simp at hcl
    · exact absurd hn (panicSend_fixed hf (I.one (.mapper i) (by simp [atPsend, hp])).1)
  -- if no mapper goroutine is in the wait group / the pool, the dispatcher has ended
  have hdone_of_quiet : (∀ i, s.mp i = .idle ∨ s.mp i = .done) → s.dpc = .done := by
    intro hq
    have hwg : s.wg = 0 := by
      rw [I.wgc]; exact cnt_zero_of _ _ _ (fun i _ => by rcases hq i with h | h <;> simp [h, inWg])
    have hpool : cnt inPool s.mp c.n = 0 :=
      cnt_zero_of _ _ _ (fun i _ => by rcases hq i with h | h <;> simp [h, inPool])
    rcases hdi with ⟨hd, hp⟩ | ⟨_, hn⟩ | hd
    · have := I.poolc
      rw [hpool, hd] at this
      simp [dHolds, b2n] at this
      omega
    · exact absurd hwg hn
    · exact hd
  -- the reducer goroutine cannot wait on an empty open collector: nobody would be left to close it
  have hempty : s.collQ = [] → s.collClosed = false → False := by
    intro hq hcl
    have := I.d1 (Or.inr (hdone_of_quiet (hquiet (Or.inl hq))))
    rw [hcl] at this; simp at this
  rcases hred with hrd | ⟨e, sc, _, h1⟩ | ⟨_, hq, hcl⟩ | ⟨p, _, hq, hcl⟩ | ⟨v, sc, hrs, hfin, hc⟩ | ⟨p, hp, hn⟩
  · -- the reducer goroutine has ended: everything has
    have hfin := I.r2 hrd
    have hcq := I.r1 (by simp [hrd, rAfterDrain])
    have hq := hquiet (Or.inr hcq.1)
    have hdd := hdone_of_quiet hq
    have hgd : s.gpc = .done := I.f1 (I.d2 hdd)
    refine Or.inl ⟨?_, alive_zero_of hgd hdd hrd hq⟩
    rcases hcal with hc | ⟨r, hc⟩ | ⟨_, h1⟩ | ⟨_, hnf⟩ | ⟨_, hnf⟩
    · have := hstuck .callerOut (by simp)
      simp [step, hc, hfin] at this
    · simp [result, hc]
    · exact absurd h1 honce
    · rw [hfin] at hnf; simp at hnf
    · rw [hfin] at hnf; simp at hnf
  · exact absurd h1 honce
  · exact (hempty hq hcl).elim
  · exact (hempty hq hcl).elim
  · -- the reducer waits to hand over a value: the caller is always able to take it or has closed the output
    rcases hc with hc | hc | ⟨r, hc⟩ | ⟨r, hc⟩
    · exfalso
      rcases hcal with h | ⟨r, h⟩ | ⟨_, h1⟩ | ⟨⟨p, h⟩, _⟩ | ⟨⟨r, h⟩, _⟩
      all_goals (first | exact absurd h1 honce | (rw [hc] at h; simp at h))
    · exfalso
      rcases hcal with h | ⟨r, h⟩ | ⟨h, _⟩ | ⟨⟨p, h⟩, _⟩ | ⟨⟨r, h⟩, _⟩
      all_goals (rw [hc] at h; simp at h)
    · exfalso
      have := I.c1 r hc
      rw [hfin] at this; simp at this
    · rcases I.c2 r hc with h2 | ⟨hr2, h2⟩
      · rw [hfin] at h2; simp at h2
      · exact Or.inr ⟨v, sc, hrs, by rw [hc, hr2], hfin, h2⟩
  · exact absurd hn (panicSend_fixed hf (I.one .red (by simp [atPsend, hp])).1)

theorem stuck_core_le2 (c : Cfg) (hf : c.fixed = true) (hw : 1 ≤ c.workers)
    (hr : (writesOf c.rscript).length ≤ 2) (s : St) (h : Reach c s)
    (hstuck : ∀ a, a ≠ .callerCtx → step c s a = none) : result s ≠ none ∧ aliveCount c s = 0 := by
  rcases stuck_core c hf hw s h hstuck with h1 | ⟨v, sc, hrs, _, _, h2⟩
  · exact h1
  · rw [hrs] at h2
    simp [rW, rRem, writesOf] at h2
    omega

/-- **Progress.**  A reachable configuration of the repaired code in which no actor can move is a final
one: the caller has returned and no goroutine of the call is alive. -/
theorem stuck_is_final (c : Cfg) (hf : c.fixed = true) (hw : 1 ≤ c.workers)
    (hr : (writesOf c.rscript).length ≤ 2) (s : St) (h : Reach c s)
    (hstuck : ∀ a, step c s a = none) : result s ≠ none ∧ aliveCount c s = 0 :=
  stuck_core_le2 c hf hw hr s h fun a _ => hstuck a

end GoZero.C10
