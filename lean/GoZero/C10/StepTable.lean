/-
C10 — the step relation as a table: one row per branch of `Model.step`, with the guard of the branch as hypotheses and
the successor state written out.  `step_leaf` finds the row of a step; a proof about all steps is one `cases` on it,
with the rows as named cases.  In front of the table: what `upd`, `srcRecv`, `result` and `panicSend` do.
-/
import GoZero.C10.Scripts
namespace GoZero.C10

theorem upd_same (f : Nat → MPc) (i : Nat) (x : MPc) : upd f i x i = x := by simp [upd]
theorem upd_other (f : Nat → MPc) (i j : Nat) (x : MPc) (h : j ≠ i) : upd f i x j = f j := by simp [upd, h]

theorem upd_keeps {β : Sort _} (f : MPc → β) {m : Nat → MPc} {i : Nat} {x : MPc} (h : f x = f (m i)) (j : Nat) :
    f (upd m i x j) = f (m j) := by
  unfold upd; split
  next e => rw [e, h]
  next => rfl

theorem upd_rel {P : MPc → MPc → Prop} {m : Nat → MPc} {i : Nat} {x : MPc} (hrefl : ∀ y, P y y) (hx : P (m i) x) (j : Nat) :
    P (m j) (upd m i x j) := by
  unfold upd; split
  next e => exact e ▸ hx
  next => exact hrefl _

/-- a property of the entries (which may mention the index) that holds of the new entry survives the update. -/
theorem upd_ind {P : Nat → MPc → Prop} {m : Nat → MPc} {i : Nat} {x : MPc} (hx : P i x) (h : ∀ j, P j (m j)) (j : Nat) :
    P j (upd m i x j) := by
  unfold upd; split
  next e => exact e ▸ hx
  next => exact h j

theorem srcRecv_item {c : Cfg} {s : St} {i : Nat} (h : srcRecv c s = some (some i)) :
    i = s.gNext ∧ s.gNext < c.n ∧ s.gpc = .run := by
  unfold srcRecv genSending at h
  split at h
  · simp_all
  · split at h <;> simp at h

theorem srcRecv_closed {c : Cfg} {s : St} (h : srcRecv c s = some none) : s.srcClosed = true := by
  unfold srcRecv at h
  split at h
  · simp at h
  · split at h <;> simp_all

theorem result_eq_some {s : St} {r : Res} : result s = some r ↔ s.cpc = .done r := by
  unfold result; split <;> simp_all

theorem panicSend_eq {c : Cfg} {s s' : St} {v : PVal} (h : panicSend c s v = some s') :
    (c.fixed = true ∧ s.pbuf = none ∧ s' = { s with pbuf := some v }) ∨
    (c.fixed = false ∧ s.cpc = .sel ∧ s' = { s with cpc := .drainOut v }) := by
  unfold panicSend at h
  split at h
  · split at h
    · simp at h; exact Or.inl ⟨by assumption, by assumption, h.symm⟩
    · simp at h
  · split at h
    · simp at h; exact Or.inr ⟨by simp_all, by assumption, h.symm⟩
    · simp at h

/-- case analysis over the branches of a step function (already unfolded in `h`): leaves one goal per
branch with `s'` replaced by the explicit successor state. -/
macro "leaves " h:ident : tactic => `(tactic| (
  repeat' split at $h:ident
  all_goals (try (simp only [Option.map_eq_some_iff] at $h:ident; obtain ⟨s1, h1, h2⟩ := $h:ident;
                  rcases panicSend_eq h1 with ⟨_, _, h3⟩ | ⟨_, _, h3⟩ <;> subst h3 <;> subst h2))
  all_goals (try (simp only [Option.some.injEq, reduceCtorEq] at $h:ident))
  all_goals (try subst $h:ident)))

inductive Leaf (c : Cfg) (s : St) : Actor → St → Prop
  | gPanic (hpc : s.gpc = .run) (hp : c.gPanicAt = some s.gNext) : Leaf c s .gen { s with gpc := .pwrite }
  | gEnd (hpc : s.gpc = .run) (hp : ¬ c.gPanicAt = some s.gNext) (hn : c.n ≤ s.gNext) : Leaf c s .gen { s with gpc := .close }
  | gLost (hpc : s.gpc = .pwrite) (hw : s.wrote = true) : Leaf c s .gen { s with gpc := .close }
  | gWon (hpc : s.gpc = .pwrite) (hw : ¬ s.wrote = true) :
      Leaf c s .gen { s with wrote := true, gpc := .psend, wroteBy := some .gen }
  | gSendBuf (hpc : s.gpc = .psend) (hf : c.fixed = true) (hb : s.pbuf = none) :
      Leaf c s .gen { s with pbuf := some .gen, gpc := .close }
  | gSendCaller (hpc : s.gpc = .psend) (hf : c.fixed = false) (hc : s.cpc = .sel) :
      Leaf c s .gen { s with cpc := .drainOut .gen, gpc := .close }
  | gClose (hpc : s.gpc = .close) : Leaf c s .gen { s with srcClosed := true, gpc := .done }
  | dCtx (h : s.dpc = .sel ∧ s.ctxDone = true) : Leaf c s .dispCtx { s with dpc := .wait }
  | dDone (h : s.dpc = .sel ∧ s.fin = true) : Leaf c s .dispDone { s with dpc := .wait }
  | dLoop (hpc : s.dpc = .loop) (hf : s.failed = 0) : Leaf c s .disp { s with dpc := .sel }
  | dFailed (hpc : s.dpc = .loop) (hf : ¬ s.failed = 0) : Leaf c s .disp { s with dpc := .wait }
  | dSel (hpc : s.dpc = .sel) (hp : s.pool < c.workers) : Leaf c s .disp { s with pool := s.pool + 1, dpc := .recv }
  | dRecv (i : Nat) (hpc : s.dpc = .recv) (hr : srcRecv c s = some (some i)) :
      Leaf c s .disp { s with gNext := s.gNext + 1, dpc := .spawn i }
  | dRecvClosed (hpc : s.dpc = .recv) (hr : srcRecv c s = some none) : Leaf c s .disp { s with dpc := .unpool }
  | dSpawn (i : Nat) (hpc : s.dpc = .spawn i) :
      Leaf c s .disp { s with wg := s.wg + 1, mp := upd s.mp i (.run (c.mscript i)), mapped := s.mapped ++ [i], dpc := .loop }
  | dUnpool (hpc : s.dpc = .unpool) : Leaf c s .disp { s with pool := s.pool - 1, dpc := .wait }
  | dWait (hpc : s.dpc = .wait) (hw : s.wg = 0) : Leaf c s .disp { s with dpc := .closeColl }
  | dCloseColl (hpc : s.dpc = .closeColl) : Leaf c s .disp { s with collClosed := true, dpc := .drain }
  | dDrain (i : Nat) (hpc : s.dpc = .drain) (hr : srcRecv c s = some (some i)) :
      Leaf c s .disp { s with gNext := s.gNext + 1, dropped := s.dropped ++ [i] }
  | dDrainClosed (hpc : s.dpc = .drain) (hr : srcRecv c s = some none) : Leaf c s .disp { s with dpc := .done }
  | mEnd (i : Nat) (hpc : s.mp i = .run []) : Leaf c s (.mapper i) { s with mp := upd s.mp i .wgdone }
  | mWriteSkip (i v sc) (hpc : s.mp i = .run (.write v :: sc)) (hg : (s.ctxDone || s.fin) = true) :
      Leaf c s (.mapper i) { s with mp := upd s.mp i (.run sc) }
  | mWrite (i v sc) (hpc : s.mp i = .run (.write v :: sc)) (hg : ¬ (s.ctxDone || s.fin) = true) :
      Leaf c s (.mapper i) { s with mp := upd s.mp i (.send v sc) }
  | mCancel (i e sc) (hpc : s.mp i = .run (.cancel e :: sc)) (ho : s.once = 0) :
      Leaf c s (.mapper i)
        { s with once := 1, retErr := some (cancelErr e), mp := upd s.mp i (.cdrain sc), onceBy := some (.mapper i) }
  | mCancelLate (i e sc) (hpc : s.mp i = .run (.cancel e :: sc)) (ho : ¬ s.once = 0) (ho1 : ¬ s.once = 1) :
      Leaf c s (.mapper i) { s with mp := upd s.mp i (.run sc) }
  | mPanic (i sc) (hpc : s.mp i = .run (.panic :: sc)) : Leaf c s (.mapper i) { s with mp := upd s.mp i .recovered }
  | mReadOne (i sc) (hpc : s.mp i = .run (.readOne :: sc)) : Leaf c s (.mapper i) { s with mp := upd s.mp i (.run sc) }
  | mReadAll (i sc) (hpc : s.mp i = .run (.readAll :: sc)) : Leaf c s (.mapper i) { s with mp := upd s.mp i (.run sc) }
  | mCrash (i v sc) (hpc : s.mp i = .send v sc) (hc : s.collClosed = true) :
      Leaf c s (.mapper i) { s with mp := upd s.mp i .crash }
  | mSend (i v sc) (hpc : s.mp i = .send v sc) (hc : ¬ s.collClosed = true) (hq : s.collQ.length < c.workers) :
      Leaf c s (.mapper i) { s with collQ := s.collQ ++ [v], sent := s.sent ++ [v], mp := upd s.mp i (.run sc) }
  | mDrain (i sc j) (hpc : s.mp i = .cdrain sc) (hr : srcRecv c s = some (some j)) :
      Leaf c s (.mapper i) { s with gNext := s.gNext + 1, dropped := s.dropped ++ [j] }
  | mDrainClosed (i sc) (hpc : s.mp i = .cdrain sc) (hr : srcRecv c s = some none) :
      Leaf c s (.mapper i) { s with fin := true, once := 2, mp := upd s.mp i (.run sc) }
  | mRecovered (i : Nat) (hpc : s.mp i = .recovered) :
      Leaf c s (.mapper i) { s with failed := s.failed + 1, mp := upd s.mp i .pwrite }
  | mLost (i : Nat) (hpc : s.mp i = .pwrite) (hw : s.wrote = true) : Leaf c s (.mapper i) { s with mp := upd s.mp i .wgdone }
  | mWon (i : Nat) (hpc : s.mp i = .pwrite) (hw : ¬ s.wrote = true) :
      Leaf c s (.mapper i) { s with wrote := true, mp := upd s.mp i .psend, wroteBy := some (.mapper i) }
  | mSendBuf (i : Nat) (hpc : s.mp i = .psend) (hf : c.fixed = true) (hb : s.pbuf = none) :
      Leaf c s (.mapper i) { s with pbuf := some (.mapper i), mp := upd s.mp i .wgdone }
  | mSendCaller (i : Nat) (hpc : s.mp i = .psend) (hf : c.fixed = false) (hc : s.cpc = .sel) :
      Leaf c s (.mapper i) { s with cpc := .drainOut (.mapper i), mp := upd s.mp i .wgdone }
  | mWgDone (i : Nat) (hpc : s.mp i = .wgdone) : Leaf c s (.mapper i) { s with wg := s.wg - 1, mp := upd s.mp i .unpool }
  | mUnpool (i : Nat) (hpc : s.mp i = .unpool) : Leaf c s (.mapper i) { s with pool := s.pool - 1, mp := upd s.mp i .done }
  | rEnd (hpc : s.rpc = .run []) : Leaf c s .red { s with rpc := .drain none, eSnap := snapOnce s.eSnap s.retErr.isSome }
  | rReadOne (sc v q) (hpc : s.rpc = .run (.readOne :: sc)) (hq : s.collQ = v :: q) :
      Leaf c s .red { s with collQ := q, reduced := s.reduced ++ [v], rpc := .run sc }
  | rReadOneClosed (sc) (hpc : s.rpc = .run (.readOne :: sc)) (hq : s.collQ = []) (hc : s.collClosed = true) :
      Leaf c s .red { s with rpc := .run sc }
  | rReadAll (sc v q) (hpc : s.rpc = .run (.readAll :: sc)) (hq : s.collQ = v :: q) :
      Leaf c s .red { s with collQ := q, reduced := s.reduced ++ [v] }
  | rReadAllClosed (sc) (hpc : s.rpc = .run (.readAll :: sc)) (hq : s.collQ = []) (hc : s.collClosed = true) :
      Leaf c s .red { s with rpc := .run sc }
  | rWriteSkip (v sc) (hpc : s.rpc = .run (.write v :: sc)) (hg : (s.ctxDone || s.fin) = true) :
      Leaf c s .red { s with rpc := .run sc, wSnap := snapOnce s.wSnap (s.retErr.isSome || s.ctxDone) }
  | rWrite (v sc) (hpc : s.rpc = .run (.write v :: sc)) (hg : ¬ (s.ctxDone || s.fin) = true) :
      Leaf c s .red { s with rpc := .send v sc, wSnap := snapOnce s.wSnap (s.retErr.isSome || s.ctxDone) }
  | rCancel (e sc) (hpc : s.rpc = .run (.cancel e :: sc)) (ho : s.once = 0) :
      Leaf c s .red { s with once := 1, retErr := some (cancelErr e), rpc := .cdrain sc, onceBy := some .reducer }
  | rCancelLate (e sc) (hpc : s.rpc = .run (.cancel e :: sc)) (ho : ¬ s.once = 0) (ho1 : ¬ s.once = 1) :
      Leaf c s .red { s with rpc := .run sc }
  | rPanic (sc) (hpc : s.rpc = .run (.panic :: sc)) :
      Leaf c s .red { s with rpc := .drain (some .reducer), eSnap := snapOnce s.eSnap s.retErr.isSome }
  | rSendClosed (v sc) (hpc : s.rpc = .send v sc) (hf : s.fin = true) :
      Leaf c s .red { s with rpc := .drain (some .sendClosed), eSnap := snapOnce s.eSnap s.retErr.isSome }
  | rSendErr (v sc e) (hpc : s.rpc = .send v sc) (hf : ¬ s.fin = true) (hc : s.cpc = .sel) (hr : s.retErr = some e) :
      Leaf c s .red { s with cpc := .defer (.err e), rpc := .run sc }
  | rSendVal (v sc) (hpc : s.rpc = .send v sc) (hf : ¬ s.fin = true) (hc : s.cpc = .sel) (hr : s.retErr = none) :
      Leaf c s .red { s with cpc := .defer (.val v), rpc := .run sc }
  | rSendDropped (v sc p) (hpc : s.rpc = .send v sc) (hf : ¬ s.fin = true) (hc : s.cpc = .drainOut p) :
      Leaf c s .red { s with rpc := .run sc }
  | rSendSecond (v sc r) (hpc : s.rpc = .send v sc) (hf : ¬ s.fin = true) (hc : s.cpc = .defer r) :
      Leaf c s .red { s with cpc := .done (.panic .multi), rpc := .run sc }
  | rCdrain (sc j) (hpc : s.rpc = .cdrain sc) (hr : srcRecv c s = some (some j)) :
      Leaf c s .red { s with gNext := s.gNext + 1, dropped := s.dropped ++ [j] }
  | rCdrainClosed (sc) (hpc : s.rpc = .cdrain sc) (hr : srcRecv c s = some none) :
      Leaf c s .red { s with fin := true, once := 2, rpc := .run sc }
  | rDrain (p v q) (hpc : s.rpc = .drain p) (hq : s.collQ = v :: q) :
      Leaf c s .red { s with collQ := q, drained := s.drained ++ [v] }
  | rDrainPanic (pv) (hpc : s.rpc = .drain (some pv)) (hq : s.collQ = []) (hc : s.collClosed = true) :
      Leaf c s .red { s with rpc := .pwrite pv }
  | rDrainEnd (hpc : s.rpc = .drain none) (hq : s.collQ = []) (hc : s.collClosed = true) : Leaf c s .red { s with rpc := .finish }
  | rLost (pv) (hpc : s.rpc = .pwrite pv) (hw : s.wrote = true) : Leaf c s .red { s with rpc := .finish }
  | rWon (pv) (hpc : s.rpc = .pwrite pv) (hw : ¬ s.wrote = true) :
      Leaf c s .red { s with wrote := true, rpc := .psend pv, wroteBy := some pv }
  | rSendBuf (pv) (hpc : s.rpc = .psend pv) (hf : c.fixed = true) (hb : s.pbuf = none) :
      Leaf c s .red { s with pbuf := some pv, rpc := .finish }
  | rSendCaller (pv) (hpc : s.rpc = .psend pv) (hf : c.fixed = false) (hc : s.cpc = .sel) :
      Leaf c s .red { s with cpc := .drainOut pv, rpc := .finish }
  | rFinish (hpc : s.rpc = .finish) : Leaf c s .red { s with fin := true, rpc := .done }
  | cCtx (h : s.cpc = .sel ∧ s.ctxDone = true) : Leaf c s .callerCtx { s with cpc := .cancelEnter }
  | cPanic (p) (h : s.cpc = .sel ∧ c.fixed = true) (hb : s.pbuf = some p) :
      Leaf c s .callerPanic { s with pbuf := none, cpc := .drainOut p, consumed := true }
  | cOut (h : s.cpc = .sel ∧ s.fin = true) : Leaf c s .callerOut { s with cpc := .defer (outRes s) }
  | cCancel (hpc : s.cpc = .cancelEnter) (ho : s.once = 0) :
      Leaf c s .caller { s with once := 1, retErr := some .deadline, cpc := .cdrain, onceBy := some .caller }
  | cCancelLate (hpc : s.cpc = .cancelEnter) (ho : ¬ s.once = 0) (ho1 : ¬ s.once = 1) :
      Leaf c s .caller { s with cpc := .defer (.err .deadline) }
  | cDrain (j) (hpc : s.cpc = .cdrain) (hr : srcRecv c s = some (some j)) :
      Leaf c s .caller { s with gNext := s.gNext + 1, dropped := s.dropped ++ [j] }
  | cDrainClosed (hpc : s.cpc = .cdrain) (hr : srcRecv c s = some none) :
      Leaf c s .caller { s with fin := true, once := 2, cpc := .defer (.err .deadline) }
  | cDrainOut (p) (hpc : s.cpc = .drainOut p) (hf : s.fin = true) : Leaf c s .caller { s with cpc := .done (.panic p) }
  | cDefer (r) (hpc : s.cpc = .defer r) (hf : s.fin = true) (hx : c.fixed = true) : Leaf c s .caller { s with cpc := .check r }
  | cDeferOld (r) (hpc : s.cpc = .defer r) (hf : s.fin = true) (hx : ¬ c.fixed = true) : Leaf c s .caller { s with cpc := .done r }
  | cCheckPanic (r p) (hpc : s.cpc = .check r) (hb : s.pbuf = some p) :
      Leaf c s .caller { s with pbuf := none, cpc := .done (.panic p), consumed := true }
  | cCheck (r) (hpc : s.cpc = .check r) (hb : s.pbuf = none) : Leaf c s .caller { s with cpc := .done r }
  | env (h : c.ctxCan = true ∧ ¬ s.ctxDone = true) : Leaf c s .env { s with ctxDone := true }

theorem step_leaf {c : Cfg} {s s' : St} {a : Actor} (h : step c s a = some s') : Leaf c s a s' := by
  cases a <;> simp only [step] at h
  all_goals (try unfold stepGen at h)
  all_goals (try unfold stepDisp at h)
  all_goals (try unfold stepMapper at h)
  all_goals (try unfold stepRed at h)
  all_goals (try unfold stepCaller at h)
  all_goals (leaves h)
  -- `constructor` takes the first row with this successor state; the rows that share one are named
  all_goals first
    | (constructor <;> assumption)
    | exact .gLost ‹_› ‹_›
    | exact .mLost _ ‹_› ‹_›
    | exact .mCancelLate _ _ _ ‹_› ‹_› ‹_›
    | exact .mReadOne _ _ ‹_›
    | exact .mReadAll _ _ ‹_›
    | exact .rReadAllClosed _ ‹_› ‹_› ‹_›
    | exact .rCancelLate _ _ ‹_› ‹_› ‹_›
    | exact .rSendDropped _ _ _ ‹_› ‹_› ‹_›
    | exact .rLost _ ‹_› ‹_›
    | exact .cDeferOld _ ‹_› ‹_› ‹_›
    | exact .cCheck _ ‹_› ‹_›

end GoZero.C10
