/-
C10 — the error VALUE classes (a zero-valued dynamic value is a non-nil error), the glue of
`MapReduceVoid` / `Finish` for a cancel error that is or wraps the library's own sentinel (defect witness `void_swallowed_the_cancel_error`, fixed by fixes/C10-void-cancel-sentinel.patch).
-/
import GoZero.C10.PropsNow
import GoZero.C10.SpecGlue
namespace GoZero.C10.Props5
open GoZero.C10

/-! ### error values: `AtomicError.Set` tests the INTERFACE for nil, nothing else -/

/-- every non-nil error is recorded, whatever its code — in particular the zero-valued classes (empty struct, code 0,
empty string, typed nil pointer, nil slice, all-zero struct). -/
theorem ae_set_records_every_value (cur : Option Nat) (k : Nat) : aeLoad (aeSet cur (some k)) = some k := by
  simp [aeSet, aeLoad]

/-- `cancel(e)` for the harness token `c<k>`: the recorded error is ErrCancelWithNil for k = 0 / 110 and the error
itself for EVERY other class. -/
theorem cancel_records_every_class (k : Nat) :
    aeLoad (cancelRecords ((cancelArg k).map fun k => encErr (.user k))) =
      some (if k = 0 ∨ k = 110 then encErr .nilCancel else encErr (.user k)) := by
  rw [cancel_records_an_error]
  unfold cancelArg
  split <;> simp [cancelErr]

/-- the seeded "hardening" `err != nil && !reflect.ValueOf(err).IsZero()` loses the error for every zero-valued
class: the cell stays empty, the caller decides for the value / ErrReduceNoOutput. -/
theorem isZero_variant_loses_the_error :
    ∀ k ∈ zeroValuedKinds, aeLoad (aeSetIsZero none (some k)) = none ∧ aeLoad (aeSet none (some k)) = some k := by
  decide

example : (callerOutput (aeSetIsZero none (some 104)) true 7) = (7, none) ∧
    (callerOutput (aeSet none (some 104)) true 7) = (0, some 104) := by decide

/-! ### MapReduceVoid / Finish: the error that was passed to cancel comes back -/

/-- DEFECT WITNESS (the code before fixes/C10-void-cancel-sentinel.patch): a user function of `MapReduceVoid` / `Finish` cancels with an
error that is `ErrReduceNoOutput` (code 111) or wraps it (112) — e.g. the error of a nested `MapReduce` without
output — the cancel wins, and the call returns nil: the error is swallowed although the remaining work was aborted.
Replayed on the real code: `run api=finish n=1 w=1 … m=us0.c112` => `ok`. -/
theorem void_swallowed_the_cancel_error :
    voidCancelPipelineOld (some (encErr (.user 111))) false 0 = none ∧
    voidCancelPipelineOld (some (encErr (.user 112))) false 0 = none := by decide

/-- with the mark, the whole path call site → `markCancel` → `cancel` (records) → the caller's output branch →
`MapReduceVoid`'s return gives back the error that was passed to cancel, for EVERY error (also the sentinels and what
wraps them), ErrCancelWithNil for nil — whatever the output channel delivered. -/
theorem void_returns_the_cancel_error (e : Option Nat) (ok : Bool) (v : Nat) :
    voidCancelPipeline e ok v = some (e.getD (encErr .nilCancel)) := by
  cases e <;> simp [voidCancelPipeline, markCancelArgM, voidReturnNow, voidReturnIs, isNoOutput, callerOutput,
    cancelRecords, aeSet, aeLoad, encErr]

/-- an error without the mark is one the library itself reports: only a nil argument stays unmarked. -/
theorem unmarked_only_nil (e : Option Nat) : (markCancelArgM e).2 = false ↔ e = none := by
  cases e <;> simp [markCancelArgM]

/-- nothing was cancelled and the (void) reducer ended: nil. -/
theorem void_no_cancel_is_nil (v : Nat) : voidReturnNow false (callerOutput none false v).2 = none := by
  simp [voidReturnNow, voidReturnIs, isNoOutput, callerOutput, aeLoad, encErr]

/-- `MapReduceVoid` returns nil ONLY for the caller's own "no output" decision (or a nil error): never for a marked
error. -/
theorem voidReturnNow_nil_iff (fc : Bool) (e : Option Nat) :
    voidReturnNow fc e = none ↔ e = none ∨ (fc = false ∧ isNoOutput e = true) := by
  cases fc <;> simp [voidReturnNow, voidReturnIs] <;> cases h : isNoOutput e <;> simp_all [isNoOutput]

/-- for the library's own errors the new glue agrees with the old one (`voidReturn`): nothing changes when no user error is / wraps the sentinel. -/
theorem voidReturnNow_agrees (x : Err) (hx : ∀ k, x = .user k → k ≠ 111 ∧ k ≠ 112) :
    voidReturnNow false (some (encErr x)) = voidReturn (some (encErr x)) := by
  cases x with
  | user k =>
    have := hx k rfl
    simp [voidReturnNow, voidReturnIs, isNoOutput, voidReturn, encErr]; omega
  | _ => simp [voidReturnNow, voidReturnIs, isNoOutput, voidReturn, encErr]

/-! ### a recorded error decides the caller's output branch -/

/-- model side: once an error is recorded, the caller's output branch returns it — no value, no ErrReduceNoOutput —
whatever `output` delivers. -/
theorem recorded_error_beats_output (x : Err) (ok : Bool) (v : Nat) :
    callerOutput (some (encErr x)) ok v = (0, some (encErr x)) := by
  simp [callerOutput, aeLoad]

/-! ### several cancels in one call: cancel is idempotent after the first -/

/-- under `once` no sequence of cancel calls — whatever the dynamic types of their errors — makes the cell panic, and
the recorded error is the FIRST one. -/
theorem once_records_the_first (e : TErr) (es : List TErr) : cancelsWithOnce (e :: es) = some (some e) := rfl

theorem once_never_panics (es : List TErr) : cancelsWithOnce es ≠ none := by
  cases es <;> simp [cancelsWithOnce, aeStoreTyped]

/-- WITHOUT the wrapper (seeded C10-8) two cancels with errors of different dynamic types panic inside the library —
a panic no user function raised — and two of the same type return the LATER error. -/
theorem without_once_panics_or_overwrites :
    cancelsWithoutOnce [(5, 0), (1, 1)] = none ∧ cancelsWithoutOnce [(5, 0), (6, 0)] = some (some (6, 0)) := by decide

/-- without the wrapper the cell never panics only if all errors have one dynamic type. -/
theorem without_once_ok_of_one_type (t : Nat) (es : List TErr) (h : ∀ e ∈ es, e.2 = t) (c : TErr) (hc : c.2 = t) :
    (es.foldlM aeStoreTyped (some c)).isSome = true := by
  induction es generalizing c with
  | nil => rfl
  | cons a as ih =>
    have ha : a.2 = t := h a (by simp)
    simp only [List.foldlM_cons, aeStoreTyped, hc, ha, if_true]
    exact ih (fun e he => h e (by simp [he])) a ha

/-- the model: a second cancel, once the first has completed (`once = 2`), changes neither the recorded error nor
anything else but that mapper's own script position (`Props.first_cancel_wins` is the statement over whole runs). -/
theorem later_cancel_is_a_noop (c : Cfg) (s : St) (i : Nat) (e : Option Nat) (sc : List UAct)
    (h : s.mp i = .run (.cancel e :: sc)) (ho : s.once = 2) :
    stepMapper c s i = some { s with mp := upd s.mp i (.run sc) } := by
  unfold stepMapper
  rw [h]
  simp [ho]

/-! ### the building blocks: what the `unit` ops of the harness are compared with is what the model's steps do -/

/-- a mapper's `Write` is dropped (the collector is untouched, the script goes on) iff the context is over or `done`
is closed: the model's guard is `guardDrops`. -/
theorem mapper_write_guard (c : Cfg) (s : St) (i v : Nat) (sc : List UAct) (h : s.mp i = .run (.write v :: sc)) :
    stepMapper c s i = some (if guardDrops s.ctxDone s.fin then { s with mp := upd s.mp i (.run sc) }
      else { s with mp := upd s.mp i (.send v sc) }) := by
  unfold stepMapper guardDrops
  rw [h]
  simp only
  split <;> rfl

/-- the step in which a mapper's `cancel(e)` takes the once is the step that records the error; only then does it
drain (`.cdrain`) — the order `tie_cancelEffects` pins in the code. -/
theorem cancel_sets_error_first (c : Cfg) (s : St) (i : Nat) (e : Option Nat) (sc : List UAct)
    (h : s.mp i = .run (.cancel e :: sc)) (ho : s.once = 0) :
    ∃ s', stepMapper c s i = some s' ∧ s'.retErr = some (cancelErr e) ∧ s'.mp i = .cdrain sc ∧ s'.fin = s.fin := by
  refine ⟨{ s with once := 1, retErr := some (cancelErr e), mp := upd s.mp i (.cdrain sc), onceBy := some (.mapper i) },
    ?_, rfl, by simp [upd], rfl⟩
  unfold stepMapper
  rw [h]
  simp [ho]

/-- without options the worker count is the default. -/
theorem workersOf_nil : workersOf [] = defaultWorkersN := rfl

theorem onceRuns_le_one (n : Nat) : onceRuns n ≤ 1 := by unfold onceRuns; split <;> omega

/-- `onceChan`: later writes never replace the first value. -/
theorem onceChanAfter_append (a : Nat) (vs ws : List Nat) : onceChanAfter (a :: vs ++ ws) = some a := rfl

example : guardDrops true false = true ∧ guardDrops false true = true ∧ guardDrops false false = false := by decide

end GoZero.C10.Props5
