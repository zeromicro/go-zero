/-
C10 — driver.  One trace line = one independent call of the real code:
  run api=<mr|void|each|chan|finish|finishvoid> n=<items> w=<def|a[,b…]> ctx=<none|can|pre> gp=<k|-> gx=<k|-> gw=<k:ev,…|-> m=<s0>/<s1>/… r=<script> [co=<k>]
    => res=<val:v|ok|err:E<k>|err:nil|err:deadline|err:noout|panic:<pg|pm<i>|pr|multi|sendclosed>|hang>
       left=<goroutines left> mapped=<items> reduced=<values> hist=<totally ordered events> stalltimeouts=<k> panicked=<k> waitsbyret=<k>
The monitor (`violation`) evaluates the property on what the implementation did — the outcome must be in
the returned-error table `allowed` AND in the table for the schedule that happened (`allowedAt` on the
observed event history); the correspondence (`mismatch`) runs the interleaving model under several
schedulers and compares.
-/
import GoZero.Base.Trace
import GoZero.C10.SpecGlue
namespace GoZero.C10

open GoZero

def parseAct (t : String) : Option (Option UAct) :=
  -- `some none` = an action of the harness only (stall / yield / ctx-cancel): invisible to the model
  match t.toList with
  | ['p'] => some (some .panic)
  | ['p', 'e'] => some (some .panic)     -- a panic whose value is an error
  | ['p', 'n'] => some (some .panic)     -- panic(nil): recovered as a non-nil value since go 1.21 (`Tie.tie_goDirective`)
  | ['a'] => some (some .readAll)
  | ['o'] => some (some .readOne)
  | ['s'] => some none
  | ['y'] => some none
  | ['f'] => some none
  | ['x'] => some none
  | 'u' :: _ :: _ => some none
  | 't' :: _ :: _ => some none
  | 'w' :: d => (String.ofList d).toNat?.map fun v => some (.write v)
  | 'c' :: d => (String.ofList d).toNat?.map fun k => some (.cancel (cancelArg k))
  | _ => none

def parseScript (s : String) : Option (List UAct) :=
  if s = "-" then some [] else
  -- `q` = runtime.Goexit(): the user function ends there (for the model: the script ends)
  ((s.splitOn ".").takeWhile (· ≠ "q")).foldr (fun t acc => do
    let l ← acc
    let a ← parseAct t
    pure (match a with | some x => x :: l | none => l)) (some [])

def usesCtx (s : String) : Bool := (s.splitOn ".").contains "x"

def parseOptNat (s : String) : Option (Option Nat) :=
  if s = "-" then some none else s.toNat?.map some

def parseNatList (s : String) : Option (List Nat) :=
  if s = "-" then some [] else (s.splitOn ",").mapM (·.toNat?)

def natOf (d : List Char) : Option Nat := (String.ofList d).toNat?

/-- `m<i>_<k>` / `r_<k>` → who and error (0 = nil). -/
def parseWhoErr (d : List Char) : Option (Who × Option Nat) :=
  match (String.ofList d).splitOn "_" with
  | [w, k] => do
    let k ← k.toNat?
    let e := cancelArg k
    match w.toList with
    | ['r'] => pure (.reducer, e)
    | 'm' :: i => (natOf i).map fun i => (.mapper i, e)
    | _ => none
  | _ => none

def parseEv (t : String) : Option Ev :=
  match t.toList with
  | ['r', 'e', 't'] => some .ret
  | ['g', 'e'] => some .gend
  | ['g', 'p'] => some .gpanic
  | ['r', 'c'] => some .closed
  | ['r', 'e'] => some .rend
  | ['r', 'p'] => some .rpanic
  | ['x', 'a'] => some .ctxBegin
  | ['x', 'b'] => some .ctxEnd
  | ['c', 'e', 'r'] => some (.cend .reducer)
  | 'c' :: 'e' :: 'm' :: d => (natOf d).map fun i => .cend (.mapper i)
  | 'c' :: 'b' :: d => (parseWhoErr d).map fun we => .cbegin we.1 we.2
  | 'g' :: 't' :: d => (natOf d).map .taken
  | 'p' :: 'm' :: d => (natOf d).map .mpanic
  | 'r' :: 'b' :: d => (natOf d).map .wbegin
  | 'r' :: 'a' :: d => (natOf d).map .wend
  | 'r' :: 'v' :: d => (natOf d).map .recv
  | 's' :: d => (natOf d).map .mstart
  | 'e' :: d => (natOf d).map .mend
  | _ => none

def parseHist (s : String) : Option (List Ev) :=
  if s = "-" then some [] else (s.splitOn ",").mapM parseEv

/-- start/end history of the mapper invocations. -/
def startEnd (h : List Ev) : List (Bool × Nat) :=
  h.filterMap fun e => match e with
    | .mstart i => some (true, i)
    | .mend i => some (false, i)
    | _ => none

/-- the event classes the script waits (`u<ev>`) and the generator stalls (`gw`) refer to. -/
def waitClass (ev : String) : String :=
  String.ofList (ev.toList.takeWhile fun ch => !ch.isDigit)

def waitsOf (script : String) : List String :=
  (script.splitOn ".").filterMap fun t => match t.toList with
    | 'u' :: d => some (waitClass (String.ofList d))
    | 't' :: d => some ("probe-" ++ waitClass (String.ofList d))
    | _ => none

def parseGw (s : String) : Option (List (Nat × String)) :=
  if s = "-" then some [] else
  (s.splitOn ",").mapM fun t => match t.splitOn ":" with
    | [k, ev] => if ev = "" then none else k.toNat?.map fun k => (k, ev)
    | _ => none

/-- the values a mapper script writes BEFORE its first drop point: a point after which the context is certainly
over (`x`, `uxb`) or `done` is certainly closed (its own cancel returned `c…`, another cancel returned `uce…`, the
call returned `s`; a wait released by the return of the call is such a point too).  `guardedWriter.Write` must
drop every later write. -/
def liveWritesOf (raw : String) : List Nat :=
  if raw = "-" then [] else
  let toks := (raw.splitOn ".").takeWhile fun t =>
    !(t = "x" || t = "s" || t = "q" || t = "uxb" || t.startsWith "uce" || t.startsWith "c")
  toks.filterMap fun t => match t.toList with
    | 'w' :: d => (String.ofList d).toNat?
    | _ => none

structure Run where
  liveWrites : List (List Nat) := []
  api : String
  cfg : Cfg
  scripts : List (List UAct)
  waits : List String      -- "<who>-on-<event class>" of every wait / generator stall of the call

def minWorkers : Nat := minWorkersN
def defaultWorkers : Nat := defaultWorkersN

/-- `w=def` (no WithWorkers option) or a list of WithWorkers arguments in the order they are applied. -/
def parseWorkers (s : String) : Option (List Int) :=
  if s = "def" then some [] else (s.splitOn ",").mapM (·.toInt?)

/-- a function handed to Finish: no writes, no cancel(nil); `return err` ends it. -/
def finishScriptOk : List UAct → Bool
  | [] => true
  | [.cancel (some _)] => true
  | .panic :: _ => true
  | .cancel _ :: _ => false
  | .write _ :: _ => false
  | _ :: sc => finishScriptOk sc

def isEachApi (api : String) : Bool := api = "each" || api = "finishvoid"
def isVoidApi (api : String) : Bool := api = "void" || api = "finish"

def parseRun (op : List String) : Option Run :=
  match op with
  | "run" :: kvs => do
    let api ← kv? kvs "api"
    if ¬ ["mr", "void", "each", "chan", "finish", "finishvoid"].contains api then none
    let n0 ← (← kv? kvs "n").toNat?
    -- gq=k: the generator ends by runtime.Goexit() before item k: for the model it returns after k items (`SpecValues.withGenExit`)
    let gq ← (match kv? kvs "gq" with | none => some none | some t => t.toNat?.map some)
    if (gq.getD 0) > n0 then none
    let n := gq.getD n0
    let ws ← parseWorkers (← kv? kvs "w")
    let lib := api = "finish" || api = "finishvoid"      -- the library itself passes WithWorkers(len(fns))
    let ctx ← kv? kvs "ctx"
    if ctx ≠ "none" ∧ ctx ≠ "can" ∧ ctx ≠ "pre" then none
    let gp ← parseOptNat (← kv? kvs "gp")
    let gx ← parseOptNat (← kv? kvs "gx")
    let m ← kv? kvs "m"
    let parts0 := if n0 = 0 then [] else m.splitOn "/"
    if parts0.length ≠ n0 then none
    let parts := parts0.take n
    let ms ← parts.mapM parseScript
    let r0 ← parseScript (← kv? kvs "r")
    if lib ∧ (¬ r0.isEmpty ∨ ctx ≠ "none" ∨ gp.isSome) then none
    if api = "chan" ∧ gp.isSome then none
    if api = "finish" ∧ ¬ ms.all finishScriptOk then none
    if api = "finishvoid" ∧ ¬ ms.all (fun sc => finishScriptOk sc ∧ ¬ hasCancel sc) then none
    -- MapReduceVoid hands the reducer no writer; ForEach / FinishVoid: the caller itself ranges over the collector
    -- (simulated by a reducer `[readAll]`, see Spec) and the mapper has neither a writer nor a cancel
    let ms := if isEachApi api then ms.map (fun sc => sc.filter fun a => a = .panic) else ms
    let r := if api = "mr" ∨ api = "chan" then r0 else if isEachApi api then [.readAll]
      else r0.filter fun a => match a with | .write _ => false | _ => true
    let xs := parts.any usesCtx || usesCtx ((kv? kvs "r").getD "") || gx.isSome
    if xs ∧ ctx = "none" then none
    let gw ← parseGw ((kv? kvs "gw").getD "-")
    if gw.any (fun p => p.1 > n) then none
    let waits := gw.map (fun p => s!"generator-on-{waitClass p.2}")
      ++ (parts.flatMap waitsOf).map (fun cl => s!"mapper-on-{cl}")
      ++ (waitsOf ((kv? kvs "r").getD "-")).map (fun cl => s!"reducer-on-{cl}")
    pure { api := api, scripts := ms, waits := waits, liveWrites := parts.map liveWritesOf,
           cfg := { n := n, workers := if lib then clampWorkers n else workersOf ws, gPanicAt := gp,
                    mscript := fun i => ms.getD i [], rscript := r,
                    ctxCan := ctx = "can", ctxPre := ctx = "pre", fixed := true } }
  | _ => none

def showErr : Err → String
  | .user k => s!"E{k}"
  | .nilCancel => "nil"
  | .deadline => "deadline"
  | .noOutput => "noout"

def showPVal : PVal → String
  | .gen => "pg"
  | .mapper i => s!"pm{i}"
  | .reducer => "pr"
  | .multi => "multi"
  | .sendClosed => "sendclosed"

def showRes (api : String) : Res → String
  | .val v => if api = "mr" ∨ api = "chan" then s!"val:{v}" else "ok"
  | .err .noOutput => if api = "mr" ∨ api = "chan" then "err:noout" else "ok"
  | .err e => s!"err:{showErr e}"
  | .panic p => s!"panic:{showPVal p}"

def parseRes (s : String) : Option Res :=
  match s.splitOn ":" with
  | ["val", v] => v.toNat?.map .val
  | ["err", "nil"] => some (.err .nilCancel)
  | ["err", "deadline"] => some (.err .deadline)
  | ["err", "noout"] => some (.err .noOutput)
  | ["err", e] => match e.toList with
    | 'E' :: d => (String.ofList d).toNat?.map fun k => .err (.user k)
    | _ => none
  | ["panic", "pg"] => some (.panic .gen)
  | ["panic", "pr"] => some (.panic .reducer)
  | ["panic", "multi"] => some (.panic .multi)
  | ["panic", "sendclosed"] => some (.panic .sendClosed)
  | ["panic", p] => match p.toList with
    | 'p' :: 'm' :: d => (String.ofList d).toNat?.map fun i => .panic (.mapper i)
    | _ => none
  | _ => none

def isPanicRes : Res → Bool
  | .panic _ => true
  | _ => false

def rotate (l : List α) (k : Nat) : List α := l.drop (k % (l.length + 1)) ++ l.take (k % (l.length + 1))

/-- the schedulers the model is run under: priority orders that favour, in turn, the caller, the
workers, the reducer, the environment, … -/
def schedules (n : Nat) : List (List Actor) :=
  let ms := (List.range n).map Actor.mapper
  let callerA : List Actor := [.callerPanic, .callerOut, .callerCtx, .caller]
  let dispA : List Actor := [.disp, .dispCtx, .dispDone]
  [ callerA ++ [.env, .red, .gen] ++ dispA ++ ms,
    ms ++ dispA ++ [.gen, .red] ++ callerA ++ [.env],
    [.env] ++ ms.reverse ++ [.red] ++ dispA ++ [.gen] ++ callerA.reverse,
    [.red, .gen] ++ [.dispDone, .dispCtx, .disp] ++ ms ++ [.callerOut, .callerCtx, .callerPanic, .caller, .env],
    [.gen, .disp] ++ ms.reverse ++ [.env, .callerCtx, .caller, .callerOut, .callerPanic, .red, .dispCtx, .dispDone],
    ms ++ [.red, .callerOut, .caller, .callerPanic, .disp, .gen, .env, .callerCtx, .dispCtx, .dispDone] ]

def fuelFor (r : Run) : Nat :=
  200 + 20 * (r.scripts.foldl (fun a s => a + s.length + 6) 0 + r.cfg.rscript.length + r.cfg.n)

def sorted (l : List Nat) : List Nat := sortNat l

def showNats (l : List Nat) : String := if l.isEmpty then "-" else ",".intercalate (l.map toString)

/-- why `allowedAt` rejects (for the message). -/
def schedWhy (mapped : List Nat) (h : List Ev) (res : Res) : String :=
  let hr := upTo (· == .ret) h
  match res with
  | .val v =>
    if firstWrite hr ≠ some v then "the value is not the reducer's first write begun before the return"
    else if (upTo isWbegin hr).any isCend then "a cancel call had returned before the reducer began to write"
    else if drainedTake mapped (upTo isWbegin hr) then
      "a cancel had recorded its error and was draining the source before the reducer began to write: the error must be returned"
    else "the context was over before the reducer began to write"
  | .err .noOutput =>
    if ¬ hr.contains .rend then "ErrReduceNoOutput although the reducer had not returned"
    else "a cancel had recorded its error before the reducer returned: the error must be returned"
  | .err (.user _) => "no cancel call with this error began before another cancel call had returned"
  | .err .nilCancel => "no cancel(nil) call began before another cancel call had returned"
  | .err .deadline => "the context had not been cancelled before the return"
  | .panic .multi => "the reducer had not begun a second write"
  | .panic .sendClosed => "the reducer had not begun to write"
  | .panic _ => "that user function had not panicked before the return"

def runLine (r : Report) (sec : Nat) (l : Line) : Report := Id.run do
  let mut r := { r with ops := r.ops + 1 }
  let some run := parseRun l.op | return r.mismatch sec l.idx "bad-op" (joinSp l.op)
  let c := run.cfg
  let some resS := kv? l.obs "res" | return r.mismatch sec l.idx "bad-obs" (joinSp l.obs)
  -- not executed: the harness stops after a few calls that did not return (each of them is a violation already)
  if resS = "skipped" then return r.addCover "not-executed-after-hangs-or-leaks"
  let some left := (kv? l.obs "left").bind (·.toNat?) | return r.mismatch sec l.idx "bad-obs-left" (joinSp l.obs)
  let some mapped := (kv? l.obs "mapped").bind parseNatList | return r.mismatch sec l.idx "bad-obs-mapped" (joinSp l.obs)
  let some reduced := (kv? l.obs "reduced").bind parseNatList | return r.mismatch sec l.idx "bad-obs-reduced" (joinSp l.obs)
  let some hist := (kv? l.obs "hist").bind parseHist | return r.mismatch sec l.idx "bad-obs-hist" (joinSp l.obs)
  let some stallT := (kv? l.obs "stalltimeouts").bind (·.toNat?) | return r.mismatch sec l.idx "bad-obs-stall" (joinSp l.obs)
  let some panicked := (kv? l.obs "panicked").bind (·.toNat?) | return r.mismatch sec l.idx "bad-obs-panicked" (joinSp l.obs)
  let some waitsByRet := (kv? l.obs "waitsbyret").bind (·.toNat?) | return r.mismatch sec l.idx "bad-obs-waitsbyret" (joinSp l.obs)
  let some nestedBad := (kv? l.obs "nestedbad").bind (·.toNat?) | return r.mismatch sec l.idx "bad-obs-nestedbad" (joinSp l.obs)
  let opS := joinSp l.op
  let histS := (kv? l.obs "hist").getD "-"
  r := r.addCover s!"api-{run.api}"
  r := r.addCover (if faultFree c then "fault-free" else "faulty")
  if c.n = 0 then r := r.addCover "items-0"
  if c.n > c.workers then r := r.addCover "items>workers"
  if c.ctxPre then r := r.addCover "ctx-pre"
  if c.ctxCan then r := r.addCover "ctx-can"
  if (l.op.any fun t => (t.splitOn ".").contains "s") then r := r.addCover "outlives-call"
  -- the option / entry-point glue
  let wS := (kv? l.op "w").getD ""
  let lib := run.api = "finish" || run.api = "finishvoid"
  if ¬ lib then
    if wS = "def" then r := r.addCover "workers-default(no-option)"
    if ((parseWorkers wS).getD []).any (· < 1) then r := r.addCover "workers-option<1"
    if ((parseWorkers wS).getD []).length > 1 then r := r.addCover "workers-option-list(last-wins)"
    if (kv? l.op "co") = some "0" then r := r.addCover "context-option-first"
    if (kv? l.op "ck") = some "d" then r := r.addCover s!"context-kind-deadline-{(kv? l.op "ctx").getD ""}"
    if (kv? l.op "ck") = some "v" then r := r.addCover s!"context-kind-derived-{(kv? l.op "ctx").getD ""}"
  if c.workers = defaultWorkers then r := r.addCover "workers=16"
  if (l.op.any fun t => ((t.splitOn "=").getD 1 "").splitOn "/" |>.any fun sc => (sc.splitOn ".").contains "f") then
    r := r.addCover "nested-calls-from-a-user-function"
  if isEachApi run.api ∧ (c.ctxCan ∨ c.ctxPre) then r := r.addCover "each-with-context"
  -- the error VALUE classes handed to cancel / returned by a Finish function
  let cancelCodes : List Nat := (l.op.flatMap fun t => ((t.splitOn "=").getD 1 "").splitOn "/" |>.flatMap fun sc => (sc.splitOn ".").filterMap fun a =>
    match a.toList with
    | 'c' :: d => (String.ofList d).toNat?
    | _ => none)
  for k in cancelCodes.eraseDups do
    r := r.addCover s!"cancel-error-{errKindName k}"
    r := r.addCover s!"cancel-error-{errKindName k}-{run.api}"
  let toksOf (key : String) : List String := ((kv? l.op key).getD "-").splitOn "/" |>.flatMap (·.splitOn ".")
  for (who, key) in [("mapper", "m"), ("reducer", "r")] do
    if (toksOf key).contains "q" then r := r.addCover s!"goexit-{who}-{run.api}"
    if (toksOf key).contains "pn" then r := r.addCover s!"panic-nil-{who}-{run.api}"
    if (toksOf key).contains "pe" then r := r.addCover s!"panic-error-value-{who}-{run.api}"
    if (toksOf key).contains "p" then r := r.addCover s!"panic-string-value-{who}-{run.api}"
  if (kv? l.op "gq").isSome then r := r.addCover s!"goexit-generator-{run.api}"
  if (kv? l.op "gk") = some "n" then r := r.addCover s!"panic-nil-generator-{run.api}"
  if nestedBad ≠ 0 then
    r := r.violation sec l.idx s!"{nestedBad} nested call(s) from inside a user function misbehaved (two functions of one Finish could not run at the same time / FinishVoid did not run both / a default MapReduce did not return its sum) op=[{joinSp l.op}]"
  for wt in run.waits.eraseDups do r := r.addCover s!"wait-{wt}"
  if waitsByRet > 0 then r := r.addCover "wait-released-by-return"
  r := r.addCover s!"res-{(resS.splitOn ":").headD ""}{if resS.startsWith "err:E" then ":E" else if resS.startsWith "panic:pm" then ":pm" else if resS.startsWith "val" then "" else ":" ++ ((resS.splitOn ":").getD 1 "")}"
  -- ------------------------------------------------------------ monitor: the property on the implementation
  if resS = "hang" then
    return r.violation sec l.idx s!"deadlock: the call did not return (goroutines left={left}) op=[{opS}]"
  if stallT ≠ 0 then
    r := r.violation sec l.idx s!"a stalled user function was never released op=[{opS}]"
  -- A reducer that writes three or more times can be left blocked in its third Write (nobody reads `output` after the
  -- library's panic "more than one element written in reducer").  Decided by replay on the real code
  -- (`run … r=w1.w2.w3` => panic:multi left=1 hist=…,rb1,ra1,rb2,ret,ra2,rb3): that reducer function has NOT returned,
  -- so the clause "once the user functions have returned no goroutine … remains" does not apply to it.  The
  -- exemption is taken only when the history shows exactly this: two completed writes, a third one begun and not
  -- returned, the reducer function not ended.
  let inContract := (writesOf c.rscript).length ≤ 2
  let wb := (hist.filter isWbegin).length
  let we := (hist.filter (fun e => match e with | .wend _ => true | _ => false)).length
  let blockedInWrite : Bool := decide (we ≥ 2) && decide (wb > we) && !hist.contains .rend && !hist.contains .rpanic
  if ¬ inContract then r := r.addCover "reducer-writes>2"
  if left ≠ 0 ∧ blockedInWrite then r := r.addCover "reducer-blocked-in-3rd-write-has-not-returned(outside)"
  if left ≠ 0 ∧ ¬ blockedInWrite then
    r := r.violation sec l.idx s!"goroutine leak: {left} goroutine(s) of the call alive after every user function returned res={resS} hist={histS} op=[{opS}]"
  let se := startEnd hist
  if peak se > c.workers then
    r := r.violation sec l.idx s!"mapper cap: {peak se} mappers ran concurrently, workers={c.workers} op=[{opS}]"
  if peak se = c.workers ∧ c.workers > 1 then
    r := r.addCover "cap-reached"
    r := r.addCover s!"cap-reached-{run.api}"
    if c.workers = defaultWorkers then r := r.addCover "cap-reached-16"
  if ¬ hist.contains .ret then
    r := r.violation sec l.idx s!"the call returned but the history has no return event op=[{opS}]"
  if ¬ (mapped.all (· < c.n)) ∨ ¬ (mapped.all fun i => mapped.count i = 1) then
    r := r.violation sec l.idx s!"an item was handed to the mapper more than once (or is unknown): mapped={showNats mapped} op=[{opS}]"
  if ¬ isEachApi run.api ∧ subMultiset reduced (writesOfItems c mapped) ∧
      ¬ subMultiset reduced (mapped.flatMap fun i => run.liveWrites.getD i []) then
    r := r.violation sec l.idx s!"the reducer received a value whose Write began after the context was over / after a cancel had returned (guardedWriter.Write must drop it): reduced={showNats reduced} hist={histS} op=[{opS}]"
  if run.liveWrites.any (fun lw => !lw.isEmpty) ∧ (run.scripts.zip run.liveWrites).any (fun p => (writesOf p.1).length > p.2.length) then
    r := r.addCover "mapper-write-after-drop-point"
  if ¬ isEachApi run.api ∧ ¬ subMultiset reduced (writesOfItems c mapped) then
    r := r.violation sec l.idx s!"the reducer received a value more often than it was written: reduced={showNats reduced} op=[{opS}]"
  if isEachApi run.api ∧ (c.ctxCan ∨ c.ctxPre) then
    -- ForEach with a context (outside the model: the caller has no context case): returns, or re-raises a user panic
    let okRes : Bool := resS = "ok" || (match parseRes resS with
      | some (.panic .gen) => allowed c (.panic .gen)
      | some (.panic (.mapper i)) => allowed c (.panic (.mapper i)) && hist.contains (.mpanic i)
      | _ => false)
    if !okRes then r := r.violation sec l.idx s!"ForEach outcome {resS} not allowed op=[{opS}]"
    return r
  -- several cancels in one call
  let cbs := hist.filterMap fun e => match e with | .cbegin _ k => some k | _ => none
  if cbs.eraseDups.length ≥ 2 then
    r := r.addCover s!"several-cancels-different-errors-{run.api}"
    if cancelCodes.eraseDups.length ≥ 2 ∧ cancelCodes.any (fun k => k = 0 ∨ k ≥ 100) then r := r.addCover s!"several-cancels-different-dynamic-types-{run.api}"
  if (upTo (· == .ctxBegin) hist).any (fun e => match e with | .cbegin _ _ => true | _ => false) ∧ hist.contains .ctxBegin ∧
      ¬ (upTo (· == .ctxBegin) hist).any isCend ∧ (upTo (· == .ret) hist).contains .ctxBegin then
    r := r.addCover s!"context-ends-while-a-user-cancel-is-in-progress-{run.api}"
  -- a panic nobody raised: the library's own two panics have a user cause (a reducer that writes twice / writes after
  -- the output was closed); every other re-raised value must be the value of a user function that did panic
  if resS.startsWith "panic:" ∧ panicked = 0 ∧ resS ≠ "panic:multi" ∧ resS ≠ "panic:sendclosed" then
    -- the value names a user function (pm<i> / pr / pg) although none of THIS call panicked: the panic of another call
    -- (state shared between calls: a recycled / package-level panic channel); anything else: a runtime panic of the library
    let foreign := resS = "panic:pr" ∨ resS = "panic:pg" ∨ resS.startsWith "panic:pm"
    return r.violation sec l.idx (if foreign then
      s!"the call re-raised a panic ({resS}) that no user function OF THIS CALL raised: 're-raises a user panic' means a panic of this call — the panic of an earlier call's straggler came back (per-call state shared between calls) hist={histS} op=[{opS}]"
    else
      s!"the call panicked ({resS}) although no user function did: a runtime panic of the library instead of a cancel / context error hist={histS} op=[{opS}]")
  let some res := (if resS = "ok" then some (.err .noOutput) else parseRes resS)
    | return r.violation sec l.idx s!"outcome {resS} is neither a cancel/context error, a user panic nor a value op=[{opS}]"
  let hr := upTo (· == .ret) hist
  -- `ErrReduceNoOutput` handed to cancel by the user (code 111) comes back as the same VALUE as the library's own
  -- "no output": the outcome err:noout then has a second reading, "the error that was passed to cancel"
  let alt : Option Res := if resS = "err:noout" ∧ cancelBegan (some 111) hr then some (.err (.user 111)) else none
  let okBy (p : Res → Bool) : Bool := p res || alt.any p
  if run.api ≠ "mr" ∧ run.api ≠ "chan" ∧ ((resS = "err:noout" ∧ ¬ alt.any (allowedAt mapped hist)) ∨ resS.startsWith "val:") then
    r := r.violation sec l.idx s!"{run.api} returned {resS}: ErrReduceNoOutput must become nil (unless it is the error that was passed to cancel) and there is no value op=[{opS}]"
  if ¬ okBy (allowed c) then
    r := r.violation sec l.idx s!"outcome {resS} is not in the returned-error table of this call op=[{opS}]"
  match res with
  | .err (.user k) => if k ≥ 100 then r := r.addCover s!"returned-error-{errKindName k}-{run.api}"
  | _ => pure ()
  if hr.any isCend then r := r.addCover s!"cancel-completed-before-return-{run.api}"
  if alt.any (allowedAt mapped hist) then r := r.addCover s!"returned-error-{errKindName 111}-{run.api}"
  -- the table for the schedule that actually happened
  let preW := upTo isWbegin hr
  if hr.any isWbegin then
    if preW.any isCend then r := r.addCover "sched-cancel-returned-before-reducer-write"
    else if drainedTake mapped preW then r := r.addCover "sched-cancel-in-progress-before-reducer-write"
    else if preW.any (fun e => match e with | .cbegin _ _ => true | _ => false) then
      r := r.addCover "sched-cancel-begun-before-reducer-write-no-proof"
    if preW.contains .ctxEnd then r := r.addCover "sched-context-over-before-reducer-write"
  if hr.contains .rend ∧ setEvidence mapped (upTo (· == .rend) hr) then r := r.addCover "sched-error-recorded-before-reducer-end"
  if (hr.filter (fun e => match e with | .cbegin _ _ => true | _ => false)).length ≥ 2 ∧ hr.any isCend then
    r := r.addCover "sched-cancel-after-a-completed-cancel"
  -- ForEach / FinishVoid / Finish have no user reducer: there is no reducer event to place `nil` against; instead:
  -- a nil return means every function ran and none of them had announced an error / a panic
  let noUserReducer := isEachApi run.api || run.api = "finish"
  if noUserReducer ∧ res = .err .noOutput ∧ resS = "ok" then
    if hr.any (fun e => match e with | .cbegin _ _ => true | _ => false) then
      r := r.violation sec l.idx s!"{run.api} returned nil although a function had returned an error before hist={histS} op=[{opS}]"
    if sorted mapped ≠ List.range c.n then
      r := r.violation sec l.idx s!"{run.api} returned before every function / item was run exactly once: ran={showNats mapped} op=[{opS}]"
  -- (a void / Finish call whose err:noout is the cancel error is not the nil decision)
  let nilDecision := noUserReducer ∧ res = .err .noOutput ∧ resS = "ok"
  if ¬ nilDecision ∧ ¬ okBy (allowedAt mapped hist) then
    -- an error that WAS passed to cancel before the return, but by a call that began after another cancel call had
    -- returned, satisfies the property's text; it contradicts the model (cancel runs under a sync.Once:
    -- `Props.first_cancel_wins`): reported as a broken correspondence, not as a property violation
    let lateCancel : Bool := match res with
      | .err (.user k) => cancelBegan (some k) hr
      | .err .nilCancel => cancelBegan none hr
      | _ => false
    if lateCancel then
      -- (round 5b: a violation, no longer only a broken correspondence: cancel is idempotent after the first — `once` —
      -- `Props.first_cancel_wins`, `Props5.once_records_the_first`)
      r := r.violation sec l.idx s!"the returned error {resS} is not the first cancelled one nor a context error: it was passed to a cancel call that began after another cancel call had returned (cancel must be idempotent after the first) hist={histS} op=[{opS}]"
    else
      r := r.violation sec l.idx s!"outcome {resS} is not possible for the schedule that happened ({schedWhy mapped hist res}) hist={histS} op=[{opS}]"
  if noCancel c ∧ panicked > 0 ∧ ¬ isPanicRes res then
    r := r.violation sec l.idx s!"a user panic was lost: outcome {resS} although {panicked} user function(s) panicked and nothing was cancelled op=[{opS}]"
  if faultFree c then
    if showRes run.api (expected c) ≠ resS then
      r := r.violation sec l.idx s!"nothing cancelled: expected {showRes run.api (expected c)} got {resS} op=[{opS}]"
    if sorted mapped ≠ List.range c.n then
      r := r.violation sec l.idx s!"nothing cancelled: mapped={showNats mapped}, expected every item exactly once op=[{opS}]"
    if c.rscript.contains .readAll ∧ ¬ sameMultiset reduced (writesOfItems c (List.range c.n)) then
      r := r.violation sec l.idx s!"nothing cancelled: reduced={showNats reduced} differs from the written values {showNats (sorted (writesOfItems c (List.range c.n)))} op=[{opS}]"
  -- ------------------------------------------------------------ correspondence: the model under several schedulers
  let mut reproduced := false
  let mut k := 0
  for prio in schedules c.n do
    k := k + 1
    let fin := runPrioA c prio (fuelFor run) (init c)
    match result fin with
    | none => r := r.mismatch sec l.idx s!"model: caller not finished under schedule {k}" resS
    | some mr =>
      if aliveCount c fin ≠ 0 ∧ inContract then
        r := r.mismatch sec l.idx s!"model: {aliveCount c fin} goroutine(s) alive at the end of schedule {k}" resS
      if ¬ allowed c mr then
        r := r.mismatch sec l.idx s!"model: outcome {showRes "mr" mr} of schedule {k} not in the table" resS
      if showRes run.api mr = resS then reproduced := true
      if faultFree c then
        -- deterministic: model and implementation must agree exactly
        if showRes run.api mr ≠ resS then
          r := r.mismatch sec l.idx s!"{showRes run.api mr} (schedule {k})" resS
        if sorted fin.mapped ≠ sorted mapped then
          r := r.mismatch sec l.idx s!"mapped={showNats (sorted fin.mapped)} (schedule {k})" s!"mapped={showNats mapped}"
        -- which values a reducer that does not range over the pipe receives depends on the schedule: only their number is fixed
        if c.rscript.contains .readAll ∧ sorted fin.reduced ≠ sorted reduced then
          r := r.mismatch sec l.idx s!"reduced={showNats (sorted fin.reduced)} (schedule {k})" s!"reduced={showNats reduced}"
        if ¬ c.rscript.contains .readAll ∧ fin.reduced.length ≠ reduced.length then
          r := r.mismatch sec l.idx s!"|reduced|={fin.reduced.length} (schedule {k})" s!"reduced={showNats reduced}"
  if reproduced then r := r.addCover "outcome-reproduced-by-a-model-schedule"
  else r := r.addCover "outcome-not-among-sampled-model-schedules"
  return r

/-! ### errorx.AtomicError on its own (second harness): `ae set|load|cset <inst> …` -/

def showCell : Option Nat → String
  | none => "nil"
  | some k => s!"E{k}"

def parseCell (s : String) : Option (Option Nat) :=
  if s = "nil" then some none else match s.toList with
    | 'E' :: d => (String.ofList d).toNat?.map some
    | _ => none

abbrev Cells := List (String × Option Nat)

def cellGet (cs : Cells) (n : String) : Option Nat := ((cs.find? (·.1 = n)).map (·.2)).getD none
def cellPut (cs : Cells) (n : String) (v : Option Nat) : Cells := (n, v) :: cs.filter (·.1 ≠ n)

def runAe (st : Report × Cells) (sec : Nat) (l : Line) : Report × Cells := Id.run do
  let mut r := { st.1 with ops := st.1.ops + 1 }
  let cs := st.2
  let opS := joinSp l.op
  match l.op, l.obs with
  | ["ae", "set", n, k], [o] =>
    let some k := k.toNat? | return (r.mismatch sec l.idx "bad-op" opS, cs)
    if o ≠ "ok" then return (r.violation sec l.idx s!"AtomicError.Set({k}) => {o} op=[{opS}]", cs)
    r := r.addCover (if k = 0 then (if (cellGet cs n).isSome then "ae-set-nil-after-error" else "ae-set-nil-on-empty") else
      (if (cellGet cs n).isSome then "ae-set-overwrites" else "ae-set-first"))
    return (r, cellPut cs n (aeSet (cellGet cs n) (if k = 0 then none else some k)))
  | ["ae", "load", n], [o] =>
    let some v := parseCell o | return (r.violation sec l.idx s!"AtomicError.Load() => {o}: neither nil nor an error that was set op=[{opS}]", cs)
    let m := aeLoad (cellGet cs n)
    r := r.addCover (if m.isSome then "ae-load-error" else "ae-load-nil")
    if cs.length > 1 then r := r.addCover "ae-several-instances"
    if v ≠ m then
      r := r.violation sec l.idx s!"AtomicError: Load() = {o}, but the last non-nil error set on this instance is {showCell m} (a recorded error must be returned, Set(nil) must not erase it, instances are independent) op=[{opS}]"
    return (r, cs)
  | "ae" :: "cset" :: n :: ks, [o] =>
    let some ks := ks.mapM (·.toNat?) | return (r.mismatch sec l.idx "bad-op" opS, cs)
    let some v := parseCell o | return (r.violation sec l.idx s!"AtomicError.Load() => {o} op=[{opS}]", cs)
    r := r.addCover "ae-concurrent-sets"
    match v with
    | some k =>
      if ¬ ks.contains k ∨ k = 0 then
        r := r.violation sec l.idx s!"AtomicError: Load() = {o} after concurrent Set calls with {showNats ks}: not one of them op=[{opS}]"
    | none => r := r.violation sec l.idx s!"AtomicError: Load() = nil after concurrent Set calls with non-nil errors op=[{opS}]"
    return (r, cellPut cs n v)
  | _, _ => return (r.mismatch sec l.idx "bad-op" (opS ++ " => " ++ joinSp l.obs), cs)

/-! ### the building blocks on their own: `unit gw|oc|once|opts|drain …` -/

def runUnit (r : Report) (sec : Nat) (l : Line) : Report := Id.run do
  let mut r := { r with ops := r.ops + 1 }
  let opS := joinSp l.op
  let obs := joinSp l.obs
  match l.op with
  | "unit" :: "gw" :: kvs =>
    let some cap := (kv? kvs "cap").bind (·.toNat?) | return r.mismatch sec l.idx "bad-op" opS
    let some v := (kv? kvs "v").bind (·.toNat?) | return r.mismatch sec l.idx "bad-op" opS
    let some cx := kv? kvs "ctx" | return r.mismatch sec l.idx "bad-op" opS
    let some dn := kv? kvs "done" | return r.mismatch sec l.idx "bad-op" opS
    if ¬ ["none", "live", "over"].contains cx ∨ ¬ ["open", "closed"].contains dn then return r.mismatch sec l.idx "bad-op" opS
    let drops := guardDrops (cx = "over") (dn = "closed")
    r := r.addCover s!"unit-guardedWriter-{if drops then "drops" else "delivers"}-{if cap = 0 then "unbuffered" else "buffered"}"
    let want := if drops then "dropped" else s!"delivered:{v}"
    if obs ≠ want then
      r := r.violation sec l.idx s!"guardedWriter.Write: {obs}, but a value must be {want} (dropped iff the context is over or done is closed, on every channel) op=[{opS}]"
    return r
  | "unit" :: "oc" :: kvs =>
    let vs := (kv? kvs "vals").getD ""
    let some vals := (if vs = "" then some [] else (vs.splitOn ",").mapM (·.toNat?)) | return r.mismatch sec l.idx "bad-op" opS
    let first := match onceChanAfter vals with | some a => s!"v{a}" | none => "none"
    r := r.addCover s!"unit-onceChan-writes-{min vals.length 2}"
    let want := s!"first={first} second=none buffered={min vals.length 1}"
    if obs ≠ want then
      r := r.violation sec l.idx s!"onceChan: {obs}, expected {want} (the first captured panic is kept and re-raised exactly once) op=[{opS}]"
    return r
  | "unit" :: "once" :: kvs =>
    let some n := (kv? kvs "calls").bind (·.toNat?) | return r.mismatch sec l.idx "bad-op" opS
    let some m := (kv? kvs "insts").bind (·.toNat?) | return r.mismatch sec l.idx "bad-op" opS
    r := r.addCover s!"unit-once-calls-{min n 3}"
    let want := "ran=" ++ ",".intercalate ((List.replicate m (onceRuns n)).map toString)
    if obs ≠ want then
      r := r.violation sec l.idx s!"once: {obs}, expected {want} (the function runs for the first call only, per instance: first cancel wins) op=[{opS}]"
    return r
  | "unit" :: "opts" :: kvs =>
    let some ws := (kv? kvs "w").bind parseWorkers | return r.mismatch sec l.idx "bad-op" opS
    let some cx := kv? kvs "ctx" | return r.mismatch sec l.idx "bad-op" opS
    r := r.addCover s!"unit-buildOptions-{if ws.isEmpty then "default" else if ws.length = 1 then "one" else "list"}-ctx-{if cx = "none" then "absent" else "present"}"
    -- a second WithContext inserted at position k2 of the list that already holds the first one at k: it is applied
    -- later iff k2 > k
    let cx2 := (kv? kvs "ctx2").getD "none"
    let ctxWant := if cx = "none" then (if cx2 = "none" then "bg" else "given2")
      else if cx2 = "none" then "given"
      else (let k := min (cx.toNat?.getD 0) ws.length; let k2 := min (cx2.toNat?.getD 0) (ws.length + 1)
            if k2 > k then "given2" else "given")
    if cx2 ≠ "none" then r := r.addCover "unit-buildOptions-two-contexts(last-wins)"
    let want := s!"workers={workersOf ws} ctx={ctxWant}"
    if obs ≠ want then
      r := r.violation sec l.idx s!"buildOptions: {obs}, expected {want} (defaults 16 / Background, every option applied in order, the last WithWorkers wins, < 1 clamped to 1, the context forwarded from any position) op=[{opS}]"
    return r
  | "unit" :: "drain" :: _ =>
    r := r.addCover "unit-drain"
    if obs ≠ "returned left=0" then
      r := r.violation sec l.idx s!"drain: {obs}, expected to return with the channel empty op=[{opS}]"
    return r
  | _ => return r.mismatch sec l.idx "bad-op" opS

def runSection (r : Report) (s : Section) : Report :=
  if s.lines.all (fun l => l.op.head? = some "unit") ∧ ¬ s.lines.isEmpty then
    s.lines.foldl (fun r l => runUnit r s.idx l) r
  else if s.lines.all (fun l => l.op.head? = some "ae") ∧ ¬ s.lines.isEmpty then
    (s.lines.foldl (fun st l => runAe st s.idx l) (r, [])).1
  else s.lines.foldl (fun r l => runLine r s.idx l) r

def driver (secs : List Section) : Report := secs.foldl runSection {}

end GoZero.C10
