/-
C10 — the invariant behind the returned-error table, preserved by every step of every actor.
-/
import GoZero.C10.Inv
namespace GoZero.C10

theorem invC_init (c : Cfg) : InvC c (init c) := by
  constructor <;> simp [init, mRem, rRem]
  · intro h; exact Or.inr h

theorem msuf_upd {c : Cfg} {s : St} (I : InvC c s) {i : Nat} (x : MPc)
    (hs : ∀ l, mRem x = some l → l <:+ c.mscript i) :
    ∀ j l, mRem (upd s.mp i x j) = some l → l <:+ c.mscript j :=
  upd_ind (P := fun j y => ∀ l, mRem y = some l → l <:+ c.mscript j) hs I.msuf

theorem mpan_upd {c : Cfg} {s : St} (I : InvC c s) {i : Nat} (x : MPc)
    (hp : (x = .recovered ∨ x = .pwrite ∨ x = .psend) → hasPanic (c.mscript i) = true) :
    ∀ j, (upd s.mp i x j = .recovered ∨ upd s.mp i x j = .pwrite ∨ upd s.mp i x j = .psend) →
      hasPanic (c.mscript j) = true :=
  upd_ind (P := fun j y => (y = .recovered ∨ y = .pwrite ∨ y = .psend) → hasPanic (c.mscript j) = true) hp I.mpan

theorem mcd_upd {c : Cfg} {s : St} (I : InvC c s) {i : Nat} (x : MPc) {o : Nat}
    (ho : s.once ≠ 0 → o ≠ 0) (hx : ∀ sc, x = .cdrain sc → o ≠ 0) :
    ∀ j sc, upd s.mp i x j = .cdrain sc → o ≠ 0 :=
  upd_ind (P := fun _ y => ∀ sc, y = .cdrain sc → o ≠ 0) hx fun j sc h => ho (I.mcd j sc h)

def viewC (s : St) :=
  (s.gNext, s.mp, s.rpc, s.ctxDone, s.retErr, s.once, s.fin, s.gpc, s.pbuf, s.cpc)

/-- `InvC` reads only `viewC`.  A row that also moves fields outside it (`dpc`, `collQ`, the logs, the snapshots, `wg`, `pool`)
is closed by a lemma about the configuration with the program counter alone rewritten, followed by `.congr rfl`. -/
theorem InvC.congr {c : Cfg} {s s' : St} (I : InvC c s) (h : viewC s' = viewC s) : InvC c s' := by
  simp only [viewC, Prod.mk.injEq] at h
  obtain ⟨h1, h2, h3, h4, h5, h6, h7, h8, h9, h10⟩ := h
  constructor <;> simp only [h1, h2, h3, h4, h5, h6, h7, h8, h9, h10] <;> first
    | exact I.gle | exact I.msuf | exact I.rsuf | exact I.ctx | exact I.ret | exact I.ole
    | exact I.once1 | exact I.once2 | exact I.finw | exact I.gp | exact I.mpan | exact I.rpan | exact I.pb | exact I.cdr
    | exact I.cres | exact I.mcd | exact I.rcd | exact I.ccd | exact I.cce

/-- a step of mapper goroutine `i` that only rewrites its own program counter (not into a drain). -/
theorem invC_mp_upd {c : Cfg} {s : St} (I : InvC c s) {i : Nat} (x : MPc)
    (hs : ∀ l, mRem x = some l → l <:+ c.mscript i)
    (hp : (x = .recovered ∨ x = .pwrite ∨ x = .psend) → hasPanic (c.mscript i) = true)
    (hc : ∀ sc, x ≠ .cdrain sc) : InvC c { s with mp := upd s.mp i x } :=
  { I with msuf := msuf_upd I _ hs, mcd := mcd_upd I _ id fun sc h => absurd h (hc sc),
           mpan := mpan_upd I _ hp }

/-- a step of the reducer goroutine that only rewrites its own program counter (not into a drain of the source). -/
theorem invC_rp_upd {c : Cfg} {s : St} (I : InvC c s) (x : RPc) (hne : s.rpc ≠ .done)
    (hs : ∀ l, rRem x = some l → l <:+ c.rscript)
    (hp : ∀ p, (x = .drain (some p) ∨ x = .pwrite p ∨ x = .psend p) → allowed0 c (.panic p) = true)
    (hc : ∀ sc, x ≠ .cdrain sc) : InvC c { s with rpc := x } :=
  { I with rsuf := hs, rpan := hp, rcd := fun sc h => absurd h (hc sc),
           finw := fun hf => Or.inl ((I.finw hf).resolve_right hne) }

/-- every step keeps `InvC`, row by row.  Of the other groups it takes `hm` (`CallerEndAt` at `.defer`, from `InvE`), read on
the one row `rSendSecond`: a second write while the caller holds an outcome means the script has two writes, so the "more
than one element" panic is in the table; and `hidle` (`InvB.idle`), which bounds the index of a started mapper by `n`. -/
theorem invC_step {c : Cfg} {s s' : St} (a : Actor) (I : InvC c s)
    (hm : ∀ r, s.cpc = .defer r → s.fin = false → rW s.rpc + 1 ≤ (writesOf c.rscript).length)
    (hidle : ∀ j, s.gNext ≤ j → s.mp j = .idle) (h : step c s a = some s') : InvC c s' := by
  have hfw : s.rpc ≠ .done → s.fin = true → s.once = 2 := fun hne hf => (I.finw hf).resolve_right hne
  have hi : ∀ i, s.mp i ≠ .idle → i < c.n := fun i hne =>
    Decidable.byContradiction fun x => hne (hidle i (by have := I.gle; omega))
  have hs := I.msuf
  have hsuf : ∀ i a sc, mRem (s.mp i) = some (a :: sc) → sc <:+ c.mscript i := fun i a sc h => suffix_tail (hs i _ h)
  cases step_leaf h
  case dDrain hr | mDrain hr | rCdrain hr | cDrain hr | dRecv hr =>
    have := srcRecv_item hr
    exact { I with gle := by simp; omega }
  case gPanic hp => exact { I with gp := fun _ => by have := I.gle; simp [genPanics, *] }
  case gEnd | gLost | gClose => exact { I with gp := by simp }
  case gWon hpc _ => exact { I with gp := fun _ => I.gp (Or.inl hpc) }
  case gSendBuf hpc _ _ =>
    have hg := I.gp (Or.inr hpc)
    exact { I with gp := by simp, pb := by intro p hp; simp at hp; subst hp; simpa [allowed0] using hg }
  case gSendCaller hpc _ _ =>
    have hg := I.gp (Or.inr hpc)
    exact { I with cce := by simp, gp := by simp, cdr := by intro p hp; simp at hp; subst hp; simpa [allowed0] using hg,
                   cres := by simp, ccd := by simp }
  case dCtx | dDone | dLoop | dFailed | dSel | dRecvClosed | dUnpool | dWait | dCloseColl | dDrainClosed => exact I.congr rfl
  case dSpawn i hd => exact (invC_mp_upd I (.run (c.mscript i)) (by simp [mRem]) (by simp) (by simp)).congr rfl
  case mEnd i hpc | mLost i hpc _ => exact invC_mp_upd I .wgdone (by simp [mRem]) (by simp) (by simp)
  -- a rewritten program counter keeps a suffix of the script
  -- `mSend` also appends to `collQ` and `sent`, which `InvC` does not read: `.congr rfl` (so on every row below that has it)
  case mWriteSkip i _ sc hpc _ | mCancelLate i _ sc hpc _ _ | mSend i _ sc hpc _ _ | mReadOne i sc hpc | mReadAll i sc hpc =>
    exact (invC_mp_upd I (.run sc) (by simp [mRem]; exact hsuf i _ sc (by rw [hpc]; rfl))
      (by simp) (by simp)).congr rfl
  case mWrite i v sc hpc _ =>
    exact (invC_mp_upd I (.send v sc) (by simp [mRem]; exact hs i _ (by rw [hpc]; rfl))
      (by simp) (by simp))
  case mCancel i e sc hpc h0 =>
    have hn := hi i (by simp [hpc])
    exact { I with msuf := msuf_upd I _ (by simp [mRem]; exact hsuf i _ sc (by rw [hpc]; rfl)),
                   mcd := mcd_upd I _ (by simp) (by simp), mpan := mpan_upd I _ (by simp),
                   ret := by intro e' he; simp at he; subst he
                             exact errOK_cancel (anyScript_of_mapper hn (by simpa using suffix_head_mem (hs i (.cancel e :: sc) (by simp [hpc, mRem])))),
                   ole := by simp, once1 := by simp, once2 := by simp, rcd := by simp, ccd := by simp,
                   finw := fun hfin => (I.finw hfin).elim (fun h2 => by omega) Or.inr }
  case mPanic i sc hpc =>
    exact (invC_mp_upd I .recovered (by simp [mRem])
      (fun _ => hasPanic_of_suffix (hs i (.panic :: sc) (by simp [hpc, mRem]))) (by simp))
  case mCrash i v sc hpc _ => exact invC_mp_upd I .crash (by simp [mRem]) (by simp) (by simp)
  case mDrainClosed i sc hpc _ =>
    exact { I with msuf := msuf_upd I _ (by simp [mRem]; exact hs i sc (by simp [hpc, mRem])),
                   mcd := mcd_upd I _ (by simp) (by simp), mpan := mpan_upd I _ (by simp),
                   once1 := fun _ => I.once1 (I.mcd i sc hpc), rcd := by simp, ccd := by simp,
                   ole := by simp, once2 := by simp, finw := by simp }
  case mRecovered i hpc =>
    exact (invC_mp_upd I .pwrite (by simp [mRem]) (fun _ => I.mpan i (Or.inl hpc)) (by simp)).congr rfl
  case mWon i hpc _ =>
    exact (invC_mp_upd I .psend (by simp [mRem]) (fun _ => I.mpan i (Or.inr (Or.inl hpc)))
      (by simp)).congr rfl
  case mSendBuf i hpc _ _ =>
    have hn := hi i (by simp [hpc])
    have hp := I.mpan i (Or.inr (Or.inr hpc))
    exact { invC_mp_upd I .wgdone (by simp [mRem]) (by simp) (by simp) with
              pb := by intro p hp'; simp at hp'; subst hp'; simp [allowed0, hn, hp] }
  case mSendCaller i hpc _ _ =>
    have hn := hi i (by simp [hpc])
    have hp := I.mpan i (Or.inr (Or.inr hpc))
    exact { invC_mp_upd I .wgdone (by simp [mRem]) (by simp) (by simp) with
              cce := by simp, cdr := by intro p hp'; simp at hp'; subst hp'; simp [allowed0, hn, hp],
              cres := by simp, ccd := by simp }
  case mWgDone i hpc => exact (invC_mp_upd I .unpool (by simp [mRem]) (by simp) (by simp)).congr rfl
  case mUnpool i hpc => exact (invC_mp_upd I .done (by simp [mRem]) (by simp) (by simp)).congr rfl
  case rEnd hpc =>
    exact (invC_rp_upd I (.drain none) (by simp [hpc]) (by simp [rRem]) (by simp) (by simp)).congr rfl
  case rReadOne sc _ _ hpc _ | rReadOneClosed sc hpc _ _ | rReadAllClosed sc hpc _ _ | rWriteSkip _ sc hpc _ |
       rCancelLate _ sc hpc _ _ | rSendDropped _ sc _ hpc _ _ =>
    exact (invC_rp_upd I (.run sc) (by simp [hpc]) (by simp [rRem]; exact suffix_tail (I.rsuf _ (by rw [hpc]; rfl)))
      (by simp) (by simp)).congr rfl
  case rReadAll | rDrain => exact I.congr rfl
  case rWrite v sc hpc _ =>
    exact (invC_rp_upd I (.send v sc) (by simp [hpc]) (by simp [rRem]; exact I.rsuf _ (by rw [hpc]; rfl))
      (by simp) (by simp)).congr rfl
  case rCancel e sc hpc h0 =>
    have hs := I.rsuf (.cancel e :: sc) (by rw [hpc]; rfl)
    exact { I with rsuf := by simp [rRem]; exact suffix_tail hs, rpan := by simp,
                   ret := by intro e' he; simp at he; subst he; exact errOK_cancel (anyScript_of_reducer (by simpa using suffix_head_mem hs)),
                   ole := by simp, once1 := by simp, once2 := by simp, rcd := by simp, ccd := by simp, mcd := by simp,
                   finw := by intro hf; have := hfw (by simp [hpc]) hf; omega }
  case rPanic sc hpc =>
    have hs := I.rsuf (.panic :: sc) (by rw [hpc]; rfl)
    exact (invC_rp_upd I (.drain (some .reducer)) (by simp [hpc]) (by simp [rRem])
      (by intro p hp; simp at hp; subst hp; exact hasPanic_of_suffix hs) (by simp)).congr rfl
  case rSendClosed v sc hpc hfin =>
    -- the output is closed: some cancel has recorded an error, so somebody cancels or the context can end
    have hv : v ∈ writesOf c.rscript := mem_writesOf.mpr (suffix_head_mem (I.rsuf (.write v :: sc) (by rw [hpc]; rfl)))
    obtain ⟨e, he⟩ := Option.ne_none_iff_exists'.mp (I.once1 (by have := hfw (by simp [hpc]) hfin; omega))
    have hf := errOK_faulty (I.ret e he)
    exact (invC_rp_upd I (.drain (some .sendClosed)) (by simp [hpc]) (by simp [rRem])
      (by intro p hp; simp at hp; subst hp
          simp only [allowed0, Bool.and_eq_true, Bool.not_eq_true', Bool.or_eq_true]
          refine ⟨?_, ?_⟩
          · cases hw : writesOf c.rscript with
            | nil => simp [hw] at hv
            | cons a l => rfl
          · rcases hf with h | h | h <;> simp [h])
      (by simp)).congr rfl
  case rSendErr v sc e hpc hfin hc he | rSendVal v sc hpc hfin hc he =>
    have hs := I.rsuf (.write v :: sc) (by rw [hpc]; rfl)
    exact { I with cce := by simp, rsuf := by simp [rRem]; exact suffix_tail hs, rpan := by simp, rcd := by simp,
                   cdr := by simp, ccd := by simp,
                   cres := by
                     intro r hr; simp at hr; subst hr
                     first | exact errOK_allowed (I.ret _ he)
                           | simpa [allowed0] using mem_writesOf.mpr (suffix_head_mem hs),
                   finw := fun hf => Or.inl (hfw (by simp [hpc]) hf) }
  case rSendSecond v sc r hpc hfin hc =>
    have hs := I.rsuf (.write v :: sc) (by rw [hpc]; rfl)
    have hm := hm r hc (by simpa using hfin)
    exact { I with cce := by simp, rsuf := by simp [rRem]; exact suffix_tail hs, rpan := by simp, rcd := by simp,
                   cdr := by simp, ccd := by simp,
                   cres := by
                     intro r' hr; simp at hr; subst hr
                     simp [hpc, rW, rRem, writesOf] at hm
                     simp [allowed0]; omega,
                   finw := fun hf => Or.inl (hfw (by simp [hpc]) hf) }
  case rCdrainClosed sc hpc _ =>
    exact { I with rsuf := by simp [rRem]; exact I.rsuf sc (by rw [hpc]; rfl), rpan := by simp,
                   once1 := fun _ => I.once1 (I.rcd sc hpc), rcd := by simp, ccd := by simp, mcd := by simp,
                   ole := by simp, once2 := by simp, finw := by simp }
  case rDrainPanic pv hpc _ _ =>
    exact (invC_rp_upd I (.pwrite pv) (by simp [hpc]) (by simp [rRem])
      (by intro p hp; simp at hp; subst hp; exact I.rpan pv (Or.inl hpc)) (by simp))
  case rDrainEnd hpc _ _ | rLost _ hpc _ =>
    exact invC_rp_upd I .finish (by simp [hpc]) (by simp [rRem]) (by simp) (by simp)
  case rWon pv hpc _ =>
    exact (invC_rp_upd I (.psend pv) (by simp [hpc]) (by simp [rRem])
      (by intro p hp; simp at hp; subst hp; exact I.rpan pv (Or.inr (Or.inl hpc))) (by simp)).congr rfl
  case rSendBuf pv hpc _ _ =>
    exact { invC_rp_upd I .finish (by simp [hpc]) (by simp [rRem]) (by simp) (by simp) with
              pb := by intro p hp'; simp at hp'; subst hp'; exact I.rpan pv (Or.inr (Or.inr hpc)) }
  case rSendCaller pv hpc _ _ =>
    exact { invC_rp_upd I .finish (by simp [hpc]) (by simp [rRem]) (by simp) (by simp) with
              cce := by simp, cdr := by intro p hp'; simp at hp'; subst hp'; exact I.rpan pv (Or.inr (Or.inr hpc)),
              cres := by simp, ccd := by simp }
  case rFinish hpc =>
    exact { I with rsuf := by simp [rRem], rcd := by simp, rpan := by simp, once2 := by simp, finw := by simp }
  case cCtx hg =>
    exact { I with cdr := by simp, ccd := by simp, cres := by simp, cce := fun _ => I.ctx hg.2 }
  case cPanic p _ hb =>
    exact { I with ccd := by simp, cres := by simp, cce := by simp, pb := by simp,
                   cdr := by intro p' h'; simp at h'; subst h'; exact I.pb p hb }
  case cOut hg =>
    exact { I with cdr := by simp, ccd := by simp, cce := by simp,
                   cres := by
                     intro r hr; simp at hr; subst hr
                     unfold outRes; split
                     next e he => exact errOK_allowed (I.ret e he)
                     next => rfl }
  case cCancel hpc h0 =>
    -- the caller only enters cancel after it saw ctx.Done
    have hctx := I.cce (Or.inl hpc)
    exact { I with ret := by intro e he; simp at he; subst he; simpa [errOK, allowed0] using hctx,
                   ole := by simp, once1 := by simp, once2 := by simp, rcd := by simp, ccd := by simp, mcd := by simp,
                   cdr := by simp, cres := by simp, cce := fun _ => hctx,
                   finw := fun hf => (I.finw hf).elim (fun h2 => by omega) Or.inr }
  case cCancelLate hpc h0 h1 =>
    have hctx := I.cce (Or.inl hpc)
    exact { I with cdr := by simp, ccd := by simp, cce := by simp,
                   cres := by intro r hr; simp at hr; subst hr; simpa [allowed0] using hctx }
  case cDrainClosed hpc _ =>
    have hctx := I.cce (Or.inr hpc)
    exact { I with once1 := fun _ => I.once1 (I.ccd hpc), rcd := by simp, ccd := by simp, mcd := by simp,
                   ole := by simp, once2 := by simp, finw := by simp, cdr := by simp, cce := by simp,
                   cres := by intro r hr; simp at hr; subst hr; simpa [allowed0] using hctx }
  case cDrainOut p hpc hf =>
    exact { I with cdr := by simp, ccd := by simp, cce := by simp,
                   cres := by intro r hr; simp at hr; subst hr; exact I.cdr p hpc }
  case cDefer r hpc hf _ | cDeferOld r hpc hf _ =>
    exact { I with cdr := by simp, ccd := by simp, cce := by simp,
                   cres := by intro r' h'; simp at h'; subst h'; exact I.cres r (Or.inl hpc) }
  case cCheckPanic r p hpc hb =>
    exact { I with cdr := by simp, ccd := by simp, cce := by simp, pb := by simp,
                   cres := by intro r' h'; simp at h'; subst h'; exact I.pb p hb }
  case cCheck r hpc _ =>
    exact { I with cdr := by simp, ccd := by simp, cce := by simp,
                   cres := by intro r' h'; simp at h'; subst h'; exact I.cres r (Or.inr (Or.inl hpc)) }
  case env hg => exact { I with ctx := fun _ => Or.inl hg.1 }

end GoZero.C10
