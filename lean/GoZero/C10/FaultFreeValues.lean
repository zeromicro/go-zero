/-
C10 — the fault-free case, values: every value a mapper script writes is accepted by the collector exactly
once (no write is dropped when nothing is cancelled); a reducer that ranges over the pipe leaves nothing to
the deferred drain.
-/
import GoZero.C10.FaultFree
namespace GoZero.C10

/-- the values mapper goroutine `i` has still to write. -/
def pend (c : Cfg) (i : Nat) : MPc → List Nat
  | .idle => writesOf (c.mscript i)
  | .run sc => writesOf sc
  | .send v sc => v :: writesOf sc
  | .cdrain _ => []
  | .recovered => []
  | .pwrite => []
  | .psend => []
  | .wgdone => []
  | .unpool => []
  | .done => []
  | .crash => []

/-- how often the values still to be written by the mapper goroutines of the items `< n` contain `v`. -/
def sumP (c : Cfg) (v : Nat) (f : Nat → MPc) (n : Nat) : Nat := sumOver (fun i x => (pend c i x).count v) f n

theorem sumP_idle (c : Cfg) (v n : Nat) : sumP c v (fun _ => .idle) n = (writesOfItems c (List.range n)).count v := by
  induction n with
  | zero => rfl
  | succ n ih =>
    simp only [writesOfItems] at ih ⊢
    rw [List.range_succ, List.flatMap_append, List.count_append, ← ih]
    simp [sumP, sumOver, pend]

theorem sumP_ge (c : Cfg) (v : Nat) (f : Nat → MPc) (i n : Nat) (hi : i < n) : (pend c i (f i)).count v ≤ sumP c v f n :=
  sumOver_ge (fun i x => (pend c i x).count v) f i n hi

theorem sumP_upd_eq (c : Cfg) (v : Nat) (f : Nat → MPc) (i : Nat) (x : MPc) (n : Nat) (hi : i < n) :
    sumP c v (upd f i x) n = sumP c v f n - (pend c i (f i)).count v + (pend c i x).count v :=
  sumOver_upd_eq (fun i x => (pend c i x).count v) f i x n hi

theorem sumP_zero (c : Cfg) (v : Nat) (f : Nat → MPc) (n : Nat) (h : ∀ i, i < n → pend c i (f i) = []) : sumP c v f n = 0 :=
  sumOver_zero (fun i x => (pend c i x).count v) f n fun i hi => by simp [h i hi]

/-- nothing is dropped: accepted + still to be written = everything the scripts write. -/
def sentInv (c : Cfg) (s : St) : Prop := ∀ v, s.sent.count v + sumP c v s.mp c.n = sumP c v (fun _ => .idle) c.n

/-- a mapper goroutine counted by the wait group excludes a closed collector (hence `finish` by the reducer). -/
theorem open_while_inWg {c : Cfg} {s : St} (IB : Inv c s) {i : Nat} (hi : i < c.n) (hw : inWg (s.mp i) = true) :
    s.collClosed = false := by
  cases hcl : s.collClosed with
  | false => rfl
  | true =>
    have h0 := IB.dafter (IB.collc hcl).1
    have := cnt_ge inWg s.mp c.n i hi
    rw [hw] at this
    have := IB.wgc
    simp [b2n] at *
    omega

section
attribute [local grind] pend upd inWg rAfterDrain writesOf

theorem sentInv_mapper {c : Cfg} {s s' : St} (i : Nat) (F : FFacts c) (I0 : Inv c s)
    (I : sentInv c s) (h : stepMapper c s i = some s') : sentInv c s' := by
  intro v
  have Iv := I v
  have X := xs_of F I0
  obtain ⟨-, honce, hctx, -, -, hm1, hm2, hm3, hm4, -, -, -, -, -, hfinr⟩ := X
  by_cases hidle : s.mp i = .idle
  · simp [stepMapper, hidle] at h
  have hi := I0.mlt i hidle
  have hge := sumP_ge c v s.mp i c.n hi
  have hopen := fun hw => open_while_inWg I0 hi hw
  have hr1 := I0.r1
  clear I0 I
  cases step_leaf (a := (.mapper i)) h
  all_goals (simp only [sumP_upd_eq c v s.mp i _ c.n hi, List.count_append, List.count_cons, List.count_nil]; grind)

theorem sentInv_disp {c : Cfg} {s s' : St} (I0 : Inv c s) (I : sentInv c s)
    (h : stepDisp c s = some s') : sentInv c s' := by
  intro v
  have Iv := I v
  have hsp := I0.spawnlt
  have hsi := I0.spawnidle
  clear I0 I
  cases step_leaf (a := .disp) h
  case dSpawn i hd =>
    have hi := hsp i hd
    have hge := sumP_ge c v s.mp i c.n hi
    simp only [sumP_upd_eq c v s.mp i _ c.n hi]
    grind
  all_goals (first | exact Iv | grind)

end

theorem sentInv_step {c : Cfg} {s s' : St} (a : Actor) (F : FFacts c) (I0 : Inv c s)
    (I : sentInv c s) (h : step c s a = some s') : sentInv c s' := by
  cases a with
  | disp => exact sentInv_disp I0 I h
  | mapper i => exact sentInv_mapper i F I0 I h
  | _ =>
    intro v
    have Iv := I v
    have hf : s'.sent = s.sent ∧ s'.mp = s.mp := by
      cases step_leaf h <;> exact ⟨rfl, rfl⟩
    rw [hf.1, hf.2]; exact Iv

theorem sentInv_reach {c : Cfg} (hff : faultFree c = true) {s : St} (h : Reach c s) : sentInv c s := by
  induction h with
  | init => intro v; simp [init]
  | step a hr hs ih => exact sentInv_step a (ffacts_of hff) (inv_reach hr) ih hs

/-- what the reducer's position says when its script ranges over the pipe: past the `readAll` the collector is closed
and empty. -/
def RangedAt (s : St) : RPc → Prop
  | .run l | .send _ l | .cdrain l => UAct.readAll ∉ l → closedEmpty s
  | _ => closedEmpty s

structure InvR (c : Cfg) (s : St) : Prop where
  ranged : UAct.readAll ∈ c.rscript → RangedAt s s.rpc
  ra3 : UAct.readAll ∈ c.rscript → s.drained = []

theorem invR_step {c : Cfg} {s s' : St} (a : Actor) (F : FFacts c) (I0 : Inv c s) (I : InvR c s)
    (h : step c s a = some s') : InvR c s' := by
  obtain ⟨ranged, ra3⟩ := I
  by_cases ha : a = .red
  · -- the reducer's own rows: the assertion of the position it moves to
    subst ha
    have X := xs_of F I0
    obtain ⟨-, -, -, -, -, -, -, -, -, -, -, hr3, -, -, hfinr⟩ := X
    clear I0
    cases step_leaf h
    all_goals refine ⟨fun hra => ?_, fun hra => ?_⟩
    all_goals have ranged := ranged hra
    all_goals have ra3 := ra3 hra
    all_goals first
      | exact ra3
      | (rw [‹s.rpc = _›] at ranged; simp only [RangedAt, closedEmpty] at ranged ⊢; grind)
  · -- everybody else leaves the reducer and `drained` alone, and a closed and empty collector stays so
    obtain ⟨hr, -, -⟩ := red_owns h ha
    have hd := (collQ_owns h ha).1
    have keep := closedEmpty_keeps h ha
    refine ⟨fun hra => ?_, fun hra => hd ▸ ra3 hra⟩
    have := ranged hra
    rw [hr]
    cases hp : s.rpc <;> simp only [hp, RangedAt] at this ⊢ <;> first | exact keep this | exact fun x => keep (this x)

theorem invR_reach {c : Cfg} (hff : faultFree c = true) {s : St} (h : Reach c s) : InvR c s := by
  induction h with
  | init => exact ⟨fun h h' => absurd h h', fun _ => rfl⟩
  | step a hr hs ih => exact invR_step a (ffacts_of hff) (inv_reach hr) ih hs

end GoZero.C10
