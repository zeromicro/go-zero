/-
C10 — property theorems without the side conditions of Props / PropsNow:
 (a) `ForEach` / `FinishVoid` WITH a context as an instance of the core (the caller has no context case: `stepF`);
 (b) a reducer that writes three or more times: the no-leak theorem without the bound;
 (c) every exit kind of the user functions (return, runtime.Goexit, panic(v), panic(nil));
 (d) the private wrapper `cancelError` over error values: no wrapper escapes, the user's value comes back;
 (e) deadlock freedom / termination for the code as it is now (markCancel wrappers, once);
 and what a recycled panic channel would do (one call = one fresh state).
-/
import GoZero.C10.Props5
import GoZero.C10.ForEachCtx
import GoZero.C10.SpecValues
namespace GoZero.C10.Props6
open GoZero.C10

/-! ### (b) any number of reducer writes -/

inductive StepsA' (c : Cfg) (stp : St → Actor → Option St) : St → St → Prop
  | refl (s : St) : StepsA' c stp s s
  | step {s s1 s2 : St} (a : Actor) : stp s a = some s1 → StepsA' c stp s1 s2 → StepsA' c stp s s2

/-- **No deadlock, any number of reducer writes**: a reachable configuration in which nothing can move is final and
clean, or the reducer function has NOT returned: it is blocked in a `Write` that is at least its third, after the
caller has left with the library's panic "more than one element written in reducer". -/
theorem stuck_is_final_or_blocked_late_write (c : Cfg) (hf : c.fixed = true) (hw : 1 ≤ c.workers) (s : St)
    (h : ReachA c s) (hst : ∀ a, stepA c s a = none) :
    (result s ≠ none ∧ aliveCount c s = 0) ∨ blockedInLateWrite c s :=
  stuck_core c hf hw s (reachA_reach h) (fun a _ => (stepA_none_iff a hf (reachA_reach h)).mp (hst a))

/-- a reducer blocked that way writes at least three times and has not returned; the call itself HAS returned. -/
theorem blocked_late_write_facts (c : Cfg) (s : St) (h : blockedInLateWrite c s) :
    3 ≤ (writesOf c.rscript).length ∧ s.rpc ≠ .done ∧ result s = some (.panic .multi) := by
  obtain ⟨v, sc, hrs, hc, _, h2⟩ := h
  refine ⟨?_, by rw [hrs]; simp, by simp [result, hc]⟩
  rw [hrs] at h2
  simp [rW, rRem, writesOf] at h2
  omega

/-- **A run ends (any number of reducer writes)**: from every reachable configuration of the code as it is now a run ends
with the caller returned and no goroutine alive — or with the reducer function blocked in its third-or-later Write
(that user function has not returned: the clause "once the user functions have returned" does not apply; what is
alive then is that reducer and whoever waits behind it). -/
theorem every_run_ends_clean_or_blocked_late_write (c : Cfg) (hf : c.fixed = true) (hw : 1 ≤ c.workers) (s : St)
    (h : ReachA c s) :
    ∃ s', StepsA' c (stepA c) s s' ∧ ReachA c s' ∧ (∀ a, stepA c s' a = none) ∧
      ((result s' ≠ none ∧ aliveCount c s' = 0) ∨ blockedInLateWrite c s') := by
  obtain ⟨s', h1, h2, h3⟩ := run_to_stuck (stepA c) (ReachA c) (mu c) (StepsA' c (stepA c)) .refl .step
    (fun _ a _ hr hs => ⟨ReachA.step a hr hs, muA_step a (reachA_reach hr) hs⟩) s h
  exact ⟨s', h1, h2, h3, stuck_is_final_or_blocked_late_write c hf hw s' h2 h3⟩

/-- with at most two writes the second disjunct is impossible (`PropsNow.every_run_ends_clean_now`). -/
theorem blocked_late_write_needs_three (c : Cfg) (s : St) (hr : (writesOf c.rscript).length ≤ 2) :
    ¬ blockedInLateWrite c s := fun h => by have := (blocked_late_write_facts c s h).1; omega

def threeWrites : Cfg :=
  { n := 0, workers := 1, gPanicAt := none, mscript := fun _ => [], rscript := [.write 1, .write 2, .write 3],
    ctxCan := false, ctxPre := false, fixed := true }

example : let s := runPrioA threeWrites (actors 0) 200 (init threeWrites)
    result s = some (.panic .multi) ∧ aliveCount threeWrites s = 1 ∧ (∀ a ∈ actors 0, stepA threeWrites s a = none) := by
  decide

/-! ### (a) ForEach / FinishVoid with a context -/

/-- `ForEach(generate, mapper, WithWorkers(w), WithContext(ctx))`: `can` = the context may end during the call,
`pre` = it is over from the start.  The caller's loop has no context case: runs are `stepF` runs. -/
def forEachCtxCfg (n : Nat) (w : Int) (gp : Option Nat) (pan : Nat → Bool) (can pre : Bool) : Cfg :=
  { forEachCfg n w gp pan with ctxCan := can, ctxPre := pre }

/-- every safety theorem of the core holds for ForEach with a context: its runs are runs of the core. -/
theorem forEachCtx_refines (c : Cfg) (s : St) (h : ReachF c s) : ReachA c s := reachF_reachA h

/-- **outcome**: ForEach with a context returns, or re-raises a panic of the generator or of a mapper — never an error,
in particular never the deadline error the other entry points return when the context ends. -/
theorem forEachCtx_outcome (n : Nat) (w : Int) (gp : Option Nat) (pan : Nat → Bool) (can pre : Bool) (s : St)
    (h : ReachF (forEachCtxCfg n w gp pan can pre) s) (r : Res) (hr : result s = some r) :
    r = .err .noOutput ∨ (r = .panic .gen ∧ ∃ k, gp = some k ∧ k ≤ n) ∨ (∃ i, i < n ∧ pan i = true ∧ r = .panic (.mapper i)) := by
  have ha := returns_expected_error _ s (reachA_reach (reachF_reachA h)) r hr
  rcases forEach_allowed (pan := pan) rfl rfl ha with h1 | h1 | h1 | h1
  · exact Or.inl h1
  · subst h1; exact absurd rfl ((invFJ_reachF h).j4 _ (Or.inr (Or.inr (result_eq_some.mp hr))))
  · exact Or.inr (Or.inl h1)
  · exact Or.inr (Or.inr h1)

/-- **no deadlock, no leak**: a run of ForEach with a context from every reachable configuration — the context ending at any moment or
being over from the start — ends with the call returned and no goroutine alive, although the caller
never looks at the context (the dispatcher does). -/
theorem forEachCtx_ends_clean (n : Nat) (w : Int) (gp : Option Nat) (pan : Nat → Bool) (can pre : Bool) (s : St)
    (h : ReachF (forEachCtxCfg n w gp pan can pre) s) :
    ∃ s', StepsA' (forEachCtxCfg n w gp pan can pre) (stepF (forEachCtxCfg n w gp pan can pre)) s s' ∧
      (∀ a, stepF (forEachCtxCfg n w gp pan can pre) s' a = none) ∧ result s' ≠ none ∧
      aliveCount (forEachCtxCfg n w gp pan can pre) s' = 0 := by
  generalize hc : forEachCtxCfg n w gp pan can pre = c at h ⊢
  have hf : c.fixed = true := by subst hc; rfl
  have hw : 1 ≤ c.workers := by subst hc; exact clampWorkers_ge_one _
  have hr2 : (writesOf c.rscript).length ≤ 2 := by subst hc; simp [forEachCtxCfg, forEachCfg, writesOf]
  obtain ⟨s', h1, h2, h3⟩ := run_to_stuck (stepF c) (ReachF c) (mu c) (StepsA' c (stepF c)) .refl .step
    (fun _ a _ hr hs => ⟨ReachF.step a hr hs, muA_step a (reachA_reach (reachF_reachA hr)) (stepF_stepA hs).2⟩) s h
  have R := reachA_reach (reachF_reachA h2)
  have := stuck_core_le2 c hf hw hr2 s' R fun a hne => by
    have := h3 a
    simp only [stepF, hne, if_false] at this
    exact (stepA_none_iff a hf R).mp this
  exact ⟨s', h1, h3, this.1, this.2⟩

/-- the mapper cap and exactly-once hand-out hold for ForEach with a context as for every run of the core. -/
theorem forEachCtx_cap_and_once (c : Cfg) (s : St) (h : ReachF c s) (i : Nat) :
    cnt mRunning s.mp c.n ≤ c.workers ∧ s.mapped.count i ≤ 1 :=
  ⟨(mapper_cap c s (reachA_reach (reachF_reachA h))).1, no_item_mapped_twice c s (reachA_reach (reachF_reachA h)) i⟩

example : let c := forEachCtxCfg 3 2 none (fun i => i == 1) false true
    let s := runPrioA c ((actors c.n).filter (· ≠ .callerCtx)) 400 (init c)
    (result s).isSome ∧ aliveCount c s = 0 := by decide

/-! ### (e) deadlock freedom and termination for the code as it is now (markCancel, once)

`markCancel` wraps the ARGUMENT of a cancel call (a pure function of the error value, no channel / lock / goroutine);
`once` is the model's `St.once`.  A MapReduceVoid / Finish call is therefore the core run on the configuration whose
cancel arguments are mapped through an arbitrary code function — and the theorems hold for EVERY configuration. -/

def mapCancelAct (f : Option Nat → Option Nat) : UAct → UAct
  | .cancel e => .cancel (f e)
  | a => a

/-- the configuration of a call whose user functions get a cancel that transforms its argument (`markCancel`). -/
def mapCancels (f : Option Nat → Option Nat) (c : Cfg) : Cfg :=
  { c with mscript := fun i => (c.mscript i).map (mapCancelAct f), rscript := c.rscript.map (mapCancelAct f) }

theorem writesOf_mapCancels (f : Option Nat → Option Nat) (sc : List UAct) :
    writesOf (sc.map (mapCancelAct f)) = writesOf sc := by
  induction sc with
  | nil => rfl
  | cons a t ih => cases a <;> simp [mapCancelAct, writesOf, ih]

/-- **no deadlock / every run ends clean with the cancel wrappers in place**, for every wrapper function, every
configuration, every schedule. -/
theorem ends_clean_with_cancel_wrappers (f : Option Nat → Option Nat) (c : Cfg) (hf : c.fixed = true)
    (hw : 1 ≤ c.workers) (hr : (writesOf c.rscript).length ≤ 2) (s : St) (h : ReachA (mapCancels f c) s) :
    ∃ s', StepsA (mapCancels f c) s s' ∧ (∀ a, stepA (mapCancels f c) s' a = none) ∧ result s' ≠ none ∧
      aliveCount (mapCancels f c) s' = 0 :=
  ends_clean_now (mapCancels f c) hf hw (by simpa [mapCancels, writesOf_mapCancels] using hr) s h

theorem terminates_with_cancel_wrappers (f : Option Nat → Option Nat) (c : Cfg) :
    ∃ μ : St → Nat, ∀ s a s', ReachA (mapCancels f c) s → stepA (mapCancels f c) s a = some s' → μ s' < μ s :=
  terminates_now (mapCancels f c)

/-! ### (d) `cancelError` as the wrapper it is: no wrapper escapes, the caller gets the user's error VALUE itself -/

/-- **identity**: `MapReduceVoid` / `Finish` return the very value that was passed to cancel — for EVERY value `e`
(the library's sentinels, values that wrap them, even a value that is itself a `cancelError`) — and ErrCancelWithNil
for nil; whatever `output` delivered. -/
theorem void_returns_the_very_value (e : GErr) (ok : Bool) (v : Nat) : voidPathW (some e) ok v = some e := by
  simp [voidPathW, markCancelW, cancelRecordsW, callerOutputW, voidReturnW]

theorem void_nil_cancel (ok : Bool) (v : Nat) : voidPathW none ok v = some (.code (encErr .nilCancel)) := by
  simp [voidPathW, markCancelW, cancelRecordsW, callerOutputW, voidReturnW, isNoOutputW, isNoOutput, encErr]

/-- `MapReduce` / `MapReduceChan`: no wrapping at all. -/
theorem mr_returns_the_very_value (e : GErr) (ok : Bool) (v : Nat) : mrPathW (some e) ok v = some e := by
  simp [mrPathW, cancelRecordsW, callerOutputW]

/-- **no `cancelError` ever escapes**: whatever a public entry point returns — after a user cancel with an unwrapped
value (users cannot build a `cancelError`: the type is unexported), after cancel(nil), or for an error the library
reports itself — is not a `cancelError`. -/
theorem no_cancelError_escapes (e : Option GErr) (he : ∀ x, e = some x → GErr.isMarked x = false) (ok : Bool) (v : Nat)
    (own : Option Err) :
    (∀ r, voidPathW e ok v = some r → GErr.isMarked r = false) ∧ (∀ r, mrPathW e ok v = some r → GErr.isMarked r = false) ∧
    (∀ r, voidOwnW own = some r → GErr.isMarked r = false) := by
  refine ⟨?_, ?_, ?_⟩
  · intro r hr
    cases e with
    | none => rw [void_nil_cancel] at hr; cases hr; rfl
    | some x => rw [void_returns_the_very_value] at hr; cases hr; exact he _ rfl
  · intro r hr
    cases e with
    | none => simp [mrPathW, cancelRecordsW, callerOutputW] at hr; subst hr; rfl
    | some x => rw [mr_returns_the_very_value] at hr; cases hr; exact he _ rfl
  · intro r hr
    cases own with
    | none => simp [voidOwnW, voidReturnW, isNoOutputW] at hr
    | some x =>
      simp only [voidOwnW, Option.map, voidReturnW] at hr
      split at hr <;> simp at hr
      subst hr; rfl

/-- the library's own reports through `MapReduceVoid`: "no output" becomes nil, everything else is unchanged. -/
theorem void_own_errors (x : Err) :
    voidOwnW (some x) = if x = .noOutput ∨ x = .user 111 ∨ x = .user 112 then none else some (.code (encErr x)) := by
  cases x with
  | user k =>
    simp only [voidOwnW, Option.map, voidReturnW, isNoOutputW, isNoOutput, encErr]
    by_cases h1 : k = 111 <;> by_cases h2 : k = 112 <;> simp_all <;> omega
  | _ => simp [voidOwnW, voidReturnW, isNoOutputW, isNoOutput, encErr]

/-- the model of SpecGlue (a boolean next to the code) is the projection of this one. -/
theorem marked_model_projects (k : Nat) (ok : Bool) (v : Nat) :
    voidPathW (some (.code k)) ok v = (voidCancelPipeline (some k) ok v).map .code := by
  rw [void_returns_the_very_value, Props5.void_returns_the_cancel_error]; rfl

/-! ### (c) exit kinds of the user functions: return, runtime.Goexit, panic(v), panic(nil) -/

/-- Goexit is a return, panic(nil) is a panic: the goroutine of the library runs the same deferred statements. -/
theorem goexit_is_return (d : Bool → List String) : goroutineRuns d .goexit = goroutineRuns d .ret := rfl
theorem panicNil_is_panic (d : Bool → List String) : goroutineRuns d .panicNil = goroutineRuns d .panicVal := rfl

theorem writesOf_withExit (sc : List UAct) (x : UExit) : writesOf (withExit sc x) = writesOf sc := by
  have h : ∀ l : List UAct, writesOf (l ++ [.panic]) = writesOf l := by
    intro l
    induction l with
    | nil => rfl
    | cons a t ih => cases a <;> simp [writesOf, ih]
  cases x <;> simp [withExit, h]

/-- **termination, no deadlock, no leak for every assignment of exit kinds** to the mappers, the reducer and the
generator (every schedule, every configuration). -/
theorem ends_clean_for_every_exit_kind (c : Cfg) (mx : Nat → UExit) (rx gx : UExit) (hf : c.fixed = true)
    (hw : 1 ≤ c.workers) (hr : (writesOf c.rscript).length ≤ 2) (s : St)
    (h : ReachA (withGenExit (withExits c mx rx) gx) s) :
    ∃ s', StepsA (withGenExit (withExits c mx rx) gx) s s' ∧
      (∀ a, stepA (withGenExit (withExits c mx rx) gx) s' a = none) ∧ result s' ≠ none ∧
      aliveCount (withGenExit (withExits c mx rx) gx) s' = 0 := by
  apply ends_clean_now _ _ _ _ s h
  · cases gx <;> simpa [withGenExit, withExits] using hf
  · cases gx <;> simpa [withGenExit, withExits] using hw
  · cases gx <;> simpa [withGenExit, withExits, writesOf_withExit] using hr

/-- **returned error / re-raised panic for every exit kind**: the outcome is in the table of the configuration with
the exits compiled in; a re-raised panic is one of a function that ends by a panic (or panics in its script). -/
theorem outcome_for_every_exit_kind (c : Cfg) (mx : Nat → UExit) (rx gx : UExit) (s : St)
    (h : ReachA (withGenExit (withExits c mx rx) gx) s) (r : Res) (hr : result s = some r) :
    allowed (withGenExit (withExits c mx rx) gx) r = true :=
  returns_expected_error _ s (reachA_reach h) r hr

/-- a function that ends by Goexit contributes exactly its script: nothing of it is a panic source; one that ends by
`panic(nil)` panics. -/
theorem goexit_adds_no_panic (sc : List UAct) : hasPanic (withExit sc .goexit) = hasPanic sc ∧
    hasPanic (withExit sc .panicNil) = true := by
  simp [withExit, hasPanic]

/-! ### one call = one fresh state: what a recycled panic channel does -/

/-- a call whose functions neither cancel nor panic. -/
def quietCall : Cfg :=
  { n := 1, workers := 1, gPanicAt := none, mscript := fun _ => [.write 8], rscript := [.readAll, .write 8],
    ctxCan := false, ctxPre := false, fixed := true }

/-- `reraised_panic_is_user_panic` for the code as it is now: a call started from `init` (a fresh panic channel)
re-raises a mapper panic only if that mapper's script panics. -/
theorem fresh_call_reraises_only_own_panics (c : Cfg) (s : St) (h : ReachA c s) (i : Nat)
    (hr : result s = some (.panic (.mapper i))) : i < c.n ∧ UAct.panic ∈ c.mscript i :=
  reraised_panic_is_user_panic c s (reachA_reach h) i hr

/-- `quietCall` started on a RECYCLED panic channel that holds the panic of a straggler of an earlier call (seeded C10-9:
sync.Pool of onceChans; the model's `pbuf` not empty at the start) re-raises that foreign panic (from `init` it returns the reducer's value, 4th conjunct): a panic of
"mapper 7" in a call with one item, whose functions do not panic.  So `init` (empty buffer) is an OBLIGATION on the
code: `Tie.tie_mapReduceState`, `tie_newOnceChanAlloc`, `tie_all_state_per_call`, `tie_packageState`. -/
theorem stale_panic_buffer_is_reraised :
    let s0 : St := { init quietCall with pbuf := some (.mapper 7) }
    let s := runPrioA quietCall (actors 1) 200 s0
    result s = some (.panic (.mapper 7)) ∧ hasPanic (quietCall.mscript 0) = false ∧ hasPanic quietCall.rscript = false ∧
    result (runPrioA quietCall (actors 1) 200 (init quietCall)) = some (.val 8) := by decide

end GoZero.C10.Props6
