/-
C10 — the ghost bookkeeping every run keeps (`InvG`, `InvG2`).  Each clause follows from what a step can do to the
fields it reads (`GhostMoves`, proved once from the step table).
-/
import GoZero.C10.Inv
import GoZero.C10.Effects
namespace GoZero.C10

/-- one move of a mapper goroutine: once started it never returns to idle; it comes to `onceChan.write` by counting
`failed` (`F`), and leaves `pwrite` with the flag set (`W`), by itself or by an earlier winner. -/
def MpMove (F W : Prop) (y y' : MPc) : Prop :=
  (y ≠ .idle → y' ≠ .idle) ∧ ((y' = .pwrite ∨ y' = .psend) → (y = .pwrite ∨ y = .psend) ∨ F) ∧
  (y = .pwrite → y' = .pwrite ∨ W)

theorem MpMove.refl (F W : Prop) (y : MPc) : MpMove F W y y := ⟨id, Or.inl, Or.inl⟩

/-- what a step does to the fields the bookkeeping reads. -/
structure GhostMoves (s s' : St) : Prop where
  mp : ∀ j, MpMove (s'.failed ≠ 0) (s'.wrote = true) (s.mp j) (s'.mp j)
  /-- an item is logged as handed out in the step that starts its goroutine -/
  mapped : s'.mapped = s.mapped ∨ ∃ i, s'.mapped = s.mapped ++ [i] ∧ s'.mp i ≠ .idle
  /-- `failed` is counted by a goroutine that then stands at `pwrite` -/
  failed : s'.failed = s.failed ∨ ∃ i, s'.mp i = .pwrite
  /-- the caller takes the panic value on its way to re-raising it, and stays on that way -/
  consumed : s'.consumed = s.consumed ∨ cPan s'.cpc = true
  cpan : cPan s.cpc = true → cPan s'.cpc = true

theorem step_ghost {c : Cfg} {s s' : St} {a : Actor} (hsi : ∀ i, s.dpc = .spawn i → s.mp i = .idle)
    (h : step c s a = some s') : GhostMoves s s' := by
  cases step_leaf h <;> constructor <;>
    first | exact id | exact fun _ => MpMove.refl _ _ _ | exact Or.inl rfl | exact Or.inr rfl
          | exact Or.inr ⟨_, upd_same _ _ _⟩
          | (refine Or.inr ⟨_, rfl, ?_⟩; simp [upd]; done)
          | (refine fun j => upd_rel (MpMove.refl _ _) ?_ j; rw [‹s.mp _ = _›]; simp [MpMove, *]; done)
          | (refine fun j => upd_rel (MpMove.refl _ _) ?_ j; rw [hsi _ ‹_›]; simp [MpMove]; done)
          | (simp_all [cPan]; done)

/-- a mapper panic with no mapper left in the wait group: its panic (or an earlier one) was captured. -/
theorem InvG2.wrote_of_quiet {s : St} (I : InvG2 s) (hq : ∀ i, inWg (s.mp i) = false) (hp : s.failed ≠ 0) :
    s.wrote = true := by
  rcases I.g2 hp with h1 | ⟨i, h1⟩
  · exact h1
  · have := hq i; simp [h1, inWg] at this

theorem invG_step {c : Cfg} {s s' : St} (a : Actor) (IB : InvB c s) (I : InvG s) (I2 : InvG2 s)
    (h : step c s a = some s') : InvG s' ∧ InvG2 s' := by
  have e := step_ghost IB.spawnidle h
  have m := step_mono h
  refine ⟨⟨fun hc => ?_, fun i hi => ?_, fun j hj => ?_⟩, ⟨fun hf => ?_⟩⟩
  · exact e.consumed.elim (fun eq => e.cpan (I.k2 (eq ▸ hc))) id
  · rcases e.mapped with eq | ⟨i0, eq, h0⟩
    · exact (e.mp i).1 (I.n3 i (eq ▸ hi))
    · rw [eq, List.mem_append, List.mem_singleton] at hi
      exact hi.elim (fun h1 => (e.mp i).1 (I.n3 i h1)) fun h1 => h1 ▸ h0
  · exact ((e.mp j).2.1 hj).elim (fun h1 => m.failed (I.n6 j h1)) id
  · rcases e.failed with eq | ⟨i, hi⟩
    · rcases I2.g2 (eq ▸ hf) with h1 | ⟨i, h1⟩
      · exact Or.inl (m.wrote h1)
      · exact ((e.mp i).2.2 h1).elim (fun h2 => Or.inr ⟨i, h2⟩) Or.inl
    · exact Or.inr ⟨i, hi⟩

end GoZero.C10
