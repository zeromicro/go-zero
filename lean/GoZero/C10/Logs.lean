/-
C10 — what a step can do to the ghost logs (`logFrame_step`), and that it keeps the conservation of values and items.
-/
import GoZero.C10.Inv
namespace GoZero.C10

/-- what a step can do to the value logs. -/
def valFrame (s s' : St) : Prop :=
  (s'.sent = s.sent ∧ s'.reduced = s.reduced ∧ s'.drained = s.drained ∧ s'.collQ = s.collQ) ∨
  (∃ v, s'.sent = s.sent ++ [v] ∧ s'.collQ = s.collQ ++ [v] ∧ s'.reduced = s.reduced ∧ s'.drained = s.drained) ∨
  (∃ v, s.collQ = v :: s'.collQ ∧ s'.reduced = s.reduced ++ [v] ∧ s'.drained = s.drained ∧ s'.sent = s.sent) ∨
  (∃ v, s.collQ = v :: s'.collQ ∧ s'.drained = s.drained ++ [v] ∧ s'.reduced = s.reduced ∧ s'.sent = s.sent)

/-- what a step can do to the item logs. -/
def itemFrame (c : Cfg) (s s' : St) : Prop :=
  (s'.mapped = s.mapped ∧ s'.dropped = s.dropped ∧ s'.gNext = s.gNext ∧ (∀ i, s'.dpc = .spawn i ↔ s.dpc = .spawn i)) ∨
  (∃ j, srcRecv c s = some (some j) ∧ s'.dropped = s.dropped ++ [j] ∧ s'.gNext = s.gNext + 1 ∧ s'.mapped = s.mapped ∧ s'.dpc = s.dpc) ∨
  (∃ j, srcRecv c s = some (some j) ∧ s'.dpc = .spawn j ∧ s.dpc = .recv ∧ s'.gNext = s.gNext + 1 ∧ s'.mapped = s.mapped ∧ s'.dropped = s.dropped) ∨
  (∃ j, s.dpc = .spawn j ∧ s'.dpc = .loop ∧ s'.mapped = s.mapped ++ [j] ∧ s'.dropped = s.dropped ∧ s'.gNext = s.gNext)

theorem logFrame_step {c : Cfg} {s s' : St} (a : Actor) (h : step c s a = some s') :
    valFrame s s' ∧ itemFrame c s s' := by
  cases step_leaf h
  all_goals refine ⟨?_, ?_⟩
  all_goals first
    | exact Or.inl ⟨rfl, rfl, rfl, rfl⟩
    | exact Or.inl ⟨rfl, rfl, rfl, fun _ => Iff.rfl⟩
    | exact Or.inr (Or.inl ⟨_, ‹_›, rfl, rfl, rfl, rfl⟩)
    | exact Or.inr (Or.inl ⟨_, rfl, rfl, rfl, rfl⟩)
    | exact Or.inr (Or.inr (Or.inl ⟨_, ‹_›, rfl, rfl, rfl⟩))
    | exact Or.inr (Or.inr (Or.inr ⟨_, ‹_›, rfl, rfl, rfl⟩))
    | exact Or.inr (Or.inr (Or.inl ⟨_, ‹_›, rfl, ‹_›, rfl, rfl, rfl⟩))
    | exact Or.inr (Or.inr (Or.inr ⟨_, ‹_›, rfl, rfl, rfl, rfl⟩))
    | (simp_all [itemFrame]; done)

theorem valInv_frame {s s' : St} (I : valInv s) (f : valFrame s s') : valInv s' := by
  intro w
  have := I w
  rcases f with ⟨a, b, c, d⟩ | ⟨v, a, b, c, d⟩ | ⟨v, a, b, c, d⟩ | ⟨v, a, b, c, d⟩
  · rw [a, b, c, d]; exact this
  · rw [a, b, c, d]; simp only [List.count_append]; omega
  · rw [a] at this; rw [b, c, d]; simp only [List.count_append, List.count_cons, List.count_nil] at this ⊢; omega
  · rw [a] at this; rw [b, c, d]; simp only [List.count_append, List.count_cons, List.count_nil] at this ⊢; omega

theorem itemInv_frame {c : Cfg} {s s' : St} (I : itemInv s) (f : itemFrame c s s') : itemInv s' := by
  intro w
  have := I w
  rcases f with ⟨a, b, g, d⟩ | ⟨j, hr, b, g, a, d⟩ | ⟨j, hr, d', d, g, a, b⟩ | ⟨j, d, d', a, b, g⟩
  · have e := d w; grind
  · obtain ⟨rfl, _⟩ := srcRecv_item hr
    grind
  · obtain ⟨rfl, _⟩ := srcRecv_item hr
    grind
  · grind

end GoZero.C10
