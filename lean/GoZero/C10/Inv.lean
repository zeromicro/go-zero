/-
C10 — the invariant of every run, `Inv`, as groups of clauses.  A group whose premises read one program counter is an
assertion by cases on that counter (`RedAt`, `TakenAt`, `CallerEndAt`, `ExAt`, `DispAt`, `RanAt`): what holds while the thread stands
there.  It is kept under everybody else's steps because the flags it mentions only go up (`Effects.Mono`; for `RedAt`,
`TakenAt`, `CallerEndAt`, `ExAt`, `DispAt` as a `mono` lemma), and by the thread's own steps row by row.  Each group is kept by every
step in a module of its own (Provenance, Counting, Snapshots, ProgressInv, Faults, Ghosts, RanClean, Logs), which takes what
it needs of the other groups from `Inv` at the old configuration, so no group stands before another; `InvReach` puts
them together.  In those proofs the facts a row needs are named and the invariants cleared before the case split:
the price of a `grind` call follows the size of its context.
-/
import GoZero.C10.StepTable
namespace GoZero.C10

/-- behind the returned-error table: every script position is a suffix of its script, and every recorded error, held
outcome and panic value comes from a script or the context.  With it the protocol of `cancel`'s once (`ole`, `once1`,
`once2`, `finw`: entered ⇒ an error is recorded, completed ⇒ `finish` has happened, `finish` ⇒ completed or the
reducer goroutine has ended; `mcd`, `rcd`, `ccd`: who drains the source has entered it). -/
structure InvC (c : Cfg) (s : St) : Prop where
  gle : s.gNext ≤ c.n
  msuf : ∀ i l, mRem (s.mp i) = some l → l <:+ c.mscript i
  rsuf : ∀ l, rRem s.rpc = some l → l <:+ c.rscript
  ctx : s.ctxDone = true → c.ctxCan = true ∨ c.ctxPre = true
  ret : ∀ e, s.retErr = some e → errOK c e
  ole : s.once ≤ 2
  once1 : s.once ≠ 0 → s.retErr ≠ none
  once2 : s.once = 2 → s.fin = true
  finw : s.fin = true → s.once = 2 ∨ s.rpc = .done
  gp : (s.gpc = .pwrite ∨ s.gpc = .psend) → genPanics c = true
  mpan : ∀ i, (s.mp i = .recovered ∨ s.mp i = .pwrite ∨ s.mp i = .psend) → hasPanic (c.mscript i) = true
  rpan : ∀ p, (s.rpc = .drain (some p) ∨ s.rpc = .pwrite p ∨ s.rpc = .psend p) → allowed0 c (.panic p) = true
  pb : ∀ p, s.pbuf = some p → allowed0 c (.panic p) = true
  cdr : ∀ p, s.cpc = .drainOut p → allowed0 c (.panic p) = true
  cres : ∀ r, (s.cpc = .defer r ∨ s.cpc = .check r ∨ s.cpc = .done r) → allowed0 c r = true
  mcd : ∀ i sc, s.mp i = .cdrain sc → s.once ≠ 0
  rcd : ∀ sc, s.rpc = .cdrain sc → s.once ≠ 0
  ccd : s.cpc = .cdrain → s.once ≠ 0
  cce : (s.cpc = .cancelEnter ∨ s.cpc = .cdrain) → c.ctxCan = true ∨ c.ctxPre = true

theorem InvC.once_zero {c : Cfg} {s : St} (I : InvC c s) (h : s.retErr = none) : s.once = 0 :=
  Decidable.of_not_not fun h0 => I.once1 h0 h

theorem InvC.ctx_false {c : Cfg} {s : St} (I : InvC c s) (h1 : c.ctxCan = false) (h2 : c.ctxPre = false) :
    s.ctxDone = false := by
  cases hx : s.ctxDone with
  | false => rfl
  | true => rcases I.ctx hx with h | h <;> simp [h1, h2] at h

def b2n (b : Bool) : Nat := if b then 1 else 0

/-- number of items `i < n` whose mapper goroutine satisfies `p`. -/
def cnt (p : MPc → Bool) (f : Nat → MPc) : Nat → Nat
  | 0 => 0
  | n + 1 => cnt p f n + b2n (p (f n))

/-- the mapper goroutine has been counted by `wg.Add(1)` and has not yet called `wg.Done()`. -/
def inWg : MPc → Bool
  | .idle => false
  | .unpool => false
  | .done => false
  | _ => true

/-- the mapper goroutine holds a slot of the pool channel. -/
def inPool : MPc → Bool
  | .idle => false
  | .done => false
  | _ => true

/-- the user's mapper function is executing. -/
def mRunning : MPc → Bool
  | .run _ => true
  | .send _ _ => true
  | .cdrain _ => true
  | _ => false

/-- the dispatcher has put a token into the pool for a mapper it has not started yet. -/
def dHolds : DPc → Bool
  | .recv => true
  | .spawn _ => true
  | .unpool => true
  | _ => false

/-- the dispatcher is past `wg.Wait()`. -/
def dAfter : DPc → Bool
  | .closeColl => true
  | .drain => true
  | .done => true
  | _ => false

/-- wait group, pool and collector count the mapper goroutines. -/
structure InvB (c : Cfg) (s : St) : Prop where
  wgc : s.wg = cnt inWg s.mp c.n
  poolc : s.pool = cnt inPool s.mp c.n + b2n (dHolds s.dpc)
  poolle : s.pool ≤ c.workers
  idle : ∀ j, s.gNext ≤ j → s.mp j = .idle
  spawnidle : ∀ i, s.dpc = .spawn i → s.mp i = .idle
  nogap : ∀ i, s.dpc = .spawn i → i < s.gNext
  dafter : dAfter s.dpc = true → s.wg = 0
  collc : s.collClosed = true → dAfter s.dpc = true ∧ s.dpc ≠ .closeColl
  nocrash : ∀ i, s.mp i ≠ .crash

/-- a goroutine that has been started, and an item in the dispatcher's hand, belong to the first `n` items. -/
theorem InvB.mlt {c : Cfg} {s : St} (I : InvB c s) (hg : s.gNext ≤ c.n) (i : Nat) (h : s.mp i ≠ .idle) : i < c.n :=
  Decidable.byContradiction fun x => h (I.idle i (by omega))

theorem InvB.spawnlt {c : Cfg} {s : St} (I : InvB c s) (hg : s.gNext ≤ c.n) (i : Nat) (h : s.dpc = .spawn i) : i < c.n :=
  Nat.lt_of_lt_of_le (I.nogap i h) hg

def rIsPsend : RPc → Bool
  | .psend _ => true
  | _ => false

def rIsCdrain : RPc → Bool
  | .cdrain _ => true
  | _ => false

def mIsCdrain : MPc → Bool
  | .cdrain _ => true
  | _ => false

/-- the reducer goroutine is past its deferred `drain(collector)`. -/
def rAfterDrain : RPc → Bool
  | .pwrite _ => true
  | .psend _ => true
  | .finish => true
  | .done => true
  | _ => false

/-- onceChan: whoever won the CAS is the only one that will ever send, and the buffer is empty until it does; in the
repaired code a set flag means that the value is in the buffer, or the caller has taken it, or the winner is about to
send it. -/
structure OnceChanInv (c : Cfg) (s : St) : Prop where
  p1 : s.wrote = false → s.pbuf = none ∧ ∀ a, atPsend s a = false
  one : ∀ a, atPsend s a = true → s.pbuf = none ∧ ∀ b, atPsend s b = true → b = a
  filled : c.fixed = true → s.wrote = true → s.pbuf ≠ none ∨ s.consumed = true ∨ ∃ a, atPsend s a = true

/-- cancel's sync.Once: while it runs, its runner drains the source. -/
structure OnceInv (s : St) : Prop where
  o1a : s.once = 1 → s.onceBy ≠ none
  o1m : ∀ i, s.once = 1 → s.onceBy = some (.mapper i) → mIsCdrain (s.mp i) = true
  o1r : s.once = 1 → s.onceBy = some .reducer → rIsCdrain s.rpc = true
  o1c : s.once = 1 → s.onceBy = some .caller → s.cpc = .cdrain

/-- the source is closed when the generator ends, the collector before the dispatcher drains. -/
structure CloseInv (s : St) : Prop where
  g1 : s.gpc = .done → s.srcClosed = true
  d1 : (s.dpc = .drain ∨ s.dpc = .done) → s.collClosed = true
  d2 : s.dpc = .done → s.srcClosed = true

/-- the reducer goroutine ends only on a closed and empty collector, and with `finish`. -/
structure RedEndInv (s : St) : Prop where
  r1 : rAfterDrain s.rpc = true → s.collClosed = true ∧ s.collQ = []
  r2 : s.rpc = .done → s.fin = true

/-- what the caller's position says: while it holds an outcome and the output is open, one reducer write is used up; it
passes its deferred function only after `finish` (or with the "more than one element" panic, two writes used up: so
that panic needs two writes and a blocked later write a third). -/
def CallerEndAt (c : Cfg) (s : St) : CPc → Prop
  | .defer _ => s.fin = false → rW s.rpc + 1 ≤ (writesOf c.rscript).length
  | .check _ => s.fin = true
  | .done r => s.fin = true ∨ (r = .panic .multi ∧ rW s.rpc + 2 ≤ (writesOf c.rscript).length)
  | _ => True

structure CallerEndInv (c : Cfg) (s : St) : Prop where
  ce : CallerEndAt c s s.cpc

theorem CallerEndInv.c1 {c : Cfg} {s : St} (I : CallerEndInv c s) (r : Res) (h : s.cpc = .check r) : s.fin = true :=
  (h ▸ I.ce : CallerEndAt c s (.check r))

theorem CallerEndInv.c2 {c : Cfg} {s : St} (I : CallerEndInv c s) (r : Res) (h : s.cpc = .done r) :
    s.fin = true ∨ (r = .panic .multi ∧ rW s.rpc + 2 ≤ (writesOf c.rscript).length) :=
  (h ▸ I.ce : CallerEndAt c s (.done r))

/-- towards progress of the repaired code. -/
structure InvE (c : Cfg) (s : St) : Prop extends OnceChanInv c s, OnceInv s, CloseInv s, RedEndInv s, CallerEndInv c s

/-- the dispatcher stands at `wg.Wait()` or behind it. -/
def dWaiting : DPc → Bool
  | .wait => true
  | .closeColl => true
  | .drain => true
  | .done => true
  | _ => false

/-- the dispatcher has left its loop (`dWaiting`, or about to give its pool slot back). -/
def dLeft : DPc → Bool
  | .unpool => true
  | .wait => true
  | .closeColl => true
  | .drain => true
  | .done => true
  | _ => false

/-- what the dispatcher's position says: it gives its slot back only at the end of the source, and waits only after a
mapper panic, the end of the context, a cancel, or the end of the source. -/
def DispAt (s : St) : DPc → Prop
  | .unpool => s.srcClosed = true
  | .wait | .closeColl | .drain | .done => s.failed ≠ 0 ∨ s.ctxDone = true ∨ s.once ≠ 0 ∨ s.srcClosed = true
  | _ => True

/-- what leaving the dispatcher's loop, a dropped item, a counted panic and a recorded error presuppose. -/
structure InvF (c : Cfg) (s : St) : Prop where
  f1 : s.srcClosed = true → s.gpc = .done
  disp : DispAt s s.dpc
  f3 : s.dropped ≠ [] → s.once ≠ 0 ∨ s.failed ≠ 0 ∨ s.ctxDone = true
  f4 : s.failed ≠ 0 → anyMapper c hasPanic = true
  f5 : s.once = 0 → s.retErr = none
  /-- the generator ends after its last item, or by a panic -/
  gend : (s.gpc = .close ∨ s.gpc = .done) → s.gNext = c.n ∨ genPanics c = true

/-- what the outcome the caller holds says: a value is the reducer's first write, taken while the first snapshot said
"no error"; ErrReduceNoOutput comes only from an empty, droppable or panicking reducer, while the end snapshot said
"no error". -/
def Taken (c : Cfg) (s : St) : Res → Prop
  | .val v => (writesOf c.rscript).head? = some v ∧ s.wSnap = some false
  | .err .noOutput =>
      (writesOf c.rscript = [] ∨ c.ctxCan = true ∨ c.ctxPre = true ∨ hasPanic c.rscript = true) ∧ s.eSnap = some false
  | _ => True

/-- what the caller's position says: the outcome it holds once it has left its select. -/
def TakenAt (c : Cfg) (s : St) : CPc → Prop
  | .defer r | .check r | .done r => Taken c s r
  | _ => True

/-- what the reducer's position says about its writes: before its first write no snapshot is taken and, while the
caller still waits at its select, nothing has been skipped; in a write that the caller can still take it is the first,
begun without a recorded error; after the end of the function the end snapshot is taken. -/
def RedAt (c : Cfg) (s : St) : RPc → Prop
  | .run l | .cdrain l =>
      (s.cpc = .sel → writesOf l = writesOf c.rscript ∨ s.ctxDone = true ∨ s.fin = true) ∧
      (writesOf l = writesOf c.rscript → s.wSnap = none)
  | .send v l =>
      s.cpc = .sel → writesOf c.rscript = v :: writesOf l ∧ (s.wSnap = some false ∨ s.retErr ≠ none)
  | _ =>
      s.eSnap ≠ none ∧
      (s.cpc = .sel → writesOf c.rscript = [] ∨ s.ctxDone = true ∨ s.retErr ≠ none ∨ hasPanic c.rscript = true)

/-- the refined table and the ghost snapshots. -/
structure InvD (c : Cfg) (s : St) : Prop where
  taken : TakenAt c s s.cpc
  /-- the snapshots mean what they say -/
  w1 : s.wSnap = some true → s.retErr ≠ none ∨ s.ctxDone = true
  n1' : s.eSnap = some true → s.retErr ≠ none
  red : RedAt c s s.rpc

theorem InvD.result {c : Cfg} {s : St} (I : InvD c s) {r : Res} (hr : result s = some r) : Taken c s r :=
  (result_eq_some.mp hr ▸ I.taken : TakenAt c s (.done r))

theorem InvD.v1s {c : Cfg} {s : St} (I : InvD c s) (hc : s.cpc = .sel) (v : Nat) (sc : List UAct) (h : s.rpc = .send v sc) :
    writesOf c.rscript = v :: writesOf sc := ((h ▸ I.red : RedAt c s (.send v sc)) hc).1

/-- no write of the reducer is lost while nobody has cancelled, the context is live and the reducer does not panic:
a value in the caller's hand means that exactly one write is used up (`CallerEndAt`'s `≤` with `=`). -/
def ExRes (c : Cfg) (s : St) : Res → Prop
  | .val _ => s.once = 0 → s.ctxDone = false → hasPanic c.rscript = false → rW s.rpc + 1 = (writesOf c.rscript).length
  | _ => True

def ExAt (c : Cfg) (s : St) : CPc → Prop
  | .defer r | .check r | .done r => ExRes c s r
  | _ => True

/-- the caller has taken the panic value (or panics for another reason). -/
def cPan : CPc → Bool
  | .drainOut _ => true
  | .done (.panic _) => true
  | _ => false

/-- the caller has consumed a panic value only on its way to re-raising it; an item handed out has a goroutine;
a mapper goroutine in `onceChan.write` has been counted by `failed`. -/
structure InvG (s : St) : Prop where
  k2 : s.consumed = true → cPan s.cpc = true
  n3 : ∀ i, i ∈ s.mapped → s.mp i ≠ .idle
  n6 : ∀ i, (s.mp i = .pwrite ∨ s.mp i = .psend) → s.failed ≠ 0

/-- a mapper that has panicked and not yet passed `onceChan.write` stays there until the flag is set. -/
structure InvG2 (s : St) : Prop where
  g2 : s.failed ≠ 0 → s.wrote = true ∨ ∃ i, s.mp i = .pwrite

/-- the mapper goroutine has left the user function without a panic. -/
def mFinished : MPc → Bool
  | .wgdone => true
  | .unpool => true
  | .done => true
  | _ => false

/-- what the position of mapper goroutine `i` says while no cancel has begun and no mapper has panicked: whether the
script cancels or panics is decided by what is left of it; at the end it did neither. -/
def RanAt (c : Cfg) (i : Nat) : MPc → Prop
  | .run l | .send _ l | .cdrain l => hasCancel (c.mscript i) = hasCancel l ∧ hasPanic (c.mscript i) = hasPanic l
  | .wgdone | .unpool | .done => hasCancel (c.mscript i) = false ∧ hasPanic (c.mscript i) = false
  | _ => True

/-- before any cancel and any mapper panic: what a mapper has executed contained neither. -/
structure RanCleanInv (c : Cfg) (s : St) : Prop where
  ran : s.once = 0 → s.failed = 0 → ∀ i, RanAt c i (s.mp i)

theorem RanCleanInv.n5 {c : Cfg} {s : St} (I : RanCleanInv c s) (h0 : s.once = 0) (hf : s.failed = 0) (i : Nat)
    (hfin : mFinished (s.mp i) = true) : hasCancel (c.mscript i) = false ∧ hasPanic (c.mscript i) = false := by
  have := I.ran h0 hf i
  cases hm : s.mp i <;> simp [hm, mFinished] at hfin <;> (rw [hm] at this; exact this)

/-- a value accepted by the collector is received exactly once, or still buffered. -/
def valInv (s : St) : Prop :=
  ∀ v, s.sent.count v = s.reduced.count v + s.drained.count v + s.collQ.count v

/-- an item taken from the source is handed to one mapper, in the dispatcher's hand, or dropped by one drain. -/
def itemInv (s : St) : Prop :=
  ∀ i, s.mapped.count i + s.dropped.count i + (if s.dpc = .spawn i then 1 else 0) = (if i < s.gNext then 1 else 0)

structure Inv (c : Cfg) (s : St) : Prop extends InvC c s, InvB c s, InvE c s, InvF c s, InvD c s, InvG s, InvG2 s,
    RanCleanInv c s where
  ex : ExAt c s s.cpc
  val : valInv s
  item : itemInv s

theorem Inv.mlt {c : Cfg} {s : St} (I : Inv c s) : ∀ i, s.mp i ≠ .idle → i < c.n := I.toInvB.mlt I.gle

theorem Inv.spawnlt {c : Cfg} {s : St} (I : Inv c s) : ∀ i, s.dpc = .spawn i → i < c.n := I.toInvB.spawnlt I.gle

end GoZero.C10
