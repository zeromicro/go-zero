/-
C10 — the decision for nil: the caller's choice of ErrReduceNoOutput at its output case (`callerOut`, no error
recorded) is what `MapReduceVoid` / `Finish` turn into nil.  With no context and a generator that does not panic: if
the caller decides for ErrReduceNoOutput while no mapper has panicked, then no cancel has begun (`once = 0`), every item was handed
to a mapper (`InvF`, `all_mapped_once`), and every mapper ran its whole script (`RanCleanInv`, for every run) — so no
mapper script contains a cancel or a panic.
-/
import GoZero.C10.AtomicWrite
namespace GoZero.C10

/-- no context, the generator does not panic. -/
structure NX (c : Cfg) : Prop where
  ctxCan : c.ctxCan = false
  ctxPre : c.ctxPre = false
  gen : genPanics c = false

/-- before any cancel and any mapper panic, once the dispatcher has left its loop: nothing was dropped and every item
has been handed to a mapper exactly once. -/
theorem all_mapped_once {c : Cfg} (F : NX c) {s : St} (h : Reach c s) (h0 : s.once = 0) (hp : s.failed = 0)
    (hd : dWaiting s.dpc = true) : s.dropped = [] ∧ ∀ i, s.mapped.count i = if i < c.n then 1 else 0 := by
  have IF := inv_reach h
  obtain ⟨hn1, hn2⟩ := noDrop_of IF ((inv_reach h).ctx_false F.ctxCan F.ctxPre) h0
  have hsc : s.srcClosed = true :=
    (hn1 (by cases hq : s.dpc <;> simp_all [dWaiting, dLeft])).resolve_left fun h' => h' hp
  have hg : s.gNext = c.n := (IF.gend (Or.inr (IF.f1 hsc))).resolve_right (by simp [F.gen])
  have hdr := hn2 hp
  refine ⟨hdr, fun i => ?_⟩
  have hi := (inv_reach h).item i
  have hsp : ¬ s.dpc = .spawn i := by intro he; rw [he] at hd; simp [dWaiting] at hd
  rw [hdr, hg] at hi
  simpa [hsp] using hi

/-- no mapper script contains a cancel or a panic. -/
def ScriptsClean (c : Cfg) : Prop := ∀ i, i < c.n → hasCancel (c.mscript i) = false ∧ hasPanic (c.mscript i) = false

/-- **The decision for nil without a panic**: `finish` has happened, no error is recorded, no mapper has panicked ⇒
every item was handed to a mapper and every mapper ran its whole script, which contains neither cancel nor panic. -/
theorem decision_clean {c : Cfg} (F : NX c) {s : St} (h : Reach c s) (hf : s.fin = true) (hr : s.retErr = none)
    (hp : s.failed = 0) : ScriptsClean c := by
  have h0 := (inv_reach h).once_zero hr
  obtain ⟨_, hq, hda⟩ := quiet_of_fin (inv_reach h) h0 hf
  have hdw : dWaiting s.dpc = true := by
    cases hm : s.dpc <;> simp [hm, dAfter, dWaiting] at hda ⊢
  intro i hi
  have hcount := (all_mapped_once F h h0 hp hdw).2 i
  rw [if_pos hi] at hcount
  have hne := (inv_reach h).n3 i (List.count_pos_iff.mp (by omega))
  have hw := hq i
  have hfin : mFinished (s.mp i) = true := by
    cases hm : s.mp i <;> simp [hm, inWg] at hw hne ⊢ <;> simp [mFinished]
  exact (inv_reach h).n5 h0 hp i hfin

/-- at the decision point: the scripts are clean, or a captured panic is waiting in the buffer. -/
theorem decision_point {c : Cfg} (F : NX c) (hfx : c.fixed = true) {s : St} (h : ReachA c s) (hc : s.cpc = .sel)
    (hf : s.fin = true) (hr : s.retErr = none) : ScriptsClean c ∨ s.pbuf ≠ none := by
  have R := reachA_reach h
  by_cases hp : s.failed = 0
  · exact Or.inl (decision_clean F R hf hr hp)
  · right
    have h0 := (inv_reach R).once_zero hr
    obtain ⟨_, hq, _⟩ := quiet_of_fin (inv_reach R) h0 hf
    have hw := (inv_reach R).toInvG2.wrote_of_quiet hq hp
    rcases j_reachA hfx h hw with h1 | h1
    · exact h1
    · have := (inv_reach R).k2 h1; simp [hc, cPan] at this

/-- while the caller holds ErrReduceNoOutput, `P` holds or a captured panic waits in the buffer (and will be re-raised
instead); once it has returned it, `P` holds.  Used with `P := ScriptsClean c`. -/
structure InvFin (P : Prop) (s : St) : Prop where
  held : (s.cpc = .defer (.err .noOutput) ∨ s.cpc = .check (.err .noOutput)) → P ∨ s.pbuf ≠ none
  returned : s.cpc = .done (.err .noOutput) → P

section
attribute [local grind] upd outRes

theorem invFin_step {c : Cfg} {s s' : St} (P : Prop) (a : Actor) (hfx : c.fixed = true) (IC : Inv c s)
    (hdec : s.cpc = .sel → s.fin = true → s.retErr = none → P ∨ s.pbuf ≠ none)
    (I : InvFin P s) (h : step c s a = some s') : InvFin P s' := by
  obtain ⟨held, returned⟩ := I
  have hret : ∀ e, s.retErr = some e → e ≠ .noOutput := by
    rintro _ he rfl
    exact IC.ret _ he
  clear IC
  cases step_leaf h
  all_goals (refine ⟨?_, ?_⟩)
  all_goals (first | assumption | grind)

end

theorem invFin_reachA {c : Cfg} (F : NX c) (hfx : c.fixed = true) {s : St} (h : ReachA c s) :
    InvFin (ScriptsClean c) s := by
  induction h with
  | init => exact ⟨by simp [init], by simp [init]⟩
  | step a hr hs ih =>
    have I1 := fun s1 => @invFin_step c _ s1 _ a hfx (inv_reach (reachA_reach hr)) (decision_point F hfx hr) ih
    rcases stepA_cases hs with ⟨h1, _⟩ | ⟨s1, h1, hp, h2⟩
    · exact I1 _ h1
    · obtain ⟨hb, hc⟩ := psend_effect hfx hp h2
      exact ⟨fun _ => Or.inr hb, by rw [hc]; exact (I1 _ h1).returned⟩

end GoZero.C10
