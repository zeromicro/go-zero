/-
C10 — property theorems for the code as it is NOW (`onceChan.write` = one atomic non-blocking send:
`Model.stepA` / `ReachA`), the full "a captured user panic is re-raised", clean termination restated for it,
and the public entry points (MapReduceChan, MapReduceVoid, Finish, FinishVoid, ForEach, WithWorkers,
AtomicError) as instances composed from the per-function theorems (call site → wrapper → core).
-/
import GoZero.C10.Props
import GoZero.C10.AtomicWrite
import GoZero.C10.NilDecision
namespace GoZero.C10

/-! ### the code as it is now refines the two-step model: every theorem of `Props` applies -/

/-- **Refinement.**  Every configuration reachable with the atomic `onceChan.write` is reachable in the model all
theorems of `Props` quantify over; so `mapper_cap`, `returns_expected_error`, `each_item_handed_out_once`,
`each_value_reduced_once`, `value_only_if_no_error_before_the_write`, … hold for the code as it is now. -/
theorem now_refines (c : Cfg) (s : St) (h : ReachA c s) : Reach c s := reachA_reach h

/-- in the code as it is now nobody ever stands between "won the once" and "sent": the flag `wrote` means that
the buffer was filled (it is full, or the caller has taken the value). -/
theorem wrote_means_buffered (c : Cfg) (hf : c.fixed = true) (hnc : noCancel c = true) (s : St) (h : ReachA c s)
    (hw : s.wrote = true) : s.pbuf ≠ none ∨ s.consumed = true :=
  j_reachA hf h hw

/-! ### (d') a captured user panic is re-raised — FULL statement (`Props.panic_not_lost_partial` has it only without a panicking generator;
`Props.generator_panic_can_be_lost` is the counterexample for the code as it WAS, fixed in /repo by
fixes/C10-oncechan-write-atomic.patch) -/

/-- the strongest form: whatever the configuration, a call of the code as it is now that returns without a panic while
no cancel has begun and the context is live has captured no panic, and nobody is left who could (`NoCancel.Settled`). -/
theorem panic_not_lost_any (c : Cfg) (hf : c.fixed = true) (s : St) (h : ReachA c s) (r : Res) (hr : result s = some r)
    (hnp : resIsPanic r = false) (h0 : s.once = 0) (hx : s.ctxDone = false) :
    s.wrote = false ∧ s.pbuf = none ∧ s.failed = 0 ∧ s.gpc = .done ∧ s.rpc = .done := by
  have I := inv_reach (reachA_reach h)
  have C := settled_reachA hf h r (result_eq_some.mp hr) hnp h0 hx
  exact ⟨C.wrote, (I.p1 C.wrote).1, C.failed, C.gdone, (quiet_of_fin I h0 C.fin).1⟩

/-- **A captured panic is re-raised.**  If nobody cancels and the context cannot end, a call (of the code as it is
now) that returns a value or an error — not a panic — has captured no panic at all, whoever panics (generator,
mapper, reducer), wherever, under every schedule: the once-flag is unset, the buffer empty, no mapper has
panicked (`failed = 0`), and the generator and the reducer goroutine have ended (so neither can panic later). -/
theorem panic_not_lost (c : Cfg) (hf : c.fixed = true) (hnc : noCancel c = true) (s : St) (h : ReachA c s)
    (r : Res) (hr : result s = some r) (hnp : resIsPanic r = false) :
    s.wrote = false ∧ s.pbuf = none ∧ s.failed = 0 ∧ s.gpc = .done ∧ s.rpc = .done := by
  have X := xm_of (nc_of hnc) (inv_reach (reachA_reach h))
  exact panic_not_lost_any c hf s h r hr hnp X.once X.ctxDone

/-- spelled out: once a mapper has panicked (`failed ≠ 0`) or a panic was captured, a call that nobody cancels
can only end by re-raising a panic. -/
theorem captured_panic_is_reraised (c : Cfg) (hf : c.fixed = true) (hnc : noCancel c = true) (s : St) (h : ReachA c s)
    (r : Res) (hr : result s = some r) (hp : s.failed ≠ 0 ∨ s.wrote = true) : ∃ p, r = .panic p := by
  by_cases hnp : resIsPanic r = false
  · have := panic_not_lost c hf hnc s h r hr hnp
    rcases hp with h1 | h1
    · exact absurd this.2.2.1 h1
    · simp [this.1] at h1
  · cases r <;> simp [resIsPanic] at hnp ⊢

/-- the counterexample `cfgLost` is a configuration of the full statement: with the atomic write the same actors in
the same order end with the panic re-raised. -/
example : noCancel cfgLost = true ∧ cfgLost.fixed = true ∧ genPanics cfgLost = true ∧
    (let s := runPrioA cfgLost (actors 2).reverse 400 (init cfgLost)
     (result s).map resIsPanic = some true ∧ s.wrote = true ∧ aliveCount cfgLost s = 0) := by
  refine ⟨by decide, rfl, by decide, ?_⟩
  decide

/-! ### (d) clean termination of the code as it is now -/

/-- **No deadlock (code as it is now).** -/
theorem no_deadlock_now (c : Cfg) (hf : c.fixed = true) (hw : 1 ≤ c.workers)
    (hr : (writesOf c.rscript).length ≤ 2) (s : St) (h : ReachA c s)
    (hlive : result s = none ∨ aliveCount c s ≠ 0) : ∃ a, stepA c s a ≠ none := by
  obtain ⟨a, ha⟩ := no_deadlock c hf hw hr s (reachA_reach h) hlive
  exact ⟨a, fun hn => ha ((stepA_none_iff a hf (reachA_reach h)).mp hn)⟩

/-- **Termination (code as it is now).** -/
theorem terminates_now (c : Cfg) : ∃ μ : St → Nat, ∀ s a s', ReachA c s → stepA c s a = some s' → μ s' < μ s :=
  ⟨mu c, fun _ a _ hr hs => muA_step a (reachA_reach hr) hs⟩

inductive StepsA (c : Cfg) : St → St → Prop
  | refl (s : St) : StepsA c s s
  | step {s s1 s2 : St} (a : Actor) : stepA c s a = some s1 → StepsA c s1 s2 → StepsA c s s2

/-- **A run ends clean (code as it is now).**  Some run from every reachable configuration ends with nothing able to
move, the caller returned and no goroutine of the call alive (every maximal run: `terminates_now` + `stuck_is_final`). -/
theorem every_run_ends_clean_now (c : Cfg) (hf : c.fixed = true) (hw : 1 ≤ c.workers)
    (hr : (writesOf c.rscript).length ≤ 2) (s : St) (h : ReachA c s) :
    ∃ s', StepsA c s s' ∧ ReachA c s' ∧ (∀ a, stepA c s' a = none) ∧ result s' ≠ none ∧ aliveCount c s' = 0 := by
  obtain ⟨s', h1, h2, h3⟩ := run_to_stuck (stepA c) (ReachA c) (mu c) (StepsA c) StepsA.refl StepsA.step
    (fun _ a _ hr hs => ⟨ReachA.step a hr hs, muA_step a (reachA_reach hr) hs⟩) s h
  have := stuck_is_final c hf hw hr s' (reachA_reach h2) fun a => (stepA_none_iff a hf (reachA_reach h2)).mp (h3 a)
  exact ⟨s', h1, h2, h3, this.1, this.2⟩

/-- the same without the reachability of the end: the form the entry points are stated in. -/
theorem ends_clean_now (c : Cfg) (hf : c.fixed = true) (hw : 1 ≤ c.workers) (hr : (writesOf c.rscript).length ≤ 2) (s : St)
    (h : ReachA c s) : ∃ s', StepsA c s s' ∧ (∀ a, stepA c s' a = none) ∧ result s' ≠ none ∧ aliveCount c s' = 0 := by
  obtain ⟨s', h1, _, h3, h4, h5⟩ := every_run_ends_clean_now c hf hw hr s h
  exact ⟨s', h1, h3, h4, h5⟩

/-! ### glue: options, AtomicError -/

/-- `WithWorkers(w)` never yields fewer than one worker — the hypothesis `1 ≤ workers` of `no_deadlock` holds
for every argument, also 0 and negative ones. -/
theorem clampWorkers_ge_one (w : Int) : 1 ≤ clampWorkers w := by
  unfold clampWorkers minWorkersN
  split <;> omega

theorem clampWorkers_id (w : Int) (h : 1 ≤ w) : (clampWorkers w : Int) = w := by
  unfold clampWorkers minWorkersN
  split <;> omega

/-- the last `WithWorkers` wins; without one the default (16) applies. -/
theorem workersOf_last (ws : List Int) (w : Int) : workersOf (ws ++ [w]) = clampWorkers w := by
  simp [workersOf]

theorem workersOf_ge_one (ws : List Int) : 1 ≤ workersOf ws := by
  rcases List.eq_nil_or_concat ws with h | ⟨l, w, h⟩
  · subst h; decide
  · subst h; rw [List.concat_eq_append, workersOf_last]; exact clampWorkers_ge_one w

example : workersOf [] = 16 ∧ workersOf [3, 0] = 1 ∧ workersOf [0, 3] = 3 ∧ workersOf [-5] = 1 := by decide

theorem ae_fold_sets (l : List (Option Nat)) (cur : Option Nat) :
    l.foldl aeSet cur = ((l.reverse.find? (· != none)).getD cur) := by
  induction l generalizing cur with
  | nil => rfl
  | cons a t ih =>
    rw [List.foldl_cons, ih, List.reverse_cons, List.find?_append]
    cases hf : t.reverse.find? (· != none) with
    | some e => simp
    | none => cases a <;> simp [aeSet]

/-- **AtomicError**: `Load` after any sequence of `Set`s returns the last non-nil error set (nil if none): a
recorded error is never erased by `Set(nil)`. -/
theorem ae_load_after_sets (l : List (Option Nat)) :
    aeLoad (l.foldl aeSet none) = (l.reverse.find? (· != none)).getD none := by
  rw [ae_fold_sets]
  cases hf : l.reverse.find? (· != none) with
  | none => rfl
  | some e => cases e <;> simp [aeLoad]

theorem ae_set_nil_keeps (cur : Option Nat) : aeSet cur none = cur := by simp [aeSet]

/-- what `cancel(err)` records is never nil: the argument, or ErrCancelWithNil for nil — the model's
`retErr := some (cancelErr e)`. -/
theorem cancel_records_an_error (e : Option Nat) :
    aeLoad (cancelRecords (e.map fun k => encErr (.user k))) = some (encErr (cancelErr e)) := by
  cases e <;> simp [cancelRecords, aeSet, aeLoad, cancelErr, encErr]

/-- the caller's output branch is the model's: a recorded error beats the value (`stepRed` `.send` at `cpc = sel`),
a closed output without an error is ErrReduceNoOutput (`outRes`). -/
theorem callerOutput_is_model (e : Option Err) (ok : Bool) (v : Nat) :
    callerOutput (e.map encErr) ok v =
      match e with
      | some x => (0, some (encErr x))
      | none => if ok then (v, none) else (0, some (encErr .noOutput)) := by
  cases e <;> cases ok <;> simp [callerOutput, aeLoad]

/-! ### the entry points as instances of the core (for all inputs, all schedules of the code as it is now) -/

/-- **MapReduceChan** (a source the library did not start: `gPanicAt = none`) never re-raises a generator panic,
and everything else of the table holds unchanged. -/
theorem chan_outcome (c : Cfg) (hg : c.gPanicAt = none) (s : St) (h : ReachA c s) (r : Res) (hr : result s = some r) :
    allowed c r = true ∧ r ≠ .panic .gen := by
  have ha := returns_expected_error c s (reachA_reach h) r hr
  refine ⟨ha, ?_⟩
  intro he; subst he
  simp [allowed, allowed0, genPanics, hg] at ha

/-- **MapReduceVoid** (the reducer has no writer): the call never yields a value, never the library's
"more than one element" nor "send on closed channel" panic; it returns nil (`ErrReduceNoOutput ↦ nil`) only if no
error was recorded when the reducer function ended. -/
theorem void_outcome (c : Cfg) (hw : writesOf c.rscript = []) (s : St) (h : ReachA c s) (r : Res)
    (hr : result s = some r) :
    allowed c r = true ∧ (∀ v, r ≠ .val v) ∧ r ≠ .panic .multi ∧ r ≠ .panic .sendClosed ∧
    (r = .err .noOutput → s.eSnap = some false) := by
  have ha := returns_expected_error c s (reachA_reach h) r hr
  refine ⟨ha, ?_, ?_, ?_, ?_⟩
  · intro v he; subst he; simp [allowed, allowed0, hw] at ha
  · intro he; subst he; simp [allowed, allowed0, hw] at ha
  · intro he; subst he; simp [allowed, allowed0, hw] at ha
  · intro he; subst he; exact no_output_only_if_no_error_before_reducer_end c s (reachA_reach h) hr

theorem voidReturn_nil_iff (e : Option Nat) : voidReturn e = none ↔ e = none ∨ e = some (encErr .noOutput) := by
  unfold voidReturn; split <;> simp_all

theorem finishCfg_mscript (fns : List FnAct) (i : Nat) (hi : i < fns.length) :
    (finishCfg fns).mscript i = fnScript fns[i] := by
  simp [finishCfg, hi]

/-- **Finish(fns…)**: whatever the schedule, the call returns nil, or an error one of the functions returned, or
re-raises the panic of one of the functions — nothing else. -/
theorem finish_outcome (fns : List FnAct) (s : St) (h : ReachA (finishCfg fns) s) (r : Res) (hr : result s = some r) :
    r = .err .noOutput ∨ (∃ (i k : Nat), fns[i]? = some (FnAct.err k) ∧ r = .err (.user k)) ∨
    (∃ i : Nat, fns[i]? = some FnAct.panic ∧ r = .panic (.mapper i)) := by
  have ha := returns_expected_error _ s (reachA_reach h) r hr
  have key : ∀ i, i < fns.length → ∀ a, a ∈ (finishCfg fns).mscript i →
      (∃ k, fns[i]? = some (FnAct.err k) ∧ a = UAct.cancel (some k)) ∨ (fns[i]? = some FnAct.panic ∧ a = UAct.panic) := by
    intro i hi a hm
    rw [finishCfg_mscript fns i hi] at hm
    cases hf : fns[i] <;> simp [hf, fnScript] at hm
    · exact Or.inl ⟨_, by simp [hi, hf], hm⟩
    · exact Or.inr ⟨by simp [hi, hf], hm⟩
  cases r with
  | val v => simp [allowed, allowed0, finishCfg, writesOf] at ha
  | err e =>
    cases e with
    | noOutput => exact Or.inl rfl
    | deadline => simp [allowed, allowed0, finishCfg] at ha
    | nilCancel =>
      exfalso
      rcases allowed_cancelErr (e := none) ha with ⟨i, hi, hm⟩ | hm
      · rcases key i hi _ hm with ⟨k, _, h2⟩ | ⟨_, h2⟩ <;> simp at h2
      · simp [finishCfg] at hm
    | user k =>
      right; left
      rcases allowed_cancelErr (e := some k) ha with ⟨i, hi, hm⟩ | hm
      · rcases key i hi _ hm with ⟨k', h1, h2⟩ | ⟨_, h2⟩
        · simp at h2; subst h2; exact ⟨i, k, h1, rfl⟩
        · simp at h2
      · simp [finishCfg] at hm
  | panic p =>
    cases p with
    | gen => simp [allowed, allowed0, finishCfg, genPanics] at ha
    | reducer => simp [allowed, allowed0, finishCfg, hasPanic] at ha
    | multi | sendClosed => simp [allowed, allowed0, finishCfg, writesOf] at ha
    | mapper i =>
      right; right
      simp only [allowed, allowed0, refined, Bool.and_true, Bool.and_eq_true, decide_eq_true_eq, hasPanic,
        List.contains_iff_mem] at ha
      rcases key i ha.1 _ ha.2 with ⟨k, _, h2⟩ | ⟨h1, _⟩
      · simp at h2
      · exact ⟨i, h1, rfl⟩

/-- **Finish never hangs and leaves nothing behind**: from every reachable configuration a run
ends with the call returned and no goroutine alive (`every_run_ends_clean_now` at `finishCfg`) — for every list of functions (every mix of nil / error /
panic at every position), every schedule; `WithWorkers(len(fns))` is at least 1. -/
theorem finish_ends_clean (fns : List FnAct) (s : St) (h : ReachA (finishCfg fns) s) :
    ∃ s', StepsA (finishCfg fns) s s' ∧ (∀ a, stepA (finishCfg fns) s' a = none) ∧ result s' ≠ none ∧
      aliveCount (finishCfg fns) s' = 0 :=
  ends_clean_now (finishCfg fns) rfl (clampWorkers_ge_one _) (by simp [finishCfg, writesOf]) s h

/-- **Finish with functions that all return nil**: the call returns nil and every function has been run exactly once
(in a terminated run). -/
theorem finish_all_ok (fns : List FnAct) (hok : ∀ f ∈ fns, f = .ok) (s : St) (h : ReachA (finishCfg fns) s)
    (hst : ∀ a, stepA (finishCfg fns) s a = none) :
    result s = some (.err .noOutput) ∧ aliveCount (finishCfg fns) s = 0 ∧
    ∀ i, s.mapped.count i = if i < fns.length then 1 else 0 := by
  have hms : ∀ i, (finishCfg fns).mscript i = [] := by
    intro i
    simp only [finishCfg]
    cases hf : fns[i]? with
    | none => rfl
    | some f =>
      have := hok f (List.mem_of_getElem? hf)
      subst this; rfl
  have hff : faultFree (finishCfg fns) = true := by
    simp only [faultFree, anyScript, anyMapper, hms]
    simp [finishCfg, genPanics, hasCancel, hasPanic]
  have R := reachA_reach h
  have hst' : ∀ a, step (finishCfg fns) s a = none := fun a => (stepA_none_iff a rfl R).mp (hst a)
  have := faultfree_terminated (finishCfg fns) hff rfl (clampWorkers_ge_one _) (by simp [finishCfg, writesOf]) s R hst'
  exact ⟨by simpa [expected, finishCfg, writesOf] using this.1, this.2.1, this.2.2.2.1⟩

/-- **Finish re-raises**: if no function returns an error, a call that returns (nil) has captured no panic — so if some
function panicked, the call panics. -/
theorem finish_panic_not_lost (fns : List FnAct) (hne : ∀ f ∈ fns, ∀ k, f ≠ FnAct.err k) (s : St)
    (h : ReachA (finishCfg fns) s) (r : Res) (hr : result s = some r) (hnp : resIsPanic r = false) :
    s.wrote = false ∧ s.failed = 0 := by
  have hnc : noCancel (finishCfg fns) = true := by
    simp only [noCancel, anyScript, anyMapper, Bool.and_eq_true, Bool.not_eq_true', Bool.or_eq_false_iff,
      List.any_eq_false, List.mem_range]
    refine ⟨⟨rfl, rfl⟩, fun i hi => ?_, by simp [finishCfg, hasCancel]⟩
    have hi' : i < fns.length := hi
    rw [finishCfg_mscript fns i hi']
    have := hne fns[i] (List.getElem_mem hi')
    cases hf : fns[i] <;> simp [hf, fnScript, hasCancel, isCancel] at this ⊢
  have := panic_not_lost _ rfl hnc s h r hr hnp
  exact ⟨this.1, this.2.2.1⟩

example : let fns := [FnAct.ok, .err 3, .panic]
    let c := finishCfg fns
    let s := runPrioA c (actors c.n) 400 (init c)
    c.workers = 3 ∧ (result s).isSome ∧ aliveCount c s = 0 := by decide

/-- the table for a configuration of the ForEach shape (mappers that only panic or not, the caller's loop as the reducer
`[readAll]`): nothing, the context error, or a panic of the generator or of a mapper that panics. -/
theorem forEach_allowed {c : Cfg} {pan : Nat → Bool} (hm : c.mscript = fun i => if pan i then [.panic] else [])
    (hrs : c.rscript = [.readAll]) {r : Res} (ha : allowed c r = true) :
    r = .err .noOutput ∨ r = .err .deadline ∨ (r = .panic .gen ∧ ∃ k, c.gPanicAt = some k ∧ k ≤ c.n) ∨
    (∃ i, i < c.n ∧ pan i = true ∧ r = .panic (.mapper i)) := by
  cases r with
  | val v => simp [allowed, allowed0, hrs, writesOf] at ha
  | err e =>
    cases e with
    | noOutput => exact Or.inl rfl
    | deadline => exact Or.inr (Or.inl rfl)
    | nilCancel =>
      exfalso
      rcases allowed_cancelErr (e := none) ha with ⟨i, _, hm'⟩ | hm' <;> simp only [hm, hrs] at hm'
      · split at hm' <;> simp at hm'
      · simp at hm'
    | user k =>
      exfalso
      rcases allowed_cancelErr (e := some k) ha with ⟨i, _, hm'⟩ | hm' <;> simp only [hm, hrs] at hm'
      · split at hm' <;> simp at hm'
      · simp at hm'
  | panic p =>
    cases p with
    | gen =>
      right; right; left
      refine ⟨rfl, ?_⟩
      simp only [allowed, allowed0, refined, Bool.and_true, genPanics] at ha
      cases hg : c.gPanicAt with
      | none => simp [hg] at ha
      | some k => exact ⟨k, rfl, by simpa [hg] using ha⟩
    | reducer => simp [allowed, allowed0, hrs, hasPanic] at ha
    | multi | sendClosed => simp [allowed, allowed0, hrs, writesOf] at ha
    | mapper i =>
      right; right; right
      simp only [allowed, allowed0, refined, Bool.and_true, Bool.and_eq_true, hasPanic, List.contains_iff_mem, hm] at ha
      refine ⟨i, of_decide_eq_true ha.1, ?_, rfl⟩
      have := ha.2
      split at this
      · assumption
      · simp at this

/-- **ForEach / FinishVoid**: the call returns, or re-raises a panic of the generator or of a mapper that panics —
nothing else; never an error, never a value. -/
theorem forEach_outcome (n : Nat) (w : Int) (gp : Option Nat) (pan : Nat → Bool) (s : St)
    (h : ReachA (forEachCfg n w gp pan) s) (r : Res) (hr : result s = some r) :
    r = .err .noOutput ∨ (r = .panic .gen ∧ ∃ k, gp = some k ∧ k ≤ n) ∨ (∃ i, i < n ∧ pan i = true ∧ r = .panic (.mapper i)) := by
  have ha := returns_expected_error _ s (reachA_reach h) r hr
  rcases forEach_allowed (pan := pan) rfl rfl ha with h1 | h1 | h1 | h1
  · exact Or.inl h1
  · subst h1; simp [allowed, allowed0, forEachCfg] at ha
  · exact Or.inr (Or.inl h1)
  · exact Or.inr (Or.inr h1)

/-- **ForEach re-raises**: a call that returns normally has captured no panic (that every item is then handed to the
mapper exactly once is `forEach_every_item_once`). -/
theorem forEach_panic_not_lost (n : Nat) (w : Int) (gp : Option Nat) (pan : Nat → Bool) (s : St)
    (h : ReachA (forEachCfg n w gp pan) s) (r : Res) (hr : result s = some r) (hnp : resIsPanic r = false) :
    s.wrote = false ∧ s.failed = 0 ∧ s.gpc = .done := by
  have hnc : noCancel (forEachCfg n w gp pan) = true := by
    simp only [noCancel, anyScript, anyMapper, Bool.and_eq_true, Bool.not_eq_true', Bool.or_eq_false_iff,
      List.any_eq_false, List.mem_range]
    refine ⟨⟨rfl, rfl⟩, fun i _ => ?_, by simp [forEachCfg, hasCancel, isCancel]⟩
    simp only [forEachCfg]
    split <;> simp [hasCancel, isCancel]
  have := panic_not_lost _ rfl hnc s h r hr hnp
  exact ⟨this.1, this.2.2.1, this.2.2.2.1⟩

theorem forEach_every_item_once (n : Nat) (w : Int) (s : St)
    (h : ReachA (forEachCfg n w none fun _ => false) s) (hst : ∀ a, stepA (forEachCfg n w none fun _ => false) s a = none) :
    result s = some (.err .noOutput) ∧ aliveCount (forEachCfg n w none fun _ => false) s = 0 ∧ s.dropped = [] ∧
    ∀ i, s.mapped.count i = if i < n then 1 else 0 := by
  have hff : faultFree (forEachCfg n w none fun _ => false) = true := by
    simp [faultFree, anyScript, anyMapper, forEachCfg, genPanics, hasCancel, hasPanic, isCancel]
  have R := reachA_reach h
  have hst' := fun a => (stepA_none_iff a rfl R).mp (hst a)
  have := faultfree_terminated _ hff rfl (clampWorkers_ge_one _) (by simp [forEachCfg, writesOf]) s R hst'
  exact ⟨by simpa [expected, forEachCfg, writesOf] using this.1, this.2.1, this.2.2.1, this.2.2.2.1⟩

theorem forEach_ends_clean (n : Nat) (w : Int) (gp : Option Nat) (pan : Nat → Bool) (s : St)
    (h : ReachA (forEachCfg n w gp pan) s) :
    ∃ s', StepsA (forEachCfg n w gp pan) s s' ∧ (∀ a, stepA (forEachCfg n w gp pan) s' a = none) ∧ result s' ≠ none ∧
      aliveCount (forEachCfg n w gp pan) s' = 0 :=
  ends_clean_now _ rfl (clampWorkers_ge_one _) (by simp [forEachCfg, writesOf]) s h

example : let c := forEachCfg 3 0 none (fun i => i == 1)
    let s := runPrioA c (actors c.n).reverse 400 (init c)
    c.workers = 1 ∧ result s = some (.panic (.mapper 1)) ∧ aliveCount c s = 0 := by decide

/-- the `repanic()` in ForEach's closed-collector branch (model: `CPc.check`) is needed: under a schedule in which
the caller is slow, the generator's panic is buffered, the collector is closed, the caller takes the closed
collector first and only the check re-raises the panic (the buffer is emptied by `check`, not by `callerPanic`). -/
example : let c := forEachCfg 0 1 (some 0) (fun _ => false)
    let s := runPrioA c [.gen, .disp, .dispCtx, .dispDone, .red, .callerOut, .caller, .callerPanic] 100 (init c)
    result s = some (.panic .gen) ∧ s.consumed = true ∧ aliveCount c s = 0 := by decide

/-! ### end-to-end: options → core (call site → wrapper → core) -/

/-- **Mapper cap for every option list.**  Whatever options are passed (none, several, arguments < 1), the number of
running mappers never exceeds the configured number `workersOf ws` (the last WithWorkers, clamped; 16 without one). -/
theorem cap_for_every_option_list (ws : List Int) (c : Cfg) (hc : c.workers = workersOf ws) (s : St) (h : ReachA c s) :
    cnt mRunning s.mp c.n ≤ workersOf ws := by
  have := (mapper_cap c s (reachA_reach h)).1
  omega

/-- **Clean termination for every option list**: no option list can configure a call that deadlocks or leaves a
goroutine behind (`1 ≤ workersOf ws` always). -/
theorem ends_clean_for_every_option_list (ws : List Int) (c : Cfg) (hc : c.workers = workersOf ws) (hf : c.fixed = true)
    (hr : (writesOf c.rscript).length ≤ 2) (s : St) (h : ReachA c s) :
    ∃ s', StepsA c s s' ∧ (∀ a, stepA c s' a = none) ∧ result s' ≠ none ∧ aliveCount c s' = 0 :=
  ends_clean_now c hf (by rw [hc]; exact workersOf_ge_one ws) hr s h

/-! ### the decision for nil / ErrReduceNoOutput -/

/-- **The caller decides for ErrReduceNoOutput (nil for MapReduceVoid / Finish) only when no cancel has even begun,
the reducer goroutine has ended, the collector is closed and empty, and every mapper goroutine has ended**
(so every function that was started has returned, and none of them had called cancel). -/
theorem nil_decision (c : Cfg) (s s' : St) (h : ReachA c s) (hs : step c s .callerOut = some s')
    (hr : s'.cpc = .defer (.err .noOutput)) :
    s.retErr = none ∧ s.once = 0 ∧ s.fin = true ∧ s.rpc = .done ∧ s.collClosed = true ∧ s.collQ = [] ∧ s.wg = 0 ∧
    ∀ i, inWg (s.mp i) = false := by
  have R := reachA_reach h
  have I := inv_reach R
  simp only [step] at hs
  split at hs
  next hc =>
    simp at hs; subst hs
    simp only [CPc.defer.injEq] at hr
    have hret : s.retErr = none := by
      cases he : s.retErr with
      | none => rfl
      | some e =>
        simp [outRes, he] at hr
        subst hr
        exact (I.ret _ he).elim
    have honce := I.once_zero hret
    obtain ⟨hrd, hq, hda⟩ := quiet_of_fin I honce hc.2
    have hcq := I.r1 (by simp [hrd, rAfterDrain])
    exact ⟨hret, honce, hc.2, hrd, hcq.1, hcq.2, I.dafter hda, hq⟩
  next => simp at hs

/-- non-vacuity: the decision point is reached in a plain Finish of three nil functions. -/
example : let c := finishCfg [.ok, .ok, .ok]
    let s := runPrioA c [.gen, .disp, .mapper 0, .mapper 1, .mapper 2, .red] 400 (init c)
    (step c s .callerOut).map (·.cpc) = some (.defer (.err .noOutput)) ∧ s.wg = 0 := by decide

/-- **ErrReduceNoOutput / nil means that nothing was cancelled and nothing panicked in any mapper.**  Without a
context and with a generator that does not panic: if a call returns ErrReduceNoOutput (nil for MapReduceVoid /
Finish), then NO mapper script contains a cancel or a panic — every item was handed to a mapper, every mapper ran
its whole script (`NilDecision.decision_clean`), and a captured panic would have been re-raised instead. -/
theorem nil_only_if_scripts_clean (c : Cfg) (hf : c.fixed = true) (h1 : c.ctxCan = false) (h2 : c.ctxPre = false)
    (h3 : c.gPanicAt = none) (s : St) (h : ReachA c s) (hr : result s = some (.err .noOutput)) :
    ∀ i, i < c.n → hasCancel (c.mscript i) = false ∧ hasPanic (c.mscript i) = false := by
  have I := invFin_reachA ⟨h1, h2, by simp [genPanics, h3]⟩ hf h
  exact I.returned (result_eq_some.mp hr)

/-- **Finish returns nil only if every function returned nil** (for every list of functions, every schedule). -/
theorem finish_nil_only_if_all_ok (fns : List FnAct) (s : St) (h : ReachA (finishCfg fns) s)
    (hr : result s = some (.err .noOutput)) : ∀ f ∈ fns, f = .ok := by
  have hc := nil_only_if_scripts_clean (finishCfg fns) rfl rfl rfl rfl s h hr
  intro f hf
  obtain ⟨i, hi, rfl⟩ := List.getElem_of_mem hf
  have := hc i hi
  rw [finishCfg_mscript fns i hi] at this
  cases hx : fns[i] <;> simp [hx, fnScript, hasCancel, hasPanic, isCancel] at this ⊢

/-- non-vacuity: a Finish of three nil functions does return nil, one with an error does not. -/
example : let c := finishCfg [.ok, .ok, .ok]
    result (runPrioA c (actors c.n) 400 (init c)) = some (.err .noOutput) := by decide
example : let c := finishCfg [.ok, .err 7, .ok]
    result (runPrioA c (actors c.n).reverse 400 (init c)) = some (.err (.user 7)) := by decide

end GoZero.C10
