/-
C10 — property theorems (statements, short proofs from the invariants of `Inv` and of the modules behind it, non-vacuity examples).
All theorems quantify over every configuration (any number of items, any worker count, arbitrary finite
user scripts, any position of a cancel / panic / context end) and over every schedule (`Reach`).
-/
import GoZero.C10.Schedules
import GoZero.C10.Termination
import GoZero.C10.Progress
import GoZero.C10.FaultFreeValues
import GoZero.C10.NoCancel
import GoZero.C10.NilDecision
namespace GoZero.C10

/-! ### (b) at most `workers` mappers run concurrently -/

/-- **Mapper cap.**  In every reachable configuration the number of mapper goroutines that hold a pool
slot — in particular the number of running user mapper functions — is at most `workers`. -/
theorem mapper_cap (c : Cfg) (s : St) (h : Reach c s) :
    cnt mRunning s.mp c.n ≤ c.workers ∧ cnt inPool s.mp c.n ≤ c.workers := by
  have I := inv_reach h
  have h1 : cnt mRunning s.mp c.n ≤ cnt inPool s.mp c.n :=
    cnt_mono _ _ _ _ (by intro x hx; cases x <;> simp_all [mRunning, inPool])
  have := I.poolc
  have := I.poolle
  omega

/-- the wait group counts exactly the live mapper goroutines, and the collector is never closed while a
mapper goroutine can still write to it (the model's `crash` state is unreachable). -/
theorem collector_open_while_mappers_run (c : Cfg) (s : St) (h : Reach c s) :
    s.wg = cnt inWg s.mp c.n ∧ (s.collClosed = true → s.wg = 0) ∧ ∀ i, s.mp i ≠ .crash := by
  have I := inv_reach h
  exact ⟨I.wgc, fun hc => I.dafter (I.collc hc).1, I.nocrash⟩

/-! ### (c) the returned-error table -/

/-- **Returned-error table.**  Whatever the schedule, a finished call has an outcome of the table
`allowed`: a value the reducer wrote; an error some script passed to `cancel` (`ErrCancelWithNil` for
nil); `DeadlineExceeded` only if the context can end; `ErrReduceNoOutput`; or a re-raised panic — of the
generator / a mapper / the reducer only if that script panics, the library's "more than one element"
only if the reducer writes twice, and the runtime's "send on closed channel" only if the reducer writes
while somebody cancels or the context ends. -/
theorem returns_expected_error (c : Cfg) (s : St) (h : Reach c s) (r : Res) (hr : result s = some r) :
    allowed c r = true := by
  have h0 := (inv_reach h).cres r (Or.inr (Or.inr (result_eq_some.mp hr)))
  have D := (inv_reach h).result hr
  simp only [allowed, h0, Bool.true_and]
  cases r with
  | val v => simpa [refined] using D.1
  | err e =>
    cases e with
    | noOutput =>
      simp only [refined, Bool.or_eq_true, List.isEmpty_iff]
      rcases D.1 with h | h | h | h <;> simp [h]
    | _ => rfl
  | panic p => rfl

/-- a cancel error of the table was passed to `cancel` by a script of the call (`none`: ErrCancelWithNil). -/
theorem allowed_cancelErr {c : Cfg} {e : Option Nat} (h : allowed c (.err (cancelErr e)) = true) :
    (∃ i, i < c.n ∧ UAct.cancel e ∈ c.mscript i) ∨ UAct.cancel e ∈ c.rscript := by
  cases e <;>
    simpa only [cancelErr, allowed, allowed0, refined, Bool.and_true, anyScript, anyMapper, Bool.or_eq_true, List.any_eq_true,
      List.mem_range, List.contains_iff_mem] using h

/-- spelled out for errors: a cancel error was passed to `cancel` by a script of this call. -/
theorem cancel_error_was_passed (c : Cfg) (s : St) (h : Reach c s) (k : Nat)
    (hr : result s = some (.err (.user k))) :
    (∃ i, i < c.n ∧ UAct.cancel (some k) ∈ c.mscript i) ∨ UAct.cancel (some k) ∈ c.rscript :=
  allowed_cancelErr (e := some k) (returns_expected_error c s h _ hr)

/-- a context error is returned only if the context can end. -/
theorem deadline_only_if_context_ends (c : Cfg) (s : St) (h : Reach c s)
    (hr : result s = some (.err .deadline)) : c.ctxCan = true ∨ c.ctxPre = true := by
  have := returns_expected_error c s h _ hr
  simpa [allowed, allowed0, refined] using this

/-- a re-raised mapper panic is a panic of that mapper's script. -/
theorem reraised_panic_is_user_panic (c : Cfg) (s : St) (h : Reach c s) (i : Nat)
    (hr : result s = some (.panic (.mapper i))) : i < c.n ∧ UAct.panic ∈ c.mscript i := by
  have := returns_expected_error c s h _ hr
  simpa [allowed, allowed0, refined, hasPanic] using this

/-! ### (c') the table for the schedule that happened (model side of `Spec.allowedAt`)

The harness proves "an error was recorded before the reducer began to write" from its event history; in the
model that moment is the guard of the reducer's first `Write` (`wSnap`), resp. the end of the reducer
function (`eSnap`). -/

/-- **A value is returned only if no error was recorded (and the context was not over) when the reducer
began its first write**; the value is that first write. -/
theorem value_only_if_no_error_before_the_write (c : Cfg) (s : St) (h : Reach c s) (v : Nat)
    (hr : result s = some (.val v)) :
    (writesOf c.rscript).head? = some v ∧ s.wSnap = some false :=
  (inv_reach h).result hr

/-- the snapshot means what it says: `some true` is only taken when an error is recorded or the context over. -/
theorem wSnap_sound (c : Cfg) (s : St) (h : Reach c s) (hs : s.wSnap = some true) :
    s.retErr ≠ none ∨ s.ctxDone = true := (inv_reach h).w1 hs

/-- **ErrReduceNoOutput is returned only if no error was recorded when the reducer function ended.** -/
theorem no_output_only_if_no_error_before_reducer_end (c : Cfg) (s : St) (h : Reach c s)
    (hr : result s = some (.err .noOutput)) : s.eSnap = some false :=
  ((inv_reach h).result hr).2

/-- **The first cancel wins**: once an error is recorded no later `cancel` (nor the caller's
`cancel(DeadlineExceeded)`) replaces it. -/
theorem first_cancel_wins (c : Cfg) (s s' : St) (a : Actor) (e : Err) (hs : step c s a = some s')
    (he : s.retErr = some e) (h : Reach c s) : s'.retErr = some e := by
  have ho : s.once ≠ 0 := by
    intro h0
    have hn := (inv_reach h).f5 h0
    simp [hn] at he
  exact retErr_stable hs ho he

/-- **An item is dropped (taken from the source by a drain, never mapped) only if a fault is possible**: some cancel
has recorded its error, or the context is over, or the reducer goroutine has finished — or some mapper script
contains a panic (a fact about the scripts; the invariant behind it, `InvF.f3`, has the dynamic `failed ≠ 0`). -/
theorem dropped_item_means_fault (c : Cfg) (s : St) (h : Reach c s) (hd : s.dropped ≠ []) :
    s.retErr ≠ none ∨ (∃ i, i < c.n ∧ UAct.panic ∈ c.mscript i) ∨ s.ctxDone = true ∨ s.rpc = .done := by
  have F := inv_reach h
  rcases F.f3 hd with h1 | h1 | h1
  · exact Or.inl ((inv_reach h).once1 h1)
  · have := F.f4 h1
    simp only [anyMapper, List.any_eq_true, List.mem_range, hasPanic, List.contains_iff_mem] at this
    exact Or.inr (Or.inl this)
  · exact Or.inr (Or.inr (Or.inl h1))

/-! ### (a) conservation (every schedule, every fault placement) -/

/-- **Every generated item is handed out exactly once.**  Each item the generator has sent (`i < gNext`)
has been handed to exactly one mapper invocation, or is in the dispatcher's hand about to be, or was
discarded by exactly one drain (only after a cancel / panic / context end: `dropped_item_means_fault`);
items not yet sent have been handed to nobody.  In particular no item is ever mapped twice. -/
theorem each_item_handed_out_once (c : Cfg) (s : St) (h : Reach c s) (i : Nat) :
    s.mapped.count i + s.dropped.count i + (if s.dpc = .spawn i then 1 else 0) = (if i < s.gNext then 1 else 0) :=
  (inv_reach h).item i

theorem no_item_mapped_twice (c : Cfg) (s : St) (h : Reach c s) (i : Nat) : s.mapped.count i ≤ 1 := by
  have := each_item_handed_out_once c s h i
  by_cases hi : i < s.gNext <;> simp [hi] at this <;> omega

/-- **Every value accepted from a mapper reaches the reducer exactly once.**  The multiset of values the
collector accepted equals the values received by the reducer function, plus those received by the
reducer goroutine's deferred drain (after the reducer function returned), plus those still buffered. -/
theorem each_value_reduced_once (c : Cfg) (s : St) (h : Reach c s) (v : Nat) :
    s.sent.count v = s.reduced.count v + s.drained.count v + s.collQ.count v :=
  (inv_reach h).val v

/-! ### the defect of the code as it was (unbuffered panic channel), proven on the faithful model -/

def stateWritePanic : St := (runSched (cfgWritePanic false) schedWritePanic (init (cfgWritePanic false))).getD (init (cfgWritePanic false))

/-- **Witness 1 (deadlock of the call).**  Before the fix: the reducer writes its value and then panics.
A schedule reaches a configuration in which nothing can move, the caller has not returned (it waits in its
deferred `for range output`) and the reducer goroutine is blocked forever in `panicChan.write`. -/
theorem unfixed_call_deadlocks :
    Reach (cfgWritePanic false) stateWritePanic ∧ stuck (cfgWritePanic false) stateWritePanic ∧
    result stateWritePanic = none ∧ stateWritePanic.rpc = .psend .reducer := by
  have hr : Reach (cfgWritePanic false) stateWritePanic :=
    reach_runSched schedWritePanic Reach.init (by rfl)
  exact ⟨hr, stuck_of_stuckB hr (by rfl), by rfl, by rfl⟩

def stateCancelThenPanic : St :=
  (runSched (cfgCancelThenPanic false) schedCancelThenPanic (init (cfgCancelThenPanic false))).getD (init (cfgCancelThenPanic false))

/-- **Witness 2 (goroutine leak).**  Before the fix: mapper 0 cancels, the call returns the cancel error,
then mapper 1 panics.  Nothing can move any more and three goroutines of the call stay alive forever
(mapper 1 in `panicChan.write`, the dispatcher in `wg.Wait`, the reducer reading the collector). -/
theorem unfixed_goroutine_leak :
    Reach (cfgCancelThenPanic false) stateCancelThenPanic ∧ stuck (cfgCancelThenPanic false) stateCancelThenPanic ∧
    result stateCancelThenPanic = some (.err (.user 1)) ∧ aliveCount (cfgCancelThenPanic false) stateCancelThenPanic = 3 := by
  have hr : Reach (cfgCancelThenPanic false) stateCancelThenPanic :=
    reach_runSched schedCancelThenPanic Reach.init (by rfl)
  exact ⟨hr, stuck_of_stuckB hr (by rfl), by rfl, by rfl⟩

/-! ### (d) clean termination of the repaired code -/

/-- **No deadlock.**  In every reachable configuration of the repaired code (workers ≥ 1 — `WithWorkers`
clamps, `Tie.tie_minWorkers`; a reducer that writes at most twice — see `props/C10.json`) in which the
caller has not returned or a goroutine of the call is alive, some actor can take a step — whatever the
position of a cancel / panic / context end and whatever the schedule so far. -/
theorem no_deadlock (c : Cfg) (hf : c.fixed = true) (hw : 1 ≤ c.workers)
    (hr : (writesOf c.rscript).length ≤ 2) (s : St) (h : Reach c s)
    (hlive : result s = none ∨ aliveCount c s ≠ 0) : ∃ a, step c s a ≠ none := by
  apply Classical.byContradiction
  intro hn
  have hst : ∀ a, step c s a = none := fun a => Classical.not_not.mp fun ha => hn ⟨a, ha⟩
  have := stuck_is_final c hf hw hr s h hst
  rcases hlive with h1 | h1
  · exact this.1 h1
  · exact h1 this.2

/-- **Termination.**  A measure (`mu`: items still in the source, remaining script and pipeline work of every
goroutine, buffered values, the context's one transition) that every step of every actor strictly
decreases: every run is finite (at most `mu c (init c)` steps). -/
theorem terminates (c : Cfg) : ∃ μ : St → Nat, ∀ s a s', Reach c s → step c s a = some s' → μ s' < μ s :=
  ⟨mu c, fun _ a _ hr hs => mu_step a hr hs⟩

inductive Steps (c : Cfg) : St → St → Prop
  | refl (s : St) : Steps c s s
  | step {s s1 s2 : St} (a : Actor) : step c s a = some s1 → Steps c s1 s2 → Steps c s s2

/-- **A run ends clean.**  From every reachable configuration of the code with the buffered panic channel some run
reaches a configuration in which nothing can move, the caller has returned and no goroutine of the call is alive.
(That EVERY maximal run does is `terminates` — every run is finite — together with `Progress.stuck_is_final` — where
nothing can move the call has ended clean; this theorem is their combination for one run.) -/
theorem every_run_ends_clean (c : Cfg) (hf : c.fixed = true) (hw : 1 ≤ c.workers)
    (hr : (writesOf c.rscript).length ≤ 2) (s : St) (h : Reach c s) :
    ∃ s', Steps c s s' ∧ Reach c s' ∧ (∀ a, step c s' a = none) ∧ result s' ≠ none ∧ aliveCount c s' = 0 := by
  obtain ⟨s', h1, h2, h3⟩ := run_to_stuck (step c) (Reach c) (mu c) (Steps c) Steps.refl Steps.step
    (fun _ a _ hr hs => ⟨Reach.step a hr hs, mu_step a hr hs⟩) s h
  have := stuck_is_final c hf hw hr s' h2 h3
  exact ⟨s', h1, h2, h3, this.1, this.2⟩

/-! ### (d') a user panic is re-raised

FULL STATEMENT (false for `step`, the two-step `onceChan.write`; see the witness below; true for `stepA`,
`panic_not_lost` in PropsNow):

    theorem panic_not_lost (c : Cfg) (hf : c.fixed = true) (hnc : noCancel c = true) (s : St) (h : Reach c s)
        (r : Res) (hr : result s = some r) (hnp : resIsPanic r = false) : s.wrote = false

i.e. "if nobody cancels and the context cannot end, a call that returns normally has captured no user panic".
In `step`, `onceChan.write` is `if CAS(&wrote,0,1) { channel <- val }`: the winner of the CAS is the only one that will
ever send, but it sends LATER; a second panicking user function loses the CAS and goes on (wg.Done …).  Mapper
and reducer goroutines send before `wg.Done` / `finish`, so the call waits for them; the GENERATOR goroutine
is waited for by nobody but `drain(source)`, which runs after `close(collector)`.  So a generator that has
won the CAS and is delayed before its send, plus a mapper that panics meanwhile, lets the call return the
reducer's value with two user panics captured and none re-raised (`generator_panic_can_be_lost`).
For `step`: `panic_not_lost_partial` (the generator does not panic). -/

/-- **A captured panic is re-raised** (partial: the generator does not panic).  If nobody cancels, the
context cannot end and the generator does not panic, a call of the repaired code that returns a value or an
error — not a panic — has captured no panic at all: `onceChan.wrote` is still false and the channel is
empty.  (Every panicking mapper / reducer goroutine passes `onceChan.write` before `wg.Done` / `finish`,
and the call returns only after `finish`: `no_deadlock` shows it does return.) -/
theorem panic_not_lost_partial (c : Cfg) (hf : c.fixed = true) (hnc : noCancel c = true) (hg : genPanics c = false)
    (s : St) (h : Reach c s) (r : Res) (hr : result s = some r) (hnp : resIsPanic r = false) :
    s.wrote = false ∧ s.pbuf = none := by
  have X := xm_of (nc_of hnc) (inv_reach h)
  have C := settled_reach hg hf h r (result_eq_some.mp hr) hnp X.once X.ctxDone
  exact ⟨C.wrote, ((inv_reach h).p1 C.wrote).1⟩

/-- two items, two workers: mapper 0 panics, the generator panics after the last item, the reducer ranges over
the pipe and writes 7. -/
def cfgLost : Cfg :=
  { n := 2, workers := 2, gPanicAt := some 2,
    mscript := fun i => if i = 0 then [.panic] else [],
    rscript := [.readAll, .write 7], ctxCan := false, ctxPre := false, fixed := true }

/-- both items are handed out; the generator panics and wins the CAS of `onceChan.write` but is delayed
before its send; mapper 0 panics, loses the CAS, ends; mapper 1 ends; the dispatcher sees `failed`, closes
the collector; the reducer writes 7 and ends; the caller takes 7, finds the panic channel empty, returns. -/
def schedLost : List Actor :=
  [.disp, .disp, .disp, .disp, .disp, .disp, .disp, .disp, .gen, .gen,
   .mapper 0, .mapper 0, .mapper 0, .mapper 0, .mapper 0, .mapper 1, .mapper 1, .mapper 1,
   .disp, .disp, .disp, .red, .red, .red, .red, .red, .red, .caller, .caller]

def stateLost : St := (runSched cfgLost schedLost (init cfgLost)).getD (init cfgLost)

/-- **Witness (a user panic can be lost; the code with the two-step `onceChan.write`, also with the buffered panic channel).**  Nobody cancels;
the generator and mapper 0 both panic; the call returns the reducer's value 7.  The generator goroutine
stands between the CAS and the send of `onceChan.write`, mapper 0's panic was dropped because it lost the CAS. -/
theorem generator_panic_can_be_lost :
    Reach cfgLost stateLost ∧ noCancel cfgLost = true ∧ result stateLost = some (.val 7) ∧
    stateLost.failed = 1 ∧ stateLost.wrote = true ∧ stateLost.wroteBy = some .gen ∧ stateLost.gpc = .psend ∧
    stateLost.pbuf = none := by
  have hr : Reach cfgLost stateLost := reach_runSched schedLost Reach.init (by rfl)
  exact ⟨hr, by decide, by rfl, by rfl, by rfl, by rfl, by rfl, by rfl⟩

/-! ### (e) nothing cancelled: the end-state equalities -/

/-- **The call returns the reducer's single output.**  When nothing is cancelled (no cancel, no panic, the
context cannot end) a finished call has exactly the expected outcome: the reducer's single value,
`ErrReduceNoOutput` if it writes nothing, the library's panic if it writes more than once. -/
theorem faultfree_result (c : Cfg) (hff : faultFree c = true) (s : St) (h : Reach c s) (r : Res)
    (hr : result s = some r) : r = expected c := by
  have F := ffacts_of hff
  have I := inv_reach h
  have X := xs_of F I
  have hc := result_eq_some.mp hr
  have D := I.result hr
  rcases allowed0_faultFree F (I.cres r (Or.inr (Or.inr hc))) with ⟨v, rfl⟩ | rfl | ⟨rfl, h2⟩
  · -- the call has ended: the reducer goroutine has, so the one write used up is the only one
    have hd : s.rpc = .done := X.finr ((I.c2 _ hc).resolve_right (by simp))
    have hl := (hc ▸ I.ex : ExAt c s (.done (.val v))) X.once X.ctxDone F.rpanic
    simp only [hd, rW, rRem] at hl
    simp [expected, list_of_head_len D.1 (by omega)]
  · have hw : writesOf c.rscript = [] := by simpa [F.ctxCan, F.ctxPre, F.rpanic] using D.1
    simp [expected, hw]
  · unfold expected; split <;> simp_all

/-- **Every generated item is handed to the mapper exactly once.**  When nothing is cancelled, once the
dispatcher has left its loop every item `0 … n-1` has been handed to exactly one mapper invocation, nothing
was dropped, and nothing else was mapped. -/
theorem faultfree_every_item_mapped_once (c : Cfg) (hff : faultFree c = true) (s : St) (h : Reach c s)
    (hd : dWaiting s.dpc = true) :
    s.dropped = [] ∧ ∀ i, s.mapped.count i = if i < c.n then 1 else 0 := by
  have F := ffacts_of hff
  have hf : s.failed = 0 := Decidable.of_not_not fun x => by
    have := (inv_reach h).f4 x
    simp only [anyMapper, List.any_eq_true, List.mem_range] at this
    obtain ⟨i, hi, hp⟩ := this
    simp [F.mpanic i hi] at hp
  exact all_mapped_once ⟨F.ctxCan, F.ctxPre, F.gen⟩ h (xs_of F (inv_reach h)).once hf hd

/-- **Every value a mapper writes reaches the reducer exactly once.**  When nothing is cancelled, once the
reducer goroutine has ended, the values received by the reducer function (plus those received by the
deferred drain, if the reducer function did not range over the whole pipe) are exactly the values the
mapper scripts of all items write, with multiplicity; and if the reducer ranges over the pipe (`readAll`),
the deferred drain received nothing: `reduced` alone is the multiset of all written values. -/
theorem faultfree_every_value_reduced_once (c : Cfg) (hff : faultFree c = true) (s : St) (h : Reach c s)
    (hr : s.rpc = .done) :
    (∀ v, s.reduced.count v + s.drained.count v = (writesOfItems c (List.range c.n)).count v) ∧
    (UAct.readAll ∈ c.rscript → s.drained = []) := by
  have E := inv_reach h
  have R := invR_reach hff h
  have hcq := E.r1 (by simp [hr, rAfterDrain])
  obtain ⟨-, hq, hda⟩ := quiet_of_fin E (xs_of (ffacts_of hff) E).once (E.r2 hr)
  have hdw : dWaiting s.dpc = true := by
    cases hp : s.dpc <;> simp [hp, dAfter] at hda <;> simp [dWaiting]
  have hmapped := (faultfree_every_item_mapped_once c hff s h hdw).2
  have hpend : ∀ i, i < c.n → pend c i (s.mp i) = [] := by
    intro i hi
    have hw := hq i
    have hne : s.mp i ≠ .idle := E.n3 i (by
      have := hmapped i
      simp [hi] at this
      exact List.count_pos_iff.mp (by omega))
    cases hm : s.mp i <;> simp [hm, inWg] at hw hne ⊢ <;> simp [pend]
  refine ⟨fun v => ?_, fun hra => R.ra3 hra⟩
  have hs := sentInv_reach hff h v
  rw [sumP_zero c v s.mp c.n hpend] at hs
  have hv := E.val v
  rw [hcq.2] at hv
  rw [← sumP_idle]
  simp at hv
  omega

/-- the three equalities at once for a configuration in which nothing can move any more (a terminated run). -/
theorem faultfree_terminated (c : Cfg) (hff : faultFree c = true) (hf : c.fixed = true) (hw : 1 ≤ c.workers)
    (hr : (writesOf c.rscript).length ≤ 2) (s : St) (h : Reach c s) (hst : ∀ a, step c s a = none) :
    result s = some (expected c) ∧ aliveCount c s = 0 ∧ s.dropped = [] ∧
    (∀ i, s.mapped.count i = if i < c.n then 1 else 0) ∧
    (∀ v, s.reduced.count v + s.drained.count v = (writesOfItems c (List.range c.n)).count v) ∧
    (UAct.readAll ∈ c.rscript → s.drained = []) := by
  have hfin := stuck_is_final c hf hw hr s h hst
  obtain ⟨r, hres⟩ := Option.ne_none_iff_exists'.mp hfin.1
  have hexp := faultfree_result c hff s h r hres
  obtain ⟨hrd, hdd⟩ : s.rpc = .done ∧ s.dpc = .done := by
    have := hfin.2
    unfold aliveCount at this
    constructor
    · cases hp : s.rpc <;> simp [hp] at this ⊢
    · cases hp : s.dpc <;> simp [hp] at this ⊢
  have hm := faultfree_every_item_mapped_once c hff s h (by simp [hdd, dWaiting])
  have hv := faultfree_every_value_reduced_once c hff s h hrd
  exact ⟨by rw [hres, hexp], hfin.2, hm.1, hm.2, hv.1, hv.2⟩

/-! ### non-vacuity: the fixed model on the same two configurations, and a plain run -/

/-- the fixed code on witness 1 under the "caller first" scheduler: the panic is re-raised, nobody is left. -/
example : let c := cfgWritePanic true
    let s := runPrio c (actors c.n) 200 (init c)
    result s = some (.panic .reducer) ∧ aliveCount c s = 0 ∧ stuckB c s = true := by decide

/-- the fixed code on witness 2: the call returns the cancel error (or re-raises), nobody is left. -/
example : let c := cfgCancelThenPanic true
    let s := runPrio c (actors c.n).reverse 400 (init c)
    (result s).isSome ∧ aliveCount c s = 0 ∧ stuckB c s = true := by decide

/-- a plain run: 3 items, 2 workers, fan-out 2/0/1, the reducer reads everything and writes 7. -/
def cfgPlain : Cfg :=
  { n := 3, workers := 2, gPanicAt := none,
    mscript := fun i => if i = 0 then [.write 1, .write 2] else if i = 1 then [] else [.write 3],
    rscript := [.readAll, .write 7], ctxCan := false, ctxPre := false, fixed := true }

example : let s := runPrio cfgPlain (actors 3).reverse 400 (init cfgPlain)
    result s = some (expected cfgPlain) ∧ s.mapped = [0, 1, 2] ∧ s.dropped = [] ∧ s.reduced.count 1 = 1 ∧ s.reduced.count 2 = 1 ∧ s.reduced.count 3 = 1 ∧ s.reduced.length = 3
      ∧ s.drained = [] ∧ aliveCount cfgPlain s = 0 := by decide

/-- `cfgPlain` is a "nothing cancelled" configuration with workers ≥ 1 and a single reducer write: the
hypotheses of `no_deadlock`, `every_run_ends_clean`, `faultfree_terminated` are satisfiable, and the run
above ends in a configuration in which nothing can move. -/
example : faultFree cfgPlain = true ∧ cfgPlain.fixed = true ∧ 1 ≤ cfgPlain.workers ∧
    (writesOf cfgPlain.rscript).length ≤ 2 ∧
    stuckB cfgPlain (runPrio cfgPlain (actors 3).reverse 400 (init cfgPlain)) = true := by decide

/-- the measure of `terminates` on the initial configuration of `cfgPlain` (an upper bound for the length of
every run of this call). -/
example : mu cfgPlain (init cfgPlain) = 112 := by decide

/-- the C10-1 scenario in the model: one worker, mapper 0 writes and cancels with error 1 while the generator
still has items, the reducer reads one value and writes 7.  Schedule: the cancel records its error and
drains; the reducer's write begins after that (`wSnap = some true`); the caller receives the value while
`cancel` is still in progress and must return the error, not the value. -/
def cfgRace : Cfg :=
  { n := 3, workers := 1, gPanicAt := none,
    mscript := fun i => if i = 0 then [.write 5, .cancel (some 1)] else [],
    rscript := [.readOne, .write 7], ctxCan := false, ctxPre := false, fixed := true }

def schedRace : List Actor :=
  [.disp, .disp, .disp, .disp, .mapper 0, .mapper 0, .mapper 0, .mapper 0, .red, .red, .red]

example : let s := (runSched cfgRace schedRace (init cfgRace)).getD (init cfgRace)
    s.once = 1 ∧ s.fin = false ∧ s.wSnap = some true ∧ s.dropped = [1] ∧ s.cpc = .defer (.err (.user 1)) := by decide

end GoZero.C10
