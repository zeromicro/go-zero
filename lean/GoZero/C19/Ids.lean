/-
C19 — the ids: a model of `stringx.Randn` as a function of the successive 6-bit draws it takes from its
random source.  `NewRedisLock` sets `id := stringx.Randn(randomLen)`.
-/
import GoZero.Base.StringLit
namespace GoZero.C19

/-- `letterBytes` of core/stringx/random.go -/
def idAlphabet : List Char := "abcdefghijklmnopqrstuvwxyzABCDEFGHIJKLMNOPQRSTUVWXYZ0123456789".toList

/-- the 6-bit indices `stringx.Randn` reads from one `src.Int63()` value: `letterIdxMax = 10` of them, low bits first
(`idx := cache & letterIdxMask`, then `cache >>= letterIdxBits`) -/
def drawsOfInt63 (v : Nat) : List Nat := (List.range 10).map fun j => (v >>> (6 * j)) &&& 63

def drawsOf (vs : List Nat) : List Nat := vs.flatMap drawsOfInt63

/-- `stringx.Randn(n)` as a function of the successive draws: a draw is used iff `idx < len(letterBytes) = 62`
(rejection), the used draws fill `b[n-1], b[n-2], …, b[0]`; `none` = the draws ran out before `n` were accepted
(the Go loop would ask the source for more). -/
def randnFrom (n : Nat) (draws : List Nat) : Option (List Char) :=
  if ((draws.filter (· < 62)).take n).length = n then
    some ((((draws.filter (· < 62)).take n).map fun i => idAlphabet.getD i 'a').reverse)
  else none

/-- both facts in one theorem: the alphabet is evaluated once, by the kernel, on its characters (`lit_chars`, Base/StringLit.lean) -/
theorem idAlphabet_facts : idAlphabet.length = 62 ∧ idAlphabet.Nodup := by
  unfold idAlphabet
  lit_chars
  decide +kernel

theorem idAlphabet_length : idAlphabet.length = 62 := idAlphabet_facts.1
theorem idAlphabet_nodup : idAlphabet.Nodup := idAlphabet_facts.2

theorem mem_accepted_lt {n : Nat} {draws : List Nat} {i : Nat} (hi : i ∈ (draws.filter (· < 62)).take n) :
    i < 62 := by
  simpa using (List.mem_filter.1 (List.mem_of_mem_take hi)).2

theorem randnFrom_eq_some {n : Nat} {draws : List Nat} {id : List Char} (h : randnFrom n draws = some id) :
    ((draws.filter (· < 62)).take n).length = n ∧
    id = (((draws.filter (· < 62)).take n).map fun i => idAlphabet.getD i 'a').reverse := by
  unfold randnFrom at h
  split at h
  · exact ⟨‹_›, (Option.some.inj h).symm⟩
  · cases h

/-- indices below 62 name different characters (`idAlphabet_nodup`), so reading them off the alphabet loses nothing -/
theorem map_getD_inj {a b : List Nat} (ha : ∀ i ∈ a, i < 62) (hb : ∀ i ∈ b, i < 62)
    (h : a.map (fun i => idAlphabet.getD i 'a') = b.map (fun i => idAlphabet.getD i 'a')) : a = b := by
  induction a generalizing b with
  | nil => simpa using h.symm
  | cons x a ih =>
    cases b with
    | nil => simp at h
    | cons y b =>
      simp only [List.map_cons, List.cons.injEq, List.forall_mem_cons] at h ha hb
      rw [(List.getD_inj (idAlphabet_length ▸ ha.1) (idAlphabet_length ▸ hb.1) idAlphabet_nodup).1 h.1,
        ih ha.2 hb.2 h.2]

end GoZero.C19
