/-
C19 — refinement: the Redis-level model (scripts over the store) implements the lease table of Spec.lean,
step for step, with the same results and the same observable view, from every state in which all
entries carry a TTL (true initially and preserved: the scripts only ever write with PX).
-/
import GoZero.C19.Invariants
namespace GoZero.C19
open Spec

def HasTTL (st : St) : Prop := ∀ k e, st.store.ent k = some e → ∃ x, e.exp = some x

def abs (st : St) : ASt :=
  { now := st.store.now,
    lease := fun k =>
      match st.store.ent k with
      | some e => match e.exp with
        | some x => some { holder := e.val, till := x }
        | none => none
      | none => none,
    secs := st.secs,
    grace := st.store.grace }

theorem ASt.ext' {a b : ASt} (h1 : a.now = b.now) (h2 : ∀ k, a.lease k = b.lease k)
    (h3 : ∀ i, a.secs i = b.secs i) (h4 : a.grace = b.grace) : a = b := by
  cases a; cases b; simp at *; exact ⟨h1, funext h2, funext h3, h4⟩

theorem abs_holder (st : St) (h : HasTTL st) (k : String) :
    (abs st).holder k = (st.store.live k).map (fun e => { holder := e.val, till := e.exp.getD 0 }) := by
  unfold ASt.holder abs Store.live
  cases he : st.store.ent k with
  | none => simp [he]
  | some e =>
    obtain ⟨x, hx⟩ := h k e he
    by_cases hl : st.store.now < x <;> simp [he, hx, hl, Entry.liveAt]

theorem abs_freeFor (st : St) (h : HasTTL st) (k id : String) :
    (abs st).freeFor k id = true ↔ freeFor st.store k id := by
  unfold ASt.freeFor freeFor Store.get
  rw [abs_holder st h]
  cases st.store.live k <;> simp

theorem abs_heldBy (st : St) (h : HasTTL st) (k id : String) :
    (abs st).heldBy k id = true ↔ st.store.get k = some id := by
  unfold ASt.heldBy Store.get
  rw [abs_holder st h]
  cases st.store.live k <;> simp

theorem abs_view (st : St) (h : HasTTL st) (k : String) : (abs st).view k = st.view k := by
  unfold ASt.view St.view
  rw [abs_holder st h]
  unfold Store.pttl Store.live
  cases he : st.store.ent k with
  | none => simp
  | some e =>
    obtain ⟨x, hx⟩ := h k e he
    by_cases hl : st.store.now < x <;> simp [hx, hl, Entry.liveAt, abs]

theorem hasTTL_initG (g : Nat) : HasTTL (St.initG g) := by
  intro k e he; simp [St.initG, Store.emptyG] at he

theorem hasTTL_init : HasTTL St.init := hasTTL_initG 0

theorem abs_initG (g : Nat) : abs (St.initG g) = ASt.initG g := by
  apply ASt.ext' <;> intros <;> rfl

theorem hasTTL_step (cfg : Nat → LockCfg) (st : St) (op : Op) (h : HasTTL st) : HasTTL (step cfg st op).1 := by
  intro k e he
  rcases step_ent cfg st op k with hk | ⟨_, _, _, hv⟩
  · exact h k e (hk ▸ he)
  · exact (hv e he).2

theorem acquireWith_refines (cfg : Nat → LockCfg) (st : St) (j secs : Nat) (h : HasTTL st) :
    (if (abs st).freeFor (cfg j).key (cfg j).id then ((abs st).grant (cfg j).key (cfg j).id secs, true)
     else (abs st, false)) = (abs (acquireWith cfg st j secs).1, (acquireWith cfg st j secs).2) := by
  rw [acquireWith_eq]
  by_cases hf : freeFor st.store (cfg j).key (cfg j).id
  · rw [if_pos ((abs_freeFor st h _ _).2 hf), if_pos hf]
    congr 1
    apply ASt.ext' <;> intros <;> try rfl
    simp only [ASt.grant, abs, Store.setPX, upd, updL]
    split <;> rfl
  · rw [if_neg (mt (abs_freeFor st h _ _).1 hf), if_neg hf]

theorem step_refines (cfg : Nat → LockCfg) (st : St) (op : Op) (h : HasTTL st) :
    Spec.step cfg (abs st) op = (abs (step cfg st op).1, (step cfg st op).2) := by
  cases op with
  | ft ms | setExpire j s => rfl
  | acquire j => exact acquireWith_refines cfg st j (st.secs j) h
  | acquireS j secs => exact acquireWith_refines cfg st j secs h
  | release j =>
    simp only [Spec.step, step, release_eq]
    by_cases hf : holds cfg st j
    · rw [if_pos ((abs_heldBy st h _ _).2 hf), if_pos hf]
      congr 1
      apply ASt.ext' <;> intros <;> try rfl
      simp only [abs, upd, updL]
      split <;> rfl
    · rw [if_neg (mt (abs_heldBy st h _ _).1 hf), if_neg hf]

theorem results_refine (cfg : Nat → LockCfg) (ops : List Op) :
    ∀ st, HasTTL st → Spec.results cfg (abs st) ops = results cfg st ops := by
  induction ops with
  | nil => intro st _; rfl
  | cons op ops ih =>
    intro st h
    simp only [Spec.results, results, step_refines cfg st op h, ih _ (hasTTL_step cfg st op h)]

def Spec.run (cfg : Nat → LockCfg) (a : ASt) (ops : List Op) : ASt := ops.foldl (fun a op => (Spec.step cfg a op).1) a

theorem run_refines (cfg : Nat → LockCfg) (ops : List Op) :
    ∀ st, HasTTL st → Spec.run cfg (abs st) ops = abs (run cfg st ops) ∧ HasTTL (run cfg st ops) := by
  induction ops with
  | nil => intro st h; exact ⟨rfl, h⟩
  | cons op ops ih =>
    intro st h
    simp only [Spec.run, run, List.foldl_cons, step_refines cfg st op h]
    exact ih _ (hasTTL_step cfg st op h)

theorem run_refines_initG (g : Nat) (cfg : Nat → LockCfg) (ops : List Op) :
    Spec.run cfg (ASt.initG g) ops = abs (run cfg (St.initG g) ops) ∧ HasTTL (run cfg (St.initG g) ops) :=
  abs_initG g ▸ run_refines cfg ops (St.initG g) (hasTTL_initG g)

end GoZero.C19
