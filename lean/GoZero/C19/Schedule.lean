/-
C19 — schedules of any number of goroutines (thread ids are arbitrary naturals) at the granularity of the atomic steps of
the Go code, and `exec_is_history`: the shared state a schedule reaches is `run` of its labels, so every theorem about
histories is a theorem about every schedule.

  Acquire  =  load `seconds` (atomic.LoadUint32)  ;  script run (atomic in Redis)  ;  decode reply (local)
  Release  =  script run ; decode (local)
  SetExpire = atomic.StoreUint32
  clock    =  the Redis clock moves between any two steps

The label of a `CStep` is the `Op` it contributes to the history: none for the load, which only touches the thread's own
register; `acquireS i s` for a script run with an earlier-loaded `s`.  Cmds.lean / Atomic.lean have the finer semantics (a call is
a program of round trips, EVALSHA may be refused first); neither is derived from the other, both are reduced to `run`, and the
`…_under_every_schedule` theorems of Props.lean are stated over this one, the `…_command_schedule` ones over that.
-/
import GoZero.C19.Model
namespace GoZero.C19

inductive Pc where
  | idle
  | loaded (i : Nat) (seconds : Nat)   -- inside Acquire of instance i, after the load, before the script run
  deriving Repr, DecidableEq

structure Conc where
  st : St
  pc : Nat → Pc

def updPc (f : Nat → Pc) (t : Nat) (v : Pc) : Nat → Pc := fun u => if u = t then v else f u

inductive CStep (cfg : Nat → LockCfg) : Conc → Option Op → Conc → Prop where
  | load (c : Conc) (t i : Nat) (h : c.pc t = .idle) :
      CStep cfg c none { c with pc := updPc c.pc t (.loaded i (c.st.secs i)) }
  | script (c : Conc) (t i s : Nat) (h : c.pc t = .loaded i s) :
      CStep cfg c (some (.acquireS i s)) { st := (step cfg c.st (.acquireS i s)).1, pc := updPc c.pc t .idle }
  | release (c : Conc) (t i : Nat) (h : c.pc t = .idle) :
      CStep cfg c (some (.release i)) { c with st := (step cfg c.st (.release i)).1 }
  | setExpire (c : Conc) (t i : Nat) (v : Int) (h : c.pc t = .idle) :
      CStep cfg c (some (.setExpire i v)) { c with st := (step cfg c.st (.setExpire i v)).1 }
  | clock (c : Conc) (ms : Nat) :
      CStep cfg c (some (.ft ms)) { c with st := (step cfg c.st (.ft ms)).1 }

/-- an execution with the history it leaves on the shared state -/
inductive Exec (cfg : Nat → LockCfg) : Conc → List Op → Conc → Prop where
  | nil (c : Conc) : Exec cfg c [] c
  | tau {c c' c'' : Conc} {ops : List Op} : CStep cfg c none c' → Exec cfg c' ops c'' → Exec cfg c ops c''
  | vis {c c' c'' : Conc} {op : Op} {ops : List Op} :
      CStep cfg c (some op) c' → Exec cfg c' ops c'' → Exec cfg c (op :: ops) c''

theorem CStep.st_eq (cfg : Nat → LockCfg) {c c' : Conc} {l : Option Op} (h : CStep cfg c l c') :
    c'.st = match l with
      | none => c.st
      | some op => (step cfg c.st op).1 := by
  cases h <;> rfl

theorem exec_is_history (cfg : Nat → LockCfg) {c c' : Conc} {ops : List Op} (h : Exec cfg c ops c') :
    c'.st = run cfg c.st ops := by
  induction h with
  | nil c => rfl
  | tau hs _ ih => rw [ih, CStep.st_eq cfg hs]
  | vis hs _ ih => rw [ih, CStep.st_eq cfg hs]; rfl

/-- a load leaves some thread inside Acquire with the value the instance's `seconds` field holds at that moment; the script run
of that thread (`CStep.script`) then uses this value, whatever SetExpire stores in between -/
theorem loaded_value (cfg : Nat → LockCfg) {c c' : Conc} (h : CStep cfg c none c') :
    ∃ t i, c'.pc t = .loaded i (c.st.secs i) := by
  cases h with
  | load t i _ => exact ⟨t, i, by simp [updPc]⟩

def Conc.initG (g : Nat) : Conc := { st := St.initG g, pc := fun _ => .idle }

def Conc.init : Conc := Conc.initG 0

end GoZero.C19
