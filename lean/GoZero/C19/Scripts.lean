/-
C19 — what the two scripts do to the store in terms of `get`, and each call as one equation: granted (the entry is
written, `true`) or refused (the state is untouched, `false`).  Everything later reasons from `acquireWith_eq` / `release_eq`.
-/
import GoZero.C19.Model
namespace GoZero.C19

variable (cfg : Nat → LockCfg)

def freeFor (s : Store) (key id : String) : Prop := s.get key = none ∨ s.get key = some id

instance (s : Store) (key id : String) : Decidable (freeFor s key id) := by unfold freeFor; infer_instance

theorem live_isSome (s : Store) (k : String) : (s.live k).isSome = (s.get k).isSome := by
  simp [Store.get]

theorem lockScript_store (s : Store) (key id : String) (px : Nat) :
    (lockScript s key id px).1 = if freeFor s key id then s.setPX key id px else s := by
  unfold lockScript freeFor Store.setNXPX
  rw [live_isSome]
  by_cases h : s.get key = some id
  · simp [h]
  · by_cases hn : s.get key = none <;> simp [h, hn, Option.isSome_iff_ne_none]

theorem lockScript_reply (s : Store) (key id : String) (px : Nat) :
    acquireReply (lockScript s key id px).2 = decide (freeFor s key id) := by
  unfold lockScript freeFor Store.setNXPX
  rw [live_isSome]
  by_cases h : s.get key = some id
  · simp [h, acquireReply]
  · by_cases hn : s.get key = none <;> simp [h, hn, Option.isSome_iff_ne_none, acquireReply]

theorem delScript_store (s : Store) (key id : String) :
    (delScript s key id).1 = if s.get key = some id then { s with ent := upd s.ent key none } else s := by
  unfold delScript Store.del
  rw [live_isSome]
  split <;> simp [*]

theorem delScript_reply (s : Store) (key id : String) :
    releaseReply (delScript s key id).2 = decide (s.get key = some id) := by
  unfold delScript Store.del
  rw [live_isSome]
  split <;> simp [*, releaseReply]

theorem delScript_reply_int (s : Store) (k id : String) : ∃ n, (delScript s k id).2 = .int n := by
  unfold delScript
  split
  · exact ⟨_, rfl⟩
  · exact ⟨0, rfl⟩

theorem get_eq (s : Store) (k : String) :
    s.get k = match s.ent k with
      | some e => if e.liveAt s.now then some e.val else none
      | none => none := by
  unfold Store.get Store.live
  cases s.ent k with
  | none => rfl
  | some e => by_cases h : e.liveAt s.now <;> simp [h]

theorem get_of_ent_live {s : Store} {k v : String} {u : Nat} (h : s.ent k = some ⟨v, some u⟩) (hl : s.now < u) :
    s.get k = some v := by
  rw [get_eq, h]; simp [Entry.liveAt, hl]

theorem get_of_ent_dead {s : Store} {k v : String} {u : Nat} (h : s.ent k = some ⟨v, some u⟩) (hl : u ≤ s.now) :
    s.get k = none := by
  rw [get_eq, h]; simp [Entry.liveAt]; omega

theorem get_of_ent_none {s : Store} {k : String} (h : s.ent k = none) : s.get k = none := by
  rw [get_eq, h]

theorem get_some_ent {s : Store} {k v : String} (h : s.get k = some v) :
    ∃ e, s.ent k = some e ∧ e.val = v ∧ e.liveAt s.now = true := by
  rw [get_eq] at h
  cases he : s.ent k with
  | none => simp [he] at h
  | some e =>
    by_cases hl : e.liveAt s.now
    · simp [he, hl] at h; exact ⟨e, rfl, h, hl⟩
    · simp [he, hl] at h

theorem toUint32_of_lt {s : Nat} (h : s < 4294967296) : toUint32 (s : Int) = s := by
  unfold toUint32
  rw [Int.emod_eq_of_lt (Int.natCast_nonneg s) (show (s : Int) < 4294967296 from Int.ofNat_lt.2 h), Int.toNat_natCast]

theorem leaseMs_pos (s : Nat) : 0 < leaseMs s := by unfold leaseMs tolerance; omega

theorem get_setPX (s : Store) (k v : String) {px : Nat} (h : 0 < px) : (s.setPX k v px).get k = some v :=
  get_of_ent_live (u := s.now + px + s.grace) (by simp [Store.setPX, upd]) (by show s.now < _; omega)

theorem acquireWith_eq (st : St) (i secs : Nat) :
    acquireWith cfg st i secs =
      if freeFor st.store (cfg i).key (cfg i).id
      then ({ st with store := st.store.setPX (cfg i).key (cfg i).id (leaseMs secs) }, true) else (st, false) := by
  simp only [acquireWith, lockScript_store, lockScript_reply]
  split <;> simp [*]

theorem release_eq (st : St) (i : Nat) :
    release cfg st i =
      if holds cfg st i then ({ st with store := { st.store with ent := upd st.store.ent (cfg i).key none } }, true)
      else (st, false) := by
  simp only [release, delScript_store, delScript_reply, holds]
  split <;> simp [*]

theorem acquireWith_secs (cfg : Nat → LockCfg) (st : St) (i secs : Nat) :
    (acquireWith cfg st i secs).1.secs = st.secs := rfl

theorem release_secs (cfg : Nat → LockCfg) (st : St) (i : Nat) : (release cfg st i).1.secs = st.secs := rfl

theorem acquireWith_now (st : St) (i secs : Nat) :
    (acquireWith cfg st i secs).1.store.now = st.store.now := by
  rw [acquireWith_eq]; split <;> rfl

theorem view_setPX (st : St) (k v : String) {px : Nat} (h : 0 < px) :
    ({ st with store := st.store.setPX k v px } : St).view k = some (v, (px : Int)) := by
  have : st.store.now < st.store.now + px + st.store.grace := by omega
  simp [St.view, Store.pttl, Store.live, Store.setPX, upd, Entry.liveAt, this]
  omega

theorem acquireWith_result (st : St) (i secs : Nat) :
    (acquireWith cfg st i secs).2 = true ↔ freeFor st.store (cfg i).key (cfg i).id := by
  rw [acquireWith_eq]; split <;> simp [*]

theorem release_result (st : St) (i : Nat) :
    (release cfg st i).2 = true ↔ holds cfg st i := by
  rw [release_eq]; split <;> simp [*]

theorem holds_of_granted (st : St) (i secs : Nat) (h : (acquireWith cfg st i secs).2 = true) :
    holds cfg (acquireWith cfg st i secs).1 i := by
  rw [acquireWith_eq, if_pos ((acquireWith_result cfg st i secs).1 h)]
  exact get_setPX _ _ _ (leaseMs_pos _)

theorem acquireWith_ent (st : St) (i secs : Nat) (k : String) :
    (acquireWith cfg st i secs).1.store.ent k =
      if freeFor st.store (cfg i).key (cfg i).id ∧ k = (cfg i).key
      then some ⟨(cfg i).id, some (st.store.now + leaseMs secs + st.store.grace)⟩ else st.store.ent k := by
  rw [acquireWith_eq]
  by_cases hf : freeFor st.store (cfg i).key (cfg i).id <;> by_cases hk : k = (cfg i).key <;>
    simp [hf, hk, Store.setPX, upd]

theorem release_ent (st : St) (i : Nat) (k : String) :
    (release cfg st i).1.store.ent k = if holds cfg st i ∧ k = (cfg i).key then none else st.store.ent k := by
  rw [release_eq]
  by_cases hf : holds cfg st i <;> by_cases hk : k = (cfg i).key <;> simp [hf, hk, upd]

end GoZero.C19
