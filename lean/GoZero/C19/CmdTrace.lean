/-
C19 — round 5c: the COMMAND TRACE of a call (core Lean only; used by the driver).

Which commands does one `Acquire` / `AcquireCtx` / `Release` / `ReleaseCtx` put on the wire — for every value the Go
code can be handed, every fate of the caller's context and every state of go-zero's breaker?  The model here is
at the level of the Go control flow:

  * `Row` / `realRows` — the table of every call in redislock.go that is not pure (conversions, formatting,
    logging, error inspection): per function and per BRANCH (the chain of if-conditions it sits under).  The
    extractor regenerates this table from the tree on every run (`Extracted.C19.callTable`); Tie proves it equal
    to `realRows` (`tie_callTable`).  A `rl.store.Del` on an error path, a helper that hides one, a second
    script run — each is a new row and breaks that theorem.
  * `progOfRows` — the table interpreted as a program `GProg`: it sends a wire command, gets an answer from the
    environment, and continues; rows under a condition fire when the condition holds for the value handed back
    (`condHolds`), helper methods of the same file are inlined.  `realG = progOfRows realRows`.
  * the environment is ARBITRARY (`env : Nat → Wire → Answer`): per command it decides whether go-zero's hooks let
    the command through (`breakerGate`: the breaker hook answers a context that is already done with its error,
    an open breaker with ErrServiceUnavailable — neither reaches the connection) and what comes back (NOSCRIPT,
    or any `Handed` value).  `gexec` runs a program against an environment and returns the wires attempted, with
    the gate's verdict, and the call's result.

Trace.lean: `command_trace_is_the_own_script_only` — for every call, every environment: the trace is
`[EVALSHA own-script]` or `[EVALSHA own-script, EVAL own-script]` (the latter exactly when the first answer
seen was NOSCRIPT), nothing else, in particular nothing after an error.
-/
import GoZero.C19.Outcomes
namespace GoZero.C19

inductive Verb where
  | evalsha
  | eval
  | other (method : String)     -- any other method of the store client (GET, DEL, …)
  deriving Repr, DecidableEq

/-- one command a call tries to put on the wire -/
structure Wire where
  verb : Verb
  cmd  : Cmd
  deriving Repr, DecidableEq

/-- go-zero's hook chain in front of the connection (duration hook → breaker hook → user hooks → go-redis) -/
inductive GateOut where
  | pass          -- the command goes on to go-redis (pool, connection)
  | ctxErr        -- breaker hook: `case <-ctx.Done(): return ctx.Err()`
  | unavailable   -- the breaker is open: ErrServiceUnavailable
  deriving Repr, DecidableEq

/-- `breakerHook.ProcessHook` → `DoWithAcceptableCtx`: a done context first, then the breaker's own verdict -/
def breakerGate (ctxDone brkOpen : Bool) : GateOut :=
  if ctxDone then .ctxErr else if brkOpen then .unavailable else .pass

/-- what comes back for one command -/
inductive Got where
  | noscript               -- Redis' error reply NOSCRIPT (nothing executed)
  | handed (h : Handed)
  deriving Repr, DecidableEq

structure Answer where
  gate : GateOut
  got  : Got          -- only looked at when the gate lets the command pass

/-- what `Script.Run` / the Go code see: a command stopped at the gate is an error that is not NOSCRIPT -/
def Answer.seen (a : Answer) : Got :=
  match a.gate with
  | .pass => a.got
  | _ => .handed .err

/-- a call as a program over the wire; the result is (bool, an error is returned) -/
inductive GProg where
  | done (res : Bool × Bool)
  | send (w : Wire) (k : Got → GProg)

/-- run against an environment (`n` = number of the command, from 0): wires attempted with the gate's verdict, result -/
def gexec (env : Nat → Wire → Answer) : GProg → Nat → List (Wire × GateOut) × (Bool × Bool)
  | .done r, _ => ([], r)
  | .send w k, n =>
    (((w, (env n w).gate)) :: (gexec env (k (env n w).seen) (n + 1)).1, (gexec env (k (env n w).seen) (n + 1)).2)

/-- an error with the NOSCRIPT prefix answering an EVAL is just an error for the Go code -/
def Got.toHanded : Got → Handed
  | .handed h => h
  | .noscript => .err

/-- go-redis `Script.Run` + what the caller does with the final value -/
def scriptRunG (c : Cmd) (after : Handed → GProg) : GProg :=
  .send ⟨.evalsha, c⟩ fun g =>
    match g with
    | .noscript => .send ⟨.eval, c⟩ fun g' => after g'.toHanded
    | .handed h => after h

/-! ### the table of calls and its interpretation -/

structure Row where
  fn     : String                  -- function of redislock.go
  cond   : List (Bool × String)    -- if-conditions the call sits under, outermost first; `(true, c)` = the else side of `c`
  kind   : Nat                     -- 0 other (atomic, stringx, …) | 1 method of the store client `rl.store.<name>` |
                                   -- 2 method of the same receiver `rl.<m>`: `name` is the function `RedisLock.<m>`
  name   : String
  args   : List String
  deriving Repr, DecidableEq

/-- every non-pure call of redislock.go, per function and branch — what the model was written against -/
def realRows : List Row := [
  ⟨"init", [], 0, "rand.NewSource", ["time.Now().UnixNano()"]⟩,
  ⟨"init", [], 0, "time.Now().UnixNano", []⟩,
  ⟨"init", [], 0, "time.Now", []⟩,
  ⟨"NewRedisLock", [], 0, "stringx.Randn", ["randomLen"]⟩,
  ⟨"RedisLock.Acquire", [], 2, "RedisLock.AcquireCtx", ["context.Background()"]⟩,
  ⟨"RedisLock.AcquireCtx", [], 0, "atomic.LoadUint32", ["&rl.seconds"]⟩,
  ⟨"RedisLock.AcquireCtx", [], 1, "ScriptRunCtx", ["ctx", "lockScript", "[]string{rl.key}"]⟩,
  ⟨"RedisLock.Release", [], 2, "RedisLock.ReleaseCtx", ["context.Background()"]⟩,
  ⟨"RedisLock.ReleaseCtx", [], 1, "ScriptRunCtx", ["ctx", "delScript", "[]string{rl.key}"]⟩,
  ⟨"RedisLock.SetExpire", [], 0, "atomic.StoreUint32", ["&rl.seconds", "uint32(seconds)"]⟩]

/-- does an if-condition of AcquireCtx / ReleaseCtx hold for the value handed back (`none`: not understood) -/
def condHolds (h : Handed) (c : Bool × String) : Option Bool :=
  let base : Option Bool :=
    if c.2 = "errors.Is(err, red.Nil)" then some (h == .reply .nil)
    else if c.2 = "err != nil" then some (h == .err || h == .reply .nil)
    else if c.2 = "resp == nil" then some (h == .nilNoErr || h == .err || h == .reply .nil)
    else none
  if c.1 then base.map not else base

/-- a condition the model does not understand counts as holding (the call is assumed to happen) -/
def condsHold (h : Handed) (cs : List (Bool × String)) : Bool := cs.all fun c => (condHolds h c).getD true

/-- rows of `fn` with helper methods of the same receiver inlined (the rows of `RedisLock.m` under the caller's
conditions); `fuel` bounds the nesting -/
def flatRows (rows : List Row) : Nat → String → List (Bool × String) → List Row
  | 0, _, _ => []
  | fuel + 1, fn, pre =>
    (rows.filter fun r => r.fn = fn).flatMap fun r =>
      if r.kind = 2 then { r with cond := pre ++ r.cond } :: flatRows rows fuel r.name (pre ++ r.cond)
      else [{ r with cond := pre ++ r.cond }]

/-- the wire command of a store call that is not the script run -/
def otherWire (c : LockCfg) (r : Row) : Wire :=
  ⟨.other r.name,
    if r.name = "Del" ∨ r.name = "DelCtx" then .del c.key
    else if r.name = "Get" ∨ r.name = "GetCtx" then .get c.key
    else .failed⟩

/-- the store calls under a condition that fire for `h`, one after the other, then the result -/
def extras (c : LockCfg) (h : Handed) (res : Bool × Bool) : List Row → GProg
  | [] => .done res
  | r :: rs => if condsHold h r.cond then .send (otherWire c r) (fun _ => extras c h res rs) else extras c h res rs

def scriptVar : Call → String
  | .acq _ _ => "lockScript"
  | .rel _ => "delScript"

def decodeG : Call → Handed → Bool × Bool
  | .acq _ _ => acquireHanded
  | .rel _ => releaseHanded

def scriptCmdOf (c : LockCfg) : Call → Cmd
  | .acq _ s => .evalLock c.key c.id (leaseMs s)
  | .rel _ => .evalDel c.key c.id

/-- the function a call enters: the Ctx variant, or the wrapper `Acquire()` / `Release()` that delegates to it -/
def entryFn (wrapper : Bool) : Call → String
  | .acq _ _ => if wrapper then "RedisLock.Acquire" else "RedisLock.AcquireCtx"
  | .rel _ => if wrapper then "RedisLock.Release" else "RedisLock.ReleaseCtx"

/-- the rows reachable from the entry point interpreted (methods of the receiver inlined): the unconditional
script run, then the conditional store calls; `none` if the first store call is not the unconditional
`ScriptRunCtx(ctx, <own script>, []string{rl.key}, …)` -/
def progOfRows (rows : List Row) (wrapper : Bool) (c : LockCfg) (call : Call) : Option GProg :=
  match (flatRows rows 4 (entryFn wrapper call) []).filter fun r => r.kind = 1 with
  | main :: rest =>
    if main.cond = [] ∧ main.name = "ScriptRunCtx" ∧ main.args = ["ctx", scriptVar call, "[]string{rl.key}"] then
      some (scriptRunG (scriptCmdOf c call) fun h => extras c h (decodeG call h) rest)
    else none
  | [] => none

/-- the code that exists -/
def realG (cfg : Nat → LockCfg) (call : Call) : GProg :=
  scriptRunG (scriptCmd cfg call) fun h => .done (decodeG call h)

def callInst : Call → Nat
  | .acq i _ => i
  | .rel i => i

/-- the table of seeded C19-6 (a witness that the interpretation can exhibit a command on an error path):
AcquireCtx calls `rl.discard()` under `!errors.Is(err, red.Nil)`, `err != nil`; `discard` does `rl.store.Del(rl.key)` -/
def discardRows : List Row := realRows ++ [
  ⟨"RedisLock.AcquireCtx", [(true, "errors.Is(err, red.Nil)"), (false, "err != nil")], 2, "RedisLock.discard", []⟩,
  ⟨"RedisLock.discard", [], 1, "Del", ["rl.key"]⟩]

/-! ### the harness' environment and the tokens its hook prints -/

/-- the environment of the correspondence run: Redis down or up, script cached or not, the caller's context
dying immediately before command `p` (`some 0`: dead before the call — go-zero's breaker hook answers; `p ≥ 1`:
cancelled by the innermost hook after the gate, go-redis' pool refuses), the value handed for the executed script -/
def harnessEnv (down cached : Bool) (deadAt : Option Nat) (h : Handed) (n : Nat) (w : Wire) : Answer :=
  match deadAt with
  | some 0 => ⟨breakerGate true false, .handed .err⟩
  | some p =>
    if p ≤ n + 1 then ⟨.pass, .handed .err⟩
    else if down then ⟨.pass, .handed .err⟩
    else if w.verb = .evalsha ∧ ¬ cached then ⟨.pass, .noscript⟩ else ⟨.pass, .handed h⟩
  | none =>
    if down then ⟨.pass, .handed .err⟩
    else if w.verb = .evalsha ∧ ¬ cached then ⟨.pass, .noscript⟩ else ⟨.pass, .handed h⟩

/-- `cmds=` as the innermost hook prints it: commands that passed the gate, `!` = answered with an error -/
def cmdsTokens (env : Nat → Wire → Answer) : List (Wire × GateOut) → Nat → List String
  | [], _ => []
  | (w, g) :: rest, n =>
    (if g = .pass then
      [(match w.verb with
        | .evalsha => "evalsha"
        | .eval => "eval"
        | .other m => m.toLower) ++
       (match (env n w).got with
        | .noscript => "!"
        | .handed .err => "!"
        | _ => "")]
     else []) ++ cmdsTokens env rest (n + 1)

/-- the model's `cmds=` text of one call in the harness -/
def modelCmds (cfg : Nat → LockCfg) (call : Call) (down cached : Bool) (deadAt : Option Nat) (h : Handed) : String :=
  let env := harnessEnv down cached deadAt h
  let t := cmdsTokens env (gexec env (realG cfg call) 0).1 0
  if t.isEmpty then "-" else ",".intercalate t

end GoZero.C19
