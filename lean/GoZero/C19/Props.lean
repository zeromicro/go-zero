/-
C19 — property theorems (statements, short proofs from the lemmas, non-vacuity examples).

Boundary convention.  The store carries `grace` (Store.lean): 0 = miniredis (a key written with PX px at t is
gone from t+px on), 1 = real Redis (gone from t+px+1 on).  Everything below is proved for every `grace`
(`St.initG g` is the empty store with convention `g`); `lease_exact_miniredis_boundary` and
`lease_exact_redis_boundary` spell the two instances out.

Setting.  `cfg : Nat → LockCfg` gives every `RedisLock` instance (any number of them, `Nat` is unbounded)
its key and its id.  `DistinctIds cfg` is the one assumption on the random 16-character ids: instances on
the same key carry different ids.  A history is any list of `Op`s (`ft ms` clock advance, `acquire i`,
`release i`, `setExpire i s`, `acquireS i seconds`) — every theorem below quantifies over *all* states or
*all* histories.

Schedules.  A call is made of atomic steps: Acquire = `atomic.LoadUint32(&seconds)`, then one script run
(atomic in Redis), then local decoding of the reply; Release = one script run; SetExpire = one
`atomic.StoreUint32`.  The only shared state is the Redis store and the `seconds` words.  So a concurrent
execution of any number of goroutines is a sequence of such steps, and its effect on the shared state is
the history that lists the stores and the script runs in the order they happened, an Acquire's script run
written `acquireS i s` with `s` the value its load returned (`acquire i` is the special case where nothing
happened in between, `acquire_is_load_then_run`).  All history theorems range over these histories, i.e.
over every schedule; what is trusted is that Redis runs a script atomically.
-/
import Std.Data.String.ToNat
import GoZero.C19.Refine
import GoZero.C19.Schedule
import GoZero.C19.Atomic
import GoZero.C19.OneCall
import GoZero.C19.OutcomeProofs
import GoZero.C19.Driver
import GoZero.C19.LinProofs
import GoZero.C19.Ids
import GoZero.C19.Trace
namespace GoZero.C19
open Spec

/-- three and more instances on one key, ids "a", "aa", "aaa", … -/
def exCfg (i : Nat) : LockCfg := { key := "k", id := String.ofList (List.replicate (i + 1) 'a') }

/-- a whole `Acquire()` call with nothing in between = load `seconds`, then run the script with it. -/
theorem acquire_is_load_then_run (cfg : Nat → LockCfg) (st : St) (i : Nat) :
    step cfg st (.acquire i) = step cfg st (.acquireS i (st.secs i)) := rfl

/-- **Acquire succeeds iff nobody else holds the key unexpired**: the key is absent/expired, or it already
carries this instance's id (in every state whatsoever). -/
theorem acquire_iff_free_or_own (cfg : Nat → LockCfg) (st : St) (i : Nat) :
    (acquire cfg st i).2 = true ↔
      (st.store.get (cfg i).key = none ∨ st.store.get (cfg i).key = some (cfg i).id) :=
  acquireWith_result cfg st i (st.secs i)

/-- a successful Acquire (first or refreshing) makes the instance the holder with a lease of exactly
`seconds·1000 + 500` ms; a refused Acquire changes nothing at all. -/
theorem acquire_effect (cfg : Nat → LockCfg) (st : St) (i : Nat) :
    ((acquire cfg st i).2 = true →
        (acquire cfg st i).1.view (cfg i).key = some ((cfg i).id, ((st.secs i * 1000 + 500 : Nat) : Int))) ∧
    ((acquire cfg st i).2 = false → (acquire cfg st i).1 = st) := by
  unfold acquire
  rw [acquireWith_eq]
  split
  · exact ⟨fun _ => view_setPX st _ _ (leaseMs_pos _), fun h => by simp at h⟩
  · exact ⟨fun h => by simp at h, fun _ => rfl⟩

/-- `SetExpire(s)` with `0 ≤ s < 2³²` is what the next Acquire uses as `seconds`. -/
theorem setExpire_configures_seconds (cfg : Nat → LockCfg) (st : St) (i : Nat) (s : Int)
    (h0 : 0 ≤ s) (h1 : s < 4294967296) :
    (((step cfg st (.setExpire i s)).1.secs i : Nat) : Int) = s := by
  obtain ⟨n, rfl⟩ := Int.eq_ofNat_of_zero_le h0
  simp [step, updN, toUint32_of_lt (s := n) (by omega)]

/-- **The lease lasts the configured seconds plus 500 ms — exactly** (plus the store's boundary
millisecond `grace`: 0 for miniredis, 1 for real Redis).  After a successful Acquire by `i` with
`seconds = secs`, let the other instances do anything (acquire, release, set their expiry — on this key or
others) and let the clock advance arbitrarily, `i` itself making no call: `i` is the holder of its key as
long as the total advance is `< secs·1000 + 500 + grace`, and no longer from then on. -/
theorem lease_is_seconds_plus_500ms (cfg : Nat → LockCfg) (hd : DistinctIds cfg) (st : St) (i secs : Nat)
    (h : (acquireWith cfg st i secs).2 = true) (ops : List Op) (hq : ∀ op ∈ ops, quietFor i op = true) :
    holds cfg (run cfg (acquireWith cfg st i secs).1 ops) i ↔ elapsed ops < secs * 1000 + 500 + st.store.grace := by
  have hinv := leaseInv_run cfg hd i _ ops _ hq (leaseInv_after_acquire cfg st i secs h)
  rw [leaseInv_holds_iff cfg i _ _ hinv, run_now, acquireWith_now]
  have : leaseMs secs = secs * 1000 + 500 := rfl
  omega

/-- the miniredis convention (`grace = 0`, the one the correspondence run validates): exactly `seconds·1000+500` ms -/
theorem lease_exact_miniredis_boundary (cfg : Nat → LockCfg) (hd : DistinctIds cfg) (st : St) (i secs : Nat)
    (hg : st.store.grace = 0)
    (h : (acquireWith cfg st i secs).2 = true) (ops : List Op) (hq : ∀ op ∈ ops, quietFor i op = true) :
    holds cfg (run cfg (acquireWith cfg st i secs).1 ops) i ↔ elapsed ops < secs * 1000 + 500 := by
  rw [lease_is_seconds_plus_500ms cfg hd st i secs h ops hq, hg]

/-- the real-Redis convention (`grace = 1`: a key is still there in the millisecond its TTL reaches 0): the
holder keeps the key for `seconds·1000+500` ms *and* the boundary millisecond — never less than promised. -/
theorem lease_exact_redis_boundary (cfg : Nat → LockCfg) (hd : DistinctIds cfg) (st : St) (i secs : Nat)
    (hg : st.store.grace = 1)
    (h : (acquireWith cfg st i secs).2 = true) (ops : List Op) (hq : ∀ op ∈ ops, quietFor i op = true) :
    holds cfg (run cfg (acquireWith cfg st i secs).1 ops) i ↔ elapsed ops ≤ secs * 1000 + 500 := by
  rw [lease_is_seconds_plus_500ms cfg hd st i secs h ops hq, hg]; omega

/-- while an instance holds a key, every other instance's Acquire on that key is refused and every other
instance's Release reports false — and neither changes anything (state equality). -/
theorem others_refused_while_held (cfg : Nat → LockCfg) (hd : DistinctIds cfg) (st : St) (i j : Nat)
    (hij : i ≠ j) (hk : (cfg i).key = (cfg j).key) (hh : holds cfg st i) :
    (acquire cfg st j).2 = false ∧ (acquire cfg st j).1 = st ∧
    (release cfg st j).2 = false ∧ (release cfg st j).1 = st := by
  simp [acquire, acquireWith_eq, release_eq, other_holds cfg hd hij hk hh]

/-- in Redis itself two different instances on one key are never both the holder (any state). -/
theorem holders_unique (cfg : Nat → LockCfg) (hd : DistinctIds cfg) (st : St) (i j : Nat)
    (hk : (cfg i).key = (cfg j).key) (hi : holds cfg st i) (hj : holds cfg st j) : i = j :=
  Decidable.by_contra fun hij => (other_holds cfg hd hij hk hi).2 hj

/-- the belief is sound: after every history from the empty store, whoever believes to hold the key is the holder
in Redis (beliefs as in `at_most_one_holder`). -/
theorem believer_is_holder (g : Nat) (cfg : Nat → LockCfg) (hd : DistinctIds cfg) (ops : List Op) (i : Nat)
    (hb : believes (grun cfg (St.initG g) Belief.none ops).2 (grun cfg (St.initG g) Belief.none ops).1.store.now i = true) :
    holds cfg (run cfg (St.initG g) ops) i := by
  have hinv := beliefInv_grun cfg hd ops (St.initG g) Belief.none (by intro i u hb; simp [Belief.none] at hb)
  rw [← grun_fst cfg ops _ Belief.none]
  exact believes_holds cfg _ _ hinv i hb

/-- **At most one holder at any moment, until lease expiry.**  Run any history from the empty store and
give every caller the belief the property promises (after `Acquire = true` at time `t`: "the lock is mine
until `t + seconds·1000 + 500`", dropped on `Release`).  At every moment, two different instances on the
same key never both believe to hold it. -/
theorem at_most_one_holder (g : Nat) (cfg : Nat → LockCfg) (hd : DistinctIds cfg) (ops : List Op) (i j : Nat)
    (hij : i ≠ j) (hk : (cfg i).key = (cfg j).key) :
    ¬ (believes (grun cfg (St.initG g) Belief.none ops).2 (grun cfg (St.initG g) Belief.none ops).1.store.now i = true ∧
       believes (grun cfg (St.initG g) Belief.none ops).2 (grun cfg (St.initG g) Belief.none ops).1.store.now j = true) :=
  fun ⟨h1, h2⟩ =>
    hij (holders_unique cfg hd _ i j hk (believer_is_holder g cfg hd ops i h1) (believer_is_holder g cfg hd ops j h2))

/-- **Release frees the key only when called by the current holder and reports false otherwise**:
the result is true iff the caller is the holder; if it is not, the whole state is unchanged; if it is,
its key is free afterwards and every other key is untouched. -/
theorem release_only_by_holder (cfg : Nat → LockCfg) (st : St) (i : Nat) :
    ((release cfg st i).2 = true ↔ holds cfg st i) ∧
    (¬ holds cfg st i → (release cfg st i).1 = st) ∧
    (holds cfg st i → (release cfg st i).1.store.get (cfg i).key = none ∧
        ∀ k, k ≠ (cfg i).key → (release cfg st i).1.store.ent k = st.store.ent k) := by
  refine ⟨release_result cfg st i, fun h => by rw [release_eq, if_neg h], fun hh => ?_⟩
  rw [release_eq, if_pos hh]
  exact ⟨get_of_ent_none (by simp [upd]), fun k hk => by simp [upd, hk]⟩

/-- **A late release by an expired holder never frees a lock that has since been taken by someone else.**
`a` acquires; the clock runs past `a`'s lease (`d ≥ seconds_a·1000 + 500 + grace`); `b` acquires — and gets the
lock; `a` releases: reports false, and `b` still holds the key with its full lease. -/
theorem late_release_harmless (cfg : Nat → LockCfg) (hd : DistinctIds cfg) (st : St) (a b d : Nat)
    (hab : a ≠ b) (hk : (cfg a).key = (cfg b).key) (ha : (acquire cfg st a).2 = true)
    (hd' : st.secs a * 1000 + 500 + st.store.grace ≤ d) :
    let st1 := (acquire cfg st a).1
    let st2 := (step cfg st1 (.ft d)).1
    let st3 := (acquire cfg st2 b).1
    (acquire cfg st2 b).2 = true ∧ (release cfg st3 a).2 = false ∧ (release cfg st3 a).1 = st3 ∧
      st3.view (cfg b).key = some ((cfg b).id, ((st.secs b * 1000 + 500 : Nat) : Int)) := by
  intro st1 st2 st3
  have hf := (acquireWith_result cfg st a (st.secs a)).1 ha
  have hg2 : st2.store.get (cfg b).key = none := by
    rw [← hk]
    refine get_of_ent_dead (v := (cfg a).id) (u := st.store.now + leaseMs (st.secs a) + st.store.grace) ?_ ?_
    · show (acquireWith cfg st a (st.secs a)).1.store.ent _ = _
      rw [acquireWith_ent]; simp [hf]
    · show _ ≤ (acquireWith cfg st a (st.secs a)).1.store.now + d
      have hl : leaseMs (st.secs a) = st.secs a * 1000 + 500 := rfl
      rw [acquireWith_now]; omega
  have hw : (acquire cfg st2 b).2 = true := (acquire_iff_free_or_own cfg st2 b).2 (Or.inl hg2)
  have ho := others_refused_while_held cfg hd st3 b a (Ne.symm hab) hk.symm (holds_of_granted cfg st2 b _ hw)
  exact ⟨hw, ho.2.2.1, ho.2.2.2, (acquire_effect cfg st2 b).1 hw⟩

/-- the general form: whenever somebody else holds the key (for whatever reason the caller's own lease is
gone), the caller's Release reports false and leaves the store as it is. -/
theorem release_by_non_holder_harmless (cfg : Nat → LockCfg) (hd : DistinctIds cfg) (st : St) (a b : Nat)
    (hab : a ≠ b) (hk : (cfg a).key = (cfg b).key) (hb : holds cfg st b) :
    (release cfg st a).2 = false ∧ (release cfg st a).1 = st :=
  let h := others_refused_while_held cfg hd st b a (Ne.symm hab) hk.symm hb
  ⟨h.2.2.1, h.2.2.2⟩

/-- **Of any number of concurrent Acquire attempts on one key, at most one instance succeeds**, whatever
the order `js` in which their (atomic) script runs reach Redis, from every state. -/
theorem concurrent_acquires_one_winner (cfg : Nat → LockCfg) (hd : DistinctIds cfg) (k : String)
    (js : List Nat) (hk : ∀ j ∈ js, (cfg j).key = k) (st : St) :
    ∀ x ∈ winners cfg st js, ∀ y ∈ winners cfg st js, x = y := by
  intro x hx y hy
  -- both hold the key in the one state the burst ends in
  obtain ⟨hxj, hxh⟩ := winners_hold cfg k js st hk x hx
  obtain ⟨hyj, hyh⟩ := winners_hold cfg k js st hk y hy
  exact Decidable.by_contra fun hxy => (other_holds cfg hd hxy ((hk x hxj).trans (hk y hyj).symm) hxh).2 hyh

/-- … and if the key is free, the first script run wins (so exactly one instance succeeds). -/
theorem concurrent_acquires_free_key (cfg : Nat → LockCfg) (st : St) (j : Nat) (js : List Nat)
    (hfree : st.store.get (cfg j).key = none) : j ∈ winners cfg st (j :: js) := by
  simp [winners, (acquire_iff_free_or_own cfg st j).2 (Or.inl hfree)]

/-- **Every schedule is a history.**  Let any number of goroutines run Acquire / Release / SetExpire calls,
interleaved at their atomic steps (load of `seconds`, script run, store of `seconds`; clock moving in
between): the shared state reached is the state of the history of its script runs and stores. -/
theorem every_schedule_is_a_history (g : Nat) (cfg : Nat → LockCfg) (ops : List Op) (c : Conc)
    (h : Exec cfg (Conc.initG g) ops c) : c.st = run cfg (St.initG g) ops :=
  exec_is_history cfg h

/-- the lease theorem read over schedules: once `i`'s script run has succeeded, whatever any other
goroutines do in whatever interleaving, `i` holds exactly while less than `seconds·1000+500` ms elapsed. -/
theorem lease_under_every_schedule (cfg : Nat → LockCfg) (hd : DistinctIds cfg) (st0 : St) (i secs : Nat)
    (h : (acquireWith cfg st0 i secs).2 = true) (c c' : Conc) (hc : c.st = (acquireWith cfg st0 i secs).1)
    (ops : List Op) (he : Exec cfg c ops c') (hq : ∀ op ∈ ops, quietFor i op = true) :
    holds cfg c'.st i ↔ elapsed ops < secs * 1000 + 500 + st0.store.grace := by
  rw [exec_is_history cfg he, hc]
  exact lease_is_seconds_plus_500ms cfg hd st0 i secs h ops hq

/-- in every configuration any schedule can reach, the callers' beliefs are exclusive. -/
theorem at_most_one_holder_under_every_schedule (g : Nat) (cfg : Nat → LockCfg) (hd : DistinctIds cfg) (ops : List Op)
    (c : Conc) (h : Exec cfg (Conc.initG g) ops c) (i j : Nat) (hij : i ≠ j) (hk : (cfg i).key = (cfg j).key) :
    ¬ (believes (grun cfg (St.initG g) Belief.none ops).2 c.st.store.now i = true ∧
       believes (grun cfg (St.initG g) Belief.none ops).2 c.st.store.now j = true) := by
  rw [every_schedule_is_a_history g cfg ops c h, ← grun_fst cfg ops _ Belief.none]
  exact at_most_one_holder g cfg hd ops i j hij hk

/-- **Every Acquire / Release of the code that exists is ONE atomic store step**: whichever instance,
whatever `seconds` it loaded, whether or not the script is cached in Redis, the call executes exactly one
command on the store — the script — (possibly after an EVALSHA that Redis refused with NOSCRIPT without
executing anything) and returns what it decodes from that single reply.  (Tie: `tie_acquireStoreCalls`,
`tie_releaseStoreCalls`, `tie_scriptRunCtx` — exactly one `ScriptRunCtx` and no other store call in each.) -/
theorem every_call_is_one_atomic_store_step (cfg : Nat → LockCfg) (cached : Bool) (call : Call) :
    OneStoreStep (real.start cfg cached call) :=
  real_start_eq cfg cached call ▸ oneStoreStep_realProg cfg call _

/-- … and that one round trip *is* the model's atomic operation: in every configuration reachable by any
schedule, when a thread's executing round trip happens the shared state makes exactly `step … call.op` and
the value the call will return is the model's result of that step. -/
theorem call_takes_effect_at_its_store_step (g : Nat) (cfg : Nat → LockCfg) (acts : List Act) (c : CConc)
    (h : crun real cfg (CConc.initG g) acts = some c) (t : Nat) (th : Thread) (hth : c.thr t = some th)
    (cm : Cmd) (k : Reply → Prog) (hp : th.prog = .cmd cm k) (hs : cm.isStoreStep = true) :
    cstep real cfg c (.cmd t) =
      some ({ st := (step cfg c.st th.call.op).1,
              thr := updT c.thr t (some { th with prog := .done (step cfg c.st th.call.op).2 }) }, none) :=
  real_store_step cfg c (real_exec_history cfg acts _ _ (realInv_init cfg (St.initG g)) h).1 t th hth cm k hp hs

/-- **Every schedule of round trips is a history of atomic operations.**  Any number of goroutines, their
calls interleaved round trip by round trip with clock advances and SetExpire stores in between: the shared
state reached is `run` of the history `chist` (script runs as `acquireS i loaded` / `release i`, stores, clock). -/
theorem every_command_schedule_is_a_history (g : Nat) (cfg : Nat → LockCfg) (acts : List Act) (c : CConc)
    (h : crun real cfg (CConc.initG g) acts = some c) :
    c.st = run cfg (St.initG g) (chist real cfg (CConc.initG g) acts) :=
  (real_exec_history cfg acts _ _ (realInv_init cfg (St.initG g)) h).2

/-- so the exclusivity of beliefs holds in every configuration any round-trip schedule can reach -/
theorem at_most_one_holder_under_every_command_schedule (g : Nat) (cfg : Nat → LockCfg) (hd : DistinctIds cfg)
    (acts : List Act) (c : CConc) (h : crun real cfg (CConc.initG g) acts = some c) (i j : Nat) (hij : i ≠ j)
    (hk : (cfg i).key = (cfg j).key) :
    ¬ (believes (grun cfg (St.initG g) Belief.none (chist real cfg (CConc.initG g) acts)).2 c.st.store.now i = true ∧
       believes (grun cfg (St.initG g) Belief.none (chist real cfg (CConc.initG g) acts)).2 c.st.store.now j = true) := by
  rw [every_command_schedule_is_a_history g cfg acts c h, ← grun_fst cfg _ _ Belief.none]
  exact at_most_one_holder g cfg hd _ i j hij hk

/-- **Release by a non-holder, under every schedule**: whatever happened between the moment goroutine `t`
entered `Release` of instance `a` and the moment its round trip reaches Redis — `a`'s lease ran out, `b`
acquired — if `b` holds the key at that moment the round trip changes nothing and the call returns false. -/
theorem release_in_any_schedule_never_frees_anothers_lock (g : Nat) (cfg : Nat → LockCfg) (hd : DistinctIds cfg)
    (acts : List Act) (c : CConc) (h : crun real cfg (CConc.initG g) acts = some c) (t a b : Nat) (th : Thread)
    (hth : c.thr t = some th) (hcall : th.call = .rel a) (cm : Cmd) (k : Reply → Prog)
    (hp : th.prog = .cmd cm k) (hs : cm.isStoreStep = true)
    (hab : a ≠ b) (hk : (cfg a).key = (cfg b).key) (hb : holds cfg c.st b) :
    cstep real cfg c (.cmd t) =
      some ({ st := c.st, thr := updT c.thr t (some { th with prog := .done false }) }, none) := by
  rw [call_takes_effect_at_its_store_step g cfg acts c h t th hth cm k hp hs, hcall,
    step_of_other_holds cfg hd (op := (Call.rel a).op) rfl hab.symm hk.symm hb]

/-- **what the driver computes for an `inj` line is a sequential history.**  `runInj real` — thread 0 enters the
call (Acquire loads `seconds`), thread 1 runs the bracketed operations before thread 0's `p`-th round trip —
equals: all bracketed operations, then the call's one atomic step (if the call really makes a `p`-th round
trip: `p ≤ 1`, or `p ≤ 2` when the script is not cached), otherwise the call's step first and the bracketed
operations after it.  These are the placements "call last" / "call first" of the linearizability monitor. -/
theorem inj_schedule_of_real_code_is_sequential (cfg : Nat → LockCfg) (st : St) (outer : Op)
    (ho : isCall outer = true) (cached : Bool) (p : Nat) (hp : 1 ≤ p) (inner : List Op)
    (hs : ∀ op ∈ inner, isSimple op = true) :
    (p ≤ realTrips cached →
      (runInj real cfg st outer cached p inner).fired = some p ∧
      (runInj real cfg st outer cached p inner).inner = results cfg st inner ∧
      (runInj real cfg st outer cached p inner).outer = (step cfg (run cfg st inner) (callOf st outer).op).2 ∧
      (runInj real cfg st outer cached p inner).st = (step cfg (run cfg st inner) (callOf st outer).op).1) ∧
    (realTrips cached < p →
      (runInj real cfg st outer cached p inner).fired = none ∧
      (runInj real cfg st outer cached p inner).outer = (step cfg st (callOf st outer).op).2 ∧
      (runInj real cfg st outer cached p inner).inner = results cfg (step cfg st (callOf st outer).op).1 inner ∧
      (runInj real cfg st outer cached p inner).st = run cfg (step cfg st (callOf st outer).op).1 inner) := by
  rw [runInj_real cfg st outer ho cached p hp inner hs]
  constructor <;> intro h
  · rw [if_pos h]; exact ⟨rfl, rfl, rfl, rfl⟩
  · rw [if_neg (by omega)]; exact ⟨rfl, rfl, rfl, rfl⟩

/-- the schedule the property's last sentence is about, against a Release that checks (GET) and deletes
(DEL) in two round trips: 0 acquires at time 0 (lease 500 ms); 0 enters Release, its GET sees its own id;
the clock reaches 500, the lease is gone; 1 acquires — granted until 1000; 0's DEL arrives. -/
def lateDelSchedule : List Act :=
  [.acquire 0 0 true, .cmd 0, .ret 0, .release 0 0 true, .cmd 0, .ft 500, .acquire 1 1 true, .cmd 1, .ret 1,
   .cmd 0, .ret 0]

/-- **the semantics exhibits the failure of the non-atomic class** (witness): with Release = GET then DEL,
in `lateDelSchedule` instance 1 is granted the lock at time 500 for 500 ms, instance 0's Release then
reports true, and at time 500 the key is free although 1's lease runs until 1000. -/
theorem get_then_del_release_frees_anothers_lock :
    crets getThenDel exCfg CConc.init lateDelSchedule =
      [⟨0, .acq 0 0, true⟩, ⟨1, .acq 1 0, true⟩, ⟨0, .rel 0, true⟩] ∧
    (crun getThenDel exCfg CConc.init lateDelSchedule).map (fun c => (c.st.store.now, c.st.store.get "k")) =
      some (500, none) := by
  decide

/-- the corresponding schedule of the code that exists (Release has a single round trip, so the expiry and
1's Acquire fall between entering Release and that round trip) -/
def lateScriptSchedule : List Act :=
  [.acquire 0 0 true, .cmd 0, .ret 0, .release 0 0 true, .ft 500, .acquire 1 1 true, .cmd 1, .ret 1, .cmd 0, .ret 0]

/-- … there 0's Release reports false and 1 keeps the lock. -/
theorem script_release_late_schedule_is_harmless :
    crets real exCfg CConc.init lateScriptSchedule =
      [⟨0, .acq 0 0, true⟩, ⟨1, .acq 1 0, true⟩, ⟨0, .rel 0, false⟩] ∧
    (crun real exCfg CConc.init lateScriptSchedule).map (fun c => (c.st.store.now, c.st.store.get "k")) =
      some (500, some "aa") := by
  decide

/-- witness for the acquire side of the class (GET, then SET if absent or mine): two goroutines both read
"absent" and both write — both Acquire calls report true at the same instant. -/
theorem get_then_set_acquire_two_holders :
    crets getThenSet exCfg CConc.init
      [.acquire 0 0 true, .acquire 1 1 true, .cmd 0, .cmd 1, .cmd 0, .cmd 1, .ret 0, .ret 1] =
      [⟨0, .acq 0 0, true⟩, ⟨1, .acq 1 0, true⟩] := by
  decide

/-- **a reply lost after the script ran**: the caller saw an error, but Redis holds its id.  Whatever the
caller thinks, its next calls act on what Redis has: its Release frees the key (true) and its Acquire
refreshes the lease (true). -/
theorem after_lost_reply_own_calls_work (cfg : Nat → LockCfg) (st : St) (i secs : Nat)
    (h : (acquireWith cfg st i secs).2 = true) :
    (release cfg (acquireWith cfg st i secs).1 i).2 = true ∧ (acquire cfg (acquireWith cfg st i secs).1 i).2 = true := by
  have hh := holds_of_granted cfg st i secs h
  exact ⟨(release_result cfg _ i).2 hh, (acquire_iff_free_or_own cfg _ i).2 (Or.inr hh)⟩

/-- **the lease is measured on Redis' clock from the script run; a caller that counts from the moment it
STARTED the call is safe.**  If the call was entered at Redis time `t0` (so `t0 ≤` the time of the script
run, the clock never goes back) then, whatever the others do, as long as the Redis clock is before
`t0 + seconds·1000 + 500` the caller is the holder. -/
theorem lease_counted_from_call_start (cfg : Nat → LockCfg) (hd : DistinctIds cfg) (st : St) (i secs t0 : Nat)
    (h : (acquireWith cfg st i secs).2 = true) (ht0 : t0 ≤ st.store.now) (ops : List Op)
    (hq : ∀ op ∈ ops, quietFor i op = true)
    (hnow : (run cfg (acquireWith cfg st i secs).1 ops).store.now < t0 + (secs * 1000 + 500)) :
    holds cfg (run cfg (acquireWith cfg st i secs).1 ops) i := by
  rw [lease_is_seconds_plus_500ms cfg hd st i secs h ops hq]
  rw [run_now, acquireWith_now] at hnow
  omega

/-- **Acquire succeeds only if no other instance holds the key unexpired** (the clause, literally). -/
theorem acquire_succeeds_only_if_no_other_holder (cfg : Nat → LockCfg) (hd : DistinctIds cfg) (st : St) (i : Nat)
    (h : (acquire cfg st i).2 = true) (j : Nat) (hij : j ≠ i) (hk : (cfg j).key = (cfg i).key) :
    ¬ holds cfg st j := by
  intro hh
  have := (others_refused_while_held cfg hd st j i hij hk hh).1
  rw [h] at this; cases this

/-- … and if nobody else holds it, it does succeed. -/
theorem acquire_succeeds_if_no_other_holder (cfg : Nat → LockCfg) (st : St) (i : Nat)
    (h : ∀ v, st.store.get (cfg i).key = some v → v = (cfg i).id) : (acquire cfg st i).2 = true := by
  apply (acquire_iff_free_or_own cfg st i).2
  cases hg : st.store.get (cfg i).key with
  | none => exact Or.inl rfl
  | some v => exact Or.inr (by rw [h v hg])

/-- **Re-acquiring by the holder refreshes its lease**: if `i` is the holder, its Acquire succeeds, and from
that moment the full lease `seconds·1000+500` runs again. -/
theorem reacquire_by_holder_refreshes (cfg : Nat → LockCfg) (hd : DistinctIds cfg) (st : St) (i : Nat)
    (hh : holds cfg st i) :
    (acquire cfg st i).2 = true ∧
    (acquire cfg st i).1.view (cfg i).key = some ((cfg i).id, ((st.secs i * 1000 + 500 : Nat) : Int)) ∧
    ∀ ops : List Op, (∀ op ∈ ops, quietFor i op = true) →
      (holds cfg (run cfg (acquire cfg st i).1 ops) i ↔ elapsed ops < st.secs i * 1000 + 500 + st.store.grace) := by
  have h : (acquire cfg st i).2 = true := (acquire_iff_free_or_own cfg st i).2 (Or.inr hh)
  exact ⟨h, (acquire_effect cfg st i).1 h, fun ops hq => lease_is_seconds_plus_500ms cfg hd st i (st.secs i) h ops hq⟩

/-- **The lease for EVERY argument of `SetExpire`** (the whole `int` range of the public API, not only
`0 ≤ s < 2³²`): `SetExpire(s)`, any history in which nobody reconfigures the instance, a successful Acquire,
anything by the others — the instance holds exactly while less than `uint32(s)·1000 + 500 (+ grace)` ms have
elapsed.  (For `s` in the `uint32` range `uint32(s) = s`: `configured_lease_end_to_end`.) -/
theorem configured_lease_every_setExpire_argument (cfg : Nat → LockCfg) (hd : DistinctIds cfg) (st : St) (i : Nat)
    (s : Int) (mid : List Op) (hmid : ∀ op ∈ mid, keepsSeconds i op = true)
    (h : (acquire cfg (run cfg (step cfg st (.setExpire i s)).1 mid) i).2 = true)
    (ops : List Op) (hq : ∀ op ∈ ops, quietFor i op = true) :
    holds cfg (run cfg (acquire cfg (run cfg (step cfg st (.setExpire i s)).1 mid) i).1 ops) i ↔
      elapsed ops < toUint32 s * 1000 + 500 + st.store.grace := by
  have hsec : (run cfg (step cfg st (.setExpire i s)).1 mid).secs i = toUint32 s := by
    rw [run_secs_keep cfg i mid _ hmid]
    simp [step, updN]
  unfold acquire at h ⊢
  rw [hsec] at h ⊢
  rw [lease_is_seconds_plus_500ms cfg hd _ i (toUint32 s) h ops hq, run_grace, step_grace]

/-- **The lease lasts the CONFIGURED seconds plus 500 ms, end to end** (SetExpire → … → Acquire → lease):
`SetExpire(s)` with any `s` in the `uint32` range; then any history `mid` in which nobody reconfigures `i`;
then a successful Acquire by `i`; then anything by the others: `i` holds exactly while less than
`s·1000 + 500 (+ grace)` ms have elapsed since that Acquire. -/
theorem configured_lease_end_to_end (cfg : Nat → LockCfg) (hd : DistinctIds cfg) (st : St) (i s : Nat)
    (hs : s < 4294967296) (mid : List Op) (hmid : ∀ op ∈ mid, keepsSeconds i op = true)
    (h : (acquire cfg (run cfg (step cfg st (.setExpire i (s : Int))).1 mid) i).2 = true)
    (ops : List Op) (hq : ∀ op ∈ ops, quietFor i op = true) :
    holds cfg (run cfg (acquire cfg (run cfg (step cfg st (.setExpire i (s : Int))).1 mid) i).1 ops) i ↔
      elapsed ops < s * 1000 + 500 + st.store.grace := by
  have := configured_lease_every_setExpire_argument cfg hd st i (s : Int) mid hmid h ops hq
  rwa [toUint32_of_lt hs] at this

/-- **Acquire under every schedule of round trips**: whatever happened between goroutine `t` entering
`Acquire` of instance `a` and its script reaching Redis, if another instance `b` holds the key at that moment
the round trip changes nothing and the call returns false. -/
theorem acquire_in_any_schedule_refused_while_another_holds (g : Nat) (cfg : Nat → LockCfg) (hd : DistinctIds cfg)
    (acts : List Act) (c : CConc) (h : crun real cfg (CConc.initG g) acts = some c) (t a b secs : Nat) (th : Thread)
    (hth : c.thr t = some th) (hcall : th.call = .acq a secs) (cm : Cmd) (k : Reply → Prog)
    (hp : th.prog = .cmd cm k) (hs : cm.isStoreStep = true)
    (hab : a ≠ b) (hk : (cfg a).key = (cfg b).key) (hb : holds cfg c.st b) :
    cstep real cfg c (.cmd t) =
      some ({ st := c.st, thr := updT c.thr t (some { th with prog := .done false }) }, none) := by
  rw [call_takes_effect_at_its_store_step g cfg acts c h t th hth cm k hp hs, hcall,
    step_of_other_holds cfg hd (op := (Call.acq a secs).op) rfl hab.symm hk.symm hb]

/-- **Release under every schedule reports true exactly for the holder** — holder at the moment the script
runs, whatever happened since the call was entered: the call's result is `true` iff the caller is then the
holder; if it is not, the shared state is untouched; if it is, its key is free afterwards. -/
theorem release_in_any_schedule_true_iff_holder (g : Nat) (cfg : Nat → LockCfg)
    (acts : List Act) (c : CConc) (h : crun real cfg (CConc.initG g) acts = some c) (t a : Nat) (th : Thread)
    (hth : c.thr t = some th) (hcall : th.call = .rel a) (cm : Cmd) (k : Reply → Prog)
    (hp : th.prog = .cmd cm k) (hs : cm.isStoreStep = true) :
    cstep real cfg c (.cmd t) =
      some ({ st := (release cfg c.st a).1,
              thr := updT c.thr t (some { th with prog := .done (decide (holds cfg c.st a)) }) }, none) ∧
    (¬ holds cfg c.st a → (release cfg c.st a).1 = c.st) ∧
    (holds cfg c.st a → (release cfg c.st a).1.store.get (cfg a).key = none) := by
  have hr := release_only_by_holder cfg c.st a
  refine ⟨?_, hr.2.1, fun hh => (hr.2.2 hh).1⟩
  rw [call_takes_effect_at_its_store_step g cfg acts c h t th hth cm k hp hs, hcall]
  simp only [← hr.1, Bool.decide_eq_true]
  rfl

/-- **A whole call of the code that exists, entered through the public wrappers** (`Acquire()` →
`AcquireCtx` → `ScriptRunCtx` → one script execution → decoding; likewise `Release()`), run by an idle
goroutine without interference, is exactly one step of the model: same shared state, same result. -/
theorem whole_call_is_one_model_step (cfg : Nat → LockCfg) (t : Nat) (c : CConc) (h : c.thr t = none) (op : Op)
    (hs : isSimple op = true) :
    wholeOp real cfg t c op = ({ c with st := (step cfg c.st op).1 }, (step cfg c.st op).2) :=
  wholeOp_real cfg t c h op hs

/-! ### How much `DistinctIds` assumes

`NewRedisLock` draws the id with `stringx.Randn(16)`: 16 characters, each one of 62 (Tie: `tie_randomLen`,
`tie_idAlphabet`, `tie_randnBody`).  If the characters are uniform and independent, two given instances carry
the same id with probability `62⁻¹⁶`, and among `n` instances some pair collides with probability at most
`n(n-1)/2 · 62⁻¹⁶` (union bound).  The two theorems evaluate that: the id space, and "up to a million
instances: below 10⁻¹⁶".  What is *not* covered: `stringx` seeds `math/rand` with the start time in
nanoseconds — two processes started in the same nanosecond draw the same ids (assumption, props/C19.json). -/

/-- **shape of an id**: whatever the random source delivers, `Randn(n)` (if it returns) is `n` characters of the
62-letter alphabet. -/
theorem randn_id_shape (n : Nat) (draws : List Nat) (id : List Char) (h : randnFrom n draws = some id) :
    id.length = n ∧ ∀ c ∈ id, c ∈ idAlphabet := by
  obtain ⟨hl, rfl⟩ := randnFrom_eq_some h
  refine ⟨by simpa using hl, fun c hc => ?_⟩
  obtain ⟨i, hi, rfl⟩ := List.mem_map.1 (List.mem_reverse.1 hc)
  have hi' : i < idAlphabet.length := idAlphabet_length ▸ mem_accepted_lt hi
  rw [← List.getElem_eq_getD (h := hi')]
  exact List.getElem_mem hi'

/-- **different accepted draws give different ids** (the map from the `n` accepted 6-bit indices to the id is
injective, and an index is accepted iff it is `< 62`): if the draws are uniform and independent, every one of the
`62ⁿ` ids is equally likely — the hypothesis under which `id_collision_union_bound` is read. -/
theorem randn_injective_on_accepted_draws (n : Nat) (d1 d2 : List Nat) (id : List Char)
    (h1 : randnFrom n d1 = some id) (h2 : randnFrom n d2 = some id) :
    (d1.filter (· < 62)).take n = (d2.filter (· < 62)).take n := by
  obtain ⟨_, e1⟩ := randnFrom_eq_some h1
  obtain ⟨_, e2⟩ := randnFrom_eq_some h2
  exact map_getD_inj (fun _ => mem_accepted_lt) (fun _ => mem_accepted_lt) (List.reverse_inj.1 (e1.symm.trans e2))

/-- one `Int63` yields 10 draws, each `< 64`; 62 of the 64 values are accepted -/
theorem randn_draws_of_int63 (v : Nat) : (drawsOfInt63 v).length = 10 ∧ ∀ d ∈ drawsOfInt63 v, d < 64 := by
  refine ⟨by simp [drawsOfInt63], fun d hd => ?_⟩
  simp only [drawsOfInt63, List.mem_map] at hd
  obtain ⟨j, _, rfl⟩ := hd
  exact Nat.lt_of_le_of_lt Nat.and_le_right (by decide)

theorem id_space : 62 ^ 16 = 47672401706823533450263330816 := by decide

/-- `n ≤ 10⁶` instances: (number of pairs) · 10¹⁶ ≤ 62¹⁶, i.e. collision probability ≤ 10⁻¹⁶ -/
theorem id_collision_union_bound (n : Nat) (hn : n ≤ 1000000) : n * (n - 1) / 2 * 10 ^ 16 ≤ 62 ^ 16 := by
  have h1 : n * (n - 1) ≤ 1000000 * 1000000 := Nat.mul_le_mul hn (by omega)
  have h2 : n * (n - 1) / 2 ≤ 1000000 * 1000000 / 2 := Nat.div_le_div_right h1
  calc n * (n - 1) / 2 * 10 ^ 16 ≤ 1000000 * 1000000 / 2 * 10 ^ 16 := Nat.mul_le_mul_right _ h2
    _ ≤ 62 ^ 16 := by decide

/-- for every history from the empty store, the Redis-level model (Lua scripts over the store) returns
the same results as the abstract lease table of `Spec` and shows the same (holder, remaining ms) per key. -/
theorem model_refines_lease_table (g : Nat) (cfg : Nat → LockCfg) (ops : List Op) :
    Spec.results cfg (ASt.initG g) ops = results cfg (St.initG g) ops ∧
    ∀ k, (Spec.run cfg (ASt.initG g) ops).view k = (run cfg (St.initG g) ops).view k := by
  have hr := run_refines_initG g cfg ops
  refine ⟨abs_initG g ▸ results_refine cfg ops (St.initG g) (hasTTL_initG g), fun k => ?_⟩
  rw [hr.1]
  exact abs_view _ hr.2 k

/-- the result monitor (`Spec.explain`, the property's wording of a wrong result) never fires on a result
the model produces, from any state reachable by lock operations: a MONITOR line can only come from the
implementation deviating from the model. -/
theorem monitor_silent_on_model (g : Nat) (cfg : Nat → LockCfg) (ops : List Op) (op : Op) :
    Spec.explain cfg (Spec.run cfg (ASt.initG g) ops) op (step cfg (run cfg (St.initG g) ops) op).2 = none := by
  have hr := run_refines_initG g cfg ops
  unfold Spec.explain
  rw [hr.1, step_refines cfg _ op hr.2]
  simp

/-- the configuration the driver uses (instance `i` ↦ key `k{i % keys}`, id `id{i}`) satisfies the
assumption of the theorems: ids are distinct. -/
theorem driver_cfg_distinct_ids (nkeys : Nat) : DistinctIds (mkCfg nkeys) := by
  intro i j _ h
  have e : ∀ i, (mkCfg nkeys i).id = "id" ++ Nat.repr i := by intro i; simp [mkCfg, toString]
  rw [e, e] at h
  exact Nat.repr_injective ((String.append_right_inj "id").mp h)

/-- **the linearizability monitor never raises a false alarm on the model**: for the outcome the
command-level model computes for an `inj` line (`runInj real`: results of the call and of the bracketed
operations, final store), from any state with TTLs on all keys, `linearize` finds an atomic placement. -/
theorem linearize_finds_model_placement (cfg : Nat → LockCfg) (keys : List String) (st : St) (h : HasTTL st)
    (outer : Op) (ho : isCall outer = true) (cached : Bool) (p : Nat) (hp : 1 ≤ p) (inner : List Op)
    (hs : ∀ op ∈ inner, isSimple op = true) :
    (linearize cfg keys (abs st) outer (some (runInj real cfg st outer cached p inner).outer)
      (inner.zip ((runInj real cfg st outer cached p inner).inner.map some))
      (modelDump (runInj real cfg st outer cached p inner).st keys)).isSome = true := by
  rw [runInj_real cfg st outer ho cached p hp inner hs]
  unfold linearize
  rw [List.find?_isSome]
  split <;> dsimp only
  · refine ⟨(inner.length, secOf st outer), ?_, ?_⟩
    · rw [List.map_fst_zip (by simp [results_length])]
      exact mem_placements st outer inner inner.length (by omega)
    · rw [placed_last cfg st outer ho inner, ← run_snoc]
      exact Option.isNone_iff_eq_none.2 (specExplains_model cfg keys st h _)
  · refine ⟨(0, secOf st outer), ?_, ?_⟩
    · rw [List.map_fst_zip (by simp [results_length])]
      exact mem_placements st outer inner 0 (by omega)
    · rw [placed_first cfg st outer ho inner]
      exact Option.isNone_iff_eq_none.2 (specExplains_model cfg keys st h ((callOf st outer).op :: inner))

/-- … in particular in every state reachable from the empty store (where the driver starts), with the spec
state the driver carries along (`Spec.run`). -/
theorem linearizability_monitor_silent_on_model (g : Nat) (cfg : Nat → LockCfg) (keys : List String) (ops : List Op)
    (outer : Op) (ho : isCall outer = true) (cached : Bool) (p : Nat) (hp : 1 ≤ p) (inner : List Op)
    (hs : ∀ op ∈ inner, isSimple op = true) :
    (linearize cfg keys (Spec.run cfg (ASt.initG g) ops) outer
      (some (runInj real cfg (run cfg (St.initG g) ops) outer cached p inner).outer)
      (inner.zip ((runInj real cfg (run cfg (St.initG g) ops) outer cached p inner).inner.map some))
      (modelDump (runInj real cfg (run cfg (St.initG g) ops) outer cached p inner).st keys)).isSome = true := by
  have hr := run_refines_initG g cfg ops
  rw [hr.1]
  exact linearize_finds_model_placement cfg keys _ hr.2 outer ho cached p hp inner hs

/-- **the store monitor never fires on the model**: the lease table's view of every key is what the Redis-level
model shows, after every history (so a `spec=[…] impl=[…]` line can only come from the implementation). -/
theorem store_monitor_silent_on_model (g : Nat) (cfg : Nat → LockCfg) (keys : List String) (ops : List Op) :
    specDump (Spec.run cfg (ASt.initG g) ops) keys = modelDump (run cfg (St.initG g) ops) keys := by
  have hr := run_refines_initG g cfg ops
  rw [hr.1]
  exact specDump_abs _ hr.2 keys

/-- **the beliefs monitor never fires on the model** ("two holders: instance i was granted … while instance j still
holds an unexpired lease"): in every state reachable from the empty store, with the beliefs derived from the
model's own results, after a successful Acquire by `i` no other instance on its key believes to hold it. -/
theorem belief_monitor_silent_on_model (g : Nat) (cfg : Nat → LockCfg) (hd : DistinctIds cfg) (ops : List Op)
    (c : Ctx) (hc : c.cfg = cfg) (i : Nat)
    (hres : (step cfg (run cfg (St.initG g) ops) (.acquire i)).2 = true) :
    otherBeliever c
      (((grun cfg (St.initG g) Belief.none ops).2).step (run cfg (St.initG g) ops).store.now
        (run cfg (St.initG g) ops).secs (.acquire i) true)
      (run cfg (St.initG g) ops).store.now i = none := by
  unfold otherBeliever
  rw [List.find?_eq_none]
  intro j _ hj
  simp only [decide_eq_true_eq, Bool.and_eq_true, Bool.decide_and] at hj
  obtain ⟨hji, hk, hb⟩ := hj
  have hb' : believes (grun cfg (St.initG g) Belief.none ops).2 (grun cfg (St.initG g) Belief.none ops).1.store.now j
      = true := by
    simpa [Belief.step, updB, believes, hji, grun_fst] using hb
  exact acquire_succeeds_only_if_no_other_holder cfg hd _ i hres j hji (hc ▸ hk)
    (believer_is_holder g cfg hd ops j hb')

/-- two instances on one key that drew the SAME id (what `DistinctIds` excludes; `NewRedisLock` draws ids from a
`math/rand` source seeded with the start time in ns) -/
def sameIdCfg (_ : Nat) : LockCfg := { key := "k", id := "same" }

/-- **`DistinctIds` is necessary** (witness): with a shared id the second instance's Acquire is taken for a refresh
by the holder — both calls report true at the same instant — and its Release frees the first one's lock. -/
theorem same_id_two_holders :
    results sameIdCfg St.init [.acquire 0, .acquire 1, .release 1, .release 0] = [true, true, true, false] := by
  decide

example : DistinctIds exCfg := by
  intro i j _ h
  simp only [exCfg] at h
  have h2 := congrArg String.toList h
  simpa using h2

-- seconds = 2: lease 2500 ms; competitor refused at 2499 ms, granted at 2500 ms; late release false.
example : results exCfg St.init
    [.setExpire 0 2, .acquire 0, .acquire 1, .ft 2499, .acquire 1, .ft 1, .acquire 1, .release 0, .release 1]
    = [true, true, false, true, false, true, true, false, true] := by decide

example : (run exCfg St.init [.setExpire 0 2, .acquire 0, .ft 100]).view "k" = some ("a", 2400) := by decide

-- the real-Redis boundary (`grace = 1`): the competitor is still refused at 2500 ms and granted at 2501 ms;
-- PTTL shows the same numbers
example : results exCfg (St.initG 1)
    [.setExpire 0 2, .acquire 0, .acquire 1, .ft 2500, .acquire 1, .ft 1, .acquire 1, .release 0, .release 1]
    = [true, true, false, true, false, true, true, false, true] := by decide

example : (run exCfg (St.initG 1) [.setExpire 0 2, .acquire 0, .ft 100]).view "k" = some ("a", 2400) := by decide

example : (St.initG 1).store.grace = 1 ∧ (acquireWith exCfg (St.initG 1) 0 3).2 = true := by decide

-- hypotheses of `lease_is_seconds_plus_500ms` / `late_release_harmless` are satisfiable
example : (acquireWith exCfg St.init 0 3).2 = true ∧
    (∀ op ∈ [Op.acquire 1, .ft 3499, .release 2, .setExpire 0 9], quietFor 0 op = true) := by decide

example : (acquire exCfg St.init 0).2 = true ∧ St.init.secs 0 * 1000 + 500 ≤ 500 := by decide

-- hypotheses of `others_refused_while_held`
example : holds exCfg (run exCfg St.init [.acquire 1]) 1 := by decide

-- a schedule in which SetExpire(0) slips in between the load (seconds = 2) and the script run of an Acquire:
-- the lease is the loaded 2·1000+500 ms
example : (run exCfg St.init [.setExpire 0 2, .setExpire 0 0, .acquireS 0 2]).view "k" = some ("a", 2500) := by
  decide

-- … and the same as an execution of two goroutines (thread 7 acquires on instance 0, thread 9 sets expiry)
example : Exec exCfg
    { st := (run exCfg St.init [.setExpire 0 2]), pc := fun _ => .idle }
    [.setExpire 0 0, .acquireS 0 2]
    { st := run exCfg (run exCfg St.init [.setExpire 0 2]) [.setExpire 0 0, .acquireS 0 2],
      pc := updPc (updPc (fun _ => .idle) 7 (.loaded 0 2)) 7 .idle } :=
  .tau (.load _ 7 0 rfl) (.vis (.setExpire _ 9 0 0 (by decide)) (.vis (.script _ 7 0 2 (by decide)) (.nil _)))

-- a burst of five attempts (instance 2 twice): only instance 2, whose script ran first, wins
example : winners exCfg St.init [2, 0, 1, 2, 3] = [2, 2] := by decide

-- `inj 2 release 0 [ft 500 ; acquire 1]` on the code that exists, script not cached (EVALSHA→NOSCRIPT, EVAL): the
-- block falls between the two round trips, i.e. before the script run — Release reports false, 1 holds
example : let r := runInj real exCfg (run exCfg St.init [.acquire 0]) (.release 0) false 2 [.ft 500, .acquire 1]
    (r.fired, r.outer, r.inner, r.ncmds, r.st.store.get "k") = (some 2, false, [true, true], 2, some "aa") := by decide

-- counting the lease from the moment the call RETURNED is unsound: the script ran at time 0, the reply
-- arrived at 400; "mine until 400+500" is wrong from 500 on
example : ¬ holds exCfg (run exCfg St.init [.acquireS 0 0, .ft 400, .ft 100]) 0 := by decide

-- hypotheses of `release_in_any_schedule_never_frees_anothers_lock` are satisfiable: after the first eight
-- steps of `lateScriptSchedule` thread 0 is inside Release with its script run pending and instance 1 holds
example : (crun real exCfg CConc.init (lateScriptSchedule.take 8)).map (fun c => (pending c 0, decide (holds exCfg c.st 1)))
    = some (true, true) := by decide

-- beliefs: after A's lease ran out and B acquired, only B believes
example : (believes (grun exCfg St.init Belief.none [.acquire 0, .ft 500, .acquire 1]).2 500 0,
           believes (grun exCfg St.init Belief.none [.acquire 0, .ft 500, .acquire 1]).2 500 1) = (false, true) := by
  decide

example : keepsSeconds 0 (.setExpire 1 5) = true ∧ keepsSeconds 0 (.acquire 0) = true ∧ keepsSeconds 0 (.setExpire 0 5) = false := by decide

example : (acquire exCfg (run exCfg (step exCfg St.init (.setExpire 0 4294967295)).1 [.setExpire 1 7, .acquire 1, .ft 7500]) 0).2 = true := by decide

example : holds exCfg (run exCfg St.init [.setExpire 0 2, .acquire 0, .ft 2000]) 0 ∧
    (run exCfg St.init [.setExpire 0 2, .acquire 0, .ft 2000, .acquire 0]).view "k" = some ("a", 2500) := by decide

-- hypotheses of `acquire_in_any_schedule_refused_while_another_holds`: thread 1 has entered Acquire of instance 1
-- (script run pending) while instance 0 holds
example : (crun real exCfg CConc.init [.acquire 0 0 true, .cmd 0, .ret 0, .acquire 1 1 true]).map
    (fun c => (pending c 1, decide (holds exCfg c.st 0))) = some (true, true) := by decide

-- a placement found for the property's scenario (lease runs out inside Release, then the competitor acquires): the
-- Release took effect after the expiry (position 1; position 2, after the competitor's Acquire, explains it too)
example : linearize exCfg ["k"] (Spec.run exCfg ASt.init [.acquire 0]) (.release 0) (some false)
    [(.ft 500, some true), (.acquire 1, some true)] "k=aa:500" = some (1, 0) := by decide

-- Randn(3) from one Int63 whose low draws are 0, 63 (rejected), 61, 26: ids fill from the back: "A9a"
example : randnFrom 3 (drawsOfInt63 (0 + 63 * 64 + 61 * 64 ^ 2 + 26 * 64 ^ 3)) = some ['A', '9', 'a'] := by
  -- the kernel runs `randnFrom` on the alphabet's characters (`lit_chars`, Base/StringLit.lean)
  unfold randnFrom idAlphabet
  lit_chars
  decide +kernel

-- hypothesis of `belief_monitor_silent_on_model` is satisfiable: after 0's lease ran out, 1's Acquire succeeds
example : (step exCfg (run exCfg St.init [.acquire 0, .ft 500]) (.acquire 1)).2 = true := by decide

/-- **A call reports true only on the granting reply, whatever it is handed** (every `Handed` value: replies the
scripts of the tree never send, `resp == nil` without error, `red.Nil` bare or wrapped, any other error
including a typed-nil error value): Acquire reports true exactly for the string `OK`, Release exactly for the
integer 1 ("one key deleted") — and a call that returns an error reports false ("reports false otherwise").
Tie: `tie_acquireHanded`, `tie_releaseHanded` (the statements of the tree, translated). -/
theorem call_reports_true_only_on_the_granting_reply (outer : Op) (h : Handed) :
    ((handedOf outer h).1 = true ↔ grants outer h = true) ∧
    ((handedOf outer h).2 = true → (handedOf outer h).1 = false) := by
  cases outer <;> cases h <;> (try rename_i r; cases r) <;>
    simp [handedOf, grants, acquireHanded, releaseHanded, acquireReply, releaseReply]

example : handedOf (.acquire 0) (.reply (.bulk "ok")) = (false, false) ∧
    handedOf (.acquire 0) (.reply (.int 1)) = (false, false) ∧
    handedOf (.release 0) (.reply (.bulk "OK")) = (false, false) ∧
    handedOf (.release 0) (.reply (.int 2)) = (false, false) ∧
    handedOf (.release 0) (.reply .nil) = (false, true) ∧
    handedOf (.acquire 0) (.reply .nil) = (false, false) ∧
    handedOf (.acquire 0) .nilNoErr = (false, false) ∧ handedOf (.release 0) .err = (false, true) ∧
    handedOf (.acquire 0) (.reply (.status "OK")) = (true, false) ∧
    handedOf (.release 0) (.reply (.int 1)) = (true, false) := by decide

/-- **A caller's context is all or nothing** (`AcquireCtx(ctx)` / `ReleaseCtx(ctx)`, script cached or not, the
context dying immediately before ANY round trip `p`, `p = 0`: dead before the call): if it dies before the
call's script run (before command 1, or between the NOSCRIPT answer and the EVAL) the shared state is untouched
and the call returns an error; if it dies later the call is not affected at all — it is exactly the model's
atomic step with the model's result.  There is no third outcome (no half-executed call). -/
theorem context_cancellation_is_all_or_nothing (cfg : Nat → LockCfg) (st : St) (outer : Op)
    (ho : isCall outer = true) (cached : Bool) (p : Nat) :
    (p ≤ realTrips cached →
      (runCancel real cfg st outer cached p).result = none ∧ (runCancel real cfg st outer cached p).st = st) ∧
    (realTrips cached < p →
      (runCancel real cfg st outer cached p).result = some (step cfg st outer).2 ∧
      (runCancel real cfg st outer cached p).st = (step cfg st outer).1) := by
  rw [runCancel_real cfg st outer ho cached p]
  constructor <;> intro h
  · rw [if_pos h]; exact ⟨rfl, rfl⟩
  · rw [if_neg (by omega)]; exact ⟨rfl, rfl⟩

example : (runCancel real exCfg St.init (.acquire 0) false 2).result = none ∧
    (runCancel real exCfg St.init (.acquire 0) false 2).sent = 1 ∧
    (runCancel real exCfg St.init (.acquire 0) false 3).result = some true ∧
    (runCancel real exCfg St.init (.acquire 0) true 0).result = none ∧
    (runCancel real exCfg St.init (.acquire 0) true 2).result = some true := by decide

/-- **One public call under everything the environment can do to it** — the whole space of one call of the
public API: entry point (Acquire / AcquireCtx / Release / ReleaseCtx: `outer` and `env.deadAt`, `none` for the
wrappers' `context.Background()`), script cached or not, the context dying before any round trip, the Go code
handed Redis' reply or ANY other value.  (1) the shared state afterwards is the state before (only if the
context died before the script run) or the model's atomic step — never anything else; (2) the call reports true
only without an error, and then the reply it was handed is the granting one; handed Redis' own reply, true
means the model's step succeeded — so every clause proven about `step` (exclusive holder, lease, owner-only
release) applies to what the caller was told; (3) a call that returns an error reports false.
`publicCall` (OutcomeProofs.lean) is a closed form written beside the semantics, not computed from it: its context
dimension is tied to the round-trip schedule by `public_call_is_the_command_schedule`, its decoding is `handedOf`, which
the trace semantics shares (`realG_decodes_like_the_model`) and Tie compares with the Go statements
(`tie_acquireHanded`, `tie_releaseHanded`); a substituted reply together with a round-trip schedule is not modelled. -/
theorem public_call_all_outcomes (cfg : Nat → LockCfg) (st : St) (outer : Op) (ho : isCall outer = true) (env : Env) :
    ((publicCall cfg st outer env).1 = st ∨ (publicCall cfg st outer env).1 = (step cfg st outer).1) ∧
    ((publicCall cfg st outer env).2.1 = true →
      (publicCall cfg st outer env).2.2 = false ∧
      (publicCall cfg st outer env).1 = (step cfg st outer).1 ∧
      (∀ h, env.subst = some h → grants outer h = true) ∧
      (env.subst = none → (step cfg st outer).2 = true)) ∧
    ((publicCall cfg st outer env).2.2 = true → (publicCall cfg st outer env).2.1 = false) := by
  rcases publicCall_cases cfg st outer env with e | e <;> rw [e]
  · simp
  · have g := call_reports_true_only_on_the_granting_reply outer (env.subst.getD (.reply (scriptReply cfg st outer)))
    refine ⟨.inr rfl, fun ht => ⟨?_, rfl, fun h hs => ?_, fun hs => ?_⟩, g.2⟩
    · exact Bool.eq_false_iff.2 fun he => by simp [g.2 he] at ht
    · rw [hs] at g; exact g.1.1 (by simpa [hs] using ht)
    · simpa [hs, handed_real_reply cfg st outer ho] using ht

example : (publicCall exCfg St.init (.acquire 0) ⟨false, some 2, none⟩).2 = (false, true) ∧
    (publicCall exCfg St.init (.acquire 0) ⟨true, none, none⟩).2 = (true, false) ∧
    (publicCall exCfg St.init (.acquire 0) ⟨true, none, some (.reply (.bulk "ok"))⟩).2 = (false, false) ∧
    (publicCall exCfg St.init (.release 0) ⟨true, some 5, some (.reply .nil)⟩).2 = (false, true) := by decide

/-- **`publicCall` is what the command-level semantics computes**: for the context dimension, the schedule
`runCancel real` (Cmds.lean round trips) gives exactly `publicCall`'s state and result when the Go code is handed
Redis' own reply. -/
theorem public_call_is_the_command_schedule (cfg : Nat → LockCfg) (st : St) (outer : Op) (ho : isCall outer = true)
    (cached : Bool) (p : Nat) :
    (runCancel real cfg st outer cached p).st = (publicCall cfg st outer ⟨cached, some p, none⟩).1 ∧
    (runCancel real cfg st outer cached p).result =
      (if (publicCall cfg st outer ⟨cached, some p, none⟩).2.2 then none
       else some (publicCall cfg st outer ⟨cached, some p, none⟩).2.1) := by
  rw [runCancel_real cfg st outer ho cached p]
  unfold publicCall
  split <;> simp [*, handed_real_reply cfg st outer ho]

example : toUint32 (-1) = 4294967295 ∧ toUint32 4294967297 = 1 := by decide

example : modelCmds exCfg (.acq 0 0) false false (some 2) .nilNoErr = "evalsha!,eval!" ∧
    modelCmds exCfg (.acq 0 0) false true (some 0) .nilNoErr = "-" ∧
    modelCmds exCfg (.rel 0) false true none .nilNoErr = "evalsha" := by decide

/-- **A holder whose Release reaches Redis is told true** (a call always asks: `every_call_asks_redis`): with the
reply of its own script handed back unchanged, Release by the current holder reports true (the clause the seeded change C19-7 of
DESIGN.md section 9 broke), through the trace semantics: the environment lets EVALSHA pass and answers with delscript's reply in state `st`. -/
theorem release_by_holder_reports_true_through_the_wire (cfg : Nat → LockCfg) (st : St) (i : Nat)
    (hh : holds cfg st i) (env : Nat → Wire → Answer)
    (h0 : (env 0 ⟨.evalsha, scriptCmd cfg (.rel i)⟩).seen =
      .handed (.reply (delScript st.store (cfg i).key (cfg i).id).2)) :
    (gexec env (realG cfg (.rel i)) 0).2 = (true, false) := by
  rw [(command_trace_is_the_own_script_only cfg (.rel i) env).2, h0, if_neg (by simp), realG_decodes_like_the_model]
  have hr : (step cfg st (.release i)).2 = true := (release_result cfg st i).2 hh
  exact (handed_real_reply cfg st (.release i) rfl).trans (by rw [hr])

end GoZero.C19
