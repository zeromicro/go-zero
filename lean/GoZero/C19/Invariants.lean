/-
C19 — invariants over histories.  One step touches at most the entry under its caller's key (`step_ent`) and, while an
instance holds a key, refuses every other instance's call on it without effect (`step_of_other_holds`).  From these: a lease
lasts exactly as promised (`LeaseInv`), every belief of a caller is such a lease (`BeliefInv`), and the winners of a burst of
Acquires all hold the key in the one state the burst ends in (`winners_hold`).
-/
import GoZero.C19.Spec
import GoZero.C19.Scripts
namespace GoZero.C19
open Spec

variable (cfg : Nat → LockCfg)

/-- ids are distinct among the instances that lock the same key (the random 16-character ids). -/
def DistinctIds (cfg : Nat → LockCfg) : Prop :=
  ∀ i j, (cfg i).key = (cfg j).key → (cfg i).id = (cfg j).id → i = j

def elapsed : List Op → Nat
  | [] => 0
  | .ft ms :: ops => ms + elapsed ops
  | _ :: ops => elapsed ops

def quietFor (i : Nat) : Op → Bool
  | .acquire j => j != i
  | .release j => j != i
  | .acquireS j _ => j != i
  | _ => true

def Op.caller : Op → Option Nat
  | .acquire j | .release j | .acquireS j _ => some j
  | _ => none

theorem quietFor_iff (i : Nat) (op : Op) : quietFor i op = true ↔ op.caller ≠ some i := by
  cases op <;> simp [quietFor, Op.caller]

theorem caller_eq_some {op : Op} {j : Nat} (h : op.caller = some j) :
    op = .acquire j ∨ op = .release j ∨ ∃ s, op = .acquireS j s := by
  cases op <;> simp_all [Op.caller]

theorem step_now (st : St) (op : Op) :
    (step cfg st op).1.store.now = st.store.now + elapsed [op] := by
  cases op with
  | ft ms | setExpire j s => rfl
  | _ =>
    simp only [step, acquire, acquireWith_eq, release_eq]
    split <;> rfl

theorem step_grace (st : St) (op : Op) :
    (step cfg st op).1.store.grace = st.store.grace := by
  cases op with
  | ft ms | setExpire j s => rfl
  | _ =>
    simp only [step, acquire, acquireWith_eq, release_eq]
    split <;> rfl

theorem step_ent (st : St) (op : Op) (k : String) :
    (step cfg st op).1.store.ent k = st.store.ent k ∨
    ∃ j, op.caller = some j ∧ k = (cfg j).key ∧
      ∀ e, (step cfg st op).1.store.ent k = some e → e.val = (cfg j).id ∧ ∃ x, e.exp = some x := by
  cases op with
  | ft ms | setExpire j s => exact .inl rfl
  | _ =>
    -- the three calls alike: the entry is rewritten exactly when the call is granted and `k` is its key
    simp only [step, acquire, acquireWith_ent, release_ent]
    split
    next granted => exact .inr ⟨_, rfl, granted.2, by simp⟩
    next => exact .inl rfl

theorem other_holds (hd : DistinctIds cfg) {st : St} {i j : Nat} (hij : i ≠ j)
    (hk : (cfg i).key = (cfg j).key) (hh : holds cfg st i) :
    ¬ freeFor st.store (cfg j).key (cfg j).id ∧ ¬ holds cfg st j := by
  have hid : (cfg i).id ≠ (cfg j).id := fun c => hij (hd i j hk c)
  unfold holds at hh ⊢
  rw [hk] at hh
  simp [freeFor, hh, hid]

theorem step_of_other_holds (hd : DistinctIds cfg) {st : St} {i j : Nat} {op : Op}
    (hc : op.caller = some j) (hij : i ≠ j) (hk : (cfg i).key = (cfg j).key) (hh : holds cfg st i) :
    step cfg st op = (st, false) := by
  have ho := other_holds cfg hd hij hk hh
  rcases caller_eq_some hc with rfl | rfl | ⟨s, rfl⟩ <;>
    simp [step, acquire, acquireWith_eq, release_eq, ho]

theorem run_invariant {P : St → Prop} (ops : List Op) :
    (∀ st, ∀ op ∈ ops, P st → P (step cfg st op).1) → ∀ st, P st → P (run cfg st ops) := by
  induction ops with
  | nil => exact fun _ _ h => h
  | cons op ops ih =>
    exact fun hs st h => ih (fun st o ho => hs st o (List.mem_cons_of_mem _ ho)) _ (hs st op List.mem_cons_self h)

theorem run_append (st : St) (a b : List Op) :
    run cfg st (a ++ b) = run cfg (run cfg st a) b := by
  simp [run, List.foldl_append]

theorem run_snoc (st : St) (ops : List Op) (op : Op) :
    run cfg st (ops ++ [op]) = (step cfg (run cfg st ops) op).1 := run_append cfg st ops [op]

theorem results_length (ops : List Op) : ∀ st, (results cfg st ops).length = ops.length := by
  induction ops with
  | nil => intro st; rfl
  | cons op ops ih => intro st; simp [results, ih]

theorem results_append (a b : List Op) :
    ∀ st, results cfg st (a ++ b) = results cfg st a ++ results cfg (run cfg st a) b := by
  induction a with
  | nil => intro st; rfl
  | cons op a ih =>
    intro st
    simp only [List.cons_append, results, ih, run, List.foldl_cons]

theorem run_grace (ops : List Op) (st : St) : (run cfg st ops).store.grace = st.store.grace :=
  run_invariant cfg (P := fun s => s.store.grace = st.store.grace) ops
    (fun s op _ h => (step_grace cfg s op).trans h) st rfl

theorem run_now (ops : List Op) : ∀ st : St,
    (run cfg st ops).store.now = st.store.now + elapsed ops := by
  induction ops with
  | nil => intro st; rfl
  | cons op ops ih =>
    intro st
    have h1 := step_now cfg st op
    have h2 := ih (step cfg st op).1
    simp only [run, List.foldl_cons] at h2 ⊢
    rw [h2, h1]
    cases op <;> simp [elapsed] <;> omega

/-- the lease `(id_i, until u)` is still the entry of `i`'s key, or it has run out and whatever is there
now does not carry `i`'s id. -/
def LeaseInv (cfg : Nat → LockCfg) (i u : Nat) (st : St) : Prop :=
  st.store.ent (cfg i).key = some ⟨(cfg i).id, some u⟩ ∨
  (u ≤ st.store.now ∧ ∀ e, st.store.ent (cfg i).key = some e → e.val ≠ (cfg i).id)

theorem leaseInv_holds_iff (i u : Nat) (st : St) (h : LeaseInv cfg i u st) :
    holds cfg st i ↔ st.store.now < u := by
  unfold holds
  rcases h with h | ⟨hu, h⟩
  · by_cases hl : st.store.now < u
    · simp [get_of_ent_live h hl, hl]
    · simp [get_of_ent_dead h (by omega), hl]
  · constructor
    · intro hg
      obtain ⟨e, he, hv, _⟩ := get_some_ent hg
      exact absurd hv (h e he)
    · intro; omega

/-- Where the step leaves `i`'s entry alone only the clock matters.  Otherwise the caller `j` is another instance on
`i`'s key: while `i` holds, `j` is refused; once `i`'s lease is over, what `j` writes carries `j`'s id. -/
theorem leaseInv_step (hd : DistinctIds cfg) (i u : Nat) (st : St) (op : Op)
    (hq : quietFor i op = true) (h : LeaseInv cfg i u st) : LeaseInv cfg i u (step cfg st op).1 := by
  have hn := step_now cfg st op
  rcases step_ent cfg st op (cfg i).key with he | ⟨j, hc, hk, hv⟩
  · unfold LeaseInv
    rw [he, hn]
    exact h.imp id fun ⟨hu, h'⟩ => ⟨by omega, h'⟩
  · have hij : i ≠ j := fun e => (quietFor_iff i op).1 hq (e ▸ hc)
    by_cases hh : holds cfg st i
    · rw [step_of_other_holds cfg hd hc hij hk hh]; exact h
    · have := mt (leaseInv_holds_iff cfg i u st h).2 hh
      exact .inr ⟨by omega, fun e he c => hij (hd i j hk ((hv e he).1.symm.trans c).symm)⟩

theorem leaseInv_run (hd : DistinctIds cfg) (i u : Nat) (ops : List Op) (st : St)
    (hq : ∀ op ∈ ops, quietFor i op = true) : LeaseInv cfg i u st → LeaseInv cfg i u (run cfg st ops) :=
  run_invariant cfg ops (fun s op ho => leaseInv_step cfg hd i u s op (hq op ho)) st

theorem leaseInv_after_acquire (st : St) (i secs : Nat)
    (h : (acquireWith cfg st i secs).2 = true) :
    LeaseInv cfg i (st.store.now + leaseMs secs + st.store.grace) (acquireWith cfg st i secs).1 := by
  left
  rw [acquireWith_ent]
  simp [(acquireWith_result cfg st i secs).1 h]

/-- history with the callers' beliefs carried along (fed with the model's results) -/
def grun (cfg : Nat → LockCfg) : St → Belief → List Op → St × Belief
  | st, b, [] => (st, b)
  | st, b, op :: ops => grun cfg (step cfg st op).1 (b.step st.store.now st.secs op (step cfg st op).2) ops

/-- every belief "mine until `u`" is a lease in the sense of `LeaseInv`, ending `grace` after `u` (the key outlives
the believed lease by the store's `grace`) -/
def BeliefInv (cfg : Nat → LockCfg) (st : St) (b : Belief) : Prop :=
  ∀ i u, b i = some u → LeaseInv cfg i (u + st.store.grace) st

theorem belief_step_other {i : Nat} {op : Op} (hc : op.caller ≠ some i) (b : Belief) (now : Nat) (secs : Nat → Nat)
    (r : Bool) : b.step now secs op r i = b i := by
  have hne : ∀ j v, some j ≠ some i → updB b j v i = b i := fun j v h => if_neg fun e : i = j => h (e ▸ rfl)
  cases op with
  | acquire j | acquireS j s =>
    simp only [Belief.step]
    split
    · exact hne _ _ hc
    · rfl
  | release j => exact hne _ _ hc
  | _ => rfl

/-- an Acquire of `i` itself: granted, the new belief is the new lease; refused, nothing changes -/
theorem beliefInv_acquireWith (st : St) (b : Belief) (i secs u : Nat) (h : BeliefInv cfg st b)
    (hb : (if (acquireWith cfg st i secs).2 then updB b i (some (st.store.now + (secs * 1000 + 500))) else b) i = some u) :
    LeaseInv cfg i (u + st.store.grace) (acquireWith cfg st i secs).1 := by
  by_cases hr : (acquireWith cfg st i secs).2 = true
  · rw [if_pos hr] at hb
    simp only [updB, if_true, Option.some.injEq] at hb
    exact hb ▸ leaseInv_after_acquire cfg st i secs hr
  · rw [if_neg hr] at hb
    rw [acquireWith_eq, if_neg (mt (acquireWith_result cfg st i secs).2 hr)]
    exact h i u hb

/-- The belief of `i` changes only in `i`'s own calls; through anybody else's step its lease is kept by `leaseInv_step`. -/
theorem beliefInv_step (hd : DistinctIds cfg) (st : St) (b : Belief) (op : Op)
    (h : BeliefInv cfg st b) :
    BeliefInv cfg (step cfg st op).1 (b.step st.store.now st.secs op (step cfg st op).2) := by
  intro i u hb
  rw [step_grace]
  by_cases hc : op.caller = some i
  · rcases caller_eq_some hc with rfl | rfl | ⟨s, rfl⟩
    · exact beliefInv_acquireWith cfg st b _ _ u h hb
    · simp [Belief.step, updB] at hb
    · exact beliefInv_acquireWith cfg st b _ _ u h hb
  · rw [belief_step_other hc] at hb
    exact leaseInv_step cfg hd i _ st op ((quietFor_iff i op).2 hc) (h i u hb)

theorem beliefInv_grun (hd : DistinctIds cfg) (ops : List Op) :
    ∀ st b, BeliefInv cfg st b → BeliefInv cfg (grun cfg st b ops).1 (grun cfg st b ops).2 := by
  induction ops with
  | nil => intro st b h; exact h
  | cons op ops ih => intro st b h; exact ih _ _ (beliefInv_step cfg hd st b op h)

theorem believes_holds (st : St) (b : Belief) (h : BeliefInv cfg st b) (i : Nat)
    (hb : believes b st.store.now i = true) : holds cfg st i := by
  unfold believes at hb
  cases hbi : b i with
  | none => simp [hbi] at hb
  | some u =>
    simp [hbi] at hb
    exact (leaseInv_holds_iff cfg i _ st (h i u hbi)).2 (by omega)

theorem grun_fst (ops : List Op) : ∀ st b, (grun cfg st b ops).1 = run cfg st ops := by
  induction ops with
  | nil => intro st b; rfl
  | cons op ops ih => intro st b; simp only [grun, run, List.foldl_cons]; exact ih _ _

/-- instances whose Acquire returned true when the script runs of a burst execute in the order `js` (Redis runs a script
atomically, so a burst of concurrent Acquire attempts is some such sequence) -/
def winners (cfg : Nat → LockCfg) : St → List Nat → List Nat
  | _, [] => []
  | st, j :: js => (if (acquire cfg st j).2 then [j] else []) ++ winners cfg (acquire cfg st j).1 js

theorem mem_winners_cons {st : St} {j x : Nat} {js : List Nat} :
    x ∈ winners cfg st (j :: js) ↔
      (x = j ∧ (acquire cfg st j).2 = true) ∨ x ∈ winners cfg (acquire cfg st j).1 js := by
  simp only [winners, List.mem_append]
  split <;> simp [*]

theorem holds_acquire {st : St} {x j : Nat} (hk : (cfg j).key = (cfg x).key) (hh : holds cfg st x) :
    holds cfg (acquire cfg st j).1 x := by
  unfold holds at hh ⊢
  unfold acquire
  rw [acquireWith_eq]
  split
  · next hf =>
    -- granted while `x` holds: the caller carries the id the key shows, and that id is written back
    rw [← hk] at hh ⊢
    have hid : (cfg j).id = (cfg x).id := by
      rcases hf with hf | hf <;> simp [hh] at hf
      exact hf.symm
    exact hid ▸ get_setPX _ _ _ (leaseMs_pos _)
  · exact hh

/-- nothing expires inside a burst: every winner is the holder when the burst is over -/
theorem winners_hold (k : String) (js : List Nat) :
    ∀ st : St, (∀ j ∈ js, (cfg j).key = k) →
      ∀ x ∈ winners cfg st js, x ∈ js ∧ holds cfg (run cfg st (js.map .acquire)) x := by
  induction js with
  | nil => intro st _ x hx; simp [winners] at hx
  | cons j js ih =>
    intro st hk x hx
    have tail : ∀ j' ∈ js, (cfg j').key = k := fun j' hj' => hk j' (List.mem_cons_of_mem _ hj')
    rcases (mem_winners_cons cfg).1 hx with ⟨rfl, hr⟩ | hx
    · -- the head won: it holds, and every later Acquire of the burst is on its key
      refine ⟨List.mem_cons_self, ?_⟩
      refine run_invariant cfg (P := fun s => holds cfg s x) (js.map .acquire) (fun s op ho h => ?_) _
        (holds_of_granted cfg st x _ hr)
      obtain ⟨j', hj', rfl⟩ := List.mem_map.1 ho
      exact holds_acquire cfg ((tail j' hj').trans (hk x List.mem_cons_self).symm) h
    · exact ⟨List.mem_cons_of_mem _ (ih _ tail x hx).1, (ih _ tail x hx).2⟩

def keepsSeconds (i : Nat) : Op → Bool
  | .setExpire j _ => j ≠ i
  | _ => true

theorem step_secs_keep (st : St) (i : Nat) (op : Op) (h : keepsSeconds i op = true) :
    (step cfg st op).1.secs i = st.secs i := by
  cases op with
  | setExpire j v =>
    simp [keepsSeconds] at h
    simp [step, updN, Ne.symm h]
  | _ => rfl

theorem run_secs_keep (i : Nat) (ops : List Op) (st : St) (h : ∀ op ∈ ops, keepsSeconds i op = true) :
    (run cfg st ops).secs i = st.secs i :=
  run_invariant cfg (P := fun s => s.secs i = st.secs i) ops
    (fun s op ho hs => (step_secs_keep cfg s i op (h op ho)).trans hs) st rfl

end GoZero.C19
