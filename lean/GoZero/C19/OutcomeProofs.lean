/-
C19 — the outcome kinds of Outcomes.lean on the code that exists: the closed form of a cancelled context (`runCancel_real`:
a context that dies before the call's script run — before command 1, or between the NOSCRIPT answer and the EVAL — leaves
the shared state untouched and the call returns an error; one that dies later does not touch the call), and `publicCall`,
one public call under everything the environment can do to it (script cached or not, context alive or dead before any
round trip, the real reply or any substituted `Handed` value).  `publicCall` is a closed form written beside the semantics, not
computed from it: only its context dimension is tied to the round-trip schedule (`public_call_is_the_command_schedule`,
Props.lean); a substituted reply together with a round-trip schedule is not modelled.
-/
import GoZero.C19.OneCall
import GoZero.C19.Outcomes
namespace GoZero.C19

variable (cfg : Nat → LockCfg)

theorem runCancel_real (st : St) (outer : Op) (ho : isCall outer = true) (cached : Bool) (p : Nat) :
    runCancel real cfg st outer cached p =
      if p ≤ realTrips cached then { st := st, result := none, sent := p - 1 }
      else { st := (step cfg st outer).1, result := some (step cfg st outer).2, sent := realTrips cached } := by
  obtain ⟨k, hk⟩ : ∃ k, realTrips cached = k + 1 := by cases cached <;> exact ⟨_, rfl⟩
  cases outer <;> simp [isCall] at ho <;>
    simp only [runCancel, cstep, enter, real_start_eq, hk, Nat.add_sub_cancel, cmdsUpTo_realProg]
  -- Acquire and Release alike: thread 0 is `p - 1` round trips into `realProg k`
  all_goals
    by_cases h : p - 1 ≤ k
    · simp [h, show p ≤ k + 1 by omega]
    · simp [h, show ¬ p ≤ k + 1 by omega]
      exact ⟨rfl, rfl⟩

/-- the environment of one call: is the script in Redis' cache; does the caller's context die immediately
before the call's `p`-th round trip (`some 0`: it is dead before the call; `none`: it outlives the call, or
the call came through `Acquire()` / `Release()` which use `context.Background()`); is the Go code handed
something else than Redis' reply -/
structure Env where
  cached : Bool
  deadAt : Option Nat
  subst  : Option Handed

/-- the reply Redis sends for the call's script run in state `st` -/
def scriptReply (cfg : Nat → LockCfg) (st : St) : Op → Reply
  | .release i => (delScript st.store (cfg i).key (cfg i).id).2
  | .acquire i => (lockScript st.store (cfg i).key (cfg i).id (leaseMs (st.secs i))).2
  | .acquireS i s => (lockScript st.store (cfg i).key (cfg i).id (leaseMs s)).2
  | _ => .nil

/-- a public call: shared state afterwards, (result, an error is returned) -/
def publicCall (cfg : Nat → LockCfg) (st : St) (outer : Op) (env : Env) : St × (Bool × Bool) :=
  match env.deadAt with
  | some p =>
    if p ≤ realTrips env.cached then (st, (false, true))
    else ((step cfg st outer).1, handedOf outer (env.subst.getD (.reply (scriptReply cfg st outer))))
  | none => ((step cfg st outer).1, handedOf outer (env.subst.getD (.reply (scriptReply cfg st outer))))

theorem publicCall_cases (st : St) (outer : Op) (env : Env) :
    publicCall cfg st outer env = (st, (false, true)) ∨
    publicCall cfg st outer env =
      ((step cfg st outer).1, handedOf outer (env.subst.getD (.reply (scriptReply cfg st outer)))) := by
  unfold publicCall
  split
  · split <;> simp
  · exact .inr rfl

theorem handed_real_reply (st : St) (outer : Op) (ho : isCall outer = true) :
    handedOf outer (.reply (scriptReply cfg st outer)) = ((step cfg st outer).2, false) := by
  cases outer with
  | acquire i => rfl
  | release i =>
    obtain ⟨n, hn⟩ := delScript_reply_int st.store (cfg i).key (cfg i).id
    simp only [handedOf, scriptReply, hn, releaseHanded, step, release]
  | _ => simp [isCall] at ho

end GoZero.C19
