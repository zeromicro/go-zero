/-
C19 — Tie: what the extractor read from redislock.go / lockscript.lua / delscript.lua *now* equals what the
model was written against.  A failing obligation here means the code moved away from the model.
-/
import Std.Data.String.ToNat
import GoZero.Extracted.C19
import GoZero.C19.Lua
import GoZero.C19.Scripts
import GoZero.C19.Ids
import GoZero.C19.Outcomes
import GoZero.C19.Trace
namespace GoZero.C19.Tie
open GoZero.C19
open GoZero.C19.Lua
open GoZero.Extracted.C19

theorem extraction_clean : extractionErrors = [] := rfl

def lockProg : List Stmt :=
  [.ifte (.eq (.call [.str "GET", .keys 1]) (.argv 1))
     [.expr (.call [.str "SET", .keys 1, .argv 1, .str "PX", .argv 2]), .ret (.str "OK")]
     [.ret (.call [.str "SET", .keys 1, .argv 1, .str "NX", .str "PX", .argv 2])]]

def delProg : List Stmt :=
  [.ifte (.eq (.call [.str "GET", .keys 1]) (.argv 1))
     [.ret (.call [.str "DEL", .keys 1])]
     [.ret (.num 0)]]

theorem lockLua_parses : (lockLua.mapM Tok.ofRaw).bind parse = some lockProg := by rfl
theorem delLua_parses : (delLua.mapM Tok.ofRaw).bind parse = some delProg := by rfl

section Scripts

/- running a parsed script is unfolding the interpreter on it -/
attribute [local simp] lockProg delProg execBlock evalExpr evalArgs command Val.arg Val.luaEq Val.truthy toReply

/-- **lockscript.lua as it is in the tree now means the model's `lockScript`**: for every store, key, id
and lease `px > 0` (passed as its decimal text, as `strconv.Itoa` does), running the current script
yields exactly the model's store and reply. -/
theorem tie_lockScript (s : Store) (key id : String) (px : Nat) (hpx : 0 < px) :
    runScript lockLua [key] [id, Nat.repr px] s = some (lockScript s key id px) := by
  have hne : px ≠ 0 := by omega
  unfold runScript
  rw [lockLua_parses]
  unfold lockScript
  -- the lease reaches `SET … PX` as its decimal text and is parsed back: `simp` uses `Nat.toNat?_repr` (Std.Data.String.ToNat)
  cases hg : s.get key with
  | none =>
    simp [hg, hne]
    cases (s.setNXPX key id px).snd <;> rfl
  | some v =>
    by_cases hv : v = id
    · subst hv
      simp [hg, hne]
    · simp [hg, hne, hv]
      cases (s.setNXPX key id px).snd <;> rfl

/-- **delscript.lua as it is in the tree now means the model's `delScript`**. -/
theorem tie_delScript (s : Store) (key id : String) :
    runScript delLua [key] [id] s = some (delScript s key id) := by
  unfold runScript
  rw [delLua_parses]
  unfold delScript
  cases hg : s.get key with
  | none =>
    simp [hg]
  | some v =>
    by_cases hv : v = id
    · subst hv
      simp [hg]
    · simp [hg, hv]

end Scripts

theorem tie_tolerance : Extracted.C19.tolerance = 500 ∧ (GoZero.C19.tolerance : Int) = Extracted.C19.tolerance :=
  ⟨rfl, rfl⟩

theorem tie_millisPerSecond :
    Extracted.C19.millisPerSecond = 1000 ∧ (GoZero.C19.millisPerSecond : Int) = Extracted.C19.millisPerSecond :=
  ⟨rfl, rfl⟩

/-- ids are 16 random characters -/
theorem tie_randomLen : Extracted.C19.randomLen = 16 := rfl

/-- the lease handed to the lock script, `int(seconds)*millisPerSecond + tolerance` translated from the
source, is the property's `seconds·1000 + 500` and the model's `leaseMs`, for every `seconds`. -/
theorem tie_leaseArg (seconds : Nat) :
    leaseArg (seconds : Int) = ((seconds * 1000 + 500 : Nat) : Int) ∧
    leaseArg (seconds : Int) = (leaseMs seconds : Int) := by
  unfold leaseArg leaseMs GoZero.C19.millisPerSecond GoZero.C19.tolerance
  omega

/-- Acquire runs the lock script (embedded from lockscript.lua) with KEYS = [key], ARGV = [id, lease]. -/
theorem tie_acquireCall : acquireCall =
    ["script lockScript", "source lockLuaScript", "embed lockscript.lua",
     "KEYS[1] rl.key", "ARGV[1] rl.id", "ARGV[2] itoa(lease)"] := rfl

/-- Release runs the delete script (embedded from delscript.lua) with KEYS = [key], ARGV = [id]. -/
theorem tie_releaseCall : releaseCall =
    ["script delScript", "source delLuaScript", "embed delscript.lua", "KEYS[1] rl.key", "ARGV[1] rl.id"] :=
  rfl

/-- what `acquireReply` was written against: nil reply / error / nil → false; string "OK" → true; else false -/
theorem tie_acquireDecisions : acquireDecisions =
    ["if errors.Is(err, red.Nil) {", "return false, nil", "}", "else {",
     "if err != nil {", "return false, err", "}", "else {",
     "if resp == nil {", "return false, nil", "}", "}", "}",
     "reply, ok := resp.(string)", "if ok && reply == \"OK\" {", "return true, nil", "}",
     "return false, nil"] := rfl

/-- what `releaseReply` was written against: error → false; not an integer → false; else `reply == 1` -/
theorem tie_releaseDecisions : releaseDecisions =
    ["if err != nil {", "return false, err", "}", "reply, ok := resp.(int64)",
     "if !ok {", "return false, nil", "}", "return reply == 1, nil"] := rfl

/-- `seconds` is read once, atomically, before the script run -/
theorem tie_acquireShape_head : acquireShape.take 2 = ["call atomic.LoadUint32", "call rl.store.ScriptRunCtx"] :=
  rfl

theorem tie_releaseShape_head : releaseShape.take 1 = ["call rl.store.ScriptRunCtx"] := rfl

/-- every instance gets the caller's key and its own `stringx.Randn(randomLen)` id; `seconds` starts at 0 -/
theorem tie_newFields : newFields = ["store: store", "key: key", "id: stringx.Randn(randomLen)"] := rfl

/-- SetExpire stores `uint32(seconds)` atomically -/
theorem tie_setExpireShape : setExpireShape = ["call uint32", "call atomic.StoreUint32"] := rfl

/-! ### The Go side with integer WIDTHS, the reply decoding and the script arguments as FUNCTIONS

The extractor's width-aware translator (`extract/c19.go`, `c19W`) types every sub-expression (`seconds` is the
`uint32` that `atomic.LoadUint32` returned, untyped constants take the type of the other operand, arithmetic
wraps at the operand type's width, `int(x)` of an unsigned value zero-extends) and emits `BitVec` terms in
which Go's `int` is `BitVec W`.  `W = 64` on amd64 / arm64 (the platforms the correspondence run uses). -/

/-- **the lease handed to `strconv.Itoa` is `seconds·1000 + 500` for EVERY `uint32` value of `seconds`** —
no wrap anywhere (64-bit `int`): the conversion `int(seconds)` comes before the multiplication.  With the
multiplication inside the conversion (`int(seconds*millisPerSecond + tolerance)`) the emitted term is
`setWidth 64 (seconds * 1000#32 + 500#32)` and this fails for `seconds ≥ 4294967`. -/
theorem tie_leaseArgW (seconds : BitVec 32) :
    (leaseArgW 64 seconds).toInt = ((seconds.toNat * 1000 + 500 : Nat) : Int) ∧
    (leaseArgW 64 seconds).toInt = (leaseMs seconds.toNat : Int) := by
  have h := seconds.isLt
  have e : (leaseArgW 64 seconds).toInt = ((seconds.toNat * 1000 + 500 : Nat) : Int) := by
    unfold leaseArgW
    rw [BitVec.toInt_eq_toNat_cond]
    simp only [BitVec.toNat_add, BitVec.toNat_mul, BitVec.toNat_setWidth, BitVec.toNat_ofNat]
    omega
  exact ⟨e, by rw [e]; rfl⟩

/-- the types: `seconds` is loaded as `uint32`, the value printed by `strconv.Itoa` is a (signed) `int` -/
theorem tie_leaseArgType : leaseArgType = "uint32 -> int" := rfl

/-- the translated term at the boundary values 0, 1, the last `seconds` whose lease fits 32 bits, the next, 2³²−1 -/
theorem tie_leaseArgW_boundaries :
    [0, 1, 4294967, 4294968, 4294967295].map (fun s => (leaseArgW 64 (BitVec.ofNat 32 s)).toInt) =
      [500, 1500, 4294967500, 4294968500, 4294967295500] := rfl

/-- `SetExpire(seconds int)` stores `uint32(seconds)`: the low 32 bits — the model's `toUint32`, for every `int` -/
theorem tie_setExpireArgW (s : Int) : (setExpireArgW 64 (BitVec.ofInt 64 s)).toNat = toUint32 s := by
  unfold setExpireArgW toUint32
  rw [BitVec.signExtend_eq_setWidth_of_le _ (by omega)]
  simp only [BitVec.toNat_setWidth, BitVec.toNat_ofInt]
  omega

/-- … so a value in the property's domain `0 ≤ s < 2³²` is stored unchanged -/
theorem tie_setExpireArgW_in_range (s : Nat) (h : s < 4294967296) :
    (setExpireArgW 64 (BitVec.ofInt 64 (s : Int))).toNat = s := by
  rw [tie_setExpireArgW, toUint32_of_lt h]

/-- SetExpire stores into the very word AcquireCtx loads from, both atomically; the field is a `uint32` -/
theorem tie_secondsWord :
    secondsWord = ["store atomic.StoreUint32 &rl.seconds", "load atomic.LoadUint32 &rl.seconds"] ∧
    secondsField = ["uint32"] := ⟨rfl, rfl⟩

/-- **SetExpire → Acquire, Go side end to end**: the lease text the lock script receives after `SetExpire(s)`
(`0 ≤ s < 2³²`) is the decimal numeral of `s·1000 + 500`. -/
theorem tie_setExpire_then_lease (s : Nat) (h : s < 4294967296) :
    (leaseArgW 64 (setExpireArgW 64 (BitVec.ofInt 64 (s : Int)))).toInt = ((s * 1000 + 500 : Nat) : Int) := by
  have e := tie_setExpireArgW_in_range s h
  rw [(tie_leaseArgW _).1, e]

/-- what go-redis hands to the Go code (trusted reading of go-redis: a Lua `false`/nil reply is the error
`red.Nil`; status and bulk replies are Go strings; integer replies are `int64`; a failed type assertion
leaves the zero value) -/
structure GoResp where
  errIsNil : Bool
  errNonNil : Bool
  respNil : Bool
  isString : Bool
  isInt64 : Bool
  replyS : String
  replyI : Int

def goResp : Reply → GoResp
  | .nil => ⟨true, true, true, false, false, "", 0⟩
  | .status s => ⟨false, false, false, true, false, s, 0⟩
  | .bulk s => ⟨false, false, false, true, false, s, 0⟩
  | .int n => ⟨false, false, false, false, true, "", n⟩

/-- a round trip that failed (connection error, LOADING, …): `resp = nil`, `err` is not `red.Nil` -/
def goFailed : GoResp := ⟨false, true, true, false, false, "", 0⟩

def GoResp.app (g : GoResp) (f : Bool → Bool → Bool → Bool → Bool → String → Int → Bool × Bool) : Bool × Bool :=
  f g.errIsNil g.errNonNil g.respNil g.isString g.isInt64 g.replyS g.replyI

/-- **the statements of AcquireCtx after the script run, translated, ARE the model's `acquireReply`**: for
every reply the result is `acquireReply r` and no error is returned; a failed round trip gives (false, err). -/
theorem tie_acquireDecide :
    (∀ r : Reply, (goResp r).app acquireDecide = (acquireReply r, false)) ∧
    goFailed.app acquireDecide = (false, true) := by
  refine ⟨fun r => ?_, rfl⟩
  cases r with
  | status s | bulk s => by_cases h : s = "OK" <;> simp [GoResp.app, goResp, acquireDecide, acquireReply, h]
  | _ => rfl

/-- **… of ReleaseCtx ARE the model's `releaseReply`** (`reply == 1` on an `int64`); the only reply that makes
it return an error is nil (which delscript.lua never sends: `delScript_reply_int`, Scripts.lean). -/
theorem tie_releaseDecide :
    (∀ r : Reply, (goResp r).app releaseDecide = (releaseReply r, decide (r = .nil))) ∧
    goFailed.app releaseDecide = (false, true) := by
  refine ⟨fun r => ?_, rfl⟩
  cases r with
  | int n => by_cases h : n = 1 <;> simp [GoResp.app, goResp, releaseDecide, releaseReply, h]
  | _ => rfl

/-- the script arguments as functions: KEYS = [key], ARGV = [id, lease] resp. [id] -/
theorem tie_scriptArgs (key id lease : String) :
    acquireKeys key id lease = [key] ∧ acquireArgv key id lease = [id, lease] ∧
    releaseKeys key id lease = [key] ∧ releaseArgv key id lease = [id] := ⟨rfl, rfl, rfl, rfl⟩

/-- **Acquire end to end, from the Go arguments to the store** (call site → script arguments → current
lockscript.lua): for every store, key, id and every `uint32` value of `seconds`, running the script file of
the tree with the KEYS/ARGV that AcquireCtx builds — the lease printed from the width-aware Go expression —
is the model's `lockScript` with `leaseMs seconds`; and AcquireCtx's decoding of the reply is the model's. -/
theorem tie_acquire_end_to_end (s : Store) (key id : String) (seconds : BitVec 32) :
    let lease := Nat.repr (leaseArgW 64 seconds).toInt.toNat
    runScript lockLua (acquireKeys key id lease) (acquireArgv key id lease) s =
        some (lockScript s key id (leaseMs seconds.toNat)) ∧
    (goResp (lockScript s key id (leaseMs seconds.toNat)).2).app acquireDecide =
        ((acquireWith (fun _ => ⟨key, id⟩) ⟨s, fun _ => 0⟩ 0 seconds.toNat).2, false) := by
  intro lease
  have e : (leaseArgW 64 seconds).toInt.toNat = leaseMs seconds.toNat := by
    rw [(tie_leaseArgW seconds).2]; simp
  refine ⟨?_, ?_⟩
  · show runScript lockLua [key] [id, Nat.repr (leaseArgW 64 seconds).toInt.toNat] s = _
    rw [e]
    exact tie_lockScript s key id _ (leaseMs_pos _)
  · rw [tie_acquireDecide.1]; rfl

/-- **Release end to end** (ReleaseCtx's KEYS/ARGV → current delscript.lua → decoding) -/
theorem tie_release_end_to_end (s : Store) (key id : String) :
    runScript delLua (releaseKeys key id "") (releaseArgv key id "") s = some (delScript s key id) ∧
    ((goResp (delScript s key id).2).app releaseDecide).1 =
        (release (fun _ => ⟨key, id⟩) ⟨s, fun _ => 0⟩ 0).2 := by
  refine ⟨tie_delScript s key id, ?_⟩
  rw [tie_releaseDecide.1]; rfl

/-- non-vacuity / platform note: with a 32-bit `int` (GOARCH=386/arm) the same expression wraps from
`seconds = 2147484` on — the 64-bit width is an assumption of `tie_leaseArgW` (props/C19.json). -/
example : (leaseArgW 32 (BitVec.ofNat 32 2147483)).toInt = 2147483500 ∧
    (leaseArgW 32 (BitVec.ofNat 32 2147484)).toInt < 0 := by decide

example : (goResp (.status "OK")).app acquireDecide = (true, false) ∧ (goResp .nil).app acquireDecide = (false, false) ∧
    (goResp (.int 1)).app releaseDecide = (true, false) ∧ (goResp (.int 0)).app releaseDecide = (false, false) := by
  decide

/-! ### every call is ONE store round trip (what `Cmds.real` was written against)

`effectCalls` of the extractor lists every callee of a function except conversions, formatting, logging and
error inspection.  So these obligations say: AcquireCtx touches the shared `seconds` word once (atomic load)
and the store once (one `ScriptRunCtx`), ReleaseCtx touches the store once (one `ScriptRunCtx`) — no GET, DEL,
SET, pipeline or helper beside it —, the context-free wrappers only forward, and `Redis.ScriptRunCtx` is one
`script.Run` (go-redis: EVALSHA, and EVAL only after a NOSCRIPT answer). -/

theorem tie_acquireStoreCalls : acquireStoreCalls = ["atomic.LoadUint32", "rl.store.ScriptRunCtx"] := rfl

theorem tie_releaseStoreCalls : releaseStoreCalls = ["rl.store.ScriptRunCtx"] := rfl

theorem tie_wrapperCalls : acquireWrapperCalls = ["rl.AcquireCtx"] ∧ releaseWrapperCalls = ["rl.ReleaseCtx"] :=
  ⟨rfl, rfl⟩

theorem tie_setExpireCalls : setExpireCalls = ["atomic.StoreUint32"] := rfl

theorem tie_newLockCalls : newLockCalls = ["stringx.Randn"] := rfl

theorem tie_scriptRunCtx :
    scriptRunCtxCalls = ["getRedis", "script.Run(ctx, conn, keys, args...).Result", "script.Run"] := rfl

/-- the two package-level scripts are built by `NewScript`, which hands the text unchanged to go-redis -/
theorem tie_newScript : newScriptBody = ["return red.NewScript(script)"] := rfl

/-- the alphabet has 62 different characters; an index is 6 bits of the source and is used only if it is
`< len(letterBytes)` (rejection: every character of the alphabet is equally likely if the bits are uniform) -/
theorem tie_idAlphabet :
    Extracted.C19.letterBytes = "abcdefghijklmnopqrstuvwxyzABCDEFGHIJKLMNOPQRSTUVWXYZ0123456789" ∧
    Extracted.C19.letterBytes.length = 62 ∧ Extracted.C19.letterBytes.toList.Nodup ∧
    Extracted.C19.letterIdxBits = 6 ∧
    letterIdxDerived = ["letterIdxMask = 1<<letterIdxBits - 1", "letterIdxMax = 63 / letterIdxBits"] :=
  ⟨rfl, idAlphabet_length, idAlphabet_nodup, rfl, rfl⟩

/-- the derived constants evaluated (own evaluator with shifts, Go precedence): the mask is the `letterIdxBits`
low bits, and `letterIdxMax` indices of `letterIdxBits` bits fit into the 63 bits of `Int63` -/
theorem tie_randnConsts :
    letterIdxMask = 2 ^ 6 - 1 ∧ Extracted.C19.letterIdxBits = 6 ∧ letterIdxMax = 10 ∧ letterIdxMax * 6 ≤ 63 ∧
    randnShift = 6 := by decide

/-- **the decision-making expressions of Randn's loop, translated, are the model's** (`Ids.lean`): the `j`-th index
read from an `Int63` value is the model's draw, and an index is used iff the model's filter accepts it; the
model's alphabet is the `letterBytes` of the tree and an accepted index selects `letterBytes[idx]`. -/
theorem tie_randnLoop :
    (∀ v, drawsOfInt63 v = (List.range letterIdxMax).map fun j => randnIdx (v >>> (randnShift * j))) ∧
    (∀ idx, randnAccept idx = decide (idx < 62)) ∧
    idAlphabet = Extracted.C19.letterBytes.toList ∧
    Extracted.C19.letterBytes.length = 62 :=
  ⟨fun _ => rfl, fun _ => rfl, rfl, idAlphabet_length⟩

theorem tie_randnBody : randnBody =
    ["b := make([]byte, n)",
     "for i, cache, remain := n-1, src.Int63(), letterIdxMax; i >= 0;  {",
     "if remain == 0 {", "cache, remain = src.Int63(), letterIdxMax", "}",
     "if idx := int(cache & letterIdxMask); idx < len(letterBytes) {", "b[i] = letterBytes[idx]", "i--", "}",
     "cache >>= letterIdxBits", "remain--", "}",
     "return string(b)"] := rfl

/-- `Handed` as go-redis presents it: a reply (`goResp`), `resp == nil` with `err == nil`, or an error that is not
`red.Nil` (also a typed-nil error value: the interface is non-nil) -/
def goHanded : Handed → GoResp
  | .reply r => goResp r
  | .nilNoErr => ⟨false, false, true, false, false, "", 0⟩
  | .err => goFailed

/-- **AcquireCtx's statements after the script run, translated from the tree, are the model's `acquireHanded` for
EVERY value the code can be handed** (not only the replies lockscript.lua can send) -/
theorem tie_acquireHanded (h : Handed) : (goHanded h).app acquireDecide = acquireHanded h := by
  cases h with
  | reply r => exact tie_acquireDecide.1 r
  | nilNoErr => rfl
  | err => exact tie_acquireDecide.2

/-- **… ReleaseCtx's are `releaseHanded`**: true only for the `int64` 1; a nil reply comes back as the error -/
theorem tie_releaseHanded (h : Handed) : (goHanded h).app releaseDecide = releaseHanded h := by
  cases h with
  | reply r => rw [show goHanded (.reply r) = goResp r from rfl, tie_releaseDecide.1 r]; cases r <;> simp [releaseHanded, releaseReply]
  | nilNoErr => rfl
  | err => exact tie_releaseDecide.2

/-- `Acquire()` / `Release()` are exactly `return rl.AcquireCtx(context.Background())` / `… ReleaseCtx …`:
same receiver, the background context, nothing else (for every receiver: parametric in the argument type) -/
theorem tie_wrapperFwd {α : Type} (rl bg : α) (lit : Nat → α) (spread : α → α) :
    acquireWrapperFwd rl bg lit spread = ("AcquireCtx", rl, [bg]) ∧
    releaseWrapperFwd rl bg lit spread = ("ReleaseCtx", rl, [bg]) := ⟨rfl, rfl⟩

/-- the script runs of AcquireCtx / ReleaseCtx: `rl.store.ScriptRunCtx(ctx, lockScript | delScript, <1st literal>,
<2nd literal>)` — the caller's context first, the right script object, KEYS before ARGV (the two literals are
the ones translated as `acquireKeys`/`acquireArgv`, `releaseKeys`/`releaseArgv`: `tie_scriptArgs`) -/
theorem tie_callSites {α : Type} (store ctx lockS delS bg : α) (lit : Nat → α) (spread : α → α) :
    acquireCallSite store ctx lockS delS bg lit spread = ("ScriptRunCtx", store, [ctx, lockS, lit 1, lit 2]) ∧
    releaseCallSite store ctx lockS delS bg lit spread = ("ScriptRunCtx", store, [ctx, delS, lit 1, lit 2]) := ⟨rfl, rfl⟩

/-- `Redis.ScriptRunCtx(ctx, script, keys, args...)` = `conn, err := getRedis(s)`; error → `nil, err`; else
`script.Run(ctx, conn, keys, args...).Result()`: every parameter forwarded to its own position -/
theorem tie_scriptRunCtxFwd {α : Type} (ctx script keys args conn bg : α) (lit : Nat → α) (spread : α → α) :
    scriptRunCtxFwd ctx script keys args conn bg lit spread = ("Run", script, [ctx, conn, keys, spread args]) ∧
    scriptRunCtxParams = ["ctx", "script", "keys", "args..."] ∧
    scriptRunCtxBody = ["assign conn, err := getRedis(s)", "if err != nil { return nil, err }",
      "return", "  <run>.Result()"] := ⟨rfl, rfl, rfl⟩

/-- Go's positional binding of a call's arguments to `ScriptRunCtx`'s parameters (the variadic one packs the rest) -/
def bindScriptRunCtx {α : Type} (pack : List α → α) : List α → Option (α × α × α × α)
  | ctx :: script :: keys :: rest => some (ctx, script, keys, pack rest)
  | _ => none

/-- **Acquire() → AcquireCtx → Redis.ScriptRunCtx → script.Run, argument by argument**: the script that runs is
`lockScript` (for Release: `delScript`), with the wrapper's background context, KEYS = the first literal of the
call site, ARGV = the second (packed into the variadic parameter and spread again) — a dropped, swapped or
reordered argument anywhere on the path breaks this. -/
theorem tie_call_forwarding {α : Type} (rl store lockS delS bg conn : α) (lit : Nat → α) (spread : α → α)
    (pack : List α → α) :
    ((acquireWrapperFwd rl bg lit spread).2.2.head?.bind fun ctx =>
      (bindScriptRunCtx pack (acquireCallSite store ctx lockS delS bg lit spread).2.2).map fun a =>
        scriptRunCtxFwd a.1 a.2.1 a.2.2.1 a.2.2.2 conn bg lit spread) =
      some ("Run", lockS, [bg, conn, lit 1, spread (pack [lit 2])]) ∧
    ((releaseWrapperFwd rl bg lit spread).2.2.head?.bind fun ctx =>
      (bindScriptRunCtx pack (releaseCallSite store ctx lockS delS bg lit spread).2.2).map fun a =>
        scriptRunCtxFwd a.1 a.2.1 a.2.2.1 a.2.2.2 conn bg lit spread) =
      some ("Run", delS, [bg, conn, lit 1, spread (pack [lit 2])]) := ⟨rfl, rfl⟩

/-- NewRedisLock: `store` and `key` are the caller's, the id is `stringx.Randn(16)`, no other field is set
(`seconds` starts at its zero value) — for every store and key -/
theorem tie_newLockFields {α : Type} (store key : α) (randn : Int → α) :
    newLockFields store key randn = [("store", store), ("key", key), ("id", randn 16)] := rfl

/-- `init()` of redislock.go is one expression statement whose value is dropped (`rand.NewSource(…)` allocates a
source and nothing keeps it): no assignment, no store to package state — nothing of the lock depends on it -/
theorem tie_initBody : initBody = ["rand.NewSource(time.Now().UnixNano())"] := rfl

example : (goHanded (.reply (.bulk "ok"))).app acquireDecide = (false, false) ∧
    (goHanded .nilNoErr).app releaseDecide = (false, false) := by decide

def rowOf (t : String × List (Bool × String) × Nat × String × List String) : Row :=
  ⟨t.1, t.2.1, t.2.2.1, t.2.2.2.1, t.2.2.2.2⟩

/-- **every call of redislock.go that is not pure — per function and per branch — is what the model was written
against**: one unconditional `rl.store.ScriptRunCtx(ctx, lockScript | delScript, []string{rl.key}, …)` in
AcquireCtx / ReleaseCtx, the wrappers delegate, no call on `rl.store` under any condition, no helper method -/
theorem tie_callTable : callTable.map rowOf = realRows := rfl

/-- **the command-trace theorems speak about the table of the tree**: interpreted from either entry point it is `realG` -/
theorem tie_command_trace (cfg : Nat → LockCfg) (call : Call) (wrapper : Bool) :
    progOfRows (callTable.map rowOf) wrapper (cfg (callInst call)) call = some (realG cfg call) := by
  rw [tie_callTable]; exact every_entry_point_runs_realG cfg call wrapper

/-- Go's `select` with one receive case and a `default`: the receive case is taken iff it is ready -/
def gateOfSelect (sel : List (String × String)) (ctxDone brkOpen : Bool) : Option GateOut :=
  match sel with
  | [(c1, b1), (c2, b2)] =>
    if c1 = "<-ctx.Done()" ∧ b1 = "return ctx.Err()" ∧ c2 = "default" ∧
        b2 = "return cb.DoWithAcceptable(req, acceptable)" then
      some (if ctxDone then .ctxErr else if brkOpen then .unavailable else .pass)
    else none
  | _ => none

/-- **go-zero's breaker hook is the model's `breakerGate`**: a command whose name is not in `ignoreCmds` goes through
`h.brk.DoWithAcceptableCtx(ctx, next…, acceptable)`, whose body is the select "context done → its error, else the
breaker decides".  What is compared with the tree is the TEXT of the hook and of the select's two branches; the reading
of the select as a function of (context done, breaker open) is `gateOfSelect`'s.  Not extracted: the content of the map
`ignoreCmds` (breakerhook.go: only "blpop"; EVALSHA / EVAL are not in it). -/
theorem tie_breakerGate (ctxDone brkOpen : Bool) :
    gateOfSelect breakerSelect ctxDone brkOpen = some (breakerGate ctxDone brkOpen) ∧
    breakerProcessHook = ["if _, ok := ignoreCmds[cmd.Name()]; ok {", "return next(ctx, cmd)", "}",
      "return h.brk.DoWithAcceptableCtx(ctx, func() error { return next(ctx, cmd) }, acceptable)"] :=
  ⟨rfl, rfl⟩

/-- **AcquireCtx and ReleaseCtx never return before their script run**: the returns in front of the
`ScriptRunCtx` statement, translated over the values of their conditions, are `none` for ALL condition values —
no client-side fast path (seeded C19-7: a local lease deadline that made a holder's Release answer false without
asking Redis).  This is what `realG` (first thing: send EVALSHA) and `every_call_asks_redis` rest on. -/
theorem tie_noEarlyReturn (cs : List Bool) : acquireEarly cs = none ∧ releaseEarly cs = none := ⟨rfl, rfl⟩

/-- **all the state of a `RedisLock`**: the store, the `seconds` word, key and id — the model's `LockCfg` (key, id),
`St.secs` and the shared store; no client-side lease bookkeeping, no cached arguments (seeded C19-5, C19-7) -/
theorem tie_lockFields :
    lockFields = [("store", "*Redis"), ("seconds", "uint32"), ("key", "string"), ("id", "string")] := rfl

end GoZero.C19.Tie
