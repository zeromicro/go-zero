/-
C19 — one observed call of the code that exists, run by thread 0 in the round-trip semantics of Cmds.lean: where the call
`realProg k` (Atomic.lean) stands after any number of round trips (`cmdsUpTo_realProg`), and from it the closed form of the
schedule of an `inj` line (`runInj_real`): operations placed before a round trip the call really makes precede its single
atomic step, all others follow it.  OutcomeProofs.lean does the same for a cancelled context.
-/
import GoZero.C19.Atomic
namespace GoZero.C19

variable (cfg : Nat → LockCfg)

def isSimple : Op → Bool
  | .acquireS _ _ => false
  | _ => true

/-- the call under observation as an operation of the history: an Acquire with the `seconds` loaded at entry -/
def outerOp (st : St) : Op → Op
  | .acquire i => .acquireS i (st.secs i)
  | o => o

def isCall : Op → Bool
  | .acquire _ => true
  | .release _ => true
  | _ => false

/-- the call an `inj` line observes, as thread 0 holds it after entering (Acquire has loaded `seconds`) -/
def callOf (st : St) : Op → Call
  | .acquire i => .acq i (st.secs i)
  | .release i => .rel i
  | _ => .rel 0

/-- thread `t` is inside `call` with program `p`; the other threads are `f` -/
abbrev inCall (s : St) (f : Nat → Option Thread) (t : Nat) (call : Call) (p : Prog) : CConc :=
  { st := s, thr := updT f t (some ⟨call, p⟩) }

theorem updT_updT (f : Nat → Option Thread) (t : Nat) (a b : Option Thread) :
    updT (updT f t a) t b = updT f t b := by
  funext u; simp only [updT]; split <;> rfl

theorem updT_self (f : Nat → Option Thread) (t : Nat) (v : Option Thread) (h : f t = v) : updT f t v = f := by
  funext u; simp only [updT]; split
  · next hu => rw [hu, h]
  · rfl

theorem thr1 (th : Option Thread) : updT (fun _ => none) 0 th 1 = none := by simp [updT]

theorem cmdsUpTo_zero (cfg : Nat → LockCfg) (t : Nat) (c : CConc) : cmdsUpTo real cfg t 0 c = (c, 0) := rfl

section
variable (s : St) (f : Nat → Option Thread) (t : Nat) (call : Call)

@[simp] theorem cmdsUpTo_done (b : Bool) (n : Nat) :
    cmdsUpTo real cfg t n (inCall s f t call (.done b)) = (inCall s f t call (.done b), 0) := by
  cases n <;> simp [cmdsUpTo, cstep, updT_same]

@[simp] theorem cmdsUpTo_realProg :
    ∀ n k, cmdsUpTo real cfg t n (inCall s f t call (realProg cfg call k)) =
      if n ≤ k then (inCall s f t call (realProg cfg call (k - n)), n)
      else (inCall (step cfg s call.op).1 f t call (.done (step cfg s call.op).2), k + 1) := by
  intro n
  induction n with
  | zero => intro k; simp [cmdsUpTo]
  | succ n ih =>
    intro k
    cases k with
    | zero =>
      have he := scriptCmd_exec cfg s call
      simp only [cmdsUpTo, cstep, updT_same, realProg, updT_updT, he.2]
      rw [he.1, cmdsUpTo_done]
      simp
    | succ k =>
      simp only [cmdsUpTo, cstep, updT_same, realProg, updT_updT, Cmd.exec, ih k]
      split <;> simp [*]

@[simp] theorem pending_realProg (k : Nat) :
    pending (inCall s f t call (realProg cfg call k)) t = true := by
  cases k <;> simp [pending, updT_same, realProg]

@[simp] theorem pending_done (b : Bool) :
    pending (inCall s f t call (.done b)) t = false := by
  simp [pending, updT_same]

@[simp] theorem retOf_done (b : Bool) :
    retOf real cfg (inCall s f t call (.done b)) t = ({ st := s, thr := updT f t none }, some b) := by
  simp [retOf, cstep, updT_same, updT_updT]

end

theorem wholeOp_real (t : Nat) (c : CConc) (h : c.thr t = none) (op : Op)
    (hs : isSimple op = true) :
    wholeOp real cfg t c op = ({ c with st := (step cfg c.st op).1 }, (step cfg c.st op).2) := by
  have run1 : ∀ call, retOf real cfg (cmdsUpTo real cfg t 8 (inCall c.st c.thr t call (real.start cfg true call))).1 t =
      ({ c with st := (step cfg c.st call.op).1 }, some (step cfg c.st call.op).2) := fun call => by
    rw [real_start_eq, cmdsUpTo_realProg, if_neg (by decide), retOf_done, updT_self _ _ _ h]
  cases op with
  | ft ms | setExpire i v => rfl
  | acquireS i s => simp [isSimple] at hs
  | acquire i | release i =>
    simp only [wholeOp, cstep, enter, h]
    rw [run1]
    rfl

theorem wholeOps_real (t : Nat) (ops : List Op) :
    ∀ c : CConc, c.thr t = none → (∀ op ∈ ops, isSimple op = true) →
      wholeOps real cfg t c ops = ({ c with st := run cfg c.st ops }, results cfg c.st ops) := by
  induction ops with
  | nil => intro c _ _; rfl
  | cons op ops ih =>
    intro c h hs
    have h1 := wholeOp_real cfg t c h op (hs op List.mem_cons_self)
    have h2 := ih { c with st := (step cfg c.st op).1 } h (fun o ho => hs o (List.mem_cons_of_mem _ ho))
    simp only [wholeOps, h1, h2, run, results, List.foldl_cons]

theorem runInj_real (st : St) (outer : Op) (ho : isCall outer = true) (cached : Bool) (p : Nat)
    (hp : 1 ≤ p) (inner : List Op) (hs : ∀ op ∈ inner, isSimple op = true) :
    runInj real cfg st outer cached p inner =
      if p ≤ realTrips cached then
        { st := (step cfg (run cfg st inner) (callOf st outer).op).1,
          outer := (step cfg (run cfg st inner) (callOf st outer).op).2,
          inner := results cfg st inner, ncmds := realTrips cached, fired := some p }
      else
        { st := run cfg (step cfg st (callOf st outer).op).1 inner, outer := (step cfg st (callOf st outer).op).2,
          inner := results cfg (step cfg st (callOf st outer).op).1 inner, ncmds := realTrips cached, fired := none } := by
  obtain ⟨q, rfl⟩ : ∃ q, p = q + 1 := ⟨p - 1, by omega⟩
  obtain ⟨k, hk, hk2⟩ : ∃ k, realTrips cached = k + 1 ∧ k < 2 := by cases cached <;> exact ⟨_, rfl, by decide⟩
  have w : ∀ s th, wholeOps real cfg 1 { st := s, thr := updT (fun _ => none) 0 th } inner =
      ({ st := run cfg s inner, thr := updT (fun _ => none) 0 th }, results cfg s inner) :=
    fun s th => wholeOps_real cfg 1 inner _ (thr1 th) hs
  cases outer <;> simp [isCall] at ho <;>
    simp only [runInj, cstep, enter, real_start_eq, hk, Nat.add_sub_cancel, cmdsUpTo_realProg, callOf]
  -- Acquire and Release alike: thread 0 is `q` round trips into `realProg k`
  all_goals
    by_cases h : q ≤ k
    · -- 8 is the fuel `runInj` gives the call to finish; left over: the round trips add up, `q + (k - q + 1) = k + 1`
      simp [h, w, show ¬ 8 ≤ k - q by omega]
      omega
    · simp [h, w]

end GoZero.C19
