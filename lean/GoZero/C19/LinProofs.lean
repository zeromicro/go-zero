/-
C19 — lemmas for `linearize_finds_model_placement`: the driver's linearizability monitor, fed with the
outcome the command-level model computes for an `inj` line, finds an atomic placement (no false alarm).
-/
import GoZero.C19.Refine
import GoZero.C19.OneCall
import GoZero.C19.Driver
namespace GoZero.C19
open Spec

variable (cfg : Nat → LockCfg)

theorem explain_own_result (a : ASt) (op : Op) :
    Spec.explain cfg a op (Spec.step cfg a op).2 = none := by
  unfold Spec.explain; simp

/-- the observations the model produces for a sequence of operations -/
def modelObs (cfg : Nat → LockCfg) (st : St) (ops : List Op) : List (Op × Option Bool) :=
  ops.zip ((results cfg st ops).map some)

theorem specSeq_model (ops : List Op) :
    ∀ st, HasTTL st → specSeq cfg (abs st) (modelObs cfg st ops) = (none, abs (run cfg st ops)) := by
  induction ops with
  | nil => intro st _; rfl
  | cons op ops ih =>
    intro st h
    have hs := step_refines cfg st op h
    have he := explain_own_result cfg (abs st) op
    rw [hs] at he
    simp only [modelObs, results, List.map_cons, List.zip_cons_cons, specSeq, he, hs]
    exact ih _ (hasTTL_step cfg st op h)

theorem specDump_abs (st : St) (h : HasTTL st) (keys : List String) : specDump (abs st) keys = modelDump st keys := by
  unfold specDump modelDump
  congr 1
  apply List.map_congr_left
  intro k _
  rw [abs_view st h k]

theorem specExplains_model (keys : List String) (st : St) (h : HasTTL st) (ops : List Op) :
    specExplains cfg keys (abs st) (modelObs cfg st ops) (modelDump (run cfg st ops) keys) = none := by
  unfold specExplains
  rw [specSeq_model cfg ops st h]
  simp [specDump_abs _ (run_refines cfg ops st h).2]

/-- the `seconds` the call under observation loaded at entry (Acquire), 0 for Release -/
def secOf (st : St) : Op → Nat
  | .acquire i => st.secs i
  | _ => 0

theorem placeOuter_callOf (st : St) (outer : Op) (ho : isCall outer = true) :
    placeOuter outer (secOf st outer) = (callOf st outer).op := by
  cases outer <;> simp [isCall] at ho <;> rfl

theorem secOf_mem_secsCands (st : St) (outer : Op) (before : List Op) :
    secOf st outer ∈ secsCands (abs st) outer before := by
  cases outer <;> simp [secsCands, secOf, List.mem_eraseDups, abs]

theorem mem_placements (st : St) (outer : Op) (inner : List Op) (pos : Nat) (hpos : pos ≤ inner.length) :
    (pos, secOf st outer) ∈ placements (abs st) outer inner := by
  unfold placements
  rw [List.mem_flatMap]
  exact ⟨pos, List.mem_range.2 (by omega), List.mem_map.2 ⟨_, secOf_mem_secsCands st outer _, rfl⟩⟩

theorem placed_last (st : St) (outer : Op) (ho : isCall outer = true) (inner : List Op) :
    placed outer (some (step cfg (run cfg st inner) (callOf st outer).op).2)
        (inner.zip ((results cfg st inner).map some)) inner.length (secOf st outer) =
      modelObs cfg st (inner ++ [(callOf st outer).op]) := by
  have hl : (inner.zip ((results cfg st inner).map some)).length ≤ inner.length := by
    simp [List.length_zip, results_length]
  unfold placed modelObs
  rw [List.take_of_length_le hl, List.drop_of_length_le hl, placeOuter_callOf st outer ho, results_append,
    List.map_append, List.zip_append (by simp [results_length])]
  simp [results]

theorem placed_first (st : St) (outer : Op) (ho : isCall outer = true) (inner : List Op) :
    placed outer (some (step cfg st (callOf st outer).op).2)
        (inner.zip ((results cfg (step cfg st (callOf st outer).op).1 inner).map some)) 0 (secOf st outer) =
      modelObs cfg st ((callOf st outer).op :: inner) := by
  unfold placed modelObs
  rw [placeOuter_callOf st outer ho]
  simp [results]

end GoZero.C19
