/-
C19 — the code that exists under the command-level schedule semantics of Cmds.lean:
every Acquire / Release performs exactly ONE executing round trip (one script run), that round trip is
exactly the model's atomic `step`, and therefore every schedule — other threads' round trips, SetExpire
stores and clock advances anywhere between the round trips of a call — leaves a history of atomic steps.
-/
import GoZero.C19.Cmds
import GoZero.C19.Invariants
namespace GoZero.C19

variable (cfg : Nat → LockCfg)

/-- a program that executes exactly one command on the store, possibly after round trips that Redis
answered with an error without executing anything, and then returns what it decodes from that one reply -/
inductive OneStoreStep : Prog → Prop where
  | script (c : Cmd) (f : Reply → Bool) (h : c.isStoreStep = true) : OneStoreStep (.cmd c (fun r => .done (f r)))
  | retry (k : Reply → Prog) (h : ∀ r, OneStoreStep (k r)) : OneStoreStep (.cmd .failed k)

/-- round trips a call of the code that exists makes -/
def realTrips (cached : Bool) : Nat := if cached then 1 else 2

/-- the call with `k` refused round trips (EVALSHA answered NOSCRIPT) still in front of its script run -/
def realProg (cfg : Nat → LockCfg) (call : Call) : Nat → Prog
  | 0 => .cmd (scriptCmd cfg call) (fun r => .done (decodeOf call r))
  | k + 1 => .cmd .failed (fun _ => realProg cfg call k)

theorem real_start_eq (cached : Bool) (call : Call) :
    real.start cfg cached call = realProg cfg call (realTrips cached - 1) := by
  cases call <;> cases cached <;> rfl

theorem scriptCmd_isStoreStep (call : Call) : (scriptCmd cfg call).isStoreStep = true := by
  cases call <;> rfl

theorem oneStoreStep_realProg (call : Call) : ∀ k, OneStoreStep (realProg cfg call k)
  | 0 => .script _ _ (scriptCmd_isStoreStep cfg call)
  | k + 1 => .retry _ fun _ => oneStoreStep_realProg call k

/-- where a thread of the code that exists can be: some refusals before its script run, or finished -/
def RealAt (cfg : Nat → LockCfg) (th : Thread) : Prop :=
  (∃ k, th.prog = realProg cfg th.call k) ∨ ∃ b, th.prog = .done b

def RealInv (cfg : Nat → LockCfg) (c : CConc) : Prop := ∀ t th, c.thr t = some th → RealAt cfg th

theorem realInv_init (st : St) : RealInv cfg { st := st, thr := fun _ => none } := by
  intro t th h; simp at h

theorem scriptCmd_exec (st : St) (call : Call) :
    ({ st with store := ((scriptCmd cfg call).exec st.store).1 } : St) = (step cfg st call.op).1 ∧
    decodeOf call ((scriptCmd cfg call).exec st.store).2 = (step cfg st call.op).2 := by
  cases call <;> exact ⟨rfl, rfl⟩

theorem updT_same (f : Nat → Option Thread) (t : Nat) (v : Option Thread) : updT f t v t = v := by
  simp [updT]

theorem realInv_updT (c : CConc) (st' : St) (t : Nat) (v : Option Thread)
    (hinv : RealInv cfg c) (hv : ∀ th, v = some th → RealAt cfg th) :
    RealInv cfg { st := st', thr := updT c.thr t v } := by
  intro u th h
  simp only [updT] at h
  split at h
  · exact hv th h
  · exact hinv u th h

theorem cstep_realProg_succ {c : CConc} {t : Nat} {th : Thread} (hth : c.thr t = some th) {k : Nat}
    (hp : th.prog = realProg cfg th.call (k + 1)) :
    cstep real cfg c (.cmd t) =
      some ({ st := c.st, thr := updT c.thr t (some { th with prog := realProg cfg th.call k }) }, none) := by
  simp [cstep, hth, hp, realProg, Cmd.exec]

theorem cstep_realProg_zero {c : CConc} {t : Nat} {th : Thread} (hth : c.thr t = some th)
    (hp : th.prog = realProg cfg th.call 0) :
    cstep real cfg c (.cmd t) =
      some ({ st := (step cfg c.st th.call.op).1,
              thr := updT c.thr t (some { th with prog := .done (step cfg c.st th.call.op).2 }) }, none) := by
  have he := scriptCmd_exec cfg c.st th.call
  simp only [cstep, hth, hp, realProg]
  rw [← he.1, ← he.2]

/-- **the executing round trip of a call is one atomic step of the model**: in any configuration the code
that exists can be in, a round trip of thread `t` that Redis executes can only be its script run -/
theorem real_store_step (c : CConc) (hinv : RealInv cfg c) (t : Nat) (th : Thread)
    (hth : c.thr t = some th) (cm : Cmd) (k : Reply → Prog) (hp : th.prog = .cmd cm k)
    (hs : cm.isStoreStep = true) :
    cstep real cfg c (.cmd t) =
      some ({ st := (step cfg c.st th.call.op).1,
              thr := updT c.thr t (some { th with prog := .done (step cfg c.st th.call.op).2 }) }, none) := by
  rcases hinv t th hth with ⟨n, hn⟩ | ⟨b, hb⟩
  · cases n with
    | zero => exact cstep_realProg_zero cfg hth hn
    | succ n =>
      rw [hn, realProg] at hp
      cases hp
      cases hs
  · rw [hb] at hp
    cases hp

theorem enter_real (c c' : CConc) (t : Nat) (call : Call) (cached : Bool) (o : Option Ret)
    (hinv : RealInv cfg c) (h : enter real cfg c t call cached = some (c', o)) : RealInv cfg c' ∧ c'.st = c.st := by
  unfold enter at h
  split at h
  · cases h
    exact ⟨realInv_updT cfg c c.st t _ hinv fun th hv => by cases hv; exact .inl ⟨_, real_start_eq cfg cached call⟩, rfl⟩
  · cases h

theorem real_step_history (c c' : CConc) (a : Act) (o : Option Ret)
    (hinv : RealInv cfg c) (h : cstep real cfg c a = some (c', o)) :
    RealInv cfg c' ∧ c'.st = run cfg c.st (label c a).toList := by
  cases a with
  | acquire t i cached | release t i cached => exact enter_real cfg c c' t _ cached o hinv h
  | ft ms | setExpire i v =>
    cases h
    exact ⟨hinv, rfl⟩
  | ret t =>
    -- enabled only for a finished thread, which it removes
    simp only [cstep] at h
    split at h
    · cases h
    · split at h
      · cases h
        exact ⟨realInv_updT cfg c c.st t none hinv (fun th hv => by cases hv), rfl⟩
      · cases h
  | cmd t =>
    cases hth : c.thr t with
    | none => simp [cstep, hth] at h
    | some th =>
      rcases hinv t th hth with ⟨n, hn⟩ | ⟨b, hb⟩
      · cases n with
        | zero =>
          rw [cstep_realProg_zero cfg hth hn] at h
          cases h
          exact ⟨realInv_updT cfg c _ t _ hinv fun th' hv => by cases hv; exact .inr ⟨_, rfl⟩,
            by simp [label, hth, hn, realProg, scriptCmd_isStoreStep, run]⟩
        | succ n =>
          rw [cstep_realProg_succ cfg hth hn] at h
          cases h
          exact ⟨realInv_updT cfg c c.st t _ hinv fun th' hv => by cases hv; exact .inl ⟨n, rfl⟩,
            by simp [label, hth, hn, realProg, Cmd.isStoreStep, run]⟩
      · simp [cstep, hth, hb] at h

theorem real_exec_history (acts : List Act) :
    ∀ c c', RealInv cfg c → crun real cfg c acts = some c' →
      RealInv cfg c' ∧ c'.st = run cfg c.st (chist real cfg c acts) := by
  induction acts with
  | nil =>
    intro c c' hinv h
    cases h
    exact ⟨hinv, rfl⟩
  | cons a as ih =>
    intro c c' hinv h
    simp only [crun] at h
    cases hs : cstep real cfg c a with
    | none => simp [hs] at h
    | some r =>
      simp only [hs] at h
      have h1 := real_step_history cfg c r.1 a r.2 hinv (by rw [hs])
      have h2 := ih r.1 c' h1.1 h
      refine ⟨h2.1, ?_⟩
      simp only [chist, hs]
      rw [run_append, ← h1.2]
      exact h2.2

end GoZero.C19
