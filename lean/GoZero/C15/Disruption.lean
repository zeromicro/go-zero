/-
C15 — minimal disruption.  Two represented states whose maps agree except on repr `r`: if the bucket that serves a key
holds at most one node in ONE of them, the two answers differ only if one of them is the member `r` (`step_moves_only`).
`NoCollision` makes every bucket that small (`bucket_le_one`); without such a hypothesis the conclusion can fail
(`disruption_needs_no_collision` in Props.lean).
-/
import GoZero.C15.Lookup
namespace GoZero.C15

/-- no two virtual nodes in play hash to the same value -/
def NoCollision (H : Hasher) (m : SMap) : Prop :=
  ∀ r1 r2 n1 c1 n2 c2 i1 i2, m.find r1 = some (n1, c1) → m.find r2 = some (n2, c2) → i1 < c1 → i2 < c2 →
    H.point r1 i1 = H.point r2 i2 → r1 = r2 ∧ i1 = i2

theorem points_nodup {H : Hasher} {m : SMap} (hnc : NoCollision H m) {r : String} {n : Node} {c : Nat}
    (hf : m.find r = some (n, c)) : (points H r c).Nodup := by
  unfold points
  rw [List.Nodup, List.pairwise_map]
  apply List.Pairwise.imp_of_mem ?_ (List.nodup_range (n := c))
  intro i j hi hj hij he
  exact hij (hnc r r n c n c i j hf hf (List.mem_range.mp hi) (List.mem_range.mp hj) he).2

theorem bucket_le_one {H : Hasher} {s : CH} {m : SMap} (hi : Inv H s m) (hnc : NoCollision H m) (x : Nat) :
    (bucket s.ring x).length ≤ 1 := by
  match hb : bucket s.ring x with
  | [] => simp
  | [_] => simp
  | a :: b :: rest =>
    exfalso
    have ha : a ∈ bucket s.ring x := by rw [hb]; simp
    have hbm : b ∈ bucket s.ring x := by rw [hb]; simp
    obtain ⟨ca, hfa, hxa⟩ := (mem_bucket_iff hi x a).mp ha
    obtain ⟨cb, hfb, hxb⟩ := (mem_bucket_iff hi x b).mp hbm
    obtain ⟨i, hi1, hi2⟩ := mem_points.mp hxa
    obtain ⟨j, hj1, hj2⟩ := mem_points.mp hxb
    -- the two entries belong to one repr, hence are one node listed twice: two of its points coincide
    have hr := (hnc _ _ _ _ _ _ i j hfa hfb hi1 hj1 (hi2.trans hj2.symm)).1
    rw [hr, hfb] at hfa
    have hab : b = a := by injection hfa with h; injection h
    subst hab
    have hc := hi.ring.cnt x b.repr
    rw [hb] at hc
    unfold demand SMap.cnt at hc
    rw [hfb] at hc
    simp only [List.countP_cons, isRepr, beq_self_eq_true, if_true] at hc
    have := List.nodup_iff_count.mp (points_nodup hnc hfb) x
    omega

theorem mem_bucket_transfer {H : Hasher} {s s' : CH} {m m' : SMap} (hi : Inv H s m) (hi' : Inv H s' m') {r : String}
    (hagree : ∀ r', r' ≠ r → m.find r' = m'.find r') {x : Nat} {a : Node} (ha : a ∈ bucket s.ring x)
    (har : a.repr ≠ r) : a ∈ bucket s'.ring x := by
  obtain ⟨c, hf, hx⟩ := (mem_bucket_iff hi x a).mp ha
  exact (mem_bucket_iff hi' x a).mpr ⟨c, (hagree _ har).symm.trans hf, hx⟩

theorem moved_only {H : Hasher} {s s' : CH} {m m' : SMap} (hi : Inv H s m) (hi' : Inv H s' m')
    (r : String) (hagree : ∀ r', r' ≠ r → m.find r' = m'.find r') (k a b : Node)
    (hloc : (landing H s k).length ≤ 1 ∨ (landing H s' k).length ≤ 1)
    (hg : get H s k = .node a) (hg' : get H s' k = .node b) (hab : a ≠ b) :
    a.repr = r ∨ b.repr = r := by
  apply Classical.byContradiction
  intro hcon
  obtain ⟨har, hbr⟩ := not_or.mp hcon
  obtain ⟨hk, ha⟩ := get_node_mem hi hg
  obtain ⟨hk', hb⟩ := get_node_mem hi' hg'
  have hs := target_isSucc s.keys (H.key k.repr) hi.keys.sorted hk
  have hs' := target_isSucc s'.keys (H.key k.repr) hi'.keys.sorted hk'
  rw [landing_eq, landing_eq] at hloc
  generalize target s.keys (H.key k.repr) = t at ha hs hloc
  generalize target s'.keys (H.key k.repr) = t' at hb hs' hloc
  -- neither `a` nor `b` is the member `r`: `a` also sits at `t` in `s'`, `b` also at `t'` in `s`,
  -- so each key slice contains the other's successor point and the two points coincide
  have ha' := mem_bucket_transfer hi hi' hagree ha har
  have hb2 := mem_bucket_transfer hi' hi (fun r' h => (hagree r' h).symm) hb hbr
  have := isSucc_cross hs hs' ((mem_keys_iff hi' t).mpr (List.ne_nil_of_mem ha'))
    ((mem_keys_iff hi t').mpr (List.ne_nil_of_mem hb2))
  subst this
  rcases hloc with h | h
  · exact hab (eq_of_mem_of_length_le_one h ha hb2)
  · exact hab (eq_of_mem_of_length_le_one h ha' hb)

/-- a ring that answers `none` has no virtual node, a node answered elsewhere has one: their maps differ at its repr -/
theorem repr_of_none_node {H : Hasher} {s s' : CH} {m m' : SMap} (hi : Inv H s m) (hi' : Inv H s' m') {r : String}
    (hagree : ∀ r', r' ≠ r → m.find r' = m'.find r') {k b : Node}
    (hg : get H s k = .none) (hg' : get H s' k = .node b) : b.repr = r := by
  apply Classical.byContradiction
  intro hbr
  obtain ⟨c, hf, hc⟩ := get_member hi' k b hg'
  have h0 := (get_none_iff hi k).mp hg b.repr
  rw [cnt_of_find ((hagree _ hbr).trans hf)] at h0
  omega

theorem step_moves_only {H : Hasher} {s s' : CH} {m m' : SMap} (hi : Inv H s m) (hi' : Inv H s' m')
    (r : String) (hagree : ∀ r', r' ≠ r → m.find r' = m'.find r') (k : Node)
    (hloc : (landing H s k).length ≤ 1 ∨ (landing H s' k).length ≤ 1) :
    get H s' k = get H s k ∨ (∃ v, get H s k = .node v ∧ v.repr = r) ∨ (∃ v, get H s' k = .node v ∧ v.repr = r) := by
  have hagree' : ∀ r', r' ≠ r → m'.find r' = m.find r' := fun r' h => (hagree r' h).symm
  rcases get_cases hi k with ⟨_, hg⟩ | ⟨_, a, _, hg⟩
  · rcases get_cases hi' k with ⟨_, hg'⟩ | ⟨_, b, _, hg'⟩
    · exact Or.inl (hg'.trans hg.symm)
    · exact Or.inr (Or.inr ⟨b, hg', repr_of_none_node hi hi' hagree hg hg'⟩)
  · rcases get_cases hi' k with ⟨_, hg'⟩ | ⟨_, b, _, hg'⟩
    · exact Or.inr (Or.inl ⟨a, hg, repr_of_none_node hi' hi hagree' hg' hg⟩)
    · by_cases hab : a = b
      · exact Or.inl (by rw [hg, hg', hab])
      · rcases moved_only hi hi' r hagree k a b hloc hg hg' hab with h | h
        · exact Or.inr (Or.inl ⟨a, hg, h⟩)
        · exact Or.inr (Or.inr ⟨b, hg', h⟩)

end GoZero.C15
