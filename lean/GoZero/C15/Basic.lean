/-
C15 — basic lemmas about the pieces of the model: the ring map, ordered buckets, the sorted key slice, the Go `int`
arithmetic of `AddWithWeight`.
-/
import GoZero.C15.Spec
namespace GoZero.C15

theorem eq_of_mem_of_length_le_one {α : Type} {l : List α} {a b : α} (hl : l.length ≤ 1) (ha : a ∈ l) (hb : b ∈ l) :
    a = b := by
  match l, hl, ha, hb with
  | [x], _, ha, hb => rw [List.mem_singleton.mp ha, List.mem_singleton.mp hb]

theorem map_range_inj (f : Nat → Nat) (c : Nat) (h : ((List.range c).map f).Nodup) :
    ∀ i j, i < c → j < c → f i = f j → i = j := by
  intro i j hi hj he
  exact (List.getElem_inj (h₀ := by simpa using hi) (h₁ := by simpa using hj) h).mp (by simpa using he)

theorem countP_eraseP {α : Type} (p : α → Bool) (l : List α) : (l.eraseP p).countP p = l.countP p - 1 := by
  induction l with
  | nil => rfl
  | cons a t ih =>
    rw [List.eraseP_cons]
    by_cases h : p a <;> simp [h, ih]

theorem filter_not_eraseP {α : Type} (p : α → Bool) (l : List α) :
    (l.eraseP p).filter (fun a => !p a) = l.filter (fun a => !p a) := by
  induction l with
  | nil => rfl
  | cons a t ih =>
    rw [List.eraseP_cons]
    by_cases h : p a <;> simp [h, ih]

theorem lookup_filter_ne (ring : List (Nat × List Node)) (x y : Nat) :
    (ring.filter (fun p => p.1 != x)).lookup y = if y = x then none else ring.lookup y := by
  induction ring with
  | nil => simp
  | cons p rest ih =>
    obtain ⟨k, b⟩ := p
    by_cases hk : k = x
    · subst hk
      simp only [List.filter_cons, bne_self_eq_false, Bool.false_eq_true, if_false, ih, List.lookup_cons]
      by_cases hy : y = k
      · simp [hy]
      · have : (y == k) = false := by simp [hy]
        simp [hy, this]
    · have h1 : (k != x) = true := by simp [hk]
      simp only [List.filter_cons, h1, if_true, List.lookup_cons, ih]
      by_cases hy : y = x
      · subst hy
        have : (y == k) = false := by simp; exact fun h => hk h.symm
        simp [this]
      · simp [hy]

theorem bucket_setBucket (ring : List (Nat × List Node)) (x y : Nat) (b : List Node) :
    bucket (setBucket ring x b) y = if y = x then b else bucket ring y := by
  unfold setBucket bucket
  by_cases hb : b.isEmpty
  · simp only [hb, if_true, lookup_filter_ne]
    by_cases hy : y = x
    · simp only [hy, if_true]; exact (List.isEmpty_iff.mp hb).symm
    · simp [hy]
  · simp only [hb, Bool.false_eq_true, if_false, List.lookup_cons, lookup_filter_ne]
    by_cases hy : y = x
    · simp [hy]
    · have : (y == x) = false := by simp [hy]
      simp [hy, this]

def WFRing (ring : List (Nat × List Node)) : Prop := ∀ p ∈ ring, p.2 ≠ []

theorem wf_setBucket (ring : List (Nat × List Node)) (x : Nat) (b : List Node) (h : WFRing ring) :
    WFRing (setBucket ring x b) := by
  unfold setBucket
  by_cases hb : b.isEmpty
  · simp only [hb, if_true]
    intro p hp
    exact h p (List.mem_filter.mp hp).1
  · simp only [hb, Bool.false_eq_true, if_false]
    exact List.forall_mem_cons.mpr
      ⟨fun hnil => hb (List.isEmpty_iff.mpr hnil), fun p hp => h p (List.mem_filter.mp hp).1⟩

theorem ring_isEmpty_iff (ring : List (Nat × List Node)) (h : WFRing ring) :
    ring.isEmpty = true ↔ ∀ x, bucket ring x = [] := by
  constructor
  · intro he x
    have : ring = [] := List.isEmpty_iff.mp he
    subst this; rfl
  · intro hall
    cases ring with
    | nil => rfl
    | cons p rest =>
      exfalso
      obtain ⟨k, b⟩ := p
      have := hall k
      simp only [bucket, List.lookup_cons, beq_self_eq_true] at this
      exact h (k, b) (List.mem_cons_self) this

theorem insertNode_perm (n : Node) (b : List Node) : (insertNode n b).Perm (n :: b) := by
  induction b with
  | nil => exact List.Perm.refl _
  | cons m ms ih =>
    unfold insertNode
    split
    · exact List.Perm.refl _
    · exact (List.Perm.cons m ih).trans (List.Perm.swap n m ms)

theorem length_insertNode (n : Node) (b : List Node) : (insertNode n b).length = b.length + 1 := by
  simpa using (insertNode_perm n b).length_eq

theorem mem_insertNode (n a : Node) (b : List Node) : a ∈ insertNode n b ↔ a = n ∨ a ∈ b := by
  simpa using (insertNode_perm n b).mem_iff (a := a)

theorem countP_insertNode (p : Node → Bool) (n : Node) (b : List Node) :
    (insertNode n b).countP p = b.countP p + if p n then 1 else 0 := by
  rw [(insertNode_perm n b).countP_eq, List.countP_cons]

def ReprLe (a b : Node) : Prop := a.repr ≤ b.repr

theorem pairwise_insertNode (n : Node) (b : List Node) (h : b.Pairwise ReprLe) :
    (insertNode n b).Pairwise ReprLe := by
  induction b with
  | nil => simp [insertNode]
  | cons m ms ih =>
    unfold insertNode
    have hm := List.pairwise_cons.mp h
    split
    · rename_i hlt
      have hnm : n.repr ≤ m.repr := Std.le_of_lt hlt
      exact List.pairwise_cons.mpr ⟨List.forall_mem_cons.mpr ⟨hnm, fun a ha => String.le_trans hnm (hm.1 a ha)⟩, h⟩
    · rename_i hnlt
      refine List.pairwise_cons.mpr ⟨?_, ih hm.2⟩
      intro a ha
      rcases (mem_insertNode n a ms).mp ha with rfl | ha
      · exact String.not_lt.mp hnlt
      · exact hm.1 a ha

theorem insertSorted_perm (x : Nat) (l : List Nat) : (insertSorted x l).Perm (x :: l) := by
  induction l with
  | nil => exact List.Perm.refl _
  | cons y ys ih =>
    unfold insertSorted
    split
    · exact List.Perm.refl _
    · exact (List.Perm.cons y ih).trans (List.Perm.swap x y ys)

theorem insertSorted_sorted (x : Nat) (l : List Nat) (h : l.Pairwise (· ≤ ·)) :
    (insertSorted x l).Pairwise (· ≤ ·) := by
  induction l with
  | nil => simp [insertSorted]
  | cons y ys ih =>
    unfold insertSorted
    have hy := List.pairwise_cons.mp h
    split
    · rename_i hle
      exact List.pairwise_cons.mpr ⟨List.forall_mem_cons.mpr ⟨hle, fun a ha => Nat.le_trans hle (hy.1 a ha)⟩, h⟩
    · exact List.pairwise_cons.mpr ⟨fun a ha =>
        List.forall_mem_cons.mpr ⟨by omega, hy.1⟩ a ((insertSorted_perm x ys).mem_iff.mp ha), ih hy.2⟩

theorem sortKeys_perm (l : List Nat) : (sortKeys l).Perm l := by
  induction l with
  | nil => exact List.Perm.refl _
  | cons x xs ih =>
    show (insertSorted x (sortKeys xs)).Perm (x :: xs)
    exact (insertSorted_perm x _).trans (List.Perm.cons x ih)

theorem sortKeys_sorted (l : List Nat) : (sortKeys l).Pairwise (· ≤ ·) := by
  induction l with
  | nil => simp [sortKeys]
  | cons x xs ih => exact insertSorted_sorted x _ ih

theorem count_sortKeys (x : Nat) (l : List Nat) : (sortKeys l).count x = l.count x :=
  (sortKeys_perm l).count_eq x

theorem searchGE_cons (y : Nat) (ys : List Nat) (x : Nat) :
    searchGE (y :: ys) x = if y < x then searchGE ys x + 1 else 0 := by
  unfold searchGE
  by_cases h : y < x <;> simp [h]

theorem removeKey_eq_erase (keys : List Nat) (x : Nat) (h : keys.Pairwise (· ≤ ·)) :
    removeKey keys x = keys.erase x := by
  induction keys with
  | nil => simp [removeKey, searchGE]
  | cons y ys ih =>
    have hy := List.pairwise_cons.mp h
    have ih := ih hy.2
    unfold removeKey at ih ⊢
    simp only [searchGE_cons]
    by_cases hlt : y < x
    · have hne : y ≠ x := by omega
      simp only [hlt, if_true, List.getElem?_cons_succ, List.eraseIdx_cons_succ]
      rw [List.erase_cons_tail (by simpa using hne)]
      dsimp only at ih
      rw [← ih]
      exact (apply_ite (List.cons y) _ _ _).symm
    · simp only [hlt, if_false, List.getElem?_cons_zero, Option.some.injEq]
      by_cases he : y = x
      · subst he; simp
      · simp only [he, if_false]
        -- every key is `≥ y > x`
        refine (List.erase_of_not_mem fun hmem => ?_).symm
        have := List.forall_mem_cons.mpr ⟨Nat.le_refl y, hy.1⟩ x hmem
        omega

theorem removeKey_sorted (keys : List Nat) (x : Nat) (h : keys.Pairwise (· ≤ ·)) :
    (removeKey keys x).Pairwise (· ≤ ·) := by
  rw [removeKey_eq_erase keys x h]
  exact List.Pairwise.sublist List.erase_sublist h

theorem count_removeKey (keys : List Nat) (x y : Nat) (h : keys.Pairwise (· ≤ ·)) :
    (removeKey keys x).count y = keys.count y - if x = y then 1 else 0 := by
  rw [removeKey_eq_erase keys x h, List.count_erase]
  simp

theorem wrapInt_id (x : Int) (h : -9223372036854775808 ≤ x ∧ x < 9223372036854775808) : wrapInt x = x := by
  unfold wrapInt; omega

theorem weightReplicas_100 (w : Int) (h : -9223372036854775808 ≤ 100 * w ∧ 100 * w < 9223372036854775808) :
    weightReplicas 100 w = w := by
  unfold weightReplicas topWeight
  rw [show ((100 : Nat) : Int) = 100 from rfl, wrapInt_id _ h]
  exact Int.mul_tdiv_cancel_left w (by decide)

end GoZero.C15
