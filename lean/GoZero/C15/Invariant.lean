/-
C15 — lemmas about the abstract map (`SMap.find`, `cnt` after `del` / `set`); the representation invariant `Inv H s m`, its
preservation by Remove / AddWithReplicas along every history (`inv_run`); the abstract membership `members` after a list of
operations, entry by entry.
-/
import GoZero.C15.Basic
namespace GoZero.C15

theorem find_del (m : SMap) (r r' : String) :
    (m.del r).find r' = if r' = r then none else m.find r' := by
  unfold SMap.del SMap.find
  rw [List.find?_filter]
  by_cases h : r' = r
  · subst h; simp
  · rw [if_neg h]
    congr 1
    funext p
    by_cases e : p.1.repr = r' <;> simp [e, h]

theorem find_cons_self (m : SMap) (n : Node) (c : Nat) (r : String) :
    SMap.find ((n, c) :: m) r = if r = n.repr then some (n, c) else m.find r := by
  unfold SMap.find
  rw [List.find?_cons]
  by_cases h : r = n.repr
  · simp [h]
  · have : (n.repr == r) = false := by simp; exact fun e => h e.symm
    simp [this, h]

theorem find_set (m : SMap) (n : Node) (c : Nat) (r' : String) :
    (m.set n c).find r' = if r' = n.repr then some (n, c) else m.find r' := by
  unfold SMap.set
  rw [find_cons_self, find_del]
  by_cases h : r' = n.repr <;> simp [h]

theorem cnt_congr {m m' : SMap} (h : ∀ r, m.find r = m'.find r) (r : String) : m.cnt r = m'.cnt r := by
  unfold SMap.cnt; rw [h r]

theorem cnt_del (m : SMap) (r r' : String) : (m.del r).cnt r' = if r' = r then 0 else m.cnt r' := by
  unfold SMap.cnt; rw [find_del]; by_cases h : r' = r <;> simp [h]

theorem cnt_of_find {m : SMap} {r : String} {n : Node} {c : Nat} (h : m.find r = some (n, c)) : m.cnt r = c := by
  unfold SMap.cnt; rw [h]

theorem cnt_of_find_none {m : SMap} {r : String} (h : m.find r = none) : m.cnt r = 0 := by
  unfold SMap.cnt; rw [h]

theorem cnt_set (m : SMap) (n : Node) (c : Nat) (r' : String) :
    (m.set n c).cnt r' = if r' = n.repr then c else m.cnt r' := by
  unfold SMap.cnt; rw [find_set]; by_cases h : r' = n.repr <;> simp [h]

/-! `RingOK ring d val`: no bucket of the map is empty; every bucket is ordered by repr, lists the repr `r` exactly `d r x`
times at hash `x`, and each entry is the value `val` gives for its repr.  `KeysOK`: the key slice is sorted and holds `x` once
per entry of bucket `x`.  `Inv` (below) takes `d := demand H m`, `val := valOf m`; two rings are compared under one `d`, `val`
in `bucket_unique` (Lookup.lean). -/

def isRepr (r : String) : Node → Bool := fun m => m.repr == r

structure RingOK (ring : List (Nat × List Node)) (d : String → Nat → Nat) (val : String → Option Node) : Prop where
  wf : WFRing ring
  sorted : ∀ x, (bucket ring x).Pairwise ReprLe
  cnt : ∀ x r, (bucket ring x).countP (isRepr r) = d r x
  val : ∀ x n, n ∈ bucket ring x → val n.repr = some n

structure KeysOK (keys : List Nat) (ring : List (Nat × List Node)) : Prop where
  sorted : keys.Pairwise (· ≤ ·)
  cnt : ∀ x, keys.count x = (bucket ring x).length

theorem bucket_removePoint (s : CH) (x : Nat) (r : String) (y : Nat) :
    bucket (removePoint s x r).ring y = if y = x then (bucket s.ring x).eraseP (isRepr r) else bucket s.ring y := by
  unfold removePoint
  dsimp only
  split
  · exact bucket_setBucket _ _ _ _
  · rename_i h
    split
    · rename_i e
      rw [e]
      exact (List.eraseP_of_forall_not fun a ha hp => h (List.any_eq_true.mpr ⟨a, ha, hp⟩)).symm
    · rfl

theorem removePoint_keeps (s : CH) (x : Nat) (r : String) (hw : WFRing s.ring) (hk : KeysOK s.keys s.ring) :
    WFRing (removePoint s x r).ring ∧ KeysOK (removePoint s x r).keys (removePoint s x r).ring := by
  unfold removePoint
  dsimp only
  split
  · rename_i h
    refine ⟨wf_setBucket _ _ _ hw, removeKey_sorted _ _ hk.sorted, fun y => ?_⟩
    rw [count_removeKey _ _ _ hk.sorted, bucket_setBucket, hk.cnt y]
    by_cases hy : y = x
    · subst hy
      have : (List.any (bucket s.ring y) fun m => m.repr == r) = true := h
      simp [List.length_eraseP, this]
    · simp [hy, Ne.symm hy]
  · exact ⟨hw, hk⟩

theorem removePoint_frame (s : CH) (x : Nat) (r : String) :
    (removePoint s x r).replicas = s.replicas ∧ (removePoint s x r).nodes = s.nodes := by
  unfold removePoint; dsimp only; split <;> exact ⟨rfl, rfl⟩

theorem removeLoop_frame (r : String) (pt : Nat → Nat) (is : List Nat) (s : CH) :
    (is.foldl (fun s i => removePoint s (pt i) r) s).replicas = s.replicas ∧
    (is.foldl (fun s i => removePoint s (pt i) r) s).nodes = s.nodes := by
  exact List.foldlRecOn (motive := fun s' => s'.replicas = s.replicas ∧ s'.nodes = s.nodes) is _ ⟨rfl, rfl⟩
    fun s' h i _ => ⟨(removePoint_frame s' (pt i) r).1.trans h.1, (removePoint_frame s' (pt i) r).2.trans h.2⟩

theorem removeLoop_keeps (r : String) (pt : Nat → Nat) (is : List Nat) (s : CH) (hw : WFRing s.ring)
    (hk : KeysOK s.keys s.ring) :
    WFRing (is.foldl (fun s i => removePoint s (pt i) r) s).ring ∧
    KeysOK (is.foldl (fun s i => removePoint s (pt i) r) s).keys (is.foldl (fun s i => removePoint s (pt i) r) s).ring :=
  List.foldlRecOn (motive := fun s' => WFRing s'.ring ∧ KeysOK s'.keys s'.ring) is _ ⟨hw, hk⟩
    fun s' h i _ => removePoint_keeps s' (pt i) r h.1 h.2

/-- **the loop of `Remove` filters the node out of every bucket**, provided it visits each hash value at least as often
as the bucket lists the node -/
theorem bucket_removeLoop (r : String) (pt : Nat → Nat) (is : List Nat) : ∀ (s : CH) (y : Nat),
    (bucket s.ring y).countP (isRepr r) ≤ (is.map pt).count y →
    bucket (is.foldl (fun s i => removePoint s (pt i) r) s).ring y = (bucket s.ring y).filter fun a => !isRepr r a := by
  induction is with
  | nil =>
    intro s y h
    refine (List.filter_eq_self.mpr fun a ha => ?_).symm
    have := List.countP_eq_zero.mp (Nat.le_zero.mp h) a ha
    simpa using this
  | cons i rest ih =>
    intro s y h
    rw [List.map_cons] at h
    rw [List.foldl_cons, ih _ y, bucket_removePoint]
    · split
      · rename_i e; rw [e, filter_not_eraseP]
      · rfl
    · rw [bucket_removePoint]
      split
      · rename_i e; subst e; rw [List.count_cons_self] at h; rw [countP_eraseP]; omega
      · rename_i e; rw [List.count_cons_of_ne (Ne.symm e)] at h; exact h

/-- the fold over the new node's points that `addWithReplicas`, `insertPhase` and `partialInsert` write out:
`h.ring[hash] = insertRingNode(h.ring[hash], node, nodeRepr)` per virtual node -/
def insertLoop (n : Node) (pts : List Nat) (ring : List (Nat × List Node)) : List (Nat × List Node) :=
  pts.foldl (fun ring x => setBucket ring x (insertNode n (bucket ring x))) ring

theorem wf_insertLoop (n : Node) (pts : List Nat) (ring : List (Nat × List Node)) (h : WFRing ring) :
    WFRing (insertLoop n pts ring) :=
  List.foldlRecOn (motive := WFRing) pts _ h fun _ h x _ => wf_setBucket _ x _ h

/-- the insertion loop lists the node once more per visit of a hash value and keeps the buckets ordered -/
theorem bucket_insertLoop (n : Node) (pts : List Nat) : ∀ (ring : List (Nat × List Node)) (y : Nat),
    (bucket (insertLoop n pts ring) y).Perm (List.replicate (pts.count y) n ++ bucket ring y) ∧
    ((bucket ring y).Pairwise ReprLe → (bucket (insertLoop n pts ring) y).Pairwise ReprLe) := by
  induction pts with
  | nil => intro ring y; exact ⟨by simp [insertLoop], id⟩
  | cons x rest ih =>
    intro ring y
    obtain ⟨hp, hs⟩ := ih (setBucket ring x (insertNode n (bucket ring x))) y
    rw [bucket_setBucket] at hp hs
    show (bucket (insertLoop n rest _) y).Perm _ ∧ (_ → (bucket (insertLoop n rest _) y).Pairwise ReprLe)
    by_cases e : y = x
    · subst e
      rw [if_pos rfl] at hp hs
      rw [List.count_cons_self, List.replicate_succ]
      exact ⟨hp.trans (((insertNode_perm n _).append_left _).trans List.perm_middle),
        fun h => hs (pairwise_insertNode n _ h)⟩
    · rw [if_neg e] at hp hs
      rw [List.count_cons_of_ne (Ne.symm e)]
      exact ⟨hp, hs⟩

def demand (H : Hasher) (m : SMap) : String → Nat → Nat := fun r x => (points H r (m.cnt r)).count x
def valOf (m : SMap) : String → Option Node := fun r => (m.find r).map (·.1)

/-! `Inv H s m`: the concrete state `s` (sorted key slice, ring map with ordered buckets, node set) is a
representation of the abstract map `m` (repr ↦ value, number of virtual nodes):
  * bucket `x` holds, ordered by repr, the value of every member `r` exactly as many times as `r` has
    virtual nodes hashing to `x`,
  * the key slice is sorted and holds `x` as many times as bucket `x` is long,
  * the node set is the domain of `m`, and no member has more than `replicas` virtual nodes. -/

structure Inv (H : Hasher) (s : CH) (m : SMap) : Prop where
  ring : RingOK s.ring (demand H m) (valOf m)
  keys : KeysOK s.keys s.ring
  nodup : s.nodes.Nodup
  nodes : ∀ r, r ∈ s.nodes ↔ (m.find r).isSome = true
  bound : ∀ r, m.cnt r ≤ s.replicas

theorem Inv.congr {H : Hasher} {s : CH} {m m' : SMap} (h : ∀ r, m.find r = m'.find r) (hi : Inv H s m) :
    Inv H s m' := by
  have hd : demand H m' = demand H m := by
    funext r x; unfold demand; rw [cnt_congr h r]
  have hv : valOf m' = valOf m := by
    funext r; unfold valOf; rw [h r]
  exact ⟨by rw [hd, hv]; exact hi.ring, hi.keys, hi.nodup, fun r => by rw [← h r]; exact hi.nodes r,
    fun r => by rw [← cnt_congr h r]; exact hi.bound r⟩

theorem inv_new (H : Hasher) (replicas : Int) : Inv H (CH.new replicas) [] := by
  refine ⟨⟨?_, ?_, ?_, ?_⟩, ⟨?_, ?_⟩, ?_, ?_, ?_⟩ <;>
    simp [CH.new, WFRing, bucket, demand, SMap.cnt, SMap.find, points]

theorem points_count_le (H : Hasher) (r : String) (c R : Nat) (h : c ≤ R) (y : Nat) :
    (points H r c).count y ≤ (points H r R).count y :=
  List.Sublist.count_le y ((List.range_sublist.mpr h).map _)

theorem remove_replicas (H : Hasher) (s : CH) (n : Node) : (remove H s n).replicas = s.replicas := by
  unfold remove
  split
  · exact (removeLoop_frame n.repr (H.point n.repr) _ s).1
  · rfl

theorem inv_remove (H : Hasher) (s : CH) (m : SMap) (n : Node) (hi : Inv H s m) :
    Inv H (remove H s n) (m.del n.repr) := by
  unfold remove
  by_cases hc : s.nodes.contains n.repr = true
  · simp only [hc, if_true]
    obtain ⟨hw, hk⟩ := removeLoop_keeps n.repr (H.point n.repr) (List.range s.replicas) s hi.ring.wf hi.keys
    obtain ⟨hR, hN⟩ := removeLoop_frame n.repr (H.point n.repr) (List.range s.replicas) s
    -- every virtual node of `n` is among the `s.replicas` labels the loop visits
    have hb := fun y => bucket_removeLoop n.repr (H.point n.repr) (List.range s.replicas) s y
      ((hi.ring.cnt y n.repr).symm ▸ points_count_le H n.repr _ _ (hi.bound n.repr) y)
    refine ⟨⟨hw, fun y => ?_, fun y r' => ?_, fun y a ha => ?_⟩, hk, ?_, fun r => ?_, fun r => ?_⟩
    · rw [hb]; exact (hi.ring.sorted y).sublist List.filter_sublist
    · rw [hb, List.countP_filter]
      show _ = (points H r' ((m.del n.repr).cnt r')).count y
      rw [cnt_del]
      split
      · rename_i e; subst e; simp [points]
      · -- an entry of another repr passes the filter
        rename_i e
        refine Eq.trans (List.countP_congr fun a _ => ?_) (hi.ring.cnt y r')
        simp only [isRepr, Bool.and_eq_true, Bool.not_eq_true', beq_eq_false_iff_ne, beq_iff_eq, and_iff_left_iff_imp]
        exact fun h => h ▸ e
    · rw [hb] at ha
      obtain ⟨ha, hne⟩ := List.mem_filter.mp ha
      unfold valOf
      rw [find_del, if_neg (by simpa [isRepr] using hne)]
      exact hi.ring.val y a ha
    · dsimp only; rw [hN]; exact hi.nodup.erase _
    · dsimp only
      rw [hN, hi.nodup.mem_erase_iff, find_del]
      by_cases h : r = n.repr
      · simp [h]
      · simp [h, hi.nodes r]
    · dsimp only
      rw [hR, cnt_del]
      split
      · exact Nat.zero_le _
      · exact hi.bound r
  · simp only [hc, Bool.false_eq_true, if_false]
    have hnot : ¬ n.repr ∈ s.nodes := by simpa using hc
    have hnone : m.find n.repr = none :=
      Option.not_isSome_iff_eq_none.mp fun h => hnot ((hi.nodes n.repr).mpr h)
    refine Inv.congr ?_ hi
    intro r
    rw [find_del]
    by_cases h : r = n.repr
    · simp [h, hnone]
    · simp [h]

theorem clampReplicas_le (R : Nat) (x : Int) : clampReplicas R x ≤ R := by
  unfold clampReplicas
  split <;> omega

/-- the second half of `addWithReplicas` / `insertPhase`: `c` virtual nodes of a node that is no member -/
theorem inv_addPoints (H : Hasher) (s1 : CH) (m1 : SMap) (n : Node) (c : Nat) (hi : Inv H s1 m1)
    (hnone : m1.find n.repr = none) (hc : c ≤ s1.replicas) :
    Inv H { s1 with nodes := if s1.nodes.contains n.repr then s1.nodes else n.repr :: s1.nodes,
                    keys := sortKeys (s1.keys ++ points H n.repr c),
                    ring := insertLoop n (points H n.repr c) s1.ring } ((n, c) :: m1) := by
  have hcnt : ∀ r, SMap.cnt ((n, c) :: m1) r = if r = n.repr then c else m1.cnt r := by
    intro r; unfold SMap.cnt; rw [find_cons_self]; by_cases h : r = n.repr <;> simp [h]
  have hb := bucket_insertLoop n (points H n.repr c) s1.ring
  have hold : ∀ y a, a ∈ bucket s1.ring y → a.repr ≠ n.repr := fun y a ha e => by
    have h1 := hi.ring.val y a ha
    rw [e] at h1; unfold valOf at h1; rw [hnone] at h1; cases h1
  have hnot : ¬ n.repr ∈ s1.nodes := fun hmem => by simpa [hnone] using (hi.nodes n.repr).mp hmem
  have hcont : s1.nodes.contains n.repr = false := by simpa using hnot
  simp only [hcont, Bool.false_eq_true, if_false]
  refine ⟨⟨wf_insertLoop n _ _ hi.ring.wf, fun y => (hb y).2 (hi.ring.sorted y), fun y r' => ?_, fun y a ha => ?_⟩,
    ⟨sortKeys_sorted _, fun y => ?_⟩, List.nodup_cons.mpr ⟨hnot, hi.nodup⟩, fun r => ?_, fun r => ?_⟩
  · show (bucket (insertLoop n _ s1.ring) y).countP _ = _
    rw [(hb y).1.countP_eq, List.countP_append, List.countP_replicate, hi.ring.cnt]
    unfold demand
    rw [hcnt]
    by_cases h : r' = n.repr
    · subst h; simp [isRepr, cnt_of_find_none hnone, points]
    · simp [isRepr, h, Ne.symm h]
  · unfold valOf
    rw [find_cons_self]
    rcases List.mem_append.mp ((hb y).1.mem_iff.mp ha) with h | h
    · rw [(List.mem_replicate.mp h).2]; simp
    · rw [if_neg (hold y a h)]; exact hi.ring.val y a h
  · show (sortKeys _).count y = (bucket (insertLoop n _ s1.ring) y).length
    rw [count_sortKeys, List.count_append, (hb y).1.length_eq, hi.keys.cnt y]
    simp; omega
  · show r ∈ n.repr :: s1.nodes ↔ _
    rw [find_cons_self, List.mem_cons]
    by_cases h : r = n.repr
    · simp [h]
    · simp [h, hi.nodes r]
  · show SMap.cnt ((n, c) :: m1) r ≤ s1.replicas
    rw [hcnt]
    split
    · exact hc
    · exact hi.bound r

theorem inv_addWithReplicas (H : Hasher) (s : CH) (m : SMap) (n : Node) (replicas : Int) (hi : Inv H s m) :
    Inv H (addWithReplicas H s n replicas) (m.set n (clampReplicas s.replicas replicas)) := by
  have h1 := inv_remove H s m n hi
  have hR := remove_replicas H s n
  have hnone : (m.del n.repr).find n.repr = none := by rw [find_del]; simp
  have := inv_addPoints H (remove H s n) (m.del n.repr) n (clampReplicas (remove H s n).replicas replicas) h1 hnone
    (clampReplicas_le _ _)
  rw [hR] at this
  unfold addWithReplicas SMap.set
  dsimp only
  rw [hR]
  exact this

theorem addWithReplicas_replicas (H : Hasher) (s : CH) (n : Node) (replicas : Int) :
    (addWithReplicas H s n replicas).replicas = s.replicas := by
  unfold addWithReplicas; exact remove_replicas H s n

theorem step_replicas (H : Hasher) (s : CH) (op : Op) : (step H s op).replicas = s.replicas := by
  cases op <;> simp [step, add, addWithWeight, addWithReplicas_replicas, remove_replicas]

theorem inv_step (H : Hasher) (s : CH) (m : SMap) (op : Op) (hi : Inv H s m) :
    Inv H (step H s op) (specStep s.replicas m op) := by
  cases op with
  | add n => exact inv_addWithReplicas H s m n _ hi
  | addR n r => exact inv_addWithReplicas H s m n r hi
  | addW n w => exact inv_addWithReplicas H s m n _ hi
  | remove n => exact inv_remove H s m n hi

theorem inv_foldl (H : Hasher) (ops : List Op) : ∀ (s : CH) (m : SMap), Inv H s m →
    Inv H (ops.foldl (step H) s) (ops.foldl (specStep s.replicas) m) := by
  induction ops with
  | nil => intro s m hi; exact hi
  | cons op rest ih =>
    intro s m hi
    simp only [List.foldl_cons]
    have := ih _ _ (inv_step H s m op hi)
    rw [step_replicas] at this
    exact this

/-- every state reachable from `NewCustomConsistentHash(replicas, h)` by Add / AddWithReplicas /
AddWithWeight / Remove represents the abstract map computed by `specRun`. -/
theorem inv_run (H : Hasher) (replicas : Int) (ops : List Op) :
    Inv H (run H replicas ops) (specRun (CH.new replicas).replicas ops) :=
  inv_foldl H ops _ _ (inv_new H replicas)

theorem run_snoc (H : Hasher) (R0 : Int) (ops : List Op) (op : Op) :
    run H R0 (ops ++ [op]) = step H (run H R0 ops) op := by
  simp [run, List.foldl_append]

theorem run_replicas (H : Hasher) (R0 : Int) (ops : List Op) : (run H R0 ops).replicas = (CH.new R0).replicas :=
  List.foldlRecOn (motive := fun s => s.replicas = (CH.new R0).replicas) ops _ rfl
    fun s h op _ => (step_replicas H s op).trans h

theorem specStep_find (R : Nat) (m : SMap) (op : Op) (r : String) (h : r ≠ op.repr) :
    (specStep R m op).find r = m.find r := by
  cases op <;> simp only [specStep, Op.repr] at h ⊢ <;> first
    | (rw [find_set]; simp [h])
    | (rw [find_del]; simp [h])

/-- the entry at `op.repr` after `op` does not depend on the map before -/
theorem specStep_find_self (R : Nat) (m : SMap) (op : Op) :
    (specStep R m op).find op.repr = (specStep R [] op).find op.repr := by
  cases op <;> simp [specStep, Op.repr, find_set, find_del]

theorem specStep_comm_find (R : Nat) (m : SMap) (op₁ op₂ : Op) (hne : op₁.repr ≠ op₂.repr) (r : String) :
    (specStep R (specStep R m op₁) op₂).find r = (specStep R (specStep R m op₂) op₁).find r := by
  by_cases h2 : r = op₂.repr
  · subst h2
    rw [specStep_find_self, specStep_find _ _ op₁ _ (Ne.symm hne), specStep_find_self R m]
  · rw [specStep_find _ _ op₂ r h2]
    by_cases h1 : r = op₁.repr
    · subst h1; rw [specStep_find_self R m, specStep_find_self R (specStep R m op₂)]
    · rw [specStep_find _ _ op₁ r h1, specStep_find _ _ op₁ r h1, specStep_find _ _ op₂ r h2]

theorem find_foldl_other (R : Nat) (later : List Op) (m : SMap) (r : String) (h : ∀ op ∈ later, op.repr ≠ r) :
    (later.foldl (specStep R) m).find r = m.find r :=
  List.foldlRecOn (motive := fun m' => m'.find r = m.find r) later _ rfl
    fun m' hm op hop => (specStep_find R m' op r fun e => h op hop e.symm).trans hm

/-- the abstract membership after `ops`: repr ↦ (value, number of virtual nodes) -/
def members (R0 : Int) (ops : List Op) : SMap := specRun (CH.new R0).replicas ops

theorem members_append (R0 : Int) (ops later : List Op) :
    members R0 (ops ++ later) = later.foldl (specStep (CH.new R0).replicas) (members R0 ops) := by
  simp [members, specRun, List.foldl_append]

theorem members_snoc (R0 : Int) (ops : List Op) (op : Op) :
    members R0 (ops ++ [op]) = specStep (CH.new R0).replicas (members R0 ops) op :=
  members_append R0 ops [op]

theorem members_find_other (R0 : Int) (ops : List Op) (op : Op) {r : String} (h : r ≠ op.repr) :
    (members R0 (ops ++ [op])).find r = (members R0 ops).find r := by
  rw [members_snoc, specStep_find _ _ _ _ h]

theorem members_find_remove (R0 : Int) (ops : List Op) (n : Node) :
    (members R0 (ops ++ [.remove n])).find n.repr = none := by
  rw [members_snoc]; simp [specStep, find_del]

/-- `op` (re-)adds node `n`: Add, AddWithReplicas or AddWithWeight -/
def Op.adds (op : Op) (n : Node) : Prop :=
  op = .add n ∨ (∃ r, op = .addR n r) ∨ (∃ w, op = .addW n w)

theorem adds_repr {op : Op} {n : Node} (h : op.adds n) : op.repr = n.repr := by
  rcases h with rfl | ⟨_, rfl⟩ | ⟨_, rfl⟩ <;> rfl

theorem members_find_adds (R0 : Int) (ops : List Op) {op : Op} {n : Node} (h : op.adds n) :
    ∃ c, (members R0 (ops ++ [op])).find n.repr = some (n, c) := by
  have key : ∀ (m : SMap) c, (m.set n c).find n.repr = some (n, c) := fun m c => by rw [find_set]; simp
  rw [members_snoc]
  rcases h with rfl | ⟨_, rfl⟩ | ⟨_, rfl⟩ <;> exact ⟨_, key _ _⟩

end GoZero.C15
