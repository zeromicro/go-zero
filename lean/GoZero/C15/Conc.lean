/-
C15 — interleaving model of ConsistentHash under its RWMutex: ONE writer goroutine that runs an arbitrary
program of Add / AddWithReplicas / AddWithWeight / Remove, and ANY NUMBER of reader goroutines calling Get
(thread ids are naturals; the per-thread state is a function `Tid → RPc`).

Granularity (the statement skeletons tied in Tie.lean):
  Remove            repr(node) ; Lock ; body ; Unlock(deferred)
  AddWithReplicas   Remove(node)  — a complete critical section of its own —
                    ; clamp ; repr(node) ; Lock ; addNode, insertion loop, sort ; Unlock(deferred)
  Get               RLock ; `len(h.ring)==0` ; hash, search, bucket, pick ; RUnlock(deferred)
The writer takes the lock only when no reader holds it and the lock is free; a reader takes it only when no
writer holds it.  Between the two critical sections of AddWithReplicas the lock is FREE: readers may run and
see the ring without the node (`remove H s n`).  Get is modelled in two reads (`isEmpty`, then the rest) so
that the proof has to use mutual exclusion: without it the second read could see `keys = []` and panic.

Main result (`good_exec`, field `log`): in every schedule every returned Get is the sequential `get` on
  * the state after a prefix `ops.take j` of the writer's program, or
  * the intermediate state `remove H (run (ops.take j)) n` of an adding operation `ops[j]`,
with `j` inside the window [operations completed when the Get began, operations begun when it returned].
-/
import GoZero.C15.Invariant
namespace GoZero.C15.Conc
open GoZero.C15

abbrev Tid := Nat

/-- where the writer goroutine stands -/
inductive WPc where
  | idle
  | wantRemove (n : Node) (cont : Option Int)   -- inside Remove, before `h.lock.Lock()`; `some r`: called by AddWithReplicas(n, r)
  | holdRemove (n : Node) (cont : Option Int)   -- holds the write lock
  | wantInsert (n : Node) (replicas : Int)      -- Remove returned; before the second `h.lock.Lock()`
  | holdInsert (n : Node) (replicas : Int)
  deriving DecidableEq

/-- where a reader goroutine stands inside `Get(k)`; `lo` = writer operations completed when it took the lock -/
inductive RPc where
  | idle
  | locked (k : Node) (lo : Nat)
  | checked (k : Node) (lo : Nat) (empty : Bool)
  | done (k : Node) (lo : Nat) (o : Outcome)
  deriving DecidableEq

/-- a Get that returned: thread, key, result, and its window -/
structure Obs where
  t : Tid
  k : Node
  o : Outcome
  lo : Nat
  hi : Nat

structure St where
  s : CH
  wlock : Bool
  holders : List Tid
  wpc : WPc
  pos : Nat
  rpc : Tid → RPc
  log : List Obs

inductive Act where
  | w                          -- the writer's next step
  | rget (t : Tid) (k : Node)  -- reader t calls Get(k)
  | r (t : Tid)                -- reader t's next step

/-- node and continuation of an operation: Add passes `h.replicas`, AddWithWeight the weight formula -/
def opSplit (R : Nat) : Op → Node × Option Int
  | .add n => (n, some (R : Int))
  | .addR n r => (n, some r)
  | .addW n w => (n, some (weightReplicas R w))
  | .remove n => (n, none)

def upd (f : Tid → RPc) (t : Tid) (v : RPc) : Tid → RPc := fun t' => if t' = t then v else f t'

/-- operations begun by the writer -/
def started (st : St) : Nat := if st.wpc = .idle then st.pos else st.pos + 1

/-- `atomic = false`: the code as it is (AddWithReplicas = Remove's critical section, then a second one);
`atomic = true`: after fixes/C15-add-single-critical-section.patch (removal and insertion under one lock). -/
def step (H : Hasher) (atomic : Bool) (ops : List Op) (st : St) : Act → Option St
  | .w =>
    match st.wpc with
    | .idle =>
      match ops[st.pos]? with
      | none => none
      | some op => some { st with wpc := .wantRemove (opSplit st.s.replicas op).1 (opSplit st.s.replicas op).2 }
    | .wantRemove n c =>
      if st.wlock = false ∧ st.holders = [] then some { st with wlock := true, wpc := .holdRemove n c } else none
    | .holdRemove n c =>
      match c with
      | none => some { st with s := remove H st.s n, wlock := false, wpc := .idle, pos := st.pos + 1 }
      | some r =>
        if atomic then
          some { st with s := insertPhase H (remove H st.s n) n r, wlock := false, wpc := .idle, pos := st.pos + 1 }
        else some { st with s := remove H st.s n, wlock := false, wpc := .wantInsert n r }
    | .wantInsert n r =>
      if st.wlock = false ∧ st.holders = [] then some { st with wlock := true, wpc := .holdInsert n r } else none
    | .holdInsert n r =>
      some { st with s := insertPhase H st.s n r, wlock := false, wpc := .idle, pos := st.pos + 1 }
  | .rget t k =>
    match st.rpc t with
    | .idle =>
      if st.wlock = false then
        some { st with holders := t :: st.holders, rpc := upd st.rpc t (.locked k st.pos) }
      else none
    | _ => none
  | .r t =>
    match st.rpc t with
    | .idle => none
    | .locked k lo => some { st with rpc := upd st.rpc t (.checked k lo st.s.ring.isEmpty) }
    | .checked k lo b =>
      some { st with rpc := upd st.rpc t (.done k lo (if b then .none else getRest H st.s k)) }
    | .done k lo o =>
      some { st with rpc := upd st.rpc t .idle, holders := st.holders.erase t,
                     log := ⟨t, k, o, lo, started st⟩ :: st.log }

def init (R0 : Int) : St :=
  { s := CH.new R0, wlock := false, holders := [], wpc := .idle, pos := 0, rpc := fun _ => .idle, log := [] }

/-- a schedule: disabled actions are skipped (a blocked goroutine does not move) -/
def exec (H : Hasher) (atomic : Bool) (ops : List Op) (st : St) (sched : List Act) : St :=
  sched.foldl (fun st a => (step H atomic ops st a).getD st) st

def Explained (H : Hasher) (R0 : Int) (ops : List Op) (e : Obs) : Prop :=
  ∃ j, e.lo ≤ j ∧ j ≤ e.hi ∧ j ≤ ops.length ∧
    (e.o = get H (run H R0 (ops.take j)) e.k ∨
      (j < e.hi ∧ ∃ op n r, ops[j]? = some op ∧ opSplit (CH.new R0).replicas op = (n, some r) ∧
        e.o = get H (remove H (run H R0 (ops.take j)) n) e.k))

/-- the shared ring, as a function of the writer's position -/
def ViewOK (H : Hasher) (R0 : Int) (ops : List Op) (st : St) : Prop :=
  match st.wpc with
  | .idle => st.s = run H R0 (ops.take st.pos)
  | .wantRemove n c | .holdRemove n c =>
    st.s = run H R0 (ops.take st.pos) ∧ ∃ op, ops[st.pos]? = some op ∧ opSplit (CH.new R0).replicas op = (n, c)
  | .wantInsert n r | .holdInsert n r =>
    st.s = remove H (run H R0 (ops.take st.pos)) n ∧
      ∃ op, ops[st.pos]? = some op ∧ opSplit (CH.new R0).replicas op = (n, some r)

def holding : WPc → Bool
  | .holdRemove _ _ => true
  | .holdInsert _ _ => true
  | _ => false

def ReaderOK (H : Hasher) (st : St) : RPc → Prop
  | .idle => True
  | .locked _ lo => lo ≤ st.pos
  | .checked _ lo b => lo ≤ st.pos ∧ b = st.s.ring.isEmpty
  | .done k lo o => lo ≤ st.pos ∧ o = get H st.s k

structure Good (H : Hasher) (R0 : Int) (ops : List Op) (st : St) : Prop where
  pos : st.pos ≤ ops.length
  view : ViewOK H R0 ops st
  excl : st.wlock = true → st.holders = []
  hold : holding st.wpc = true → st.wlock = true
  free : holding st.wpc = false → st.wlock = false
  mem : ∀ t, st.rpc t ≠ .idle → t ∈ st.holders
  reader : ∀ t, ReaderOK H st (st.rpc t)
  log : ∀ e ∈ st.log, Explained H R0 ops e

/-! With AddWithReplicas as one critical section (`atomic = true`) the writer is never between two critical sections
(`noMid`), so there is no intermediate state and every Get is linearizable (`Linear`). -/

def Linear (H : Hasher) (R0 : Int) (ops : List Op) (e : Obs) : Prop :=
  ∃ j, e.lo ≤ j ∧ j ≤ e.hi ∧ e.o = get H (run H R0 (ops.take j)) e.k

def noMid : WPc → Bool
  | .wantInsert _ _ => false
  | .holdInsert _ _ => false
  | _ => true

structure GoodAtomic (H : Hasher) (R0 : Int) (ops : List Op) (st : St) : Prop where
  good : Good H R0 ops st
  nomid : noMid st.wpc = true
  lin : ∀ e ∈ st.log, Linear H R0 ops e

theorem good_init (H : Hasher) (R0 : Int) (ops : List Op) : Good H R0 ops (init R0) := by
  refine ⟨Nat.zero_le _, ?_, ?_, ?_, ?_, ?_, ?_, ?_⟩ <;> simp [init, ViewOK, run, holding, ReaderOK]

theorem opSplit_repr (R : Nat) (op : Op) : (opSplit R op).1.repr = op.repr := by
  cases op <;> rfl

theorem step_eq_split (H : Hasher) (s : CH) (op : Op) :
    GoZero.C15.step H s op = match opSplit s.replicas op with
      | (n, none) => remove H s n
      | (n, some r) => insertPhase H (remove H s n) n r := by
  cases op <;> rfl

theorem run_done (H : Hasher) (R0 : Int) (ops : List Op) {j : Nat} {op : Op} {n : Node} {c : Option Int}
    (hop : ops[j]? = some op) (hsplit : opSplit (CH.new R0).replicas op = (n, c)) :
    run H R0 (ops.take (j + 1)) = match (motive := Option Int → CH) c with
      | none => remove H (run H R0 (ops.take j)) n
      | some r => insertPhase H (remove H (run H R0 (ops.take j)) n) n r := by
  rw [List.take_add_one, hop, Option.toList_some, run_snoc, step_eq_split, run_replicas, hsplit]
  cases c <;> rfl

/-- the writer's steps that change the ring happen when no reader is inside Get -/
theorem all_idle {H : Hasher} {R0 : Int} {ops : List Op} {st : St} (g : Good H R0 ops st)
    (hh : holding st.wpc = true) (t : Tid) : st.rpc t = .idle := by
  by_cases h : st.rpc t = .idle
  · exact h
  · have := g.mem t h
    rw [g.excl (g.hold hh)] at this
    cases this

theorem readerOK_congr {H : Hasher} {st st' : St} (hs : st'.s = st.s) (hp : st'.pos = st.pos) (p : RPc)
    (h : ReaderOK H st p) : ReaderOK H st' p := by
  cases p <;> simp only [ReaderOK, hs, hp] at h ⊢ <;> exact h

/-- **a writer step** changes ring, lock bit, writer pc and position only.  What is left to show: position, view, the
lock bit, that the lock is only taken when nobody holds it, and — unless the step only moves the writer's pc — that the
writer was inside a critical section (so every reader is idle). -/
theorem Good.writer {H : Hasher} {R0 : Int} {ops : List Op} {st : St} (g : Good H R0 ops st)
    {s' : CH} {wl' : Bool} {wpc' : WPc} {pos' : Nat}
    (pos : pos' ≤ ops.length) (view : ViewOK H R0 ops { st with s := s', wlock := wl', wpc := wpc', pos := pos' })
    (lock : wl' = holding wpc') (excl : wl' = true → st.holders = [])
    (reader : (s' = st.s ∧ pos' = st.pos) ∨ holding st.wpc = true) :
    Good H R0 ops { st with s := s', wlock := wl', wpc := wpc', pos := pos' } := by
  refine ⟨pos, view, excl, fun h => lock.trans h, fun h => lock.trans h, g.mem, fun t => ?_, g.log⟩
  rcases reader with ⟨hs, hp⟩ | hw
  · exact readerOK_congr hs hp _ (g.reader t)
  · simp only [all_idle g hw t, ReaderOK]

theorem Good.reader_step {H : Hasher} {R0 : Int} {ops : List Op} {st : St} (g : Good H R0 ops st) (t : Tid) (v : RPc)
    {hs' : List Tid} {l' : List Obs} (hv : ReaderOK H st v) (excl : st.wlock = true → hs' = [])
    (mem : (v ≠ .idle → t ∈ hs') ∧ ∀ t', t' ≠ t → t' ∈ st.holders → t' ∈ hs')
    (log : ∀ e ∈ l', Explained H R0 ops e) :
    Good H R0 ops { st with holders := hs', rpc := upd st.rpc t v, log := l' } := by
  refine ⟨g.pos, g.view, excl, g.hold, g.free, fun t' ht' => ?_, fun t' => ?_, log⟩
  · simp only [upd] at ht'
    by_cases e : t' = t
    · rw [if_pos e] at ht'; exact e ▸ mem.1 ht'
    · rw [if_neg e] at ht'; exact mem.2 t' e (g.mem t' ht')
  · simp only [upd]
    split
    · exact readerOK_congr rfl rfl _ hv
    · exact readerOK_congr rfl rfl _ (g.reader t')

/-- the entry a returning Get writes into the log is explained by the writer's current position — by a prefix of
the program unless the writer stands between the two critical sections of an adding operation -/
theorem explain_new {H : Hasher} {R0 : Int} {ops : List Op} {st : St} (g : Good H R0 ops st) (t : Tid) (k : Node)
    (lo : Nat) (hlo : lo ≤ st.pos) :
    Explained H R0 ops ⟨t, k, get H st.s k, lo, started st⟩ ∧
      (noMid st.wpc = true → Linear H R0 ops ⟨t, k, get H st.s k, lo, started st⟩) := by
  have hv := g.view
  have hle : st.pos ≤ started st := by unfold started; split <;> omega
  have pre : ∀ {P : Prop}, st.s = run H R0 (ops.take st.pos) →
      Explained H R0 ops ⟨t, k, get H st.s k, lo, started st⟩ ∧
        (P → Linear H R0 ops ⟨t, k, get H st.s k, lo, started st⟩) :=
    fun e => ⟨⟨st.pos, hlo, hle, g.pos, Or.inl (by rw [e])⟩, fun _ => ⟨st.pos, hlo, hle, by rw [e]⟩⟩
  unfold ViewOK at hv
  cases hw : st.wpc with
  | idle => rw [hw] at hv; exact pre hv
  | wantRemove n c | holdRemove n c => rw [hw] at hv; exact pre hv.1
  | wantInsert n r | holdInsert n r =>
    rw [hw] at hv
    obtain ⟨hs, op, hop, hsplit⟩ := hv
    refine ⟨⟨st.pos, hlo, hle, g.pos, Or.inr ⟨?_, op, n, r, hop, hsplit, by rw [hs]⟩⟩, fun h => nomatch h⟩
    simp [started, hw]

/-- one step: the invariant is kept; the one-critical-section form never puts the writer between two critical
sections; the log changes only by the entry of a Get that returns -/
theorem good_step_log (H : Hasher) (atomic : Bool) (R0 : Int) (ops : List Op) (st st' : St) (a : Act)
    (g : Good H R0 ops st) (h : step H atomic ops st a = some st') :
    Good H R0 ops st' ∧ (atomic = true → noMid st.wpc = true → noMid st'.wpc = true) ∧
      (st'.log = st.log ∨ ∃ t k lo o, st.rpc t = .done k lo o ∧ st'.log = ⟨t, k, o, lo, started st⟩ :: st.log) := by
  cases a with
  | w =>
    simp only [step] at h
    have hv := g.view
    cases hw : st.wpc with
    | idle =>
      rw [hw] at h
      simp only [ViewOK, hw] at hv
      cases hop : ops[st.pos]? with
      | none => rw [hop] at h; cases h
      | some op =>
        rw [hop] at h
        cases h
        refine ⟨g.writer g.pos ?_ (g.free (by rw [hw]; rfl)) g.excl (Or.inl ⟨rfl, rfl⟩),
          fun _ _ => rfl, Or.inl rfl⟩
        simp only [ViewOK]
        exact ⟨hv, op, hop, by rw [hv, run_replicas]⟩
    | wantRemove n c | wantInsert n c =>
      -- the lock is taken only when it is free and nobody reads; ring and position stay
      rw [hw] at h
      simp only [ViewOK, hw] at hv
      simp only at h
      split at h
      · rename_i hc
        cases h
        exact ⟨g.writer g.pos (by simp only [ViewOK]; exact hv) rfl (fun _ => hc.2) (Or.inl ⟨rfl, rfl⟩),
          fun _ hn => hn, Or.inl rfl⟩
      · cases h
    | holdRemove n c =>
      rw [hw] at h
      simp only [ViewOK, hw] at hv
      obtain ⟨hs, op, hop, hsplit⟩ := hv
      have hdone := run_done H R0 ops hop hsplit
      have hin : holding st.wpc = true := by rw [hw]; rfl
      cases c with
      | none =>
        cases h
        exact ⟨g.writer (List.getElem?_eq_some_iff.mp hop).1 (by simp only [ViewOK]; rw [hdone, hs]) rfl
          (fun h => nomatch h) (Or.inr hin), fun _ _ => rfl, Or.inl rfl⟩
      | some r =>
        cases atomic with
        | true =>
          cases h
          exact ⟨g.writer (List.getElem?_eq_some_iff.mp hop).1 (by simp only [ViewOK]; rw [hdone, hs]) rfl
            (fun h => nomatch h) (Or.inr hin), fun _ _ => rfl, Or.inl rfl⟩
        | false =>
          cases h
          exact ⟨g.writer g.pos (by simp only [ViewOK]; exact ⟨by rw [hs], op, hop, hsplit⟩) rfl
            (fun h => nomatch h) (Or.inr hin), fun h => (by cases h), Or.inl rfl⟩
    | holdInsert n r =>
      rw [hw] at h
      simp only [ViewOK, hw] at hv
      obtain ⟨hs, op, hop, hsplit⟩ := hv
      cases h
      refine ⟨g.writer (List.getElem?_eq_some_iff.mp hop).1 ?_ rfl (fun h => nomatch h) (Or.inr (by rw [hw]; rfl)),
        fun _ _ => rfl, Or.inl rfl⟩
      simp only [ViewOK]
      rw [run_done H R0 ops hop hsplit, hs]
  | rget t k =>
    simp only [step] at h
    split at h
    · split at h
      · rename_i hc
        cases h
        exact ⟨g.reader_step t (.locked k st.pos) (Nat.le_refl _)
          (fun hl => by rw [hl] at hc; cases hc)
          ⟨fun _ => List.mem_cons_self, fun t' _ h' => List.mem_cons_of_mem _ h'⟩ g.log, fun _ hn => hn, Or.inl rfl⟩
      · cases h
    · cases h
  | r t =>
    simp only [step] at h
    have hrd := g.reader t
    cases hr : st.rpc t with
    | idle => rw [hr] at h; cases h
    | locked k lo =>
      rw [hr] at h hrd
      cases h
      exact ⟨g.reader_step t _ ⟨hrd, rfl⟩ g.excl
        ⟨fun _ => g.mem t (by rw [hr]; simp), fun _ _ h' => h'⟩ g.log, fun _ hn => hn, Or.inl rfl⟩
    | checked k lo b =>
      rw [hr] at h hrd
      cases h
      -- both reads of Get see one state: the emptiness test read earlier is the one of the ring read now
      exact ⟨g.reader_step t _ ⟨hrd.1, by rw [hrd.2]; rfl⟩ g.excl
        ⟨fun _ => g.mem t (by rw [hr]; simp), fun _ _ h' => h'⟩ g.log, fun _ hn => hn, Or.inl rfl⟩
    | done k lo o =>
      rw [hr] at h hrd
      cases h
      refine ⟨g.reader_step t .idle trivial (fun hl => by simp [g.excl hl])
        ⟨fun h => absurd rfl h, fun t' e h' => (List.mem_erase_of_ne e).mpr h'⟩ ?_, fun _ hn => hn,
        Or.inr ⟨t, k, lo, o, hr, rfl⟩⟩
      exact List.forall_mem_cons.mpr ⟨hrd.2 ▸ (explain_new g t k lo hrd.1).1, g.log⟩

theorem exec_keeps {H : Hasher} {atomic : Bool} {ops : List Op} (P : St → Prop)
    (hstep : ∀ st st' a, P st → step H atomic ops st a = some st' → P st') (sched : List Act) :
    ∀ st, P st → P (exec H atomic ops st sched) := fun st g =>
  List.foldlRecOn (motive := P) sched _ g fun st g a _ => by
    cases h : step H atomic ops st a with
    | none => simpa using g
    | some st' => simpa using hstep st st' a g h

theorem good_exec (H : Hasher) (atomic : Bool) (R0 : Int) (ops : List Op) (sched : List Act) :
    ∀ st, Good H R0 ops st → Good H R0 ops (exec H atomic ops st sched) :=
  exec_keeps _ (fun st st' a g h => (good_step_log H atomic R0 ops st st' a g h).1) sched

theorem goodAtomic_step (H : Hasher) (R0 : Int) (ops : List Op) (st st' : St) (a : Act)
    (g : GoodAtomic H R0 ops st) (h : step H true ops st a = some st') : GoodAtomic H R0 ops st' := by
  obtain ⟨g', hn, hlog⟩ := good_step_log H true R0 ops st st' a g.good h
  refine ⟨g', hn rfl g.nomid, ?_⟩
  rcases hlog with hl | ⟨t, k, lo, o, hr, hl⟩
  · rw [hl]; exact g.lin
  · have hrd := g.good.reader t
    rw [hr] at hrd
    rw [hl]
    exact List.forall_mem_cons.mpr ⟨hrd.2 ▸ (explain_new g.good t k lo hrd.1).2 g.nomid, g.lin⟩

theorem goodAtomic_exec (H : Hasher) (R0 : Int) (ops : List Op) (sched : List Act) :
    ∀ st, GoodAtomic H R0 ops st → GoodAtomic H R0 ops (exec H true ops st sched) :=
  exec_keeps _ (goodAtomic_step H R0 ops) sched

end GoZero.C15.Conc
