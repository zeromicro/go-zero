/-
C15 — the ring: property theorems (statements, short proofs from the lemmas, witnesses, non-vacuity examples).

Setting.  `H : Hasher` is an arbitrary hash function (the three ways the code applies it), `R0` the
argument of `NewCustomConsistentHash`, `ops` an arbitrary sequence of Add / AddWithReplicas /
AddWithWeight / Remove over arbitrary values, replica counts and weights (negative ones included).
  `run H R0 ops`                       the state of the code after `ops`
  `members R0 ops`                     the abstract map  repr ↦ (value, virtual nodes)  after `ops`
Nodes are identified by their `lang.Repr` string, as in the code.  ASSUMED: `String()` of a value returns the same text at
every call — the model stores one `repr` per node, the code evaluates `repr(x)` again on stored nodes (`removeRingNode`,
`insertRingNode`).
-/
import GoZero.C15.Monitor
import GoZero.C15.Pinned
namespace GoZero.C15

/-- every reachable state represents `members` (sorted keys, ordered buckets, exact multiplicities). -/
theorem reachable_represents (H : Hasher) (R0 : Int) (ops : List Op) :
    Inv H (run H R0 ops) (members R0 ops) := inv_run H R0 ops

/-- **Get returns only current members**: a returned node is the value stored for its repr and owns at
least one virtual node. -/
theorem get_member_only (H : Hasher) (R0 : Int) (ops : List Op) (k n : Node)
    (h : get H (run H R0 ops) k = .node n) :
    ∃ c, (members R0 ops).find n.repr = some (n, c) ∧ 0 < c :=
  get_member (reachable_represents H R0 ops) k n h

/-- **none exactly when the ring has no virtual node** (no member, or only members added with a
non-positive replica count / weight). -/
theorem get_none_iff_no_virtual_nodes (H : Hasher) (R0 : Int) (ops : List Op) (k : Node) :
    get H (run H R0 ops) k = .none ↔ ∀ r, (members R0 ops).cnt r = 0 :=
  get_none_iff (reachable_represents H R0 ops) k

/-- **Get never panics** (no division by zero in `% len(h.keys)`) on a reachable state. -/
theorem get_never_panics_reachable (H : Hasher) (R0 : Int) (ops : List Op) (k : Node) :
    get H (run H R0 ops) k ≠ .panic :=
  get_never_panics (reachable_represents H R0 ops) k

/-- an empty ring answers `none` (`nil, false`), whatever the key. -/
theorem empty_none (H : Hasher) (R0 : Int) (k : Node) : get H (run H R0 []) k = .none := by
  simp [get, run, CH.new]

/-- **a removed node is never returned — until it is added again**: after `Remove(n)`, however many operations on
OTHER nodes follow (adds, re-weights, removes), no `Get` returns a value with `n`'s repr. -/
theorem removed_never_returned_until_readded (H : Hasher) (R0 : Int) (ops later : List Op) (n k v : Node)
    (hl : ∀ op ∈ later, op.repr ≠ n.repr)
    (h : get H (run H R0 (ops ++ [.remove n] ++ later)) k = .node v) : v.repr ≠ n.repr := by
  obtain ⟨c, hf, _⟩ := get_member_only H R0 _ k v h
  intro e
  rw [members_append, e, find_foldl_other _ later _ n.repr hl, members_find_remove] at hf
  cases hf

/-- **a removed node is never returned**, whatever values share its repr: the case `later = []`. -/
theorem removed_never_returned (H : Hasher) (R0 : Int) (ops : List Op) (n k v : Node)
    (h : get H (run H R0 (ops ++ [.remove n])) k = .node v) : v.repr ≠ n.repr :=
  removed_never_returned_until_readded H R0 ops [] n k v (fun _ h => nomatch h) (by rw [List.append_nil]; exact h)

/-- **the state is a function of the membership**: two histories (same constructor argument, same
hash) that end in the same map  repr ↦ (value, virtual nodes)  end with the same key slice and the same
bucket, in the same order, at every hash value. -/
theorem state_history_independent (H : Hasher) (R0 : Int) (ops₁ ops₂ : List Op)
    (h : ∀ r, (members R0 ops₁).find r = (members R0 ops₂).find r) :
    (run H R0 ops₁).keys = (run H R0 ops₂).keys ∧
      ∀ x, bucket (run H R0 ops₁).ring x = bucket (run H R0 ops₂).ring x :=
  inv_unique ((reachable_represents H R0 ops₁).congr h) (reachable_represents H R0 ops₂)

/-- **history independence of lookups**: the assignment of keys to nodes depends only on the current
set of nodes and their replica counts, not on the order of adds and removes. No hypothesis on the
hash function: it holds in the presence of collisions too. -/
theorem history_independent (H : Hasher) (R0 : Int) (ops₁ ops₂ : List Op)
    (h : ∀ r, (members R0 ops₁).find r = (members R0 ops₂).find r) (k : Node) :
    get H (run H R0 ops₁) k = get H (run H R0 ops₂) k :=
  get_unique ((reachable_represents H R0 ops₁).congr h) (reachable_represents H R0 ops₂) k

/-- in particular two histories with literally the same membership list -/
theorem get_eq_of_members_eq (H : Hasher) (R0 : Int) (ops₁ ops₂ : List Op) (h : members R0 ops₁ = members R0 ops₂)
    (k : Node) : get H (run H R0 ops₁) k = get H (run H R0 ops₂) k :=
  history_independent H R0 ops₁ ops₂ (fun _ => by rw [h]) k

set_option maxRecDepth 100000 in
example : get Pinned.W (run Pinned.W 0 ([.addR Pinned.n 3, .addR Pinned.n1 2] ++ [.remove Pinned.n] ++ [.addR Pinned.x 4, .addW Pinned.n1 1]))
    ⟨"s", "key0"⟩ = .node Pinned.x :=
  -- the membership is that of a ring built from `x` and `n1` alone; there the key goes to `x`
  (get_eq_of_members_eq Pinned.W 0 _ [.addR Pinned.x 4, .addW Pinned.n1 1] (by decide) _).trans (by decide +kernel)

/-- instance: operations on different nodes commute. -/
theorem ops_on_different_nodes_commute (H : Hasher) (R0 : Int) (ops : List Op) (op₁ op₂ : Op)
    (hne : op₁.repr ≠ op₂.repr) (k : Node) :
    get H (run H R0 (ops ++ [op₁, op₂])) k = get H (run H R0 (ops ++ [op₂, op₁])) k := by
  apply history_independent
  intro r
  rw [members_append, members_append]
  exact specStep_comm_find _ _ op₁ op₂ hne r

/-- two virtual nodes of the node with repr `r` (among its first `c`) share a hash -/
def SelfCollides (H : Hasher) (r : String) (c : Nat) : Prop := ∃ i j, i < j ∧ j < c ∧ H.point r i = H.point r j

/-- **representation with multiplicities** (every hash function, self-colliding ones included): a hash slot lists a node
once PER virtual node it has there, and `keys` holds the hash once per listed entry -/
theorem self_collision_multiplicity (H : Hasher) (R0 : Int) (ops : List Op) (x : Nat) (r : String) :
    (bucket (run H R0 ops).ring x).countP (isRepr r) = (points H r ((members R0 ops).cnt r)).count x ∧
    (run H R0 ops).keys.count x = (bucket (run H R0 ops).ring x).length :=
  ⟨(reachable_represents H R0 ops).ring.cnt x r, (reachable_represents H R0 ops).keys.cnt x⟩

/-- **Remove drops ALL virtual nodes**, also those behind a self-collision and whatever the node's replica count was:
no slot lists the node afterwards -/
theorem remove_drops_every_virtual_node (H : Hasher) (R0 : Int) (ops : List Op) (n : Node) (x : Nat) :
    (bucket (run H R0 (ops ++ [.remove n])).ring x).countP (isRepr n.repr) = 0 := by
  rw [(self_collision_multiplicity H R0 _ x n.repr).1, cnt_of_find_none (members_find_remove R0 ops n), points_zero]
  rfl

/-- history independence needs no assumption on the hash: in particular it holds when nodes collide with themselves -/
theorem history_independent_with_self_collisions (H : Hasher) (R0 : Int) (ops₁ ops₂ : List Op) (r : String) (c : Nat)
    (_ : SelfCollides H r c)
    (h : ∀ r, (members R0 ops₁).find r = (members R0 ops₂).find r) (k : Node) :
    get H (run H R0 ops₁) k = get H (run H R0 ops₂) k := history_independent H R0 ops₁ ops₂ h k

/-- a hash under which EVERY virtual node lands on slot 7 -/
def constHash : Hasher := Hasher.ofFunc (fun _ => 7)

theorem constHash_self_collides (r : String) : SelfCollides constHash r 2 := ⟨0, 1, by omega, by omega, rfl⟩

set_option maxRecDepth 100000 in
/-- non-vacuity with the colliding hash: 3 + 2 virtual nodes in one slot, listed 3 and 2 times, 5 key entries; after
`Remove` nothing of the node is left and the other node answers; two orders of the same membership agree -/
example :
    (bucket (run constHash 0 [.addR Pinned.n 3, .addR Pinned.x 2]).ring 7).countP (isRepr "n") = 3 ∧
    (run constHash 0 [.addR Pinned.n 3, .addR Pinned.x 2]).keys = [7, 7, 7, 7, 7] ∧
    (bucket (run constHash 0 [.addR Pinned.n 3, .addR Pinned.x 2, .remove Pinned.n]).ring 7).countP (isRepr "n") = 0 ∧
    get constHash (run constHash 0 [.addR Pinned.n 3, .addR Pinned.x 2, .remove Pinned.n]) ⟨"s", "k"⟩ = .node Pinned.x ∧
    get constHash (run constHash 0 [.addR Pinned.n 3, .addR Pinned.x 2]) ⟨"s", "k"⟩
      = get constHash (run constHash 0 [.addR Pinned.x 2, .addR Pinned.n 5, .addR Pinned.n 3]) ⟨"s", "k"⟩ := by decide +kernel

/-! ### minimal disruption

What the proofs need is only that the virtual node serving THIS key — before or after the operation — belongs to one
node (`LandsAlone`).  `NoCollision` (NO two virtual nodes in play share a hash value) gives that for every key, so the
theorems under `NoCollision` are instances; all other keys of a ring with collisions (e.g. the label coincidence
"n"+"10" = "n1"+"0" under every hash) obey minimal disruption too.  Without it the conclusion can fail: in
`disruption_needs_no_collision` the key lands on shared virtual nodes before and after, and its answer moves between two
nodes neither of which is the one operated on. -/

/-- the virtual node that serves `k` is owned by at most one node, before or after `op` -/
def LandsAlone (H : Hasher) (R0 : Int) (ops : List Op) (op : Op) (k : Node) : Prop :=
  (landing H (run H R0 ops) k).length ≤ 1 ∨ (landing H (run H R0 (ops ++ [op])) k).length ≤ 1

/-- the global hypothesis on ONE side implies the local one (the example with "n"+"10" = "n1"+"0" below has the local
one without the global one) -/
theorem landsAlone_of_noCollision (H : Hasher) (R0 : Int) (ops : List Op) (op : Op) (k : Node)
    (hnc : NoCollision H (members R0 ops)) : LandsAlone H R0 ops op k :=
  Or.inl (bucket_le_one (reachable_represents H R0 ops) hnc _)

/-- one operation, all three cases at once, local hypothesis -/
theorem op_moves_only_to_or_from_local (H : Hasher) (R0 : Int) (ops : List Op) (op : Op) (k : Node)
    (hloc : LandsAlone H R0 ops op k) :
    get H (run H R0 (ops ++ [op])) k = get H (run H R0 ops) k
    ∨ (∃ v, get H (run H R0 ops) k = .node v ∧ v.repr = op.repr)
    ∨ (∃ v, get H (run H R0 (ops ++ [op])) k = .node v ∧ v.repr = op.repr) :=
  step_moves_only (reachable_represents H R0 ops) (reachable_represents H R0 (ops ++ [op])) op.repr
    (fun _ hr' => (members_find_other R0 ops op hr').symm) k hloc

/-- **re-adding a node with a different replica count or weight only moves keys to or from that node** — local -/
theorem reweight_moves_only_to_or_from_local (H : Hasher) (R0 : Int) (ops : List Op) (op : Op) (n : Node) (hop : op.adds n)
    (k : Node) (hloc : LandsAlone H R0 ops op k) :
    get H (run H R0 (ops ++ [op])) k = get H (run H R0 ops) k
    ∨ (∃ v, get H (run H R0 ops) k = .node v ∧ v.repr = n.repr)
    ∨ get H (run H R0 (ops ++ [op])) k = .node n := by
  rcases op_moves_only_to_or_from_local H R0 ops op k hloc with h | ⟨v, hv, hr⟩ | ⟨v, hv, hr⟩
  · exact Or.inl h
  · exact Or.inr (Or.inl ⟨v, hv, by rw [hr, adds_repr hop]⟩)
  · -- the entry of the repr just (re-)added holds `n` itself, and the answer `v` is the value of that entry
    obtain ⟨c, hf, _⟩ := get_member_only H R0 _ k v hv
    obtain ⟨c', hf'⟩ := members_find_adds R0 ops hop
    rw [hr, adds_repr hop, hf'] at hf
    cases hf
    exact Or.inr (Or.inr hv)

/-- **adding a new node changes the assignment only of keys that move to it** — for every key served by an unshared
virtual node -/
theorem add_moves_only_to_new_local (H : Hasher) (R0 : Int) (ops : List Op) (op : Op) (n : Node) (hop : op.adds n)
    (hnew : (members R0 ops).find n.repr = none) (k : Node) (hloc : LandsAlone H R0 ops op k) :
    get H (run H R0 (ops ++ [op])) k = get H (run H R0 ops) k ∨ get H (run H R0 (ops ++ [op])) k = .node n := by
  rcases reweight_moves_only_to_or_from_local H R0 ops op n hop k hloc with h | ⟨v, hv, hr⟩ | h
  · exact Or.inl h
  · obtain ⟨c, hf, _⟩ := get_member_only H R0 ops k v hv
    rw [hr, hnew] at hf
    cases hf
  · exact Or.inr h

/-- **removing a node changes the assignment only of keys that were assigned to it** — local hypothesis -/
theorem remove_moves_only_from_removed_local (H : Hasher) (R0 : Int) (ops : List Op) (n : Node) (k : Node)
    (hloc : LandsAlone H R0 ops (.remove n) k) :
    get H (run H R0 (ops ++ [.remove n])) k = get H (run H R0 ops) k
    ∨ ∃ v, get H (run H R0 ops) k = .node v ∧ v.repr = n.repr := by
  rcases op_moves_only_to_or_from_local H R0 ops (.remove n) k hloc with h | h | ⟨v, hv, hr⟩
  · exact Or.inl h
  · exact Or.inr h
  · exact absurd hr (removed_never_returned H R0 ops n k v hv)

/-- one operation, all three cases at once -/
theorem op_moves_only_to_or_from (H : Hasher) (R0 : Int) (ops : List Op) (op : Op)
    (hnc : NoCollision H (members R0 ops)) (hnc' : NoCollision H (members R0 (ops ++ [op]))) (k : Node) :
    get H (run H R0 (ops ++ [op])) k = get H (run H R0 ops) k
    ∨ (∃ v, get H (run H R0 ops) k = .node v ∧ v.repr = op.repr)
    ∨ (∃ v, get H (run H R0 (ops ++ [op])) k = .node v ∧ v.repr = op.repr) :=
  op_moves_only_to_or_from_local H R0 ops op k (landsAlone_of_noCollision H R0 ops op k hnc)

/-- **adding a new node changes the assignment only of keys that move to it.** -/
theorem add_moves_only_to_new (H : Hasher) (R0 : Int) (ops : List Op) (op : Op) (n : Node) (hop : op.adds n)
    (hnew : (members R0 ops).find n.repr = none)
    (hnc : NoCollision H (members R0 (ops ++ [op]))) (k : Node) :
    get H (run H R0 (ops ++ [op])) k = get H (run H R0 ops) k ∨ get H (run H R0 (ops ++ [op])) k = .node n :=
  add_moves_only_to_new_local H R0 ops op n hop hnew k
    (Or.inr (bucket_le_one (reachable_represents H R0 (ops ++ [op])) hnc _))

/-- **removing a node changes the assignment only of keys that were assigned to it.** -/
theorem remove_moves_only_from_removed (H : Hasher) (R0 : Int) (ops : List Op) (n : Node)
    (hnc : NoCollision H (members R0 ops)) (k : Node) :
    get H (run H R0 (ops ++ [.remove n])) k = get H (run H R0 ops) k
    ∨ ∃ v, get H (run H R0 ops) k = .node v ∧ v.repr = n.repr :=
  remove_moves_only_from_removed_local H R0 ops n k (landsAlone_of_noCollision H R0 ops _ k hnc)

/-- **re-adding a node with a different replica count or weight only moves keys to or from that
node** (old value and new value may differ as Go values; they share the repr). -/
theorem reweight_moves_only_to_or_from (H : Hasher) (R0 : Int) (ops : List Op) (op : Op) (n : Node) (hop : op.adds n)
    (hnc : NoCollision H (members R0 ops)) (hnc' : NoCollision H (members R0 (ops ++ [op]))) (k : Node) :
    get H (run H R0 (ops ++ [op])) k = get H (run H R0 ops) k
    ∨ (∃ v, get H (run H R0 ops) k = .node v ∧ v.repr = n.repr)
    ∨ get H (run H R0 (ops ++ [op])) k = .node n :=
  reweight_moves_only_to_or_from_local H R0 ops op n hop k (landsAlone_of_noCollision H R0 ops op k hnc)

/-- the conclusion of `op_moves_only_to_or_from_local` can fail without its hypothesis: with three nodes on one hash value
the choice `inner % len` reshuffles between the two old nodes `a`, `b` when the third one, `c`, joins. -/
theorem disruption_needs_no_collision :
    let H : Hasher := { point := fun _ _ => 5, key := fun _ => 0, inner := fun _ => 4 }
    let a : Node := ⟨"s", "a"⟩; let b : Node := ⟨"s", "b"⟩; let c : Node := ⟨"s", "c"⟩
    get H (run H 0 [.addR a 1, .addR b 1]) ⟨"i", "1"⟩ = .node a ∧
    get H (run H 0 [.addR a 1, .addR b 1, .addR c 1]) ⟨"i", "1"⟩ = .node b := by
  decide

/-- `memberOk` (member-only, none-iff-empty, no panic) accepts every answer of every reachable state. -/
theorem monitor_sound_member (H : Hasher) (R0 : Int) (ops : List Op) (k : Node) :
    memberOk (members R0 ops) (get H (run H R0 ops) k) = true :=
  memberOk_sound (reachable_represents H R0 ops) k

/-- the driver's per-probe disruption test (`landsAlone` evaluated on the model's states before and after) accepts
every pair of answers of the model: sound also in rings WITH collisions -/
theorem monitor_sound_disruption_local (H : Hasher) (R0 : Int) (ops : List Op) (op : Op) (k : Node)
    (h : landsAlone H (run H R0 ops) (run H R0 (ops ++ [op])) k = true) :
    disruptOk op.repr (decide ((members R0 ops).cnt op.repr > 0)) (decide ((members R0 (ops ++ [op])).cnt op.repr > 0))
      (get H (run H R0 ops) k) (get H (run H R0 (ops ++ [op])) k) = true :=
  disruptOk_sound (reachable_represents H R0 ops) (reachable_represents H R0 (ops ++ [op])) op.repr
    (fun _ hr' => (members_find_other R0 ops op hr').symm) k h

/-- whenever the executable collision test passes before and after an operation, `disruptOk` accepts the
pair of answers (this is exactly what the driver evaluates on the implementation's answers). -/
theorem monitor_sound_disruption (H : Hasher) (R0 : Int) (ops : List Op) (op : Op) (k : Node)
    (h : noCollision H (members R0 ops) = true) (h' : noCollision H (members R0 (ops ++ [op])) = true) :
    disruptOk op.repr (decide ((members R0 ops).cnt op.repr > 0)) (decide ((members R0 (ops ++ [op])).cnt op.repr > 0))
      (get H (run H R0 ops) k) (get H (run H R0 (ops ++ [op])) k) = true := by
  apply monitor_sound_disruption_local
  simp [landsAlone, landing, bucket_le_one (reachable_represents H R0 ops) (noCollision_sound H _ h)]

/-! ### non-vacuity: the hypotheses hold on concrete, non-trivial histories

`Pinned.W`, `Pinned.n`, `Pinned.n1`, `Pinned.x` are fixtures that merely live in Pinned.lean (they say nothing about the
code before the fix): `W` hashes the real labels, `n`, `n1`, `x` are the string nodes "n", "n1", "x"
(`"n" ++ "10" = "n1" ++ "0"`, so eleven replicas of "n" collide with one of "n1"). -/

section Examples
open Pinned (W n n1 x)

/-! member-only on a ring with a collision bucket -/

example : get W (run W 0 [.addR n 11, .addR n1 1]) ⟨"i", "100"⟩ = .node n := by decide +kernel
example : ∃ c, (members 0 [.addR n 11, .addR n1 1]).find n.repr = some (n, c) ∧ 0 < c :=
  get_member_only W 0 _ ⟨"i", "100"⟩ n (by decide +kernel)

/-! none-iff-empty: members without virtual nodes (replicas ≤ 0, weight 0) leave the ring empty -/

example : get W (run W 0 [.addR n 0, .addW n1 0, .addR x (-3)]) ⟨"i", "1"⟩ = .none := by decide

/-! history independence on the very history on which the pinned code depended on the order
(`pinned_history_dependent`): there is a collision, no hypothesis needed -/

example : noCollision W (members 0 [.addR n 11, .addR n1 1]) = false := by decide +kernel
example : get W (run W 0 [.addR n 11, .addR n1 1]) ⟨"i", "100"⟩
    = get W (run W 0 [.addR n1 1, .addR n 11]) ⟨"i", "100"⟩ :=
  ops_on_different_nodes_commute W 0 [] (.addR n 11) (.addR n1 1) (by decide) _

/-! `add_moves_only_to_new`: hypotheses hold (new node, no collision), and a key really moves -/

example : (members 0 [.addR n 3, .addR n1 2]).find x.repr = none := by decide
example : NoCollision W (members 0 ([.addR n 3, .addR n1 2] ++ [.addR x 4])) :=
  noCollision_sound _ _ (by decide +kernel)
example : get W (run W 0 [.addR n 3, .addR n1 2]) ⟨"s", "gyaq"⟩ = .node n1 ∧
    get W (run W 0 ([.addR n 3, .addR n1 2] ++ [.addR x 4])) ⟨"s", "gyaq"⟩ = .node x := by decide +kernel

/-! `remove_moves_only_from_removed`: hypothesis holds and a key really moves off the removed node -/

example : NoCollision W (members 0 [.addR n 3, .addR n1 2, .addR x 4]) := noCollision_sound _ _ (by decide +kernel)
example : get W (run W 0 [.addR n 3, .addR n1 2, .addR x 4]) ⟨"s", "key0"⟩ = .node n ∧
    get W (run W 0 ([.addR n 3, .addR n1 2, .addR x 4] ++ [.remove n])) ⟨"s", "key0"⟩ = .node x :=
  ⟨by decide +kernel, (get_eq_of_members_eq W 0 _ [.addR n1 2, .addR x 4] (by decide) _).trans (by decide +kernel)⟩

/-! `reweight_moves_only_to_or_from`: its collision hypotheses hold for a weight change -/

example : NoCollision W (members 0 ([.addR n 3, .addR n1 2, .addR x 4] ++ [.addW n1 1])) :=
  noCollision_sound _ _ (by decide +kernel)
example : (members 0 ([.addR n 3, .addR n1 2, .addR x 4] ++ [.addW n1 1])).cnt n1.repr = 1 := by decide

/-! non-vacuity: a ring WITH a collision (`NoCollision` fails: "n"+"10" = "n1"+"0"), a key that lands on the shared
virtual node before and on `x`'s own virtual node after `AddWithReplicas(x, 3)`: the local hypothesis holds and the
key moves to the new node -/

example : noCollision W (members 0 [.addR n 11, .addR n1 1]) = false ∧
    landsAlone W (run W 0 [.addR n 11, .addR n1 1]) (run W 0 ([.addR n 11, .addR n1 1] ++ [.addR x 3])) ⟨"s", "na"⟩ = true ∧
    get W (run W 0 [.addR n 11, .addR n1 1]) ⟨"s", "na"⟩ = .node n1 ∧
    get W (run W 0 ([.addR n 11, .addR n1 1] ++ [.addR x 3])) ⟨"s", "na"⟩ = .node x := by decide +kernel

example : LandsAlone W 0 [.addR n 11, .addR n1 1] (.addR x 3) ⟨"s", "na"⟩ := Or.inr (by decide +kernel)

end Examples

/-! ### the fixture hasher without label strings -/

open Pinned in
/-- the hash of a label continues the hash of the repr over the decimal digits of the index.  Evaluated in this form the
100 labels of one `Remove` cost a fifth of what they cost through `label`: the string `repr ++ itoa(i)` is not built (UTF-8
bytes) and decoded again.  Used as `rw [W_eq]` in front of `decide +kernel` wherever a `Remove` of a present node is evaluated
under the fixture `W`, whichever model runs it: `pinned_get_panics`, `pinned_remove_moves_foreign_key` below and
`two_writers_resurrect_removed` in PropsConc.lean.  It stands here because Pinned.lean, where `W` and `polyHash` are, holds
definitions only. -/
theorem Pinned.W_eq :
    W = { W with point := fun r i => (Nat.toDigits 10 i).foldl (fun h c => (h * 131 + c.toNat) % 1000003) (polyHash r) } := by
  show Hasher.mk _ _ _ = _
  congr 1
  funext r i
  show polyHash (label r i) = _
  unfold polyHash label
  rw [String.toList_append, List.foldl_append]
  exact congrArg (List.foldl _ _) Nat.toList_repr

/-! ### witnesses: the code before the fix (`Pinned.lean`) violated the property (public API)

`Pinned.W` hashes the *real* labels `repr ++ itoa(i)`; the collisions used are label coincidences
(`"n" ++ "10" = "n1" ++ "0"`), which every hash function maps to equal values. -/

open Pinned in
/-- Remove of a node added with fewer replicas deletes another node's keys: `Get` then divides by zero. -/
theorem pinned_get_panics :
    get W (Pinned.run W 0 [.addR n1 10, .addR n 5, .remove n]) ⟨"i", "7"⟩ = .panic := by rw [W_eq]; decide +kernel

open Pinned in
/-- the patched model on the same history answers with the remaining node. -/
theorem patched_same_history_no_panic :
    get W (run W 0 [.addR n1 10, .addR n 5, .remove n]) ⟨"i", "7"⟩ = .node n1 :=
  -- the membership is that of the ring with `n1` alone
  (get_eq_of_members_eq W 0 _ [.addR n1 10] (by decide) _).trans (by decide +kernel)

open Pinned in
/-- history dependence: same members, different order, different answer. -/
theorem pinned_history_dependent :
    get W (Pinned.run W 0 [.addR n 11, .addR n1 1]) ⟨"i", "100"⟩
      ≠ get W (Pinned.run W 0 [.addR n1 1, .addR n 11]) ⟨"i", "100"⟩ := by decide +kernel

open Pinned in
/-- removing `n` moves a key from `n1` to `x`. -/
theorem pinned_remove_moves_foreign_key :
    get W (Pinned.run W 0 [.addR n 5, .addR n1 3, .addR x 3]) ⟨"i", "100"⟩ = .node n1 ∧
    get W (Pinned.run W 0 [.addR n 5, .addR n1 3, .addR x 3, .remove n]) ⟨"i", "100"⟩ = .node x := by
  rw [W_eq]; decide +kernel

end GoZero.C15
