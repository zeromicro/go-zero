/-
C15 — the identity of nodes: `lang.Repr` does not alias different numbers, whatever their Go types, and what that
means for the ring.
-/
import GoZero.C15.Props
import GoZero.C15.ReprProofs
namespace GoZero.C15

/-- **numeric values of ANY integer kinds (int8 … int64, uint8 … uint64, named ints, pointers to ints) get the
same `Repr` exactly when they are the same number.** -/
theorem repr_numeric_injective (a b : GoVal) (x y : Int) (ha : a.math = some x) (hb : b.math = some y) :
    reprOf a = reprOf b ↔ x = y := by
  rw [reprOf_numeric a x ha, reprOf_numeric b y hb]
  exact fmtInt_inj

theorem repr_int_injective (w : Width) (a b : Int) : reprOf (.int w a) = reprOf (.int w b) ↔ a = b :=
  repr_numeric_injective _ _ a b rfl rfl

theorem repr_uint_injective (w : Width) (a b : Int) : reprOf (.uint w a) = reprOf (.uint w b) ↔ a = b :=
  repr_numeric_injective _ _ a b rfl rfl

/-- … and an unsigned value never shares its `Repr` with a negative one (MaxUint64 is not -1). -/
theorem repr_unsigned_ne_negative (w w' : Width) (u s : Int) (hu : 0 ≤ u) (hs : s < 0) :
    reprOf (.uint w u) ≠ reprOf (.int w' s) := by
  intro h
  have := (repr_numeric_injective (.uint w u) (.int w' s) u s rfl rfl).1 h
  omega

theorem repr_bool_injective (a b : Bool) : reprOf (.bool a) = reprOf (.bool b) ↔ a = b := by
  cases a <;> cases b <;> decide

theorem repr_string_injective (a b : String) : reprOf (.str a) = reprOf (.str b) ↔ a = b := by
  simp [reprOf, GoVal.stringerText, GoVal.deref, reprOfValue]

/-- the nil interface and a typed nil pointer are different nodes -/
theorem repr_nil_ne_nilPtr : reprOf .nil ≠ reprOf .nilPtr := by decide

/-! non-vacuity, at the extremes: MaxUint64 / -1, 2^63 / MinInt64, 255 / int8 -1 -/

example : reprOf (.uint .w64 18446744073709551615) = "18446744073709551615" ∧ reprOf (.int .wd (-1)) = "-1" ∧
    reprOf (.uint .w64 9223372036854775808) = "9223372036854775808" ∧
    reprOf (.int .w64 (-9223372036854775808)) = "-9223372036854775808" ∧
    reprOf (.uint .w8 255) = "255" ∧ reprOf (.int .w8 (-1)) = "-1" ∧ reprOf (.ptrInt (-1)) = "-1" ∧
    reprOf (.errorsNew "boom") = "{boom}" ∧ reprOf (.errStringer "boom") = "boom" ∧ reprOf .nilPtr = "<nil>" := by
  decide +kernel

example : (GoVal.uint .w64 18446744073709551615).valid ∧ (GoVal.int .w8 (-128)).valid ∧ ¬ (GoVal.int .w8 128).valid := by
  decide

/-- **different numbers are different nodes of the ring**: an operation on the node of number `x` (Add, re-weight,
Remove; any Go type) leaves the membership entry — value and virtual nodes — of the node of every other number
`y` untouched: it neither evicts nor removes it. -/
theorem distinct_numbers_do_not_alias (R0 : Int) (ops : List Op) (op : Op) (a b : GoVal) (x y : Int)
    (ha : a.math = some x) (hb : b.math = some y) (hxy : x ≠ y) (hop : op.repr = a.toNode.repr) :
    (members R0 (ops ++ [op])).find b.toNode.repr = (members R0 ops).find b.toNode.repr := by
  apply members_find_other
  rw [hop]
  exact fun h => hxy ((repr_numeric_injective a b x y ha hb).1 h.symm)

/-- so a number that was added and not removed since stays a member whatever happens to OTHER numbers: here for the
last two operations — after `Add(b)` then any operation on a different number `a`, `Get` can still return `b`'s
value and `b` owns the virtual nodes it was added with. -/
theorem number_survives_other_number (R0 : Int) (ops : List Op) (op : Op) (a b : GoVal) (x y : Int)
    (ha : a.math = some x) (hb : b.math = some y) (hxy : x ≠ y) (hop : op.repr = a.toNode.repr) :
    (members R0 (ops ++ [.add b.toNode] ++ [op])).find b.toNode.repr
      = some (b.toNode, clampReplicas (CH.new R0).replicas (CH.new R0).replicas) := by
  rw [distinct_numbers_do_not_alias R0 _ op a b x y ha hb hxy hop, members_snoc]
  simp [specStep, find_set]

example : (members 0 ([] ++ [.add (GoVal.uint .w64 18446744073709551615).toNode] ++ [.remove (GoVal.int .wd (-1)).toNode])).find
    "18446744073709551615" = some (⟨"u", "18446744073709551615"⟩, 100) := by decide +kernel

/-- the `repr-alias` monitor (Driver.checkReprs) never fires on reprs that are the model's: it flags two values
whose implementation reprs coincide although `sameSlot` (the model's identity) says they are different nodes.
Immediate from the definition of `sameSlot` (equal model reprs); the monitor's verdict on the IMPLEMENTATION's reprs is
not its subject -/
theorem monitor_sound_alias (a b : GoVal) : (reprOf a == reprOf b && !sameSlot a b) = false := by
  unfold sameSlot
  cases reprOf a == reprOf b <;> rfl

/-- and what `sameSlot` means for numbers is exactly "the same number" -/
theorem sameSlot_numeric (a b : GoVal) (x y : Int) (ha : a.math = some x) (hb : b.math = some y) :
    sameSlot a b = true ↔ x = y := by
  unfold sameSlot
  rw [beq_iff_eq]
  exact repr_numeric_injective a b x y ha hb

example : sameSlot (.uint .w64 18446744073709551615) (.int .wd (-1)) = false ∧
    sameSlot (.uint .w8 255) (.int .w16 255) = true := by decide

/-- **typed end to end (value → lang.Repr → ring)**: for Go values of any integer kinds, `Get` on a ring that went
through `Remove(a)` does not return a node with `a`'s repr, and `b` (another number) keeps its virtual nodes. -/
theorem typed_remove_only_removes_that_number (H : Hasher) (R0 : Int) (ops : List Op) (a b : GoVal) (x y : Int)
    (ha : a.math = some x) (hb : b.math = some y) (hxy : x ≠ y) (k v : Node)
    (h : get H (run H R0 (ops ++ [.remove a.toNode])) k = .node v) :
    v.repr ≠ reprOf a ∧
      (members R0 (ops ++ [.remove a.toNode])).find (reprOf b) = (members R0 ops).find (reprOf b) :=
  ⟨removed_never_returned H R0 ops a.toNode k v h,
   distinct_numbers_do_not_alias R0 ops (.remove a.toNode) a b x y ha hb hxy rfl⟩

end GoZero.C15
