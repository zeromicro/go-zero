/-
C15 — facts about the model of `lang.Repr` (Repr.lean): identity of Go's conversions on values that fit, and the `Repr` of a
numeric value is the decimal text of its number (`reprOf_numeric`, `fmtInt_inj`), from which PropsRepr.lean gets injectivity;
the interpreted type switch clause by clause (`switchEval_cons`), which Tie.lean reads the extracted table with.
-/
import Std.Data.String.ToInt
import GoZero.C15.Repr
namespace GoZero.C15

theorem fmtInt_inj {a b : Int} : fmtInt a = fmtInt b ↔ a = b := ⟨fun h => Int.repr_injective h, fun h => h ▸ rfl⟩

/-! The widths enter only through `full = 2 * half`, `0 < half` and `half ≤ 2^63`. -/

theorem Width.full_eq (w : Width) : w.full = 2 * w.half := by cases w <;> rfl

theorem Width.half_pos (w : Width) : 0 < w.half := by cases w <;> decide

theorem Width.half_le (w : Width) : w.half ≤ 9223372036854775808 := by cases w <;> decide

theorem inSigned_64 (w : Width) (x : Int) (h : inSigned w x) :
    -9223372036854775808 ≤ x ∧ x < 9223372036854775808 := by
  have := w.half_le
  unfold inSigned at h; omega

theorem inUnsigned_64 (w : Width) (x : Int) (h : inUnsigned w x) : 0 ≤ x ∧ x < 18446744073709551616 := by
  have := w.half_le; have := w.full_eq
  unfold inUnsigned at h; omega

theorem wrapSigned_id (w : Width) (x : Int) (h : inSigned w x) : wrapSigned w x = x := by
  have := w.full_eq
  unfold inSigned at h
  unfold wrapSigned
  rw [Int.emod_eq_of_lt (by omega) (by omega)]; omega

theorem wrapUnsigned_id (w : Width) (x : Int) (h : inUnsigned w x) : wrapUnsigned w x = x :=
  Int.emod_eq_of_lt h.1 h.2

theorem wrapSigned_range (w : Width) (x : Int) : inSigned w (wrapSigned w x) := by
  have hp := w.half_pos; have hf := w.full_eq
  have h1 := Int.emod_nonneg (x + w.half) (show w.full ≠ 0 by omega)
  have h2 := Int.emod_lt_of_pos (x + w.half) (show 0 < w.full by omega)
  unfold inSigned wrapSigned; omega

theorem wrapUnsigned_range (w : Width) (x : Int) : inUnsigned w (wrapUnsigned w x) := by
  have hp := w.half_pos; have hf := w.full_eq
  exact ⟨Int.emod_nonneg x (by omega), Int.emod_lt_of_pos x (by omega)⟩

theorem reprOf_numeric (v : GoVal) (x : Int) (h : v.math = some x) : reprOf v = fmtInt x := by
  cases v <;> simp [GoVal.math] at h <;> subst h <;> rfl

/-- Go takes the first clause that matches: the interpreted switch, clause by clause -/
theorem switchEval_cons (c : String × String × List String) (rest : List (String × String × List String)) (v : GoVal) :
    switchEval (c :: rest) v = if c.1 = v.caseName then evalCase c.2.1 c.2.2 v else switchEval rest v := by
  unfold switchEval
  rw [List.find?_cons]
  by_cases h : c.1 = v.caseName
  · simp [h]
  · simp [h, beq_false_of_ne h]

end GoZero.C15
