/-
C15 — Tie: what the extractor reads from core/hash/consistenthash.go and hash.go, core/lang/lang.go and the users
(core/stores/cache, core/stores/kv) equals what the model was written against.  A failing obligation here means the
code moved away from the model.
-/
import GoZero.Extracted.C15
import GoZero.C15.ReprProofs
import GoZero.C15.PropsFaults
namespace GoZero.C15.Tie
open GoZero.C15

theorem extraction_clean : GoZero.Extracted.C15.extractionErrors = [] := by decide

theorem tie_topWeight : GoZero.Extracted.C15.topWeight = 100 ∧ GoZero.C15.topWeight = 100 := by decide
theorem tie_minReplicas : GoZero.Extracted.C15.minReplicas = 100 ∧ (GoZero.C15.minReplicas : Int) = 100 := by decide
theorem tie_prime : GoZero.Extracted.C15.prime = 16777619 ∧ (GoZero.C15.prime : Int) = 16777619 := by decide

/-- `NewCustomConsistentHash`: replicas below `minReplicas` are raised to it (model: `CH.new`). -/
theorem tie_newReplicas (replicas : Int) :
    GoZero.Extracted.C15.newReplicas replicas GoZero.Extracted.C15.minReplicas = ((CH.new replicas).replicas : Int) := by
  unfold GoZero.Extracted.C15.newReplicas CH.new GoZero.Extracted.C15.minReplicas GoZero.C15.minReplicas
  by_cases h : replicas < 100
  · simp [h]
  · simp [h]; omega

/-- `AddWithReplicas`: replicas are clamped from above only; what the loop `i < replicas` executes is the
model's `clampReplicas` (negative counts run the loop zero times). -/
theorem tie_clampReplicas (R : Nat) (replicas : Int) :
    (GoZero.Extracted.C15.clampReplicas replicas (R : Int)).toNat = GoZero.C15.clampReplicas R replicas := by
  unfold GoZero.Extracted.C15.clampReplicas GoZero.C15.clampReplicas
  by_cases h : replicas > (R : Int) <;> simp [h]

/-- the wrap-around always lands in the range of a Go `int` and is congruent to the product mod 2^64 -/
theorem wrapInt_range (x : Int) :
    -9223372036854775808 ≤ wrapInt x ∧ wrapInt x < 9223372036854775808 ∧
      (wrapInt x - x) % 18446744073709551616 = 0 := by
  unfold wrapInt; omega

/-- `AddWithWeight`: `h.replicas * weight / TopWeight` with Go's truncating division — the translated
expression equals the model's wherever the product fits an `int` … -/
theorem tie_weightReplicas (R : Nat) (weight : Int)
    (h : -9223372036854775808 ≤ (R : Int) * weight ∧ (R : Int) * weight < 9223372036854775808) :
    GoZero.Extracted.C15.weightReplicas weight (R : Int) GoZero.Extracted.C15.topWeight = GoZero.C15.weightReplicas R weight := by
  unfold GoZero.Extracted.C15.weightReplicas GoZero.C15.weightReplicas GoZero.Extracted.C15.topWeight GoZero.C15.topWeight
  rw [wrapInt_id _ h]

/-- … and in general it is the translated division applied to the wrapped product (Go `int` is 64 bit). -/
theorem tie_weightReplicas_overflow (R : Nat) (weight : Int) :
    GoZero.Extracted.C15.weightReplicas (wrapInt ((R : Int) * weight)) 1 GoZero.Extracted.C15.topWeight
      = GoZero.C15.weightReplicas R weight := by
  unfold GoZero.Extracted.C15.weightReplicas GoZero.C15.weightReplicas GoZero.Extracted.C15.topWeight GoZero.C15.topWeight
  rw [Int.one_mul]

/-- the statement the formula was translated from (operand order, operators, the constant's name) -/
theorem tie_weightStmt : GoZero.Extracted.C15.weightStmt = ["replicas := h.replicas * weight / TopWeight"] := rfl

/-- the documented meaning of a weight: `w` percent of the ring's replicas, for 0 ≤ w ≤ 100 on the default ring -/
theorem weight_is_percent (w : Nat) (hw : w ≤ 100) :
    GoZero.C15.clampReplicas 100 (GoZero.C15.weightReplicas 100 w) = w := by
  rw [weightReplicas_100 w (by omega)]
  unfold GoZero.C15.clampReplicas
  split <;> omega

/-- weights above `TopWeight` give the full replica count (clamped by `AddWithReplicas`), weights ≤ 0 none,
as long as the product does not overflow -/
theorem weight_clamped (R : Nat) (hR : 100 ≤ R) (w : Int) (hw : 100 ≤ w)
    (h : (R : Int) * w < 9223372036854775808) :
    GoZero.C15.clampReplicas R (GoZero.C15.weightReplicas R w) = R := by
  unfold GoZero.C15.clampReplicas GoZero.C15.weightReplicas GoZero.C15.topWeight
  have hmul : (R : Int) * 100 ≤ (R : Int) * w := Int.mul_le_mul_of_nonneg_left hw (by omega)
  rw [wrapInt_id _ ⟨by omega, h⟩]
  have := Int.le_tdiv_of_mul_le (by decide : (0 : Int) < 100) hmul
  split <;> omega

theorem weight_nonpositive (R : Nat) (w : Int) (hw : w ≤ 0) (h : -9223372036854775808 ≤ (R : Int) * w) :
    GoZero.C15.clampReplicas R (GoZero.C15.weightReplicas R w) = 0 := by
  unfold GoZero.C15.clampReplicas GoZero.C15.weightReplicas GoZero.C15.topWeight
  have hneg : (R : Int) * w ≤ 0 := Int.mul_nonpos_of_nonneg_of_nonpos (by omega) hw
  rw [wrapInt_id _ ⟨h, by omega⟩]
  have : Int.tdiv ((R : Int) * w) 100 ≤ 0 := by simpa using Int.tdiv_le_tdiv (c := 100) (by decide) hneg
  split <;> omega

/-- overflow is real: on the default ring (100 replicas) a weight of 92233720368547759 (> 2^63/100) wraps to
a negative product and the node gets NO virtual node, although the weight is positive. -/
theorem weight_overflow_witness :
    GoZero.C15.clampReplicas 100 (GoZero.C15.weightReplicas 100 92233720368547759) = 0 ∧
    GoZero.C15.clampReplicas 128 (GoZero.C15.weightReplicas 128 144115188075855873) = 1 := by decide

theorem tie_newDefaultShape : GoZero.Extracted.C15.newDefaultShape = [
  "call NewCustomConsistentHash",
  "return"] := rfl

/-- `NewConsistentHash` is `NewCustomConsistentHash(minReplicas, Hash)`: the model's `CH.new 100` with murmur3 -/
theorem tie_newDefaultExprs : GoZero.Extracted.C15.newDefaultExprs = [
  "ret:return NewCustomConsistentHash(minReplicas, Hash)",
  "call:NewCustomConsistentHash(minReplicas, Hash)"] := rfl

/-- the lower clamp, the nil-hash default -/
theorem tie_newCustomShape : GoZero.Extracted.C15.newCustomShape = [
  "if replicas < minReplicas {",
  "}",
  "if fn == nil {",
  "}",
  "return"] := rfl

/-- a fresh ring: the clamped replicas, empty maps, no keys -/
theorem tie_newCustomExprs : GoZero.Extracted.C15.newCustomExprs = [
  "ret:return &ConsistentHash{ hashFunc: fn, replicas: replicas, ring: make(map[uint64][]any), nodes: make(map[string]lang.PlaceholderType), }"] := rfl

theorem tie_addShape : GoZero.Extracted.C15.addShape = [
  "call h.AddWithReplicas"] := rfl

/-- `Add` passes `h.replicas` -/
theorem tie_addExprs : GoZero.Extracted.C15.addExprs = [
  "call:h.AddWithReplicas(node, h.replicas)"] := rfl

/-! `AddWithReplicas` / `Remove` exist in two accepted forms:
  * TWO critical sections (the tree as it is): `AddWithReplicas` calls `Remove(node)` — lock, body, unlock — and
    then takes the lock again for the insertion; readers can run in between (`Conc.step … false`);
  * ONE critical section (after fixes/C15-add-single-critical-section.patch): the body of Remove is
    `removeLocked`, called by both under the lock (`Conc.step … true`).
In both the removal loop and the insertion are the same statements in the same order. -/

/-- the body of the removal: absent → no-op; loop `i < h.replicas` { hash label; if !removeRingNode → continue;
lower-bound search; delete one key entry }; removeNode -/
def removalBodyShape : List String := [
  "if !h.containsNode(nodeRepr) {",
  "return",
  "}",
  "for i < h.replicas {",
  "call ?",
  "call h.hashFunc",
  "if !h.removeRingNode(hash, nodeRepr) {",
  "continue",
  "}",
  "func{",
  "return",
  "}",
  "call sort.Search",
  "if index < len(h.keys) && h.keys[index] == hash {",
  "store h.keys",
  "}",
  "}",
  "call h.removeNode"]

def removalBodyExprs : List String := [
  "call:h.containsNode(nodeRepr)",
  "hash:[]byte(nodeRepr + strconv.Itoa(i))",
  "call:h.removeRingNode(hash, nodeRepr)",
  "search:len(h.keys):h.keys[i] >= hash",
  "set:h.keys = append(h.keys[:index], h.keys[index+1:]...)",
  "call:h.removeNode(nodeRepr)"]

def lockPrefix : List String := [
  "call repr",
  "call h.lock.Lock",
  "defer{",
  "call h.lock.Unlock",
  "}"]

/-- addNode, loop `i < replicas` { hash label; append key; insertRingNode }, sort keys -/
def insertionShape : List String := [
  "call h.addNode",
  "for i < replicas {",
  "call ?",
  "call h.hashFunc",
  "store h.keys",
  "call insertRingNode",
  "mapset h.ring",
  "}",
  "func{",
  "return",
  "}",
  "call sort.Slice"]

/-- label format `nodeRepr + strconv.Itoa(i)`; bucket := insertRingNode(bucket, node); keys sorted ascending -/
def insertionExprs : List String := [
  "call:h.addNode(nodeRepr)",
  "hash:[]byte(nodeRepr + strconv.Itoa(i))",
  "set:h.keys = append(h.keys, hash)",
  "set:h.ring[hash] = insertRingNode(h.ring[hash], node, nodeRepr)",
  "call:insertRingNode(h.ring[hash], node, nodeRepr)",
  "less:h.keys:h.keys[i] < h.keys[j]"]

def clampShape : List String := ["if replicas > h.replicas {", "}"]

/-- the tree as it is: Remove (own critical section) first, upper clamp, lock, insertion -/
def TwoSections : Prop :=
  GoZero.Extracted.C15.addWithReplicasShape = ["call h.Remove"] ++ clampShape ++ lockPrefix ++ insertionShape ∧
  GoZero.Extracted.C15.addWithReplicasExprs = ["call:h.Remove(node)"] ++ insertionExprs ∧
  GoZero.Extracted.C15.removeShape = lockPrefix ++ removalBodyShape ∧
  GoZero.Extracted.C15.removeExprs = removalBodyExprs ∧
  GoZero.Extracted.C15.removeLockedShape = ["ABSENT"]

/-- after the fix: upper clamp, lock, removal body, insertion — one critical section -/
def OneSection : Prop :=
  GoZero.Extracted.C15.addWithReplicasShape = clampShape ++ lockPrefix ++ ["call h.removeLocked"] ++ insertionShape ∧
  GoZero.Extracted.C15.addWithReplicasExprs = ["call:h.removeLocked(nodeRepr)"] ++ insertionExprs ∧
  GoZero.Extracted.C15.removeShape = lockPrefix ++ ["call h.removeLocked"] ∧
  GoZero.Extracted.C15.removeExprs = ["call:h.removeLocked(nodeRepr)"] ∧
  GoZero.Extracted.C15.removeLockedShape = removalBodyShape ∧
  GoZero.Extracted.C15.removeLockedExprs = removalBodyExprs

/-- whichever of the two forms the tree has, it has it literally -/
theorem tie_critical_sections : TwoSections ∨ OneSection := by
  first
    | exact Or.inl ⟨rfl, rfl, rfl, rfl, rfl⟩
    | exact Or.inr ⟨rfl, rfl, rfl, rfl, rfl, rfl⟩

theorem tie_addWithWeightShape : GoZero.Extracted.C15.addWithWeightShape = [
  "call h.AddWithReplicas"] := rfl

/-- the weight formula feeds AddWithReplicas -/
theorem tie_addWithWeightExprs : GoZero.Extracted.C15.addWithWeightExprs = [
  "call:h.AddWithReplicas(node, replicas)"] := rfl

/-- first entry with that repr only; bucket deleted when it was the last; reports whether one was removed -/
theorem tie_removeRingNodeShape : GoZero.Extracted.C15.removeRingNodeShape = [
  "range nodes {",
  "if repr(x) != nodeRepr {",
  "continue",
  "}",
  "if len(nodes) > 1 {",
  "mapset h.ring",
  "}",
  "else{",
  "delete h.ring",
  "}",
  "return",
  "}",
  "return"] := rfl

/-- the entry is cut out; true / false -/
theorem tie_removeRingNodeExprs : GoZero.Extracted.C15.removeRingNodeExprs = [
  "set:h.ring[hash] = append(nodes[:i], nodes[i+1:]...)",
  "set:delete(h.ring, hash)",
  "ret:return true",
  "ret:return false"] := rfl

/-- search position, shift, store -/
theorem tie_insertRingNodeShape : GoZero.Extracted.C15.insertRingNodeShape = [
  "func{",
  "call repr",
  "return",
  "}",
  "call sort.Search",
  "call copy",
  "mapset nodes",
  "return"] := rfl

/-- insert before the first entry with a greater repr (model: `insertNode`) -/
theorem tie_insertRingNodeExprs : GoZero.Extracted.C15.insertRingNodeExprs = [
  "search:len(nodes):repr(nodes[i]) > nodeRepr",
  "ret:return nodes"] := rfl

/-- empty ring → none; hash repr; search; bucket by key; switch on bucket length; inner hash for len ≥ 2 -/
theorem tie_getShape : GoZero.Extracted.C15.getShape = [
  "call h.lock.RLock",
  "defer{",
  "call h.lock.RUnlock",
  "}",
  "if len(h.ring) == 0 {",
  "return",
  "}",
  "call repr",
  "call ?",
  "call h.hashFunc",
  "func{",
  "return",
  "}",
  "call sort.Search",
  "switch len(nodes) {",
  "case 0:",
  "return",
  "case 1:",
  "return",
  "default:",
  "call innerRepr",
  "call ?",
  "call h.hashFunc",
  "call uint64",
  "return",
  "}"] := rfl

/-- hash of `repr(v)`, `% len(h.keys)`, lower-bound search, inner hash of `innerRepr(v)`, `% len(nodes)` -/
theorem tie_getExprs : GoZero.Extracted.C15.getExprs = [
  "ret:return nil, false",
  "hash:[]byte(repr(v))",
  "mod:sort.Search(len(h.keys), func(i int) bool { return h.keys[i] >= hash }) % len(h.keys)",
  "search:len(h.keys):h.keys[i] >= hash",
  "ret:return nil, false",
  "ret:return nodes[0], true",
  "hash:[]byte(innerRepr(v))",
  "mod:innerIndex % uint64(len(nodes))",
  "ret:return nodes[pos], true"] := rfl

theorem tie_innerReprShape : GoZero.Extracted.C15.innerReprShape = [
  "return"] := rfl

/-- `"%d:%v"` of prime and the value (model: `innerRepr`) -/
theorem tie_innerReprExprs : GoZero.Extracted.C15.innerReprExprs = [
  "ret:return fmt.Sprintf(\"%d:%v\", prime, node)",
  "fmt:fmt.Sprintf(\"%d:%v\", prime, node)"] := rfl

theorem tie_reprShape : GoZero.Extracted.C15.reprShape = [
  "return"] := rfl

/-- nodes and keys are identified by `lang.Repr` -/
theorem tie_reprExprs : GoZero.Extracted.C15.reprExprs = [
  "ret:return lang.Repr(node)",
  "call:lang.Repr(node)"] := rfl

/-- cache.New: fatal without a positive total weight; ONE node → the node itself, no ring; otherwise
`NewConsistentHash()` and, in configuration order, `AddWithWeight(NewNode(…), node.Weight)` with the raw
configured weight; every method of cacheCluster dispatches its key with `cc.dispatcher.Get(key)`; the ring
is never modified afterwards (no Add / Remove call on a dispatcher anywhere in the file). -/
theorem tie_cacheUsers : GoZero.Extracted.C15.cacheUsers = [
  "New:if:len(c) == 0 || TotalWeights(c) <= 0",
  "New:if:len(c) == 1",
  "New:hash.NewConsistentHash()",
  "New:range:_,node:=c",
  "New:cn := NewNode(redis.MustNewRedis(node.RedisConf), barrier, st, errNotFound, opts...)",
  "New:dispatcher.AddWithWeight(cn, node.Weight)",
  "DelCtx:cc.dispatcher.Get(key)",
  "DelCtx:cc.dispatcher.Get(key)",
  "GetCtx:cc.dispatcher.Get(key)",
  "SetCtx:cc.dispatcher.Get(key)",
  "SetWithExpireCtx:cc.dispatcher.Get(key)",
  "TakeCtx:cc.dispatcher.Get(key)",
  "TakeWithExpireCtx:cc.dispatcher.Get(key)"] := rfl

/-- kv.NewStore: always a ring (one node too), `AddWithWeight(redis.MustNewRedis(…), node.Weight)` in
configuration order; `getRedis` dispatches with `cs.dispatcher.Get(key)`. -/
theorem tie_kvUsers : GoZero.Extracted.C15.kvUsers = [
  "NewStore:if:len(c) == 0 || cache.TotalWeights(c) <= 0",
  "NewStore:hash.NewConsistentHash()",
  "NewStore:range:_,node:=c",
  "NewStore:cn := redis.MustNewRedis(node.RedisConf)",
  "NewStore:dispatcher.AddWithWeight(cn, node.Weight)",
  "getRedis:cs.dispatcher.Get(key)"] := rfl

/-- kv glue: EVERY method of clusterStore that dispatches does so with its `key` parameter, unchanged (every call site the
extractor finds, at least 60), and `getRedis` hands that key to the ring and returns the
ring's answer (`ErrNoRedisNode` when the ring says none) -/
theorem tie_kvMethodsDispatchByKey :
    (GoZero.Extracted.C15.kvDispatchArgs.all fun a => a == "key") = true ∧
    GoZero.Extracted.C15.kvDispatchArgs.length ≥ 60 ∧
    GoZero.Extracted.C15.kvGetRedisBody = [
      "val, ok := cs.dispatcher.Get(key)",
      "if !ok { return nil, ErrNoRedisNode }",
      "return val.(*redis.Redis), nil"] := by decide +kernel

/-- the repr of both node types is the redis address (`lang.Repr` calls `String()`) -/
theorem tie_userReprs : GoZero.Extracted.C15.cacheNodeStringExprs = ["ret:return c.rds.Addr"] ∧
    GoZero.Extracted.C15.redisStringExprs = ["ret:return s.Addr"] := ⟨rfl, rfl⟩

/-- TotalWeights clamps negative weights in ITS copy only: AddWithWeight receives the raw weight -/
theorem tie_totalWeightsShape : GoZero.Extracted.C15.totalWeightsShape = [
  "range c {",
  "if node.Weight < 0 {",
  "store node.Weight",
  "}",
  "}",
  "return"] := rfl

/-! ### decision conditions on the property's path, LIFTED from the source into Lean functions

The extractor takes the condition / expression as it stands in the AST, replaces the non-integer leaves
(`h.keys[i]` ↦ k, `hash` ↦ x, `len(h.keys)` ↦ n, the `sort.Search(…)` call ↦ idx, `repr(…)` ↦ an integer code of
the string) and translates it (extract/translate.go).  The theorems below state, for ALL arguments, that the
lifted function IS what the model computes: operator, operand order, constant. -/

section Conditions
open GoZero.Extracted.C15

/-- `Get`: `sort.Search(len(h.keys), h.keys[i] >= hash)` is the model's `searchGE` … -/
theorem tie_condGetSearch (keys : List Nat) (x : Nat) :
    searchGE keys x = (keys.takeWhile fun (k : Nat) => condGetSearch (k : Int) (x : Int) == 0).length := by
  have e : (fun (k : Nat) => condGetSearch (k : Int) (x : Int) == 0) = (fun k => decide (k < x)) := by
    funext k
    by_cases h : k < x <;> simp [condGetSearch, h] <;> omega
  rw [e]
  rfl

/-- … `% len(h.keys)` is the model's wrap-around (`getRest`): index of the first virtual node ≥ the key's hash, the
first one again beyond the last … -/
theorem tie_exprGetWrap (keys : List Nat) (x : Nat) :
    exprGetWrap ((keys.takeWhile fun (k : Nat) => condGetSearch (k : Int) (x : Int) == 0).length : Nat) (keys.length : Nat)
      = ((searchGE keys x % keys.length : Nat) : Int) := by
  rw [← tie_condGetSearch]
  unfold exprGetWrap
  rw [Int.tmod_eq_emod_of_nonneg (by omega)]
  exact Int.ofNat_mod_ofNat _ _

/-- … the test for the empty ring is `len(h.ring) == 0` (model: `s.ring.isEmpty`) … -/
theorem tie_condGetEmpty (s : CH) : condGetEmpty (s.ring.length : Nat) = 1 ↔ s.ring.isEmpty = true := by
  cases s.ring <;> simp [condGetEmpty] <;> omega

/-- … and the position inside a collision bucket is `innerIndex % len(nodes)` (model: `H.inner … % b.length`). -/
theorem tie_exprGetInner (hv n : Nat) : exprGetInner (hv : Int) (n : Int) = ((hv % n : Nat) : Int) := by
  unfold exprGetInner
  rw [Int.tmod_eq_emod_of_nonneg (by omega)]
  exact Int.ofNat_mod_ofNat _ _

/-- `Get` distinguishes the bucket sizes 0 (none), 1 (that node) and the rest (inner hash): model `getRest`'s match
on `[]`, `[n]`, `_` -/
theorem tie_getSwitch : getSwitchTag = "len(nodes)" ∧ getSwitchCases = [0, 1] ∧ getSwitchHasDefault = true :=
  ⟨rfl, rfl, rfl⟩

/-- `Remove`: the same lower-bound search … -/
theorem tie_condRemoveSearch (k x : Int) : condRemoveSearch k x = condGetSearch k x := rfl

/-- … `index < len(h.keys) && h.keys[index] == hash` is the model's `keys[i]? = some x` (`removeKey`) … -/
theorem tie_condRemoveFound (keys : List Nat) (i x : Nat) :
    condRemoveFound (i : Int) (keys.length : Nat) ((keys.getD i 0 : Nat) : Int) (x : Int) = 1 ↔ keys[i]? = some x := by
  simp only [condRemoveFound]
  by_cases h : i < keys.length
  · simp [h, List.getD_eq_getElem?_getD, Int.ofNat_inj]
  · simp [h]

/-- … and the loops run `i = 0 … h.replicas-1` / `0 … replicas-1` (none for a non-positive count): the model's
`List.range`. -/
theorem tie_condRemoveLoop (i R : Nat) : condRemoveLoop (i : Int) (R : Int) = 1 ↔ i ∈ List.range R := by
  simp [condRemoveLoop]

theorem tie_condAddLoop (i : Nat) (replicas : Int) : condAddLoop (i : Int) replicas = 1 ↔ i ∈ List.range replicas.toNat := by
  simp [condAddLoop]

/-- `removeRingNode` skips entries whose repr DIFFERS (a, b: any injective integer code of the two strings) … -/
theorem tie_condRingNodeOther (a b : Int) : condRingNodeOther a b = 1 ↔ a ≠ b := by
  simp [condRingNodeOther]

/-- … and keeps the bucket iff another entry remains (model: `setBucket` deletes the hash when the bucket becomes
empty). -/
theorem tie_condRingNodeKeep (b : List Node) (m : Node) :
    condRingNodeKeep (((m :: b).length : Nat) : Int) = 1 ↔ b.isEmpty = false := by
  cases b <;> simp [condRingNodeKeep] <;> omega

/-- keys are sorted ascending (`<`) … -/
theorem tie_condKeyLess (a b : Nat) : condKeyLess (a : Int) (b : Int) = 1 ↔ a < b := by
  simp [condKeyLess]

/-- … and a node is inserted before the first entry whose repr is GREATER (model `insertNode`: `n.repr < m.repr`). -/
theorem tie_condInsertBefore (existing new : Int) : condInsertBefore existing new = 1 ↔ new < existing := by
  simp [condInsertBefore]

/-- users: fatal without nodes or without a positive total weight; cache.New with exactly one node builds no ring;
`TotalWeights` counts a negative weight as zero -/
theorem tie_condUsers (n tw w : Int) :
    (condCacheNoNode n tw = 1 ↔ n = 0 ∨ tw ≤ 0) ∧ (condKvNoNode n tw = 1 ↔ n = 0 ∨ tw ≤ 0) ∧
    (condCacheSingle n = 1 ↔ n = 1) ∧ (condNegWeight w = 1 ↔ w < 0) := by
  simp only [condCacheNoNode, condKvNoNode, condCacheSingle, condNegWeight]
  refine ⟨?_, ?_, ?_, ?_⟩ <;> split <;> simp_all

end Conditions

/-- **`TotalWeights` as arithmetic**: the loop body translated from the source (negative weight counts as 0, then
`weights += …`), wrapped to a Go `int`, is the model's `totalWeightsStep`, for all arguments -/
theorem tie_totalWeightsStep (acc w : Int) :
    wrapInt (GoZero.Extracted.C15.totalWeightsStep acc w) = GoZero.C15.totalWeightsStep acc w := by
  unfold GoZero.Extracted.C15.totalWeightsStep GoZero.C15.totalWeightsStep
  by_cases h : w < 0 <;> simp [h]

/-- … started at 0, applied to every entry in order, and returned (model: `totalWeights`, a `foldl`) -/
theorem tie_totalWeightsFrame : GoZero.Extracted.C15.totalWeightsFrame = [
  "var weights int",
  "range _,node:=c",
  "return weights"] := rfl

/-- the constructors' refusal is `log.Fatal` (the process ends: model `UserInst.fatal`), cache.New's shortcut returns
the node built from entry 0 of a ONE-entry configuration -/
theorem tie_userBranches :
    GoZero.Extracted.C15.cacheFatalBranch = ["log.Fatal(\"no cache nodes\")"] ∧
    GoZero.Extracted.C15.kvFatalBranch = ["log.Fatal(\"no cache nodes\")"] ∧
    GoZero.Extracted.C15.cacheSingleBranch =
      ["return NewNode(redis.MustNewRedis(c[0].RedisConf), barrier, st, errNotFound, opts...)"] := ⟨rfl, rfl, rfl⟩

/-- **semantic tie of the constructors' decisions**: the lifted conditions of the source, applied to `len(c)` and the
model's `totalWeights`, decide exactly like the model's `userFatal` / the one-entry match of `cacheNew` -/
theorem tie_userFatal (conf : List (Node × Int)) :
    (userFatal conf = true ↔ GoZero.Extracted.C15.condCacheNoNode (conf.length : Nat) (totalWeights conf) = 1) ∧
    (userFatal conf = true ↔ GoZero.Extracted.C15.condKvNoNode (conf.length : Nat) (totalWeights conf) = 1) ∧
    ((∃ p, conf = [p]) ↔ GoZero.Extracted.C15.condCacheSingle (conf.length : Nat) = 1) := by
  have hc := tie_condUsers (conf.length : Nat) (totalWeights conf) 0
  refine ⟨?_, ?_, ?_⟩
  · rw [hc.1]; unfold userFatal; simp
  · rw [hc.2.1]; unfold userFatal; simp
  · rw [hc.2.2.1, ← List.length_eq_one_iff]
    omega

/-- a delegating entry point `X(p₁,…,pₙ)` is `return <recv>.XCtx(context.Background(), p₁,…,pₙ)`: same method, every
parameter forwarded, in order (a dropped, swapped or replaced argument breaks this) -/
def wrapperOk (recv : String) (e : String × List String × List String × String × List String) : Bool :=
  e.2.2.1 == [] || e.2.2.2.1 == "" ||
    (e.2.2.2.1 == recv ++ "." ++ e.1 ++ "Ctx" && e.2.2.2.2 == "context.Background()" :: e.2.1) ||
    -- a Ctx method built on another Ctx method of the same receiver (`ZaddCtx` → `ZaddFloatCtx`): the context first,
    -- the string parameters forwarded unchanged and in order
    (e.1.toList.reverse.take 3 == ['x', 't', 'C'] && e.2.2.2.1.toList.take 3 == (recv ++ ".").toList &&
      e.2.2.2.2.head? == some "ctx" &&
      e.2.2.2.2.filter (e.2.2.1.contains ·) == e.2.2.1)

/-- the key parameter is where the model (`kvKeyIndex`, `multiKey`) looks for it among the string parameters -/
def keyParamOk (e : String × List String × List String × String × List String) : Bool :=
  e.2.2.1 == [] ||
    (if e.2.2.1 == ["keys..."] then multiKey e.1 else e.2.2.1[kvKeyIndex e.1]? == some "key" && !multiKey e.1)

/-- **kv: all 130 entry points (and getRedis)** — every non-Ctx method forwards all its parameters to its Ctx variant, and the key the
model dispatches by is the method's `key` parameter (second string of `Eval`, first of all others; every key of `Del`) -/
theorem tie_kvEntryPoints :
    (GoZero.Extracted.C15.kvMethods.all fun e => wrapperOk "cs" e && keyParamOk e) = true ∧
    GoZero.Extracted.C15.kvMethods.length ≥ 131 := by decide +kernel

/-- **cache: all entry points** of cacheCluster likewise; their only string parameter is the key (`keys...` for `Del`) -/
theorem tie_cacheEntryPoints :
    (GoZero.Extracted.C15.cacheMethods.all fun e => wrapperOk "cc" e && keyParamOk e &&
      (e.2.2.1 == [] || e.2.2.1 == ["key"] || e.2.2.1 == ["keys..."])) = true ∧
    GoZero.Extracted.C15.cacheMethods.length = 13 := by decide +kernel

/-- **`AddWithWeight` ALWAYS delegates**, with `h.replicas * weight / TopWeight`: the whole body, translated, hands exactly
the model's `weightReplicas` to `AddWithReplicas` for every weight whose product fits an `int` — in particular it never
returns without the call (the translation would give -2^62 there), so the `Remove` inside `AddWithReplicas` runs also for weights ≤ 0 (an early return for
`replicas <= 0` falsifies this at weight 0) -/
theorem tie_addWithWeightCall (R : Nat) (weight : Int)
    (h : -9223372036854775808 ≤ (R : Int) * weight ∧ (R : Int) * weight < 9223372036854775808) :
    GoZero.Extracted.C15.addWithWeightCall weight (R : Int) GoZero.Extracted.C15.topWeight
      = GoZero.C15.weightReplicas R weight :=
  tie_weightReplicas R weight h

/-- … and for every weight it is the translated body applied to the wrapped product (never the no-call value) -/
theorem tie_addWithWeightCall_overflow (R : Nat) (weight : Int) :
    GoZero.Extracted.C15.addWithWeightCall (wrapInt ((R : Int) * weight)) 1 GoZero.Extracted.C15.topWeight
      = GoZero.C15.weightReplicas R weight :=
  tie_weightReplicas_overflow R weight

/-- **`Add` always delegates with `h.replicas`** (model `add`: `addWithReplicas … s.replicas`), whatever the state -/
theorem tie_addCall (H : Hasher) (s : CH) (n : Node) :
    add H s n = addWithReplicas H s n (GoZero.Extracted.C15.addCall (s.replicas : Int)) := rfl

/-- the statement skeleton as effects on `h.lock` (everything else is `work`, adjacent `work` merged) -/
def effsOfShape : List String → List Eff
  | "defer{" :: "call h.lock.Unlock" :: "}" :: rest => .deferUnlock :: effsOfShape rest
  | "defer{" :: "call h.lock.RUnlock" :: "}" :: rest => .deferRUnlock :: effsOfShape rest
  | "call h.lock.Lock" :: rest => .lock :: effsOfShape rest
  | "call h.lock.Unlock" :: rest => .unlock :: effsOfShape rest
  | "call h.lock.RLock" :: rest => .rlock :: effsOfShape rest
  | "call h.lock.RUnlock" :: rest => .runlock :: effsOfShape rest
  | _ :: rest => match effsOfShape rest with
    | .work :: more => .work :: more
    | more => .work :: more
  | [] => []

/-- **semantic tie of the lock discipline**: the effect lists read from the source ARE the model's (`getEffs`,
`removeEffs`, `addEffs`) — RLock/Lock immediately followed by the deferred unlock, all work after it — so by
`lock_released_however_it_ends` the lock is free however `Get` / `Remove` / `AddWithReplicas` end (an explicit unlock
instead of `defer`, or work between lock and defer, breaks this: `explicit_unlock_leaks`) -/
theorem tie_lockEffects :
    effsOfShape GoZero.Extracted.C15.getShape = getEffs ∧
    effsOfShape GoZero.Extracted.C15.removeShape = removeEffs ∧
    effsOfShape GoZero.Extracted.C15.addWithReplicasShape = addEffs := by decide +kernel

theorem tie_lock_panic_safe :
    PanicSafe (effsOfShape GoZero.Extracted.C15.getShape) ∧ PanicSafe (effsOfShape GoZero.Extracted.C15.removeShape) ∧
    PanicSafe (effsOfShape GoZero.Extracted.C15.addWithReplicasShape) := by
  rw [tie_lockEffects.1, tie_lockEffects.2.1, tie_lockEffects.2.2]
  exact lock_released_however_it_ends

/-- the `nodes` set: add / test / delete of the repr (model: `nodes` list, `contains`, `erase`) -/
theorem tie_nodeSetHelpers :
    GoZero.Extracted.C15.addNodeBody = ["h.nodes[nodeRepr] = lang.Placeholder"] ∧
    GoZero.Extracted.C15.containsNodeBody = ["_, ok := h.nodes[nodeRepr]", "return ok"] ∧
    GoZero.Extracted.C15.removeNodeBody = ["delete(h.nodes, nodeRepr)"] := ⟨rfl, rfl, rfl⟩

/-! ### core/lang/lang.go: the identity of nodes and keys (`repr(node)` is `lang.Repr(node)`, `tie_reprExprs`) -/

/-- `Repr`: nil → ""; a Stringer is asked BEFORE pointers are dereferenced; pointers are followed while non-nil;
the rest is `reprOfValue` (model: `reprOf`) -/
theorem tie_langReprFlow : GoZero.Extracted.C15.langReprFlow = [
  "if v == nil",
  "  return \"\"",
  "switch vt := v.(type)",
  "  case fmt.Stringer",
  "    return vt.String()",
  "val := reflect.ValueOf(v)",
  "for val.Kind() == reflect.Ptr && !val.IsNil()",
  "  val = val.Elem()",
  "return reprOfValue(val)"] := rfl

/-- the switch is on the dynamic type of the dereferenced value -/
theorem tie_reprSwitchHeader : GoZero.Extracted.C15.reprSwitchHeader = "vt := val.Interface().(type)" := rfl

/-- the order of the INTERFACE cases (a value can be both): `error` before `fmt.Stringer`; all other cases are
concrete types, of which a value has exactly one -/
theorem tie_reprSwitchOrder : GoZero.Extracted.C15.reprSwitch.map (·.1) = [
  "bool", "error", "float32", "float64", "fmt.Stringer", "int", "int8", "int16", "int32", "int64", "string",
  "uint", "uint8", "uint16", "uint32", "uint64", "[]byte", "default"] := rfl

section
attribute [local simp] GoVal.deref GoVal.caseName Width.suffix evalCase evSigned
  evUnsigned evFloat evString evBool evError evIdent evBytes GoVal.math convArg reprOfValue sprintDefault

/-- **SEMANTIC tie of `reprOfValue`**: the type switch as it stands in the source — for every case the function
called, the conversion applied to the value (`int(vt)`, `uint64(vt)`: two's-complement wrap-around), the base,
the float format / precision / bit size — INTERPRETED on every Go value that fits its type gives exactly the
model's `reprOfValue`.  (With `FormatInt(int64(vt), 10)` in the `uint64` case, which gives "-1" for MaxUint64,
the statement is false.) -/
theorem tie_reprSwitch_sem (v : GoVal) (hv : v.valid) (hn : v ≠ .nil) :
    switchEval GoZero.Extracted.C15.reprSwitch v.deref = some (reprOfValue v.deref) := by
  -- the table becomes the chain of its clauses once, before the value is split: each case then only compares names down to
  -- its clause (a `find?` over the table would re-simplify the rest of the table at every step, for every case)
  simp only [GoZero.Extracted.C15.reprSwitch, switchEval_cons]
  cases v with
  | nil => exact absurd rfl hn
  | int w x =>
    have h64 := wrapSigned_id .w64 x (by have := inSigned_64 w x hv; simpa [inSigned, Width.half] using this)
    cases w <;> simp [h64]
  | uint w x =>
    have h := inUnsigned_64 w x hv
    have h64 := wrapUnsigned_id .w64 x (by simpa [inUnsigned, Width.full] using h)
    cases w <;> simp [h64, h.1]
  | float s t => cases s <;> simp
  | _ => simp

end

/-- `lang.Repr` end to end: flow (tied above) + interpreted switch = the model's `reprOf` -/
theorem tie_langRepr_sem (v : GoVal) (hv : v.valid) :
    reprOf v = (if v = .nil then "" else
      match v.stringerText with
      | some s => s
      | none => (switchEval GoZero.Extracted.C15.reprSwitch v.deref).getD "?") := by
  unfold reprOf
  by_cases hn : v = .nil
  · simp [hn]
  · simp only [hn, if_false]
    cases hs : v.stringerText with
    | some s => rfl
    | none => simp [tie_reprSwitch_sem v hv hn]

/-- the default hash is murmur3 `Sum64` (Lean side: `Murmur.sum64`) -/
theorem tie_hashExprs : GoZero.Extracted.C15.hashExprs = [
  "ret:return murmur3.Sum64(data)",
  "call:murmur3.Sum64(data)"] := rfl

end GoZero.C15.Tie
