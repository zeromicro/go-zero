/-
C15 — the ring under its RWMutex: what a concurrent `Get` can observe (one writer, any number of readers; the
interleaving model is `Conc.lean`).
-/
import GoZero.C15.Props
import GoZero.C15.Conc
namespace GoZero.C15

/-! `Conc.exec H atomic ops (Conc.init R0) sched` is the state after the schedule `sched` (any list of "writer steps",
"reader t calls Get(k)", "reader t steps"; disabled steps are skipped).  `log` holds every Get that returned,
with its window `[lo, hi]` = [writer operations completed when it took the read lock, operations begun when it
returned].  AddWithReplicas is TWO critical sections (Remove, then the insertion), so a Get may see the ring
without the node in between; that — and nothing else — is what a concurrent Get can observe. -/

/-- **every concurrent Get is a sequential Get** on the state after a prefix of the writer's program inside its
window, or on the intermediate state (node removed, not yet re-inserted) of an adding operation in its window. -/
theorem conc_get_explained (H : Hasher) (atomic : Bool) (R0 : Int) (ops : List Op) (sched : List Conc.Act) :
    ∀ e ∈ (Conc.exec H atomic ops (Conc.init R0) sched).log, Conc.Explained H R0 ops e :=
  (Conc.good_exec H atomic R0 ops sched _ (Conc.good_init H R0 ops)).log

/-- **mutual exclusion**: while the writer is inside a critical section no reader is inside Get (so the two
reads of Get see one state), in every reachable state. -/
theorem conc_mutual_exclusion (H : Hasher) (atomic : Bool) (R0 : Int) (ops : List Op) (sched : List Conc.Act) (t : Conc.Tid)
    (h : Conc.holding (Conc.exec H atomic ops (Conc.init R0) sched).wpc = true) :
    (Conc.exec H atomic ops (Conc.init R0) sched).rpc t = .idle :=
  Conc.all_idle (Conc.good_exec H atomic R0 ops sched _ (Conc.good_init H R0 ops)) h t

/-- the intermediate state of an adding operation represents the membership without the node -/
theorem conc_mid_represents (H : Hasher) (R0 : Int) (ops : List Op) (n : Node) :
    Inv H (remove H (run H R0 ops) n) ((members R0 ops).del n.repr) :=
  inv_remove H _ _ n (reachable_represents H R0 ops)

theorem conc_mid_member (H : Hasher) (R0 : Int) (ops : List Op) (n k v : Node)
    (hv : get H (remove H (run H R0 ops) n) k = .node v) :
    v.repr ≠ n.repr ∧ ∃ c, (members R0 ops).find v.repr = some (v, c) ∧ 0 < c := by
  obtain ⟨c, hf, hc⟩ := get_member (conc_mid_represents H R0 ops n) k v hv
  rw [find_del] at hf
  split at hf
  · cases hf
  · rename_i hne
    exact ⟨hne, c, hf, hc⟩

/-- **a concurrent Get never panics** (no division by zero on the intermediate state either). -/
theorem conc_get_never_panics (H : Hasher) (atomic : Bool) (R0 : Int) (ops : List Op) (sched : List Conc.Act)
    (e : Conc.Obs) (he : e ∈ (Conc.exec H atomic ops (Conc.init R0) sched).log) : e.o ≠ .panic := by
  obtain ⟨j, _, _, _, h | ⟨_, op, n, r, _, _, h⟩⟩ := conc_get_explained H atomic R0 ops sched e he
  · rw [h]; exact get_never_panics_reachable H R0 _ _
  · rw [h]; exact get_never_panics (conc_mid_represents H R0 _ n) _

/-- **a concurrent Get returns only members**: the returned node is, with at least one virtual node, in the
membership after some prefix of the program inside the Get's window. -/
theorem conc_get_member_only (H : Hasher) (atomic : Bool) (R0 : Int) (ops : List Op) (sched : List Conc.Act)
    (e : Conc.Obs) (he : e ∈ (Conc.exec H atomic ops (Conc.init R0) sched).log) (v : Node) (hv : e.o = .node v) :
    ∃ j, e.lo ≤ j ∧ j ≤ e.hi ∧ ∃ c, (members R0 (ops.take j)).find v.repr = some (v, c) ∧ 0 < c := by
  obtain ⟨j, h1, h2, _, h | ⟨_, op, n, r, _, _, h⟩⟩ := conc_get_explained H atomic R0 ops sched e he
  · exact ⟨j, h1, h2, get_member_only H R0 _ e.k v (by rw [← h, hv])⟩
  · exact ⟨j, h1, h2, (conc_mid_member H R0 (ops.take j) n e.k v (by rw [← h, hv])).2⟩

/-- on the intermediate state of an operation that (re-)adds `n`, the node returned is a member BEFORE and
AFTER the operation, and it is not `n`. -/
theorem conc_mid_member_before_and_after (H : Hasher) (R0 : Int) (ops : List Op) (op : Op) (n k v : Node) (r : Int)
    (hop : Conc.opSplit (CH.new R0).replicas op = (n, some r))
    (hv : get H (remove H (run H R0 ops) n) k = .node v) :
    v.repr ≠ n.repr ∧ ∃ c, 0 < c ∧ (members R0 ops).find v.repr = some (v, c)
      ∧ (members R0 (ops ++ [op])).find v.repr = some (v, c) := by
  obtain ⟨hne, c, hf, hc⟩ := conc_mid_member H R0 ops n k v hv
  have hrepr : op.repr = n.repr := by rw [← Conc.opSplit_repr (CH.new R0).replicas op, hop]
  exact ⟨hne, c, hc, hf, by rw [members_find_other R0 ops op (by rw [hrepr]; exact hne)]; exact hf⟩

/-- **a removed node is never returned, concurrently**: a repr that is no member after any prefix inside the
Get's window (removed before the Get began, not re-added before it returned) is not the repr of the answer. -/
theorem conc_removed_never_returned (H : Hasher) (atomic : Bool) (R0 : Int) (ops : List Op) (sched : List Conc.Act)
    (e : Conc.Obs) (he : e ∈ (Conc.exec H atomic ops (Conc.init R0) sched).log) (rr : String)
    (hgone : ∀ j, e.lo ≤ j → j ≤ e.hi → (members R0 (ops.take j)).find rr = none)
    (v : Node) (hv : e.o = .node v) : v.repr ≠ rr := by
  obtain ⟨j, h1, h2, c, hf, _⟩ := conc_get_member_only H atomic R0 ops sched e he v hv
  intro heq
  rw [heq, hgone j h1 h2] at hf
  cases hf

/-- a Get that overlaps no writer operation (`lo = hi`) is the sequential Get after `lo` operations. -/
theorem conc_quiescent_get (H : Hasher) (atomic : Bool) (R0 : Int) (ops : List Op) (sched : List Conc.Act)
    (e : Conc.Obs) (he : e ∈ (Conc.exec H atomic ops (Conc.init R0) sched).log) (hq : e.lo = e.hi) :
    e.o = get H (run H R0 (ops.take e.lo)) e.k := by
  obtain ⟨j, h1, h2, _, h | ⟨hlt, _⟩⟩ := conc_get_explained H atomic R0 ops sched e he
  · have : j = e.lo := by omega
    rw [h, this]
  · omega

/-- **with AddWithReplicas as ONE critical section** (fixes/C15-add-single-critical-section.patch) every
concurrent Get is linearizable: it is the sequential Get after some prefix of the program inside its window —
the intermediate state does not exist. -/
theorem conc_atomic_get_linearizable (H : Hasher) (R0 : Int) (ops : List Op) (sched : List Conc.Act) :
    ∀ e ∈ (Conc.exec H true ops (Conc.init R0) sched).log, Conc.Linear H R0 ops e :=
  (Conc.goodAtomic_exec H R0 ops sched _ ⟨Conc.good_init H R0 ops, rfl, by simp [Conc.init]⟩).lin

set_option maxRecDepth 100000 in
/-- non-vacuity: a schedule in which reader 7 runs Get between the two critical sections of a re-add and
really sees the ring without the node (the only member: the answer is `none` although the ring holds `n`
before and after), and reader 8 sees it again afterwards. -/
example :
    let sched : List Conc.Act :=
      [.w, .w, .w, .w, .w,            -- addR n 3 complete
       .w, .w, .w,                    -- addW n 50: Remove done, insertion not begun
       .rget 7 ⟨"i", "1"⟩, .r 7, .r 7, .r 7,
       .w, .w,                        -- insertion
       .rget 8 ⟨"i", "1"⟩, .r 8, .r 8, .r 8]
    ((Conc.exec Pinned.W false [.addR Pinned.n 3, .addW Pinned.n 50] (Conc.init 0) sched).log.map
      fun e => (e.t, e.o, e.lo, e.hi)) = [(8, .node Pinned.n, 2, 2), (7, .none, 1, 2)] := by
  decide +kernel

/-- the single-writer hypothesis is needed: AddWithReplicas is not atomic, so two goroutines adding the same
node interleave as Remove, Remove, insert, insert — the node then owns every virtual node twice, one Remove
drops one copy only, and Get returns a node that `Remove` has removed (the `nodes` set no longer lists it,
so a further Remove is a no-op). At the granularity of the critical sections: -/
theorem two_writers_resurrect_removed :
    let H := Pinned.W
    let n := Pinned.n
    let s0 := CH.new 0
    let s1 := insertPhase H (insertPhase H (remove H (remove H s0 n) n) n 2) n 2   -- Add ∥ Add
    let s2 := remove H (remove H s1 n) n                                              -- Remove; Remove
    s2.nodes = [] ∧ get H s2 ⟨"i", "1"⟩ = .node n := by
  rw [Pinned.W_eq]; decide +kernel

end GoZero.C15
