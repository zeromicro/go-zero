/-
C15 — operations that do not complete: a user-supplied `String()` that panics or exits in one of the lock-free calls
leaves a reachable state; a panic INSIDE a critical section (hash func, `String()` of a stored node) may not; the lock
is released however a call ends (`lock-leak` monitor).
-/
import GoZero.C15.Props
namespace GoZero.C15

/-- a fault leaves the state as it was or as after `Remove` of the operation's node, and `specStepFault` follows it -/
theorem stepFault_cases (H : Hasher) (s : CH) (m : SMap) (op : Op) (nth : Nat) :
    (stepFault H s op nth = s ∧ specStepFault m op nth = m) ∨
    (stepFault H s op nth = remove H s op.node ∧ specStepFault m op nth = m.del op.node.repr) := by
  cases op with
  | remove n => exact Or.inl ⟨rfl, rfl⟩
  | add n | addR n _ | addW n _ =>
    by_cases h : nth ≤ 1
    · exact Or.inl ⟨if_pos h, if_pos h⟩
    · exact Or.inr ⟨if_neg h, if_neg h⟩

/-- **fault atomicity**: an operation that ends in one of its lock-free `String()` calls (panic with an error, with
another value, runtime error, `runtime.Goexit`) leaves the ring either as it was or as after `Remove(node)` — in both
cases a state the operations themselves can reach, so EVERY theorem about reachable states applies afterwards. -/
theorem fault_leaves_reachable_state (H : Hasher) (R0 : Int) (ops : List Op) (op : Op) (nth : Nat) :
    stepFault H (run H R0 ops) op nth = run H R0 ops ∨
    stepFault H (run H R0 ops) op nth = run H R0 (ops ++ [.remove op.node]) := by
  rcases stepFault_cases H (run H R0 ops) [] op nth with ⟨h, _⟩ | ⟨h, _⟩
  · exact Or.inl h
  · exact Or.inr (h.trans (run_snoc H R0 ops (.remove op.node)).symm)

/-- the abstract membership follows (`specStepFault`, what the driver's monitor uses) -/
theorem fault_state_represents (H : Hasher) (R0 : Int) (ops : List Op) (op : Op) (nth : Nat) :
    Inv H (stepFault H (run H R0 ops) op nth) (specStepFault (members R0 ops) op nth) := by
  rcases stepFault_cases H (run H R0 ops) (members R0 ops) op nth with ⟨h, hm⟩ | ⟨h, hm⟩
  · rw [h, hm]; exact reachable_represents H R0 ops
  · rw [h, hm]; exact inv_remove H _ _ op.node (reachable_represents H R0 ops)

/-- member-only after a fault: what `Get` returns is a member of the membership the fault left -/
theorem fault_get_member_only (H : Hasher) (R0 : Int) (ops : List Op) (op : Op) (nth : Nat) (k n : Node)
    (h : get H (stepFault H (run H R0 ops) op nth) k = .node n) :
    ∃ c, (specStepFault (members R0 ops) op nth).find n.repr = some (n, c) ∧ 0 < c :=
  get_member (fault_state_represents H R0 ops op nth) k n h

theorem fault_get_never_panics (H : Hasher) (R0 : Int) (ops : List Op) (op : Op) (nth : Nat) (k : Node) :
    get H (stepFault H (run H R0 ops) op nth) k ≠ .panic :=
  get_never_panics (fault_state_represents H R0 ops op nth) k

/-- a fault in the second lock-free `String()` call of `AddWithWeight`: `Remove` has run, nothing else -/
theorem stepFault_addW_two (H : Hasher) (R0 : Int) (ops : List Op) (n : Node) (w : Int) :
    stepFault H (run H R0 ops) (.addW n w) 2 = run H R0 (ops ++ [.remove n]) :=
  (run_snoc H R0 ops (.remove n)).symm

/-- the node of an adding operation that failed AFTER its `Remove` (second `String()` call) is not served any more —
stated for `AddWithWeight` and `nth = 2`; by `stepFault_cases` every adding operation and every `nth ≥ 2` leave the same state -/
theorem fault_after_remove_not_returned (H : Hasher) (R0 : Int) (ops : List Op) (n k v : Node) (w : Int)
    (h : get H (stepFault H (run H R0 ops) (.addW n w) 2) k = .node v) : v.repr ≠ n.repr :=
  removed_never_returned H R0 ops n k v (stepFault_addW_two H R0 ops n w ▸ h)

/-- a history in which any operation may end in a fault -/
inductive Ev where
  | op (o : Op)
  | fault (o : Op) (nth : Nat)

def stepEv (H : Hasher) (s : CH) : Ev → CH
  | .op o => step H s o
  | .fault o nth => stepFault H s o nth

def runEv (H : Hasher) (R0 : Int) (evs : List Ev) : CH := evs.foldl (stepEv H) (CH.new R0)

/-- **every history with faults is a fault-free history**: whatever operations end in a panicking / exiting
`String()`, at whichever call site, the ring is in a state that Add / AddWithReplicas / AddWithWeight / Remove alone can
reach — all theorems about `run` (member-only, history independence, minimal disruption, …) hold after it. -/
theorem faulty_history_is_reachable (H : Hasher) (R0 : Int) (evs : List Ev) :
    ∃ ops, runEv H R0 evs = run H R0 ops := by
  refine List.foldlRecOn (motive := fun s => ∃ ops, s = run H R0 ops) evs _ ⟨[], rfl⟩ fun s ⟨ops, hs⟩ e _ => ?_
  subst hs
  cases e with
  | op o => exact ⟨ops ++ [o], (run_snoc H R0 ops o).symm⟩
  | fault o nth =>
    rcases fault_leaves_reachable_state H R0 ops o nth with h | h
    · exact ⟨ops, h⟩
    · exact ⟨_, h⟩

/-- … in particular `Get` never panics after such a history -/
theorem faulty_history_get_never_panics (H : Hasher) (R0 : Int) (evs : List Ev) (k : Node) :
    get H (runEv H R0 evs) k ≠ .panic := by
  obtain ⟨ops, h⟩ := faulty_history_is_reachable H R0 evs
  rw [h]; exact get_never_panics_reachable H R0 ops k

set_option maxRecDepth 100000 in
/-- non-vacuity: a re-weighting of `n` that fails after `Remove` leaves the other node serving the key -/
example : get Pinned.W (stepFault Pinned.W (run Pinned.W 0 [.addR Pinned.n 3, .addR Pinned.x 4]) (.addW Pinned.n 50) 2)
    ⟨"s", "key0"⟩ = .node Pinned.x := by
  -- the fault leaves the state after `Remove(n)`, whose membership is that of a ring built from `x` alone
  rw [stepFault_addW_two, get_eq_of_members_eq Pinned.W 0 _ [.addR Pinned.x 4] (by decide)]
  decide +kernel

/-- a failure in the FIRST iteration of `Remove`'s loop leaves the ring as it was -/
theorem partialRemove_zero (H : Hasher) (s : CH) (n : Node) : partialRemove H s n 0 = s := by
  unfold partialRemove; split <;> simp

/-- a hash func that fails on its first call in the insertion loop: only the `nodes` set has changed, every lookup
answers as before -/
theorem partialInsert_zero_get (H : Hasher) (s : CH) (n : Node) (replicas : Int) (k : Node) :
    get H (partialInsert H s n replicas 0 false) k = get H s k := by
  unfold partialInsert
  simp [get, getRest, points]

/-- … so a hash func that fails on the very first call of an `Add` of a NEW node changes no answer -/
theorem hashFault_first_call_new_node (H : Hasher) (R0 : Int) (ops : List Op) (n : Node) (replicas : Int) (k : Node)
    (hnew : (run H R0 ops).nodes.contains n.repr = false) :
    get H (stepHashFault H (run H R0 ops) n replicas 0) k = get H (run H R0 ops) k := by
  unfold stepHashFault
  simp only [hnew, Bool.false_eq_true, if_false, Nat.not_lt_zero, Nat.sub_zero]
  rw [partialInsert_zero_get]
  unfold remove
  rw [hnew]; rfl

/-- **witness: a later failure inside the insertion loop leaves a state no history reaches.** The final `sort.Slice` is
not reached: the key slice is not the one of the ring built from the same virtual nodes (`x` with 4 virtual nodes and
`n` with 2), and the implementation offers no recovery. A hash func (and `String()` of stored nodes) must therefore not
panic: an assumption of the property.
What is STATED is only the right disjunct, that the two key slices differ. The slice is in fact not sorted
(`[135895, 135896, 135897, 135898, 134585, 134586]`), so `KeysOK.sorted` fails and by `inv_run` no history reaches the
state; that consequence is not part of the statement. -/
theorem hash_panic_in_insertion_breaks_property :
    (stepHashFault Pinned.W (run Pinned.W 0 [.addR Pinned.x 4]) Pinned.n 3 2).keys.Pairwise (· ≤ ·) = False ∨
    (stepHashFault Pinned.W (run Pinned.W 0 [.addR Pinned.x 4]) Pinned.n 3 2).keys
      ≠ (run Pinned.W 0 [.addR Pinned.x 4, .addR Pinned.n 2]).keys := by
  right; decide +kernel

/-- the lock is free however the call ends: after ANY number of effects (panic / Goexit / return there) -/
def PanicSafe (effs : List Eff) : Prop :=
  ∀ p, (effs[p]? = some .work ∨ effs.length ≤ p) → lockFree (lockAfter effs p) = true

/-- a panic can only come out of `work` (user code, runtime), the call can also end after its last effect -/
def exitPoint (effs : List Eff) (p : Nat) : Bool := effs[p]? == some .work || decide (effs.length ≤ p)

theorem lockAfter_ge (effs : List Eff) (p : Nat) (h : effs.length ≤ p) : lockAfter effs p = lockAfter effs effs.length := by
  unfold lockAfter
  rw [List.take_of_length_le h, List.take_of_length_le (Nat.le_refl _)]

/-- finitely many positions decide it -/
theorem panicSafe_of_check (effs : List Eff)
    (h : (List.range (effs.length + 1)).all (fun p => !exitPoint effs p || lockFree (lockAfter effs p)) = true) :
    PanicSafe effs := by
  intro p hx
  rw [List.all_eq_true] at h
  by_cases hp : p ≤ effs.length
  · have := h p (List.mem_range.mpr (by omega))
    have hx' : exitPoint effs p = true := by
      unfold exitPoint; rcases hx with hx | hx <;> simp [hx]
    simpa [hx'] using this
  · rw [lockAfter_ge effs p (by omega)]
    have := h effs.length (List.mem_range.mpr (by omega))
    have hx' : exitPoint effs effs.length = true := by unfold exitPoint; simp
    simpa [hx'] using this

/-- **soundness of the `lock-leak` monitor**: in the model `Get`, `Remove` and `AddWithReplicas` (so also `Add`,
`AddWithWeight`) leave the lock free wherever a user-supplied `String()` or the hash func stops them — the model's own
observation is always `locked=0`. -/
theorem lock_released_however_it_ends : PanicSafe getEffs ∧ PanicSafe removeEffs ∧ PanicSafe addEffs :=
  ⟨panicSafe_of_check _ (by decide), panicSafe_of_check _ (by decide), panicSafe_of_check _ (by decide)⟩

/-- `PanicSafe` can fail: the same body with an explicit unlock instead of `defer` leaks the read lock when the lookup
panics -/
theorem explicit_unlock_leaks : ¬ PanicSafe [.rlock, .work, .runlock] := by
  intro h
  have := h 1 (Or.inl rfl)
  revert this
  decide

end GoZero.C15
