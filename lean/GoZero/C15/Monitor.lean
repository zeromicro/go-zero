/-
C15 — soundness of the monitor's executable tests on represented states: a passed collision test implies `NoCollision`,
`memberOk` and `disruptOk` accept every answer of the model.
-/
import GoZero.C15.Disruption
namespace GoZero.C15

theorem adjDistinct_nodup : ∀ (l : List Nat), l.Pairwise (· ≤ ·) → adjDistinct l = true → l.Nodup
  | [], _, _ => List.nodup_nil
  | [_], _, _ => by simp
  | a :: b :: rest, hs, hd => by
    have hs' := List.pairwise_cons.mp hs
    simp only [adjDistinct, Bool.and_eq_true, bne_iff_ne] at hd
    refine List.nodup_cons.mpr ⟨fun hmem => ?_, adjDistinct_nodup (b :: rest) hs'.2 hd.2⟩
    -- `a` is below every later entry, and `b` is the least of them
    exact hd.1 (Nat.le_antisymm (hs'.1 b List.mem_cons_self)
      (List.forall_mem_cons.mpr ⟨Nat.le_refl b, (List.pairwise_cons.mp hs'.2).1⟩ a hmem))

theorem allPoints_nodup_entries (H : Hasher) (m : SMap) (hnd : (allPoints H m).Nodup) :
    ∀ p1 ∈ m, ∀ p2 ∈ m, ∀ i1 i2, i1 < p1.2 → i2 < p2.2 →
      H.point p1.1.repr i1 = H.point p2.1.repr i2 → p1 = p2 ∧ i1 = i2 := by
  -- the points of one entry are distinct, the points of two entries at different positions are disjoint
  obtain ⟨hq, hdisj⟩ := List.pairwise_flatMap.mp hnd
  have pt : ∀ (p : Node × Nat) i, i < p.2 → H.point p.1.repr i ∈ points H p.1.repr p.2 :=
    fun p i hi => mem_points.mpr ⟨i, hi, rfl⟩
  refine List.Pairwise.forall_of_forall_of_flip ?_ ?_ ?_
  · intro p hp i1 i2 h1 h2 he
    exact ⟨rfl, map_range_inj _ _ (hq p hp) i1 i2 h1 h2 he⟩
  · exact hdisj.imp fun h i1 i2 h1 h2 he => absurd he (h _ (pt _ i1 h1) _ (pt _ i2 h2))
  · exact hdisj.imp fun h i1 i2 h1 h2 he => absurd he.symm (h _ (pt _ i2 h2) _ (pt _ i1 h1))

/-- the collision test of the monitor is sound for `NoCollision`, the global hypothesis of the minimal-disruption theorems. -/
theorem noCollision_sound (H : Hasher) (m : SMap) (h : noCollision H m = true) : NoCollision H m := by
  unfold noCollision at h
  have hnd : (allPoints H m).Nodup :=
    ((sortKeys_perm _).nodup_iff).mp (adjDistinct_nodup _ (sortKeys_sorted _) h)
  intro r1 r2 n1 c1 n2 c2 i1 i2 h1 h2 hi1 hi2 he
  obtain rfl : n1.repr = r1 := by simpa using List.find?_some h1
  obtain rfl : n2.repr = r2 := by simpa using List.find?_some h2
  obtain ⟨hp, hi⟩ := allPoints_nodup_entries H m hnd (n1, c1) (List.mem_of_find?_eq_some h1) (n2, c2)
    (List.mem_of_find?_eq_some h2) i1 i2 hi1 hi2 he
  cases hp
  exact ⟨rfl, hi⟩

theorem memberOk_sound {H : Hasher} {s : CH} {m : SMap} (hi : Inv H s m) (k : Node) :
    memberOk m (get H s k) = true := by
  cases hg : get H s k with
  | panic => exact absurd hg (get_never_panics hi k)
  | none =>
    have h0 := (get_none_iff hi k).mp hg
    simp only [memberOk, List.all_eq_true]
    intro p _
    simp [h0]
  | node n =>
    obtain ⟨c, hf, hc⟩ := get_member hi k n hg
    simp only [memberOk, hf]
    simp [hc]

theorem disruptOk_sound {H : Hasher} {s s' : CH} {m m' : SMap} (hi : Inv H s m) (hi' : Inv H s' m')
    (r : String) (hagree : ∀ r', r' ≠ r → m.find r' = m'.find r') (k : Node)
    (hloc : landsAlone H s s' k = true) :
    disruptOk r (decide (m.cnt r > 0)) (decide (m'.cnt r > 0)) (get H s k) (get H s' k) = true := by
  have hloc' : (landing H s k).length ≤ 1 ∨ (landing H s' k).length ≤ 1 := by simpa [landsAlone] using hloc
  rcases step_moves_only hi hi' r hagree k hloc' with h | ⟨v, hv, hr⟩ | ⟨v, hv, hr⟩
  · unfold disruptOk; rw [h]; simp
  · have hw := get_cnt_pos hi hv
    have hp := get_never_panics hi' k
    rw [hr] at hw
    rw [hv]
    generalize get H s' k = o' at hp ⊢
    cases o' <;> simp [disruptOk, hw, hr] at hp ⊢
  · have hw := get_cnt_pos hi' hv
    have hp := get_never_panics hi k
    rw [hr] at hw
    rw [hv]
    generalize get H s k = o at hp ⊢
    cases o <;> simp [disruptOk, hw, hr] at hp ⊢

end GoZero.C15
