/-
C15 — driver: replays an implementation trace through the model (correspondence) and the monitor.

cfg:  ctor=default|custom hash=murmur|fnv|coll mod=<m> replicas=<int> probes=<key,...>
ops:  add <node> | addr <node> <replicas> | addw <node> <weight> | remove <node> | get <key>
      gadd | gaddr | gaddw …   the same through a gated Stringer: the harness stops the writer at every
                               `String()` call made while the lock is free and lets reader goroutines look
      storm <readers> <gets> <key,…> <op;op;…>   free-running readers against a writer program
      build <addr>/<weight>,…  (cfg user=cache|kv) the ring as cache.New / kv.NewStore build it
obs:  mutating: nk= nr= nn= ck= rk= g=<Get per probe> f=<Get per probe on a freshly built instance>
      gated:    sig=<n> | <snapshot at signal 1> | … | <final observation as for a mutating op>
      storm:    <final observation> r=<keyidx/lo/hi/answer,…>   (distinct reader observations)
      build:    g=<addr of the node each probe is dispatched to | ->
      get:      <node> | - | PANIC
-/
import GoZero.Base.Trace
import GoZero.C15.Hash
import GoZero.C15.Spec
import GoZero.C15.Repr
namespace GoZero.C15

open GoZero

/-- a value token `<kind>:<text of the value>`; the repr is computed by the MODEL of lang.Repr -/
def parseTyped (tok : String) : Option GoVal :=
  match tok.splitOn ":" with
  | kind :: rest@(_ :: _) => parseGoVal kind (":".intercalate rest)
  | _ => none

def parseValue (tok : String) : Option Node := (parseTyped tok).map GoVal.toNode

def hexOf (s : String) : String :=
  if s = "" then "-" else
  String.ofList (s.toUTF8.toList.flatMap fun b =>
    [Nat.digitChar (b.toNat / 16), Nat.digitChar (b.toNat % 16)])

/-- the `repr` operation: lang.Repr of a list of values. Correspondence: the model's `reprOf`. Monitor: two values
that are different nodes for the specification (different numbers, different texts: the model's `reprOf` differs,
`repr_numeric_injective`) must not get the same Repr, or one would evict / remove the other in the ring. -/
def checkReprs (r : Report) (sec line : Nat) (toks : List String) (vals : List GoVal) (impl : List String) : Report := Id.run do
  let mut r := r
  let mine := vals.map fun v => hexOf (reprOf v)
  if mine ≠ impl then r := r.mismatch sec line (",".intercalate mine) (",".intercalate impl)
  let rows := toks.zip (vals.zip impl)
  let mut i := 0
  for (ta, va, ia) in rows do
    i := i + 1
    for (tb, vb, ib) in rows.drop i do
      if ia == ib && !sameSlot va vb then
        r := r.violation sec line s!"repr-alias: lang.Repr gives the same text (hex {ia}) for {ta} and {tb}: two different nodes would share one ring slot (one evicts / removes the other)"
      if sameSlot va vb && ta ≠ tb then r := r.addCover "repr-same-slot-by-design"
  for v in vals do
    r := r.addCover s!"repr-case-{v.deref.caseName}"
    if v.stringerText.isSome then r := r.addCover "repr-stringer-first"
    match v.math with
    | some x =>
      if x < 0 then r := r.addCover "repr-negative"
      if x ≥ 9223372036854775808 then r := r.addCover "repr-above-maxint64"
      if x = 18446744073709551615 then r := r.addCover "repr-maxuint64"
      if x = -9223372036854775808 then r := r.addCover "repr-minint64"
    | none => pure ()
  return r

def parseOp : List String → Option Op
  | ["add", n] => do pure (.add (← parseValue n))
  | ["addr", n, r] => do pure (.addR (← parseValue n) (← r.toInt?))
  | ["addw", n, w] => do pure (.addW (← parseValue n) (← w.toInt?))
  | ["remove", n] => do pure (.remove (← parseValue n))
  | _ => none

def parseOutcome (tok : String) : Option Outcome :=
  if tok = "-" then some .none
  else if tok = "PANIC" then some .panic
  else (parseValue tok).map .node

def showOutcome : Outcome → String
  | .none => "-"
  | .panic => "PANIC"
  | .node n => nodeToken n

def hasherOf (hash : String) (mod : Nat) : Hasher :=
  let f : String → Nat :=
    if hash = "murmur" then fun s => (Murmur.sum64 (bytesOf s)).toNat
    else if hash = "coll" then fun s => (fnv1a64 (bytesOf s)).toNat % mod
    else fun s => (fnv1a64 (bytesOf s)).toNat
  Hasher.ofFunc f

def mix (d : UInt64) (v : UInt64) : UInt64 := d * 1099511628211 + v

def digestKeys (keys : List Nat) : UInt64 :=
  keys.foldl (fun d k => mix d k.toUInt64) 14695981039346656037

def digestRing (ring : List (Nat × List Node)) : UInt64 :=
  let sorted := ring.mergeSort (fun a b => a.1 ≤ b.1)
  sorted.foldl (fun d p =>
    let d := mix d p.1.toUInt64
    let d := p.2.foldl (fun d n =>
      mix ((bytesOf (nodeToken n)).foldl (fun d b => mix d b.toUInt64) d) 255) d
    mix d 254) 14695981039346656037

/-- model-side rendering of a mutating operation's observation (without `f=`) -/
def observe (H : Hasher) (s : CH) (probes : List Node) : String :=
  s!"nk={s.keys.length} nr={s.ring.length} nn={s.nodes.length} ck={digestKeys s.keys} rk={digestRing s.ring} g="
    ++ ",".intercalate (probes.map fun p => showOutcome (get H s p))

def branchOf (s : CH) (m : SMap) (op : Op) : String :=
  let isM := (m.find op.repr).isSome
  match op with
  | .add _ => if isM then "add-existing" else "add-new"
  | .addR _ r =>
    (if isM then "addr-existing" else "addr-new") ++
      (if r ≤ 0 then "-nonpositive" else if r > (s.replicas : Int) then "-clamped" else "")
  | .addW _ w =>
    (if isM then "addw-existing" else "addw-new") ++
      (if w ≤ 0 then "-nonpositive" else if w > 100 then "-clamped" else "")
  | .remove _ => if isM then (if m.cnt op.repr < s.replicas then "remove-fewer-replicas" else "remove") else "remove-absent"


/-- split observation tokens at `|` -/
def splitBar (toks : List String) : List (List String) :=
  toks.foldr (fun t acc => if t = "|" then [] :: acc else
    match acc with
    | [] => [[t]]
    | a :: rest => (t :: a) :: rest) [[]]

/-- membership of an answer in the map before or after an operation (what a concurrent Get may return) -/
def memberEither (m m' : SMap) (o : Outcome) : Bool :=
  match o with
  | .node _ => memberOk m o || memberOk m' o
  | .none => true
  | .panic => false

def isAdd : Op → Bool
  | .remove _ => false
  | _ => true

def opNode (op : Op) : Node := op.node

/-- what the caller of an operation recovers when a `String()` ended with fault `kind` -/
def faultToken (kind : String) : String :=
  if kind = "err" then "err:boom" else if kind = "str" then "str:boom" else kind

/-- states a reader may see while the writer runs `prog` from `s`: after j operations (`.1`) and, for an
adding operation j, the intermediate state without the node (`.2`) -/
def stormStates (H : Hasher) (s : CH) (prog : List Op) : List (CH × Option CH) :=
  match prog with
  | [] => [(s, none)]
  | op :: rest =>
    (s, if isAdd op then some (remove H s (opNode op)) else none) :: stormStates H (step H s op) rest

/-- the implementation's own sequential answers, `S<j>/a;a;…` and `M<j>/a;a;…` -/
def parseRef (t : String) : Option (List (Bool × Nat × List String)) :=
  (t.splitOn ",").mapM fun e =>
    match e.splitOn "/" with
    | tag :: rest@(_ :: _) =>
      let isMid := tag.startsWith "M"
      if !(isMid || tag.startsWith "S") then none else
      ((tag.drop 1).toString.toNat?).map fun j => (isMid, j, ("/".intercalate rest).splitOn ";")
    | _ => none

def refLookup (ref : List (Bool × Nat × List String)) (mid : Bool) (j ki : Nat) : Option String :=
  (ref.find? fun e => e.1 == mid && e.2.1 == j).bind fun e => e.2.2[ki]?

/-- is the concurrent answer for key index `ki` in window [lo, hi] one of the implementation's sequential
answers in that window (after j operations, lo ≤ j ≤ hi; or inside adding operation j, lo ≤ j < hi)? -/
def explainedByRef (ref : List (Bool × Nat × List String)) (ki lo hi : Nat) (ans : String) (withMid : Bool := true) : Bool :=
  (List.range (hi + 1)).any fun j =>
    lo ≤ j && (refLookup ref false j ki == some ans || (withMid && j < hi && refLookup ref true j ki == some ans))

def parseProg (t : String) : Option (List Op) :=
  if t = "-" then some [] else
  (t.splitOn ";").mapM fun o => parseOp ((o.splitOn "_").filter (· ≠ ""))

def parseOutcomes (s : String) : Option (List Outcome) :=
  if s = "" then some [] else (s.splitOn ",").mapM parseOutcome

/-- the monitor on the answers after a mutating operation (shared by plain, gated and storm lines) -/
def checkAnswers (r : Report) (sec line : Nat) (hash opS : String) (op : Op) (probes : List Node)
    (m : SMap) (wasMember isMember collBefore collAfter : Bool) (prev g f : List Outcome)
    (alone : List Bool := []) : Report := Id.run do
  let mut r := r
  for (k, o) in probes.zip g do
    if o == .panic then
      r := r.violation sec line s!"panic: Get {showOutcome (.node k)} panics after [{opS}]"
    else if !memberOk m o then
      r := r.violation sec line s!"member-only: Get {showOutcome (.node k)} returned {showOutcome o} after [{opS}]"
  for (k, o, o') in probes.zip (g.zip f) do
    if o != o' then
      r := r.violation sec line s!"history-dependent: Get {showOutcome (.node k)} is {showOutcome o} but {showOutcome o'} on an instance built from the same members, after [{opS}]"
  if collBefore && collAfter then
    r := r.addCover "disruption-checked"
    for (k, o, o') in probes.zip (prev.zip g) do
      if o != o' then r := r.addCover "probe-moved"
      if !disruptOk op.repr wasMember isMember o o' then
        r := r.violation sec line s!"disruption: Get {showOutcome (.node k)} moved {showOutcome o} -> {showOutcome o'} by [{opS}]"
  else
    -- a ring with colliding virtual nodes: minimal disruption still holds for every probe served by an unshared
    -- virtual node before or after the operation (`monitor_sound_disruption_local`)
    r := r.addCover s!"disruption-local-collision-{hash}"
    for (k, o, o', a) in probes.zip (prev.zip (g.zip alone)) do
      if a then
        r := r.addCover "disruption-checked-local"
        if o != o' then r := r.addCover "probe-moved-local"
        if !disruptOk op.repr wasMember isMember o o' then
          r := r.violation sec line s!"disruption: Get {showOutcome (.node k)} moved {showOutcome o} -> {showOutcome o'} by [{opS}] (ring with collisions; this key is served by an unshared virtual node)"
      else
        r := r.addCover "disruption-skipped-probe-on-shared-virtual-node"
  if g.any (fun o => match o with | .node _ => true | _ => false) then pure () else r := r.addCover "all-none"
  return r

def kindCover (r : Report) (pre : String) (n : Node) : Report :=
  let r := if n.kind ∈ ["f", "g", "b", "z", "u", "o", "e", "x", "a", "h", "w", "n", "c", "k", "m", "d", "r", "y", "q"] then r.addCover s!"{pre}-kind-{n.kind}" else r
  let r := if n.kind ∈ ["i", "j", "a", "h", "w", "d", "r"] && n.repr.startsWith "-" then r.addCover s!"{pre}-negative-integer" else r
  let r := if n.repr ∈ ["18446744073709551615", "9223372036854775808", "-9223372036854775808", "NaN", "+Inf", "-Inf", "<nil>", ""] then
    r.addCover s!"{pre}-extreme-{n.repr}" else r
  r

/-- two members with virtual nodes whose numbers differ by exactly 2^8, 2^16, 2^32 or 2^64: what a `Repr` that
confuses signedness or width would put into one slot -/
def hasTwins (m : SMap) : Bool :=
  let nums := m.filterMap fun p => if p.2 > 0 && p.1.kind ∈ ["i", "j", "a", "h", "w", "n", "c", "k", "m", "u", "d", "r"] then p.1.repr.toInt? else none
  nums.any fun x => nums.any fun y => x - y ∈ [(256 : Int), 65536, 4294967296, 18446744073709551616]

/-- `<addr>/<weight>,…` (or `-` for the empty configuration) as the configuration the constructors get -/
def parseUserConf (kind : String) (t : String) : Option (List (Node × Int)) :=
  if t = "-" then some [] else
  (t.splitOn ",").mapM fun e =>
    match e.splitOn "/" with
    | [a, w] => do pure ({ kind := kind, repr := a }, (← w.toInt?))
    | _ => none

def showAddr : Outcome → String
  | .node n => n.repr | .none => "-" | .panic => "PANIC"

/-- `<addr>/<cmd>/<key|key…>` -/
def parseRec (t : String) : Option (String × String × List String) :=
  match t.splitOn "/" with
  | [a, c, ks] => some (a, c, if ks = "" then [] else ks.splitOn "|")
  | _ => none

def dedupSorted (l : List String) : List String :=
  (l.mergeSort (· ≤ ·)).foldr (fun a acc => if acc.head? = some a then acc else a :: acc) []

def runUserSection (r : Report) (sec : Section) (user : String) (probes : List Node) : Report := Id.run do
  let H := hasherOf "murmur" 1
  let kind := if user = "cache" then "t" else "p"
  let mut r := r.addCover s!"user-{user}"
  -- the previous instance of this section: (membership as sorted (address, virtual nodes), conf, dispatch addresses)
  let mut prevBuild : Option (List (String × Nat) × String × List String) := none
  -- the instance the `call` operations work on
  let mut inst : UserInst := .fatal
  let mut mInst : SMap := []
  let mut confInst : String := "-"
  -- the implementation's OWN dispatcher.Get answer per probe key on that instance (the `g=` of its `build` line)
  let mut implMap : List (String × String) := []
  for l in sec.lines do
    r := { r with ops := r.ops + 1 }
    match l.op with
    | [b, conf] =>
      if b ≠ "build" ∧ b ≠ "buildx" then r := r.mismatch sec.idx l.idx "bad-op" (joinSp l.op) else
      match parseUserConf kind conf with
      | none => r := r.mismatch sec.idx l.idx "bad-op" (joinSp l.op)
      | some cf =>
        let ops : List Op := cf.map fun p => .addW p.1 p.2
        -- NewConsistentHash() = NewCustomConsistentHash(minReplicas, Hash)
        let ui := userNew user H cf
        let m := ops.foldl (specStep (CH.new (minReplicas : Int)).replicas) []
        if b = "buildx" then r := r.addCover "build-in-child-process"
        let impl := joinSp l.obs
        r := r.addCover s!"build-{ops.length}-nodes"
        if ops.any (fun o => match o with | .addW _ w => w > 100 | _ => false) then r := r.addCover "build-weight-above-100"
        if ops.any (fun o => match o with | .addW _ w => w ≤ 0 | _ => false) then r := r.addCover "build-weight-nonpositive"
        let weighted := cf.filter fun p => p.2 > 0
        if cf.length ≥ 2 && weighted.length == 1 then
          r := r.addCover "build-one-weighted-node"
          if (cf.head?.map fun p => decide (p.2 > 0)) == some false then r := r.addCover "build-one-weighted-node-not-first"
        if !(noCollision H m) then r := r.addCover "build-colliding-addresses"
        if m.length < ops.length then r := r.addCover "build-duplicate-address"
        match ui with
        | .fatal =>
          -- the constructor terminates the process: no instance, no dispatch
          r := r.addCover (if cf.isEmpty then "build-fatal-empty-conf" else "build-fatal-no-positive-weight")
          if impl ≠ "FATAL" then r := r.mismatch sec.idx l.idx "FATAL" impl
          -- the property on what the implementation did instead: an instance built from nodes none of which owns a
          -- virtual node must not send any key anywhere
          match (kv? l.obs "g").map (fun g => g.splitOn ",") with
          | some addrs =>
            for (k, a) in probes.zip addrs do
              if a ≠ "-" then
                r := r.violation sec.idx l.idx s!"member-only: {user} dispatch of {showOutcome (.node k)} goes to {a} although no configured node has a positive weight, conf=[{conf}]"
          | none => pure ()
          if b = "build" then
            inst := .fatal
            mInst := m
            confInst := conf
            implMap := []
        | _ =>
        -- cache.New with a single configured node returns that node itself (no ring)
        let direct := match ui with | .direct _ => true | _ => false
        if direct then r := r.addCover "build-single-node-no-ring"
        let outs := probes.map fun p => ui.dispatch H p
        let mine := "g=" ++ ",".intercalate (outs.map showAddr)
        if mine ≠ impl then r := r.mismatch sec.idx l.idx mine impl
        if outs.all (· == .none) then r := r.addCover "build-ring-without-virtual-nodes"
        if b = "build" then
          inst := ui
          mInst := m
          confInst := conf
        -- monitor on the implementation's answers: dispatch goes to a configured node with virtual nodes
        match (kv? l.obs "g").map (fun g => g.splitOn ",") with
        | none =>
          if impl = "FATAL" then r := r.addCover "build-fatal-unexpected" else r := r.mismatch sec.idx l.idx "bad-obs" impl
        | some addrs =>
          -- multi-instance: two instances built from the same membership (other order of the entries) dispatch alike
          let norm := ((m.map fun p => (p.1.repr, p.2)).mergeSort fun a b => a.1 ≤ b.1)
          match prevBuild with
          | some (pm, pconf, paddrs) =>
            if pm == norm && pconf ≠ conf && ops.length > 1 && (pconf.splitOn ",").length > 1 then
              r := r.addCover "build-same-members-other-order"
              for (k, a, b) in probes.zip (paddrs.zip addrs) do
                if a ≠ b then
                  r := r.violation sec.idx l.idx s!"history-dependent: {user} dispatch of {showOutcome (.node k)} goes to {b} but to {a} on an instance built from the same nodes and weights in another order, conf=[{conf}] other=[{pconf}]"
          | none => pure ()
          prevBuild := some (norm, conf, addrs)
          if b = "build" then implMap := (probes.map (·.repr)).zip addrs
          for (k, a) in probes.zip addrs do
            let o : Outcome := if a = "-" then .none else if a = "PANIC" then .panic else .node { kind := kind, repr := a }
            -- also for the single node that cache.New returns directly: it is the one configured node, and its weight
            -- is positive (the constructor would have refused the configuration otherwise)
            if direct then
              if (match cf with | [p] => p.1.repr != a || decide (p.2 ≤ 0) | _ => true) then
                r := r.violation sec.idx l.idx s!"member-only: {user} dispatch of {showOutcome (.node k)} goes to {a}, not the configured node with a positive weight, conf=[{conf}]"
            else if !memberOk m o then
              r := r.violation sec.idx l.idx s!"member-only: {user} dispatch of {showOutcome (.node k)} goes to {a}, conf=[{conf}]"
    | ["call", method, strsT] =>
      -- a public method of the instance built last: entry point → Ctx variant → dispatcher.Get(key) → node → redis command
      let strs := strsT.splitOn ","
      let base := (method.splitOn "+").headD method
      let keys := callKeys user base strs
      let targets := callTargets H inst user base strs
      r := r.addCover s!"call-{user}-{base}"
      match (method.splitOn "+")[1]? with
      | some v => r := r.addCover s!"call-outcome-{v}"
      | none => pure ()
      if keys.length > 1 then r := r.addCover "call-several-keys"
      if (dedupSorted (targets.map showAddr)).length > 1 then r := r.addCover "call-keys-on-several-nodes"
      if strs.length > keys.length then r := r.addCover "call-with-other-strings"
      match inst with
      | .direct _ => r := r.addCover "call-on-direct-node"
      | _ => pure ()
      if targets.any (· == .none) then r := r.addCover "call-key-without-node"
      match (kvStr l.obs "c" "?") with
      | "?" => r := r.mismatch sec.idx l.idx "bad-obs" (joinSp l.obs)
      | c =>
        let recsT := if c = "-" then [] else c.splitOn ";"
        match recsT.mapM parseRec with
        | none => r := r.mismatch sec.idx l.idx "bad-obs" c
        | some recs =>
          -- correspondence: the set of nodes that received a command
          let mine := dedupSorted ((targets.filter (· != .none)).map showAddr)
          let seen := dedupSorted (recs.map (·.1))
          if mine ≠ seen then r := r.mismatch sec.idx l.idx (",".intercalate mine) (",".intercalate seen)
          -- the monitor compares with the implementation's own ring (what its dispatcher answered for that key when the
          -- instance was built): a method that forwards another string than its key, drops a key or mixes keys up sends
          -- the command to another node than the ring's. (Keys of calls are probe keys; the model is the fallback.)
          let expectedOf : String → String := fun k => match implMap.find? (·.1 == k) with
            | some p => p.2
            | none => showAddr (inst.dispatch H (strKey k))
          -- multi-key Del: the model produces the commands themselves (which keys travel together to which node)
          if multiKey base then
            let render (cs : List (String × List String)) : List String :=
              (cs.map fun c => c.1 ++ "/" ++ "|".intercalate c.2).mergeSort (· ≤ ·)
            let mineC := render (callCommands H inst user base strs)
            let seenC := render (recs.map fun x => (x.1, x.2.2))
            if mineC ≠ seenC then r := r.mismatch sec.idx l.idx (";".intercalate mineC) (";".intercalate seenC)
            if mineC.length > 1 then r := r.addCover "call-del-split-over-several-nodes"
          for (addr, cmd, shown) in recs do
            r := r.addCover "call-command"
            -- the node must be one the property allows at all
            let o : Outcome := .node { kind := kind, repr := addr }
            let isDirect := match inst with | .direct n => n.repr == addr | _ => false
            if !isDirect && !memberOk mInst o then
              r := r.violation sec.idx l.idx s!"member-only: {user}.{method} sent {cmd} to {addr}, which owns no virtual node, conf=[{confInst}]"
            else if !cmdOk expectedOf (multiKey base) keys (addr, shown) then
              -- `cmdOk` (Spec.lean) is proven sound for the model: `monitor_sound_dispatch`
              let bad := if multiKey base then dedupSorted (shown.filter fun k => keys.contains k && expectedOf k != addr) else keys
              r := r.violation sec.idx l.idx s!"dispatch: {user}.{method} sent {cmd} to {addr} but the ring maps its key {",".intercalate bad} to {",".intercalate (bad.map expectedOf)}, conf=[{confInst}] args=[{strsT}]"
    | _ => r := r.mismatch sec.idx l.idx "bad-op" (joinSp l.op)
  return r

def runSection (r : Report) (sec : Section) : Report := Id.run do
  let hash := kvStr sec.cfg "hash" "murmur"
  let H := hasherOf hash (kvNat sec.cfg "mod" 1)
  let mut r := r
  let probesStr := kvStr sec.cfg "probes" ""
  let probes ← match (if probesStr = "" then some [] else (probesStr.splitOn ",").mapM parseValue) with
    | some p => pure p
    | none => return r.mismatch sec.idx 0 "bad-cfg" probesStr
  match kv? sec.cfg "user" with
  | some user => return runUserSection r sec user probes
  | none => pure ()
  let replicas ← match (kv? sec.cfg "replicas").bind String.toInt? with
    | some v => pure v
    | none => return r.mismatch sec.idx 0 "bad-cfg" "replicas"
  let mut s := CH.new replicas
  let mut m : SMap := []
  let mut prev : List Outcome := probes.map fun _ => .none
  r := r.addCover s!"hash-{hash}"
  for p in probes do r := kindCover r "probe" p
  if probes.any (fun p => p.kind = "r") then return r.mismatch sec.idx 0 "bad-cfg" "pointer probe"
  for l in sec.lines do
    r := { r with ops := r.ops + 1 }
    match (if l.op.head? ∈ [some "hadd", some "haddr", some "haddw"] then "hashfault" :: l.op else l.op) with
    | ["repr", vs] =>
      let toks := vs.splitOn ","
      match toks.mapM parseTyped with
      | none => r := r.mismatch sec.idx l.idx "bad-op" (joinSp l.op)
      | some vals =>
        r := r.addCover "repr-op"
        r := checkReprs r sec.idx l.idx toks vals ((joinSp l.obs).splitOn ",")
    | ["get", k] =>
      match (parseValue k).bind (fun n => if n.kind = "r" then none else some n) with   -- `%v` of a pointer is an address
      | none => r := r.mismatch sec.idx l.idx "bad-op" (joinSp l.op)
      | some key =>
        let out := get H s key
        let impl := joinSp l.obs
        r := r.addCover (match out with | .none => "get-none" | .node _ => "get-node" | .panic => "get-panic")
        if showOutcome out ≠ impl then r := r.mismatch sec.idx l.idx (showOutcome out) impl
        match parseOutcome impl with
        | none => r := r.mismatch sec.idx l.idx "bad-obs" impl
        | some o =>
          if !memberOk m o then
            r := r.violation sec.idx l.idx s!"member-only: Get {k} returned {impl}, members=[{joinSp (m.map fun p => s!"{showOutcome (.node p.1)}*{p.2}")}]"
    | ["pget", _, kind] =>
      -- Get with a Stringer key whose String() does not return: it is called under the read lock, after the test for
      -- the empty ring. The ring is unchanged, and the lock must have been released.
      r := r.addCover s!"fault-get-{kind}"
      let expectP := if s.ring.isEmpty then "ok" else faultToken kind
      if s.ring.isEmpty then r := r.addCover "fault-get-empty-ring-string-not-called"
      -- the model's own observation of the lock: `Get`'s effects interrupted at the lookup (position 2)
      let lockedM := if lockFree (lockAfter getEffs 2) then "0" else "1"
      let mine := s!"P={expectP} locked={lockedM} g=-"
      let impl := joinSp l.obs
      if mine ≠ impl then r := r.mismatch sec.idx l.idx mine impl
      if kvStr l.obs "locked" "?" ≠ "0" then
        r := r.violation sec.idx l.idx s!"lock-leak: Get left the ring locked when String() of the key ended with {kind}: every later Add / Remove blocks for ever and no key is served any more"
    | "hashfault" :: hop :: node :: restH =>
      -- the k-th hash func call of the operation does not return: a panic under the write lock, inside a loop
      let plainToks := (hop.drop 1).toString :: node :: restH.take (restH.length - 2)
      let kM := (restH[restH.length - 2]?).bind String.toNat?
      let fkind := restH.getLast?.getD ""
      match parseOp plainToks, kM with
      | some op, some k =>
        let replicas : Int := match op with
          | .add _ => (s.replicas : Int)
          | .addR _ c => c
          | .addW _ w => weightReplicas s.replicas w
          | .remove _ => 0
        let rcalls := if s.nodes.contains op.repr then s.replicas else 0
        let total := rcalls + clampReplicas s.replicas replicas
        let implP := kvStr l.obs "P" "?"
        let lockedM := if lockFree (lockAfter addEffs 3) then "0" else "1"
        if kvStr l.obs "locked" "?" ≠ lockedM then r := r.mismatch sec.idx l.idx s!"locked={lockedM}" s!"locked={kvStr l.obs "locked" "?"}"
        if kvStr l.obs "locked" "?" ≠ "0" then
          r := r.violation sec.idx l.idx s!"lock-leak: [{joinSp l.op}] left the ring locked after the hash func ended with {fkind}: every later operation blocks for ever"
        if k < total then
          r := r.addCover s!"hash-fault-{fkind}"
          r := r.addCover (if k < rcalls then "hash-fault-in-removal-loop" else if k == rcalls then "hash-fault-first-insertion" else "hash-fault-in-insertion-loop")
          if implP ≠ faultToken fkind then r := r.mismatch sec.idx l.idx s!"P={faultToken fkind}" s!"P={implP}"
          s := stepHashFault H s op.node replicas k
          -- compared: key slice (order included), ring, node set. NOT the lookups: on the unsorted key slice a failure
          -- inside the insertion loop leaves, Go's sort.Search bisects while the model's `searchGE` scans — they agree on
          -- sorted slices only (every reachable state), so lookups in this broken state are outside the model
          let noG := fun (t : String) => !(t.startsWith "P=") && !(t.startsWith "locked=") && !(t.startsWith "g=")
          let implState := joinSp (l.obs.filter noG)
          let mine := joinSp (((observe H s probes).splitOn " ").filter noG)
          if mine ≠ implState then r := r.mismatch sec.idx l.idx mine implState
          -- the code has no rollback: the ring is not in a reachable state any more (`hash_panic_in_insertion_breaks_property`);
          -- nothing further in this section is judged
          break
        else
          r := r.addCover "hash-fault-not-reached"
          if implP ≠ "ok" then r := r.mismatch sec.idx l.idx "P=ok" s!"P={implP}"
          s := step H s op
          m := specStep s.replicas m op
          let implState := joinSp (l.obs.filter fun t => !(t.startsWith "P=") && !(t.startsWith "locked=") && !(t.startsWith "f="))
          let mine := observe H s probes
          if mine ≠ implState then r := r.mismatch sec.idx l.idx mine implState
          match (kv? l.obs "g").bind parseOutcomes with
          | some g => prev := g
          | none => pure ()
      | _, _ => r := r.mismatch sec.idx l.idx "bad-op" (joinSp l.op)
    | ["storm", _, _, keysT, progT] =>
      match (keysT.splitOn ",").mapM parseValue, parseProg progT with
      | some keys, some prog =>
        r := r.addCover "storm"
        let states := stormStates H s prog
        let opS := joinSp l.op
        -- the writer's program, operation by operation, with the sequential monitor on the final answers
        let s0 := s
        let m0 := m
        for op in prog do
          r := r.addCover ("storm-" ++ branchOf s m op)
          s := step H s op
          m := specStep s.replicas m op
        let implState := joinSp (l.obs.filter fun t => !(t.startsWith "f=") && !(t.startsWith "r=") && !(t.startsWith "q=") && t ≠ "DATARACE")
        let mine := observe H s probes
        if mine ≠ implState then r := r.mismatch sec.idx l.idx mine implState
        if l.obs.head? = some "PANIC" then
          r := r.violation sec.idx l.idx s!"panic: [{opS}] panics: {joinSp l.obs}"
        else
        match (kv? l.obs "g").bind parseOutcomes, (kv? l.obs "f").bind parseOutcomes with
        | some g, some f =>
          for (k, o) in probes.zip g do
            if !memberOk m o then
              r := r.violation sec.idx l.idx s!"member-only: Get {showOutcome (.node k)} returned {showOutcome o} after [{opS}]"
          for (k, o, o') in probes.zip (g.zip f) do
            if o != o' then
              r := r.violation sec.idx l.idx s!"history-dependent: Get {showOutcome (.node k)} is {showOutcome o} but {showOutcome o'} on an instance built from the same members, after [{opS}]"
          prev := g
        | _, _ => r := r.mismatch sec.idx l.idx "bad-obs" (joinSp l.obs)
        -- the implementation's sequential answers (twin instance) must be the model's
        let memberships : List SMap := (prog.foldl (fun (acc : List SMap × SMap × CH) op =>
            let s' := step H acc.2.2 op
            let m' := specStep s'.replicas acc.2.1 op
            (acc.1 ++ [m'], m', s')) ([m0], m0, s0)).1
        match parseRef (kvStr l.obs "q" "") with
        | none => r := r.mismatch sec.idx l.idx "bad-obs" "q="
        | some ref =>
          let mut j := 0
          for (sj, mid) in states do
            let mineS := keys.map fun k => showOutcome (get H sj k)
            if (ref.find? fun e => e.1 == false && e.2.1 == j).map (·.2.2) ≠ some mineS then
              r := r.mismatch sec.idx l.idx s!"S{j}/{";".intercalate mineS}" "sequential reference differs"
            match mid with
            | some sm =>
              let mineM := keys.map fun k => showOutcome (get H sm k)
              if (ref.find? fun e => e.1 == true && e.2.1 == j).map (·.2.2) ≠ some mineM then
                r := r.mismatch sec.idx l.idx s!"M{j}/{";".intercalate mineM}" "sequential reference differs"
            | none => pure ()
            j := j + 1
          if l.obs.contains "DATARACE" then
            r := r.violation sec.idx l.idx s!"concurrent: the Go race detector reports a data race between Get and [{progT}]"
          -- the readers' observations, against the implementation's own sequential answers
          let tuples := (kvStr l.obs "r" "").splitOn ","
          for t in tuples do
            if t = "" then continue
            match t.splitOn "/" with
            | kiS :: lo :: hi :: rest@(_ :: _) =>
              let ans := "/".intercalate rest
              match kiS.toNat?, kiS.toNat?.bind (fun i => keys[i]?), lo.toNat?, hi.toNat?, parseOutcome ans with
              | some ki, some k, some lo, some hi, some o =>
                r := r.addCover "storm-get"
                if lo < hi then r := r.addCover "storm-get-overlapping-writer"
                if o == .panic then
                  r := r.violation sec.idx l.idx s!"concurrent: Get {showOutcome (.node k)} panics during [{progT}]"
                else if !explainedByRef ref ki lo hi ans then
                  r := r.violation sec.idx l.idx s!"concurrent: Get {showOutcome (.node k)} returned {ans} in window [{lo},{hi}] of [{progT}]: not the sequential answer of any state of the writer in that window"
                else
                  -- a member of some membership in the window
                  let ok := match o with
                    | .node _ => (List.range (hi + 1)).any fun j => lo ≤ j && (match memberships[j]? with
                        | some mj => memberOk mj o | none => false)
                    | _ => true
                  if !ok then
                    r := r.violation sec.idx l.idx s!"concurrent: Get {showOutcome (.node k)} returned {ans}, not a member at any point of window [{lo},{hi}] of [{progT}]"
                  if refLookup ref false lo ki != some ans then r := r.addCover "storm-get-saw-later-state"
                  if !explainedByRef ref ki lo hi ans false then r := r.addCover "storm-get-saw-gap-between-remove-and-insert"
              | _, _, _, _, _ => r := r.mismatch sec.idx l.idx "bad-obs" t
            | _ => r := r.mismatch sec.idx l.idx "bad-obs" t
      | _, _ => r := r.mismatch sec.idx l.idx "bad-op" (joinSp l.op)
    | _ =>
      let gated := match l.op with
        | "gadd" :: _ => true | "gaddr" :: _ => true | "gaddw" :: _ => true | _ => false
      -- the operation with a Stringer node whose nth lock-free String() call does not return
      let faulty := match l.op with
        | "padd" :: _ => true | "paddr" :: _ => true | "paddw" :: _ => true | "premove" :: _ => true | _ => false
      let opToks := if gated then (l.op.head!.drop 1).toString :: l.op.drop 1
        else if faulty then (l.op.head!.drop 1).toString :: (l.op.drop 1).take (l.op.length - 3) else l.op
      let nth := if faulty then ((l.op[l.op.length - 2]?).bind String.toNat?).getD 0 else 0
      let fkind := if faulty then l.op.getLast?.getD "" else ""
      let implP := kvStr l.obs "P" "ok"
      match (if faulty && (nth < 1 || nth > 2) then none else parseOp opToks) with
      | none => r := r.mismatch sec.idx l.idx "bad-op" (joinSp l.op)
      | some op =>
        -- did the fault fire? (the second lock-free String() exists only in the two-critical-section form of
        -- AddWithReplicas and never in Remove: `ok` is accepted there, the operation then ran to its end)
        let fired := faulty && implP ≠ "ok"
        if faulty then
          r := r.addCover s!"fault-{fkind}-at-string-call-{nth}"
          r := r.addCover (if fired then s!"fault-fired-{(opToks.headD "")}" else "fault-not-reached")
          let okAllowed := nth == 2
          if !(implP = faultToken fkind || (implP = "ok" && okAllowed)) then
            r := r.mismatch sec.idx l.idx s!"P={faultToken fkind}" s!"P={implP}"
          -- nth = 1: `Remove` stopped at its lock-free prologue; nth = 2: `AddWithReplicas` at its prologue (position 0)
          let lockedM := if lockFree (lockAfter (if nth == 1 then removeEffs else addEffs) 0) then "0" else "1"
          if kvStr l.obs "locked" "?" ≠ lockedM then r := r.mismatch sec.idx l.idx s!"locked={lockedM}" s!"locked={kvStr l.obs "locked" "?"}"
          if kvStr l.obs "locked" "?" ≠ "0" then
            r := r.violation sec.idx l.idx s!"lock-leak: [{joinSp l.op}] left the ring locked after String() ended with {fkind}: every later operation blocks for ever"
          if fired && nth == 2 && m.cnt op.repr > 0 then r := r.addCover "fault-after-remove-node-gone"
        r := r.addCover (branchOf s m op)
        r := kindCover r "node" (opNode op)
        let overflows := match op with
          | .addW _ w => wrapInt ((s.replicas : Int) * w) != (s.replicas : Int) * w
          | _ => false
        if overflows then r := r.addCover "addw-product-overflows"
        match op with
        | .addW _ w => if weightReplicas s.replicas w > 1000000 then r := r.addCover "addw-only-the-clamp-keeps-it-finite"
        | .addR _ c => if c > 1000000 then r := r.addCover "addr-only-the-clamp-keeps-it-finite"
        | _ => pure ()
        let wasMember := m.cnt op.repr > 0
        let collBefore := noCollision H m
        let sPre := s
        let mPre := m
        s := if fired then stepFault H s op nth else step H s op
        m := if fired then specStepFault m op nth else specStep s.replicas m op
        let isMember := m.cnt op.repr > 0
        let collAfter := noCollision H m
        if hasTwins m then r := r.addCover "ring-has-twos-complement-twins"
        -- one node's virtual nodes on the same hash (the class of seeded C15-9)
        if m.any (fun p => let pts := points H p.1.repr p.2; pts.eraseDups.length < pts.length) then
          r := r.addCover "ring-node-collides-with-itself"
          match op with
          | .remove _ => if wasMember then r := r.addCover "remove-from-ring-with-self-collisions"
          | _ => pure ()
        if (mPre.find op.repr).any (fun p => p.1 != opNode op) then r := r.addCover "op-on-slot-held-by-other-value"
        let segs := if gated then splitBar l.obs else [l.obs]
        let finalObs := (segs.getLast?.getD []).filter fun t => t ≠ "DATARACE" && !(t.startsWith "P=") && !(t.startsWith "locked=")
        if l.obs.contains "DATARACE" then
          r := r.violation sec.idx l.idx s!"concurrent: the Go race detector reports a data race during [{joinSp l.op}]"
        let opS := joinSp l.op
        if gated then
          -- snapshots taken by reader goroutines while the writer stood at a `String()` call with the lock free:
          -- the code calls repr(node) before Remove's lock (state before) and between Remove and the insertion
          r := r.addCover "gated"
          let snaps := (segs.drop 1).dropLast
          let sMid := remove H sPre (opNode op)
          -- two signals (state before, then the state between Remove and the insertion): the tree as it is;
          -- one signal (state before only): AddWithReplicas as one critical section (fixes/C15-add-single-critical-section.patch)
          let nsig := kv? (segs.headD []) "sig"
          let expect := if nsig = some "1" then [observe H sPre probes] else [observe H sPre probes, observe H sMid probes]
          if nsig = some "1" then r := r.addCover "gated-one-critical-section" else r := r.addCover "gated-two-critical-sections"
          if (nsig ≠ some "2" ∧ nsig ≠ some "1") ∨ snaps.length ≠ expect.length then
            r := r.mismatch sec.idx l.idx "sig=2 (or sig=1)" (joinSp (segs.headD []))
          for (e, sn) in expect.zip snaps do
            if e ≠ joinSp sn then r := r.mismatch sec.idx l.idx e (joinSp sn)
          if get H sMid (probes.headD default) != get H sPre (probes.headD default) ||
              probes.any (fun p => get H sMid p != get H sPre p) then r := r.addCover "gated-gap-visible"
          if mPre.cnt op.repr > 0 && (mPre.del op.repr).all (fun p => p.2 == 0) then r := r.addCover "gated-gap-empties-ring"
          -- monitor on what the readers saw in the gap
          for sn in snaps do
            match (kv? sn "g").bind parseOutcomes with
            | none => r := r.mismatch sec.idx l.idx "bad-obs" (joinSp sn)
            | some g =>
              for (k, o) in probes.zip g do
                if o == .panic then
                  r := r.violation sec.idx l.idx s!"concurrent: Get {showOutcome (.node k)} panics while [{opS}] is in progress"
                else if !memberEither mPre m o then
                  r := r.violation sec.idx l.idx s!"concurrent: Get {showOutcome (.node k)} returned {showOutcome o} while [{opS}] is in progress: a member neither before nor after"
                else if o == .none && (mPre.del op.repr).any (fun p => p.2 > 0) then
                  r := r.violation sec.idx l.idx s!"concurrent: Get {showOutcome (.node k)} returned none while [{opS}] is in progress although other nodes own virtual nodes"
        -- correspondence
        let implState := joinSp (finalObs.filter fun t => !(t.startsWith "f="))
        let mine := observe H s probes
        if mine ≠ implState then r := r.mismatch sec.idx l.idx mine implState
        -- monitor, on the implementation's own answers
        if l.obs.head? = some "PANIC" then
          r := r.violation sec.idx l.idx s!"panic: [{opS}] panics: {joinSp l.obs}"
        else
        match (kv? finalObs "g").bind parseOutcomes, (kv? finalObs "f").bind parseOutcomes with
        | some g, some f =>
          if g.length ≠ probes.length ∨ f.length ≠ probes.length then
            r := r.mismatch sec.idx l.idx "bad-obs" "probe count"
          else
            let alone := if collBefore && collAfter then [] else probes.map fun p => landsAlone H sPre s p
            r := checkAnswers r sec.idx l.idx hash opS op probes m wasMember isMember collBefore collAfter prev g f alone
            prev := g
        | _, _ => r := r.mismatch sec.idx l.idx "bad-obs" (joinSp l.obs)
  return r

def driver (secs : List Section) : Report := secs.foldl runSection {}

end GoZero.C15
