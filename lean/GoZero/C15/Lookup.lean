/-
C15 — lookups on states that satisfy the representation invariant: what `Get` returns, and that state and
answers are a function of the abstract map only.
-/
import GoZero.C15.Invariant
namespace GoZero.C15

/-- the hash value `Get` lands on: `keys[sort.Search(keys ≥ hk) % len(keys)]` -/
def target (keys : List Nat) (hk : Nat) : Nat := keys.getD (searchGE keys hk % keys.length) 0

theorem landing_eq (H : Hasher) (s : CH) (k : Node) :
    landing H s k = bucket s.ring (target s.keys (H.key k.repr)) := rfl

/-- `t` is the clockwise successor of `hk` among `keys`: the least key `≥ hk`, or the least key at all
when every key is `< hk`. Only membership in `keys` matters. -/
def IsSucc (keys : List Nat) (hk t : Nat) : Prop :=
  t ∈ keys ∧ ((hk ≤ t ∧ ∀ y ∈ keys, hk ≤ y → t ≤ y) ∨ ((∀ y ∈ keys, y < hk) ∧ ∀ y ∈ keys, t ≤ y))

theorem searchGE_spec (keys : List Nat) (hk : Nat) (hs : keys.Pairwise (· ≤ ·)) :
    (searchGE keys hk = keys.length ∧ ∀ y ∈ keys, y < hk) ∨
    (∃ t, keys[searchGE keys hk]? = some t ∧ hk ≤ t ∧ ∀ y ∈ keys, hk ≤ y → t ≤ y) := by
  induction keys with
  | nil => exact Or.inl ⟨rfl, by simp⟩
  | cons y ys ih =>
    have hy := List.pairwise_cons.mp hs
    rw [searchGE_cons]
    by_cases h : y < hk
    · simp only [h, if_true]
      rcases ih hy.2 with ⟨h1, h2⟩ | ⟨t, h1, h2, h3⟩
      · exact Or.inl ⟨by simp [h1], List.forall_mem_cons.mpr ⟨h, h2⟩⟩
      · exact Or.inr ⟨t, by simpa using h1, h2, List.forall_mem_cons.mpr ⟨fun _ => by omega, h3⟩⟩
    · simp only [h, if_false]
      exact Or.inr ⟨y, by simp, by omega,
        List.forall_mem_cons.mpr ⟨fun _ => Nat.le_refl _, fun y' hy' _ => hy.1 y' hy'⟩⟩

theorem target_isSucc (keys : List Nat) (hk : Nat) (hs : keys.Pairwise (· ≤ ·)) (hne : keys ≠ []) :
    IsSucc keys hk (target keys hk) := by
  unfold target
  rcases searchGE_spec keys hk hs with ⟨heq, hall⟩ | ⟨t, h1, h2, h3⟩
  · rw [heq, Nat.mod_self]
    cases keys with
    | nil => exact absurd rfl hne
    | cons y ys =>
      have hy := List.pairwise_cons.mp hs
      simp only [List.getD_cons_zero]
      exact ⟨List.mem_cons_self, Or.inr ⟨hall, List.forall_mem_cons.mpr ⟨Nat.le_refl _, hy.1⟩⟩⟩
  · have hlt : searchGE keys hk < keys.length := (List.getElem?_eq_some_iff.mp h1).1
    rw [Nat.mod_eq_of_lt hlt, List.getD_eq_getElem?_getD, h1]
    exact ⟨List.mem_of_getElem? h1, Or.inl ⟨h2, h3⟩⟩

/-- the successors of one hash among two key sets coincide as soon as each set contains the other's successor -/
theorem isSucc_cross {K K' : List Nat} {hk t t' : Nat} (h : IsSucc K hk t) (h' : IsSucc K' hk t')
    (ht : t ∈ K') (ht' : t' ∈ K) : t = t' := by
  obtain ⟨_, h⟩ := h
  obtain ⟨_, h'⟩ := h'
  rcases h with ⟨h1, h2⟩ | ⟨h1, h2⟩ <;> rcases h' with ⟨g1, g2⟩ | ⟨g1, g2⟩
  · exact Nat.le_antisymm (h2 t' ht' g1) (g2 t ht h1)
  · have := g1 t ht; omega
  · have := h1 t' ht'; omega
  · exact Nat.le_antisymm (h2 t' ht') (g2 t ht)

theorem isSucc_unique {K : List Nat} {hk t t' : Nat} (h : IsSucc K hk t) (h' : IsSucc K hk t') : t = t' :=
  isSucc_cross h h' h.1 h'.1

theorem mem_keys_iff {H : Hasher} {s : CH} {m : SMap} (hi : Inv H s m) (x : Nat) :
    x ∈ s.keys ↔ bucket s.ring x ≠ [] := by
  rw [← List.count_pos_iff, hi.keys.cnt x, List.length_pos_iff]

theorem keys_nil_iff {H : Hasher} {s : CH} {m : SMap} (hi : Inv H s m) :
    s.keys = [] ↔ ∀ x, bucket s.ring x = [] := by
  rw [List.eq_nil_iff_forall_not_mem]
  exact forall_congr' fun x => by rw [mem_keys_iff hi x, Decidable.not_not]

/-- `len(h.ring) == 0` is `len(h.keys) == 0` -/
theorem isEmpty_iff_keys {H : Hasher} {s : CH} {m : SMap} (hi : Inv H s m) : s.ring.isEmpty = true ↔ s.keys = [] :=
  (ring_isEmpty_iff _ hi.ring.wf).trans (keys_nil_iff hi).symm

theorem RingOK.count {d : String → Nat → Nat} {val : String → Option Node} {ring : List (Nat × List Node)}
    (h : RingOK ring d val) (x : Nat) (a : Node) :
    (bucket ring x).count a = if val a.repr = some a then d a.repr x else 0 := by
  by_cases hv : val a.repr = some a
  · simp only [hv, if_true]
    rw [← h.cnt x a.repr, List.count_eq_countP]
    apply List.countP_congr
    intro z hz
    have hvz := h.val x z hz
    simp only [isRepr, beq_iff_eq]
    refine ⟨fun e => by rw [e], fun e => ?_⟩
    rw [e, hv] at hvz
    exact (Option.some.inj hvz).symm
  · simp only [hv, if_false]
    apply List.count_eq_zero.mpr
    intro ha
    exact hv (h.val x a ha)

theorem mem_bucket_iff {H : Hasher} {s : CH} {m : SMap} (hi : Inv H s m) (x : Nat) (n : Node) :
    n ∈ bucket s.ring x ↔ ∃ c, m.find n.repr = some (n, c) ∧ x ∈ points H n.repr c := by
  rw [← List.count_pos_iff, hi.ring.count x n]
  unfold valOf demand SMap.cnt
  cases hf : m.find n.repr with
  | none => simp
  | some p =>
    obtain ⟨n', c⟩ := p
    by_cases e : n' = n
    · subst e; simp [List.count_pos_iff]
    · simp [e]

theorem get_cases {H : Hasher} {s : CH} {m : SMap} (hi : Inv H s m) (k : Node) :
    (s.keys = [] ∧ get H s k = .none) ∨
    (s.keys ≠ [] ∧ ∃ n, n ∈ landing H s k ∧ get H s k = .node n) := by
  unfold get
  by_cases hk : s.keys = []
  · exact Or.inl ⟨hk, by rw [if_pos ((isEmpty_iff_keys hi).mpr hk)]⟩
  · refine Or.inr ⟨hk, ?_⟩
    rw [if_neg (mt (isEmpty_iff_keys hi).mp hk)]
    -- the successor point is a key, so the bucket `Get` lands on is not empty
    have hne : landing H s k ≠ [] :=
      (mem_keys_iff hi _).mp (target_isSucc s.keys (H.key k.repr) hi.keys.sorted hk).1
    unfold getRest
    rw [if_neg (fun h => hk (List.length_eq_zero_iff.mp h))]
    unfold landing at hne ⊢
    dsimp only
    -- `landing` and `getRest` spell out the same index expression; `generalize` relies on that
    generalize bucket s.ring (s.keys.getD (searchGE s.keys (H.key k.repr) % s.keys.length) 0) = b at hne ⊢
    match b, hne with
    | [n], _ => exact ⟨n, List.mem_singleton.mpr rfl, rfl⟩
    | a :: c :: rest, _ =>
      refine ⟨_, ?_, rfl⟩
      rw [List.getD_eq_getElem?_getD, List.getElem?_eq_getElem (Nat.mod_lt _ (by simp))]
      exact List.getElem_mem _

theorem mem_points {H : Hasher} {r : String} {c x : Nat} : x ∈ points H r c ↔ ∃ i, i < c ∧ H.point r i = x := by
  unfold points
  simp [List.mem_map, List.mem_range]

theorem points_zero (H : Hasher) (r : String) : points H r 0 = [] := by simp [points]

theorem get_node_mem {H : Hasher} {s : CH} {m : SMap} (hi : Inv H s m) {k a : Node} (hg : get H s k = .node a) :
    s.keys ≠ [] ∧ a ∈ bucket s.ring (target s.keys (H.key k.repr)) := by
  rcases get_cases hi k with ⟨_, h⟩ | ⟨hk, n', hn', h⟩
  · rw [h] at hg; cases hg
  · rw [h] at hg; cases hg; exact ⟨hk, hn'⟩

theorem get_member {H : Hasher} {s : CH} {m : SMap} (hi : Inv H s m) (k n : Node)
    (hg : get H s k = .node n) : ∃ c, m.find n.repr = some (n, c) ∧ 0 < c := by
  obtain ⟨c, hf, hx⟩ := (mem_bucket_iff hi _ n).mp (get_node_mem hi hg).2
  refine ⟨c, hf, Nat.pos_of_ne_zero fun h0 => ?_⟩
  rw [h0, points_zero] at hx; cases hx

theorem get_cnt_pos {H : Hasher} {s : CH} {m : SMap} (hi : Inv H s m) {k v : Node} (hv : get H s k = .node v) :
    0 < m.cnt v.repr := by
  obtain ⟨c, hf, hc⟩ := get_member hi k v hv
  rw [cnt_of_find hf]; exact hc

theorem get_never_panics {H : Hasher} {s : CH} {m : SMap} (hi : Inv H s m) (k : Node) :
    get H s k ≠ .panic := by
  rcases get_cases hi k with ⟨_, h⟩ | ⟨_, n', _, h⟩ <;> rw [h] <;> intro hc <;> cases hc

theorem get_none_iff {H : Hasher} {s : CH} {m : SMap} (hi : Inv H s m) (k : Node) :
    get H s k = .none ↔ ∀ r, m.cnt r = 0 := by
  constructor
  · intro hg r
    rcases get_cases hi k with ⟨hk, _⟩ | ⟨_, n', _, h⟩
    · -- a member with a virtual node would be listed in the bucket of its first point
      refine Nat.eq_zero_of_not_pos fun hpos => ?_
      have h1 := hi.ring.cnt (H.point r 0) r
      rw [(keys_nil_iff hi).mp hk] at h1
      exact List.count_eq_zero.mp h1.symm (mem_points.mpr ⟨0, hpos, rfl⟩)
    · rw [h] at hg; cases hg
  · intro hall
    rcases get_cases hi k with ⟨_, h⟩ | ⟨_, n', _, h⟩
    · exact h
    · have := get_cnt_pos hi h
      have := hall n'.repr
      omega

theorem bucket_unique {d : String → Nat → Nat} {val : String → Option Node} {ring1 ring2 : List (Nat × List Node)}
    (h1 : RingOK ring1 d val) (h2 : RingOK ring2 d val) (x : Nat) : bucket ring1 x = bucket ring2 x := by
  have hperm : (bucket ring1 x).Perm (bucket ring2 x) := by
    apply List.perm_iff_count.mpr
    intro a
    rw [h1.count x a, h2.count x a]
  apply List.Perm.eq_of_pairwise (le := ReprLe) ?_ (h1.sorted x) (h2.sorted x) hperm
  intro a b ha hb hab hba
  have e : a.repr = b.repr := String.le_antisymm hab hba
  have va := h1.val x a ha
  have vb := h2.val x b hb
  rw [e, vb] at va
  exact (Option.some.inj va).symm

theorem inv_unique {H : Hasher} {s1 s2 : CH} {m : SMap} (h1 : Inv H s1 m) (h2 : Inv H s2 m) :
    s1.keys = s2.keys ∧ ∀ x, bucket s1.ring x = bucket s2.ring x := by
  have hb := bucket_unique h1.ring h2.ring
  refine ⟨?_, hb⟩
  apply List.Perm.eq_of_pairwise (le := (· ≤ ·)) ?_ h1.keys.sorted h2.keys.sorted
  · apply List.perm_iff_count.mpr
    intro x
    rw [h1.keys.cnt x, h2.keys.cnt x, hb x]
  · intro a b _ _ hab hba
    exact Nat.le_antisymm hab hba

theorem get_unique {H : Hasher} {s1 s2 : CH} {m : SMap} (h1 : Inv H s1 m) (h2 : Inv H s2 m) (k : Node) :
    get H s1 k = get H s2 k := by
  obtain ⟨hk, hb⟩ := inv_unique h1 h2
  have he : s1.ring.isEmpty = s2.ring.isEmpty :=
    Bool.eq_iff_iff.mpr (by rw [isEmpty_iff_keys h1, isEmpty_iff_keys h2, hk])
  unfold get getRest
  rw [he, hk]
  simp only [hb]

end GoZero.C15
