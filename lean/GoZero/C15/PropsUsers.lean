/-
C15 — the users (cache cluster, kv store): the ring their constructors build over the WHOLE configuration space (every
list of (address, weight) entries: empty, single, duplicates, weights ≤ 0 and > 100), how a key is dispatched, and the
public-method call path (entry point → key parameter → dispatcher.Get → node; multi-key `Del` split per node).
-/
import GoZero.C15.Props
namespace GoZero.C15

/-! `Tie.tie_cacheUsers` / `tie_kvUsers`: both call `NewConsistentHash()` and then `AddWithWeight(node, conf.Weight)`
per configured node, in order, and dispatch with `dispatcher.Get(key)`; nothing else touches the ring. -/

/-- it is a reachable state of the model, so every theorem about `run` applies to the users' dispatch -/
theorem userRing_is_run (H : Hasher) (conf : List (Node × Int)) :
    userRing H conf = run H (minReplicas : Int) (conf.map fun p => Op.addW p.1 p.2) := by
  unfold userRing run
  rw [List.foldl_map]
  rfl

/-- **dispatch goes to a member of the configured membership** that owns at least one virtual node (for a weight
0 ≤ w ≤ 100: exactly w, `Tie.weight_is_percent`); that it is the LAST entry for its address is `user_dispatch_configured`. -/
theorem user_dispatch_member (H : Hasher) (conf : List (Node × Int)) (k n : Node)
    (h : get H (userRing H conf) k = .node n) :
    ∃ c, (members (minReplicas : Int) (conf.map fun p => Op.addW p.1 p.2)).find n.repr = some (n, c) ∧ 0 < c := by
  rw [userRing_is_run] at h
  exact get_member_only H _ _ k n h

/-- dispatch never panics and is `none` only if no configured node got a virtual node -/
theorem user_dispatch_total (H : Hasher) (conf : List (Node × Int)) (k : Node) :
    get H (userRing H conf) k ≠ .panic ∧
    (get H (userRing H conf) k = .none ↔
      ∀ r, (members (minReplicas : Int) (conf.map fun p => Op.addW p.1 p.2)).cnt r = 0) := by
  rw [userRing_is_run]
  exact ⟨get_never_panics_reachable H _ _ k, get_none_iff_no_virtual_nodes H _ _ k⟩

/-- the order of two configuration entries with different addresses does not matter -/
theorem user_conf_order_irrelevant (H : Hasher) (conf : List (Node × Int)) (a b : Node × Int)
    (hne : a.1.repr ≠ b.1.repr) (k : Node) :
    get H (userRing H (conf ++ [a, b])) k = get H (userRing H (conf ++ [b, a])) k := by
  rw [userRing_is_run, userRing_is_run]
  simp only [List.map_append, List.map_cons, List.map_nil]
  exact ops_on_different_nodes_commute H _ _ (.addW a.1 a.2) (.addW b.1 b.2) hne k

/-- **users, call site → AddWithWeight → ring**: the dispatch of cache.New / kv.NewStore depends only on the
configured membership (address ↦ last configured weight), not on the order of the configuration entries — any two
configurations with the same membership, not only a swap of neighbours (`user_conf_order_irrelevant`). -/
theorem user_dispatch_depends_on_membership_only (H : Hasher) (conf₁ conf₂ : List (Node × Int))
    (h : ∀ r, (members (minReplicas : Int) (conf₁.map fun p => Op.addW p.1 p.2)).find r
            = (members (minReplicas : Int) (conf₂.map fun p => Op.addW p.1 p.2)).find r) (k : Node) :
    get H (userRing H conf₁) k = get H (userRing H conf₂) k := by
  rw [userRing_is_run, userRing_is_run]
  exact history_independent H _ _ _ h k

/-- the LAST entry configured for an address (a later entry replaces an earlier one) -/
def lastEntry (conf : List (Node × Int)) (r : String) : Option (Node × Int) :=
  conf.reverse.find? (fun p => p.1.repr == r)

/-- virtual nodes a weight gives on the users' ring (`NewConsistentHash()`: 100 replicas) -/
def userCount (w : Int) : Nat := clampReplicas 100 (weightReplicas 100 w)

/-- the membership the users' ring represents -/
def userMembers (conf : List (Node × Int)) : SMap := members (minReplicas : Int) (conf.map fun p => Op.addW p.1 p.2)

theorem newDefault_replicas : (CH.new (minReplicas : Int)).replicas = 100 := by decide

theorem foldl_addW_find (conf : List (Node × Int)) (m0 : SMap) (r : String) :
    ((conf.map fun p => Op.addW p.1 p.2).foldl (specStep 100) m0).find r =
      match lastEntry conf r with
      | some p => some (p.1, userCount p.2)
      | none => m0.find r := by
  -- from the last entry backwards: the fold over `conf` is a right fold over `conf.reverse`, where `lastEntry` searches
  unfold lastEntry
  rw [List.foldl_map, List.foldl_eq_foldr_reverse]
  induction conf.reverse with
  | nil => rfl
  | cons p l ih =>
    rw [List.foldr_cons, List.find?_cons]
    simp only [specStep] at ih ⊢
    rw [find_set, ih]
    by_cases e : p.1.repr = r
    · subst e; simp [userCount]
    · simp [beq_false_of_ne e, Ne.symm e]

/-- **the membership of a configuration**: per address the LAST entry counts, with `h.replicas * w / 100` virtual nodes
(clamped to 0 … 100) -/
theorem userMembers_find (conf : List (Node × Int)) (r : String) :
    (userMembers conf).find r = (lastEntry conf r).map fun p => (p.1, userCount p.2) := by
  unfold userMembers members specRun
  rw [newDefault_replicas, foldl_addW_find]
  cases lastEntry conf r <;> simp [SMap.find]

theorem lastEntry_eq_some_iff {conf : List (Node × Int)} (hd : ∀ a ∈ conf, ∀ b ∈ conf, a.1.repr = b.1.repr → a = b)
    {r : String} {p : Node × Int} : lastEntry conf r = some p ↔ p ∈ conf ∧ p.1.repr = r := by
  unfold lastEntry
  have found : ∀ {r q}, conf.reverse.find? (fun p => p.1.repr == r) = some q → q ∈ conf ∧ q.1.repr = r :=
    fun h => ⟨by simpa using List.mem_of_find?_eq_some h, by simpa using List.find?_some h⟩
  refine ⟨found, fun ⟨hp, hr⟩ => ?_⟩
  cases hfind : conf.reverse.find? (fun q => q.1.repr == r) with
  | none => simpa [hr] using List.find?_eq_none.mp hfind p (by simpa using hp)
  | some q => rw [hd q (found hfind).1 p hp ((found hfind).2.trans hr.symm)]

/-- **any reordering of a configuration with distinct addresses has the same membership** -/
theorem userMembers_find_perm {conf₁ conf₂ : List (Node × Int)} (hp : conf₁.Perm conf₂)
    (hd : ∀ a ∈ conf₁, ∀ b ∈ conf₁, a.1.repr = b.1.repr → a = b) (r : String) :
    (userMembers conf₁).find r = (userMembers conf₂).find r := by
  have hd₂ : ∀ a ∈ conf₂, ∀ b ∈ conf₂, a.1.repr = b.1.repr → a = b :=
    fun a ha b hb => hd a (hp.mem_iff.mpr ha) b (hp.mem_iff.mpr hb)
  rw [userMembers_find, userMembers_find]
  congr 1
  ext q
  rw [lastEntry_eq_some_iff hd, lastEntry_eq_some_iff hd₂, hp.mem_iff]

/-- a weight whose product with the 100 replicas fits a Go `int` -/
def FitsInt (w : Int) : Prop := -92233720368547758 ≤ w ∧ w ≤ 92233720368547758

theorem userCount_pos_iff (w : Int) (hw : FitsInt w) : 0 < userCount w ↔ 0 < w := by
  unfold userCount FitsInt at *
  rw [weightReplicas_100 w (by omega)]
  unfold clampReplicas
  split <;> omega

theorem totalWeightsStep_zero {w : Int} (hw : w ≤ 0) : totalWeightsStep 0 w = 0 := by
  unfold totalWeightsStep wrapInt
  by_cases hn : w < 0
  · simp [hn]
  · have : w = 0 := by omega
    simp [this]

/-- `TotalWeights` of a configuration without a positive weight is 0: both constructors refuse it -/
theorem totalWeights_eq_zero (conf : List (Node × Int)) (h : ∀ p ∈ conf, p.2 ≤ 0) : totalWeights conf = 0 :=
  List.foldlRecOn (motive := (· = 0)) conf _ rfl fun _ ht p hp => by rw [ht]; exact totalWeightsStep_zero (h p hp)

/-- **no instance without a weighted node**: cache.New and kv.NewStore terminate the process (`log.Fatal`) for the empty
configuration and for every configuration in which no entry has a positive weight -/
theorem user_fatal_without_weight (user : String) (H : Hasher) (conf : List (Node × Int)) (h : ∀ p ∈ conf, p.2 ≤ 0) :
    userNew user H conf = .fatal := by
  have : userFatal conf = true := by simp [userFatal, totalWeights_eq_zero conf h]
  unfold userNew cacheNew kvNew
  simp [this]

theorem user_instance_has_weighted_node (user : String) (H : Hasher) (conf : List (Node × Int))
    (h : userNew user H conf ≠ .fatal) : ∃ p ∈ conf, 0 < p.2 := by
  refine Classical.byContradiction fun hn => h (user_fatal_without_weight user H conf fun p hp => ?_)
  exact Int.not_lt.mp fun hpos => hn ⟨p, hp, hpos⟩

/-- **what a constructor returns**: `log.Fatal`; the single node of a one-entry configuration (cache.New's shortcut);
or the ring of the configuration -/
theorem userNew_cases (user : String) (H : Hasher) (conf : List (Node × Int)) :
    userNew user H conf = .fatal ∨ (∃ p, conf = [p] ∧ userNew user H conf = .direct p.1) ∨
      userNew user H conf = .ring (userRing H conf) := by
  unfold userNew cacheNew kvNew
  by_cases hf : userFatal conf = true
  · simp [hf]
  · by_cases hu : user = "cache"
    · match conf with
      | [p] => simp [hu, hf]
      | [] => simp [hu, hf]
      | _ :: _ :: _ => simp [hu, hf]
    · simp [hu, hf]

theorem userNew_ring (user : String) (H : Hasher) (conf : List (Node × Int)) (s : CH)
    (h : userNew user H conf = .ring s) : s = userRing H conf := by
  rcases userNew_cases user H conf with hi | ⟨p, _, hi⟩ | hi <;> rw [hi] at h <;> cases h
  rfl

/-- **dispatch of the users, every configuration**: a key is sent to a CONFIGURED node — the LAST entry for its address —
which owns at least one virtual node (ring) or is the single configured node with a positive weight (cache.New's
shortcut). -/
theorem user_dispatch_configured (user : String) (H : Hasher) (conf : List (Node × Int)) (k n : Node)
    (h : (userNew user H conf).dispatch H k = .node n) :
    ∃ w, lastEntry conf n.repr = some (n, w) ∧ (0 < userCount w ∨ (conf = [(n, w)] ∧ 0 < w)) := by
  rcases userNew_cases user H conf with hi | ⟨p, hconf, hi⟩ | hi
  · rw [hi] at h; cases h
  · obtain ⟨q, hq, hpos⟩ := user_instance_has_weighted_node user H conf (by rw [hi]; exact fun e => nomatch e)
    rw [hi] at h
    cases h
    subst hconf
    rw [List.mem_singleton.mp hq] at hpos
    exact ⟨p.2, by simp [lastEntry], Or.inr ⟨rfl, hpos⟩⟩
  · rw [hi] at h
    obtain ⟨c, hf, hc⟩ := user_dispatch_member H conf k n h
    obtain ⟨⟨_, w⟩, hl, hp⟩ := Option.map_eq_some_iff.mp ((userMembers_find conf n.repr).symm.trans hf)
    cases hp
    exact ⟨w, hl, Or.inl hc⟩

/-- **a node without weight is never chosen** (whole configuration space, both users, weights in the range where
`h.replicas * weight` fits an `int`): the node a key is sent to has, in its last configuration entry, a POSITIVE weight. -/
theorem user_dispatch_positive_weight (user : String) (H : Hasher) (conf : List (Node × Int))
    (hw : ∀ p ∈ conf, FitsInt p.2) (k n : Node) (h : (userNew user H conf).dispatch H k = .node n) :
    ∃ w, lastEntry conf n.repr = some (n, w) ∧ 0 < w := by
  obtain ⟨w, hl, hc⟩ := user_dispatch_configured user H conf k n h
  refine ⟨w, hl, ?_⟩
  rcases hc with hc | ⟨_, hc⟩
  · have hmem : (n, w) ∈ conf := by
      have := List.mem_of_find?_eq_some hl
      simpa using this
    exact (userCount_pos_iff w (hw _ hmem)).mp hc
  · exact hc

/-- **every key is served** when the addresses are distinct: a configuration the constructor accepts, with weights that
fit, sends every key to some node (`none` never happens) -/
theorem user_dispatch_never_none (user : String) (H : Hasher) (conf : List (Node × Int))
    (hw : ∀ p ∈ conf, FitsInt p.2)
    (hd : ∀ a ∈ conf, ∀ b ∈ conf, a.1.repr = b.1.repr → a = b)
    (hf : userNew user H conf ≠ .fatal) (k : Node) :
    (userNew user H conf).dispatch H k ≠ .none := by
  obtain ⟨p, hp, hpos⟩ := user_instance_has_weighted_node user H conf hf
  cases hi : userNew user H conf with
  | fatal => exact absurd hi hf
  | direct m => simp [UserInst.dispatch]
  | ring s =>
    have hs := userNew_ring user H conf s hi
    subst hs
    simp only [UserInst.dispatch]
    intro hnone
    have hall := (user_dispatch_total H conf k).2.mp hnone p.1.repr
    have hl := (lastEntry_eq_some_iff hd).mpr ⟨hp, rfl⟩
    have hm : (userMembers conf).find p.1.repr = some (p.1, userCount p.2) := by rw [userMembers_find, hl]; rfl
    have h0 : 0 = userCount p.2 := hall.symm.trans (cnt_of_find hm)
    have := (userCount_pos_iff p.2 (hw p hp)).mpr hpos
    omega

/-- the dispatch of both users depends only on the configured membership (any reordering that keeps, per address, the
last weight) — also through `cache.New`'s shortcut when both configurations have at least two entries -/
theorem userNew_depends_on_membership_only (user : String) (H : Hasher) (conf₁ conf₂ : List (Node × Int))
    (h : ∀ r, (userMembers conf₁).find r = (userMembers conf₂).find r)
    (s₁ s₂ : CH) (h₁ : userNew user H conf₁ = .ring s₁) (h₂ : userNew user H conf₂ = .ring s₂) (k : Node) :
    (userNew user H conf₁).dispatch H k = (userNew user H conf₂).dispatch H k := by
  rw [h₁, h₂]
  have e₁ := userNew_ring user H conf₁ s₁ h₁
  have e₂ := userNew_ring user H conf₂ s₂ h₂
  subst e₁; subst e₂
  simp only [UserInst.dispatch]
  exact user_dispatch_depends_on_membership_only H conf₁ conf₂ h k

set_option maxRecDepth 100000 in
/-- non-vacuity: the hypothesis holds for a rotated configuration of three nodes -/
example : get Pinned.W (userRing Pinned.W [(Pinned.n, 3), (Pinned.n1, 2), (Pinned.x, 4)]) ⟨"s", "key0"⟩
    = get Pinned.W (userRing Pinned.W [(Pinned.x, 4), (Pinned.n, 3), (Pinned.n1, 2)]) ⟨"s", "key0"⟩ :=
  user_dispatch_depends_on_membership_only _ _ _ (userMembers_find_perm (by decide +kernel) (by decide +kernel)) _

/-- **entry point → key → node**: wherever a public method of the cache cluster / kv store sends a command, it is a
configured node with a positive weight. -/
theorem call_targets_positive_weight (user : String) (H : Hasher) (conf : List (Node × Int))
    (hw : ∀ p ∈ conf, FitsInt p.2) (method : String) (strs : List String) (n : Node)
    (h : Outcome.node n ∈ callTargets H (userNew user H conf) user method strs) :
    ∃ w, lastEntry conf n.repr = some (n, w) ∧ 0 < w := by
  unfold callTargets at h
  obtain ⟨k, _, hk⟩ := List.mem_map.mp h
  exact user_dispatch_positive_weight user H conf hw (strKey k) n hk

/-- a one-key method has at most one target: the ring's answer for the method's KEY parameter (`kvKeyIndex`: second
string of `Eval`, first of every other method) -/
theorem call_targets_one_key (user : String) (H : Hasher) (inst : UserInst) (method : String) (strs : List String)
    (hm : multiKey method = false) : (callTargets H inst user method strs).length ≤ 1 := by
  unfold callTargets callKeys
  simp only [hm, Bool.false_eq_true, if_false, List.length_map]
  split
  · simp [List.length_take]; omega
  · cases strs[kvKeyIndex method]? <;> simp

/-- `Del` dispatches every key on its own -/
theorem call_targets_del (user : String) (H : Hasher) (inst : UserInst) (method : String) (strs : List String)
    (hm : multiKey method = true) :
    callTargets H inst user method strs = strs.map fun k => inst.dispatch H (strKey k) := by
  unfold callTargets callKeys; simp [hm]

set_option maxRecDepth 100000 in
/-- non-vacuity: two drained nodes and one weighted node that is NOT first —
`cache.New` builds a ring and the key goes to the weighted node -/
example : (userNew "cache" Pinned.W [(Pinned.n, 0), (Pinned.x, 3), (Pinned.n1, -5)]).dispatch Pinned.W ⟨"s", "key0"⟩
    = .node Pinned.x := by decide +kernel

set_option maxRecDepth 100000 in
example : (userNew "kv" Pinned.W [(Pinned.n, 0), (Pinned.n1, -5)]).isFatal = true ∧
    (userNew "cache" Pinned.W []).isFatal = true := by decide +kernel

theorem delPerKey_mem (disp : String → Outcome) (keys : List String) (rec : String × List String)
    (h : rec ∈ delPerKey disp keys) : ∃ k ∈ keys, (disp k).addr = some rec.1 ∧ rec.2 = [k] := by
  unfold delPerKey at h
  obtain ⟨k, hk, hm⟩ := List.mem_filterMap.mp h
  obtain ⟨a, ha, rfl⟩ := Option.map_eq_some_iff.mp hm
  exact ⟨k, hk, ha, rfl⟩

theorem delGrouped_mem (disp : String → Outcome) (keys : List String) (rec : String × List String)
    (h : rec ∈ delGrouped disp keys) : ∀ k ∈ rec.2, k ∈ keys ∧ (disp k).addr = some rec.1 := by
  unfold delGrouped at h
  obtain ⟨a, _, hm⟩ := List.mem_map.mp h
  subst hm
  intro k hk
  simp only [List.mem_filter, beq_iff_eq] at hk
  exact hk

theorem mem_dedupKeep (a : String) : ∀ l : List String, a ∈ dedupKeep l ↔ a ∈ l
  | [] => by simp [dedupKeep]
  | b :: l => by
    simp only [dedupKeep, List.mem_cons, List.mem_filter, mem_dedupKeep a l]
    by_cases h : a = b <;> simp [h]

theorem nodup_dedupKeep : ∀ l : List String, (dedupKeep l).Nodup
  | [] => by simp [dedupKeep]
  | b :: l => by
    simp only [dedupKeep, List.nodup_cons, List.mem_filter]
    exact ⟨by simp, (nodup_dedupKeep l).sublist List.filter_sublist⟩

/-- **every key of a multi-key `Del` goes to its ring node, in exactly one command; keys without node go nowhere** -/
theorem delGrouped_partition (disp : String → Outcome) (keys : List String) (k : String) (hk : k ∈ keys) :
    (∀ a, (disp k).addr = some a → ∃ ks, (a, ks) ∈ delGrouped disp keys ∧ k ∈ ks) ∧
    ((disp k).addr = none → ∀ rec ∈ delGrouped disp keys, k ∉ rec.2) ∧
    ((delGrouped disp keys).map (·.1)).Nodup := by
  refine ⟨?_, ?_, ?_⟩
  · intro a ha
    refine ⟨keys.filter fun k => (disp k).addr == some a, ?_, ?_⟩
    · unfold delGrouped delNodes
      refine List.mem_map.mpr ⟨a, ?_, rfl⟩
      rw [mem_dedupKeep]
      exact List.mem_filterMap.mpr ⟨k, hk, ha⟩
    · simp [List.mem_filter, hk, ha]
  · intro hn rec hrec hmem
    have := (delGrouped_mem disp keys rec hrec k hmem).2
    rw [hn] at this; cases this
  · unfold delGrouped
    rw [List.map_map]
    show (List.map (fun a => a) (delNodes disp keys)).Nodup
    rw [List.map_id']
    exact nodup_dedupKeep _

/-- the grouped form reaches the same (node, key) pairs as one command per key -/
theorem delGrouped_same_targets (disp : String → Outcome) (keys : List String) (a k : String) :
    (∃ ks, (a, ks) ∈ delGrouped disp keys ∧ k ∈ ks) ↔ (a, [k]) ∈ delPerKey disp keys := by
  constructor
  · rintro ⟨ks, hm, hk⟩
    have := delGrouped_mem disp keys _ hm k hk
    unfold delPerKey
    exact List.mem_filterMap.mpr ⟨k, this.1, by simp [this.2]⟩
  · intro h
    obtain ⟨k', hk', ha, he⟩ := delPerKey_mem disp keys _ h
    simp only [List.cons.injEq, and_true] at he
    subst he
    exact (delGrouped_partition disp keys k hk').1 a ha

theorem command_goes_to_dispatched_node (H : Hasher) (inst : UserInst) (user method : String) (strs : List String)
    (rec : String × List String) (h : rec ∈ callCommands H inst user method strs) :
    ∀ k ∈ rec.2, (inst.dispatch H (strKey k)).addr = some rec.1 := by
  intro k hk
  have per : ∀ keys, rec ∈ delPerKey (fun k => inst.dispatch H (strKey k)) keys →
      (inst.dispatch H (strKey k)).addr = some rec.1 := fun keys h => by
    obtain ⟨k', _, ha, he⟩ := delPerKey_mem _ keys rec h
    rw [he] at hk
    rw [List.mem_singleton.mp hk]; exact ha
  unfold callCommands at h
  simp only at h
  split at h
  · split at h
    · exact (delGrouped_mem _ strs rec h k hk).2
    · exact per _ h
  · exact per _ h

/-- **soundness of the `dispatch` monitor**: every command the MODEL issues for a public-method call passes `cmdOk`
against the instance's own ring -/
theorem monitor_sound_dispatch (H : Hasher) (inst : UserInst) (user method : String) (strs : List String)
    (rec : String × List String) (h : rec ∈ callCommands H inst user method strs) :
    cmdOk (fun k => addrText (inst.dispatch H (strKey k))) (multiKey method) (callKeys user method strs) rec = true := by
  have hall := command_goes_to_dispatched_node H inst user method strs rec h
  unfold cmdOk
  by_cases hm : multiKey method = true
  · simp only [hm, if_true, List.all_eq_true]
    intro k hk
    simp [addrText, hall k hk]
  · simp only [hm, Bool.false_eq_true, if_false]
    unfold callCommands at h
    simp only [hm, Bool.false_eq_true, if_false] at h
    obtain ⟨k', hk', ha, he⟩ := delPerKey_mem _ _ rec h
    have hlen : (callKeys user method strs).length ≤ 1 := by
      have := call_targets_one_key user H inst method strs (by simpa using hm)
      simpa [callTargets] using this
    match hc : callKeys user method strs, hlen, hk' with
    | [k], _, hk' =>
      simp only [List.mem_singleton] at hk'
      subst hk'
      simp [addrText, ha]
    | [], _, hk' => simp at hk'
    | _ :: _ :: _, hl, _ => simp at hl

/-- **soundness of `member-only` on commands, whole configuration space**: a command of any public method of an
instance built from ANY configuration (weights that fit) goes to a configured node with a positive weight -/
theorem command_to_weighted_node (user : String) (H : Hasher) (conf : List (Node × Int)) (hw : ∀ p ∈ conf, FitsInt p.2)
    (method : String) (strs : List String) (rec : String × List String)
    (h : rec ∈ callCommands H (userNew user H conf) user method strs) (hne : rec.2 ≠ []) :
    ∃ n w, n.repr = rec.1 ∧ lastEntry conf n.repr = some (n, w) ∧ 0 < w := by
  obtain ⟨k, hk⟩ := List.exists_mem_of_ne_nil _ hne
  have ha := command_goes_to_dispatched_node H _ user method strs rec h k hk
  -- only an answer that is a node has an address
  match hd : (userNew user H conf).dispatch H (strKey k), ha with
  | .node n, ha =>
    obtain ⟨w, hl, hpos⟩ := user_dispatch_positive_weight user H conf hw (strKey k) n hd
    exact ⟨n, w, Option.some.inj ha, hl, hpos⟩

end GoZero.C15
