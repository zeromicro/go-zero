/-
C08 — driver.  One trace line = one unmarshal:
  u key=<k> fs=<0..3> fa=<0/1> T <type tokens> I <input tokens>  =>  ok <value dump> | err <class> | PANIC …
Correspondence: the model's verdict and value equal the implementation's.  Monitors (on the implementation's own
observation): an accepted result must satisfy `Spec.satisfies`; an input that is `Spec.complete` (all declared
constraints met with correctly typed values) must be accepted; a panic is a violation.  Where the model answers
`outside` (string-encoded containers, a set `env=` variable, a merge of inherited entries) only the panic monitor applies.
-/
import GoZero.Base.Trace
import GoZero.C08.Spec
namespace GoZero.C08

open GoZero

def primOfToken : String → Option Kind
  | "bool" => some .bool | "int" => some (.int 64) | "i8" => some (.int 8) | "i16" => some (.int 16)
  | "i32" => some (.int 32) | "i64" => some (.int 64) | "uint" => some (.uint 64) | "u8" => some (.uint 8)
  | "u16" => some (.uint 16) | "u32" => some (.uint 32) | "u64" => some (.uint 64) | "f32" => some (.float 32)
  | "f64" => some (.float 64) | "str" => some .string | _ => none

def dropPrefix (pre s : String) : Option Str :=
  if s.startsWith pre then some (s.toList.drop pre.length) else none

mutual
def parseTyT : Nat → List String → Option (Ty × List String)
  | 0, _ => none
  | fuel + 1, toks =>
    match toks with
    | "*" :: rest => (parseTyT fuel rest).map fun (t, r) => (.ptr t, r)
    | "[]" :: rest => (parseTyT fuel rest).map fun (t, r) => (.slice t, r)
    | "map" :: rest => (parseTyT fuel rest).map fun (t, r) => (.map t, r)
    | "{" :: rest => (parseFieldsT fuel rest).map fun (fs, r) => (.struct fs, r)
    | t :: rest => (primOfToken t).map fun k => (.prim k, rest)
    | [] => none
def parseFieldsT : Nat → List String → Option (Fields × List String)
  | 0, _ => none
  | fuel + 1, toks =>
    match toks with
    | "}" :: rest => some (.nil, rest)
    | name :: rest =>
      match parseTyT fuel rest with
      | some (t, tag :: r2) =>
        let tg : Option (Option Str) :=
          if tag = "x" then some none else (dropPrefix "t:" tag).map some
        match tg with
        | none => none
        | some tg =>
          match parseFieldsT fuel r2 with
          | some (fs, r3) => some (.cons name.toList tg t fs, r3)
          | none => none
      | _ => none
    | [] => none
end

def isJsonNumber (s : Str) : Bool :=
  let s1 := if s.head? = some '-' then s.tail else s
  let ip := (takeDigits s1).1
  let r1 := (takeDigits s1).2
  let ipOk := !ip.isEmpty && (ip.length = 1 || ip.head? ≠ some '0')
  let hasDot := r1.head? = some '.'
  let fp := if hasDot then (takeDigits r1.tail).1 else []
  let r2 := if hasDot then (takeDigits r1.tail).2 else r1
  let fpOk := !hasDot || !fp.isEmpty
  let expOk := match r2 with
    | [] => true
    | e :: r3 =>
      (e = 'e' || e = 'E') &&
      (let r4 := if r3.head? = some '-' ∨ r3.head? = some '+' then r3.tail else r3
       !r4.isEmpty && r4.all isDigit)
  ipOk && fpOk && expOk

mutual
def parseJT : Nat → List String → Option (J × List String)
  | 0, _ => none
  | fuel + 1, toks =>
    match toks with
    | "{" :: rest => (parseObjT fuel rest).map fun (m, r) => (.obj m, r)
    | "[" :: rest => (parseArrT fuel rest).map fun (l, r) => (.arr l, r)
    | "null" :: rest => some (.null, rest)
    | "true" :: rest => some (.bool true, rest)
    | "false" :: rest => some (.bool false, rest)
    | t :: rest =>
      match dropPrefix "n:" t with
      | some lit => if isJsonNumber lit then some (.num lit, rest) else none
      | none => (dropPrefix "s:" t).map fun s => (.str s, rest)
    | [] => none
def parseObjT : Nat → List String → Option (Obj × List String)
  | 0, _ => none
  | fuel + 1, toks =>
    match toks with
    | "}" :: rest => some ([], rest)
    | k :: rest =>
      match parseJT fuel rest with
      | some (v, r2) => (parseObjT fuel r2).map fun (m, r3) => ((k.toList, v) :: m, r3)
      | none => none
    | [] => none
def parseArrT : Nat → List String → Option (List J × List String)
  | 0, _ => none
  | fuel + 1, toks =>
    match toks with
    | "]" :: rest => some ([], rest)
    | _ =>
      match parseJT fuel toks with
      | some (v, r2) => (parseArrT fuel r2).map fun (l, r3) => (v :: l, r3)
      | none => none
end

def parseFloatDump (s : Str) : Option Num :=
  if s = "NaN".toList then some .nan
  else if s = "+Inf".toList then some .posInf
  else if s = "-Inf".toList then some .negInf
  else match parseDec s with | .ok d => some (.fin d) | .error _ => none

def parseIntDump (s : Str) : Option Int :=
  let neg := s.head? = some '-'
  let body := if neg then s.tail else s
  if body.isEmpty || !body.all isDigit then none
  else some (if neg then -(digitsVal body 0 : Int) else (digitsVal body 0 : Int))

mutual
def parseValT : Nat → List String → Option (Val × List String)
  | 0, _ => none
  | fuel + 1, toks =>
    match toks with
    | "{" :: rest => (parseVFieldsT fuel rest).map fun (fs, r) => (.struct fs, r)
    | "m{" :: rest => (parseVFieldsT fuel rest).map fun (fs, r) => (.map fs, r)
    | "[" :: rest => (parseVListT fuel rest).map fun (l, r) => (.list l, r)
    | "&" :: rest => (parseValT fuel rest).map fun (v, r) => (.ptr v, r)
    | "nil" :: rest => some (.nil, rest)
    | "b:true" :: rest => some (.bool true, rest)
    | "b:false" :: rest => some (.bool false, rest)
    | t :: rest =>
      match dropPrefix "i:" t with
      | some s => (parseIntDump s).map fun i => (.int i, rest)
      | none =>
        match dropPrefix "f:" t with
        | some s => (parseFloatDump s).map fun x => (.flt x, rest)
        | none => (dropPrefix "s:" t).map fun s => (.str s, rest)
    | [] => none
def parseVFieldsT : Nat → List String → Option (VFields × List String)
  | 0, _ => none
  | fuel + 1, toks =>
    match toks with
    | "}" :: rest => some (.nil, rest)
    | k :: rest =>
      match parseValT fuel rest with
      | some (v, r2) => (parseVFieldsT fuel r2).map fun (fs, r3) => (.cons k.toList v fs, r3)
      | none => none
    | [] => none
def parseVListT : Nat → List String → Option (VList × List String)
  | 0, _ => none
  | fuel + 1, toks =>
    match toks with
    | "]" :: rest => some (.nil, rest)
    | _ =>
      match parseValT fuel toks with
      | some (v, r2) => (parseVListT fuel r2).map fun (l, r3) => (.cons v l, r3)
      | none => none
end

mutual
def valAgree : Val → Val → Bool
  | .bool a, .bool b => a == b
  | .int a, .int b => a == b
  | .flt a, .flt b => Spec.numEqv a b
  | .str a, .str b => a == b
  | .nil, .nil => true
  | .ptr a, .ptr b => valAgree a b
  | .struct a, .struct b => vfAgree a b
  | .map a, .map b => vfAgree a b
  | .list a, .list b => vlAgree a b
  | _, _ => false
def vfAgree : VFields → VFields → Bool
  | .nil, .nil => true
  | .cons k v r, .cons k' v' r' => k == k' && valAgree v v' && vfAgree r r'
  | _, _ => false
def vlAgree : VList → VList → Bool
  | .nil, .nil => true
  | .cons v r, .cons v' r' => valAgree v v' && vlAgree r r'
  | _, _ => false
end

structure Op where
  cfg : Cfg
  ty : Ty
  input : J

def parseOp (toks : List String) : Option Op :=
  match toks with
  | _ :: k :: fs :: fa :: "T" :: rest =>
    let cfgToks := [k, fs, fa]
    match parseTyT (rest.length + 1) rest with
    | some (ty, "I" :: r2) =>
      match parseJT (r2.length + 1) r2 with
      | some (j, []) =>
        -- fs: 0 = no option, 1 = WithStringValues + WithOpaqueKeys (rest/httpx form / path), 2 = WithStringValues,
        -- 3 = WithOpaqueKeys; key=header: WithStringValues + WithCanonicalKeyFunc (never opaque)
        let fs := kvNat cfgToks "fs"
        let hdr := kvStr cfgToks "key" = "header"
        some { cfg := { fromString := fs = 1 || fs = 2, fromArray := kvNat cfgToks "fa" = 1,
                        canonical := hdr, opaqueKeys := (fs = 1 || fs = 3) && !hdr }, ty := ty, input := j }
      | _ => none
    | _ => none
  | _ => none

/-- coverage label of a model result -/
def resultLabel : Except Err Val → String
  | .ok _ => "accept"
  | .error e => "reject-" ++ e.name

mutual
def tyFeatures : Ty → List String
  | .prim .bool => ["kind-bool"]
  | .prim (.int _) => ["kind-int"]
  | .prim (.uint _) => ["kind-uint"]
  | .prim (.float _) => ["kind-float"]
  | .prim .string => ["kind-string"]
  | .ptr t => (if t.isContainer then "ptr-to-container" else "ptr") :: tyFeatures t
  | .slice t => "slice" :: tyFeatures t
  | .map t => "map" :: tyFeatures t
  | .struct fs => "struct" :: fieldsFeatures fs
def fieldsFeatures : Fields → List String
  | .nil => []
  | .cons name tag t rest =>
    (match tag with
     | none => ["tag-otherkey"]
     | some tv =>
       match parseTag name tv with
       | .error _ => ["tag-malformed"]
       | .ok (_, none) => ["tag-noopts"]
       | .ok (_, some o) =>
         (if o.optional then (if o.optionalDep.isEmpty then ["opt-optional"] else
            if o.optionalDep.head? = some '!' then ["opt-optional-notdep"] else ["opt-optional-dep"]) else [])
         ++ (if o.default.isEmpty then [] else ["opt-default"])
         ++ (if o.range.isSome then ["opt-range"] else [])
         ++ (if o.options.isEmpty then [] else ["opt-options"])
         ++ (if o.fromString then ["opt-string"] else [])
         ++ (if o.inherit then ["opt-inherit"] else [])
         ++ (if o.envVar.isEmpty then [] else ["opt-env(unset)"])
         ++ (if o.optional && !o.optionalDep.isEmpty && o.range.isSome then ["opt-dep+range"] else []))
    ++ tyFeatures t ++ fieldsFeatures rest
end

/-- keys with dots: which way the lookup went (generator quality counters) -/
def dottedFeatures (c : Cfg) (key : Str) (m : Obj) : List String :=
  if !key.contains '.' then []
  else if c.opaqueKeys then
    ["key-dotted-opaque", if hasKey key m then "key-dotted-opaque-literal-found" else
      (match dottedLookup false false [] (fieldsDot key) m with
       | .ok (some _) => "key-dotted-opaque-absent-but-nested-path-exists"
       | _ => "key-dotted-opaque-absent")]
  else
    ["key-dotted-chained", s!"key-dotted-segments-{(fieldsDot key).length}"] ++
    (if (fieldsDot key).length < (splitOnChar '.' key).length then ["key-dotted-empty-segment"] else []) ++
    (if hasKey key m then ["key-dotted-chained-literal-binding-ignored"] else []) ++
    (match lookupKey c false key m with
     | .ok (some _) =>
       -- found in the innermost object, or inherited from an enclosing one
       (match (fieldsDot key).getLast?, (fieldsDot key).head? with
        | some lastk, some k0 =>
          (match getKey k0 m with
           | some (.obj _) => if hasKey lastk m && (fieldsDot key).length > 1 then ["key-dotted-chained-found(enclosing-binds-the-last-segment-too)"] else ["key-dotted-chained-found"]
           | _ => ["key-dotted-chained-found"])
        | _, _ => ["key-dotted-chained-found"])
     | .ok none =>
       (match (fieldsDot key).head? with
        | some k0 => (match getKey k0 m with
                      | some (.obj _) => ["key-dotted-chained-absent(path-ends-inside)"]
                      | some _ => ["key-dotted-chained-absent(first-segment-not-an-object)"]
                      | none => ["key-dotted-chained-absent(first-segment-absent)"])
        | none => ["key-dotted-chained-absent(no-segments)"])
     | .error _ => ["key-dotted-chained-outside(unknown-ancestors-or-merge)"])

/-- interesting states of the top-level fields of one input (generator quality counters) -/
def inputFeatures (c : Cfg) : Fields → Obj → List String
  | .nil, _ => []
  | .cons name tag t rest, m =>
    (match tag with
     | none => []
     | some tv =>
       match parseTagC c name tv with
       | .ok (key, some o) =>
         dottedFeatures c key m ++
         match (match lookupKey c o.inherit key m with | .ok x => x | .error _ => none) with
         | none =>
           (if !o.default.isEmpty then ["in-default-filled"] else [])
           ++ (if Spec.declOptional o m then ["in-absent-optional"] else [])
           ++ (if o.optional && !o.optionalDep.isEmpty && !Spec.declOptional o m then ["in-absent-dep-violated"] else [])
         | some .null => ["in-null"]
         | some j =>
           (match o.range, Spec.numOf (fromArrayValue c t.isSlice j) with
            | some r, some q =>
              (if Dec.eqv q r.left || Dec.eqv q r.right then
                 [if (Dec.eqv q r.left && r.leftInc) || (Dec.eqv q r.right && r.rightInc) then "in-range-at-closed-bound"
                  else "in-range-at-open-bound"] else [])
              ++ (if Spec.Range.contains r q then ["in-range-inside"] else ["in-range-outside"])
              ++ (if Dec.eqv r.left maxFloat64.neg then
                    ["in-range-halfopen-left"] ++ (if Dec.le q ⟨0, 0⟩ && Spec.Range.contains r q then
                      ["in-range-halfopen-left-nonpositive-inside" ++ (if (derefKind t).isSome && t.isSlice = false &&
                          (match t with | .ptr _ => true | _ => false) then "(ptr)" else "")] else [])
                  else [])
              ++ (if Dec.eqv r.right maxFloat64 then ["in-range-halfopen-right"] else [])
              ++ (if !o.optionalDep.isEmpty then ["in-dep+range-supplied"] else [])
            | some _, none => ["in-range-nonnumeric"]
            | none, _ => [])
           ++ (if !o.options.isEmpty then
                 [if Spec.optionsOK o (derefKind t) (fromArrayValue c t.isSlice j) then "in-options-member" else "in-options-nonmember"]
               else [])
           ++ (if o.optional && !o.optionalDep.isEmpty then ["in-dep-supplied"] else [])
       | .ok (key, none) => dottedFeatures c key m ++ (if (getKey key m).isNone then ["in-absent-required"] else [])
       | .error _ => [])
    ++ inputFeatures c rest m

def dedup (l : List String) : List String :=
  l.foldl (fun acc x => if acc.contains x then acc else acc ++ [x]) []

/-- significant digits of the mantissa of a number literal (float64 carries 15 of them exactly) -/
def sigDigits (s : Str) : Nat :=
  ((dropWhileL (fun c => c = '0') ((s.takeWhile (fun c => c ≠ 'e' && c ≠ 'E')).filter isDigit))).length

/-- the document a front end (YAML / TOML → JSON, conf's key lowering) hands on holds the values that were supplied:
same structure, strings, bools and nulls, numbers with the same value (literals beyond 15 significant digits are rounded by
the front ends' float64 and are not compared); `keyEq` compares object keys (conf lowers them) -/
def docEquivF (keyEq : Str → Str → Bool) : Nat → J → J → Bool
  | 0, _, _ => false
  | fuel + 1, a, b =>
    match a, b with
    -- core/conf (toLowerCaseInterface) hands an empty array on as a nil slice, written `[ null ]` by the harness
    | .arr [], .arr [.null] => true
    | .null, .null => true
    -- a number literal beyond the float64 range is not a number to YAML: it is handed on as the text it was
    | .num x, .str y => x == y && (match parseFloat 64 x with | .error .overflow => true | _ => false)
    | .bool x, .bool y => x == y
    | .str x, .str y => x == y
    | .num x, .num y =>
      x == y || sigDigits x > 15 ||
        (match floatSyntax x, floatSyntax y with
         | .ok (.fin p), .ok (.fin q) => Dec.eqv p q
         | _, _ => false)
    | .arr x, .arr y => x.length == y.length && (x.zip y).all fun pq => docEquivF keyEq fuel pq.1 pq.2
    | .obj x, .obj y =>
      -- every binding handed on comes from a supplied binding with an equal key, and no supplied key is lost
      (canonObj y).all (fun kv => (canonObj x).any fun kv' => keyEq kv'.1 kv.1 && docEquivF keyEq fuel kv'.2 kv.2)
      && (canonObj x).all (fun kv' => (canonObj y).any fun kv => keyEq kv'.1 kv.1)
    | _, _ => false

def jSize : J → Nat
  | .arr l => 1 + jSizeL l
  | .obj m => 1 + jSizeO m
  | _ => 1
where
  jSizeL : List J → Nat
    | [] => 0
    | j :: rest => jSize j + jSizeL rest
  jSizeO : List (Str × J) → Nat
    | [] => 0
    | (_, j) :: rest => jSize j + jSizeO rest

def docEquiv (keyEq : Str → Str → Bool) (a b : J) : Bool :=
  docEquivF keyEq (jSize a + jSize b + 2) a b

/-- core/conf hands the unmarshaller a document in which every key that names a field of the struct at that place
(up to case) is written in lower case — otherwise the lower-casing unmarshaller cannot find it -/
def confKeysLowered : Nat → Ty → J → Bool
  | 0, _, _ => true
  | fuel + 1, t, j =>
    match t, j with
    | .ptr t', _ => confKeysLowered fuel t' j
    | .struct fs, .obj m =>
      m.all fun kv =>
        let rec go : Fields → Bool
          | .nil => true
          | .cons name tag ft rest =>
            (match tag with
             | some tv =>
               match parseTag name tv with
               | .ok (key, _) => if lower key = lower kv.1 then kv.1 = lower kv.1 && confKeysLowered fuel ft kv.2 else true
               | .error _ => true
             | none => true) && go rest
        go fs
    | .slice t', .arr l => l.all fun x => confKeysLowered fuel t' x
    | .map t', .obj m => m.all fun kv => confKeysLowered fuel t' kv.2
    | _, _ => true

/-- one unmarshal of the document `doc` under `op.cfg` into `op.ty`, compared with the observation `obs` -/
def runU (r : Report) (sec : Nat) (l : Line) (op : Op) (mode : String) (obs : List String) : Report := Id.run do
    let mut r := { r with ops := r.ops + 1 }
    let res := unmarshal op.cfg op.ty op.input
    r := r.addCover (resultLabel res)
    r := r.addCover mode
    for f in dedup (tyFeatures op.ty) do r := r.addCover f
    match op.ty, op.input with
    | .struct fs, .obj m => for f in dedup (inputFeatures op.cfg.repaired fs m) do r := r.addCover f
    | _, _ => r := r.addCover "in-toplevel-not-object"
    let impl := joinSp obs
    let cmpl := Spec.complete op.cfg op.ty op.input
    let outside := match res with | .error .outside => true | _ => false
    if outside then r := r.addCover "model-outside(panic-monitor-only)"
    match obs with
    | "ok" :: vt =>
      match parseValT (vt.length + 1) vt with
      | some (v, []) =>
        if !outside then
          r := r.addCover (if cmpl then "accepted-and-complete" else "accepted-not-complete")
          -- monitor: the property on the implementation's own result
          if !Spec.satisfies op.cfg op.ty op.input v then
            r := r.violation sec l.idx s!"accepted-but-constraints-violated op=[{joinSp l.op}] impl=[{impl}]"
          match res with
          | .ok mv => if !valAgree mv v then r := r.mismatch sec l.idx "ok(other value)" impl
          | .error e => r := r.mismatch sec l.idx s!"err {e.name}" impl
      | _ => r := r.mismatch sec l.idx "unparsable-value" impl
    | ["err", cls] =>
      if !outside then
        -- monitor: the converse direction of the property
        if cmpl then
          r := r.violation sec l.idx s!"rejected-but-constraints-met op=[{joinSp l.op}] impl=[{impl}]"
        else r := r.addCover "rejected-not-complete"
        match res with
        | .ok _ => r := r.mismatch sec l.idx "ok" impl
        | .error e =>
          if e.name ≠ cls then
            -- Go iterates maps in random order: when several entries of a map fail, which error is reported
            -- first is not determined; the verdict (reject) is compared, the class is not
            if (tyFeatures op.ty).contains "map" then r := r.addCover "map-order-ambiguous-error"
            else r := r.mismatch sec l.idx s!"err {e.name}" impl
    | "PANIC" :: _ =>
      r := r.violation sec l.idx s!"panic op=[{joinSp l.op}] impl=[{impl}]"
      match res with
      | .error .panic => pure ()
      | .error .outside => pure ()
      | _ => r := r.mismatch sec l.idx (resultLabel res) impl
    | _ => r := r.mismatch sec l.idx "unparsable-observation" impl
    return r

def cfgMode (c : Cfg) : String :=
  if c.canonical then "mode-header" else if c.fromArray then "mode-form"
  else if c.fromString then "mode-fromstring" else "mode-json"

def runLine (r : Report) (sec : Nat) (l : Line) : Report :=
  match parseOp l.op with
  | none => r.mismatch sec l.idx "bad-op" (joinSp l.op)
  | some op => runU r sec l op (cfgMode op.cfg) l.obs

/-- `uy` / `ut`: the document written as YAML / TOML through `UnmarshalYamlBytes` / `UnmarshalTomlBytes`.  Observation:
`D <the JSON document the front end produced | none> R <result>`.  Monitors: a panic; the produced document holds the
supplied values (`docEquiv`); then every monitor of `u` on the produced document. -/
def runFrontEnd (r : Report) (sec : Nat) (l : Line) (mode : String) (conf yaml : Bool) : Report :=
  match parseOp l.op with
  | none => r.mismatch sec l.idx "bad-op" (joinSp l.op)
  | some op0 =>
    -- core/conf: the JSON unmarshaler with WithCanonicalKeyFunc(strings.ToLower); the handed-on document has lowered keys
    -- uy / ut: `fa=1` selects the Reader form of the front end, not WithFromArray
    let reader := !conf && op0.cfg.fromArray
    let op : Op := if conf then { op0 with cfg := { lower := true } } else { op0 with cfg := { op0.cfg with fromArray := false, opaqueKeys := false } }
    let mode := if reader then mode ++ "(Reader)" else mode
    let keyEq : Str → Str → Bool := if conf then (fun a b => lower a == lower b) else (· == ·)
    match l.obs with
    | "PANIC" :: _ => (r.violation sec l.idx s!"panic op=[{joinSp l.op}] impl=[{joinSp l.obs}]")
    | "D" :: "none" :: "R" :: rest =>
      -- the front end refused the text (a number outside its range, a top level that is not an object, …): the
      -- unmarshaller must refuse too
      let r := { r with ops := r.ops + 1 }
      let r := (r.addCover mode).addCover "frontend-refused-the-text"
      if rest = ["err", "convert"] then r
      else r.violation sec l.idx s!"accepted-although-the-front-end-refused op=[{joinSp l.op}] impl=[{joinSp l.obs}]"
    | "D" :: dt =>
      match parseJT (dt.length + 1) dt with
      | some (doc, "R" :: obs) =>
        let nullDoc := conf && (match op.input, doc with | .null, .obj [] => true | _, _ => false)
        -- the model of the front end: YAML hands a null on as the empty string (`Model.yamlNulls true`; a documented domain
        -- restriction of the converse clause, Props.yaml_null_witness), JSON and TOML hand the document on as it is
        let expected := if yaml then yamlNulls true op.input else op.input
        let r := if nullDoc then r.addCover "conf-null-document-is-the-empty-configuration"
          else if docEquiv keyEq expected doc then
            (if yaml && !(docEquiv (· == ·) op.input expected) then
               r.addCover "frontend-yaml-null-is-empty-string(outside-domain)"
             else r.addCover "frontend-document-equivalent")
          else if yaml && docEquiv keyEq op.input doc then
            r.mismatch sec l.idx "yaml-null-is-the-empty-string" s!"the YAML front end kept a null: {joinSp l.obs}"
          else r.violation sec l.idx s!"front-end-changed-the-supplied-values op=[{joinSp l.op}] impl=[{joinSp l.obs}]"
        let r := if conf && !(docEquiv (· == ·) expected doc) then r.addCover "conf-keys-lowered" else r
        let r := if conf && !(confKeysLowered (jSize doc + 2) op.ty doc) then
            r.violation sec l.idx s!"conf-field-key-not-lowered op=[{joinSp l.op}] impl=[{joinSp l.obs}]"
          else r
        runU r sec l { op with input := doc } mode obs
      | _ => r.mismatch sec l.idx "unparsable-observation" (joinSp l.obs)
    | _ => r.mismatch sec l.idx "unparsable-observation" (joinSp l.obs)

/-! ### `p`: one request through `httpx.Parse`; `pp` / `pf` / `ph` / `pj`: the same request through `ParsePath` /
`ParseForm` / `ParseHeaders` (→ `encoding.ParseHeaders`) / `ParseJsonBody` alone
  p T { Name ty t:<key>|<tag value> … } P { k s:v … } F { k [ s:v … ] … } H { k [ s:v … ] | k null … } B <json value | none>
A header / form key may carry zero values: `k [ ]` (empty slice) or `k null` (nil slice). -/

structure POp where
  fs : Fields
  p : Obj
  f : List (Str × List Str)
  h : List (Str × HVals)
  b : Option J

def strOf : J → Option Str
  | .str s => some s
  | _ => none

/-- form values: a nil and an empty value list are the same to `GetFormValues` (nothing left after filtering) -/
def multiOf : Obj → Option (List (Str × List Str))
  | [] => some []
  | (k, .arr l) :: rest =>
    match l.mapM strOf, multiOf rest with
    | some vs, some r => some ((k, vs) :: r)
    | _, _ => none
  | (k, .null) :: rest => (multiOf rest).map fun r => (k, []) :: r
  | _ => none

def hmultiOf : Obj → Option (List (Str × HVals))
  | [] => some []
  | (k, .arr l) :: rest =>
    match l.mapM strOf, hmultiOf rest with
    | some vs, some r => some ((k, some vs) :: r)
    | _, _ => none
  | (k, .null) :: rest => (hmultiOf rest).map fun r => (k, none) :: r
  | _ => none

def parsePOp (toks : List String) : Option POp :=
  match toks with
  | _ :: "T" :: rest =>
    match parseTyT (rest.length + 1) rest with
    | some (.struct fs, "P" :: r1) =>
      match parseJT (r1.length + 1) r1 with
      | some (.obj p, "F" :: r2) =>
        match parseJT (r2.length + 1) r2 with
        | some (.obj f, "H" :: r3) =>
          match parseJT (r3.length + 1) r3 with
          | some (.obj h, "B" :: r4) =>
            match multiOf f, hmultiOf h with
            | some f', some h' =>
              if r4 = ["none"] then some { fs := fs, p := p, f := f', h := h', b := none }
              else match parseJT (r4.length + 1) r4 with
                | some (j, []) => some { fs := fs, p := p, f := f', h := h', b := some j }
                | _ => none
            | _, _ => none
          | _ => none
        | _ => none
      | _ => none
    | _ => none
  | _ => none

def fieldKeyOf (tag : Option Str) : Str := match tag with | some tv => (splitTag tv).1 | none => []

/-- the part of a `Parse` result that the unmarshaler with tag key `key` is responsible for (zero elsewhere) -/
def viewVals (key : Str) : Fields → VFields → VFields
  | .cons n tag t rest, .cons _ v r => .cons n (if fieldKeyOf tag = key then v else zero t) (viewVals key rest r)
  | _, _ => .nil

def keyCover : Fields → List String
  | .nil => []
  | .cons _ tag t rest => ("http-field-" ++ String.ofList (fieldKeyOf tag)) :: (tyFeatures t ++ keyCover rest)

/-- which of the four unmarshalers an op runs -/
structure Sel where
  path : Bool
  form : Bool
  header : Bool
  json : Bool

def selOf : String → Option (Sel × String)
  | "p" => some (⟨true, true, true, true⟩, "httpx.Parse")
  | "pp" => some (⟨true, false, false, false⟩, "httpx.ParsePath")
  | "pf" => some (⟨false, true, false, false⟩, "httpx.ParseForm")
  | "ph" => some (⟨false, false, true, false⟩, "httpx.ParseHeaders")
  | "pj" => some (⟨false, false, false, true⟩, "httpx.ParseJsonBody")
  | _ => none

/-- the model of one of `ParsePath` / `ParseForm` / `ParseHeaders` / `ParseJsonBody` alone: the fields of the other
tag keys stay untouched; all four = `httpParse` -/
def httpParseSel (sel : Sel) (op : POp) : Except Err VFields :=
  if sel.path && sel.form && sel.header && sel.json then httpParse false op.fs op.p op.f op.h op.b
  else
    let part (run : Bool) (key : String) (x : Except Err VFields) : Except Err VFields :=
      if run then x else .ok (zeroFields (viewFields key.toList op.fs))
    match part sel.path "path" (httpParsePath false op.fs op.p) with
    | .error e => .error e
    | .ok v1 =>
      match part sel.form "form" (httpParseForm false op.fs op.f) with
      | .error e => .error e
      | .ok v2 =>
        match part sel.header "header" (httpParseHeaders false op.fs op.h) with
        | .error e => .error e
        | .ok v3 =>
          match part sel.json "json" (httpParseJsonBody false op.fs op.b) with
          | .error e => .error e
          | .ok v4 => .ok (mergeViews op.fs v1 v2 v3 v4)

def runPLine (r : Report) (sec : Nat) (l : Line) : Report :=
  match (l.op.head?.bind selOf), parsePOp l.op with
  | some (sel, fname), some op => Id.run do
    let mut r := { r with ops := r.ops + 1 }
    let res := httpParseSel sel op
    let vp := viewFields "path".toList op.fs
    let vf := viewFields "form".toList op.fs
    let vh := viewFields "header".toList op.fs
    let vj := viewFields "json".toList op.fs
    let fObj := formParams op.f
    let hObj := headerParams op.h
    let body := op.b.getD (.obj [])
    r := r.addCover ("mode-" ++ fname)
    r := r.addCover (match res with | .ok _ => "http-accept" | .error e => "http-reject-" ++ e.name)
    for f in dedup (keyCover op.fs) do r := r.addCover f
    if op.b.isSome then r := r.addCover "http-json-body"
    if op.f.any (fun kv => kv.2.length > 1) then r := r.addCover "http-form-multi-valued"
    if op.f.any (fun kv => kv.2.any (·.isEmpty)) then r := r.addCover "http-form-empty-value"
    if op.f.any (fun kv => kv.2.isEmpty) then r := r.addCover "http-form-zero-values"
    if op.h.any (fun kv => kv.2.len > 1) then r := r.addCover "http-header-multi-valued"
    if op.h.any (fun kv => kv.2 == some []) then r := r.addCover "http-header-zero-values(empty-slice)"
    if op.h.any (fun kv => kv.2 == none) then r := r.addCover "http-header-zero-values(nil-slice)"
    if op.h.any (fun kv => (kv.2.getD []).any (·.isEmpty)) then r := r.addCover "http-header-empty-string"
    if op.p.any (fun kv => match kv.2 with | .str [] => true | _ => false) then r := r.addCover "http-path-empty-string"
    for f in dedup ((if sel.path then inputFeatures (httpCfgPath false) vp op.p else [])
        ++ (if sel.form then inputFeatures (httpCfgForm false) vf fObj else [])
        ++ (if sel.header then inputFeatures (httpCfgHeader false) vh hObj else [])
        ++ (match sel.json, body with | true, .obj m => inputFeatures (httpCfgJson false) vj m | _, _ => [])) do r := r.addCover f
    let cmpl := (!sel.path || Spec.okFields (httpCfgPath false) vp op.p)
      && (!sel.form || Spec.okFields (httpCfgForm false) vf fObj)
      && (!sel.header || Spec.okFields (httpCfgHeader false) vh hObj)
      && (!sel.json || Spec.complete (httpCfgJson false) (.struct vj) body)
    let outside := match res with | .error .outside => true | _ => false
    if outside then r := r.addCover "model-outside(panic-monitor-only)"
    let impl := joinSp l.obs
    match l.obs with
    | "ok" :: vt =>
      match parseValT (vt.length + 1) vt with
      | some (.struct vs, []) =>
        if !outside then
          r := r.addCover (if cmpl then "accepted-and-complete" else "accepted-not-complete")
          let part (run : Bool) (key : String) (fsv : Fields) (ok : VFields → Bool) : Bool :=
            if run then ok (viewVals key.toList op.fs vs) else Spec.isZeroFields fsv (viewVals key.toList op.fs vs)
          let sat := part sel.path "path" vp (Spec.satFields (httpCfgPath false) vp op.p)
            && part sel.form "form" vf (Spec.satFields (httpCfgForm false) vf fObj)
            && part sel.header "header" vh (Spec.satFields (httpCfgHeader false) vh hObj)
            && part sel.json "json" vj (fun v => Spec.satisfies (httpCfgJson false) (.struct vj) body (.struct v))
          if !sat then
            r := r.violation sec l.idx s!"accepted-but-constraints-violated op=[{joinSp l.op}] impl=[{impl}]"
          match res with
          | .ok mv => if !vfAgree mv vs then r := r.mismatch sec l.idx "ok(other value)" impl
          | .error e => r := r.mismatch sec l.idx s!"err {e.name}" impl
      | _ => r := r.mismatch sec l.idx "unparsable-value" impl
    | ["err", cls] =>
      if !outside then
        if cmpl then
          r := r.violation sec l.idx s!"rejected-but-constraints-met op=[{joinSp l.op}] impl=[{impl}]"
        else r := r.addCover "rejected-not-complete"
        match res with
        | .ok _ => r := r.mismatch sec l.idx "ok" impl
        | .error e =>
          if e.name ≠ cls then
            if (keyCover op.fs).contains "map" then r := r.addCover "map-order-ambiguous-error"
            else r := r.mismatch sec l.idx s!"err {e.name}" impl
    | "PANIC" :: _ =>
      r := r.violation sec l.idx s!"panic op=[{joinSp l.op}] impl=[{impl}]"
    | _ => r := r.mismatch sec l.idx "unparsable-observation" impl
    return r
  | _, _ => r.mismatch sec l.idx "bad-op" (joinSp l.op)

/-- the verdict on an invalid call: rejected; a panic only from the caller's reader -/
def runInvalid (r : Report) (sec : Nat) (l : Line) (readPanic : Bool) : Report :=
  match l.obs with
  | "ok" :: _ => r.violation sec l.idx s!"accepted-with-invalid-target-or-source op=[{joinSp l.op}] impl=[{joinSp l.obs}]"
  | ["err", _] => r.addCover "entry-invalid-call-rejected"
  | "PANIC" :: _ =>
    if readPanic then r.addCover "entry-reader-panic-propagates(the caller's panic)"
    else r.violation sec l.idx s!"panic op=[{joinSp l.op}] impl=[{joinSp l.obs}]"
  | _ => r.mismatch sec l.idx "unparsable-observation" (joinSp l.obs)


/-! ### `pe`: `httpx.Parse` on requests as they arrive
  pe kind=<K> T … P … F … H … B <json>
K = chunked (Content-Length -1) | wrongct | noct: the body is not looked at (`Model.withJsonBody`), the request is judged without
it; nobody (Content-Length > 0, no bytes) | readerr | overcap (a body over the 8 MB cap is cut: malformed) | tgt-nil | tgt-val |
tgt-nilptr | tgt-ptrint: must be rejected; undercap: an ordinary request with a large body. -/
def runPELine (r : Report) (sec : Nat) (l : Line) : Report :=
  match l.op with
  | _ :: k :: rest =>
    let kind := kvStr [k] "kind"
    let r := r.addCover s!"http-entry-{kind}"
    let asP : Line := { l with op := "p" :: rest }
    if kind = "chunked" || kind = "wrongct" || kind = "noct" then
      -- the body is ignored: the same request without a body
      match parsePOp ("p" :: rest) with
      | some op =>
        -- the body starts at the LAST `B` token (a header may be named B; body keys are never upper case)
        let toks := ((("p" :: rest).reverse.dropWhile (· ≠ "B")).drop 1).reverse ++ ["B", "none"]
        let _ := op
        runPLine (r.addCover "http-body-not-looked-at(withJsonBody=false)") sec { asP with op := toks }
      | none => r.mismatch sec l.idx "bad-op" (joinSp l.op)
    else if kind = "undercap" then runPLine r sec asP
    else
      match parsePOp ("p" :: rest) with
      | some op =>
        -- path, form and headers are parsed before the body / may refuse first: any rejection is fine, acceptance is not
        let _ := op
        runInvalid { r with ops := r.ops + 1 } sec l false
      | none => r.mismatch sec l.idx "bad-op" (joinSp l.op)
  | _ => r.mismatch sec l.idx "bad-op" (joinSp l.op)

/-! ### `um`: one struct type carrying a `json` and a `form` tag on every field, read by the unmarshaler of one of the keys -/

def keyPart (tv : Str) : Str := tv.takeWhile (· ≠ ',')

mutual
/-- the type as the `form` unmarshaler reads it: the bare key, no options -/
def formViewTy : Ty → Ty
  | .prim k => .prim k
  | .ptr t => .ptr (formViewTy t)
  | .slice t => .slice (formViewTy t)
  | .map t => .map (formViewTy t)
  | .struct fs => .struct (formViewFields fs)
def formViewFields : Fields → Fields
  | .nil => .nil
  | .cons n tag t rest =>
    .cons n (match tag with | some [] => some [] | some tv => some (keyPart tv) | none => none) (formViewTy t) (formViewFields rest)
end

mutual
/-- some nested struct type is "required" under one tag key and not under the other: the place where a cache keyed by the
type alone (structRequiredCache) hands one unmarshaler the other's answer -/
def requiredDiffersTy : Ty → Ty → Bool
  | .ptr a, .ptr b => requiredDiffersTy a b
  | .slice a, .slice b => requiredDiffersTy a b
  | .map a, .map b => requiredDiffersTy a b
  | .struct a, .struct b =>
    (match structRequired a, structRequired b with
     | .ok x, .ok y => x != y
     | .error _, .error _ => false
     | _, _ => true) || requiredDiffersFields a b
  | _, _ => false
def requiredDiffersFields : Fields → Fields → Bool
  | .cons _ _ t r, .cons _ _ t' r' => requiredDiffersTy t t' || requiredDiffersFields r r'
  | _, _ => false
end

def runMLine (r : Report) (sec : Nat) (l : Line) : Report :=
  match parseOp l.op with
  | none => r.mismatch sec l.idx "bad-op" (joinSp l.op)
  | some op0 =>
    let form := kvStr (l.op.take 4) "key" = "form"
    let op : Op := { op0 with cfg := {}, ty := if form then formViewTy op0.ty else op0.ty }
    let other : Ty := if form then op0.ty else formViewTy op0.ty
    let mode := if form then "mode-two-keys(form)" else "mode-two-keys(json)"
    -- whether a nested struct needs a value is cached per (tag key, type) since a8b007f; before, the cache was keyed by
    -- the type alone and the verdict followed whichever unmarshaler saw the type first (Props.structRequiredCache_witness):
    -- such a history dependence shows here as rejected-but-constraints-met / accepted-but-constraints-violated / mismatch
    let r := if requiredDiffersTy op.ty other then r.addCover "two-keys-required-differs" else r
    runU r sec l op mode l.obs

/-! ### `v`: lookups through the valuers of core/mapping/valuer.go on a chain of nested objects
  v C [ {current} {parent} {grandparent} … ] Q [ s:r.<key> | s:s.<key> … ]  =>  found <value> | absent ; …
`r.` = `recursiveValuer` (a field tagged `inherit`), `s.` = `simpleValuer`; the queries run in order on the same maps (the
merge of an inherited object is kept in the current node). -/

def jTokens : Nat → J → String
  | 0, _ => "?"
  | fuel + 1, j =>
    match j with
    | .null => "null"
    | .bool b => if b then "true" else "false"
    | .num s => "n:" ++ String.ofList s
    | .str s => "s:" ++ String.ofList s
    | .arr l => "[ " ++ String.join (l.map fun x => jTokens fuel x ++ " ") ++ "]"
    | .obj m => "{ " ++ String.join ((canonObj m).map fun kv => String.ofList kv.1 ++ " " ++ jTokens fuel kv.2 ++ " ") ++ "}"

def splitOnTok (sep : String) : List String → List (List String)
  | [] => [[]]
  | t :: rest =>
    match splitOnTok sep rest with
    | [] => [[]]
    | h :: tl => if t = sep then [] :: h :: tl else (t :: h) :: tl

def objsOf : List J → Option (List Obj)
  | [] => some []
  | .obj m :: rest => (objsOf rest).map (m :: ·)
  | _ => none

def runVLine (r : Report) (sec : Nat) (l : Line) : Report :=
  match l.op with
  | "v" :: "C" :: rest =>
    match parseJT (rest.length + 1) rest with
    | some (.arr cl, "Q" :: r2) =>
      match objsOf cl, parseJT (r2.length + 1) r2 with
      | some ch0, some (.arr ql, []) => Id.run do
        let mut r := { r with ops := r.ops + 1 }
        r := r.addCover "mode-valuer"
        r := r.addCover s!"valuer-chain-depth-{ch0.length}"
        match l.obs with
        | "PANIC" :: _ => return r.violation sec l.idx s!"panic op=[{joinSp l.op}] impl=[{joinSp l.obs}]"
        | _ => pure ()
        let answers := splitOnTok ";" l.obs
        if answers.length ≠ ql.length then return r.mismatch sec l.idx "answer-count" (joinSp l.obs)
        let mut ch := ch0
        for (q, ans) in ql.zip answers do
          match q with
          | .str (kind :: '.' :: key) =>
            let rec_ : Bool := kind = 'r'
            let mres : Option J := if rec_ then (recValueM ch key).1 else simpleValue ch key
            let boundInChain := ch.any (hasKey key ·)
            let boundInCurrent := match ch with | cur :: _ => hasKey key cur | [] => false
            let nearest : Option J := (ch.filterMap (getKey key ·)).head?
            let expected := match mres with
              | some j => "found " ++ jTokens (jSize j + 1) j
              | none => "absent"
            r := r.addCover (if rec_ then "valuer-recursive-lookup" else "valuer-simple-lookup")
            if rec_ then
              match getKey key (ch.headD []), mres with
              | none, some _ => r := r.addCover "valuer-inherited-from-ancestor"
              | some (.obj _), some (.obj m) =>
                if (match (recValueM (ch.drop 1) key).1 with | some (.obj _) => true | _ => false) then
                  r := r.addCover "valuer-objects-merged"
                else if m.isEmpty then pure () else pure ()
              | _, _ => pure ()
            else if boundInChain && !boundInCurrent then r := r.addCover "valuer-simple-ignores-ancestors"
            -- monitor (on the implementation's own answer): found iff bound where the valuer may look; a binding that
            -- is not an object is handed over as the nearest node binds it (the supplied value, unchanged)
            let found : Bool := ans.head? = some "found"
            let shouldFind : Bool := if rec_ then boundInChain else boundInCurrent
            if found ≠ shouldFind then
              r := r.violation sec l.idx s!"valuer-lookup-wrong(found={found},bound={shouldFind}) key={String.ofList key} op=[{joinSp l.op}] impl=[{joinSp l.obs}]"
            else match nearest with
              | some (.obj vm) =>
                -- an object: every binding the nearest node supplies under this key is handed over unchanged; with
                -- `inherit` the keys it does not bind come from the nearest ancestor object that binds them
                if found then
                  match parseJT (ans.length + 1) (ans.drop 1) with
                  | some (.obj res, []) =>
                    let own := (canonObj vm).all fun kv =>
                      match getKey kv.1 res with
                      | some x => jTokens (jSize x + 1) x == jTokens (jSize kv.2 + 1) kv.2
                      | none => false
                    let inherited : Bool := !rec_ || ((ch.drop 1).filterMap (getKey key ·)).all fun pj =>
                      match pj with
                      | .obj pm => (canonObj pm).all fun kv => hasKey kv.1 res
                      | _ => true
                    let nothingElse := (canonObj res).all fun kv =>
                      hasKey kv.1 vm || (rec_ && ((ch.drop 1).filterMap (getKey key ·)).any fun pj =>
                        match pj with | .obj pm => hasKey kv.1 pm | _ => false)
                    if !own then
                      r := r.violation sec l.idx s!"valuer-lookup-wrong(a supplied binding of the object was replaced or lost) key={String.ofList key} op=[{joinSp l.op}] impl=[{joinSp l.obs}]"
                    else if !nothingElse then
                      r := r.violation sec l.idx s!"valuer-lookup-wrong(a binding that nobody supplied) key={String.ofList key} op=[{joinSp l.op}] impl=[{joinSp l.obs}]"
                    else if !inherited then r := r.addCover "valuer-inheritance-stops-at-a-non-object"
                  | _ =>
                    r := r.violation sec l.idx s!"valuer-lookup-wrong(an object was supplied, something else handed over) key={String.ofList key} op=[{joinSp l.op}] impl=[{joinSp l.obs}]"
              | some j =>
                if found && joinSp ans ≠ "found " ++ jTokens (jSize j + 1) j then
                  r := r.violation sec l.idx s!"valuer-lookup-wrong(value of the nearest binding changed) key={String.ofList key} op=[{joinSp l.op}] impl=[{joinSp l.obs}]"
              | none => pure ()
            if joinSp ans ≠ expected then r := r.mismatch sec l.idx expected (joinSp ans)
            if rec_ then ch := (recValueM ch key).2
          | _ => r := r.mismatch sec l.idx "bad-query" (joinSp l.op)
        return r
      | _, _ => r.mismatch sec l.idx "bad-op" (joinSp l.op)
    | _ => r.mismatch sec l.idx "bad-op" (joinSp l.op)
  | _ => r.mismatch sec l.idx "bad-op" (joinSp l.op)

/-! ### `e`: the entry points of core/mapping with every kind of target and source
  e fn=<bytes|reader|map|key|yaml|toml> tgt=<ptr|ptrptr|nil|val|nilptr|ptrint> src=<doc|empty|malformed|readerr|readpanic> T <type> I <input>
A valid target with a decoded document is an ordinary unmarshal (all monitors of `u`); everything else must be rejected
(`Props.entry_rejects_invalid`), and only the caller's reader may panic (`Props.entry_no_panic`). -/

def targetOf : String → Option Target
  | "ptr" => some .ptr | "ptrptr" => some .ptrptr | "nil" => some .nilIface | "val" => some .value
  | "nilptr" => some .nilPtr | "ptrint" => some .ptrNonStruct | _ => none

def sourceOf : String → Option Source
  | "doc" => some .doc | "empty" => some .empty | "malformed" => some .malformed | "readerr" => some .readErr
  | "readpanic" => some .readPanic | _ => none

def runELine (r : Report) (sec : Nat) (l : Line) : Report :=
  match l.op with
  | _ :: fn :: tg :: sr :: rest =>
    let cfgToks := [fn, tg, sr]
    let fnS := kvStr cfgToks "fn"
    match targetOf (kvStr cfgToks "tgt"), sourceOf (kvStr cfgToks "src"),
          parseOp ("u" :: (if fnS = "key" then "key=key" else "key=json") :: "fs=0" :: "fa=0" :: rest) with
    | some tgt, some src, some op =>
      let r := r.addCover s!"entry-{fnS}-tgt-{kvStr cfgToks "tgt"}-src-{kvStr cfgToks "src"}"
      let res := entryPoint op.cfg tgt src op.ty op.input
      if tgt.valid && src == .doc then
        -- YAML hands a null on as the empty string (domain restriction, see `uy`)
        runU r sec l { op with input := if fnS = "yaml" then yamlNulls true op.input else op.input } s!"mode-entry({fnS})" l.obs
      else
        let r := { r with ops := r.ops + 1 }
        let r := r.addCover (match res with | .error .panic => "entry-model-panic" | .error _ => "entry-model-reject" | .ok _ => "entry-model-accept")
        runInvalid r sec l (src == .readPanic)
    | _, _, _ => r.mismatch sec l.idx "bad-op" (joinSp l.op)
  | _ => r.mismatch sec l.idx "bad-op" (joinSp l.op)

def runSection (r : Report) (s : Section) : Report :=
  s.lines.foldl (fun r l => if (l.op.head?.bind selOf).isSome then runPLine r s.idx l
    else if l.op.head? = some "uy" then runFrontEnd r s.idx l "mode-yaml(UnmarshalYamlBytes)" false true
    else if l.op.head? = some "ut" then runFrontEnd r s.idx l "mode-toml(UnmarshalTomlBytes)" false false
    else if l.op.head? = some "c" then
      let fmt := kvStr (l.op.take 4) "fmt"
      let via := kvStr (l.op.take 4) "via"
      runFrontEnd r s.idx l s!"mode-conf({if via = "file" then "Load:" else if via = "cfgfile" then "LoadConfig:" else if via = "alias" then "LoadConfigFrom…Bytes:" else "LoadFrom…Bytes:"}{fmt})" true (fmt = "yaml")
    else if l.op.head? = some "v" then runVLine r s.idx l
    else if l.op.head? = some "um" then runMLine r s.idx l
    else if l.op.head? = some "u" then runLine r s.idx l
    else if l.op.head? = some "e" then runELine r s.idx l
    else if l.op.head? = some "pe" then runPELine r s.idx l
    else r.mismatch s.idx l.idx "bad-op" (joinSp l.op)) r

def driver (secs : List Section) : Report := secs.foldl runSection {}

end GoZero.C08
