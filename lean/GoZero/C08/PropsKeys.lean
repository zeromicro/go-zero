/-
C08 — how a key is looked up: the valuers of core/mapping/valuer.go (`inherit`) and keys with dots.  `readKeys` / `getValue` /
`getValueWithChainedKeys` are inside the model (`Model.lookupKey`); `accept_sound`, `accept_complete`, `no_panic` and the clause
theorems of PropsClauses speak about the path through them, for every option set (`Cfg.opaqueKeys` = WithOpaqueKeys on/off
together with every other option) and for both positions of a struct (`Cfg.anc`: the enclosing objects).
-/
import GoZero.C08.PropsClauses
namespace GoZero.C08.Props
open GoZero.C08 GoZero.C08.Spec

theorem hasKey_eq (k : Str) (o : Obj) : hasKey k o = (getKey k o).isSome := rfl

/-- `simpleValuer` never looks at an ancestor -/
theorem simpleValue_ignores_ancestors (cur : Obj) (ps ps' : Chain) (k : Str) :
    simpleValue (cur :: ps) k = simpleValue (cur :: ps') k := rfl

/-- without ancestors an `inherit` lookup is the ordinary lookup and changes nothing -/
theorem recValue_no_ancestors (cur : Obj) (k : Str) : recValueM [cur] k = (getKey k cur, [cur]) := by
  unfold recValueM
  cases getKey k cur with
  | none => simp [recValueM]
  | some v => cases v <;> simp [recValueM]

/-- a key the current node does not bind is inherited from the ancestors -/
theorem recValue_inherits (cur : Obj) (ps : Chain) (k : Str) (h : getKey k cur = none) :
    recValue (cur :: ps) k = recValue ps k := by
  simp [recValue, recValueM, h]

/-- a binding of the current node that is not an object is handed over unchanged (the supplied value wins over every
ancestor) and no map is touched -/
theorem recValue_scalar_nearest (cur : Obj) (ps : Chain) (k : Str) (v : J) (h : getKey k cur = some v)
    (hv : ∀ o, v ≠ .obj o) : recValueM (cur :: ps) k = (some v, cur :: ps) := by
  unfold recValueM
  cases v with
  | obj o => exact absurd rfl (hv o)
  | _ => simp [h]

theorem getKey_append (k : Str) (a b : Obj) :
    getKey k (a ++ b) = (match getKey k b with | some x => some x | none => getKey k a) := by
  induction a with
  | nil => cases h : getKey k b <;> simp [getKey, h]
  | cons kv a ih =>
    obtain ⟨k', v⟩ := kv
    simp only [List.cons_append, getKey, ih]
    cases getKey k b <;> simp

theorem getKey_filter_unbound (k : Str) (vm pm : Obj) :
    getKey k (pm.filter (fun kv => !hasKey kv.1 vm)) = (if hasKey k vm then none else getKey k pm) := by
  induction pm with
  | nil => simp [getKey]
  | cons kv pm ih =>
    obtain ⟨k', v⟩ := kv
    by_cases hk : k' = k
    · subst hk
      cases hb : hasKey k' vm <;> simp [List.filter, hb, getKey, ih]
    · -- a binding of another key is invisible to the lookup of `k`
      have hc : ∀ o, getKey k ((k', v) :: o) = getKey k o := fun o => by
        simp only [getKey, hk, if_false]
        cases getKey k o <;> rfl
      cases hb : hasKey k' vm <;> simp [List.filter, hb, hc, ih]

/-- **merge of an inherited object** — the child's own bindings stay as they are, the keys it does not bind are taken
from the parent's object: the merged object answers every key like the child, else like the parent -/
theorem getKey_mergeMissing (k : Str) (vm pm : Obj) :
    getKey k (mergeMissing vm pm) = (match getKey k vm with | some v => some v | none => getKey k pm) := by
  unfold mergeMissing
  rw [getKey_append, getKey_filter_unbound]
  cases h : getKey k vm with
  | none => simp [hasKey_eq, h]; cases getKey k pm <;> rfl
  | some v => simp [hasKey_eq, h]

/-- **inherit lookup** — for every chain of nested objects: the lookup finds the key iff some object of the chain binds it -/
theorem recValue_found_iff (ch : Chain) (k : Str) : (recValue ch k).isSome = ch.any (fun o => hasKey k o) := by
  induction ch with
  | nil => simp [recValue, recValueM]
  | cons cur ps ih =>
    simp only [recValue] at ih ⊢
    unfold recValueM
    cases h : getKey k cur with
    | none => simp [hasKey_eq, h, ih]
    | some v =>
      cases v with
      | obj vm =>
        simp only [List.any_cons, hasKey_eq, h, Option.isSome_some, Bool.true_or]
        split <;> rfl
      | _ => simp [hasKey_eq, h]

/-- non-vacuity: three-level chains for the scalar keys `a`, `c` (the nearest binding wins, a missing one is inherited, `simpleValue`
does not inherit), and a two-level chain whose `b` is an object at both levels (merged: own `x`, inherited `y`) -/
example :
    (match recValue [[("a".toList, .num "1".toList)], [("a".toList, .num "2".toList), ("c".toList, .str "up".toList)], []] "a".toList with
     | some (.num s) => s == "1".toList | _ => false) = true
    ∧ (match recValue [[("a".toList, .num "1".toList)], [("c".toList, .str "up".toList)], []] "c".toList with
       | some (.str s) => s == "up".toList | _ => false) = true
    ∧ (simpleValue [[("a".toList, .num "1".toList)], [("c".toList, .str "up".toList)]] "c".toList).isNone = true
    ∧ (match recValueM [[("b".toList, .obj [("x".toList, .num "1".toList)])],
                        [("b".toList, .obj [("x".toList, .num "9".toList), ("y".toList, .num "2".toList)])]] "b".toList with
       | (some (.obj [(_, .num x), (_, .num y)]), [cur, _]) => x == "1".toList && y == "2".toList && hasKey "b".toList cur
       | _ => false) = true := by
  decide +kernel

/-- **opaque keys are literal** — under `WithOpaqueKeys` (rest/httpx form and path) every key, with or without dots, is looked
up as it is written, whatever the rest of the configuration and wherever the struct sits -/
theorem lookupKey_opaque (c : Cfg) (h : c.opaqueKeys = true) (key : Str) (m : Obj) :
    lookupKey c false key m = .ok (getKey key m) := by
  simp [lookupKey, firstLookup, h]

/-- a key without dots is looked up as it is written under every configuration -/
theorem lookupKey_plain (c : Cfg) (key : Str) (m : Obj) (h : key.contains '.' = false) :
    lookupKey c false key m = .ok (getKey key m) := by
  unfold lookupKey
  rw [h]
  simp [firstLookup]

/-- the lookup of a key never panics and never depends on the options other than `opaqueKeys` and the position -/
theorem lookupKey_options (c : Cfg) (inh : Bool) (key : Str) (m : Obj) :
    lookupKey c inh key m = lookupKey { opaqueKeys := c.opaqueKeys, anc := c.anc } inh key m
    ∧ lookupKey c inh key m ≠ .error .panic :=
  ⟨rfl, NP_lookupKey c inh key m⟩

/-- **`inherit`** — a field tagged `inherit` whose key has no dots (or is opaque) is looked up through
`recursiveValuer.Value` on the current object followed by the enclosing ones (`Cfg.anc`), i.e. (`recLookup_is_recValue` below,
`recValue_found_iff` / `recValue_scalar_nearest` / `recValue_inherits` above) the nearest binding wins -/
theorem lookupKey_inherit (c : Cfg) (key : Str) (m : Obj) (h : c.opaqueKeys = true ∨ key.contains '.' = false) :
    lookupKey c true key m = recLookup false (m :: c.anc) key := by
  unfold lookupKey
  rcases h with h | h
  · simp [h, firstLookup]
  · rw [h]; simp [firstLookup]

/-- the same document, the same key text: the chained lookup finds the nested binding, the opaque one the literal binding -/
example :
    (match lookupKey {} false "p.a".toList [("p".toList, .obj [("a".toList, .num "5".toList)]), ("p.a".toList, .num "9".toList)] with
      | .ok (some (.num s)) => s == "5".toList | _ => false) = true
    ∧ (match lookupKey { opaqueKeys := true } false "p.a".toList
        [("p".toList, .obj [("a".toList, .num "5".toList)]), ("p.a".toList, .num "9".toList)] with
      | .ok (some (.num s)) => s == "9".toList | _ => false) = true := by
  constructor <;> decide

/-- the merge loop of `recursiveValuer.Value` adds nothing when the found object binds every inherited key -/
theorem mergeMissing_of_all {vm pm : Obj} (h : pm.all (fun kv => hasKey kv.1 vm) = true) : mergeMissing vm pm = vm := by
  have hf : pm.filter (fun kv => !hasKey kv.1 vm) = [] := by
    rw [List.filter_eq_nil_iff]
    intro a ha
    simp [List.all_eq_true.mp h a ha]
  simp [mergeMissing, hf]

/-- **the chained lookup is the valuers' lookup** — wherever the model's `recLookup` (no unknown ancestors) gives an answer, the
model of `recursiveValuer.Value` (`recValue`: `recValue_found_iff`, `recValue_scalar_nearest`, `recValue_inherits`) gives
the same answer (and `recLookup` answers only where the merge loop of `recursiveValuer.Value` has nothing to add) -/
theorem recLookup_is_recValue : ∀ (ch : List Obj) (k : Str) (r : Option J),
    recLookup false ch k = .ok r → recValue ch k = r
  | [], k, r, h => by
    cases h; rfl
  | cur :: parents, k, r, h => by
    unfold recLookup at h
    unfold recValue recValueM
    cases hg : getKey k cur with
    | none =>
      simp only [hg] at h ⊢
      exact recLookup_is_recValue parents k r h
    | some v =>
      cases v with
      | obj vm =>
        simp only [hg] at h ⊢
        -- the three answers of the enclosing objects, as `recLookup` distinguishes them
        split at h
        · cases h
        · rename_i pm hp
          rw [show (recValueM parents k).1 = _ from recLookup_is_recValue parents k _ hp]
          split at h <;> cases h
          rename_i hall
          simp [mergeMissing_of_all hall]
        · rename_i pr hne hp
          cases h
          rw [show (recValueM parents k).1 = pr from recLookup_is_recValue parents k pr hp]
          split
          · exact absurd rfl (hne _)
          · rfl
      | _ => simp [hg] at h ⊢; exact h

/-- the last segment of `a.c` is not bound inside `a`: the lookup falls back to the enclosing object (both models agree) -/
example :
    (match recLookup false [[("b".toList, .num "1".toList)], [("c".toList, .str "up".toList)]] "c".toList,
           recValue [[("b".toList, .num "1".toList)], [("c".toList, .str "up".toList)]] "c".toList with
      | .ok (some (.str a)), some (.str b) => a == "up".toList && b == "up".toList | _, _ => false) = true := by decide

/-- **clause 1 under WithOpaqueKeys (rest/httpx path and form)** — a field that is neither defaulted nor optional on this input is
bound under its key AS WRITTEN in every parameter map with a result that satisfies the field's constraints (`hsat`): a nested path
`p: {a: …}` does not supply the form field `p.a` -/
theorem clause_required_supplied_opaque {c : Cfg} {name tv : Str} {isSl : Bool} {k : Kind} {m : Obj} {w : Val}
    {conv : J → Val → Bool} {dflt : Str → Val → Bool} {isZ : Val → Bool} {key : Str} {po : Option Opts}
    (hop : c.opaqueKeys = true) (hinh : optInherit po = false)
    (hsat : fieldSat c name (some tv) isSl (some k) m w conv (fun _ => false) dflt isZ = true)
    (hp : parseTagC c.repaired name tv = .ok (key, po)) (hkey : key ≠ "-".toList)
    (hd : (effOpts po).default = []) (hopt : declOptional (effOpts po) m = false) :
    (getKey key m).isSome = true := by
  obtain ⟨j0, hj⟩ := clause_required_supplied hsat hp hkey hd hopt
  rw [hinh, lookupKey_opaque c hop] at hj
  have : getKey key m = some j0 := by injection hj
  simp [this]

/-- non-vacuity, on the model of `httpx.ParseForm`'s unmarshaler: the required form field `p.a` is supplied by the literal name
only; the nested shape is refused with `not set` -/
example :
    (match unmFields (httpCfgForm false) (.cons "A".toList (some "p.a".toList) (.prim (.int 64)) .nil)
        [("p.a".toList, .arr [.str "5".toList])] with | .ok (.cons _ (.int 5) .nil) => true | _ => false) = true
    ∧ (match unmFields (httpCfgForm false) (.cons "A".toList (some "p.a".toList) (.prim (.int 64)) .nil)
        [("p".toList, .obj [("a".toList, .arr [.str "5".toList])])] with | .error .notSet => true | _ => false) = true
    ∧ (match unmFields (httpCfgJson false) (.cons "A".toList (some "p.a".toList) (.prim (.int 64)) .nil)
        [("p".toList, .obj [("a".toList, .num "5".toList)])] with | .ok (.cons _ (.int 5) .nil) => true | _ => false) = true := by
  decide +kernel

end GoZero.C08.Props
