/-
C08 — one walk over fields and types for the three results.  `Tri tags ok x post` says of one call `x` what `accept_sound`,
`accept_complete` and `no_panic` say of the whole: an accepted result satisfies `post`, under `ok` the call is accepted, under
`tags` it does not panic.  The recursion is done once, for `Tri`; the three results are its projections.
-/
import GoZero.C08.ProofsTotal
namespace GoZero.C08
open Spec

structure Tri {α : Type} (tags ok : Prop) (x : Except Err α) (post : α → Prop) : Prop where
  sound : ∀ a, x = .ok a → post a
  complete : ok → ∃ a, x = .ok a
  total : tags → NP x

namespace Tri
variable {α β : Type} {T T' O O' : Prop} {x : Except Err α} {P P' : α → Prop}

theorem map {f : α → β} {Q : β → Prop} (h : Tri T O x P) (hQ : ∀ a, P a → Q (f a)) : Tri T O (x.map f) Q where
  sound b hb := by obtain ⟨a, ha, rfl⟩ := exceptMap_ok hb; exact hQ a (h.sound a ha)
  complete o := by obtain ⟨a, rfl⟩ := h.complete o; exact ⟨f a, rfl⟩
  total t := NP_map f (h.total t)

theorem conseq (h : Tri T O x P) (hT : T' → T) (hO : O' → O) (hP : ∀ a, P a → P' a) : Tri T' O' x P' :=
  ⟨fun a ha => hP a (h.sound a ha), fun o => h.complete (hO o), fun t => h.total (hT t)⟩

theorem pure {a : α} (h : P a) : Tri T O (.ok a : Except Err α) P :=
  ⟨fun _ e => (by cases e; exact h), fun _ => ⟨a, rfl⟩, fun _ => NP_ok a⟩

/-- an error handed on from a callee -/
theorem error_of {β : Type} {Q : β → Prop} (hx : Tri T O x P) {e : Err} (h : x = .error e) (hT : T' → T) (hO : O' → O) :
    Tri T' O' (.error e : Except Err β) Q :=
  ⟨fun _ h => (by cases h), fun o => (by obtain ⟨_, h'⟩ := hx.complete (hO o); rw [h] at h'; cases h'),
    fun t => (hx.total (hT t)).of_error h⟩

theorem failed {e : Err} (hO : ¬ O) (he : T → NP (.error e : Except Err α)) : Tri T O (.error e : Except Err α) P :=
  ⟨fun _ h => (by cases h), fun o => absurd o hO, he⟩

theorem refused {e : Err} (hO : ¬ O) (he : e ≠ .panic := by decide) : Tri T O (.error e : Except Err α) P :=
  failed hO fun _ => NP_error he

theorem ofKind {k K : Kind} {V : α} (hV : k = K → P V) :
    Tri T (decide (k = K) = true) (if k = K then .ok V else .error .mismatch : Except Err α) P := by
  by_cases hk : k = K
  · simpa [hk] using Tri.pure (T := T) (O := True) (hV hk)
  · simpa [hk] using Tri.refused (T := T) (P := P) (e := .mismatch) (fun h : False => h)

/-- a check (a step without a result) in front of the rest of a path.  `check` and `bind` are stated on the model's own `match`
at the discriminant types `Except Err Unit` / `Except Err Val`, so that their matcher is the model's: a rule over an arbitrary
type has a matcher of its own, and the elaborator does not unfold a matcher applied to a variable to see that the two agree -/
theorem check {x : Except Err Unit} {y : Except Err Val} {O₂ : Prop} {Px : Unit → Prop} {Q : Val → Prop}
    (hx : Tri T O x Px) (hy : Px () → Tri T O₂ y Q) :
    Tri T (O ∧ O₂) (match x with | .error e => .error e | .ok () => y) Q := by
  cases hxe : x with
  | error e => exact hx.error_of hxe id And.left
  | ok u => exact (hy (hx.sound _ hxe)).conseq id And.right fun _ => id

/-- a conversion in front of the rest of a path -/
theorem bind {x : Except Err Val} {f : Val → Except Err Val} {O₂ : Prop} {Px Q : Val → Prop}
    (hx : Tri T O x Px) (hf : ∀ v, x = .ok v → Px v → Tri T O₂ (f v) Q) :
    Tri T (O ∧ O₂) (match x with | .error e => .error e | .ok v => f v) Q := by
  cases hxe : x with
  | error e => exact hx.error_of hxe id And.left
  | ok v => exact (hf v hxe (hx.sound v hxe)).conseq id And.right fun _ => id
end Tri

theorem convertFromString_tri (T : Prop) (k : Kind) (s : Str) :
    Tri T (textTyped k s = true) (convertFromString k s) (fun v => textDenotes k s v = true) where
  sound _ := convertFromString_denotes
  complete h := by
    unfold textTyped at h
    split at h
    · exact ⟨_, ‹_›⟩
    · cases h
  total _ := NP_convertFromString k s

section checks
variable {c : Cfg} {T : Prop} {o : Option Opts}

theorem validateInOptions_tri {j : J} {t : Str} (ht : textOf j = some t) (k : Option Kind) :
    Tri T (inOptions (effOpts o).options j = true) (validateInOptions o t)
      (fun _ => optionsOK (effOpts o) k j = true) :=
  ⟨fun _ h => by
      unfold optionsOK; rw [ht]
      rcases validateInOptions_ok_iff.mp h with h | h <;> simp_all,
    fun h => ⟨(), validateInOptions_ok_iff.mpr (by simpa [inOptions, ht] using h)⟩, fun _ => NP_validateInOptions o t⟩

theorem validateJsonNumberRange_tri (hc : c.pinned = false) (lit : Str) (k : Option Kind) :
    Tri T (f64OK lit = true ∧ inRange (effOpts o).range (.num lit) = true) (validateJsonNumberRange c o lit)
      (fun _ => rangeOK (effOpts o) k (.num lit) = true) where
  sound _ h := by
    unfold rangeOK
    cases hr : (effOpts o).range with
    | none => rfl
    | some r =>
      obtain ⟨x, hp, hx⟩ := validateJsonNumberRange_ok_iff.mp h r hr
      obtain ⟨d, rfl, hd⟩ := rangeRejects_false hc hx
      cases k <;> simp [numOf, parseFloat_syntax hp, hd]
  complete h := by
    obtain ⟨hp, h⟩ := h
    refine ⟨(), validateJsonNumberRange_ok_iff.mpr fun r hr => ?_⟩
    unfold f64OK at hp
    split at hp
    case h_2 => cases hp
    rename_i x hx
    simp only [hr, inRange, numOf, parseFloat_syntax hx] at h
    cases x with
    | fin d => exact ⟨_, hx, by rw [rangeRejects_fin, show Range.contains r d = true from h]; rfl⟩
    | _ => cases h
  total _ := NP_validateJsonNumberRange c o lit

theorem validateValueRange_tri (hc : c.pinned = false) {k : Kind} {s : Str} {v : Val} (hv : convertFromString k s = .ok v) :
    Tri T (((effOpts o).range.isNone || k.isNumeric) = true ∧ inRange (effOpts o).range (.str s) = true)
      (validateValueRange c o v) (fun _ => rangeOK (effOpts o) (some k) (.str s) = true) where
  sound _ h := by
    unfold rangeOK
    cases hr : (effOpts o).range with
    | none => rfl
    | some r =>
      obtain ⟨x, hn, hx⟩ := validateValueRange_ok_iff.mp h r hr
      obtain ⟨d, rfl, hd⟩ := rangeRejects_false hc hx
      cases hk : k.isNumeric with
      | false => simp [hk]
      | true =>
        obtain ⟨x', hn', hs⟩ := valToNum_convert hk hv
        cases hn.symm.trans hn'
        simp [numOf, hs, hd]
  complete h := by
    obtain ⟨hnum, h⟩ := h
    refine ⟨(), validateValueRange_ok_iff.mpr fun r hr => ?_⟩
    simp only [hr, inRange, numOf, Option.isNone_some, Bool.false_or] at h hnum
    obtain ⟨x, hn, hs⟩ := valToNum_convert hnum hv
    rw [hs] at h
    cases x with
    | fin d => exact ⟨_, hn, by rw [rangeRejects_fin, show Range.contains r d = true from h]; rfl⟩
    | _ => cases h
  total _ := NP_validateValueRange c o v

/-- a range on a kind that is not numeric is not declared in a complete input, and is no constraint in the specification -/
theorem validateValueRange_tri_nonNumeric {k : Kind} (hk : k.isNumeric = false) (v : Val) (j : J) :
    Tri T (((effOpts o).range.isNone || k.isNumeric) = true) (validateValueRange c o v)
      (fun _ => rangeOK (effOpts o) (some k) j = true) where
  sound _ _ := by unfold rangeOK; cases (effOpts o).range <;> simp [hk]
  complete hnum := ⟨(), validateValueRange_ok_iff.mpr fun r hr => by simp [hr, hk] at hnum⟩
  total _ := NP_validateValueRange c o v

theorem primFromString_tri (hc : c.pinned = false) (k : Kind) (j : J) :
    Tri T (primOK true (effOpts o).range (effOpts o).options k j = true) (primFromString c o k j)
      (fun v => primDenotes k j v = true ∧ rangeOK (effOpts o) (some k) j = true ∧ optionsOK (effOpts o) (some k) j = true) := by
  simp only [primOK, if_true, Bool.and_eq_true]
  unfold primFromString
  cases j with
  | str s =>
    dsimp only
    exact ((validateInOptions_tri rfl (some k)).check fun h1 =>
      (convertFromString_tri T k s).bind fun v hv hd =>
        (validateValueRange_tri hc hv).check fun h3 => Tri.pure (O := True) ⟨hd, h3, h1⟩).conseq id
          (fun h => ⟨h.1.2, h.2, h.1.1, trivial⟩) fun _ => id
  | num lit =>
    simp only [Bool.and_eq_true]
    exact ((validateInOptions_tri rfl (some k)).check fun h1 =>
      (validateJsonNumberRange_tri hc lit (some k)).check fun h2 =>
        (convertFromString_tri T k lit).conseq id id fun v hv => ⟨hv, h2, h1⟩).conseq id
          (fun h => ⟨h.1.2, ⟨h.2.2, h.1.1.2⟩, h.2.1⟩) fun _ => id
  | _ => exact Tri.refused (by simp)

theorem jsonNumberPath_tri (hc : c.pinned = false) (k : Kind) (lit : Str) :
    Tri T (inRange (effOpts o).range (.num lit) = true ∧ inOptions (effOpts o).options (.num lit) = true ∧ numTyped k lit = true)
      (jsonNumberPath c o (some k) lit)
      (fun v => textDenotes k lit v = true ∧ rangeOK (effOpts o) (some k) (.num lit) = true
        ∧ optionsOK (effOpts o) (some k) (.num lit) = true) := by
  have hf : numTyped k lit = true → f64OK lit = true := fun h => by simp only [numTyped, Bool.and_eq_true] at h; exact h.1
  unfold jsonNumberPath
  refine Tri.conseq ((validateJsonNumberRange_tri hc lit (some k)).check fun h1 =>
    (validateInOptions_tri (j := .num lit) rfl (some k)).check fun h2 =>
      Tri.conseq (P := fun v => textDenotes k lit v = true) (O := numTyped k lit = true) ?_ id id fun v hv => ⟨hv, h1, h2⟩)
    id (fun h => ⟨⟨hf h.2.2, h.1⟩, h.2.1, h.2.2⟩) fun _ => id
  cases k with
  | int b => exact (convertFromString_tri T (.int b) lit).conseq id (fun h => by
      simp only [textTyped, convertFromString]
      cases hp : parseInt b lit <;> simp [numTyped, hp, Except.map] at h ⊢) fun _ => id
  | uint b => exact (convertFromString_tri T (.uint b) lit).conseq id (fun h => by
      simp only [textTyped, convertFromString]
      cases hp : parseUint b lit <;> simp [numTyped, hp, Except.map] at h ⊢) fun _ => id
  | float b =>
    dsimp only
    cases hp : parseFloat 64 lit with
    | error e => exact Tri.failed (by simp [numTyped, hp]) fun _ => (NP_parseFloat 64 lit).of_error hp
    | ok x =>
      dsimp only
      cases hov : (b = 32 && float32Overflows x) with
      | true => exact Tri.refused (by simp [numTyped, hp, hov])
      | false => exact Tri.pure (by simp [textDenotes, parseFloat_syntax hp, scalarEq, numEqv_refl])
  | bool => exact Tri.refused (by simp [numTyped])
  | string => exact Tri.refused (by simp [numTyped])

/-- a JSON string for a string field, a JSON bool for a bool field: the value itself, once the options and the range (none can be
declared on such a kind in a complete input) are checked; any other kind is a mismatch -/
theorem sameKind_tri {K : Kind} (hK : K.isNumeric = false) (k : Kind) {j : J} {t : Str} (ht : textOf j = some t) (V : Val)
    (hV : primDenotes K j V = true) :
    Tri T (((((effOpts o).range.isNone || k.isNumeric) = true ∧ inRange (effOpts o).range j = true)
        ∧ inOptions (effOpts o).options j = true) ∧ k = K)
      (if k = K then
        match validateInOptions o t with
        | .error e => .error e
        | .ok () =>
          match validateValueRange c o V with
          | .error e => .error e
          | .ok () => .ok V
       else .error .mismatch)
      (fun v => primDenotes k j v = true ∧ rangeOK (effOpts o) (some k) j = true ∧ optionsOK (effOpts o) (some k) j = true) := by
  by_cases hk : k = K
  · subst hk
    simp only [if_true]
    exact ((validateInOptions_tri ht (some k)).check fun h1 =>
      (validateValueRange_tri_nonNumeric hK V j).check fun h3 => Tri.pure (O := True) ⟨hV, h3, h1⟩).conseq id
        (fun h => ⟨h.1.2, h.1.1.1, trivial⟩) fun _ => id
  · simp only [hk, if_false]; exact Tri.refused (fun h => h.2)

theorem primNotFromString_tri (hc : c.pinned = false) (k : Kind) (j : J) :
    Tri T (primOK false (effOpts o).range (effOpts o).options k j = true) (primNotFromString c o k j)
      (fun v => primDenotes k j v = true ∧ rangeOK (effOpts o) (some k) j = true ∧ optionsOK (effOpts o) (some k) j = true) := by
  unfold primNotFromString
  simp only [primOK, Bool.false_eq_true, if_false, Bool.and_eq_true]
  cases j with
  | num lit => exact (jsonNumberPath_tri hc k lit).conseq id (fun h => ⟨h.1.1.2, h.1.2, h.2⟩) fun _ => id
  | str s =>
    simp only [decide_eq_true_eq]
    exact sameKind_tri (K := .string) (j := .str s) rfl k rfl (.str s) (convertFromString_denotes (k := .string) rfl)
  | bool b =>
    simp only [decide_eq_true_eq]
    exact sameKind_tri (K := .bool) (j := .bool b) rfl k rfl (.bool b) (by simp [primDenotes, scalarEq])
  | _ => exact Tri.refused (fun h => by cases h.2)

theorem primWithValue_tri (hc : c.pinned = false) (k : Kind) (j : J) :
    Tri T (primOK (c.fromString || optFromString o) (effOpts o).range (effOpts o).options k j = true) (primWithValue c o k j)
      (fun v => primDenotes k j v = true ∧ rangeOK (effOpts o) (some k) j = true ∧ optionsOK (effOpts o) (some k) j = true) := by
  unfold primWithValue
  cases (c.fromString || optFromString o) with
  | true => exact primFromString_tri hc k j
  | false => exact primNotFromString_tri hc k j
end checks

/-- a primitive at each position: a field's value goes through the checked paths, elements and map values are converted
from their text (a map value of string or bool kind must be a JSON string or bool) -/
theorem convert_prim_tri {c : Cfg} (hc : c.pinned = false) (T : Prop) (p : Pos) (k : Kind) (j : J) :
    Tri T (okConv c p (.prim k) j = true) (convert c p (.prim k) j)
      (fun v => primDenotes k j v = true ∧ rangeOK p.opts (some k) j = true ∧ optionsOK p.opts (some k) j = true) := by
  cases p with
  | field o => exact primWithValue_tri hc k j
  | elem =>
    refine Tri.conseq ?_ id id fun v (h : primDenotes k j v = true) => ⟨h, rfl, rfl⟩
    simp only [convert, elemValue, okConv, okElem]
    cases j with
    | num s => exact convertFromString_tri T k s
    | str s => exact convertFromString_tri T k s
    | bool b => exact Tri.ofKind fun hk => by simp [hk, primDenotes, scalarEq]
    | _ => exact Tri.refused (by simp)
  | entry =>
    refine Tri.conseq ?_ id id fun v (h : primDenotes k j v = true) => ⟨h, rfl, rfl⟩
    simp only [convert, mapElemValue, okConv, okMapElem]
    cases j with
    | num s => exact convertFromString_tri T k s
    | str s => exact Tri.ofKind fun hk => hk ▸ convertFromString_denotes (k := .string) rfl
    | bool b => exact Tri.ofKind fun hk => by simp [hk, primDenotes, scalarEq]
    | _ => exact Tri.refused (by simp)

theorem mapElems_tri {T : Prop} {f : J → Except Err Val} {p : J → Bool} {q : J → Val → Bool}
    (hf : ∀ j, Tri T (p j = true) (f j) (fun v => q j v = true)) :
    ∀ l : List J, Tri T (allJ p l = true) (mapElems f l) (fun vs => satElems q l vs = true)
  | [] => Tri.pure rfl
  | j :: rest => by
    have hr := mapElems_tri hf rest
    simp only [allJ, Bool.and_eq_true]
    rw [mapElems]
    split
    · exact (hf j).error_of ‹_› id And.left
    · rename_i v hv
      split
      · exact hr.error_of ‹_› id And.right
      · rename_i vs hvs
        exact Tri.pure (by simp [satElems, (hf j).sound v hv, hr.sound vs hvs])

theorem mapEntries_tri {T : Prop} {f : J → Except Err Val} {p : J → Bool} {q : J → Val → Bool}
    (hf : ∀ j, Tri T (p j = true) (f j) (fun v => q j v = true)) :
    ∀ m : Obj, Tri T (allEntries p m = true) (mapEntries f m) (fun vs => satEntries q m vs = true)
  | [] => Tri.pure rfl
  | (k, j) :: rest => by
    have hr := mapEntries_tri hf rest
    simp only [allEntries, Bool.and_eq_true]
    rw [mapEntries]
    split
    · exact (hf j).error_of ‹_› id And.left
    · rename_i v hv
      split
      · exact hr.error_of ‹_› id And.right
      · rename_i vs hvs
        exact Tri.pure (by simp [satEntries, (hf j).sound v hv, hr.sound vs hvs])

/-- how every position fills a slice: a null element leaves the zero value -/
theorem slice_tri {T : Prop} {c : Cfg} {t : Ty} {ev : J → Except Err Val}
    (hev : ∀ j, Tri T (okElem c t j = true) (ev j) (fun v => satTy c t j v = true)) (l : List J) :
    Tri T (allJ (fun j => j.isNull || okElem c t j) l = true)
      ((mapElems (fun j => if j.isNull then .ok (zero t) else ev j) l).map (sliceResult l))
      (fun v => sliceSat (fun j v => if j.isNull then isZero t v else satTy c t j v) l v = true) := by
  refine (mapElems_tri (q := fun j v => if j.isNull then isZero t v else satTy c t j v) (fun j => ?_) l).map
    fun vs => sliceResult_sound
  cases hn : j.isNull
  · simpa [hn] using hev j
  · simpa [hn] using Tri.pure (P := fun v => isZero t v = true) (isZero_zero t)

/-! The input shape a struct, slice or map is filled from is the same at the three positions; on any other shape each
refuses (an error that is no panic) and `okConv` demands nothing.  The position is split first, so that `convert` and
`okConv` are unfolded once per position and every other shape is one `Tri.refused`. -/

section containers
variable {c : Cfg} {T : Prop} (p : Pos) (j : J)

theorem convert_struct_tri {fs : Fields}
    (h : ∀ m, Tri T (okFields c fs m = true) (unmFields c fs m) (fun vs => satFields c fs m vs = true)) :
    Tri T (okConv c p (.struct fs) j = true) (convert c p (.struct fs) j) (fun v => satTy c (.struct fs) j v = true) := by
  have ho m : Tri T (okFields c fs m = true) ((unmFields c fs m).map .struct) fun v => satTy c (.struct fs) (.obj m) v = true :=
    (h m).map fun vs hvs => by simpa [satTy] using hvs
  cases p with
  | field o =>
    simp only [convert, withValue, okConv, okTy]
    cases j with
    | obj m => exact ho m
    | num lit => exact ⟨fun _ hv => absurd hv jsonNumberPath_none, nofun, fun _ => NP_jsonNumberPath _ _ _ _⟩
    | _ => exact Tri.refused nofun
  | _ =>
    simp only [convert, elemValue, mapElemValue, okConv, okElem, okMapElem]
    cases j with
    | obj m => exact ho m
    | _ => exact Tri.refused nofun

theorem convert_slice_tri (hc : c.pinned = false) {t : Ty}
    (h : ∀ j, Tri T (okElem c.top t j = true) (elemValue c.top t j) (fun v => satTy c.top t j v = true)) :
    Tri T (okConv c p (.slice t) j = true) (convert c p (.slice t) j) (fun v => satTy c (.slice t) j v = true) := by
  have ha l := (slice_tri h l).conseq (P' := fun v => satTy c (.slice t) (.arr l) v = true) id id
    fun v hv => by simpa [satTy] using hv
  cases p <;> simp only [convert, withValue, elemValue, mapElemValue, okConv, okTy, okElem, okMapElem, hc] <;> cases j with
    | arr l => exact ha l
    | _ => exact Tri.refused nofun

theorem convert_map_tri {t : Ty}
    (h : ∀ j, Tri T (okMapElem c.top t j = true) (mapElemValue c.top t j) (fun v => satTy c.top t j v = true)) :
    Tri T (okConv c p (.map t) j = true) (convert c p (.map t) j) (fun v => satTy c (.map t) j v = true) := by
  have ho m : Tri T (allEntries (fun j => okMapElem c.top t j) (canonObj m) = true)
      ((mapEntries (fun j => mapElemValue c.top t j) (canonObj m)).map .map) fun v => satTy c (.map t) (.obj m) v = true :=
    (mapEntries_tri h (canonObj m)).map fun vs hvs => by simpa [satTy] using hvs
  cases p <;> simp only [convert, withValue, elemValue, mapElemValue, okConv, okTy, okElem, okMapElem] <;> cases j with
    | obj m => exact ho m
    | _ => exact Tri.refused nofun
end containers

theorem fieldCore_tri {c : Cfg} {T : Prop} {name : Str} {tag : Option Str} {isSlice : Bool} {k : Option Kind} {m : Obj}
    {wv : Option Opts → J → Except Err Val} {ar : Unit → Except Err Val} {dv : Str → Except Err Val} {z : Val}
    {conv : J → Val → Bool} {absent : Val → Bool} {dflt : Str → Val → Bool} {isZ : Val → Bool}
    {okv : Bool → Option Range → List Str → J → Bool} {okAbs : Bool} {okDflt : Str → Bool}
    (hc : c.pinned = false)
    (hwv : ∀ o j, Tri T (okv (optFromString o) (effOpts o).range (effOpts o).options j = true) (wv o j)
      (fun v => conv j v = true ∧ rangeOK (effOpts o) k j = true ∧ optionsOK (effOpts o) k j = true))
    (har : Tri T (okAbs = true) (ar ()) (fun v => absent v = true))
    (hdv : ∀ d, Tri T (okDflt d = true) (dv d) (fun v => dflt d v = true))
    (hz : isZ z = true) :
    Tri (tagNoPanic name tag = true ∧ T) (fieldOK c name tag isSlice m okv okAbs okDflt = true)
      (fieldCore c name tag isSlice m wv ar dv z)
      (fun v => fieldSat c name tag isSlice k m v conv absent dflt isZ = true) := by
  cases tag with
  | none => exact Tri.pure hz
  | some tv =>
    rw [fieldCore_eq hc]
    unfold fieldOK fieldSat
    rw [Cfg.repaired_eq hc]
    dsimp only
    have ht : tagNoPanic name (some tv) = true ∧ T → NP (parseTagC c name tv) := fun t => NP_map _ (NP_parseTag t.1)
    generalize parseTagC c name tv = p at ht ⊢
    cases p with
    | error e => exact Tri.failed (fun o => by cases o) fun t => (ht t).of_error rfl
    | ok kp =>
      obtain ⟨key, po⟩ := kp
      dsimp only
      cases depOK (effOpts po) key m with
      | false => rw [if_pos rfl]; exact Tri.refused (by simp)
      | true =>
        rw [if_neg Bool.true_eq_false.mp]
        by_cases hk : key = "-".toList
        · simp only [hk, if_true]; exact Tri.pure hz
        · simp only [hk, if_false, decide_false, Bool.false_or, Bool.true_and]
          have hl : NP (lookupKey c (optInherit po) key m) := NP_lookupKey _ _ _ _
          generalize lookupKey c (optInherit po) key m = r at hl ⊢
          cases r with
          | error e => exact Tri.failed (fun o => by cases o) fun _ => hl.of_error rfl
          | ok r =>
            cases r with
            | none =>
              dsimp only
              by_cases hd : (effOpts po).default = []
              · simp only [hd, List.isEmpty_nil, Bool.not_true, Bool.false_eq_true, if_false, ne_eq, not_true_eq_false]
                cases declOptional (effOpts po) m with
                | true => exact Tri.pure hz
                | false => exact har.conseq And.right (by simp) fun _ => id
              · simp only [hd, List.isEmpty_eq_false_iff.mpr hd, Bool.not_false, if_true, ne_eq, not_false_eq_true]
                exact (hdv _).conseq And.right id fun _ => id
            | some j0 =>
              dsimp only
              generalize fromArrayValue c isSlice j0 = j
              cases j with
              | null =>
                cases declOptional (effOpts po) m with
                | true => exact Tri.pure (by simp [hz])
                | false => exact Tri.refused (by simp)
              | _ =>
                refine (hwv (resolved po m) _).conseq And.right (by simp) fun v hv => ?_
                rw [rangeOK_congr (range_resolved po m), optionsOK_congr (options_resolved po m)] at hv
                simp [hv]

theorem defaultVal_tri {c : Cfg} (hc : c.pinned = false) (T : Prop) (t : Ty) (d : Str) :
    Tri T ((match defaultVal c.repaired t d with | .ok _ => true | .error _ => false) = true) (defaultVal c t d)
      (fun v => satDefault t d v = true) := by
  rw [Cfg.repaired_eq hc]
  refine ⟨defaultVal_sound c hc t d, fun h => ?_, fun _ => NP_defaultVal c hc t d⟩
  split at h
  · exact ⟨_, ‹_›⟩
  · cases h

mutual
theorem convert_tri (c : Cfg) (hc : c.pinned = false) : ∀ (p : Pos) (t : Ty) (j : J),
    Tri (tagsOK t = true) (okConv c p t j = true) (convert c p t j)
      (fun v => satTy c t j v = true ∧ rangeOK p.opts (derefKind t) j = true ∧ optionsOK p.opts (derefKind t) j = true)
  | p, .ptr t, j => by
    rw [convert_ptr hc]
    exact ((convert_tri c hc p t j).map fun v hv => by simpa [satTy, derefKind] using hv).conseq
      (by simp [tagsOK]) (by rw [okConv_ptr]; exact id) fun _ => id
  | p, .prim k, j => by simpa [satTy, derefKind] using convert_prim_tri hc _ p k j
  | p, .struct fs, j =>
    (convert_struct_tri p j fun m => unmFields_tri c hc fs m).conseq (by simp [tagsOK]) id
      fun _ hv => ⟨hv, rangeOK_none _ _, optionsOK_none _ _⟩
  | p, .slice t, j =>
    (convert_slice_tri p j hc fun j => (convert_tri c.top hc .elem t j).conseq id id fun _ hv => hv.1).conseq
      (by simp [tagsOK]) id fun _ hv => ⟨hv, rangeOK_none _ _, optionsOK_none _ _⟩
  | p, .map t, j =>
    (convert_map_tri p j fun j => (convert_tri c.top hc .entry t j).conseq id id fun _ hv => hv.1).conseq
      (by simp [tagsOK]) id fun _ hv => ⟨hv, rangeOK_none _ _, optionsOK_none _ _⟩
theorem absentRequired_tri (c : Cfg) (hc : c.pinned = false) : ∀ (t : Ty),
    Tri (tagsOK t = true) (okAbsent c t = true) (absentRequired c t) (fun v => satAbsent c t v = true)
  | .ptr t => by
    have e : absentRequired c (.ptr t) = (absentRequired c t).map .ptr := by simp [absentRequired, hc]
    rw [e]
    exact ((absentRequired_tri c hc t).map fun v hv => by simpa [satAbsent] using hv).conseq
      (by simp [tagsOK]) (by simp [okAbsent]) fun _ => id
  | .prim _ => by simp only [absentRequired]; exact Tri.refused (by simp [okAbsent])
  | .slice _ => by simp only [absentRequired]; exact Tri.refused (by simp [okAbsent])
  | .map _ => by simp only [absentRequired]; exact Tri.pure (by simp [satAbsent])
  | .struct fs => by
    unfold absentRequired
    split
    · rename_i e he
      exact Tri.failed (by simp [okAbsent, he]) fun t => (NP_structRequired fs (by simpa [tagsOK] using t)).of_error he
    · rename_i he
      exact Tri.refused (by simp [okAbsent, he])
    · exact ((unmFields_tri c.top hc fs []).map fun vs hvs => by simpa [satAbsent] using hvs).conseq
        (by simp [tagsOK]) (by simp only [okAbsent, Bool.and_eq_true]; exact And.right) fun _ => id
theorem unmFields_tri (c : Cfg) (hc : c.pinned = false) : ∀ (fs : Fields) (m : Obj),
    Tri (tagsOKFields fs = true) (okFields c fs m = true) (unmFields c fs m) (fun vs => satFields c fs m vs = true)
  | .nil, m => by rw [unmFields]; exact Tri.pure (by simp [satFields])
  | .cons name tag t rest, m => by
    have hf := fieldCore_tri (m := m) (name := name) (tag := tag) (isSlice := t.isSlice) (z := zero t) (k := derefKind t)
      (wv := fun o j => withValue (c.nestIn m) o t j) (ar := fun _ => absentRequired c t) (dv := defaultVal c t)
      (okv := fun fs r opts j => okTy (c.nestIn m) fs r opts t j) (conv := fun j v => satTy (c.nestIn m) t j v)
      (absent := fun v => satAbsent c t v) (dflt := fun d v => satDefault t d v) (isZ := fun v => isZero t v) hc
      (fun o j => convert_tri (c.nestIn m) hc (.field o) t j)
      (absentRequired_tri c hc t) (defaultVal_tri hc _ t) (isZero_zero t)
    have hr := unmFields_tri c hc rest m
    simp only [okFields, tagsOKFields, Bool.and_eq_true]
    rw [unmFields]
    split
    · exact hf.error_of ‹_› And.left And.left
    · rename_i v hv
      split
      · exact hr.error_of ‹_› And.right And.right
      · rename_i vs hvs
        exact Tri.pure (by simp [satFields, hf.sound v hv, hr.sound vs hvs])
end

theorem withValue_sound (c : Cfg) (hc : c.pinned = false) :
    ∀ (t : Ty) (o : Option Opts) (j : J) (v : Val), withValue c o t j = .ok v →
      satTy c t j v = true ∧ rangeOK (effOpts o) (derefKind t) j = true
        ∧ optionsOK (effOpts o) (derefKind t) j = true :=
  fun t o j => (convert_tri c hc (.field o) t j).sound

theorem elemValue_sound (c : Cfg) (hc : c.pinned = false) :
    ∀ (t : Ty) (j : J) (v : Val), elemValue c t j = .ok v → satTy c t j v = true :=
  fun t j v h => ((convert_tri c hc .elem t j).sound v h).1

theorem mapElemValue_sound (c : Cfg) (hc : c.pinned = false) :
    ∀ (t : Ty) (j : J) (v : Val), mapElemValue c t j = .ok v → satTy c t j v = true :=
  fun t j v h => ((convert_tri c hc .entry t j).sound v h).1

theorem absentRequired_sound (c : Cfg) (hc : c.pinned = false) :
    ∀ (t : Ty) (v : Val), absentRequired c t = .ok v → satAbsent c t v = true :=
  fun t => (absentRequired_tri c hc t).sound

theorem unmFields_sound (c : Cfg) (hc : c.pinned = false) :
    ∀ (fs : Fields) (m : Obj) (vs : VFields), unmFields c fs m = .ok vs → satFields c fs m vs = true :=
  fun fs m => (unmFields_tri c hc fs m).sound

theorem okTy_complete (c : Cfg) (hc : c.pinned = false) :
    ∀ (t : Ty) (o : Option Opts) (j : J),
      okTy c (optFromString o) (effOpts o).range (effOpts o).options t j = true → ∃ v, withValue c o t j = .ok v :=
  fun t o j => (convert_tri c hc (.field o) t j).complete

theorem okElem_complete (c : Cfg) (hc : c.pinned = false) :
    ∀ (t : Ty) (j : J), okElem c t j = true → ∃ v, elemValue c t j = .ok v :=
  fun t j => (convert_tri c hc .elem t j).complete

theorem okMapElem_complete (c : Cfg) (hc : c.pinned = false) :
    ∀ (t : Ty) (j : J), okMapElem c t j = true → ∃ v, mapElemValue c t j = .ok v :=
  fun t j => (convert_tri c hc .entry t j).complete

theorem okAbsent_complete (c : Cfg) (hc : c.pinned = false) :
    ∀ (t : Ty), okAbsent c t = true → ∃ v, absentRequired c t = .ok v :=
  fun t => (absentRequired_tri c hc t).complete

theorem NP_withValue (c : Cfg) (hc : c.pinned = false) :
    ∀ (t : Ty) (o : Option Opts) (j : J), tagsOK t = true → NP (withValue c o t j) :=
  fun t o j => (convert_tri c hc (.field o) t j).total

theorem NP_elemValue (c : Cfg) (hc : c.pinned = false) :
    ∀ (t : Ty) (j : J), tagsOK t = true → NP (elemValue c t j) :=
  fun t j => (convert_tri c hc .elem t j).total

theorem NP_mapElemValue (c : Cfg) (hc : c.pinned = false) :
    ∀ (t : Ty) (j : J), tagsOK t = true → NP (mapElemValue c t j) :=
  fun t j => (convert_tri c hc .entry t j).total

theorem NP_absentRequired (c : Cfg) (hc : c.pinned = false) :
    ∀ (t : Ty), tagsOK t = true → NP (absentRequired c t) :=
  fun t => (absentRequired_tri c hc t).total

theorem unmarshal_tri (c : Cfg) (hc : c.pinned = false) (ty : Ty) (j : J) :
    Tri (tagsOK ty = true) (complete c ty j = true) (unmarshal c ty j) (fun v => satisfies c ty j v = true) := by
  cases ty with
  | struct fs =>
    cases j with
    | obj m => exact ((unmFields_tri c hc fs m).map fun _ => id).conseq (by simp [tagsOK]) id fun _ => id
    | _ => exact Tri.refused (by simp [complete])
  | _ => exact Tri.refused (by simp [complete])

end GoZero.C08
