/-
C08 — `ParseHeaders` keeps nothing between calls (for the other front ends this is `Tie.tie_frontEnds_keep_no_state` alone).  A history
of calls through `ParseHeaders` is judged call by call: the verdict and the value of the i-th call are a function of the i-th input alone.  `headerParamsOn stale h` is what `encoding.ParseHeaders` would hand to the unmarshaller if the intermediate map still
held `stale` from an earlier call (seeded C08-10: a pooled map that is cleared on the success path only).
-/
import GoZero.C08.PropsEntry
namespace GoZero.C08.Props
open GoZero.C08 GoZero.C08.Spec

/-- the map a front end fills, started from what an earlier call left in it -/
def headerParamsOn (stale : Obj) (h : List (Str × HVals)) : Obj := stale ++ headerParams h

/-- a history of header parses through one `ParseHeaders`, with the map carried over after a rejected call when `leak` -/
def headerHistory (leak : Bool) (fs : Fields) : Obj → List (List (Str × HVals)) → List (Except Err VFields)
  | _, [] => []
  | stale, h :: rest =>
    let m := headerParamsOn stale h
    let res := unmFields (httpCfgHeader false) (viewFields "header".toList fs) m
    res :: headerHistory leak fs (match res with | .ok _ => [] | .error _ => if leak then m else []) rest

/-- **history independence** (`ParseHeaders`; the other front ends: Tie only) — as the code is (a new map per call: `Tie.tie_frontEnds_keep_no_state`), every call of a history is
judged on its own input: the i-th result is `httpParseHeaders` of the i-th header set, whatever came before -/
theorem frontEnd_history_independent (fs : Fields) : ∀ (hs : List (List (Str × HVals))),
    headerHistory false fs [] hs = hs.map (fun h => httpParseHeaders false fs h)
  | [] => rfl
  | h :: rest => by
    have ih := frontEnd_history_independent fs rest
    simp only [httpParseHeaders] at ih
    simp only [headerHistory, headerParamsOn, List.nil_append, List.map_cons, httpParseHeaders]
    congr 1
    cases unmFields (httpCfgHeader false) (viewFields "header".toList fs) (headerParams h) <;> simpa using ih

/-- …and therefore every accepted call of every history satisfies the constraints on ITS OWN headers -/
theorem frontEnd_history_sound (fs : Fields) (hs : List (List (Str × HVals))) (i : Nat) (h : List (Str × HVals)) (vs : VFields)
    (hi : hs[i]? = some h) (hr : (headerHistory false fs [] hs)[i]? = some (.ok vs)) :
    satFields (httpCfgHeader false) (viewFields "header".toList fs) (headerParams h) vs = true := by
  rw [frontEnd_history_independent] at hr
  simp only [List.getElem?_map, hi, Option.map_some, Option.some.injEq] at hr
  exact unmFields_sound _ rfl _ _ _ hr

/-- WITNESS (what seeded C08-10 does; not the behaviour of /repo): with the map carried over after a rejected call, the
second request — which carries no `A` header — is accepted with the first request's value for the optional field `A`:
the result does not satisfy the constraints on its own headers -/
theorem leaked_header_map_witness :
    let fs : Fields := .cons "A".toList (some "header|a,optional".toList) (.prim .string)
      (.cons "B".toList (some "header|b,range=[1:5]".toList) (.prim (.int 64)) .nil)
    let h1 : List (Str × HVals) := [("a".toList, some ["stale".toList]), ("b".toList, some ["9".toList])]
    let h2 : List (Str × HVals) := [("b".toList, some ["3".toList])]
    (match headerHistory true fs [] [h1, h2] with
      | [.error .range, .ok vs] => !satFields (httpCfgHeader false) (viewFields "header".toList fs) (headerParams h2) vs
      | _ => false) = true
    ∧ (match headerHistory false fs [] [h1, h2] with
      | [.error .range, .ok vs] => satFields (httpCfgHeader false) (viewFields "header".toList fs) (headerParams h2) vs
      | _ => false) = true := by
  decide +kernel

end GoZero.C08.Props
