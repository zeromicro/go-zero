/-
C08 — the public entry points, with what they are handed besides the document: the kind of target (`Target`) and what became of
the source (`Source`) (`Model.entryPoint`, `httpParseReq`).  Anything but a valid pointer target with a decoded document is rejected,
an accepted result satisfies the constraints, and nothing but the caller's own reader can make the call panic.
-/
import GoZero.C08.PropsIndependence
namespace GoZero.C08.Props
open GoZero.C08 GoZero.C08.Spec

/-- **accepted ⇒ valid target, decoded source, constraints hold** — for every configuration, target kind, source outcome, type
and document -/
theorem entry_sound (c : Cfg) (hc : c.pinned = false) (tgt : Target) (src : Source) (ty : Ty) (j : J) (v : Val)
    (h : entryPoint c tgt src ty j = .ok v) :
    tgt.valid = true ∧ src = .doc ∧ satisfies c ty j v = true := by
  cases src with
  | doc =>
    -- the four invalid targets are refused, for the two valid ones the entry point is `unmarshal`
    cases tgt <;> simp [entryPoint, hc] at h <;> exact ⟨rfl, rfl, accept_sound c hc ty j v h⟩
  | _ => simp [entryPoint] at h

/-- **everything else is rejected** -/
theorem entry_rejects_invalid (c : Cfg) (tgt : Target) (src : Source) (ty : Ty) (j : J)
    (h : tgt.valid = false ∨ src ≠ .doc) : ∃ e, entryPoint c tgt src ty j = .error e := by
  cases src with
  | doc =>
    cases tgt <;> simp [Target.valid] at h <;> simp only [entryPoint]
    · split <;> exact ⟨_, rfl⟩
    all_goals exact ⟨_, rfl⟩
  | _ => exact ⟨_, rfl⟩

/-- **the converse at the entry points** — a valid target and a decoded document that meets every declared constraint with
correctly typed values: accepted -/
theorem entry_complete (c : Cfg) (hc : c.pinned = false) (tgt : Target) (ht : tgt.valid = true) (ty : Ty) (j : J)
    (h : complete c ty j = true) : ∃ v, entryPoint c tgt .doc ty j = .ok v ∧ satisfies c ty j v = true := by
  unfold entryPoint
  cases tgt <;> simp [Target.valid] at ht <;> exact accept_complete c hc ty j h

/-- **no panic of the unmarshaller's own** — on the repaired code only a panicking reader (the caller's) makes a call panic -/
theorem entry_no_panic (c : Cfg) (hc : c.pinned = false) (tgt : Target) (src : Source) (hs : src ≠ .readPanic)
    (ty : Ty) (hty : tagsOK ty = true) (j : J) : entryPoint c tgt src ty j ≠ .error .panic := by
  cases src with
  | doc => cases tgt <;> simp [entryPoint, hc] <;> exact no_panic c hc ty hty j
  | readPanic => exact absurd rfl hs
  | _ => simp [entryPoint]

/-- PINNED BEHAVIOUR (fixes/not-applied/C08-nil-target.patch): an untyped nil target makes every entry point
panic — `Unmarshaler.unmarshal` calls `reflect.TypeOf(nil).Kind()`; the repaired code answers `errValueNotSettable` -/
theorem pinned_nil_target_panics (ty : Ty) (j : J) :
    entryPoint { pinned := true } .nilIface .doc ty j = .error .panic
    ∧ entryPoint {} .nilIface .doc ty j = .error .unsupported := ⟨rfl, rfl⟩

/-- **httpx.Parse on the request as it arrives** — the body is part of the input only under `withJsonBody`
(`Content-Length > 0` and a JSON content type); accepted ⇒ a body that counts was decoded, and `httpParse` accepts what was looked
at with the same result (so, by `httpParse_sound`, the four parts satisfy their constraints on it) -/
theorem httpParseReq_sound (fs : Fields) (p : Obj) (f : List (Str × List Str)) (h : List (Str × HVals))
    (cl : Int) (jt : Bool) (src : Source) (b : J) (vs : VFields)
    (hp : httpParseReq false fs p f h cl jt src b = .ok vs) :
    (withJsonBody cl jt = true → src = .doc)
    ∧ httpParse false fs p f h (if withJsonBody cl jt then some b else none) = .ok vs := by
  unfold httpParseReq at hp
  by_cases hw : withJsonBody cl jt = true
  · simp only [hw, if_true] at hp ⊢
    cases src with
    | doc => exact ⟨fun _ => rfl, hp⟩
    | _ =>
      -- with a body that does not decode, every branch of `httpParseReq` is an error
      exfalso
      cases h1 : httpParsePath false fs p <;> cases h2 : httpParseForm false fs f <;>
        cases h3 : httpParseHeaders false fs h <;> simp [h1, h2, h3] at hp
  · simp only [hw] at hp ⊢
    exact ⟨fun hh => absurd hh (by simp), by simpa using hp⟩

/-- non-vacuity: a chunked request (`Content-Length: -1`) with a valid JSON body is judged without its body -/
example : withJsonBody (-1) true = false ∧ withJsonBody 7 true = true ∧ withJsonBody 7 false = false := by decide

end GoZero.C08.Props
