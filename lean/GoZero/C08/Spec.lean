/-
C08 — specification.  `satisfies c ty j v`: the value `v` is an acceptable result of unmarshalling the
document `j` into the struct type `ty` — stated field by field from the *declared* tag options, not from
the unmarshaller's control flow:

  * a field whose key is absent from the input holds its declared default, or is declared optional
    (given its dependency) and holds the zero value, or is a nested struct and holds what unmarshalling the
    empty object gives, or is a map and holds the empty map — a scalar field that is neither optional nor defaulted must be supplied;
  * `optional=dep`: supplied iff `dep` is; `optional=!dep`: exactly one of the two is supplied;
  * a supplied numeric field lies inside its declared range (open/closed ends), a supplied field with
    declared options holds one of them;
  * the target holds exactly the value the supplied text denotes.

The same function is the run-time monitor evaluated on the implementation's own results.
-/
import GoZero.C08.Model
namespace GoZero.C08.Spec
open GoZero.C08

def Range.contains (r : Range) (q : Dec) : Bool :=
  (if r.leftInc then Dec.le r.left q else Dec.lt r.left q)
  && (if r.rightInc then Dec.le q r.right else Dec.lt q r.right)

/-- the text of a supplied scalar -/
def textOf : J → Option Str
  | .num s => some s
  | .str s => some s
  | .bool b => some (boolText b)
  | _ => none

/-- the finite number a supplied scalar denotes -/
def numOf : J → Option Dec
  | .num s => match floatSyntax s with | .ok (.fin d) => some d | _ => none
  | .str s => match floatSyntax s with | .ok (.fin d) => some d | _ => none
  | _ => none

def numEqv : Num → Num → Bool
  | .fin a, .fin b => Dec.eqv a b
  | .posInf, .posInf => true
  | .negInf, .negInf => true
  | .nan, .nan => true
  | _, _ => false

/-- scalar values are equal (floats by numeric value) -/
def scalarEq : Val → Val → Bool
  | .bool a, .bool b => a == b
  | .int a, .int b => a == b
  | .flt a, .flt b => numEqv a b
  | .str a, .str b => a == b
  | _, _ => false

/-- `v` is the value of kind `k` that the text `s` denotes -/
def textDenotes (k : Kind) (s : Str) (v : Val) : Bool :=
  match k with
  | .float _ => match floatSyntax s with | .ok x => scalarEq (.flt x) v | .error _ => false
  | _ => match convertFromString k s with | .ok v' => scalarEq v' v | .error _ => false

/-- `v` is exactly the supplied scalar `x` at kind `k` -/
def primDenotes (k : Kind) (x : J) (v : Val) : Bool :=
  match x with
  | .bool b => k = .bool && scalarEq (.bool b) v
  | .num s => textDenotes k s v
  | .str s => textDenotes k s v
  | _ => false

/-- the dependency declared by `optional=dep` / `optional=!dep` holds -/
def depOK (o : Opts) (key : Str) (m : Obj) : Bool :=
  !o.optional ||
  match o.optionalDep with
  | [] => true
  | c :: d => if c = '!' then (!d.isEmpty && (hasKey d m != hasKey key m)) else hasKey (c :: d) m == hasKey key m

/-- the field may be left out (or be null) in this input -/
def declOptional (o : Opts) (m : Obj) : Bool :=
  o.optional &&
  match o.optionalDep with
  | [] => true
  | c :: d => if c = '!' then hasKey d m else !hasKey (c :: d) m

def rangeOK (o : Opts) (k : Option Kind) (x : J) : Bool :=
  match o.range, k with
  | some r, some k =>
    if k.isNumeric then (match numOf x with | some q => Range.contains r q | none => false) else true
  | _, _ => true

def optionsOK (o : Opts) (k : Option Kind) (x : J) : Bool :=
  o.options.isEmpty || k.isNone ||
  match textOf x with
  | some t => o.options.contains t
  | none => false

/-- the declarative counterpart of one field (`conv` = holds the supplied value, `absent` = what an absent
required field may hold, `dflt` = holds the default, `isZ` = untouched) -/
def fieldSat (c : Cfg) (name : Str) (tag : Option Str) (isSlice : Bool) (k : Option Kind) (m : Obj) (v : Val)
    (conv : J → Val → Bool) (absent : Val → Bool) (dflt : Str → Val → Bool) (isZ : Val → Bool) : Bool :=
  match tag with
  | none => isZ v
  | some tv =>
    match parseTagC c.repaired name tv with
    | .error _ => false
    | .ok (key, po) =>
      if key = "-".toList then isZ v
      else
        let o : Opts := effOpts po
        depOK o key m &&
        match lookupKey c (optInherit po) key m with
        | .error _ => false
        | .ok none =>
          if !o.default.isEmpty then dflt o.default v
          else if declOptional o m then isZ v
          else absent v
        | .ok (some j0) =>
          match fromArrayValue c isSlice j0 with
          | .null => declOptional o m && isZ v
          | j => rangeOK o k j && optionsOK o k j && conv j v

mutual
def isZero : Ty → Val → Bool
  | .prim .bool, v => scalarEq (.bool false) v
  | .prim (.int _), v => scalarEq (.int 0) v
  | .prim (.uint _), v => scalarEq (.int 0) v
  | .prim (.float _), v => scalarEq (.flt (.fin ⟨0, 0⟩)) v
  | .prim .string, v => scalarEq (.str []) v
  | .ptr _, v => match v with | .nil => true | _ => false
  | .slice _, v => match v with | .nil => true | _ => false
  | .map _, v => match v with | .nil => true | _ => false
  | .struct fs, v => match v with | .struct vs => isZeroFields fs vs | _ => false
def isZeroFields : Fields → VFields → Bool
  | .nil, vs => match vs with | .nil => true | _ => false
  | .cons name _ t rest, vs =>
    match vs with
    | .cons n v vs' => n == name && isZero t v && isZeroFields rest vs'
    | .nil => false
end

/-- positional correspondence of the elements of an array with the elements of a result list -/
def satElems (p : J → Val → Bool) : List J → VList → Bool
  | [], .nil => true
  | j :: rest, .cons v vs => p j v && satElems p rest vs
  | _, _ => false

/-- positional correspondence of the (canonical) entries of an object with the entries of a result map -/
def satEntries (p : J → Val → Bool) : Obj → VFields → Bool
  | [], .nil => true
  | (k, j) :: rest, .cons k' v vs => k == k' && p j v && satEntries p rest vs
  | _, _ => false

/-- the result of a supplied array: `[]` gives an empty slice, all-null leaves nil, else element by element -/
def sliceSat (p : J → Val → Bool) (l : List J) (v : Val) : Bool :=
  if l.isEmpty then (match v with | .list .nil => true | _ => false)
  else if allNull l then (match v with | .nil => true | _ => false)
  else match v with | .list vs => satElems p l vs | _ => false

def strListIs : List Str → VList → Bool
  | [], .nil => true
  | s :: rest, .cons v vs => scalarEq (.str s) v && strListIs rest vs
  | _, _ => false

def satDefault : Ty → Str → Val → Bool
  | .ptr t, d, v => match v with | .ptr v' => satDefault t d v' | _ => false
  | .prim k, d, v => match convertFromString k d with | .ok v' => scalarEq v' v | .error _ => false
  | .slice (.prim .string), d, v =>
    if (parseGroupedSegments d).isEmpty then (match v with | .nil => true | _ => false)
    else match v with | .list vs => strListIs (parseGroupedSegments d) vs | _ => false
  | _, _, _ => false

mutual
/-- `v` holds exactly the supplied value `j` at type `t` (and, for structs, the nested fields satisfy their constraints) -/
def satTy (c : Cfg) : Ty → J → Val → Bool
  | .ptr t, j, v => match v with | .ptr v' => satTy c t j v' | _ => false
  | .prim k, j, v => primDenotes k j v
  | .struct fs, j, v =>
    match j, v with
    | .obj m, .struct vs => satFields c fs m vs
    | _, _ => false
  | .slice t, j, v =>
    match j with
    | .arr l => sliceSat (fun j v => if j.isNull then isZero t v else satTy c.top t j v) l v
    | _ => false
  | .map t, j, v =>
    match j, v with
    | .obj m, .map vm => satEntries (fun j v => satTy c.top t j v) (canonObj m) vm
    | _, _ => false
/-- what a field that is absent, not optional and not defaulted may hold: only nested structs, as if `{}` was supplied -/
def satAbsent (c : Cfg) : Ty → Val → Bool
  | .ptr t, v => match v with | .ptr v' => satAbsent c t v' | _ => false
  | .prim _, _ => false
  | .struct fs, v => match v with | .struct vs => satFields c.top fs [] vs | _ => false
  | .slice _, _ => false
  | .map _, v => match v with | .map .nil => true | _ => false
def satFields (c : Cfg) : Fields → Obj → VFields → Bool
  | .nil, _, vs => match vs with | .nil => true | _ => false
  | .cons name tag t rest, m, vs =>
    match vs with
    | .cons n v vs' =>
      n == name
      && fieldSat c name tag t.isSlice (derefKind t) m v (fun j v => satTy (c.nestIn m) t j v) (fun v => satAbsent c t v)
           (fun d v => satDefault t d v) (fun v => isZero t v)
      && satFields c rest m vs'
    | .nil => false
end

/-- the property's acceptance condition for a struct type, a document and a result -/
def satisfies (c : Cfg) (ty : Ty) (j : J) (v : Val) : Bool :=
  match ty, j, v with
  | .struct fs, .obj m, .struct vs => satFields c fs m vs
  | _, _, _ => false

/-! ## the converse: inputs that must be accepted

`complete c ty j`: the document `j` meets every declared constraint of the struct type `ty` with correctly typed
values — stated from the declared tag options and the kinds, not from the unmarshaller's control flow:

  * every tag parses;
  * `optional=dep` / `optional=!dep` hold on the input;
  * an absent field has a default whose text is a literal of the field's type, or is declared optional, or is a
    map, or is a nested struct none of whose fields is required and that accepts the empty object;
  * a null is supplied only for a field that is declared optional on this input;
  * a supplied scalar is correctly typed (`primOK`): outside string mode a JSON number whose literal is an integer
    literal of the bit size / a float64 literal (no float32 overflow), a JSON string for a string field, a JSON bool
    for a bool field; in string mode (`,string`, form/path/header values) a string or number whose text is a literal
    of the kind; it lies inside the declared range (a range is declared on numeric kinds only) and is one of the
    declared options;
  * arrays, objects for slices, maps, nested structs, element by element.
-/

/-- the text is a literal of kind `k` (`strconv` syntax and bit size; bool: 1/0/true/false in any case) -/
def textTyped (k : Kind) (s : Str) : Bool :=
  match convertFromString k s with | .ok _ => true | .error _ => false

/-- `json.Number.Float64` succeeds on the literal -/
def f64OK (lit : Str) : Bool :=
  match parseFloat 64 lit with | .ok _ => true | .error _ => false

/-- a JSON number is a correctly typed value of kind `k` outside string mode -/
def numTyped (k : Kind) (lit : Str) : Bool :=
  f64OK lit &&
  match k with
  | .int b => (match parseInt b lit with | .ok _ => true | .error _ => false)
  | .uint b => (match parseUint b lit with | .ok _ => true | .error _ => false)
  | .float b => (match parseFloat 64 lit with | .ok x => !(b = 32 && float32Overflows x) | .error _ => false)
  | _ => false

/-- the supplied scalar lies inside the declared range (no range: nothing to check) -/
def inRange (r : Option Range) (x : J) : Bool :=
  match r with
  | none => true
  | some r => match numOf x with | some q => Range.contains r q | none => false

def inOptions (opts : List Str) (x : J) : Bool :=
  opts.isEmpty || match textOf x with | some t => opts.contains t | none => false

/-- a supplied scalar for a field of kind `k`: correctly typed, inside the range, among the options -/
def primOK (fs : Bool) (r : Option Range) (opts : List Str) (k : Kind) (x : J) : Bool :=
  (r.isNone || k.isNumeric) && inRange r x && inOptions opts x &&
  (if fs then
     (match x with
      | .str s => textTyped k s
      | .num lit => textTyped k lit && f64OK lit
      | _ => false)
   else
     (match x with
      | .num lit => numTyped k lit
      | .str _ => k = .string
      | .bool _ => k = .bool
      | _ => false))

def allJ (p : J → Bool) : List J → Bool
  | [] => true
  | j :: rest => p j && allJ p rest

def allEntries (p : J → Bool) : Obj → Bool
  | [] => true
  | (_, j) :: rest => p j && allEntries p rest

/-- the declarative counterpart of one field for the converse direction (`okv` = the supplied value is fine given
string mode, range and options; `okAbs` = the field may be absent although required; `okDflt` = the default is a
literal of the type) -/
def fieldOK (c : Cfg) (name : Str) (tag : Option Str) (isSlice : Bool) (m : Obj)
    (okv : Bool → Option Range → List Str → J → Bool) (okAbs : Bool) (okDflt : Str → Bool) : Bool :=
  match tag with
  | none => true
  | some tv =>
    match parseTagC c.repaired name tv with
    | .error _ => false
    | .ok (key, po) =>
      depOK (effOpts po) key m &&
      (key = "-".toList ||
       (
        match lookupKey c (optInherit po) key m with
        | .error _ => false
        | .ok none =>
          if !(effOpts po).default.isEmpty then okDflt (effOpts po).default
          else (declOptional (effOpts po) m || okAbs)
        | .ok (some j0) =>
          match fromArrayValue c isSlice j0 with
          | .null => declOptional (effOpts po) m
          | j => okv (effOpts po).fromString (effOpts po).range (effOpts po).options j))

mutual
/-- the supplied (non-null) value `j` is fine for a field of type `t` -/
def okTy (c : Cfg) (fs : Bool) (r : Option Range) (opts : List Str) : Ty → J → Bool
  | .ptr t, j => okTy c fs r opts t j
  | .prim k, j => primOK (c.fromString || fs) r opts k j
  | .struct fs', j => match j with | .obj m => okFields c fs' m | _ => false
  | .slice t, j => match j with | .arr l => allJ (fun j => j.isNull || okElem c.top t j) l | _ => false
  | .map t, j => match j with | .obj m => allEntries (fun j => okMapElem c.top t j) (canonObj m) | _ => false
/-- a non-null element of an array: numbers and strings whose text is a literal of the kind, bools for bools -/
def okElem (c : Cfg) : Ty → J → Bool
  | .ptr t, j => okElem c t j
  | .prim k, j =>
    match j with
    | .num s => textTyped k s
    | .str s => textTyped k s
    | .bool _ => k = .bool
    | _ => false
  | .struct fs, j => match j with | .obj m => okFields c fs m | _ => false
  | .slice t, j => match j with | .arr l => allJ (fun j => j.isNull || okElem c.top t j) l | _ => false
  | .map t, j => match j with | .obj m => allEntries (fun j => okMapElem c.top t j) (canonObj m) | _ => false
/-- a value of an object for a map field -/
def okMapElem (c : Cfg) : Ty → J → Bool
  | .ptr t, j => okMapElem c t j
  | .prim k, j =>
    match j with
    | .bool _ => k = .bool
    | .str _ => k = .string
    | .num lit => textTyped k lit
    | _ => false
  | .struct fs, j => match j with | .obj m => okFields c fs m | _ => false
  | .slice t, j => match j with | .arr l => allJ (fun j => j.isNull || okElem c.top t j) l | _ => false
  | .map t, j => match j with | .obj m => allEntries (fun j => okMapElem c.top t j) (canonObj m) | _ => false
/-- a field that is neither optional nor defaulted may still be absent: maps, and nested structs without required fields -/
def okAbsent (c : Cfg) : Ty → Bool
  | .ptr t => okAbsent c t
  | .prim _ => false
  | .struct fs => (match structRequired fs with | .ok false => true | _ => false) && okFields c.top fs []
  | .slice _ => false
  | .map _ => true
def okFields (c : Cfg) : Fields → Obj → Bool
  | .nil, _ => true
  | .cons name tag t rest, m =>
    fieldOK c name tag t.isSlice m (fun fs r opts j => okTy (c.nestIn m) fs r opts t j) (okAbsent c t)
      (fun d => match defaultVal c.repaired t d with | .ok _ => true | .error _ => false)
    && okFields c rest m
end

/-- the document meets all declared constraints of the type with correctly typed values -/
def complete (c : Cfg) (ty : Ty) (j : J) : Bool :=
  match ty, j with
  | .struct fs, .obj m => okFields c fs m
  | _, _ => false

end GoZero.C08.Spec
