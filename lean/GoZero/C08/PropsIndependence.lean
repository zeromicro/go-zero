/-
C08 — a fresh target per entry / per element: the value stored under a key of a map field (at an index of a slice field) is a
function of the input under that key (at that index) alone.  In the code this is the allocation discipline tied by
`Tie.tie_generateMap_fresh_target` / `tie_fillSlice_fresh_target` (seeded C08-9 hoists generateMap's scratch value out of the loop).
-/
import GoZero.C08.PropsKeys
namespace GoZero.C08.Props
open GoZero.C08 GoZero.C08.Spec

def elemAt : VList → Nat → Option Val
  | .nil, _ => none
  | .cons v _, 0 => some v
  | .cons _ rest, i + 1 => elemAt rest i

theorem mapEntries_pointwise {f : J → Except Err Val} : ∀ (m : Obj) (vs : VFields), mapEntries f m = .ok vs →
    ∀ (i : Nat) (k : Str) (j : J), m[i]? = some (k, j) → ∃ v, f j = .ok v ∧ valAt vs i = some (k, v)
  | [], vs, _, i, k, j, hi => by simp at hi
  | (k0, j0) :: rest, vs, h, i, k, j, hi => by
    unfold mapEntries at h
    split at h; · cases h
    rename_i v0 hf
    split at h <;> cases h
    rename_i vs' hr
    cases i with
    | zero => cases hi; exact ⟨v0, hf, rfl⟩
    | succ n => exact mapEntries_pointwise rest vs' hr n k j hi

/-- **entries are independent** — two runs on two lists of entries that bind the same key to the
same input store the same value under it, whatever else the documents hold and wherever the entry sits -/
theorem mapEntries_independent {f : J → Except Err Val} {m m' : Obj} {vs vs' : VFields}
    (h : mapEntries f m = .ok vs) (h' : mapEntries f m' = .ok vs') {i i' : Nat} {k : Str} {j : J}
    (hi : m[i]? = some (k, j)) (hi' : m'[i']? = some (k, j)) :
    ∃ v, f j = .ok v ∧ valAt vs i = some (k, v) ∧ valAt vs' i' = some (k, v) := by
  obtain ⟨v, hv, hat⟩ := mapEntries_pointwise m vs h i k j hi
  obtain ⟨v', hv', hat'⟩ := mapEntries_pointwise m' vs' h' i' k j hi'
  cases hv.symm.trans hv'
  exact ⟨v, hv, hat, hat'⟩

theorem mapElems_pointwise {f : J → Except Err Val} : ∀ (l : List J) (vs : VList), mapElems f l = .ok vs →
    ∀ (i : Nat) (j : J), l[i]? = some j → ∃ v, f j = .ok v ∧ elemAt vs i = some v
  | [], vs, _, i, j, hi => by simp at hi
  | j0 :: rest, vs, h, i, j, hi => by
    unfold mapElems at h
    split at h; · cases h
    rename_i v0 hf
    split at h <;> cases h
    rename_i vs' hr
    cases i with
    | zero => cases hi; exact ⟨v0, hf, rfl⟩
    | succ n => exact mapElems_pointwise rest vs' hr n j hi

/-- **elements are independent** — the same input element gives the same stored element, at whatever index and next to
whatever neighbours -/
theorem mapElems_independent {f : J → Except Err Val} {l l' : List J} {vs vs' : VList}
    (h : mapElems f l = .ok vs) (h' : mapElems f l' = .ok vs') {i i' : Nat} {j : J}
    (hi : l[i]? = some j) (hi' : l'[i']? = some j) :
    ∃ v, f j = .ok v ∧ elemAt vs i = some v ∧ elemAt vs' i' = some v := by
  obtain ⟨v, hv, hat⟩ := mapElems_pointwise l vs h i j hi
  obtain ⟨v', hv', hat'⟩ := mapElems_pointwise l' vs' h' i' j hi'
  cases hv.symm.trans hv'
  exact ⟨v, hv, hat, hat'⟩

/-- **a map field** (`withValue` at a map type: `fillMap` → `generateMap`): for every configuration, element type and two accepted documents, an
entry bound to the same input in both holds the same value in both results, namely `mapElemValue` of that input alone -/
theorem map_field_entries_independent (c : Cfg) (hc : c.pinned = false) (o : Option Opts) (t : Ty) (m m' : Obj) (v v' : Val)
    (h : withValue c o (.map t) (.obj m) = .ok v) (h' : withValue c o (.map t) (.obj m') = .ok v')
    {i i' : Nat} {k : Str} {j : J} (hi : (canonObj m)[i]? = some (k, j)) (hi' : (canonObj m')[i']? = some (k, j)) :
    ∃ vs vs' w, v = .map vs ∧ v' = .map vs' ∧ mapElemValue c.top t j = .ok w
      ∧ valAt vs i = some (k, w) ∧ valAt vs' i' = some (k, w) := by
  have _ := hc
  unfold withValue at h h'
  simp only at h h'
  obtain ⟨vs, hvs, rfl⟩ := exceptMap_ok h
  obtain ⟨vs', hvs', rfl⟩ := exceptMap_ok h'
  obtain ⟨w, hw, h1, h2⟩ := mapEntries_independent hvs hvs' hi hi'
  exact ⟨vs, vs', w, rfl, rfl, hw, h1, h2⟩

/-- **a slice field** (`withValue` at a slice type: `fillSlice`): a non-null element of an accepted array is stored, at its own index, as
`elemValue` of that element alone (the same in every document that holds it) -/
theorem slice_field_elements_independent (c : Cfg) (o : Option Opts) (t : Ty) (l l' : List J) (v v' : Val)
    (h : withValue c o (.slice t) (.arr l) = .ok v) (h' : withValue c o (.slice t) (.arr l') = .ok v')
    {i i' : Nat} {j : J} (hn : j.isNull = false) (hi : l[i]? = some j) (hi' : l'[i']? = some j) :
    ∃ vs vs' w, v = sliceResult l vs ∧ v' = sliceResult l' vs' ∧ elemValue c.top t j = .ok w
      ∧ elemAt vs i = some w ∧ elemAt vs' i' = some w := by
  unfold withValue at h h'
  simp only at h h'
  obtain ⟨vs, hvs, rfl⟩ := exceptMap_ok h
  obtain ⟨vs', hvs', rfl⟩ := exceptMap_ok h'
  obtain ⟨w, hw, h1, h2⟩ := mapElems_independent hvs hvs' hi hi'
  simp only [hn, Bool.false_eq_true, if_false] at hw
  exact ⟨vs, vs', w, rfl, rfl, hw, h1, h2⟩

/-- non-vacuity (the shape seeded C08-9 broke): `map[string]*[]int` from `{k: [1], j: []}` — every entry keeps its own value -/
example :
    (match withValue {} none (.map (.ptr (.slice (.prim (.int 64)))))
        (.obj [("k".toList, .arr [.num "1".toList]), ("j".toList, .arr [])]) with
      | .ok (.map (.cons _ (.ptr (.list .nil)) (.cons _ (.ptr (.list (.cons (.int 1) .nil))) .nil))) => true
      | _ => false) = true := by decide +kernel

end GoZero.C08.Props
