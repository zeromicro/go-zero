/-
C08 — what the small functions of the repaired unmarshaller compute, as equations and inversions in the vocabulary of `Spec`
(range test, dependency resolution, strconv against `floatSyntax`, the checks, `fieldCore` stage by stage), and the three
positions a value is converted in (`Pos`: field, slice element, map value), which differ at primitive kinds only.
-/
import GoZero.C08.Spec
namespace GoZero.C08
open Spec

theorem Dec.lt_eq_not_le (a b : Dec) : Dec.lt a b = !Dec.le b a := by
  simp only [Dec.lt, Dec.le, Dec.scaleL, Dec.scaleR, Int.min_comm b.exp a.exp]
  by_cases h : a.num * 10 ^ (a.exp - min a.exp b.exp).toNat < b.num * 10 ^ (b.exp - min a.exp b.exp).toNat <;>
    simp [h, Int.not_le.mpr, Int.not_lt.mp]

theorem Dec.eqv_refl (a : Dec) : Dec.eqv a a = true := by
  unfold Dec.eqv Dec.scaleL Dec.scaleR; simp

theorem numEqv_refl (x : Num) : numEqv x x = true := by
  cases x <;> simp [numEqv, Dec.eqv_refl]

theorem rangeRejects_fin (c : Cfg) (r : Range) (d : Dec) :
    rangeRejects c r (.fin d) = !Range.contains r d := by
  cases hl : r.leftInc <;> cases hr : r.rightInc <;>
    simp [rangeRejects, Range.contains, numLt, numLe, numGt, numGe, hl, hr, Dec.lt_eq_not_le]

theorem rangeRejects_false {c : Cfg} {r : Range} {x : Num} (hc : c.pinned = false)
    (h : rangeRejects c r x = false) : ∃ d, x = .fin d ∧ Range.contains r d = true := by
  cases x with
  | fin d => exact ⟨d, rfl, by simpa [rangeRejects_fin] using h⟩
  | nan => simp [rangeRejects, hc] at h
  | posInf => cases hr : r.rightInc <;> simp [rangeRejects, numGt, numGe, hr] at h
  | negInf => cases hl : r.leftInc <;> simp [rangeRejects, numLt, numLe, hl] at h

theorem effOptional_eq (o : Opts) (key : Str) (m : Obj) :
    effOptional o key m = if depOK o key m then .ok (declOptional o m) else .error .dep := by
  unfold effOptional depOK declOptional
  cases o.optional with
  | false => rfl
  | true =>
    cases o.optionalDep with
    | nil => rfl
    | cons c d =>
      by_cases hc : c = '!'
      · by_cases hd : d = [] <;> cases h1 : hasKey d m <;> cases hasKey key m <;> simp [hc, hd, h1]
      · cases h1 : hasKey (c :: d) m <;> cases hasKey key m <;> simp [hc, h1]

/-- the option set a field is processed with once its dependency is resolved against the input -/
def resolved (po : Option Opts) (m : Obj) : Option Opts :=
  po.map fun o => { o with optional := declOptional o m }

/-- `parseOptionsWithContext` on the repaired code: the dependency is checked, and `optional` is the only thing
resolving changes in the option set (the pinned commit also reset `Inherit` and `Range`) -/
theorem resolveOpts_eq {c : Cfg} (hc : c.pinned = false) (po : Option Opts) (key : Str) (m : Obj) :
    resolveOpts c po key m = if depOK (effOpts po) key m then .ok (resolved po m) else .error .dep := by
  cases po with
  | none => rfl
  | some o =>
    simp only [resolveOpts, toOptionsWithContext, effOptional_eq, effOpts, hc]
    by_cases hd : depOK o key m = true
    · by_cases ho : o.optional = declOptional o m
      · simp only [hd, ho, resolved, Except.map, if_true, Option.map_some]
        rw [← ho]
      · simp [hd, ho, resolved, Except.map]
    · simp [hd, Except.map]

section resolved
variable (po : Option Opts) (m : Obj)
@[simp] theorem optOptional_resolved : optOptional (resolved po m) = declOptional (effOpts po) m := by cases po <;> rfl
@[simp] theorem optDefault_resolved : optDefault (resolved po m) = (effOpts po).default := by cases po <;> rfl
@[simp] theorem optFromString_resolved : optFromString (resolved po m) = (effOpts po).fromString := by cases po <;> rfl
@[simp] theorem optInherit_resolved : optInherit (resolved po m) = optInherit po := by cases po <;> rfl
@[simp] theorem range_resolved : (effOpts (resolved po m)).range = (effOpts po).range := by cases po <;> rfl
@[simp] theorem options_resolved : (effOpts (resolved po m)).options = (effOpts po).options := by cases po <;> rfl
end resolved

theorem Cfg.repaired_eq {c : Cfg} (hc : c.pinned = false) : c.repaired = c := by
  cases c; simp_all [Cfg.repaired]

theorem parseInt_ok {b : Nat} {s : Str} {i : Int} (h : parseInt b s = .ok i) :
    ∃ body, body = (if s.head? = some '-' ∨ s.head? = some '+' then s.tail else s) ∧ body ≠ [] ∧ body.all isDigit = true
      ∧ i = applySign (decide (s.head? = some '-')) (digitsVal body 0)
      ∧ -(2 ^ (b - 1) : Int) ≤ i ∧ i < (2 ^ (b - 1) : Int) := by
  unfold parseInt at h
  simp only at h
  generalize (if s.head? = some '-' ∨ s.head? = some '+' then s.tail else s) = body at h ⊢
  split at h
  · cases h
  · split at h
    · cases h
    · rename_i h1 h2
      cases h
      simp only [not_or, Bool.not_eq_false, Bool.not_eq_eq_eq_not, Bool.not_true] at h1
      exact ⟨body, rfl, h1.1, by simpa using h1.2, rfl, by omega, by omega⟩

theorem parseUint_ok {b : Nat} {s : Str} {i : Int} (h : parseUint b s = .ok i) :
    s ≠ [] ∧ s.all isDigit = true ∧ i = digitsVal s 0 ∧ 0 ≤ i ∧ i < (2 ^ b : Int) := by
  unfold parseUint at h
  simp only at h
  split at h
  · cases h
  · split at h
    · cases h
    · rename_i h1 h2
      cases h
      simp only [not_or, Bool.not_eq_true', Bool.not_eq_false] at h1
      exact ⟨h1.1, by simpa using h1.2, rfl, by omega, by omega⟩

theorem takeDigits_all {s : Str} (h : s.all isDigit = true) : takeDigits s = (s, []) := by
  induction s with
  | nil => rfl
  | cons c cs ih =>
    simp only [List.all_cons, Bool.and_eq_true] at h
    simp [takeDigits, h.1, ih h.2]

theorem parseDec_of_digits {s body : Str}
    (hbody : body = if s.head? = some '-' ∨ s.head? = some '+' then s.tail else s)
    (hne : body ≠ []) (hall : body.all isDigit = true) :
    parseDec s = .ok ⟨applySign (decide (s.head? = some '-')) (digitsVal body 0 : Int), 0⟩ := by
  unfold parseDec
  simp only [← hbody, takeDigits_all hall]
  simp [hne]

theorem digits_noUnderscore {s : Str} (h : s.all isDigit = true) : s.contains '_' = false := by
  induction s with
  | nil => rfl
  | cons c cs ih =>
    simp only [List.all_cons, Bool.and_eq_true] at h
    have hc : ('_' == c) = false := by
      rw [beq_eq_false_iff_ne]; intro e; rw [← e] at h; exact absurd h.1 (by decide)
    simp only [List.contains_cons, ih h.2, hc, Bool.or_false]

theorem floatSyntax_of_parseDec {s : Str} {d : Dec} (hu : s.contains '_' = false) (h : parseDec s = .ok d) :
    floatSyntax s = .ok (.fin d) := by
  simp only [floatSyntax, cleanUnderscores, hu, Bool.not_false, if_true, h]

theorem parseInt_floatSyntax {b : Nat} {s : Str} {i : Int} (h : parseInt b s = .ok i) :
    floatSyntax s = .ok (.fin ⟨i, 0⟩) := by
  obtain ⟨body, hb, hne, hall, rfl, -, -⟩ := parseInt_ok h
  refine floatSyntax_of_parseDec ?_ (parseDec_of_digits hb hne hall)
  have hu := digits_noUnderscore hall
  cases s with
  | nil => exact absurd hb hne
  | cons c t =>
    simp only [List.head?_cons, Option.some.injEq, List.tail_cons] at hb
    split at hb
    · rename_i hs
      have : ('_' == c) = false := by rcases hs with e | e <;> (subst e; decide)
      simp only [List.contains_cons, ← hb, hu, this, Bool.or_false]
    · exact hb ▸ hu

theorem parseUint_floatSyntax {b : Nat} {s : Str} {i : Int} (h : parseUint b s = .ok i) :
    floatSyntax s = .ok (.fin ⟨i, 0⟩) := by
  obtain ⟨hne, hall, rfl, -, -⟩ := parseUint_ok h
  refine floatSyntax_of_parseDec (digits_noUnderscore hall) ?_
  -- the first character is a digit, so there is no sign to strip
  have hd : ∀ c, s.head? = some c → isDigit c = true := by
    intro c hcs
    cases s with
    | nil => cases hcs
    | cons x xs => cases hcs; exact (by simpa using hall : _ ∧ _).1
  have h1 : s.head? ≠ some '-' := fun e => absurd (hd _ e) (by decide)
  have h2 : s.head? ≠ some '+' := fun e => absurd (hd _ e) (by decide)
  rw [parseDec_of_digits (body := s) (by simp [h1, h2]) hne hall]
  simp [applySign, h1]

theorem parseFloat_syntax {b : Nat} {s : Str} {x : Num} (h : parseFloat b s = .ok x) :
    floatSyntax s = .ok x := by
  unfold parseFloat at h
  split at h
  · cases h
  · generalize Dec.le _ _ = over at h
    cases over <;> cases h; assumption
  · cases h; assumption

theorem pow_le_64 {n : Nat} (hn : n ≤ 64) : (2 ^ n : Int) ≤ 2 ^ 64 := by
  have : (2 ^ n : Nat) ≤ 2 ^ 64 := Nat.pow_le_pow_right (by decide) hn
  exact_mod_cast this

theorem pow64_small : (2 : Int) ^ 64 < 2 ^ 1024 - 2 ^ 970 := by decide +kernel

theorem f64OK_of_small {s : Str} {i : Int} (hs : floatSyntax s = .ok (.fin ⟨i, 0⟩))
    (h1 : -(2 ^ 64 : Int) ≤ i) (h2 : i ≤ 2 ^ 64) : f64OK s = true := by
  have h4 := pow64_small
  unfold f64OK parseFloat
  simp only [hs]
  have : Dec.le overflow64 (Dec.abs ⟨i, 0⟩) = false := by
    simp [Dec.le, Dec.scaleL, Dec.scaleR, Dec.abs, overflow64, Dec.ofInt]
    omega
  simp [this]

theorem numTyped_int {b : Nat} {s : Str} {i : Int} (hb : b ≤ 64) (h : parseInt b s = .ok i) :
    numTyped (.int b) s = true := by
  obtain ⟨_, _, _, _, _, h1, h2⟩ := parseInt_ok h
  have h3 := pow_le_64 (n := b - 1) (by omega)
  have := f64OK_of_small (parseInt_floatSyntax h) (by omega) (by omega)
  simp [numTyped, this, h]

theorem numTyped_uint {b : Nat} {s : Str} {i : Int} (hb : b ≤ 64) (h : parseUint b s = .ok i) :
    numTyped (.uint b) s = true := by
  obtain ⟨_, _, _, h1, h2⟩ := parseUint_ok h
  have h3 := pow_le_64 hb
  have := f64OK_of_small (parseUint_floatSyntax h) (by omega) (by omega)
  simp [numTyped, this, h]

theorem exceptMap_ok {α β : Type} {f : α → β} {x : Except Err α} {y : β} (h : x.map f = .ok y) :
    ∃ a, x = .ok a ∧ y = f a := by
  cases x with
  | error e => cases h
  | ok a => cases h; exact ⟨a, rfl, rfl⟩

theorem validateInOptions_ok_iff {o : Option Opts} {t : Str} :
    validateInOptions o t = .ok () ↔ ((effOpts o).options = [] ∨ (effOpts o).options.contains t = true) := by
  have e : optOptions o = (effOpts o).options := by cases o <;> rfl
  unfold validateInOptions
  rw [e]
  by_cases h1 : (effOpts o).options = [] <;> simp [h1]

theorem validateJsonNumberRange_ok_iff {c : Cfg} {o : Option Opts} {lit : Str} :
    validateJsonNumberRange c o lit = .ok () ↔
      ∀ r, (effOpts o).range = some r → ∃ x, parseFloat 64 lit = .ok x ∧ rangeRejects c r x = false := by
  unfold validateJsonNumberRange
  cases o with
  | none => simp [effOpts]
  | some o =>
    cases hr : o.range with
    | none => simp [effOpts, hr]
    | some r =>
      cases parseFloat 64 lit with
      | error e => simp [effOpts, hr]
      | ok x => cases hx : rangeRejects c r x <;> simp [effOpts, hr, hx]

theorem validateValueRange_ok_iff {c : Cfg} {o : Option Opts} {v : Val} :
    validateValueRange c o v = .ok () ↔
      ∀ r, (effOpts o).range = some r → ∃ x, valToNum v = some x ∧ rangeRejects c r x = false := by
  unfold validateValueRange
  cases o with
  | none => simp [effOpts]
  | some o =>
    cases hr : o.range with
    | none => simp [effOpts, hr]
    | some r =>
      cases valToNum v with
      | none => simp [effOpts, hr]
      | some x => cases hx : rangeRejects c r x <;> simp [effOpts, hr, hx]

theorem convertFromString_scalar {k : Kind} {s : Str} {v : Val} (h : convertFromString k s = .ok v) :
    scalarEq v v = true := by
  cases k with
  | bool =>
    simp only [convertFromString] at h
    split at h
    · cases h; rfl
    · split at h <;> cases h; rfl
  | int b => obtain ⟨a, _, rfl⟩ := exceptMap_ok h; simp [scalarEq]
  | uint b => obtain ⟨a, _, rfl⟩ := exceptMap_ok h; simp [scalarEq]
  | float b => obtain ⟨a, _, rfl⟩ := exceptMap_ok h; simp [scalarEq, numEqv_refl]
  | string => cases h; simp [scalarEq]

theorem convertFromString_denotes {k : Kind} {s : Str} {v : Val} (h : convertFromString k s = .ok v) :
    textDenotes k s v = true := by
  have hs := convertFromString_scalar h
  cases k with
  | float b =>
    obtain ⟨x, hx, rfl⟩ := exceptMap_ok h
    simp [textDenotes, parseFloat_syntax hx, scalarEq, numEqv_refl]
  | _ => simp [textDenotes, h, hs]

/-- the number a converted numeric value stands for is the number its text denotes -/
theorem valToNum_convert {k : Kind} {s : Str} {v : Val} (hk : k.isNumeric = true)
    (hv : convertFromString k s = .ok v) : ∃ x, valToNum v = some x ∧ floatSyntax s = .ok x := by
  cases k with
  | int b => obtain ⟨i, hi, rfl⟩ := exceptMap_ok hv; exact ⟨_, rfl, parseInt_floatSyntax hi⟩
  | uint b => obtain ⟨i, hi, rfl⟩ := exceptMap_ok hv; exact ⟨_, rfl, parseUint_floatSyntax hi⟩
  | float b => obtain ⟨y, hy, rfl⟩ := exceptMap_ok hv; exact ⟨_, rfl, parseFloat_syntax hy⟩
  | _ => cases hk

/-- `processNamedField` on the repaired code, stage by stage, in the vocabulary of the specification: the declared
dependency, the declared optionality on this input, the declared default -/
theorem fieldCore_eq {c : Cfg} (hc : c.pinned = false) (name tv : Str) (isSlice : Bool) (m : Obj)
    (wv : Option Opts → J → Except Err Val) (ar : Unit → Except Err Val) (dv : Str → Except Err Val) (z : Val) :
    fieldCore c name (some tv) isSlice m wv ar dv z =
      match parseTagC c name tv with
      | .error e => .error e
      | .ok (key, po) =>
        if depOK (effOpts po) key m = false then .error .dep
        else if key = "-".toList then .ok z
        else match lookupKey c (optInherit po) key m with
          | .error e => .error e
          | .ok none =>
            if (effOpts po).default ≠ [] then dv (effOpts po).default
            else if declOptional (effOpts po) m then .ok z else ar ()
          | .ok (some j0) =>
            if (fromArrayValue c isSlice j0).isNull then
              (if declOptional (effOpts po) m then .ok z else .error .nilValue)
            else wv (resolved po m) (fromArrayValue c isSlice j0) := by
  -- the cases are made on the data (`cases`, `by_cases`), not with `split`, which is slow on a term of this size
  unfold fieldCore
  dsimp only
  cases parseTagC c name tv with
  | error e => rfl
  | ok kp =>
    obtain ⟨key, po⟩ := kp
    simp only [resolveOpts_eq hc]
    cases depOK (effOpts po) key m with
    | false => rfl
    | true =>
      simp only [if_true, optInherit_resolved, optDefault_resolved, optOptional_resolved, hc, Bool.false_and]
      by_cases hk : key = "-".toList
      · rw [if_pos hk, if_neg Bool.true_eq_false.mp, if_pos hk]
      · rw [if_neg hk, if_neg Bool.true_eq_false.mp, if_neg hk]
        cases lookupKey c (optInherit po) key m with
        | error e => rfl
        | ok r =>
          cases r with
          | none => rfl
          | some j0 => dsimp only; generalize fromArrayValue c isSlice j0 = j; cases j <;> rfl

theorem rangeOK_congr {o1 o2 : Opts} (h : o1.range = o2.range) (k : Option Kind) (j : J) :
    rangeOK o1 k j = rangeOK o2 k j := by unfold rangeOK; rw [h]

theorem optionsOK_congr {o1 o2 : Opts} (h : o1.options = o2.options) (k : Option Kind) (j : J) :
    optionsOK o1 k j = optionsOK o2 k j := by unfold optionsOK; rw [h]

mutual
theorem isZero_zero : ∀ t : Ty, isZero t (zero t) = true
  | .prim k => by cases k <;> simp [zero, isZero, scalarEq, numEqv, Dec.eqv_refl]
  | .ptr _ | .slice _ | .map _ => by simp [zero, isZero]
  | .struct fs => by simp [zero, isZero, isZeroFields_zero fs]
theorem isZeroFields_zero : ∀ fs : Fields, isZeroFields fs (zeroFields fs) = true
  | .nil => by simp [zeroFields, isZeroFields]
  | .cons name tag t rest => by simp [zeroFields, isZeroFields, isZero_zero t, isZeroFields_zero rest]
end

theorem strListIs_strList : ∀ l : List Str, strListIs l (strList l) = true
  | [] => rfl
  | s :: rest => by simp [strList, strListIs, scalarEq, strListIs_strList rest]

theorem defaultVal_sound (c : Cfg) (hc : c.pinned = false) :
    ∀ (t : Ty) (d : Str) (v : Val), defaultVal c t d = .ok v → satDefault t d v = true
  | .ptr t, d, v, h => by
    simp only [defaultVal, hc, Bool.false_and, Bool.false_eq_true, if_false] at h
    obtain ⟨v', hv', rfl⟩ := exceptMap_ok h
    simp [satDefault, defaultVal_sound c hc t d v' hv']
  | .prim k, d, v, h => by
    unfold defaultVal at h
    simp [satDefault, h, convertFromString_scalar h]
  | .slice t, d, v, h => by
    cases t with
    | prim k =>
      cases k with
      | string =>
        simp only [defaultVal] at h
        cases h
        by_cases he : parseGroupedSegments d = [] <;> simp [satDefault, he, strListIs_strList]
      | _ => simp [defaultVal] at h
    | _ => simp [defaultVal] at h
  | .struct _, _, _, h | .map _, _, _, h => by simp [defaultVal] at h

theorem sliceResult_sound {p : J → Val → Bool} {l : List J} {vs : VList} (h : satElems p l vs = true) :
    sliceSat p l (sliceResult l vs) = true := by
  unfold sliceSat sliceResult
  by_cases h1 : l.isEmpty = true
  · simp [h1]
  · by_cases h2 : allNull l = true <;> simp [h1, h2, h]

/-- where a supplied value is converted: as the value of a field (with the field's resolved options), as an element
of a slice (`fillSlice`), as a value of a map (`generateMap`) -/
inductive Pos where
  | field (o : Option Opts)
  | elem
  | entry

def Pos.opts : Pos → Opts
  | .field o => effOpts o
  | _ => {}

def convert (c : Cfg) : Pos → Ty → J → Except Err Val
  | .field o => withValue c o
  | .elem => elemValue c
  | .entry => mapElemValue c

/-- what `Spec` demands of a supplied value at a position -/
def okConv (c : Cfg) : Pos → Ty → J → Bool
  | .field o => okTy c (optFromString o) (effOpts o).range (effOpts o).options
  | .elem => okElem c
  | .entry => okMapElem c

theorem okConv_ptr (c : Cfg) (p : Pos) (t : Ty) (j : J) : okConv c p (.ptr t) j = okConv c p t j := by
  cases p <;> simp only [okConv, okTy, okElem, okMapElem]

/-! On the repaired code the three positions treat pointers, structs, slices and maps alike: a pointer is allocated
around the converted value, and a struct, slice or map is filled from the one input shape it accepts. -/

theorem convert_ptr {c : Cfg} (hc : c.pinned = false) (p : Pos) (t : Ty) (j : J) :
    convert c p (.ptr t) j = (convert c p t j).map .ptr := by
  cases p <;> simp [convert, withValue, elemValue, mapElemValue, hc]

theorem jsonNumberPath_none {c : Cfg} {o : Option Opts} {lit : Str} {v : Val} :
    jsonNumberPath c o none lit ≠ .ok v := by
  unfold jsonNumberPath
  cases validateJsonNumberRange c o lit with
  | error e => simp
  | ok u => cases validateInOptions o lit <;> simp

theorem rangeOK_none (o : Opts) (j : J) : rangeOK o none j = true := by
  unfold rangeOK; cases o.range <;> rfl

theorem optionsOK_none (o : Opts) (j : J) : optionsOK o none j = true := by
  simp [optionsOK]

end GoZero.C08
