/-
C08 — the functions below the recursion (strconv, the checks, `jsonNumberPath`, defaults, key lookups, `structRequired`) never
reach a Go panic (`NP`).  Each is followed along its definition: a literal error other than `panic`, a result, a conditional
between two such, or an error handed on from a callee that does not panic.
-/
import GoZero.C08.Proofs
namespace GoZero.C08

def NP {α : Type} (x : Except Err α) : Prop := x ≠ .error .panic

theorem NP_ok {α : Type} (a : α) : NP (.ok a : Except Err α) := by simp [NP]
theorem NP_error {α : Type} {e : Err} (h : e ≠ .panic := by decide) : NP (.error e : Except Err α) := by
  simpa [NP] using h
theorem NP_map {α β : Type} {x : Except Err α} (f : α → β) (h : NP x) : NP (x.map f) := by
  cases x <;> simp_all [NP, Except.map]
theorem NP_ite {α : Type} {p : Prop} [Decidable p] {a b : Except Err α} (ha : NP a) (hb : NP b) :
    NP (if p then a else b) := by
  by_cases h : p <;> simp only [h, if_true, if_false] <;> assumption
/-- an error handed on from a callee that does not panic -/
theorem NP.of_error {α β : Type} {x : Except Err α} (hx : NP x) {e : Err} (h : x = .error e) :
    NP (.error e : Except Err β) := by
  subst h; simpa [NP] using hx

theorem NP_bind {α β : Type} {x : Except Err α} {f : α → Except Err β} (hx : NP x) (hf : ∀ a, NP (f a)) :
    NP (match x with | .error e => .error e | .ok a => f a) := by
  cases x with
  | error e => simpa [NP] using hx
  | ok a => exact hf a

theorem NP_parseInt (b : Nat) (s : Str) : NP (parseInt b s) := by
  unfold parseInt
  extract_lets
  refine NP_ite NP_error ?_
  extract_lets
  exact NP_ite NP_error (NP_ok _)

theorem NP_parseUint (b : Nat) (s : Str) : NP (parseUint b s) := by
  unfold parseUint
  refine NP_ite NP_error ?_
  extract_lets
  exact NP_ite NP_error (NP_ok _)

theorem NP_parseDec (s : Str) : NP (parseDec s) := by
  unfold parseDec
  -- the `let`s stay local definitions: substituting them copies the `if`s of `s1`, `fp`, `r2` into every condition
  extract_lets neg s1 ip r1 hasDot fp r2
  refine NP_ite NP_error ?_
  clear_value r2
  split
  · exact NP_ok _
  · extract_lets
    exact NP_ite (NP_ite NP_error (NP_ite NP_error (NP_ok _))) NP_error

theorem NP_floatSyntax (s : Str) : NP (floatSyntax s) := by
  unfold floatSyntax
  split
  · exact NP_error
  · split
    · exact NP_ok _
    · extract_lets
      exact NP_ite (NP_ok _) (NP_ite (NP_ok _) (NP_ite (NP_ok _)
        (NP_ite (NP_ite NP_error NP_error) ((NP_parseDec _).of_error ‹_›))))

theorem NP_parseFloat (b : Nat) (s : Str) : NP (parseFloat b s) := by
  unfold parseFloat
  split
  · exact (NP_floatSyntax s).of_error ‹_›
  · exact NP_ite NP_error (NP_ok _)
  · exact NP_ok _

theorem NP_convertFromString (k : Kind) (s : Str) : NP (convertFromString k s) := by
  cases k with
  | bool =>
    unfold convertFromString
    extract_lets
    exact NP_ite (NP_ok _) (NP_ite (NP_ok _) NP_error)
  | int b => exact NP_map _ (NP_parseInt b s)
  | uint b => exact NP_map _ (NP_parseUint b s)
  | float b => exact NP_map _ (NP_parseFloat b s)
  | string => exact NP_ok _

theorem NP_validateJsonNumberRange (c : Cfg) (o : Option Opts) (lit : Str) : NP (validateJsonNumberRange c o lit) := by
  unfold validateJsonNumberRange
  split
  · exact NP_ok _
  · split
    · exact NP_ok _
    · split
      · exact (NP_parseFloat 64 lit).of_error ‹_›
      · exact NP_ite NP_error (NP_ok _)

theorem NP_validateValueRange (c : Cfg) (o : Option Opts) (v : Val) : NP (validateValueRange c o v) := by
  unfold validateValueRange
  split
  · exact NP_ok _
  · split
    · exact NP_ok _
    · split
      · exact NP_error
      · exact NP_ite NP_error (NP_ok _)

theorem NP_validateInOptions (o : Option Opts) (t : Str) : NP (validateInOptions o t) :=
  NP_ite (NP_ok _) (NP_ite (NP_ok _) NP_error)

theorem NP_jsonNumberPath (c : Cfg) (o : Option Opts) (k : Option Kind) (lit : Str) : NP (jsonNumberPath c o k lit) := by
  unfold jsonNumberPath
  split; · exact (NP_validateJsonNumberRange c o lit).of_error ‹_›
  split; · exact (NP_validateInOptions o lit).of_error ‹_›
  split
  · exact NP_map _ (NP_parseInt _ lit)
  · exact NP_map _ (NP_parseUint _ lit)
  · split
    · exact (NP_parseFloat 64 lit).of_error ‹_›
    · exact NP_ite NP_error (NP_ok _)
  · exact NP_error

theorem NP_defaultVal (c : Cfg) (hc : c.pinned = false) : ∀ (t : Ty) (d : Str), NP (defaultVal c t d)
  | .ptr t, d => by
    simp only [defaultVal, hc, Bool.false_and, Bool.false_eq_true, if_false]
    exact NP_map _ (NP_defaultVal c hc t d)
  | .prim k, d => by unfold defaultVal; exact NP_convertFromString k d
  | .slice t, d => by
    cases t with
    | prim k => cases k <;> simp [NP, defaultVal]
    | _ => simp [NP, defaultVal]
  | .struct _, _ | .map _, _ => by simp [NP, defaultVal]

/-- the tag does not make `parseKeyAndOptions` index an empty segment list (`segments[0]`; the offender is a tag value such as `\`) -/
def tagNoPanic (name : Str) (tag : Option Str) : Bool :=
  match tag with
  | none => true
  | some tv => match parseTag name tv with | .error .panic => false | _ => true

mutual
def tagsOK : Ty → Bool
  | .prim _ => true
  | .ptr t => tagsOK t
  | .slice t => tagsOK t
  | .map t => tagsOK t
  | .struct fs => tagsOKFields fs
def tagsOKFields : Fields → Bool
  | .nil => true
  | .cons name tag t rest => tagNoPanic name tag && tagsOK t && tagsOKFields rest
end

theorem NP_parseTag {name tv : Str} (h : tagNoPanic name (some tv) = true) : NP (parseTag name tv) := by
  intro e
  simp [tagNoPanic, e] at h

theorem NP_recLookup (unk : Bool) : ∀ (ch : List Obj) (k : Str), NP (recLookup unk ch k)
  | [], k => by unfold recLookup; exact NP_ite NP_error (NP_ok _)
  | cur :: parents, k => by
    unfold recLookup
    have ih := NP_recLookup unk parents k
    split
    · exact ih
    · split
      · exact ih.of_error ‹_›
      · exact NP_ite (NP_ok _) NP_error
      · exact NP_ok _
    · exact NP_ok _

theorem NP_chainedLookup (unk : Bool) : ∀ (keys : List Str) (ch : List Obj), NP (chainedLookup unk keys ch)
  | [], ch => NP_ok _
  | [k], ch => by simpa [chainedLookup] using NP_recLookup unk ch k
  | k :: k2 :: rest, ch => by
    unfold chainedLookup
    split
    · exact (NP_recLookup unk ch k).of_error ‹_›
    · exact NP_chainedLookup unk (k2 :: rest) _
    · exact NP_ok _

theorem NP_firstLookup (unk inh : Bool) (anc : List Obj) (k : Str) (m : Obj) : NP (firstLookup unk inh anc k m) :=
  NP_ite (NP_recLookup _ _ _) (NP_ok _)

theorem NP_lookupKey (c : Cfg) (inh : Bool) (key : Str) (m : Obj) : NP (lookupKey c inh key m) := by
  refine NP_ite (NP_firstLookup _ _ _ _ _) ?_
  unfold dottedLookup
  split
  · exact NP_ok _
  · exact NP_firstLookup _ _ _ _ _
  · split
    · exact (NP_firstLookup false inh c.anc _ m).of_error ‹_›
    · exact NP_chainedLookup _ _ _
    · exact NP_ok _

theorem NP_structRequired : ∀ fs : Fields, tagsOKFields fs = true → NP (structRequired fs)
  | .nil, _ => NP_ok _
  | .cons name tag t rest, h => by
    simp only [tagsOKFields, Bool.and_eq_true] at h
    obtain ⟨⟨h1, h2⟩, h3⟩ := h
    have hr := NP_structRequired rest h3
    unfold structRequired
    cases tag with
    | none => exact NP_ok _
    | some tv =>
      have hp := NP_parseTag h1
      dsimp only
      generalize parseTag name tv = p at hp ⊢
      cases p with
      | error e => exact hp.of_error rfl
      | ok kp =>
        obtain ⟨key, po⟩ := kp
        cases po with
        | some o => exact NP_ite (NP_ok _) (NP_ite (NP_ok _) hr)
        | none =>
          cases t with
          | struct fs' =>
            have hs := NP_structRequired fs' (by simpa [tagsOK] using h2)
            dsimp only
            generalize structRequired fs' = q at hs ⊢
            cases q with
            | error e => exact hs
            | ok b => cases b <;> first | exact NP_ok _ | exact hr
          | _ => exact NP_ok _

end GoZero.C08
