/-
C08 — property theorems: accept_sound (nothing invalid is accepted), accept_complete (the converse), no_panic,
range_exact / dep_exact, httpParse_sound (the four unmarshalers of rest/httpx.Parse), and the decided witnesses of the
defects of the pinned commit next to their repaired counterparts.
-/
import GoZero.C08.ProofsRec
namespace GoZero.C08.Props
open GoZero.C08 GoZero.C08.Spec

def acceptsUnsound (c : Cfg) (ty : Ty) (j : J) : Bool :=
  match unmarshal c ty j with
  | .ok v => !satisfies c ty j v
  | .error _ => false

theorem acceptsUnsound_spec {c : Cfg} {ty : Ty} {j : J} (h : acceptsUnsound c ty j = true) :
    ∃ v, unmarshal c ty j = .ok v ∧ satisfies c ty j v = false := by
  unfold acceptsUnsound at h
  split at h
  · rename_i v hv; exact ⟨v, hv, by simpa using h⟩
  · simp at h

def witnessDepRangeTy : Ty :=
  .struct (.cons "A".toList (some "a,optional".toList) (.prim (.int 64))
          (.cons "B".toList (some "b,optional=a,range=[1:5]".toList) (.prim (.int 64)) .nil))
def witnessDepRangeIn : J := .obj [("a".toList, .num "1".toList), ("b".toList, .num "100".toList)]

/-- a defect of the pinned commit: with `optional=dep` the rebuilt option set lost the range,
so `{"a":1,"b":100}` is accepted into `B int json:"b,optional=a,range=[1:5]"` although 100 ∉ [1,5]. -/
theorem pinned_dep_range_witness :
    acceptsUnsound { pinned := true } witnessDepRangeTy witnessDepRangeIn = true := by decide +kernel

/-- the repaired code rejects the same input (`errNumberRange`) -/
theorem fixed_dep_range_rejected :
    (match unmarshal {} witnessDepRangeTy witnessDepRangeIn with | .error .range => true | _ => false) = true := by
  decide +kernel

def witnessNaNTy : Ty := .struct (.cons "F".toList (some "f,string,range=[1:5]".toList) (.prim (.float 64)) .nil)
def witnessNaNIn : J := .obj [("f".toList, .str "NaN".toList)]

/-- a defect of the pinned commit: every comparison with NaN is false, so `{"f":"NaN"}` passes
`range=[1:5]` on `F float64 json:"f,string,range=[1:5]"` (same through form/path/header values). -/
theorem pinned_nan_range_witness :
    acceptsUnsound { pinned := true } witnessNaNTy witnessNaNIn = true := by decide +kernel

theorem fixed_nan_range_rejected :
    (match unmarshal {} witnessNaNTy witnessNaNIn with | .error .range => true | _ => false) = true := by
  decide +kernel

/-- a defect of the pinned commit: under `WithFromArray` a null value reaches `reflect.TypeOf(nil).Kind()` — a panic -/
theorem pinned_fromArray_nil_panics :
    (match unmarshal { fromString := true, fromArray := true, pinned := true }
        (.struct (.cons "F".toList (some "a,optional".toList) (.prim .string) .nil)) (.obj [("a".toList, .null)]) with
     | .error .panic => true | _ => false) = true := by decide +kernel

theorem fixed_fromArray_nil_accepted :
    (match unmarshal { fromString := true, fromArray := true }
        (.struct (.cons "F".toList (some "a,optional".toList) (.prim .string) .nil)) (.obj [("a".toList, .null)]) with
     | .ok _ => true | _ => false) = true := by decide +kernel

def witnessHeaderTy : Ty :=
  .struct (.cons "A".toList (some "a,optional".toList) (.prim .string)
          (.cons "B".toList (some "b,optional=!a".toList) (.prim .string) .nil))
def witnessHeaderIn : J := .obj [("A".toList, .str "1".toList), ("B".toList, .str "2".toList)]

/-- a defect of the pinned commit (header unmarshaler): the canonical-key function was applied to the whole
text `!a`, which leaves it unchanged, so the dependency was looked up under `a` instead of `A`: with both headers
supplied, `B string header:"b,optional=!a"` was accepted although exactly one of A, B may be present. -/
theorem pinned_header_notdep_witness :
    acceptsUnsound { fromString := true, canonical := true, pinned := true } witnessHeaderTy witnessHeaderIn = true := by
  decide +kernel

theorem fixed_header_notdep_rejected :
    (match unmarshal { fromString := true, canonical := true } witnessHeaderTy witnessHeaderIn with
     | .error .dep => true | _ => false) = true := by decide +kernel

/-- a defect of the pinned commit: maps with pointer element type panic on any scalar value, and a null value
for a slice element type panics while the error message is built -/
theorem pinned_map_panics :
    (match unmarshal { pinned := true } (.struct (.cons "M".toList (some "m".toList) (.map (.ptr (.prim (.int 64)))) .nil))
        (.obj [("m".toList, .obj [("k".toList, .num "1".toList)])]) with | .error .panic => true | _ => false) = true
    ∧ (match unmarshal { pinned := true } (.struct (.cons "M".toList (some "m".toList) (.map (.slice (.prim (.int 64)))) .nil))
        (.obj [("m".toList, .obj [("k".toList, .null)])]) with | .error .panic => true | _ => false) = true := by
  decide +kernel

/-- **accept_sound** — nothing invalid is ever accepted: for every struct type (any nesting of structs and
pointers, slices and maps, any tag text), every unmarshaler configuration of the repaired code and every input document, a
successful unmarshal yields a value that satisfies the declared constraints: required scalars supplied,
`optional=dep` / `optional=!dep` respected, supplied numbers inside their range, supplied values among their
options, target = supplied values with defaults filled. -/
theorem accept_sound (c : Cfg) (hc : c.pinned = false) (ty : Ty) (j : J) (v : Val)
    (h : unmarshal c ty j = .ok v) : satisfies c ty j v = true :=
  (unmarshal_tri c hc ty j).sound v h

/-- **accept_complete** — the converse: for every struct type, every unmarshaler configuration of the repaired code and
every input document, if the input meets all declared constraints with correctly typed values (`Spec.complete`:
every tag parses, dependencies hold, absent fields are defaulted / optional / maps /
nested structs without required fields, nulls only for optional fields, supplied scalars are literals of their kind
inside the declared range and among the declared options, containers element by element) then the unmarshaller
accepts it — and by `accept_sound` the result holds exactly the supplied values with defaults filled.

What `Spec.complete` leaves out (the named gap): values the code also accepts but that are not "correctly typed" in
the sense above — a JSON number for a string-mode field whose literal `json.Number.Float64` refuses, string-encoded
slices/maps, a range declared on a non-numeric field (the code rejects every supplied value of such a field) — and
the premise `f64OK` (the literal parses as float64) is part of `numTyped`; it is implied for integer literals of a bit
size ≤ 64 (`int_literal_typed`; `Kind.int b` allows any `b`), and is the float64 typing itself for floats. -/
theorem accept_complete (c : Cfg) (hc : c.pinned = false) (ty : Ty) (j : J)
    (h : complete c ty j = true) :
    ∃ v, unmarshal c ty j = .ok v ∧ satisfies c ty j v = true := by
  obtain ⟨v, hv⟩ := (unmarshal_tri c hc ty j).complete h
  exact ⟨v, hv, accept_sound c hc ty j v hv⟩

/-- the premise "the literal parses as float64" inside `Spec.numTyped` is implied for the integer kinds of Go (bit size ≤ 64):
an integer literal of the field's bit size is a correctly typed JSON number -/
theorem int_literal_typed (b : Nat) (hb : b ≤ 64) (lit : Str) :
    ((∃ i, parseInt b lit = .ok i) → numTyped (.int b) lit = true)
    ∧ ((∃ i, parseUint b lit = .ok i) → numTyped (.uint b) lit = true) :=
  ⟨fun ⟨_, h⟩ => numTyped_int hb h, fun ⟨_, h⟩ => numTyped_uint hb h⟩

/-- **range_exact** (`rangeRejects_fin`, on which the converse direction rests, read as an equivalence) — on the repaired code the range test accepts a finite number
exactly when it lies inside the declared range, open and closed ends respected. -/
theorem range_exact (c : Cfg) (hc : c.pinned = false) (r : Range) (d : Dec) :
    rangeRejects c r (.fin d) = false ↔ Range.contains r d = true := by
  -- `hc` is not used: on finite numbers the pinned and the repaired test agree (they differ on NaN only)
  have _ := hc
  rw [rangeRejects_fin]
  cases Range.contains r d <;> simp

/-- **dep_exact** (`effOptional_eq`, on which the converse direction rests, read as an equivalence) — `optional` / `optional=dep` /
`optional=!dep` are resolved without error exactly when the declared dependency holds on the input (and then to the declared
optionality `declOptional o m`: `effOptional_eq`). -/
theorem dep_exact (o : Opts) (key : Str) (m : Obj) :
    (∃ b, effOptional o key m = .ok b) ↔ depOK o key m = true := by
  rw [effOptional_eq]
  cases depOK o key m <;> simp

example : Range.contains ⟨⟨1, 0⟩, true, ⟨5, 0⟩, false⟩ ⟨45, -1⟩ = true ∧ Range.contains ⟨⟨1, 0⟩, true, ⟨5, 0⟩, false⟩ ⟨5, 0⟩ = false := by
  decide

/-- **no_panic** — no input makes the (repaired) unmarshaller panic: for every type whose tag texts do not make
`parseKeyAndOptions` index an empty segment list (`tagsOK`; the offenders are non-blank tag values of which nothing is left
once the escapes are taken out and the rest is trimmed, such as a lone escape character or `\ \`), every configuration and every input document, the model never reaches a Go panic.
(A panic of the real code is caught by the harness and reported as a violation.) -/
theorem no_panic (c : Cfg) (hc : c.pinned = false) (ty : Ty) (hty : tagsOK ty = true) (j : J) :
    unmarshal c ty j ≠ .error .panic :=
  (unmarshal_tri c hc ty j).total hty

/-- non-vacuity: a nested type with `optional`, `optional=dep`, `default`, `range` (open and closed), `options` and `string`, through
pointer, struct, slice and map, and an input that is accepted -/
def exampleTy : Ty :=
  .struct (.cons "A".toList (some "a,optional".toList) (.prim (.int 8))
          (.cons "B".toList (some "b,optional=a,range=[1:5]".toList) (.ptr (.prim (.int 64)))
          (.cons "C".toList (some "c,default=2.5,range=(0:10)".toList) (.prim (.float 64))
          (.cons "D".toList (some "d,options=foo|bar".toList) (.prim .string)
          (.cons "E".toList (some "e".toList)
            (.struct (.cons "X".toList (some "x,string,range=[0:1]".toList) (.prim (.uint 8)) .nil))
          (.cons "S".toList (some "s,optional".toList) (.slice (.ptr (.prim (.int 16))))
          (.cons "M".toList (some "m".toList) (.map (.struct (.cons "Y".toList (some "y,default=3".toList) (.prim (.int 64)) .nil)))
           .nil)))))))
def exampleIn : J :=
  .obj [("a".toList, .num "7".toList), ("b".toList, .num "5".toList), ("d".toList, .str "bar".toList),
        ("e".toList, .obj [("x".toList, .str "1".toList)]),
        ("s".toList, .arr [.num "1".toList, .null, .str "3".toList]),
        ("m".toList, .obj [("k".toList, .obj []), ("a".toList, .obj [("y".toList, .num "9".toList)])])]

/-- the one kernel run the examples below share (the tag texts are decoded and parsed once): no tag panics, the input is complete, and
it is accepted with a result that satisfies the constraints -/
theorem exampleIn_witness :
    tagsOK exampleTy = true ∧ complete {} exampleTy exampleIn = true
    ∧ (match unmarshal {} exampleTy exampleIn with | .ok v => satisfies {} exampleTy exampleIn v | _ => false) = true := by
  decide +kernel

example : tagsOK exampleTy = true := exampleIn_witness.1

example : (match unmarshal {} exampleTy exampleIn with | .ok v => satisfies {} exampleTy exampleIn v | _ => false) = true :=
  exampleIn_witness.2.2

/-- non-vacuity of `accept_complete`: the example input is complete; one step outside the range it is not -/
example : complete {} exampleTy exampleIn = true := exampleIn_witness.2.1

example : complete {} exampleTy
    (.obj [("a".toList, .num "7".toList), ("b".toList, .num "6".toList), ("d".toList, .str "bar".toList),
           ("e".toList, .obj [("x".toList, .str "1".toList)])]) = false := by decide +kernel

def ptrSliceTy : Ty := .struct (.cons "A".toList (some "a".toList) (.ptr (.slice (.prim (.int 64)))) .nil)
def ptrMapTy : Ty := .struct (.cons "A".toList (some "a".toList) (.ptr (.map (.prim (.int 64)))) .nil)

/-- a defect of the pinned commit (pointer to slice / map fields): `A *[]int json:"a"` panics on `{"a":[]}` (`reflect.Set` of a `[][]int`
into a `*[]int`), `A *map[string]int json:"a"` panics on every input, even `{}` (`reflect.Type.Key` of a pointer type),
`A []*[]int` panics on `{"a":[[1]]}` (all three replayed on the real code) -/
theorem pinned_ptr_container_panics :
    (match unmarshal { pinned := true } ptrSliceTy (.obj [("a".toList, .arr [])]) with | .error .panic => true | _ => false) = true
    ∧ (match unmarshal { pinned := true } ptrMapTy (.obj []) with | .error .panic => true | _ => false) = true
    ∧ (match unmarshal { pinned := true } (.struct (.cons "A".toList (some "a".toList) (.slice (.ptr (.slice (.prim (.int 64))))) .nil))
        (.obj [("a".toList, .arr [.arr [.num "1".toList]])]) with | .error .panic => true | _ => false) = true := by
  decide +kernel

/-- the repaired code fills the container and points to it: `{"a":[]}` gives a pointer to an empty slice, `{}` a pointer
to an empty map; `{"a":[1,2]}` is complete for the slice type (so `accept_complete` reaches pointer-to-container fields) -/
theorem fixed_ptr_container_accepted :
    (match unmarshal {} ptrSliceTy (.obj [("a".toList, .arr [])]) with
     | .ok (.struct (.cons _ (.ptr (.list .nil)) .nil)) => true | _ => false) = true
    ∧ (match unmarshal {} ptrMapTy (.obj []) with
       | .ok (.struct (.cons _ (.ptr (.map .nil)) .nil)) => true | _ => false) = true
    ∧ complete {} ptrSliceTy (.obj [("a".toList, .arr [.num "1".toList, .num "2".toList])]) = true := by
  decide +kernel

/-- a `[]string` field filled from the list `cached`, as `fillSlice` fills it from a cached default.  The model has no cache and
`Cfg.pinned` does not select this defect; this is the one step of it that can be said in the model: at the pinned commit
`fillSliceWithDefault` cached the parsed default under its text alone, so a `[]string` field with `default=[true]` was filled from
the list `[true]` (a JSON bool) that a `[]bool` field with the same default text had parsed before, and `fillSliceValue` refuses a
bool for a string element (replayed: type mismatch, although the same type is accepted in a fresh process) -/
def pinnedStringDefaultFromCache (cached : List J) : Except Err Val :=
  (mapElems (fun j => if j.isNull then .ok (zero (.prim .string)) else elemValue { pinned := true } (.prim .string) j) cached).map
    (sliceResult cached)

/-- what the cache of the pinned commit led to: handed the list `[true]` that a `[]bool` field had parsed from the same default
text, the string elements refuse the bool (first conjunct); on the repaired code the type with that default is complete and
accepted, the default being the string `true` -/
theorem pinned_defaultCache_witness :
    (match pinnedStringDefaultFromCache [.bool true] with | .error .mismatch => true | _ => false) = true
    ∧ complete {} (.struct (.cons "A".toList (some "a,default=[true]".toList) (.slice (.prim .string)) .nil)) (.obj []) = true
    ∧ (match unmarshal {} (.struct (.cons "A".toList (some "a,default=[true]".toList) (.slice (.prim .string)) .nil)) (.obj []) with
       | .ok (.struct (.cons _ (.list (.cons (.str s) .nil)) .nil)) => s == "true".toList | _ => false) = true := by
  decide +kernel

/-- `httpx.ParsePath` alone: an accepted request satisfies the constraints of the `path` fields against the path variables -/
theorem parsePath_sound (fs : Fields) (p : Obj) (v : VFields) (h : httpParsePath false fs p = .ok v) :
    satFields (httpCfgPath false) (viewFields "path".toList fs) p v = true :=
  unmFields_sound _ rfl _ _ _ h

/-- `httpx.ParseForm` alone, against what `GetFormValues` keeps of the form values -/
theorem parseForm_sound (fs : Fields) (f : List (Str × List Str)) (v : VFields) (h : httpParseForm false fs f = .ok v) :
    satFields (httpCfgForm false) (viewFields "form".toList fs) (formParams f) v = true :=
  unmFields_sound _ rfl _ _ _ h

/-- `httpx.ParseHeaders` / `encoding.ParseHeaders` alone, against the header map with zero, one or several values per key -/
theorem parseHeaders_sound (fs : Fields) (hd : List (Str × HVals)) (v : VFields) (h : httpParseHeaders false fs hd = .ok v) :
    satFields (httpCfgHeader false) (viewFields "header".toList fs) (headerParams hd) v = true :=
  unmFields_sound _ rfl _ _ _ h

/-- `httpx.ParseJsonBody` alone (no body = the empty object) -/
theorem parseJsonBody_sound (fs : Fields) (b : Option J) (v : VFields) (h : httpParseJsonBody false fs b = .ok v) :
    satisfies (httpCfgJson false) (.struct (viewFields "json".toList fs)) (b.getD (.obj [])) (.struct v) = true := by
  unfold httpParseJsonBody at h
  split at h
  · rename_i v4 h4
    cases h
    exact accept_sound (httpCfgJson false) rfl _ _ _ h4
  · cases h
  · cases h

theorem goIndex_ne_panic_iff (vs : HVals) (i : Int) : goIndex vs i ≠ .error .panic ↔ 0 ≤ i ∧ i < vs.len := by
  have hl : (vs.getD []).length = vs.len := by cases vs <;> rfl
  unfold goIndex
  by_cases hneg : i < 0
  · simp [hneg]; omega
  · simp only [hneg, if_false]
    by_cases hlt : i.toNat < (vs.getD []).length
    · rw [List.getElem?_eq_getElem hlt]; simp; omega
    · rw [List.getElem?_eq_none (by omega)]; simp; omega

/-- **`ParseHeaders` cannot panic, general form** — whatever decision `scalar` and index `idx` the loop body of `ParseHeaders`
uses, it never panics on any value list (nil, empty, one, several values) **iff** the decision only says "scalar" for
lengths that the index is inside of. -/
theorem headerEntryG_no_panic_iff (scalar : Int → Bool) (idx : Int) :
    (∀ vs : HVals, headerEntryG scalar idx vs ≠ .error .panic)
      ↔ (∀ n : Nat, scalar n = true → 0 ≤ idx ∧ idx < n) := by
  -- for one value list: the decision must say "scalar" only where the index is inside
  have key : ∀ vs : HVals, headerEntryG scalar idx vs ≠ .error .panic ↔ (scalar vs.len = true → 0 ≤ idx ∧ idx < vs.len) := by
    intro vs
    unfold headerEntryG
    by_cases hs : scalar vs.len = true
    · simp only [hs, if_true, forall_const, ← goIndex_ne_panic_iff]
      cases goIndex vs idx <;> simp [Except.map]
    · simp [hs]
  constructor
  · intro h n hn
    have := (key (some (List.replicate n []))).mp (h _)
    simpa [HVals.len] using this (by simpa [HVals.len] using hn)
  · intro h vs
    exact (key vs).mpr (h vs.len)

/-- the loop body as written (`len(v) == 1` ⇒ `v[0]`, else the slice) is total: for a header
key with zero values (nil or empty slice), one value or several, it yields `headerVal`, never a panic. -/
theorem headerEntry_total (vs : HVals) : headerEntry vs = .ok (headerVal vs) := by
  cases vs with
  | none => rfl
  | some l =>
    match l with
    | [] => rfl
    | [v] => rfl
    | a :: b :: rest =>
      have hne : ¬ (((a :: b :: rest).length : Nat) : Int) = 1 := by simp; omega
      simp only [headerEntry, headerEntryG, headerScalar, HVals.len, headerVal, hne, decide_false]
      rfl

theorem headerEntry_no_panic (vs : HVals) : headerEntry vs ≠ .error .panic := by
  rw [headerEntry_total]; simp

/-- the flipped decision (`len(v) > 1` ⇒ slice, else `v[0]`) panics on a key without values: the general theorem is not vacuous -/
example : (match headerEntryG (fun n => !decide (n > 1)) 0 none with | .error .panic => true | _ => false) = true
    ∧ (match headerEntryG (fun n => !decide (n > 1)) 0 (some []) with | .error .panic => true | _ => false) = true := by
  constructor <;> decide

/-- a header key with zero values reaches the unmarshaller as a slice: a scalar field is rejected, a slice field takes
the empty slice, an optional field does not mask it; a nil value list leaves a slice field nil -/
example :
    (match httpParseHeaders false (.cons "A".toList (some "header|a,optional".toList) (.prim .string) .nil) [("a".toList, some [])] with
     | .error .notString => true | _ => false) = true
    ∧ (match httpParseHeaders false (.cons "A".toList (some "header|a".toList) (.slice (.prim .string)) .nil) [("a".toList, some [])] with
       | .ok (.cons _ (.list .nil) .nil) => true | _ => false) = true
    ∧ (match httpParseHeaders false (.cons "A".toList (some "header|a".toList) (.slice (.prim .string)) .nil) [("a".toList, none)] with
       | .ok (.cons _ .nil .nil) => true | _ => false) = true := by
  decide +kernel

/-- **httpParse_sound** — `httpx.Parse` (path, form, header and JSON-body unmarshalers on one request struct): if the
request is accepted, the result is the merge of four per-source results each of which satisfies the declared constraints
of the fields of its source against that source's parameters (`GetFormValues` / `ParseHeaders` views included). -/
theorem httpParse_sound (fs : Fields) (p : Obj) (f : List (Str × List Str)) (h : List (Str × HVals)) (b : Option J)
    (vs : VFields) (hp : httpParse false fs p f h b = .ok vs) :
    ∃ v1 v2 v3 v4, vs = mergeViews fs v1 v2 v3 v4
      ∧ satFields (httpCfgPath false) (viewFields "path".toList fs) p v1 = true
      ∧ satFields (httpCfgForm false) (viewFields "form".toList fs) (formParams f) v2 = true
      ∧ satFields (httpCfgHeader false) (viewFields "header".toList fs) (headerParams h) v3 = true
      ∧ satisfies (httpCfgJson false) (.struct (viewFields "json".toList fs)) (b.getD (.obj [])) (.struct v4) = true := by
  unfold httpParse at hp
  split at hp; · cases hp
  rename_i v1 h1
  split at hp; · cases hp
  rename_i v2 h2
  split at hp; · cases hp
  rename_i v3 h3
  split at hp <;> cases hp
  rename_i v4 h4
  exact ⟨v1, v2, v3, v4, rfl, parsePath_sound fs p v1 h1, parseForm_sound fs f v2 h2,
    parseHeaders_sound fs h v3 h3, parseJsonBody_sound fs b v4 h4⟩

/-- non-vacuity: a request with a path variable, a multi-valued form field in bracket notation with an empty value, a header and a defaulted JSON field -/
example :
    (match httpParse false
        (.cons "A".toList (some "path|a,range=[1:5]".toList) (.prim (.int 64))
        (.cons "C".toList (some "form|c,optional".toList) (.slice (.prim (.int 64)))
        (.cons "D".toList (some "header|x-d,optional".toList) (.prim .string)
        (.cons "E".toList (some "json|e,default=3".toList) (.prim (.int 64)) .nil))))
        [("a".toList, .str "5".toList)] [("c[]".toList, ["1".toList, [], "2".toList])] [("x-d".toList, some ["v".toList])] none with
     | .ok (.cons _ (.int 5) (.cons _ (.list (.cons (.int 1) (.cons (.int 2) .nil))) (.cons _ (.str _) (.cons _ (.int 3) .nil)))) => true
     | _ => false) = true := by decide +kernel

def yamlNullTy : Ty :=
  .struct (.cons "A".toList (some "a,optional".toList) (.prim (.int 64))
          (.cons "B".toList (some "b".toList) (.prim .string) .nil))
def yamlNullDoc : J := .obj [("a".toList, .null), ("b".toList, .str "x".toList)]

/-- DOMAIN RESTRICTION (not a defect): the YAML front end hands a YAML null (`key:`, `key: null`,
`key: ~`) on as the empty *string* (`Model.yamlNulls true`, internal/encoding.toStringKeyMap → `lang.Repr(nil)`); configurations
with `Pass:` / `Name:` lines rely on it and upstream keeps it.  A null is not a correctly typed value of an int field, so
such a document is outside the quantifier of the converse clause for YAML bodies and YAML configuration.  The theorem
records the consequence exactly: the JSON form `{"a":null,"b":"x"}` is complete and accepted; the same document through the
YAML front end reaches the unmarshaller as `{"a":"","b":"x"}` and is rejected (type mismatch — replayed:
`conf.LoadFromYamlBytes("a:\nb: x\n")` into `A int json:"a,optional"`); a front end that kept the null (the patch kept under
fixes/not-applied/) would accept it.  The driver's model of the front end is `yamlNulls true`: a change of the behaviour is
a correspondence mismatch. -/
theorem yaml_null_witness :
    complete {} yamlNullTy yamlNullDoc = true
    ∧ (match unmarshal {} yamlNullTy yamlNullDoc with | .ok _ => true | _ => false) = true
    ∧ (match unmarshal {} yamlNullTy (yamlNulls true yamlNullDoc) with | .error .mismatch => true | _ => false) = true
    ∧ (match unmarshal {} yamlNullTy (yamlNulls false yamlNullDoc) with | .ok _ => true | _ => false) = true := by
  decide +kernel

end GoZero.C08.Props
