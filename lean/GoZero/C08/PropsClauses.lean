/-
C08 — the clauses of the property one by one: `accepted_fieldwise` gives `Spec.fieldSat` for every top-level field of every
accepted document (from `accept_sound`), the `clause_*` read `fieldSat` clause by clause for a field of primitive kind (numbered as in
the clause map of props/C08.json); the configuration / YAML / TOML front ends; what the cache of `structValueRequired` must be keyed by.
-/
import GoZero.C08.Props
namespace GoZero.C08.Props
open GoZero.C08 GoZero.C08.Spec

def fieldAt : Fields → Nat → Option (Str × Option Str × Ty)
  | .nil, _ => none
  | .cons n tag t _, 0 => some (n, tag, t)
  | .cons _ _ _ rest, i + 1 => fieldAt rest i

def valAt : VFields → Nat → Option (Str × Val)
  | .nil, _ => none
  | .cons n v _, 0 => some (n, v)
  | .cons _ _ rest, i + 1 => valAt rest i

theorem satFields_at (c : Cfg) : ∀ (fs : Fields) (m : Obj) (vs : VFields) (i : Nat) (name : Str) (tag : Option Str) (t : Ty),
    satFields c fs m vs = true → fieldAt fs i = some (name, tag, t) →
    ∃ v, valAt vs i = some (name, v)
      ∧ fieldSat c name tag t.isSlice (derefKind t) m v (fun j v => satTy (c.nestIn m) t j v) (fun v => satAbsent c t v)
          (fun d v => satDefault t d v) (fun v => isZero t v) = true
  | .nil, _, _, _, _, _, _, _, h => by simp [fieldAt] at h
  | .cons n tg ty rest, m, vs, i, name, tag, t, hs, hf => by
    cases vs with
    | nil => simp [satFields] at hs
    | cons n' v vs' =>
      simp only [satFields, Bool.and_eq_true] at hs
      obtain ⟨⟨hn, hfs⟩, hrest⟩ := hs
      cases i with
      | zero =>
        cases hf
        have : n' = n := by simpa using hn
        subst this
        exact ⟨v, rfl, hfs⟩
      | succ j => exact satFields_at c rest m vs' j name tag t hrest hf

/-- **clauses, field by field** — for every configuration of the repaired code, every struct type, every document and
every top-level field (index `i`): if the document is accepted, the result has a value for the field and that value
satisfies `Spec.fieldSat` — the conjunction of the clauses below. -/
theorem accepted_fieldwise (c : Cfg) (hc : c.pinned = false) (fs : Fields) (m : Obj) (v : Val)
    (h : unmarshal c (.struct fs) (.obj m) = .ok v) (i : Nat) (name : Str) (tag : Option Str) (t : Ty)
    (hf : fieldAt fs i = some (name, tag, t)) :
    ∃ vs w, v = .struct vs ∧ valAt vs i = some (name, w)
      ∧ fieldSat c name tag t.isSlice (derefKind t) m w (fun j v => satTy (c.nestIn m) t j v) (fun v => satAbsent c t v)
          (fun d v => satDefault t d v) (fun v => isZero t v) = true := by
  have hs := accept_sound c hc _ _ _ h
  cases v with
  | struct vs =>
    simp only [satisfies] at hs
    obtain ⟨w, hw, hsat⟩ := satFields_at c fs m vs i name tag t hs hf
    exact ⟨vs, w, rfl, hw, hsat⟩
  | _ => simp [satisfies] at hs

section clauses
variable {c : Cfg} {name : Str} {tv : Str} {isSl : Bool} {k : Kind} {m : Obj} {w : Val}
  {conv : J → Val → Bool} {absent : Val → Bool} {dflt : Str → Val → Bool} {isZ : Val → Bool}
  {key : Str} {po : Option Opts}

/-- **clause 1 (required fields are supplied)** — a scalar field whose tag declares neither a default nor (given its
dependency, on this input) optionality is present in every accepted document. -/
theorem clause_required_supplied
    (hsat : fieldSat c name (some tv) isSl (some k) m w conv (fun _ => false) dflt isZ = true)
    (hp : parseTagC c.repaired name tv = .ok (key, po)) (hkey : key ≠ "-".toList)
    (hd : (effOpts po).default = []) (hopt : declOptional (effOpts po) m = false) :
    ∃ j0, lookupKey c (optInherit po) key m = .ok (some j0) := by
  unfold fieldSat at hsat
  simp only [hp, hkey, if_false, Bool.and_eq_true] at hsat
  obtain ⟨_, hrest⟩ := hsat
  cases hg : lookupKey c (optInherit po) key m with
  | error e => simp [hg] at hrest
  | ok lk =>
    cases lk with
    | some j => exact ⟨j, rfl⟩
    | none => simp [hg, hd, hopt] at hrest

/-- **clause 1, dependencies** — `optional=dep`: the field is supplied iff `dep` is; `optional=!dep`: exactly one of the two. -/
theorem clause_dependency
    (hsat : fieldSat c name (some tv) isSl (some k) m w conv absent dflt isZ = true)
    (hp : parseTagC c.repaired name tv = .ok (key, po)) (hkey : key ≠ "-".toList) :
    depOK (effOpts po) key m = true := by
  unfold fieldSat at hsat
  simp only [hp, hkey, if_false, Bool.and_eq_true] at hsat
  exact hsat.1

/-- **clauses 2, 3, 5 (range, options, exact value)** — a supplied (non-null) value of a field lies inside the declared range
(open / closed ends: `Range.contains`) when the field is numeric, is one of the declared options, and the target holds
exactly the value it denotes. -/
theorem clause_supplied
    (hsat : fieldSat c name (some tv) isSl (some k) m w conv absent dflt isZ = true)
    (hp : parseTagC c.repaired name tv = .ok (key, po)) (hkey : key ≠ "-".toList)
    {j0 : J} (hg : lookupKey c (optInherit po) key m = .ok (some j0)) (hnn : (fromArrayValue c isSl j0).isNull = false) :
    rangeOK (effOpts po) (some k) (fromArrayValue c isSl j0) = true
    ∧ optionsOK (effOpts po) (some k) (fromArrayValue c isSl j0) = true
    ∧ conv (fromArrayValue c isSl j0) w = true := by
  unfold fieldSat at hsat
  simp only [hp, hkey, if_false, Bool.and_eq_true, hg] at hsat
  obtain ⟨_, hrest⟩ := hsat
  cases hj : fromArrayValue c isSl j0 with
  | null => simp [hj, J.isNull] at hnn
  | _ => simp only [hj, Bool.and_eq_true] at hrest; exact ⟨hrest.1.1, hrest.1.2, hrest.2⟩

/-- the range clause spelled out: a declared range on a numeric kind ⇒ the supplied text denotes a finite number inside it -/
theorem rangeOK_numeric {o : Opts} {r : Range} {x : J} (hr : o.range = some r) (hk : k.isNumeric = true)
    (h : rangeOK o (some k) x = true) : ∃ q, numOf x = some q ∧ Range.contains r q = true := by
  unfold rangeOK at h
  simp only [hr, hk, if_true] at h
  cases hn : numOf x with
  | none => simp [hn] at h
  | some q => exact ⟨q, rfl, by simpa [hn] using h⟩

/-- **clause 5, defaults** — an absent field with a declared default holds the default; an absent optional field is untouched. -/
theorem clause_absent
    (hsat : fieldSat c name (some tv) isSl (some k) m w conv absent dflt isZ = true)
    (hp : parseTagC c.repaired name tv = .ok (key, po)) (hkey : key ≠ "-".toList) (hg : lookupKey c (optInherit po) key m = .ok none) :
    (if !(effOpts po).default.isEmpty then dflt (effOpts po).default w
     else if declOptional (effOpts po) m then isZ w else absent w) = true := by
  unfold fieldSat at hsat
  simp only [hp, hkey, if_false, Bool.and_eq_true, hg] at hsat
  exact hsat.2

end clauses

/-- `conf.LoadFromJsonBytes` after decoding and key lowering: the JSON unmarshaler with `strings.ToLower` as canonical key function -/
def confCfg : Cfg := { lower := true }

/-- **configuration, both directions** — for every struct type and every (lowered) configuration document: accepted ⇒ the
constraints hold; constraints met with correctly typed values ⇒ accepted. -/
theorem conf_load_sound_complete (ty : Ty) (j : J) :
    (∀ v, unmarshal confCfg ty j = .ok v → satisfies confCfg ty j v = true)
    ∧ (complete confCfg ty j = true → ∃ v, unmarshal confCfg ty j = .ok v ∧ satisfies confCfg ty j v = true)
    ∧ (tagsOK ty = true → unmarshal confCfg ty j ≠ .error .panic) :=
  ⟨fun v h => accept_sound confCfg rfl ty j v h, accept_complete confCfg rfl ty j, fun h => no_panic confCfg rfl ty h j⟩

/-- keys are matched without regard to case: a field tagged `Name` is filled from the (lowered) key `name`, its range enforced -/
example :
    (match unmarshal confCfg (.struct (.cons "A".toList (some "Name,range=[1:5]".toList) (.prim (.int 64)) .nil))
        (.obj [("name".toList, .num "5".toList)]) with | .ok (.struct (.cons _ (.int 5) .nil)) => true | _ => false) = true
    ∧ (match unmarshal confCfg (.struct (.cons "A".toList (some "Name,range=[1:5]".toList) (.prim (.int 64)) .nil))
        (.obj [("name".toList, .num "6".toList)]) with | .error .range => true | _ => false) = true := by
  decide +kernel

/-- **YAML / TOML bodies, both directions** — `UnmarshalYamlBytes` / `UnmarshalTomlBytes` run the JSON unmarshaler (with the
options they are given: `fromString` for `WithStringValues`) on the converted document `conv src`; whatever the
conversion is, acceptance implies the constraints on the converted document, and a converted document that meets them is accepted. -/
theorem frontend_sound_complete (conv : J → J) (fromString : Bool) (ty : Ty) (src : J) :
    (∀ v, unmarshal { fromString := fromString } ty (conv src) = .ok v →
        satisfies { fromString := fromString } ty (conv src) v = true)
    ∧ (complete { fromString := fromString } ty (conv src) = true →
        ∃ v, unmarshal { fromString := fromString } ty (conv src) = .ok v) :=
  ⟨fun v h => accept_sound _ rfl ty _ v h,
   fun h => (accept_complete _ rfl ty _ h).imp fun _ hv => hv.1⟩

/-- `processNamedFieldWithoutValue`, struct case, with the answer `req` of `structValueRequired` -/
def absentStructWith (c : Cfg) (req : Except Err Bool) (fs : Fields) : Except Err Val :=
  match req with
  | .error e => .error e
  | .ok true => .error .notSet
  | .ok false => (unmFields c.top fs []).map .struct

/-- the model (and the repaired code) asks about the type *as its own tag key reads it* -/
theorem absentRequired_struct (c : Cfg) (fs : Fields) :
    absentRequired c (.struct fs) = absentStructWith c (structRequired fs) fs := by
  unfold absentRequired absentStructWith
  cases structRequired fs with
  | error e => rfl
  | ok b => cases b <;> rfl

def cacheInnerJson : Fields := .cons "A".toList (some "a,optional".toList) (.prim (.int 64)) .nil
/-- the same Go struct `struct{ A int `json:"a,optional" form:"a"` }` as the `form` unmarshaler reads it -/
def cacheInnerForm : Fields := .cons "A".toList (some "a".toList) (.prim (.int 64)) .nil
def cacheOuterJson : Ty := .struct (.cons "In".toList (some "in".toList) (.struct cacheInnerJson) .nil)

/-- PINNED BEHAVIOUR BEFORE a8b007f (fixed by fixes/C08-struct-required-cache-per-tag-key.patch =
/repo a8b007f: cache key = tag key + type): `structRequiredCache` was keyed by the reflect type alone.  For
`type Inner struct{ A int `json:"a,optional" form:"a"` }`, `type Outer struct{ In Inner `json:"in" form:"in"` }`: under `json` no field
of Inner is required, `{}` meets every constraint and is accepted; once a `form` unmarshaler had asked about Inner (answer:
required, `a` has no options there) the `json` unmarshaler was handed that answer (last conjunct) and rejected `{}` with
`"in" is not set` — acceptance depended on which unmarshaler saw the type first.  The `um` lines of the mapping harness
replay it; on a tree without the fix the check reports rejected-but-constraints-met with a two-line replay. -/
theorem structRequiredCache_witness :
    (match structRequired cacheInnerJson with | .ok false => true | _ => false) = true
    ∧ (match structRequired cacheInnerForm with | .ok true => true | _ => false) = true
    ∧ complete {} cacheOuterJson (.obj []) = true
    ∧ (match unmarshal {} cacheOuterJson (.obj []) with | .ok _ => true | _ => false) = true
    ∧ (match absentStructWith {} (structRequired cacheInnerForm) cacheInnerJson with | .error .notSet => true | _ => false) = true := by
  decide +kernel

end GoZero.C08.Props
