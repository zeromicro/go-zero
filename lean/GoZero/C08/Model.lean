/-
C08 — declarative validation.  Executable model of core/mapping (unmarshaler.go, fieldoptions.go,
utils.go, valuer.go) for struct types built from primitive kinds, pointers, slices, maps and nested structs, with the front ends of
rest/httpx, internal/encoding and the public entry points (core Lean only).

Strings are `List Char` so that every function is structurally recursive and reduces in the kernel
(`decide` on concrete witnesses).  Numbers are exact decimals `Dec = num × 10^exp`; Go compares
`float64`s, which agrees with the exact comparison whenever literals and bounds have ≤ 15 significant
digits (float policy, DESIGN section 2).

The model follows the Go control flow function by function; names are the Go names.
`Cfg.pinned = true` selects the behaviour of the pinned commit where it differs from the repaired code
(the defects found for this property):
  * `toOptionsWithContext` rebuilt the option set without `Range` and `Inherit`;
  * `validateNumberRange` let NaN through (every comparison with NaN is false);
  * `processNamedField` under `WithFromArray` called `reflect.TypeOf(nil).Kind()` on a null value (panic);
  * `generateMap` stored non-pointer values into maps with pointer element type (`SetMapIndex` panic) and
    `fillSlice` formatted its error with `reflect.Value.Type` of a nil map value (panic);
  * (round 2) pointers to slices and maps: `fillSlice` / `fillMap` / `fillSliceWithDefault` were handed the pointer
    type, so `*[]T` with `[]`, `*[]string` with a default, `*map[string]T` with any input (even absent) and
    `[]*[]T` with a non-null element panicked (`reflect.Set` / `reflect.Type.Key`); the repaired code fills the
    container and points to it.  Where the pinned behaviour was not replayed the pinned model answers `outside`.
-/
namespace GoZero.C08

abbrev Str := List Char

/-! ## exact decimals -/

structure Dec where
  num : Int
  exp : Int
  deriving Repr, DecidableEq

namespace Dec
def ofInt (i : Int) : Dec := ⟨i, 0⟩
/-- both numerators scaled to the common (smaller) exponent -/
def scaleL (a b : Dec) : Int := a.num * 10 ^ (a.exp - min a.exp b.exp).toNat
def scaleR (a b : Dec) : Int := b.num * 10 ^ (b.exp - min a.exp b.exp).toNat
def le (a b : Dec) : Bool := decide (scaleL a b ≤ scaleR a b)
def lt (a b : Dec) : Bool := decide (scaleL a b < scaleR a b)
def neg (a : Dec) : Dec := ⟨-a.num, a.exp⟩
def abs (a : Dec) : Dec := ⟨Int.ofNat a.num.natAbs, a.exp⟩
def isInt (a : Dec) : Bool := a.exp ≥ 0 || a.num % (10 ^ (-a.exp).toNat) == 0
def eqv (a b : Dec) : Bool := decide (scaleL a b = scaleR a b)
end Dec

/-- a `float64` as far as the property can see it -/
inductive Num where
  | fin (d : Dec)
  | posInf
  | negInf
  | nan
  deriving Repr, DecidableEq

/-! ## types, inputs, values -/

inductive Kind where
  | bool
  | int (bits : Nat)
  | uint (bits : Nat)
  | float (bits : Nat)
  | string
  deriving Repr, DecidableEq

def Kind.isNumeric : Kind → Bool
  | .int _ | .uint _ | .float _ => true
  | _ => false

mutual
inductive Ty where
  | prim (k : Kind)
  | ptr (t : Ty)
  | slice (t : Ty)
  | map (t : Ty)                 -- map[string]t
  | struct (fs : Fields)
  deriving Repr
/-- `tag = none`: the field carries tags but not the unmarshaler's key (`usingDifferentKeys`);
`tag = some v`: the tag value under the unmarshaler's key (`some []`: no tag at all). -/
inductive Fields where
  | nil
  | cons (name : Str) (tag : Option Str) (t : Ty) (rest : Fields)
  deriving Repr
end

/-- a decoded document (`jsonx.Unmarshal` with `UseNumber`): numbers keep their text -/
inductive J where
  | null
  | bool (b : Bool)
  | num (s : Str)
  | str (s : Str)
  | arr (l : List J)
  | obj (l : List (Str × J))
  deriving Repr

abbrev Obj := List (Str × J)

def J.isNull : J → Bool
  | .null => true
  | _ => false

mutual
inductive Val where
  | bool (b : Bool)
  | int (i : Int)
  | flt (x : Num)
  | str (s : Str)
  | nil                          -- nil pointer / nil slice / nil map
  | ptr (v : Val)
  | struct (fs : VFields)
  | list (l : VList)
  | map (m : VFields)
  deriving Repr
inductive VFields where
  | nil
  | cons (k : Str) (v : Val) (rest : VFields)
  deriving Repr
inductive VList where
  | nil
  | cons (v : Val) (rest : VList)
  deriving Repr
end

/-- error classes (the harness maps Go error texts to the same names) -/
inductive Err where
  | notSet        -- `field "x" is not set`, `"x" is not set`
  | range         -- errNumberRange
  | options       -- value not in options
  | mismatch      -- errTypeMismatch / `type mismatch for field`
  | syntax        -- strconv: invalid syntax
  | overflow      -- strconv: value out of range / float32 overflow
  | notString     -- `the value in map is not string`
  | nilValue      -- `field "x" mustn't be nil`
  | dep           -- optional=dep / optional=!dep violated
  | tag           -- malformed tag option
  | unsupported   -- errUnsupportedType
  | json          -- encoding/json refused a string-encoded slice/map
  | panic         -- the Go code would panic
  | outside       -- outside the modelled family (never produced on generated inputs)
  deriving Repr, DecidableEq

def Err.name : Err → String
  | .notSet => "notset" | .range => "range" | .options => "options" | .mismatch => "mismatch"
  | .syntax => "syntax" | .overflow => "overflow" | .notString => "notstring" | .nilValue => "nil"
  | .dep => "dep" | .tag => "tag" | .unsupported => "unsupported" | .json => "json" | .panic => "panic" | .outside => "outside"

/-- last binding wins, as in a Go map built by the decoder -/
def getKey (k : Str) : Obj → Option J
  | [] => none
  | (k', v) :: rest =>
    match getKey k rest with
    | some x => some x
    | none => if k' = k then some v else none

def hasKey (k : Str) (o : Obj) : Bool := (getKey k o).isSome

/-! ## strings -/

def isSpace (c : Char) : Bool := c = ' ' || c = '\t' || c = '\n' || c = '\r'

def trimLeft : Str → Str
  | [] => []
  | c :: cs => if isSpace c then trimLeft cs else c :: cs

def trim (s : Str) : Str := (trimLeft (trimLeft s).reverse).reverse

def lowerChar (c : Char) : Char :=
  if 'A'.toNat ≤ c.toNat ∧ c.toNat ≤ 'Z'.toNat then Char.ofNat (c.toNat + 32) else c

def lower (s : Str) : Str := s.map lowerChar

/-- `strings.Split(s, sep)` for a one-character separator -/
def splitOnChar (sep : Char) : Str → List Str
  | [] => [[]]
  | c :: cs =>
    match splitOnChar sep cs with
    | [] => [[]]      -- unreachable
    | h :: t => if c = sep then [] :: h :: t else (c :: h) :: t

def isDigit (c : Char) : Bool := '0'.toNat ≤ c.toNat && c.toNat ≤ '9'.toNat

def digitsVal : Str → Nat → Nat
  | [], acc => acc
  | c :: cs, acc => digitsVal cs (acc * 10 + (c.toNat - '0'.toNat))

def takeDigits : Str → Str × Str
  | [] => ([], [])
  | c :: cs => if isDigit c then ((c :: (takeDigits cs).1), (takeDigits cs).2) else ([], c :: cs)

/-! ## strconv -/

def applySign (neg : Bool) (n : Int) : Int := if neg then -n else n

/-- `strconv.ParseInt(s, 10, bits)` -/
def parseInt (bits : Nat) (s : Str) : Except Err Int :=
  let neg := s.head? = some '-'
  let body := if s.head? = some '-' ∨ s.head? = some '+' then s.tail else s
  if body = [] ∨ !(body.all isDigit) then .error .syntax
  else
    let v : Int := applySign neg (digitsVal body 0)
    if v < -(2 ^ (bits - 1) : Int) ∨ v ≥ (2 ^ (bits - 1) : Int) then .error .overflow else .ok v

/-- `strconv.ParseUint(s, 10, bits)` -/
def parseUint (bits : Nat) (s : Str) : Except Err Int :=
  if s = [] ∨ !(s.all isDigit) then .error .syntax
  else
    let n : Int := digitsVal s 0
    if n ≥ (2 ^ bits : Int) then .error .overflow else .ok n

/-- decimal floating-point syntax of `strconv.ParseFloat`:
`[+-]? (digits [. digits?] | . digits) ([eE] [+-]? digits)?`; exponents longer than 4 digits are outside the model. -/
def parseDec (s : Str) : Except Err Dec :=
  let neg := s.head? = some '-'
  let s1 := if s.head? = some '-' ∨ s.head? = some '+' then s.tail else s
  let ip := (takeDigits s1).1
  let r1 := (takeDigits s1).2
  let hasDot := r1.head? = some '.'
  let fp := if hasDot then (takeDigits r1.tail).1 else []
  let r2 := if hasDot then (takeDigits r1.tail).2 else r1
  if ip = [] ∧ fp = [] then .error .syntax
  else
    let m : Int := applySign neg (digitsVal (ip ++ fp) 0)
    match r2 with
    | [] => .ok ⟨m, -(fp.length : Int)⟩
    | e :: r3 =>
      if e = 'e' ∨ e = 'E' then
        let eneg := r3.head? = some '-'
        let r4 := if r3.head? = some '-' ∨ r3.head? = some '+' then r3.tail else r3
        if r4 = [] ∨ !(r4.all isDigit) then .error .syntax
        else if r4.length > 4 then .error .outside
        else
          let ev : Int := digitsVal r4 0
          .ok ⟨m, applySign eneg ev - (fp.length : Int)⟩
      else .error .syntax

/-- smallest magnitude that `ParseFloat(_, 64)` rounds to ±Inf: 2^1024 − 2^970 -/
def overflow64 : Dec := .ofInt (2 ^ 1024 - 2 ^ 970)
/-- smallest magnitude that `ParseFloat(_, 32)` rounds to ±Inf: 2^128 − 2^103 -/
def overflow32 : Dec := .ofInt (2 ^ 128 - 2 ^ 103)
/-- math.MaxFloat32 = 2^128 − 2^104 -/
def maxFloat32 : Dec := .ofInt (2 ^ 128 - 2 ^ 104)
/-- math.MaxFloat64 = 2^1024 − 2^971 -/
def maxFloat64 : Dec := .ofInt (2 ^ 1024 - 2 ^ 971)

/-- `underscoreOK` of strconv for decimal text: an underscore only between two digits;
`saw`: `^` start, `0` digit, `_` underscore, `!` anything else -/
def underscoreLoop : Str → Char → Bool
  | [], saw => saw ≠ '_'
  | c :: rest, saw =>
    if isDigit c then underscoreLoop rest '0'
    else if c = '_' then (if saw ≠ '0' then false else underscoreLoop rest '_')
    else if saw = '_' then false
    else underscoreLoop rest '!'

/-- the text without its digit-separating underscores, if they are placed legally -/
def cleanUnderscores (s : Str) : Option Str :=
  if !s.contains '_' then some s
  else if underscoreLoop s '^' then some (s.filter (· ≠ '_')) else none

/-- the number a text denotes in `strconv.ParseFloat` syntax, machine limits aside: decimals (with
digit-separating underscores), `inf`/`infinity` with optional sign, `nan`; hex floats with a `p` exponent are
outside the model. -/
def floatSyntax (s : Str) : Except Err Num :=
  match cleanUnderscores s with
  | none => .error .syntax
  | some s' =>
    match parseDec s' with
    | .ok d => .ok (.fin d)
    | .error e =>
      let l := lower s
      if l = "nan".toList then .ok .nan
      else if l = "inf".toList ∨ l = "+inf".toList ∨ l = "infinity".toList ∨ l = "+infinity".toList then .ok .posInf
      else if l = "-inf".toList ∨ l = "-infinity".toList then .ok .negInf
      else if l.take 2 = "0x".toList ∨ l.take 3 = "-0x".toList ∨ l.take 3 = "+0x".toList then
        (if l.contains 'p' then .error .outside else .error .syntax)
      else .error e

/-- `strconv.ParseFloat(s, bits)`: `floatSyntax` plus the overflow test of the target size -/
def parseFloat (bits : Nat) (s : Str) : Except Err Num :=
  match floatSyntax s with
  | .error e => .error e
  | .ok (.fin d) =>
    if Dec.le (if bits = 32 then overflow32 else overflow64) d.abs then .error .overflow else .ok (.fin d)
  | .ok x => .ok x

/-- `convertTypeFromString(kind, str)` followed by `setMatchedPrimitiveValue` -/
def convertFromString (k : Kind) (s : Str) : Except Err Val :=
  match k with
  | .bool =>
    let l := lower s
    if l = "1".toList ∨ l = "true".toList then .ok (.bool true)
    else if l = "0".toList ∨ l = "false".toList then .ok (.bool false)
    else .error .mismatch
  | .int b => (parseInt b s).map .int
  | .uint b => (parseUint b s).map .int
  | .float b => (parseFloat b s).map .flt
  | .string => .ok (.str s)

/-! ## tags -/

structure Range where
  left : Dec
  leftInc : Bool
  right : Dec
  rightInc : Bool
  deriving Repr, DecidableEq

/-- `fieldOptions` (with its embedded `fieldOptionsWithContext`) -/
structure Opts where
  inherit : Bool := false
  fromString : Bool := false
  optional : Bool := false
  options : List Str := []
  default : Str := []
  envVar : Str := []
  range : Option Range := none
  optionalDep : Str := []
  deriving Repr, DecidableEq

/-- `parseSegments`: comma separated, `\` escapes outside groups, `( [` open and `) ]` close a group -/
def segLoop : Str → Bool → Bool → Str → List Str → List Str
  | [], _, _, buf, acc =>
    if trim buf = [] then acc.reverse else (trim buf :: acc).reverse
  | ch :: rest, true, g, buf, acc => segLoop rest false g (buf ++ [ch]) acc
  | ch :: rest, false, g, buf, acc =>
    if ch = ',' then
      if g then segLoop rest false g (buf ++ [ch]) acc else segLoop rest false g [] (trim buf :: acc)
    else if ch = '\\' then
      if g then segLoop rest false g (buf ++ [ch]) acc else segLoop rest true g buf acc
    else if ch = '(' ∨ ch = '[' then segLoop rest false true (buf ++ [ch]) acc
    else if ch = ')' ∨ ch = ']' then segLoop rest false false (buf ++ [ch]) acc
    else segLoop rest false g (buf ++ [ch]) acc

def parseSegments (val : Str) : List Str := segLoop val false false [] []

def dropWhileL (p : Char → Bool) : Str → Str
  | [] => []
  | c :: cs => if p c then dropWhileL p cs else c :: cs

def parseGroupedSegments (val : Str) : List Str :=
  let v1 := dropWhileL (fun c => c = '(' || c = '[') val
  let v2 := (dropWhileL (fun c => c = ')' || c = ']') v1.reverse).reverse
  parseSegments v2

def parseOptions (val : Str) : List Str :=
  match val with
  | [] => []
  | c :: _ => if c = '[' then parseGroupedSegments val else splitOnChar '|' val

/-- `parseProperty`: `name=value`, exactly one `=` -/
def parseProperty (option : Str) : Except Err Str :=
  match splitOnChar '=' option with
  | [_, v] => .ok (trim v)
  | _ => .error .tag

def parseBound (s : Str) (dflt : Dec) : Except Err Dec :=
  if s = [] then .ok dflt
  else match parseFloat 64 s with
    | .ok (.fin d) => .ok d
    | .ok _ => .error .outside
    | .error e => .error e

/-- `parseNumberRange` -/
def parseNumberRange (str : Str) : Except Err Range :=
  match str with
  | [] => .error .range
  | c0 :: s1 =>
    if c0 ≠ '[' ∧ c0 ≠ '(' then .error .range
    else if s1 = [] then .error .range
    else
      let cl := s1.getLast?
      if cl ≠ some ']' ∧ cl ≠ some ')' then .error .range
      else
        match splitOnChar ':' s1.dropLast with
        | [f0, f1] =>
          if f0 = [] ∧ f1 = [] then .error .range
          else
            match parseBound f0 maxFloat64.neg with
            | .error e => .error e
            | .ok l =>
              match parseBound f1 maxFloat64 with
              | .error e => .error e
              | .ok r =>
                let li := decide (c0 = '[')
                let ri := decide (cl = some ']')
                if Dec.lt r l then .error .range
                else if Dec.eqv l r ∧ (!li ∨ !ri) then .error .range
                else .ok ⟨l, li, r, ri⟩
        | _ => .error .range

/-- `parseOption` -/
def parseOption (o : Opts) (option : Str) : Except Err Opts :=
  if option = "inherit".toList then .ok { o with inherit := true }
  else if option = "string".toList then .ok { o with fromString := true }
  else if "optional".toList.isPrefixOf option then
    match splitOnChar '=' option with
    | [_] => .ok { o with optional := true }
    | [_, d] => .ok { o with optional := true, optionalDep := d }
    | _ => .error .tag
  else if "options".toList.isPrefixOf option then
    (parseProperty option).map fun v => { o with options := parseOptions v }
  else if "default".toList.isPrefixOf option then
    (parseProperty option).map fun v => { o with default := v }
  else if "env".toList.isPrefixOf option then
    (parseProperty option).map fun v => { o with envVar := v }
  else if "range".toList.isPrefixOf option then
    match parseProperty option with
    | .error e => .error e
    | .ok v => (parseNumberRange v).map fun r => { o with range := some r }
  else .ok o

def parseOptionList : List Str → Opts → Except Err Opts
  | [], o => .ok o
  | s :: rest, o =>
    match parseOption o (trim s) with
    | .error e => .error e
    | .ok o' => parseOptionList rest o'

/-- `parseKeyAndOptions` (the cache is transparent: same tag text, same result): key and options of a field. -/
def parseTag (name : Str) (tagValue : Str) : Except Err (Str × Option Opts) :=
  let value := trim tagValue
  if value = [] then .ok (name, none)
  else
    match parseSegments value with
    | [] => .error .panic                -- `segments[0]` on an empty slice (tag value `\`)
    | k :: options =>
      let key := if trim k = [] then name else trim k
      if options = [] then .ok (key, none)
      else (parseOptionList options {}).map fun o => (key, some o)

/-! ## option resolution against the input -/

structure Cfg where
  fromString : Bool := false     -- WithStringValues (form, path, header)
  fromArray : Bool := false      -- WithFromArray (form)
  canonical : Bool := false      -- WithCanonicalKeyFunc(textproto.CanonicalMIMEHeaderKey) (header)
  lower : Bool := false          -- WithCanonicalKeyFunc(strings.ToLower) (core/conf)
  opaqueKeys : Bool := false         -- WithOpaqueKeys (form, path): a key with dots is looked up literally
  anc : List (List (List Char × J)) := []   -- position, not an option: the objects enclosing the node, nearest first (a struct-typed field is read from a node whose parent is the valuer of the enclosing struct)
  pinned : Bool := false         -- behaviour of the pinned commit (see header)
  deriving Repr

/-- the same configuration on the repaired code -/
def Cfg.repaired (c : Cfg) : Cfg := { c with pinned := false }

/-- the unmarshaler inside a struct-typed field: `processFieldStruct` hands on a node whose parent is the valuer of the
enclosing struct (`simpleValuer{current: mv, parent: vp.parent}`) -/
def Cfg.nestIn (c : Cfg) (m : List (List Char × J)) : Cfg := { c with anc := m :: c.anc }

/-- the unmarshaler on a fresh node without ancestors: struct elements of slices and maps (`fillStructElement` →
`u.unmarshal`), an absent struct field (`valueWithParent{value: emptyMap}`) -/
def Cfg.top (c : Cfg) : Cfg := { c with anc := [] }

/-! ## canonical keys (header unmarshaler) -/

def upperChar (c : Char) : Char :=
  if 'a'.toNat ≤ c.toNat ∧ c.toNat ≤ 'z'.toNat then Char.ofNat (c.toNat - 32) else c

def validHeaderByte (c : Char) : Bool :=
  ('a'.toNat ≤ c.toNat && c.toNat ≤ 'z'.toNat) || ('A'.toNat ≤ c.toNat && c.toNat ≤ 'Z'.toNat) || isDigit c
  || "!#$%&'*+-.^_`|~".toList.contains c

def canonLoop : Str → Bool → Str
  | [], _ => []
  | c :: rest, up => (if up then upperChar c else lowerChar c) :: canonLoop rest (c = '-')

/-- `textproto.CanonicalMIMEHeaderKey` -/
def canonKey (s : Str) : Str := if s.all validHeaderByte then canonLoop s true else s

/-- the dependency key of `optional=dep` / `optional=!dep` under a canonical-key function `kf`: the repaired code
canonicalises the key after the `!`; the pinned commit canonicalised the whole text, which leaves `!a` as it is
(`textproto.CanonicalMIMEHeaderKey` does not touch a text with an invalid header byte) -/
def canonDep (kf : Str → Str) (pinned : Bool) (d : Str) : Str :=
  if pinned then kf d
  else match d with
    | [] => []
    | c :: rest => if c = '!' then '!' :: kf rest else kf (c :: rest)

/-- the canonical-key function of the unmarshaler: MIME header keys (rest header parser), lower case (core/conf), none -/
def Cfg.keyFn (c : Cfg) : Option (Str → Str) :=
  if c.canonical then some canonKey else if c.lower then some GoZero.C08.lower else none

/-- `parseOptionsWithContext`: key and dependency key through the canonical-key function -/
def canonTag (kf : Option (Str → Str)) (pinned : Bool) (kp : Str × Option Opts) : Str × Option Opts :=
  match kf with
  | some kf =>
    (kf kp.1, kp.2.map fun o => if o.optionalDep.isEmpty then o else { o with optionalDep := canonDep kf pinned o.optionalDep })
  | none => kp

/-- the `optional` that `toOptionsWithContext` computes -/
def effOptional (o : Opts) (key : Str) (m : Obj) : Except Err Bool :=
  if o.optional then
    match o.optionalDep with
    | [] => .ok true
    | c :: dep =>
      if c = '!' then
        if dep = [] then .error .dep
        else if hasKey dep m = hasKey key m then .error .dep
        else .ok (hasKey dep m)
      else if hasKey (c :: dep) m ≠ hasKey key m then .error .dep
      else .ok (!hasKey (c :: dep) m)
  else .ok false

/-- `toOptionsWithContext`: the rebuilt option set copies every field (repaired code);
at the pinned commit it forgot `Range` and `Inherit`. -/
def toOptionsWithContext (c : Cfg) (o : Opts) (key : Str) (m : Obj) : Except Err Opts :=
  match effOptional o key m with
  | .error e => .error e
  | .ok optional =>
    if o.optional = optional then .ok o
    else .ok { o with optional := optional
                      inherit := if c.pinned then false else o.inherit
                      range := if c.pinned then none else o.range }

/-! ## checks -/

def numLt (x : Num) (b : Dec) : Bool :=
  match x with | .fin d => Dec.lt d b | .negInf => true | _ => false
def numLe (x : Num) (b : Dec) : Bool :=
  match x with | .fin d => Dec.le d b | .negInf => true | _ => false
def numGt (x : Num) (b : Dec) : Bool :=
  match x with | .fin d => Dec.lt b d | .posInf => true | _ => false
def numGe (x : Num) (b : Dec) : Bool :=
  match x with | .fin d => Dec.le b d | .posInf => true | _ => false

/-- `validateNumberRange`: `true` = errNumberRange -/
def rangeRejects (c : Cfg) (r : Range) (x : Num) : Bool :=
  (!c.pinned && x = .nan)
  || (r.leftInc && numLt x r.left) || (!r.leftInc && numLe x r.left)
  || (r.rightInc && numGt x r.right) || (!r.rightInc && numGe x r.right)

/-- `validateJsonNumberRange`: the literal goes through `json.Number.Float64` -/
def validateJsonNumberRange (c : Cfg) (o : Option Opts) (lit : Str) : Except Err Unit :=
  match o with
  | none => .ok ()
  | some o =>
    match o.range with
    | none => .ok ()
    | some r =>
      match parseFloat 64 lit with
      | .error e => .error e
      | .ok x => if rangeRejects c r x then .error .range else .ok ()

def valToNum : Val → Option Num
  | .int i => some (.fin (.ofInt i))
  | .flt x => some x
  | _ => none

/-- `validateValueRange` on an already converted Go value -/
def validateValueRange (c : Cfg) (o : Option Opts) (v : Val) : Except Err Unit :=
  match o with
  | none => .ok ()
  | some o =>
    match o.range with
    | none => .ok ()
    | some r =>
      match valToNum v with
      | none => .error .range
      | some x => if rangeRejects c r x then .error .range else .ok ()

/-- the option set of a field without options is the zero `fieldOptions` -/
def effOpts (o : Option Opts) : Opts := match o with | some o => o | none => {}

def optOptions (o : Option Opts) : List Str := match o with | none => [] | some o => o.options
def optOptional (o : Option Opts) : Bool := match o with | none => false | some o => o.optional
def optFromString (o : Option Opts) : Bool := match o with | none => false | some o => o.fromString
def optDefault (o : Option Opts) : Str := match o with | none => [] | some o => o.default

/-- `validateValueInOptions` / the options test of `processNamedFieldWithValueFromString` on the text of the value -/
def validateInOptions (o : Option Opts) (text : Str) : Except Err Unit :=
  if optOptions o = [] then .ok ()
  else if (optOptions o).contains text then .ok () else .error .options

/-- `lang.Repr` of a Go bool -/
def boolText (b : Bool) : Str := if b then "true".toList else "false".toList

/-! ## primitive paths -/

/-- `reflect.Value.OverflowFloat` on a float32 target: MaxFloat32 < |x| ≤ MaxFloat64 -/
def float32Overflows : Num → Bool
  | .fin d => Dec.lt maxFloat32 d.abs
  | _ => false

/-- `processFieldPrimitiveWithJSONNumber`; `k = none` stands for a non-primitive target kind -/
def jsonNumberPath (c : Cfg) (o : Option Opts) (k : Option Kind) (lit : Str) : Except Err Val :=
  match validateJsonNumberRange c o lit with
  | .error e => .error e
  | .ok () =>
    match validateInOptions o lit with
    | .error e => .error e
    | .ok () =>
      match k with
      | some (.int b) => (parseInt b lit).map .int
      | some (.uint b) => (parseUint b lit).map .int
      | some (.float b) =>
        match parseFloat 64 lit with
        | .error e => .error e
        | .ok x => if b = 32 && float32Overflows x then .error .overflow else .ok (.flt x)
      | _ => .error .mismatch

/-- `processFieldPrimitive` on a primitive target kind -/
def primNotFromString (c : Cfg) (o : Option Opts) (k : Kind) (j : J) : Except Err Val :=
  match j with
  | .num lit => jsonNumberPath c o (some k) lit
  | .str s =>
    if k = .string then
      match validateInOptions o s with
      | .error e => .error e
      | .ok () =>
        match validateValueRange c o (.str s) with
        | .error e => .error e
        | .ok () => .ok (.str s)
    else .error .mismatch
  | .bool b =>
    if k = .bool then
      match validateInOptions o (boolText b) with
      | .error e => .error e
      | .ok () =>
        match validateValueRange c o (.bool b) with
        | .error e => .error e
        | .ok () => .ok (.bool b)
    else .error .mismatch
  | _ => .error .mismatch

/-- `processNamedFieldWithValueFromString` + `fillPrimitive` -/
def primFromString (c : Cfg) (o : Option Opts) (k : Kind) (j : J) : Except Err Val :=
  match j with
  | .str s =>
    match validateInOptions o s with
    | .error e => .error e
    | .ok () =>
      match convertFromString k s with
      | .error e => .error e
      | .ok v =>
        match validateValueRange c o v with
        | .error e => .error e
        | .ok () => .ok v
  | .num lit =>
    match validateInOptions o lit with
    | .error e => .error e
    | .ok () =>
      match validateJsonNumberRange c o lit with
      | .error e => .error e
      | .ok () => convertFromString k lit
  | _ => .error .notString

def primWithValue (c : Cfg) (o : Option Opts) (k : Kind) (j : J) : Except Err Val :=
  if c.fromString || optFromString o then primFromString c o k j else primNotFromString c o k j

/-! ## the unmarshaller -/

mutual
def zero : Ty → Val
  | .prim .bool => .bool false
  | .prim (.int _) => .int 0
  | .prim (.uint _) => .int 0
  | .prim (.float _) => .flt (.fin ⟨0, 0⟩)
  | .prim .string => .str []
  | .ptr _ => .nil
  | .slice _ => .nil
  | .map _ => .nil
  | .struct fs => .struct (zeroFields fs)
def zeroFields : Fields → VFields
  | .nil => .nil
  | .cons name _ t rest => .cons name (zero t) (zeroFields rest)
end

/-- `implicitValueRequiredStruct` -/
def structRequired : Fields → Except Err Bool
  | .nil => .ok false
  | .cons name tag t rest =>
    match tag with
    | none => .ok true
    | some tv =>
      match parseTag name tv with
      | .error e => .error e
      | .ok (_, none) =>
        match t with
        | .struct fs' =>
          match structRequired fs' with
          | .error e => .error e
          | .ok true => .ok true
          | .ok false => structRequired rest
        | _ => .ok true
      | .ok (_, some o) =>
        if !o.optional && o.default = [] then .ok true
        else if o.optionalDep.head? = some '!' then .ok true
        else structRequired rest

/-- effective input of a field under `WithFromArray` -/
def fromArrayValue (c : Cfg) (isSlice : Bool) (j : J) : J :=
  if c.fromArray && !isSlice then
    match j with
    | .arr (h :: _) => h
    | _ => j
  else j

/-- key and options of a field as the unmarshaler `c` reads them -/
def parseTagC (c : Cfg) (name : Str) (tagValue : Str) : Except Err (Str × Option Opts) :=
  (parseTag name tagValue).map (canonTag c.keyFn c.pinned)

/-- `parseOptionsWithContext` after the tag is parsed: no options stay `nil`, else `toOptionsWithContext` -/
def resolveOpts (c : Cfg) (po : Option Opts) (key : Str) (m : Obj) : Except Err (Option Opts) :=
  match po with
  | none => .ok none
  | some o => (toOptionsWithContext c o key m).map some

/-- the field is tagged `inherit`: its key is looked up through the recursive valuer (`lookupKey`).  Of the options the model does
not follow entirely, `env=NAME` is followed for an *unset* variable
(`proc.Env` returns the empty string and the field is processed as if the option was absent); a set variable is
outside the model (assumption: the harness only names variables that are not set). -/
def optInherit (o : Option Opts) : Bool :=
  match o with
  | some o => o.inherit
  | none => false

/-! ### keys with dots: `getValue` / `readKeys` / `getValueWithChainedKeys`

`readKeys(key, opaque)`: an opaque unmarshaler (`WithOpaqueKeys`: rest/httpx form and path) looks the key up literally;
every other one splits it at the dots (`strings.FieldsFunc`, empty segments dropped; the package-level `cacheKeys` is
transparent: it is consulted only on the non-opaque path, same text, same split).  `getValueWithChainedKeys`: the first
segment through the field's valuer (simple: the current object only; recursive under `inherit`), every further one
through `recursiveValuer{current: nextm, parent: m}`, i.e. in the object found so far, else in the enclosing objects,
nearest first.  The ancestors of a nested struct's node are `Cfg.anc`; with `unk = true` (no call site passes it) a lookup that
runs past the objects the model knows would answer `outside`.  Where `recursiveValuer.Value` would merge inherited entries
into the found object (it writes into the caller's document) the model answers `outside` as well. -/

/-- `strings.FieldsFunc(key, func(c rune) bool { return c == '.' })` -/
def fieldsDot (s : Str) : List Str := (splitOnChar '.' s).filter (fun seg => !seg.isEmpty)

/-- `recursiveValuer.Value` on the chain `ch` (current object first), without the merge -/
def recLookup (unk : Bool) : List Obj → Str → Except Err (Option J)
  | [], _ => if unk then .error .outside else .ok none
  | cur :: parents, k =>
    match getKey k cur with
    | none => recLookup unk parents k
    | some (.obj vm) =>
      match recLookup unk parents k with
      | .error e => .error e
      | .ok (some (.obj pm)) => if pm.all (fun kv => hasKey kv.1 vm) then .ok (some (.obj vm)) else .error .outside
      | .ok _ => .ok (some (.obj vm))
    | some v => .ok (some v)

/-- `getValueWithChainedKeys` below the first segment -/
def chainedLookup (unk : Bool) : List Str → List Obj → Except Err (Option J)
  | [], _ => .ok none
  | [k], ch => recLookup unk ch k
  | k :: k2 :: rest, ch =>
    match recLookup unk ch k with
    | .error e => .error e
    | .ok (some (.obj nm)) => chainedLookup unk (k2 :: rest) (nm :: ch)
    | .ok _ => .ok none

/-- the first segment goes through the field's own valuer (`createValuer`): simple, or recursive under `inherit` -/
def firstLookup (unk inh : Bool) (anc : List Obj) (k : Str) (m : Obj) : Except Err (Option J) :=
  if inh then recLookup unk (m :: anc) k else .ok (getKey k m)

/-- `getValueWithChainedKeys(valuer, keys)` with the valuer of the field -/
def dottedLookup (unk inh : Bool) (anc : List Obj) (keys : List Str) (m : Obj) : Except Err (Option J) :=
  match keys with
  | [] => .ok none
  | [k] => firstLookup unk inh anc k m
  | k :: k2 :: rest =>
    match firstLookup unk inh anc k m with
    | .error e => .error e
    | .ok (some (.obj nm)) => chainedLookup unk (k2 :: rest) (nm :: m :: anc)
    | .ok _ => .ok none

/-- `getValue(valuer, canonicalKey, u.opts.opaqueKeys)`; `inh`: the field is tagged `inherit`, `createValuer` hands out a
`recursiveValuer` (the current object, then the enclosing ones, nearest first) instead of the simple one -/
def lookupKey (c : Cfg) (inh : Bool) (key : Str) (m : Obj) : Except Err (Option J) :=
  if c.opaqueKeys || !key.contains '.' then firstLookup false inh c.anc key m
  else dottedLookup false inh c.anc (fieldsDot key) m

/-- `processField` / `processNamedField` for one field against the object `m`; the type-directed
continuations are passed in (`wv` = with a value, `ar` = absent and required, `dv` = default, `z` = zero value) -/
def fieldCore (c : Cfg) (name : Str) (tag : Option Str) (isSlice : Bool) (m : Obj)
    (wv : Option Opts → J → Except Err Val) (ar : Unit → Except Err Val) (dv : Str → Except Err Val) (z : Val) :
    Except Err Val :=
  match tag with
  | none => .ok z
  | some tv =>
    match parseTagC c name tv with
    | .error e => .error e
    | .ok (key, po) =>
      match resolveOpts c po key m with
      | .error e => .error e
      | .ok o =>
        if key = "-".toList then .ok z
        else
          match lookupKey c (optInherit o) key m with
          | .error e => .error e
          | .ok none =>
            if optDefault o ≠ [] then dv (optDefault o)
            else if optOptional o then .ok z
            else ar ()
          | .ok (some j0) =>
            -- pinned commit: `reflect.TypeOf(nil).Kind()` under WithFromArray
            if c.pinned && c.fromArray && !isSlice && j0.isNull then .error .panic else
            match fromArrayValue c isSlice j0 with
            | .null => if optOptional o then .ok z else .error .nilValue
            | j => wv o j

def Ty.isSlice : Ty → Bool
  | .slice _ => true
  | _ => false

/-! ### slices and maps -/

def mapElems (f : J → Except Err Val) : List J → Except Err VList
  | [] => .ok .nil
  | j :: rest =>
    match f j with
    | .error e => .error e
    | .ok v =>
      match mapElems f rest with
      | .error e => .error e
      | .ok vs => .ok (.cons v vs)

def mapEntries (f : J → Except Err Val) : Obj → Except Err VFields
  | [] => .ok .nil
  | (k, j) :: rest =>
    match f j with
    | .error e => .error e
    | .ok v =>
      match mapEntries f rest with
      | .error e => .error e
      | .ok vs => .ok (.cons k v vs)

def allNull : List J → Bool
  | [] => true
  | j :: rest => j.isNull && allNull rest

/-- what `fillSlice` stores: an empty slice for `[]`, nothing (nil) when every element is null, else the converted elements -/
def sliceResult (l : List J) (vs : VList) : Val :=
  if l.isEmpty then .list .nil else if allNull l then .nil else .list vs

def strLt : Str → Str → Bool
  | [], [] => false
  | [], _ :: _ => true
  | _ :: _, [] => false
  | a :: as, b :: bs => a.toNat < b.toNat || (a.toNat = b.toNat && strLt as bs)

/-- insert a binding into a key-sorted object, replacing an earlier binding of the same key -/
def insertEntry (k : Str) (j : J) : Obj → Obj
  | [] => [(k, j)]
  | (k', j') :: rest =>
    if k = k' then (k, j) :: rest
    else if strLt k k' then (k, j) :: (k', j') :: rest
    else (k', j') :: insertEntry k j rest

/-- the entries of a decoded object as a Go map holds them (last binding wins), in key order (the order the
harness prints map results in) -/
def canonObj (m : Obj) : Obj := m.foldl (fun acc kv => insertEntry kv.1 kv.2 acc) []

def derefKind : Ty → Option Kind
  | .ptr t => derefKind t
  | .prim k => some k
  | _ => none

/-- slice or map: the pinned commit mishandled a pointer to one of them (see header) -/
def Ty.isContainer : Ty → Bool
  | .slice _ => true
  | .map _ => true
  | _ => false

/-- the `[]string` value of a list of texts (`fillSliceWithDefault` splits the default with `parseGroupedSegments`) -/
def strList : List Str → VList
  | [] => .nil
  | s :: rest => .cons (.str s) (strList rest)

/-- `setValueFromString(kind, value, default)` through `ensureValue` (allocates every pointer level);
`[]string` defaults go through `fillSliceWithDefault` -/
def defaultVal (c : Cfg) : Ty → Str → Except Err Val
  | .ptr t, d =>
    -- pinned commit: `fillSlice` on the pointer value (`reflect.Set` panic)
    if c.pinned && t.isContainer then (match t with | .slice (.prim .string) => .error .panic | _ => .error .outside)
    else (defaultVal c t d).map .ptr
  | .prim k, d => convertFromString k d
  | .slice (.prim .string), d =>
    .ok (if (parseGroupedSegments d).isEmpty then .nil else .list (strList (parseGroupedSegments d)))
  | .slice _, _ => .error .outside
  | _, _ => .error .unsupported

mutual
/-- `processNamedFieldWithValue` below the nil test: dispatch on the dereferenced kind; pointers are
allocated on the way back (`SetValue`). -/
def withValue (c : Cfg) (o : Option Opts) : Ty → J → Except Err Val
  | .ptr t, j =>
    if c.pinned && t.isContainer then
      (match t, j with
       | .slice _, .arr [] => .error .panic          -- `value.Set(MakeSlice(SliceOf(fieldType.Elem())))`
       | .map _, _ => .error .panic                  -- `fieldType.Key()` on a pointer type
       | _, _ => .error .outside)
    else (withValue c o t j).map .ptr
  | .prim k, j => primWithValue c o k j
  | .struct fs, j =>
    match j with
    | .obj m => (unmFields c fs m).map .struct
    | .num lit => jsonNumberPath c o none lit
    | _ => .error .mismatch
  | .slice t, j =>
    match j with
    | .arr l => (mapElems (fun j => if j.isNull then .ok (zero t) else elemValue c.top t j) l).map (sliceResult l)
    | .num _ => .error .json          -- fillSliceFromString: encoding/json refuses a number
    | .str _ => .error .outside       -- string-encoded slice ([]byte base64, JSON text)
    | _ => .error .mismatch
  | .map t, j =>
    match j with
    | .obj m => (mapEntries (fun j => mapElemValue c.top t j) (canonObj m)).map .map
    | .num _ => .error .json          -- fillMapFromString
    | .str _ => .error .outside
    | _ => .error .mismatch

/-- one non-null element of a slice (`fillSlice` loop body / `fillSliceValue`) -/
def elemValue (c : Cfg) : Ty → J → Except Err Val
  | .ptr t, j =>
    if c.pinned && t.isContainer then .error .panic   -- `fillSlice(dereffedBaseType, conv.Index(i))`: `reflect.Set` panic
    else (elemValue c t j).map .ptr
  | .prim k, j =>
    match j with
    | .num s => convertFromString k s
    | .str s => convertFromString k s
    | .bool b => if k = .bool then .ok (.bool b) else .error .mismatch
    | _ => .error .mismatch
  | .struct fs, j =>
    match j with
    | .obj m => (unmFields c fs m).map .struct
    | _ => .error .mismatch
  | .slice t, j =>
    match j with
    | .arr l => (mapElems (fun j => if j.isNull then .ok (zero t) else elemValue c.top t j) l).map (sliceResult l)
    | _ => .error .mismatch
  | .map t, j =>
    match j with
    | .obj m => (mapEntries (fun j => mapElemValue c.top t j) (canonObj m)).map .map
    | .num _ => .error .unsupported
    | .str _ => .error .unsupported
    | _ => .error .mismatch

/-- one value of a map (`generateMap` loop body; repaired code: pointer element types go through
`SetMapIndexValue`, a null for a slice element type is a type mismatch) -/
def mapElemValue (c : Cfg) : Ty → J → Except Err Val
  | .ptr t, j =>
    if c.pinned && t.isContainer then .error .outside
    else if c.pinned && (derefKind t).isSome then
      (match mapElemValue c t j with | .error e => .error e | .ok _ => .error .panic)
    else (mapElemValue c t j).map .ptr
  | .prim k, j =>
    match j with
    | .bool b => if k = .bool then .ok (.bool b) else .error .mismatch
    | .str s => if k = .string then .ok (.str s) else .error .mismatch
    | .num lit => convertFromString k lit
    | _ => .error .mismatch
  | .struct fs, j =>
    match j with
    | .obj m => (unmFields c fs m).map .struct
    | _ => .error .mismatch
  | .slice t, j =>
    match j with
    | .arr l => (mapElems (fun j => if j.isNull then .ok (zero t) else elemValue c.top t j) l).map (sliceResult l)
    | .null => if c.pinned then .error .panic else .error .mismatch
    | _ => .error .mismatch
  | .map t, j =>
    match j with
    | .obj m => (mapEntries (fun j => mapElemValue c.top t j) (canonObj m)).map .map
    | _ => .error .mismatch

/-- `processNamedFieldWithoutValue` for a field that is neither defaulted nor optional -/
def absentRequired (c : Cfg) : Ty → Except Err Val
  | .ptr t =>
    if c.pinned && t.isContainer then (match t with | .map _ => .error .panic | _ => .error .outside)
    else (absentRequired c t).map .ptr
  | .prim _ => .error .notSet
  | .struct fs =>
    match structRequired fs with
    | .error e => .error e
    | .ok true => .error .notSet
    | .ok false => (unmFields c.top fs []).map .struct
  | .slice _ => .error .mismatch
  | .map _ => .ok (.map .nil)

def unmFields (c : Cfg) : Fields → Obj → Except Err VFields
  | .nil, _ => .ok .nil
  | .cons name tag t rest, m =>
    match fieldCore c name tag t.isSlice m (fun o j => withValue (c.nestIn m) o t j) (fun _ => absentRequired c t)
            (defaultVal c t) (zero t) with
    | .error e => .error e
    | .ok v =>
      match unmFields c rest m with
      | .error e => .error e
      | .ok vs => .ok (.cons name v vs)
end

/-- `Unmarshaler.Unmarshal(i, &v)` with `v` of struct type `ty` -/
def unmarshal (c : Cfg) (ty : Ty) (j : J) : Except Err Val :=
  match ty with
  | .struct fs =>
    match j with
    | .obj m => (unmFields c fs m).map .struct
    | .arr _ => .error .mismatch
    | _ => .error .unsupported
  | _ => .error .outside

/-! ## the YAML front end -/

mutual
/-- what `encoding.YamlToJson` does to the nulls of a document (`asIs = true`, the code: `toStringKeyMap` sends a YAML null
through `lang.Repr(nil)` and hands on the empty *string*, at every depth); `asIs = false`: a front end that keeps nulls
(JSON, TOML has none) -/
def yamlNulls (asIs : Bool) : J → J
  | .null => if asIs then .str [] else .null
  | .arr l => .arr (yamlNullsL asIs l)
  | .obj m => .obj (yamlNullsO asIs m)
  | j => j
def yamlNullsL (asIs : Bool) : List J → List J
  | [] => []
  | j :: rest => yamlNulls asIs j :: yamlNullsL asIs rest
def yamlNullsO (asIs : Bool) : List (Str × J) → List (Str × J)
  | [] => []
  | (k, j) :: rest => (k, yamlNulls asIs j) :: yamlNullsO asIs rest
end


/-! ## core/mapping/valuer.go: simple and recursive (inherit) lookups

A struct nested in a struct is unmarshalled from a node whose parent is the valuer of the enclosing field, so a lookup
sees a chain of objects: the current one first, then the enclosing ones, nearest first.  `inherit` selects
`recursiveValuer` (`createValuer`). -/

/-- the objects a valuer can see: current node first, then its ancestors (nearest first) -/
abbrev Chain := List Obj

/-- `simpleValuer.Value`: the current node only -/
def simpleValue (ch : Chain) (k : Str) : Option J :=
  match ch with
  | [] => none
  | cur :: _ => getKey k cur

/-- the loop of `recursiveValuer.Value`: `for k, v := range pm { if _, ok := vm[k]; !ok { vm[k] = v } }` — the child's
own bindings stay, the parent's fill in the keys the child does not bind -/
def mergeMissing (vm pm : Obj) : Obj := vm ++ pm.filter (fun kv => !hasKey kv.1 vm)

/-- replace the binding of `k` (the merged object is the very map stored under `k`: the merge is visible to later lookups) -/
def setKey (k : Str) (v : J) (o : Obj) : Obj := o.filter (fun kv => kv.1 ≠ k) ++ [(k, v)]

/-- `recursiveValuer.Value` with the state it leaves behind: the current node's binding, else the ancestors'; when both the
current binding and the inherited one are objects the inherited entries are merged *into the current node's object* -/
def recValueM : Chain → Str → Option J × Chain
  | [], _ => (none, [])
  | cur :: parents, k =>
    match getKey k cur with
    | none => ((recValueM parents k).1, cur :: (recValueM parents k).2)
    | some (.obj vm) =>
      match (recValueM parents k).1 with
      | some (.obj pm) =>
        (some (.obj (mergeMissing vm pm)), setKey k (.obj (mergeMissing vm pm)) cur :: (recValueM parents k).2)
      | _ => (some (.obj vm), cur :: (recValueM parents k).2)
    | some v => (some v, cur :: parents)

/-- the value an `inherit` lookup returns -/
def recValue (ch : Chain) (k : Str) : Option J := (recValueM ch k).1

/-! ## rest/httpx.Parse: path, form, header and JSON body unmarshalers on one target -/

def httpCfgPath (pinned : Bool) : Cfg := { fromString := true, opaqueKeys := true, pinned := pinned }
def httpCfgForm (pinned : Bool) : Cfg := { fromString := true, fromArray := true, opaqueKeys := true, pinned := pinned }
def httpCfgHeader (pinned : Bool) : Cfg := { fromString := true, canonical := true, pinned := pinned }
def httpCfgJson (pinned : Bool) : Cfg := { pinned := pinned }

/-- tags of a request struct are written `key|value` (one tag key per field) -/
def splitTag (tv : Str) : Str × Str := (tv.takeWhile (· ≠ '|'), (tv.dropWhile (· ≠ '|')).drop 1)

/-- the fields as the unmarshaler with tag key `key` sees them: fields tagged with another key are skipped (`usingDifferentKeys`) -/
def viewFields (key : Str) : Fields → Fields
  | .nil => .nil
  | .cons n tag t rest =>
    .cons n (match tag with
             | none => none
             | some tv => if (splitTag tv).1 = key then some (splitTag tv).2 else none) t (viewFields key rest)

def stripArraySuffix (k : Str) : Str :=
  if "][".toList.isPrefixOf k.reverse then (k.reverse.drop 2).reverse else k

/-- `GetFormValues`: empty values are ignored, a name without values left is dropped, a trailing `[]` of the name is cut;
every value list is handed over as a `[]string` -/
def formParams : List (Str × List Str) → Obj
  | [] => []
  | (k, vs) :: rest =>
    if (vs.filter (fun v => !v.isEmpty)).isEmpty then formParams rest
    else (stripArraySuffix k, .arr ((vs.filter (fun v => !v.isEmpty)).map .str)) :: formParams rest

/-- the values of one key of an `http.Header`: `none` is a nil `[]string` (`http.Header{"X": nil}`), `some []` an
empty one (a middleware that filtered every value away: `h[k] = kept[:0]`) -/
abbrev HVals := Option (List Str)

def HVals.len : HVals → Nat
  | none => 0
  | some l => l.length

/-- `[]string` handed to the unmarshaller as a value: a nil slice behaves like an array whose elements are all null
(`fillSlice` stores nothing: `refValue.IsNil()`), for every other target kind both are "a slice" -/
def HVals.toJ : HVals → J
  | none => .arr [.null]
  | some l => .arr (l.map .str)

/-- the decision of `encoding.ParseHeaders`: `len(v) == 1` ⇒ the value is handed over as a string -/
def headerScalar (len : Int) : Bool := decide (len = 1)

/-- `v[i]` in Go: an index outside `0 ≤ i < len(v)` panics -/
def goIndex (vs : HVals) (i : Int) : Except Err Str :=
  if i < 0 then .error .panic
  else match (vs.getD [])[i.toNat]? with
    | some v => .ok v
    | none => .error .panic

/-- one iteration of the loop of `encoding.ParseHeaders` for an arbitrary scalar-vs-slice decision `scalar` and
index `idx` (the code: `if len(v) == 1 { m[k] = v[0] } else { m[k] = v }`) -/
def headerEntryG (scalar : Int → Bool) (idx : Int) (vs : HVals) : Except Err J :=
  if scalar vs.len then (goIndex vs idx).map .str else .ok vs.toJ

/-- the loop body of `encoding.ParseHeaders` as it is written -/
def headerEntry (vs : HVals) : Except Err J := headerEntryG headerScalar 0 vs

/-- what `headerEntry` computes (total: `Props.headerEntry_total`) -/
def headerVal : HVals → J
  | some [v] => .str v
  | vs => vs.toJ

/-- `encoding.ParseHeaders`: a single value is handed over as a string, zero or several as a `[]string`
(net/http has canonicalised the names) -/
def headerParams : List (Str × HVals) → Obj
  | [] => []
  | (k, vs) :: rest => (canonKey k, headerVal vs) :: headerParams rest

/-- every field keeps the value of the unmarshaler that owns its tag key -/
def mergeViews : Fields → VFields → VFields → VFields → VFields → VFields
  | .cons n tag _ rest, .cons _ v1 r1, .cons _ v2 r2, .cons _ v3 r3, .cons _ v4 r4 =>
    let k := match tag with | some tv => (splitTag tv).1 | none => []
    .cons n (if k = "path".toList then v1 else if k = "form".toList then v2 else if k = "header".toList then v3 else v4)
      (mergeViews rest r1 r2 r3 r4)
  | _, _, _, _, _ => .nil

/-- `httpx.ParsePath`: the path unmarshaler on the path variables -/
def httpParsePath (pinned : Bool) (fs : Fields) (p : Obj) : Except Err VFields :=
  unmFields (httpCfgPath pinned) (viewFields "path".toList fs) p

/-- `httpx.ParseForm`: the form unmarshaler on `GetFormValues` -/
def httpParseForm (pinned : Bool) (fs : Fields) (f : List (Str × List Str)) : Except Err VFields :=
  unmFields (httpCfgForm pinned) (viewFields "form".toList fs) (formParams f)

/-- `httpx.ParseHeaders` = `encoding.ParseHeaders(r.Header, v)`: the header unmarshaler on `headerParams` -/
def httpParseHeaders (pinned : Bool) (fs : Fields) (h : List (Str × HVals)) : Except Err VFields :=
  unmFields (httpCfgHeader pinned) (viewFields "header".toList fs) (headerParams h)

/-- `httpx.ParseJsonBody`: the JSON unmarshaler on the body, on the empty object without one (`UnmarshalJsonMap(nil, v)`) -/
def httpParseJsonBody (pinned : Bool) (fs : Fields) (b : Option J) : Except Err VFields :=
  match unmarshal (httpCfgJson pinned) (.struct (viewFields "json".toList fs)) (b.getD (.obj [])) with
  | .ok (.struct v4) => .ok v4
  | .ok _ => .error .outside
  | .error e => .error e

/-- `httpx.Parse(r, &v)`: ParsePath, ParseForm, ParseHeaders, ParseJsonBody in this order, the first error wins;
without a JSON body the json unmarshaler runs on the empty object -/
def httpParse (pinned : Bool) (fs : Fields) (p : Obj) (f : List (Str × List Str)) (h : List (Str × HVals)) (b : Option J) :
    Except Err VFields :=
  match httpParsePath pinned fs p with
  | .error e => .error e
  | .ok v1 =>
    match httpParseForm pinned fs f with
    | .error e => .error e
    | .ok v2 =>
      match httpParseHeaders pinned fs h with
      | .error e => .error e
      | .ok v3 =>
        match httpParseJsonBody pinned fs b with
        | .error e => .error e
        | .ok v4 => .ok (mergeViews fs v1 v2 v3 v4)

/-! ## the public entry points: what they are handed besides the document (round 5d)

`UnmarshalJsonBytes / Reader / Map`, `UnmarshalKey`, `UnmarshalYaml… / Toml…`, `conf.LoadFrom…Bytes`, `httpx.Parse…` all end in
`Unmarshaler.unmarshal(i, v)`: the source is decoded first (an empty / malformed text, a reader that fails: the decoder's
error), then the target is looked at: `reflect.TypeOf(v).Kind() != reflect.Ptr` ⇒ `errValueNotSettable`, a document that is
an object needs `Deref(type)` to be a struct (else `errTypeMismatch`), `ValidatePtr` refuses a nil pointer.  A `**T` target is
allocated and filled.  At the pinned commit `reflect.TypeOf(nil).Kind()` panics for an untyped nil target
(`Props.pinned_nil_target_panics`; fixes/not-applied/C08-nil-target.patch).  A panic of the caller's reader is the caller's: it propagates. -/

inductive Target where
  | ptr            -- *T
  | ptrptr         -- **T (nil inner pointer): allocated
  | nilIface       -- untyped nil
  | value          -- T, not a pointer
  | nilPtr         -- (*T)(nil)
  | ptrNonStruct   -- *int
  deriving Repr, DecidableEq

inductive Source where
  | doc            -- a document was decoded
  | empty          -- empty text / reader at EOF
  | malformed      -- not JSON (truncated, over the body cap of rest/httpx)
  | readErr        -- the reader returned an error
  | readPanic      -- the reader panicked
  deriving Repr, DecidableEq

def Target.valid : Target → Bool
  | .ptr | .ptrptr => true
  | _ => false

def entryPoint (c : Cfg) (tgt : Target) (src : Source) (ty : Ty) (j : J) : Except Err Val :=
  match src with
  | .readPanic => .error .panic
  | .empty | .malformed | .readErr => .error .json
  | .doc =>
    match tgt with
    | .nilIface => if c.pinned then .error .panic else .error .unsupported
    | .value => .error .unsupported
    | .nilPtr => .error .unsupported
    | .ptrNonStruct => .error .mismatch
    | .ptr | .ptrptr => unmarshal c ty j

/-- `withJsonBody`: the body of a request is read iff `Content-Length > 0` and the content type names JSON -/
def withJsonBody (contentLength : Int) (jsonType : Bool) : Bool := decide (contentLength > 0) && jsonType

/-- `httpx.Parse` on a request as it arrives: the body counts only under `withJsonBody` (a chunked body, `Content-Length: -1`,
or a body under another content type is not looked at), and then it must decode -/
def httpParseReq (pinned : Bool) (fs : Fields) (p : Obj) (f : List (Str × List Str)) (h : List (Str × HVals))
    (contentLength : Int) (jsonType : Bool) (src : Source) (b : J) : Except Err VFields :=
  if withJsonBody contentLength jsonType then
    match src with
    | .doc => httpParse pinned fs p f h (some b)
    | .readPanic =>
      (match httpParsePath pinned fs p, httpParseForm pinned fs f, httpParseHeaders pinned fs h with
       | .ok _, .ok _, .ok _ => .error .panic
       | .error e, _, _ => .error e
       | _, .error e, _ => .error e
       | _, _, .error e => .error e)
    | _ =>
      (match httpParsePath pinned fs p, httpParseForm pinned fs f, httpParseHeaders pinned fs h with
       | .ok _, .ok _, .ok _ => .error .json
       | .error e, _, _ => .error e
       | _, .error e, _ => .error e
       | _, _, .error e => .error e)
  else httpParse pinned fs p f h none

end GoZero.C08
