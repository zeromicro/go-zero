/-
C12 — the arithmetic behind the refinement wheel ⊑ timer table: `off` under `getPositionAndCircle` and under one tick,
the potential `remaining` (ticks until an entry fires), the abstraction map `abs`, well-formedness `WF`, and what
`moveTask` and one scan do to `remaining`.
-/
import GoZero.C12.Spec
namespace GoZero.C12

theorem off_lt (n p q : Nat) (hn : 0 < n) : off n p q < n := Nat.mod_lt _ hn

/-- the slot chosen by `getPositionAndCircle` is `(steps-1) % n` past the next-scanned slot. -/
theorem off_pos (n p s : Nat) (hp : p < n) (hs : 1 ≤ s) :
    off n p ((p + s) % n) = (s - 1) % n := by
  have ho := Nat.mod_lt (s - 1) (by omega : 0 < n)
  have e : p + s = p + 1 + (s - 1) := by omega
  rw [e, ← Nat.add_mod_mod]
  generalize (s - 1) % n = o at ho ⊢
  by_cases h : p + 1 + o < n
  · rw [Nat.mod_eq_of_lt h, off, show p + 1 + o + n - p - 1 = o + n by omega, Nat.add_mod_right, Nat.mod_eq_of_lt ho]
  · rw [Nat.mod_eq_sub_mod (by omega), Nat.mod_eq_of_lt (by omega), off,
      show p + 1 + o - n + n - p - 1 = o by omega, Nat.mod_eq_of_lt ho]

/-- going `off n p q` slots on from the slot scanned next (`p + 1`) arrives at `q`: `off` counts the ticks until `q` is
scanned, less one. -/
theorem off_inv (n p q : Nat) (hp : p < n) (hq : q < n) : (p + 1 + off n p q) % n = q := by
  rw [off, Nat.add_mod_mod, show p + 1 + (q + n - p - 1) = q + n by omega, Nat.add_mod_right, Nat.mod_eq_of_lt hq]

/-! One tick seen from a slot: the slot scanned next has offset 0, the slot just scanned is a full revolution
away, every other slot comes one tick closer. -/

theorem off_next (n p : Nat) (hp : p < n) : off n p ((p + 1) % n) = 0 := by
  simpa using off_pos n p 1 hp (Nat.le_refl 1)

theorem off_self (n q : Nat) (hq : q < n) : off n q q = n - 1 := by
  rw [off, show q + n - q - 1 = n - 1 by omega, Nat.mod_eq_of_lt (by omega)]

theorem off_tick (n p q : Nat) (hp : p < n) (hq : q < n) (hne : q ≠ (p + 1) % n) :
    off n ((p + 1) % n) q + 1 = off n p q := by
  have ho := off_lt n p q (by omega)
  have hi := off_inv n p q hp hq
  have h0 : off n p q ≠ 0 := fun h => hne (by rw [h] at hi; exact hi.symm)
  have := off_pos n ((p + 1) % n) (off n p q) (Nat.mod_lt _ (by omega)) (by omega)
  rw [Nat.mod_add_mod, hi, Nat.mod_eq_of_lt (by omega : off n p q - 1 < n)] at this
  omega

/-- ticks until the entry fires. -/
def remaining (n p : Nat) (e : Entry) : Nat := off n p e.slot + 1 + e.circle * n + e.diff

/-! The abstraction map: a live entry as the timer with `rem = remaining`. -/
def absEntry (n p : Nat) (e : Entry) : Spec.Timer :=
  { key := e.key, value := e.value, rem := remaining n p e }

def abs (tw : TW) : Spec.Table := tw.entries.map (absEntry tw.n tw.tickedPos)

/-! `diff < n` is there for the relocation of a scan: the entry moves `diff` slots on, and `off_pos` gives
`(diff - 1) % n`, which must be `diff - 1` (`scan_spec`).  That a key has at most one entry is NOT part of `WF`:
`moveWith` and `Spec.move` both act on every entry of the key, so the refinement needs no uniqueness; it is read off
the table afterwards (`reachable_wheel_keys_nodup`). -/
structure WF (tw : TW) : Prop where
  npos : 0 < tw.n
  tp   : tw.tickedPos < tw.n
  ent  : ∀ e ∈ tw.entries, e.slot < tw.n ∧ e.diff < tw.n

theorem divmod_steps (n s : Nat) (hs : 1 ≤ s) : (s - 1) % n + 1 + (s - 1) / n * n = s := by
  have := Nat.div_add_mod (s - 1) n
  rw [Nat.mul_comm] at this
  omega

/-- a fresh entry placed by `getPositionAndCircle` fires after exactly `steps` ticks. -/
theorem remaining_fresh (n p s k v : Nat) (hp : p < n) (hs : 1 ≤ s) :
    remaining n p { key := k, value := v, slot := (posCircle n p s).1, circle := (posCircle n p s).2, diff := 0 } = s := by
  simp only [remaining, posCircle, off_pos n p s hp hs, Nat.add_zero]
  exact divmod_steps n s hs

theorem applyMove_key (mc : Nat → Nat → Nat → Nat → MoveCase) (tw : TW) (e : Entry) (s : Nat) :
    (applyMove mc tw e s).key = e.key := by
  unfold applyMove; split <;> rfl

theorem applyMove_value (mc : Nat → Nat → Nat → Nat → MoveCase) (tw : TW) (e : Entry) (s : Nat) :
    (applyMove mc tw e s).value = e.value := by
  unfold applyMove; split <;> rfl

/-- `moveTask` with offsets taken relative to `tickedPos` (`moveCase`, not `moveCaseBuggy`) re-schedules the entry to
fire after exactly `steps` ticks, and keeps it well formed. -/
theorem applyMove_spec (tw : TW) (h : WF tw) (e : Entry) (he : e.slot < tw.n) (s : Nat) (hs : 1 ≤ s) :
    remaining tw.n tw.tickedPos (applyMove moveCase tw e s) = s
    ∧ (applyMove moveCase tw e s).slot < tw.n ∧ (applyMove moveCase tw e s).diff < tw.n := by
  have hn := h.npos
  have hnew := off_pos tw.n tw.tickedPos s h.tp hs
  have hold : off tw.n tw.tickedPos e.slot < tw.n := off_lt _ _ _ hn
  have hdm := divmod_steps tw.n s hs
  have hmod : (s - 1) % tw.n < tw.n := Nat.mod_lt _ hn
  unfold applyMove moveCase
  simp only [posCircle, hnew]
  generalize hO : off tw.n tw.tickedPos e.slot = oldOff at *
  generalize (s - 1) % tw.n = newOff at *
  generalize (s - 1) / tw.n = c at *
  by_cases h1 : newOff ≥ oldOff
  · -- new offset ≥ old: the entry stays in its slot and `diff` makes up the difference
    simp only [h1, if_true, remaining, hO]
    exact ⟨by omega, he, by omega⟩
  · by_cases h2 : c > 0
    · -- smaller, with a revolution to spare: it stays, one circle less, and `diff` wraps round
      obtain ⟨c', rfl⟩ : ∃ c', c = c' + 1 := ⟨c - 1, by omega⟩
      simp only [h1, h2, if_true, if_false, remaining, hO, Nat.add_sub_cancel]
      rw [Nat.succ_mul] at hdm
      exact ⟨by omega, he, by omega⟩
    · -- smaller and no revolution: it is re-placed like a fresh entry
      obtain rfl : c = 0 := by omega
      simp only [h1, h2, if_false, remaining, hnew]
      exact ⟨by omega, Nat.mod_lt _ hn, hn⟩

/-- One tick seen by one live entry: it fires iff it had exactly one tick remaining; otherwise it
stays well formed with one tick less. -/
theorem scan_spec (n p : Nat) (hp : p < n) (e : Entry) (hs : e.slot < n) (hd : e.diff < n) :
    match scanEntry n ((p + 1) % n) e with
    | .fire => remaining n p e = 1
    | .stay e' => remaining n p e ≠ 1 ∧ remaining n ((p + 1) % n) e' + 1 = remaining n p e
        ∧ e'.key = e.key ∧ e'.value = e.value ∧ e'.slot < n ∧ e'.diff < n := by
  have hn : 0 < n := by omega
  have hp' : (p + 1) % n < n := Nat.mod_lt _ hn
  unfold scanEntry
  by_cases c1 : e.slot = (p + 1) % n
  · -- the entry sits in the scanned slot: at offset 0 before the tick, a full revolution away after it
    have h0 : off n p e.slot = 0 := c1 ▸ off_next n p hp
    have h1 : off n ((p + 1) % n) e.slot = n - 1 := by rw [c1]; exact off_self n _ hp'
    rw [if_neg (fun h => h c1)]
    by_cases c2 : e.circle > 0
    · obtain ⟨c', hc'⟩ : ∃ c', e.circle = c' + 1 := ⟨e.circle - 1, by omega⟩
      rw [if_pos c2]
      dsimp only [remaining]
      rw [h0, h1, hc', Nat.add_sub_cancel, Nat.succ_mul]
      exact ⟨by omega, by omega, rfl, rfl, hs, hd⟩
    · have c2' : e.circle = 0 := by omega
      by_cases c3 : e.diff > 0
      · have hnew := off_pos n ((p + 1) % n) e.diff hp' c3
        rw [Nat.mod_eq_of_lt (by omega : e.diff - 1 < n)] at hnew
        rw [if_neg c2, if_pos c3]
        dsimp only [remaining]
        rw [h0, hnew, c2']
        exact ⟨by omega, by omega, rfl, rfl, Nat.mod_lt _ hn, hn⟩
      · rw [if_neg c2, if_neg c3]
        dsimp only [remaining]
        rw [h0, c2']
        omega
  · have := off_tick n p e.slot hp hs c1
    rw [if_pos c1]
    dsimp only [remaining]
    exact ⟨by omega, by omega, rfl, rfl, hs, hd⟩

end GoZero.C12
