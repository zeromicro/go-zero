/-
C12 — Tie for the clients of the wheel: core/stores/cache/cleaner.go, core/collection/cache.go,
core/timex/ticker.go (what the extractor reads from them = what Clients.lean was written against), and the typed
tables of timingwheel.go itself: which method sends on which channel, which handler `run` dispatches it to, and
where the recovery sits around the callbacks.
-/
import GoZero.Extracted.C12
import GoZero.C12.Clients
import GoZero.C12.Deliver
namespace GoZero.C12.TieClients
open GoZero.C12
open GoZero.Extracted.C12

/-- Go's `nextDelay` is the model's, for every delay. -/
theorem tie_nextDelay (d : Int) : Extracted.C12.nextDelay d = GoZero.C12.nextDelay d := rfl

/-- AddCleanTask arms the task one second ahead and stores that second as the task's delay (the model's
`addCleanTask`); the cleaner's wheel ticks once per second and has 300 slots (the harness' `n`, `interval`). -/
theorem tie_cleanerConstants :
    addCleanTaskTimerDelay = (second : Int) ∧ addCleanTaskValueDelay = (second : Int)
    ∧ cleanerInterval = (second : Int) ∧ cleanerSlotsArg = 300 ∧ cleanerSlots = 300 ∧ cleanWorkers = 5 := by decide

theorem tie_addCleanTask : addCleanTaskStmts =
    ["tw := timingWheel.Load().(*collection.TimingWheel)",
     "if err := tw.SetTimer(stringx.Randn(taskKeyLen), delayTask{ delay: time.Second, task: task, keys: keys, }, time.Second); err != nil {",
     "(log)", "}"] := rfl

/-- `clean` = the model's `cleanerCb`: run the task on the task runner; success → nothing; failure → `nextDelay`
of the stored delay; if there is one, store it and `SetTimer(key, dt, next)` on the same key (not MoveTimer: the key
is gone when the callback runs, `rearm_with_move_from_callback_is_lost`), else give up. -/
theorem tie_clean : cleanStmts =
    ["taskRunner.Schedule(func {", "dt := value.(delayTask)", "err := dt.task()", "if err == nil {", "return", "}",
     "next, ok := nextDelay(dt.delay)", "if ok {", "dt.delay = next",
     "tw := timingWheel.Load().(*collection.TimingWheel)",
     "if err = tw.SetTimer(key, dt, next); err != nil {", "(log)", "}",
     "} else {", "(log)", "(log)", "(log)", "}", "})"] := rfl

theorem tie_cleanerInit : cleanerInitStmts =
    ["tw, err := collection.NewTimingWheel(time.Second, timingWheelSlots, clean)", "logx.Must(err)",
     "timingWheel.Store(tw)", "proc.AddShutdownListener(func {", "if err := tw.Drain(clean); err != nil {",
     "(log)", "}", "})"] := rfl

theorem tie_cacheConstants :
    cacheInterval = (second : Int) ∧ cacheSlotsArg = 300 ∧ cacheSlots = 300 := by decide

/-- SetWithExpire stores the entry and (re)starts its timer with SetTimer (key, value, jittered expiry); Set uses
the cache's expire; Del removes the entry and its timer; the expiry callback is Del (the model's `cacheLCb`, which
every theorem is about; `cacheCb` is the same callback over a bare key list, used by the driver's mode=cache).
The model has no jitter: the `e` of `CacheL.setWithExpire` is what SetTimer is given, i.e. the result of
`unstableExpiry.AroundDuration(expire)` (± 5 %); the harnesses switch the jitter off. -/
theorem tie_cache :
    cacheSetWithExpireStmts =
      ["c.lock.Lock()", "c.data[key] = value", "c.lruCache.add(key)", "c.lock.Unlock()",
       "expiry := c.unstableExpiry.AroundDuration(expire)", "c.timingWheel.SetTimer(key, value, expiry)"]
    ∧ cacheSetStmts = ["c.SetWithExpire(key, value, c.expire)"]
    ∧ (cacheDelStmts =
        ["c.lock.Lock()", "delete(c.data, key)", "c.lruCache.remove(key)", "c.lock.Unlock()",
         "c.timingWheel.RemoveTimer(key)"]
       -- or with fixes/not-applied/C12-cache-del-removes-timer-under-lock.patch (the same requests, issued before the unlock)
       ∨ cacheDelStmts =
        ["c.lock.Lock()", "delete(c.data, key)", "c.lruCache.remove(key)", "c.timingWheel.RemoveTimer(key)",
         "c.lock.Unlock()"])
    ∧ cacheExpiryCallback = ["key, ok := k.(string)", "if !ok {", "return", "}", "cache.Del(key)"]
    ∧ cacheOnEvictStmts = ["delete(c.data, key)", "c.timingWheel.RemoveTimer(key)"] :=
  ⟨rfl, rfl, .inl rfl, rfl, rfl⟩

/-- the real ticker is `time.NewTicker(d)` and hands out its channel; the fake ticker buffers one tick,
`Tick` sends one value, `Stop` closes the channel (the run loop's `ticker.Stop()`). -/
theorem tie_tickers :
    newTickerStmts = ["return &realTicker{ Ticker: time.NewTicker(d), }"]
    ∧ realTickerChanStmts = ["return rt.C"]
    ∧ newFakeTickerStmts = ["return &fakeTicker{ c: make(chan time.Time, 1), done: make(chan lang.PlaceholderType, 1), }"]
    ∧ fakeTickerChanStmts = ["return ft.c"]
    ∧ fakeTickerStopStmts = ["close(ft.c)"]
    ∧ fakeTickerTickStmts = ["ft.c <- time.Now()"] := ⟨rfl, rfl, rfl, rfl, rfl, rfl⟩

/-- EVERY call of SetTimer / MoveTimer / RemoveTimer / Drain in EVERY function of cache.go and cleaner.go is issued
by the calling goroutine itself (not under `go`, not through threading.GoSafe, not from a defer): the requests of
one operation reach the wheel in program order, which is what `CacheL` / `cleanerCb` / `ApiG.issue` assume.
(seeded change C12-7 turns the row of Cache.onEvict into `detached = true`.) -/
theorem tie_wheelCallsInProgramOrder :
    (cacheWheelCalls ++ cleanerWheelCalls).all (fun c => !c.detached && !c.deferred) = true := by decide

/-- which function calls which method with which arguments (the calls `CacheL` issues: Del → RemoveTimer(key),
SetWithExpire → SetTimer(key, value, expiry), onEvict → RemoveTimer(key); no other function touches the wheel). -/
theorem tie_cacheWheelCalls : cacheWheelCalls =
    [⟨"Cache.Del", "RemoveTimer", ["key"], false, false⟩,
     ⟨"Cache.SetWithExpire", "SetTimer", ["key", "value", "expiry"], false, false⟩,
     ⟨"Cache.onEvict", "RemoveTimer", ["key"], false, false⟩] := rfl

theorem tie_cleanerWheelCalls : cleanerWheelCalls =
    [⟨"init", "Drain", ["clean"], false, false⟩,
     ⟨"AddCleanTask", "SetTimer",
       ["stringx.Randn(taskKeyLen)", "delayTask{ delay: time.Second, task: task, keys: keys, }", "time.Second"], false, false⟩,
     ⟨"clean", "SetTimer", ["key", "dt", "next"], false, false⟩] := rfl

/-- forwarded argument lists of the delegating entry points: Set → SetWithExpire(key, value, c.expire)
(`CacheL.set`), Take → Set(key, v), the expiry handed to the jitter is the caller's, NewTimingWheel →
NewTimingWheelWithTicker(interval, numSlots, execute, timex.NewTicker(interval)). -/
theorem tie_forwardedArguments :
    cacheSetForward = ["key", "value", "c.expire"] ∧ cacheTakeForward = ["key", "v"]
    ∧ cacheExpiryForward = ["expire"]
    ∧ newTimingWheelForward = ["interval", "numSlots", "execute", "timex.NewTicker(interval)"]
    ∧ newTimingWheelTickerForward = ["interval"] := ⟨rfl, rfl, rfl, rfl, rfl⟩

/-- Go's guard of WithLimit is the model's configuration, for every limit. -/
theorem tie_withLimit (limit expire : Int) :
    (withLimitGuard limit = true ↔ (CacheL.init limit expire).limit ≠ 0)
    ∧ (withLimitGuard limit = true → ((CacheL.init limit expire).limit : Int) = limit) := by
  unfold withLimitGuard CacheL.init
  constructor
  · by_cases h : limit > 0 <;> simp [h] <;> omega
  · intro h; simp at h; simp [h]; omega

/-- Go's eviction test of keyLru.add is the model's (`lruAdd`), for every list and limit. -/
theorem tie_lruEvict (c : CacheL) (k : Nat) :
    lruEvictGuard ((k :: c.lru).length : Nat) (c.limit : Nat) = decide ((k :: c.lru).length > c.limit) := by
  unfold lruEvictGuard
  simp only [gt_iff_lt, Int.ofNat_lt]

/-- the LRU list: a known key moves to the front; a new key is pushed to the front and, past the limit, the BACK
element is removed; removeElement unlinks, forgets the element and calls onEvict with its key; remove goes
through removeElement as well; without WithLimit both operations are empty (`CacheL.lruAdd` / `lruRemove`). -/
theorem tie_lru :
    lruAddStmts =
      ["if elem, ok := klru.elements[key]; ok {", "klru.evicts.MoveToFront(elem)", "return", "}",
       "elem := klru.evicts.PushFront(key)", "klru.elements[key] = elem",
       "if klru.evicts.Len() > klru.limit {", "klru.removeOldest()", "}"]
    ∧ lruRemoveStmts = ["if elem, ok := klru.elements[key]; ok {", "klru.removeElement(elem)", "}"]
    ∧ lruRemoveOldestStmts = ["elem := klru.evicts.Back()", "if elem != nil {", "klru.removeElement(elem)", "}"]
    ∧ lruRemoveElementStmts =
      ["klru.evicts.Remove(e)", "key := e.Value.(string)", "delete(klru.elements, key)", "klru.onEvict(key)"]
    ∧ emptyLruAddStmts = [] ∧ emptyLruRemoveStmts = [] := ⟨rfl, rfl, rfl, rfl, rfl, rfl⟩

/-- the constructors: newKeyLru stores the limit and the eviction callback it is given, WithLimit hands it
`cache.onEvict`, NewCache starts from the empty LRU and applies the options in order. -/
theorem tie_lruCtor :
    newKeyLruStmts =
      ["return &keyLru{ limit: limit, evicts: list.New(), elements: make(map[string]*list.Element), onEvict: onEvict, }"]
    ∧ withLimitStmts = ["return func(cache *Cache) { if limit > 0 { cache.lruCache = newKeyLru(limit, cache.onEvict) } }"]
    ∧ newCacheOptionStmts =
      ["cache := &Cache{ data: make(map[string]any), expire: expire, lruCache: emptyLruCache, barrier: syncx.NewSingleFlight(), unstableExpiry: mathx.NewUnstable(expiryDeviation), }",
       "for _, opt := range opts { opt(cache) }"] := ⟨rfl, rfl, rfl⟩

/-- Get / doGet / Take (`CacheL.doGet`, `CacheL.take`): a hit touches the LRU list under the lock; Take looks up
twice, calls fetch, returns its error, and stores only a fetched value, with Set. -/
theorem tie_getTake :
    cacheDoGetStmts =
      ["c.lock.Lock()", "defer c.lock.Unlock()", "value, ok := c.data[key]", "if ok {", "c.lruCache.add(key)", "}",
       "return value, ok"]
    ∧ cacheGetStmts =
      ["value, ok := c.doGet(key)", "if ok {", "c.stats.IncrementHit()", "} else {", "c.stats.IncrementMiss()", "}",
       "return value, ok"]
    ∧ cacheTakeStmts =
      ["if val, ok := c.doGet(key); ok {", "c.stats.IncrementHit()", "return val, nil", "}", "var fresh bool",
       "val, err := c.barrier.Do(key, func {", "if val, ok := c.doGet(key); ok {", "return val, nil", "}",
       "v, e := fetch()", "if e != nil {", "return nil, e", "}", "fresh = true", "c.Set(key, v)", "return v, nil", "})",
       "if err != nil {", "return nil, err", "}", "if fresh {", "c.stats.IncrementMiss()", "return val, nil", "}",
       "c.stats.IncrementHit()", "return val, nil"] := ⟨rfl, rfl, rfl⟩

/-- the due tasks of a tick / of a Drain are collected in a slice declared inside the function and never stored
anywhere else: every goroutine started by runTasks / drainAll owns its batch (`Dl`, not `DlShared`). -/
theorem tie_tasksOwned :
    scanTasksDecl = ["var tasks []timingTask", "tasks = append(tasks, timingTask{ key: task.key, value: task.value, })"]
    ∧ drainTasksDecl =
      ["var tasks []timingTask", "tasks = append(tasks, timingTask{ key: task.key, value: task.value, })",
       "task := tasks[i]"] := ⟨rfl, rfl⟩

/-- does the construct recover a panic of what it encloses? (GoSafe / RunSafe: `defer rescue.Recover()`;
TaskRunner.Schedule: its goroutine defers rescue.Recover) -/
def Nest.recovers : Nest → Bool
  | .goSafe | .runSafe | .schedule => true
  | _ => false

/-- does the construct start a goroutine for what it encloses? -/
def Nest.spawns : Nest → Bool
  | .go | .goSafe | .schedule => true
  | _ => false

/-- the recover scope of a delivery, from the constructs around the callback's call (outermost first): a
recovering construct INSIDE the loop → per task; only outside → around the loop; none → no recovery at all. -/
def scopeOf (path : List Nest) : Option Scope :=
  if ((path.dropWhile (· ≠ .loop)).drop 1).any Nest.recovers then some .perTask
  else if (path.takeWhile (· ≠ .loop)).any Nest.recovers then some .aroundLoop
  else none

/-- a goroutine per task (inside the loop): then even Goexit ends only that task's goroutine. -/
def goroutinePerTask (path : List Nest) : Bool := ((path.dropWhile (· ≠ .loop)).drop 1).any Nest.spawns

/-- runTasks: ONE goroutine per tick, the loop inside it, the recovery inside the loop — the `Scope.perTask` of
Deliver.lean (PropsDeliver.lean: `panicking_callback_affects_no_other_timer`), and no goroutine per task (`goexit_loses_the_rest_of_its_tick`
is the behaviour of the code).  Seeded C12-9 gives `[.goSafe, .loop]`: `some .aroundLoop`. -/
theorem tie_runTasksScope :
    runTasksNest = [.go, .loop, .runSafe] ∧ scopeOf runTasksNest = some .perTask
    ∧ goroutinePerTask runTasksNest = false := by decide

/-- drainAll's delivery: one goroutine hands out, and every task gets a goroutine of its own that recovers
(TaskRunner.Schedule): neither a panic nor Goexit in a Drain callback touches another task. -/
theorem tie_drainScope :
    drainNest = [.go, .loop, .schedule] ∧ scopeOf drainNest = some .perTask ∧ goroutinePerTask drainNest = true := by decide

/-- MoveTimer below one interval: the callback runs on a recovering goroutine of its own, outside any loop. -/
theorem tie_moveImmediateScope :
    moveImmediateNest = [.goSafe] ∧ (moveImmediateNest.any Nest.recovers ∧ moveImmediateNest.any Nest.spawns) = true := by decide

/-- the public method a call of the model is (a tick comes from the ticker, Stop closes the stop channel). -/
def methodOfCall : Call → Option String
  | .setTimer _ _ _ => some "SetTimer"
  | .moveTimer _ _ => some "MoveTimer"
  | .removeTimer _ => some "RemoveTimer"
  | .drain => some "Drain"
  | _ => none

/-- the handler the model runs for an accepted call (`ApiG.step` → `Op` → `stepWith`). -/
def handlerOfCall : Call → Option String
  | .setTimer _ _ _ => some "setTask"
  | .moveTimer _ _ => some "moveTask"
  | .removeTimer _ => some "removeTask"
  | .drain => some "drainAll"
  | _ => none

/-- Go: the channel the method sends on, then the handler `run` calls for what it receives from that channel. -/
def goHandlerOfCall (c : Call) : Option String := do
  let m ← methodOfCall c
  let row ← apiSends.find? (·.method = m)
  let d ← runDispatch.find? (·.chan = row.chan)
  pure d.handler

/-- [semantic, for every call]  method → channel → handler in the Go source is the handler the model runs: a method
sending on another method's channel, or `run` dispatching a channel to another handler, breaks this. -/
theorem tie_methodToHandler (c : Call) : goHandlerOfCall c = handlerOfCall c := by
  cases c <;> rfl

/-- every public method: the request carries exactly the caller's arguments (delay, key, value / delay, key / key / fn),
returns nil once the loop HAS the request (send on an unbuffered channel) and ErrClosed when stopChannel is closed. -/
theorem tie_apiSends : apiSends =
    [⟨"SetTimer", "setChannel", [("delay", "delay"), ("key", "key"), ("value", "value")], "nil", "stopChannel", "ErrClosed"⟩,
     ⟨"MoveTimer", "moveChannel", [("delay", "delay"), ("key", "key")], "nil", "stopChannel", "ErrClosed"⟩,
     ⟨"RemoveTimer", "removeChannel", [("", "key")], "nil", "stopChannel", "ErrClosed"⟩,
     ⟨"Drain", "drainChannel", [("", "fn")], "nil", "stopChannel", "ErrClosed"⟩] := rfl

/-- `run`: every channel is dispatched to its handler with what was received; the tick goes to onTick; only the
stop channel ends the loop, after stopping the ticker; each channel appears once. -/
theorem tie_runDispatch : runDispatch =
    [⟨"ticker.Chan()", "", "onTick", [], false⟩,
     ⟨"setChannel", "task", "setTask", ["&task"], false⟩,
     ⟨"removeChannel", "key", "removeTask", ["key"], false⟩,
     ⟨"moveChannel", "task", "moveTask", ["task"], false⟩,
     ⟨"drainChannel", "fn", "drainAll", ["fn"], false⟩,
     ⟨"stopChannel", "", "ticker.Stop", [], true⟩]
    ∧ (runDispatch.map (·.chan)).Nodup := ⟨rfl, by decide⟩

end GoZero.C12.TieClients
