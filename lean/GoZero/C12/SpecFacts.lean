/-
C12 — what the timer table `Spec` means, in the property's own words: a pending timer fires at
exactly the tick at which its remaining count runs out, once, with its latest value; a key that is
not pending never fires.
-/
import GoZero.C12.Spec
namespace GoZero.C12.Spec

/-- operations that concern key `k` (or everything: drain). -/
def touches (k : Nat) : Op → Bool
  | .set k' _ _ => k' = k
  | .move k' _ => k' = k
  | .remove k' => k' = k
  | .drain => true
  | .tick => false

def isTick : Op → Bool
  | .tick => true
  | _ => false

def ticksIn (ops : List Op) : Nat := (ops.filter isTick).length

def keys (t : Table) : List Nat := t.map (·.key)

def KeysNodup (t : Table) : Prop := (keys t).Nodup

theorem hasKey_iff (t : Table) (k : Nat) : hasKey t k = true ↔ k ∈ keys t := by
  simp [hasKey, keys]

theorem keys_map_same (t : Table) (f : Timer → Timer) (hf : ∀ x, (f x).key = x.key) :
    keys (t.map f) = keys t := by
  simp [keys, List.map_map, Function.comp_def, hf]

theorem keys_set (t : Table) (k v s : Nat) :
    keys (set t k v s) = if hasKey t k then keys t else keys t ++ [k] := by
  unfold set
  split
  · exact keys_map_same _ _ fun x => by split <;> rfl
  · simp [keys]

theorem mem_keys_set (t : Table) (k v s j : Nat) : j ∈ keys (set t k v s) ↔ j ∈ keys t ∨ j = k := by
  rw [keys_set]
  split
  · next h => exact ⟨Or.inl, fun h' => h'.elim id fun e => e ▸ (hasKey_iff t k).mp h⟩
  · simp

theorem keys_move (t : Table) (k s : Nat) : keys (move t k s) = keys t :=
  keys_map_same _ _ fun x => by split <;> rfl

/-- the keys left when the entries of key `k` are filtered out (the table's `remove`, the cache's `delete`). -/
theorem mem_map_filter_ne {α : Type} (f : α → Nat) (l : List α) (k j : Nat) :
    j ∈ (l.filter (f · ≠ k)).map f ↔ j ∈ l.map f ∧ j ≠ k := by
  simp only [List.mem_map, List.mem_filter, decide_eq_true_eq]
  exact ⟨fun ⟨x, ⟨hx, hne⟩, e⟩ => ⟨⟨x, hx, e⟩, e ▸ hne⟩, fun ⟨⟨x, hx, e⟩, hne⟩ => ⟨x, ⟨hx, e ▸ hne⟩, e⟩⟩

theorem mem_keys_remove (t : Table) (k j : Nat) : j ∈ keys (remove t k) ↔ j ∈ keys t ∧ j ≠ k :=
  mem_map_filter_ne Timer.key t k j

theorem hasKey_remove_self (t : Table) (k : Nat) : hasKey (remove t k) k = false := by
  simp [hasKey, remove]

theorem keys_tick (t : Table) : keys (tick t).1 = keys (t.filter (·.rem ≠ 1)) :=
  keys_map_same _ (fun x => { x with rem := x.rem - 1 }) fun _ => rfl

theorem mem_keys_tick (t : Table) (j : Nat) :
    j ∈ keys t ↔ (j ∈ keys (tick t).1 ∨ j ∈ (tick t).2.map (·.1)) := by
  rw [keys_tick]
  simp only [keys, tick, List.map_map, List.mem_map, List.mem_filter, Function.comp, decide_eq_true_eq]
  constructor
  · rintro ⟨x, hx, rfl⟩
    by_cases h1 : x.rem = 1
    · exact .inr ⟨x, ⟨hx, h1⟩, rfl⟩
    · exact .inl ⟨x, ⟨hx, h1⟩, rfl⟩
  · rintro (⟨x, ⟨hx, _⟩, rfl⟩ | ⟨x, ⟨hx, _⟩, rfl⟩) <;> exact ⟨x, hx, rfl⟩

theorem keys_filter_sublist (t : Table) (p : Timer → Bool) : (keys (t.filter p)).Sublist (keys t) :=
  List.Sublist.map _ List.filter_sublist

theorem fired_iff (t : Table) (k v : Nat) : (k, v) ∈ (tick t).2 ↔ (⟨k, v, 1⟩ : Timer) ∈ t := by
  simp only [tick, List.mem_map, List.mem_filter, decide_eq_true_eq, Prod.mk.injEq]
  exact ⟨fun ⟨x, ⟨hx, h1⟩, hk, hv⟩ => by cases x; cases h1; cases hk; cases hv; exact hx,
    fun h => ⟨_, ⟨h, rfl⟩, rfl, rfl⟩⟩

theorem step_keys_nodup (t : Table) (h : KeysNodup t) (op : Op) : KeysNodup (step t op).1 := by
  unfold KeysNodup at *
  cases op with
  | set k v s =>
    show (keys (set t k v _)).Nodup
    rw [keys_set]
    split
    · exact h
    · next hk =>
      refine List.nodup_append.mpr ⟨h, by simp, fun a ha b hb e => hk ?_⟩
      rw [hasKey_iff, ← List.mem_singleton.mp hb, ← e]
      exact ha
  | move k s =>
    simp only [step]
    split
    · exact h
    · rw [keys_move]; exact h
  | remove k => exact (keys_filter_sublist t _).nodup h
  | tick => rw [show step t .tick = tick t from rfl, keys_tick]; exact (keys_filter_sublist t _).nodup h
  | drain => exact List.nodup_nil

abbrev after (t : Table) (ops : List Op) : Table := ops.foldl (fun t op => (step t op).1) t

theorem after_keys_nodup (t : Table) (h : KeysNodup t) (ops : List Op) : KeysNodup (after t ops) :=
  List.foldlRecOn ops _ h fun t ht op _ => step_keys_nodup t ht op

theorem reachable_keys_nodup (ops : List Op) : KeysNodup (after [] ops) :=
  after_keys_nodup [] List.nodup_nil ops

theorem unique_of_nodup (t : Table) (h : KeysNodup t) (x y : Timer) (hx : x ∈ t) (hy : y ∈ t)
    (hk : x.key = y.key) : x = y := by
  have hp : t.Pairwise fun a b => a.key ≠ b.key := List.pairwise_map.mp h
  exact List.Pairwise.forall_of_forall_of_flip (R := fun a b => a.key = b.key → a = b) (fun _ _ _ => rfl)
    (hp.imp fun hne hk => absurd hk hne) (hp.imp fun hne hk => absurd hk.symm hne) hx hy hk

theorem fired_mem_keys (t : Table) (op : Op) (k v : Nat) (h : (k, v) ∈ (step t op).2) : k ∈ keys t := by
  have key : ∀ l : Table, l.Sublist t → (k, v) ∈ l.map (fun x => (x.key, x.value)) → k ∈ keys t := by
    intro l hl hm
    obtain ⟨x, hx, he⟩ := List.mem_map.mp hm
    exact List.mem_map.mpr ⟨x, hl.subset hx, (Prod.mk.inj he).1⟩
  cases op with
  | set | remove => cases h
  | move k' s =>
    simp only [step] at h
    split at h
    · exact key _ List.filter_sublist h
    · cases h
  | tick => exact key _ List.filter_sublist h
  | drain => exact key _ (List.Sublist.refl t) h

theorem step_keys_subset (t : Table) (k : Nat) (op : Op) (hop : touches k op = false)
    (h : k ∈ keys (step t op).1) : k ∈ keys t := by
  cases op with
  | set k' v s =>
    exact ((mem_keys_set t k' v _ k).mp h).resolve_right fun e => by simp [touches, e] at hop
  | move k' s =>
    simp only [step] at h
    split at h
    · exact h
    · rwa [keys_move] at h
  | remove k' => exact ((mem_keys_remove t k' k).mp h).1
  | tick => rw [show step t .tick = tick t from rfl, keys_tick] at h; exact (keys_filter_sublist t _).subset h
  | drain => cases hop

/-- **a key that is not pending never fires** until it is set again (covers removed timers and
timers that already fired). -/
theorem absent_never_fires (t : Table) (k : Nat) (hk : k ∉ keys t) (ops : List Op)
    (hun : ∀ op ∈ ops, touches k op = false) (i v : Nat) : (k, v) ∉ (run t ops).getD i [] := by
  induction ops generalizing t i with
  | nil => simp [run]
  | cons op ops ih =>
    obtain ⟨hop, hun'⟩ := List.forall_mem_cons.mp hun
    cases i with
    | zero => exact fun h => hk (fired_mem_keys t op k v h)
    | succ i => exact ih _ (fun h => hk (step_keys_subset t k op hop h)) hun' i

/-- one operation not concerning `k`, seen by `k`'s pending timer `(k, v, s)`: it fires iff the operation is a tick
and `s = 1`, and then leaves the table; otherwise it stays pending, a tick taking one off `s`. -/
theorem pending_step (t : Table) (hnd : KeysNodup t) (k v s : Nat) (hm : (⟨k, v, s⟩ : Timer) ∈ t)
    (op : Op) (hop : touches k op = false) :
    (∀ v', (k, v') ∈ (step t op).2 ↔ (v' = v ∧ isTick op = true ∧ s = 1))
    ∧ (if isTick op = true ∧ s = 1 then k ∉ keys (step t op).1
       else (⟨k, v, if isTick op then s - 1 else s⟩ : Timer) ∈ (step t op).1) := by
  cases op with
  | tick =>
    have hf : ∀ v', (k, v') ∈ (tick t).2 ↔ (v' = v ∧ s = 1) := fun v' => by
      rw [fired_iff]
      exact ⟨fun h => by cases unique_of_nodup t hnd _ _ h hm rfl; exact ⟨rfl, rfl⟩,
        fun ⟨hv, hs⟩ => hv ▸ hs ▸ hm⟩
    refine ⟨fun v' => by simpa [isTick, step] using hf v', ?_⟩
    simp only [isTick, true_and, if_true]
    split
    · next h1 =>
      rw [show step t .tick = tick t from rfl, keys_tick]
      intro hk
      obtain ⟨x, hx, hxk⟩ := List.mem_map.mp hk
      have hx' := List.mem_filter.mp hx
      cases unique_of_nodup t hnd _ _ hx'.1 hm hxk
      simp [h1] at hx'
    · next h1 => exact List.mem_map.mpr ⟨_, List.mem_filter.mpr ⟨hm, by simpa using h1⟩, rfl⟩
  | set k' v' s' =>
    have : ¬ k = k' := fun e => by simp [touches, e] at hop
    refine ⟨by simp [step, isTick], ?_⟩
    simp only [isTick, Bool.false_eq_true, false_and, if_false, step, set]
    split
    · exact List.mem_map.mpr ⟨_, hm, by simp [this]⟩
    · simp [hm]
  | move k' s' =>
    have : ¬ k = k' := fun e => by simp [touches, e] at hop
    simp only [isTick, Bool.false_eq_true, false_and, and_false, iff_false, if_false, step]
    split
    · refine ⟨fun v' h => ?_, hm⟩
      obtain ⟨x, hx, he⟩ := List.mem_map.mp h
      exact this ((Prod.mk.inj he).1.symm.trans (by simpa using (List.mem_filter.mp hx).2))
    · exact ⟨by simp, List.mem_map.mpr ⟨_, hm, by simp [this]⟩⟩
  | remove k' =>
    have : ¬ k = k' := fun e => by simp [touches, e] at hop
    refine ⟨by simp [step, isTick], ?_⟩
    simp only [isTick, Bool.false_eq_true, false_and, if_false, step, remove]
    exact List.mem_filter.mpr ⟨hm, by simpa using this⟩
  | drain => cases hop

theorem fired_absent (t : Table) (hnd : KeysNodup t) (k v : Nat) (hf : (k, v) ∈ (tick t).2) :
    k ∉ keys (tick t).1 :=
  (if_pos ⟨rfl, rfl⟩).mp (pending_step t hnd k v 1 ((fired_iff t k v).mp hf) .tick rfl).2

theorem ticksIn_cons (op : Op) (ops : List Op) :
    ticksIn (op :: ops) = (if isTick op then 1 else 0) + ticksIn ops := by
  unfold ticksIn
  simp only [List.filter_cons]
  split <;> simp <;> omega

theorem tick_counted (ops : List Op) (i : Nat) (hi : i < ops.length) (ht : isTick (ops.getD i .drain) = true) :
    1 ≤ ticksIn (ops.take (i + 1)) := by
  induction ops generalizing i with
  | nil => simp at hi
  | cons op ops ih =>
    rw [List.take_succ_cons, ticksIn_cons]
    cases i with
    | zero =>
      simp only [List.getD_cons_zero] at ht
      simp [ht]
    | succ i =>
      simp only [List.getD_cons_succ] at ht
      have := ih i (by simpa using hi) ht
      omega

/-- **A pending timer fires exactly at its due tick, exactly once, with its value.**
If `(k, v)` is pending with `s ≥ 1` ticks remaining and the following operations do not set, move or
remove `k` (and do not drain), then `(k, v')` is handed to the callback by the `i`-th of them iff
`v' = v`, that operation is a tick, and it is the `s`-th tick. -/
theorem pending_fires_exactly_at_due (t : Table) (hnd : KeysNodup t) (k v s : Nat)
    (hm : (⟨k, v, s⟩ : Timer) ∈ t) (hs : 1 ≤ s) (ops : List Op)
    (hun : ∀ op ∈ ops, touches k op = false) (i : Nat) (v' : Nat) :
    (k, v') ∈ (run t ops).getD i [] ↔
      (v' = v ∧ i < ops.length ∧ isTick (ops.getD i .drain) = true ∧ ticksIn (ops.take (i + 1)) = s) := by
  induction ops generalizing t s i with
  | nil => simp [run]
  | cons op ops ih =>
    obtain ⟨hop, hun'⟩ := List.forall_mem_cons.mp hun
    obtain ⟨hout, hnext⟩ := pending_step t hnd k v s hm op hop
    rw [List.take_succ_cons, ticksIn_cons]
    cases i with
    | zero =>
      rw [show (run t (op :: ops)).getD 0 [] = (step t op).2 from rfl, hout, show ticksIn (ops.take 0) = 0 from rfl]
      cases hT : isTick op <;> simp [hT] <;> omega
    | succ i =>
      rw [show (run t (op :: ops)).getD (i + 1) [] = (run (step t op).1 ops).getD i [] from rfl]
      simp only [List.getD_cons_succ, List.length_cons, Nat.succ_lt_succ_iff]
      split at hnext
      · -- fired by `op`: absent from here on, and the count of ticks is already past `s`
        next h1 =>
        refine iff_of_false (absent_never_fires _ k hnext ops hun' i v') fun ⟨_, hi, hti, hc⟩ => ?_
        have := tick_counted ops i hi hti
        simp only [h1.1, if_true] at hc
        omega
      · next h1 =>
        have hs' : ∀ x, 1 ≤ (if isTick op then s - 1 else s)
            ∧ ((x = if isTick op then s - 1 else s) ↔ (if isTick op then 1 else 0) + x = s) := by
          intro x; cases hT : isTick op <;> simp [hT] at h1 ⊢ <;> omega
        rw [ih _ (step_keys_nodup t hnd op) _ hnext (hs' 0).1 hun' i, (hs' _).2]

theorem getD_append_len {α} (a b : List α) (j : Nat) (d : α) : (a ++ b).getD (a.length + j) d = b.getD j d := by
  rw [List.getD_eq_getElem?_getD, List.getElem?_append_right (Nat.le_add_right _ _), Nat.add_sub_cancel_left,
    List.getD_eq_getElem?_getD]

theorem run_append (t : Table) (a b : List Op) :
    run t (a ++ b) = run t a ++ run (after t a) b := by
  induction a generalizing t with
  | nil => rfl
  | cons op a ih => simp only [List.cons_append, run, List.foldl_cons, ih]

theorem run_length (t : Table) (ops : List Op) : (run t ops).length = ops.length := by
  induction ops generalizing t with
  | nil => rfl
  | cons op ops ih => simp [run, ih]

theorem run_at (t : Table) (a : List Op) (op : Op) (b : List Op) :
    (run t (a ++ op :: b)).getD a.length [] = (step (after t a) op).2 := by
  rw [run_append, ← run_length t a]
  exact getD_append_len _ _ 0 _

theorem run_after (t : Table) (a : List Op) (op : Op) (b : List Op) (i : Nat) :
    (run t (a ++ op :: b)).getD (a.length + 1 + i) []
      = (run (step (after t a) op).1 b).getD i [] := by
  rw [run_append, ← run_length t a, Nat.add_assoc, getD_append_len, Nat.add_comm]
  rfl

theorem run_drop (t : Table) (a b : List Op) :
    (run t (a ++ b)).drop a.length = run (after t a) b := by
  rw [run_append, ← run_length t a, List.drop_left]

theorem run_drop_after (t : Table) (a : List Op) (op : Op) (b : List Op) :
    (run t (a ++ op :: b)).drop (a.length + 1) = run (step (after t a) op).1 b := by
  rw [run_append, ← run_length t a, List.drop_length_add_append]
  rfl

/-- `step` for a delay of at least one interval: no clamp, no immediate run. -/
theorem step_set (t : Table) (k v s : Nat) (hs : 1 ≤ s) : step t (.set k v s) = (set t k v s, []) := by
  simp only [step, if_neg (show ¬ s = 0 by omega)]

theorem step_move (t : Table) (k s : Nat) (hs : 1 ≤ s) : step t (.move k s) = (move t k s, []) :=
  if_neg (by omega)

theorem set_pending (t : Table) (k v s : Nat) : (⟨k, v, s⟩ : Timer) ∈ set t k v s := by
  unfold set
  split
  · next h =>
    obtain ⟨x, hx, hxk⟩ := List.mem_map.mp ((hasKey_iff t k).mp h)
    exact List.mem_map.mpr ⟨x, hx, by simp [hxk]⟩
  · simp

theorem move_pending (t : Table) (k v s0 s : Nat) (hm : (⟨k, v, s0⟩ : Timer) ∈ t) :
    (⟨k, v, s⟩ : Timer) ∈ move t k s :=
  List.mem_map.mpr ⟨⟨k, v, s0⟩, hm, by simp⟩

theorem remove_absent (t : Table) (k : Nat) : k ∉ keys (remove t k) :=
  fun h => ((mem_keys_remove t k k).mp h).2 rfl

theorem step_move_absent (t : Table) (k s : Nat) (hk : k ∉ keys t) : step t (.move k s) = (t, []) := by
  have hne : ∀ x ∈ t, ¬ x.key = k := fun x hx e => hk (List.mem_map.mpr ⟨x, hx, e⟩)
  simp only [step]
  split
  · rw [List.filter_eq_nil_iff.mpr fun x hx => by simpa using hne x hx]; rfl
  · have : move t k s = t := (List.map_congr_left fun x hx => if_neg (hne x hx)).trans (List.map_id' t)
    rw [this]

theorem step_remove_absent (t : Table) (k : Nat) (hk : k ∉ keys t) : step t (.remove k) = (t, []) := by
  simp only [step, remove]
  rw [List.filter_eq_self.mpr fun x hx => by simpa using fun e => hk (List.mem_map.mpr ⟨x, hx, e⟩)]

theorem filter_key_pending (t : Table) (hnd : KeysNodup t) (k v s : Nat) (hm : (⟨k, v, s⟩ : Timer) ∈ t) :
    (t.filter (·.key = k)).map (fun x => (x.key, x.value)) = [(k, v)] := by
  induction t with
  | nil => cases hm
  | cons a t ih =>
    simp only [KeysNodup, keys, List.map_cons, List.nodup_cons] at hnd
    have hrest : ∀ x ∈ t, x.key = k → a.key ≠ k := fun x hx e h =>
      hnd.1 (List.mem_map.mpr ⟨x, hx, e.trans h.symm⟩)
    rcases List.mem_cons.mp hm with rfl | hm
    · rw [List.filter_cons_of_pos (by simp), List.filter_eq_nil_iff.mpr fun x hx => by
        simpa using fun e => hrest x hx e rfl]
      rfl
    · rw [List.filter_cons_of_neg (by simpa using hrest _ hm rfl)]
      exact ih hnd.2 hm

end GoZero.C12.Spec

namespace GoZero.C12

def isSet : Op → Bool
  | .set _ _ _ => true
  | _ => false

theorem Spec.empty_step (op : Op) (h : isSet op = false) :
    (Spec.step [] op).1 = [] ∧ (Spec.step [] op).2 = [] := by
  cases op with
  | set k v s => cases h
  | move k s => rw [Spec.step_move_absent [] k s (nomatch ·)]; exact ⟨rfl, rfl⟩
  | remove | tick | drain => exact ⟨rfl, rfl⟩

/-- the timer table after Drain: nothing is pending, so nothing fires until the next set. -/
theorem Spec.empty_silent (ops : List Op) (h : ∀ op ∈ ops, isSet op = false) :
    ∀ out ∈ Spec.run [] ops, out = [] := by
  induction ops with
  | nil => simp [Spec.run]
  | cons op ops ih =>
    obtain ⟨hop, h'⟩ := List.forall_mem_cons.mp h
    have h1 := Spec.empty_step op hop
    exact List.forall_mem_cons.mpr ⟨h1.2, h1.1.symm ▸ ih h'⟩

end GoZero.C12
