/-
C12 — lemmas about the hand-off of the due tasks of a tick to the callback goroutines (Deliver.lean): a count that
holds at every moment of every interleaving, for every recover scope and every behaviour of the callbacks.
-/
import GoZero.C12.Deliver
namespace GoZero.C12

/-! Counted per pair `p`: what has been handed out plus what the goroutines will still hand out of their batches
(`deliveredOf`) is what the batches spawned so far allow; a step of a goroutine moves one pair from the second
summand to the first. -/

theorem takeAtK_count (keep : Pair → Bool) (p : Pair) (g : Nat) (gs : List (List Pair)) (r : Pair × List (List Pair))
    (h : takeAtK keep g gs = some r) :
    ((gs.map (deliveredOf keep)).flatten).count p
      = ((r.2.map (deliveredOf keep)).flatten).count p + (if r.1 = p then 1 else 0) := by
  induction gs generalizing g r with
  | nil => simp [takeAtK] at h
  | cons x rest ih =>
    cases g with
    | zero =>
      cases x with
      | nil => simp [takeAtK] at h
      | cons y ys =>
        simp only [takeAtK, Option.some.injEq] at h
        subst h
        cases hk : keep y <;> simp [deliveredOf, hk, List.count_cons]
    | succ i =>
      simp only [takeAtK, Option.map_eq_some_iff] at h
      obtain ⟨r', hr', rfl⟩ := h
      have := ih i r' hr'
      simp only [List.map_cons, List.flatten_cons, List.count_append]
      omega

theorem runO_count (sc : Scope) (oc : Pair → Outcome) (p : Pair) (evs : List DEv) (s : Dl) :
    (s.runO sc oc evs).out.count p
        + (((s.runO sc oc evs).gs.map (deliveredOf fun q => survives sc (oc q))).flatten).count p
      = s.out.count p + ((s.gs.map (deliveredOf fun q => survives sc (oc q))).flatten).count p
        + (((batches evs).map (deliveredOf fun q => survives sc (oc q))).flatten).count p := by
  induction evs generalizing s with
  | nil => simp [Dl.runO, batches]
  | cons ev evs ih =>
    have h2 := ih (s.stepO sc oc ev)
    simp only [Dl.runO, List.foldl_cons] at h2 ⊢
    rw [h2]
    cases ev with
    | spawn b =>
      simp only [Dl.stepO, batches, List.map_append, List.map_cons, List.map_nil, List.flatten_append,
        List.flatten_cons, List.flatten_nil, List.append_nil, List.count_append]
      omega
    | run g =>
      simp only [Dl.stepO, batches]
      split
      · next r hr =>
        have := takeAtK_count (fun q => survives sc (oc q)) p g s.gs r hr
        simp only [List.count_append, List.count_cons, List.count_nil, beq_iff_eq]
        omega
      · rfl

theorem finished_map_flatten (f : List Pair → List Pair) (hf : f [] = []) (gs : List (List Pair))
    (h : gs.all (·.isEmpty) = true) : (gs.map f).flatten = [] := by
  induction gs with
  | nil => rfl
  | cons x rest ih =>
    simp only [List.all_cons, Bool.and_eq_true, List.isEmpty_iff] at h
    simp [h.1, hf, ih h.2]

theorem survives_perTask (o : Outcome) (h : o ≠ .goexit) : survives .perTask o = true := by
  cases o with
  | ret | panic => rfl
  | goexit => exact absurd rfl h

theorem deliveredOf_all_mem (keep : Pair → Bool) (b : List Pair) (h : ∀ x ∈ b, keep x = true) :
    deliveredOf keep b = b := by
  induction b with
  | nil => rfl
  | cons x xs ih =>
    obtain ⟨hx, h'⟩ := List.forall_mem_cons.mp h
    simp [deliveredOf, hx, ih h']

theorem map_deliveredOf_all (keep : Pair → Bool) (h : ∀ q, keep q = true) (bs : List (List Pair)) :
    bs.map (deliveredOf keep) = bs :=
  (List.map_congr_left fun b _ => deliveredOf_all_mem keep b fun x _ => h x).trans (List.map_id' bs)

/-- the delivery without outcomes is the delivery whose callbacks all return. -/
theorem takeAt_eq (g : Nat) (gs : List (List Pair)) : takeAt g gs = takeAtK (fun _ => true) g gs := by
  induction gs generalizing g with
  | nil => cases g <;> rfl
  | cons x rest ih =>
    cases g with
    | zero => cases x <;> rfl
    | succ i => simp only [takeAt, takeAtK, ih]

theorem Dl.step_eq_stepO : Dl.step = Dl.stepO .perTask (fun _ => .ret) := by
  funext s ev
  cases ev with
  | spawn b => rfl
  | run g => simp only [Dl.step, Dl.stepO, takeAt_eq]; rfl

theorem Dl.run_eq_runO (s : Dl) (evs : List DEv) : s.run evs = s.runO .perTask (fun _ => .ret) evs :=
  congrArg (fun f => evs.foldl f s) Dl.step_eq_stepO

end GoZero.C12
