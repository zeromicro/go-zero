/-
C12 — Tie: what the extractor reads from core/collection/timingwheel.go (the arithmetic, the run-loop handlers branch
by branch with their values, the argument guards, the public methods, run loop and constructors as statement lists,
the order of list / map operations in the loops) equals what the model was written against; a failing obligation
here means the code moved away from the model.  The typed select and dispatch tables are tied in TieClients.lean.

Equations between an extracted table and its literal are closed by `rfl`: the kernel compares string literals as
literals, where `decide` would walk them character by character.
-/
import GoZero.Extracted.C12
import GoZero.C12.Proofs
import GoZero.C12.Api
namespace GoZero.C12.Tie
open GoZero.C12
open GoZero.Extracted.C12

theorem extraction_clean : extractionErrors = [] := rfl

/-- Go's `getOffset` (truncating `%` on `int`) is the model's `off` on slot indices. -/
theorem tie_getOffset (n p q : Nat) (hp : p < n) : getOffset q n p = (off n p q : Nat) := by
  unfold getOffset off
  have h : ((q : Int) + n - p - 1) = ((q + n - p - 1 : Nat) : Int) := by omega
  rw [h, ← Int.ofNat_tmod]

/-- Go's `getPositionAndCircle` is the model's `posCircle` on `steps = d / interval`. -/
theorem tie_getPositionAndCircle (n p d iv : Nat) (hs : iv ≤ d) (hiv : 0 < iv) :
    getPositionAndCircle d iv p n
      = (((posCircle n p (d / iv)).1 : Int), ((posCircle n p (d / iv)).2 : Int)) := by
  unfold getPositionAndCircle posCircle
  have h1 : 1 ≤ d / iv := (Nat.le_div_iff_mul_le hiv).mpr (by omega)
  simp only []
  rw [← Int.ofNat_tdiv]
  generalize d / iv = s at *
  have e2 : ((s : Int) - 1) = ((s - 1 : Nat) : Int) := by omega
  rw [e2, ← Int.ofNat_tdiv, ← Int.natCast_add, ← Int.ofNat_tmod]

/-- the only numeric conversion in the file is `int(d / interval)` of a `time.Duration` quotient (int is
64 bits wide on the supported platforms): no narrowing anywhere. -/
theorem tie_conversions : conversions = ["int(d / tw.interval)"] := rfl

/-- the constructor starts the wheel "at the previous virtual circle": `tickedPos = numSlots - 1`. -/
theorem tie_initTickedPos (n : Nat) (hn : 0 < n) : initTickedPos n = ((TW.init n).tickedPos : Int) := by
  unfold initTickedPos TW.init
  simp only []
  omega

/-- `onTick` advances `tickedPos` by one modulo `numSlots` (the model's `tick`), then scans — and the
slot it scans is the one at the advanced position. -/
theorem tie_onTick (n p : Nat) :
    onTickEff p n = [("tickedPos", (((tick { n := n, tickedPos := p, entries := [] }).1.tickedPos : Nat) : Int)),
                     ("call:scanAndRunTasks(l)", 0)]
    ∧ onTickStmts = ["tw.tickedPos = (tw.tickedPos + 1) % tw.numSlots", "l := tw.slots[tw.tickedPos]",
                     "tw.scanAndRunTasks(l)"] := by
  refine ⟨?_, rfl⟩
  unfold onTickEff tick
  simp only []
  have h : ((p : Int) + 1) = ((p + 1 : Nat) : Int) := by omega
  rw [h, ← Int.ofNat_tmod]

/-- The case split of Go's `moveTask` on `int` offsets is the model's `moveCase` on slot indices, whatever the
branches do with the circle / diff (`f`) and with the fresh slot (`g`). -/
theorem moveCase_int (n p old d iv : Nat) (hp : p < n) (hs : iv ≤ d) (hiv : 0 < iv) {α : Type}
    (f : Int → Int → α) (g : Int → α) :
    (if decide (getOffset (getPositionAndCircle d iv p n).1 n p ≥ getOffset old n p) then
        f (getPositionAndCircle d iv p n).2 (getOffset (getPositionAndCircle d iv p n).1 n p - getOffset old n p)
      else if decide ((getPositionAndCircle d iv p n).2 > 0) then
        f ((getPositionAndCircle d iv p n).2 - 1)
          (n + getOffset (getPositionAndCircle d iv p n).1 n p - getOffset old n p)
      else g (getPositionAndCircle d iv p n).1)
    = match moveCase n p old (d / iv) with
      | .keep c df => f c df
      | .reinsert s => g s := by
  have hn : 0 < n := by omega
  unfold moveCase
  simp only [tie_getPositionAndCircle n p d iv hs hiv]
  generalize (posCircle n p (d / iv)).1 = pos at *
  generalize (posCircle n p (d / iv)).2 = c at *
  rw [tie_getOffset n p old hp, tie_getOffset n p pos hp]
  have hoo : off n p old < n := off_lt _ _ _ hn
  generalize off n p old = oo at *
  generalize off n p pos = no at *
  -- on casts the `int` comparisons are the comparisons of the naturals, so both sides split alike
  simp only [ge_iff_le, gt_iff_lt, Int.ofNat_le, Int.natCast_pos, decide_eq_true_eq]
  split
  · congr 1
    omega
  · split
    · congr 1 <;> omega
    · rfl

/-- the case split of Go's `moveTask` (its assignments, per branch) is the model's `moveCase`. -/
theorem tie_moveTask (n p old d iv : Nat) (hp : p < n) (hs : iv ≤ d) (hiv : 0 < iv) :
    moveTaskTail d iv p n old =
      match moveCase n p old (d / iv) with
      | .keep c df => [("timer.item.circle", (c : Int)), ("timer.item.diff", (df : Int))]
      | .reinsert _ => [("timer.item.removed", 1), ("call:tw.slots[pos].PushBack(newItem)", 0),
                        ("call:setTimerPosition(pos,newItem)", 0)] :=
  moveCase_int n p old d iv hp hs hiv (fun c df => [(_, c), (_, df)]) (fun _ => _)

/-- Go's test `task.delay < tw.interval` is the model's `steps = 0`. -/
theorem delay_lt_interval (d iv : Nat) (hiv : 0 < iv) : ((d : Int) < (iv : Int)) ↔ d / iv = 0 := by
  rw [Nat.div_eq_zero_iff_lt hiv]
  omega

/-- **every statement of `moveTask`**, as the model's `stepWith … (.move k s)` reads it (`s = d / interval`):
unknown key → nothing; `s = 0` (delay below one interval) → the callback runs at once with the timer's key and
value and nothing else changes; otherwise `moveCase`: lazy move (circle, diff) or flag the entry removed and
insert a fresh entry — carrying the old value — into the slot `getPositionAndCircle` computed. -/
theorem tie_moveTaskFull (n p old d iv : Nat) (hp : p < n) (hiv : 0 < iv) (ok : Bool) :
    moveTaskEff ok d iv p n old =
      ("call:timers.Get(task.key)", 0) ::
        (if ok = false then []
         else if d / iv = 0 then
           [("call:threading.GoSafe{()", 0), ("call:execute(timer.item.key,timer.item.value)", 0), ("call:}()", 0)]
         else match moveCase n p old (d / iv) with
           | .keep c df => [("timer.item.circle", (c : Int)), ("timer.item.diff", (df : Int))]
           | .reinsert s =>
             [("timer.item.removed", 1),
              ("call:new:newItem(&timingEntry{ baseEntry: task, value: timer.item.value, })", 0),
              ("arg.pos", (s : Int)), ("call:tw.slots[pos].PushBack(newItem)", 0),
              ("arg.pos", (s : Int)), ("call:setTimerPosition(pos,newItem)", 0)]) := by
  cases ok with
  | false => simp [moveTaskEff]
  | true =>
    by_cases h0 : d / iv = 0
    · simp [moveTaskEff, delay_lt_interval d iv hiv, h0]
    · have hs : iv ≤ d := Nat.le_of_not_lt fun h => h0 (Nat.div_eq_of_lt h)
      simp only [moveTaskEff, Bool.not_true, Bool.false_eq_true, if_false, delay_lt_interval d iv hiv, h0,
        decide_false]
      refine (moveCase_int n p old d iv hp hs hiv (fun c df => [_, (_, c), (_, df)])
        (fun s => [_, _, _, (_, s), _, (_, s), _])).trans ?_
      cases moveCase n p old (d / iv) <;> rfl

/-- `setTask` first clamps a delay below one interval up to one interval — in steps: `0 ↦ 1`, the model's
`if s = 0 then 1 else s`. -/
theorem tie_setTaskClamp (d iv : Nat) (hiv : 0 < iv) :
    setTaskClamp d iv = (if d / iv = 0 then [("task.delay", (iv : Int))] else [])
    ∧ (if d / iv = 0 then iv else d) / iv = (if d / iv = 0 then 1 else d / iv) := by
  constructor
  · simp [setTaskClamp, delay_lt_interval d iv hiv]
  · split
    · exact Nat.div_self hiv
    · rfl

/-- **`setTask` after the clamp**, as the model's `setWith`: a known key gets the new value and is then
moved (`moveTask` with the same key and clamped delay); a new key gets a fresh entry with
`circle = posCircle.2`, pushed to slot `posCircle.1` and registered there. -/
theorem tie_setTask (n p d iv : Nat) (v : Int) (hs : iv ≤ d) (hiv : 0 < iv) (ok : Bool) :
    setTaskEff ok v d iv p n =
      ("call:timers.Get(task.key)", 0) ::
        (if ok then [("entry.item.value", v), ("call:moveTask(task.baseEntry)", 0)]
         else [("task.circle", ((posCircle n p (d / iv)).2 : Int)),
               ("arg.pos", ((posCircle n p (d / iv)).1 : Int)), ("call:tw.slots[pos].PushBack(task)", 0),
               ("arg.pos", ((posCircle n p (d / iv)).1 : Int)), ("call:setTimerPosition(pos,task)", 0)]) := by
  unfold setTaskEff
  cases ok <;> simp [tie_getPositionAndCircle n p d iv hs hiv]

/-- `removeTask`: unknown key → nothing; else flag the entry removed and forget the key. -/
theorem tie_removeTask (ok : Bool) :
    removeTaskEff ok = ("call:timers.Get(key)", 0) ::
      (if ok then [("timer.item.removed", 1), ("call:timers.Del(key)", 0)] else []) := by
  cases ok <;> rfl

/-- `setTimerPosition`: a known key is re-pointed to the given entry and slot, a new key is registered
with both. -/
theorem tie_setTimerPosition (pos task : Int) (ok : Bool) :
    setTimerPositionEff pos ok task = ("call:timers.Get(task.key)", 0) ::
      (if ok then [("timer.item", task), ("timer.pos", pos)]
       else [("arg.pos", pos), ("call:timers.Set(task.key,&positionEntry{ pos: pos, item: task, })", 0)]) := by
  cases ok <;> rfl

/-- **one iteration of the scan loop is the model's `scanEntry`** (for an entry sitting in the scanned slot
`p`): a removed entry is only unlinked; `circle > 0` → `circle - 1` and nothing else; else `diff > 0` → the
entry is unlinked, pushed to slot `(p + diff) % n`, registered there, `diff = 0`; else it is handed to the
callback (key, value), unlinked and its key forgotten. -/
theorem tie_scanEntry (n p c d k v : Nat) (removed : Bool) :
    scanEntryEff removed c d p n =
      if removed then [("call:l.Remove(e)", 0)] else
      match scanEntry n p { key := k, value := v, slot := p, circle := c, diff := d } with
      | .stay e' =>
        if c > 0 then [("task.circle", (e'.circle : Int))]
        else [("call:l.Remove(e)", 0), ("arg.pos", (e'.slot : Int)), ("call:tw.slots[pos].PushBack(task)", 0),
              ("arg.pos", (e'.slot : Int)), ("call:setTimerPosition(pos,task)", 0), ("task.diff", (e'.diff : Int))]
      | .fire => [("call:append:tasks(timingTask{ key: task.key, value: task.value, })", 0),
                  ("call:l.Remove(e)", 0), ("call:timers.Del(task.key)", 0)] := by
  unfold scanEntryEff scanEntry
  cases removed with
  | true => simp
  | false =>
    simp only [Bool.false_eq_true, if_false, ne_eq, not_true_eq_false, gt_iff_lt, Int.natCast_pos, decide_eq_true_eq]
    by_cases hc : 0 < c
    · simp only [hc, if_true]
      congr 2
      omega
    · by_cases hd : 0 < d
      · simp only [hc, hd, if_true, if_false]
        rw [← Int.natCast_add, ← Int.ofNat_tmod]
        rfl
      · simp only [hc, hd, if_false]

/-- one iteration of the drain loop: every entry is unlinked; an entry not flagged removed is forgotten
(`timers.Del`, on the wheel's goroutine, before any callback can run) and collected with its key and value — the
model's `drain`. -/
theorem tie_drainEntry (removed : Bool) :
    drainEntryEff removed = ("call:slot.Remove(e)", 0) ::
      (if removed then [] else [("call:timers.Del(task.key)", 0),
                                ("call:append:tasks(timingTask{ key: task.key, value: task.value, })", 0)]) := by
  cases removed <;> rfl

/-- **the hand-off of the drained tasks**: nothing to do for an empty wheel; otherwise ONE goroutine that is not the
run loop's creates the task runner and schedules `fn(key, value)` for every collected task.  `Schedule` blocks while
all `drainWorkers` workers are busy; because it blocks this goroutine and not the run loop, a callback that calls
back into the wheel is always served (PropsHandoff.lean: `handoff_off_loop_never_stalls`; on the run loop's own
goroutine the same code stalls: `handoff_on_loop_stalls`). -/
theorem tie_drainTail : drainTailStmts =
    ["if len(tasks) == 0 {", "return", "}",
     "go func() { runner := threading.NewTaskRunner(drainWorkers) for i := range tasks { task := tasks[i] runner.Schedule(func() { fn(task.key, task.value) }) } }()"] :=
  rfl

theorem tie_loopHeaders :
    scanLoopHeader = ["e := l.Front()", "e != nil", ""] ∧ drainLoopHeader = ["e := slot.Front()", "e != nil", ""]
    ∧ drainWorkers = 8 := ⟨rfl, rfl, rfl⟩

/-- the callbacks of a tick run with `(key, value)` in this order, for every collected task, and only if
there is one. -/
theorem tie_runTasks (len : Int) :
    runTasksGuard len = decide (len = 0)
    ∧ runTasksStmts = ["if GUARD {", "return", "}",
        "go func() { for i := range tasks { threading.RunSafe(func() { tw.execute(tasks[i].key, tasks[i].value) }) } }()"] :=
  ⟨rfl, rfl⟩

/-- the argument guards of SetTimer / MoveTimer / RemoveTimer / NewTimingWheel are the model's. -/
theorem tie_guards (delay interval numSlots : Int) (keyNil execNil : Bool) :
    setTimerGuard delay keyNil = badDelayKey delay keyNil
    ∧ moveTimerGuard delay keyNil = badDelayKey delay keyNil
    ∧ removeTimerGuard delay keyNil = keyNil
    ∧ newTimingWheelGuard interval numSlots execNil = badCtor interval numSlots execNil := by
  exact ⟨rfl, rfl, rfl, rfl⟩

/-- SetTimer: guard → ErrArgument; then either the request (delay, key, value) is handed to the run loop on
setChannel → nil, or stopChannel is closed → ErrClosed (the model's `ApiG.submit`). -/
theorem tie_setTimer : setTimerStmts =
    ["if GUARD {", "return ErrArgument", "}", "select {",
     "case tw.setChannel <- timingEntry{ baseEntry: baseEntry{ delay: delay, key: key, }, value: value, }:",
     "return nil", "case <-tw.stopChannel:", "return ErrClosed", "}"] := rfl

theorem tie_moveTimer : moveTimerStmts =
    ["if GUARD {", "return ErrArgument", "}", "select {",
     "case tw.moveChannel <- baseEntry{ delay: delay, key: key, }:",
     "return nil", "case <-tw.stopChannel:", "return ErrClosed", "}"] := rfl

theorem tie_removeTimer : removeTimerStmts =
    ["if GUARD {", "return ErrArgument", "}", "select {", "case tw.removeChannel <- key:",
     "return nil", "case <-tw.stopChannel:", "return ErrClosed", "}"] := rfl

theorem tie_drain : drainStmts =
    ["select {", "case tw.drainChannel <- fn:", "return nil", "case <-tw.stopChannel:", "return ErrClosed", "}"] := rfl

theorem tie_stop : stopStmts = ["close(tw.stopChannel)"] := rfl

/-- the run loop: forever, one request at a time; each channel is received from (never sent to) and
dispatched to its handler; a closed stopChannel stops the ticker and ends the loop. -/
theorem tie_runLoop : runLoopStmts =
    ["for {", "select {",
     "case <-tw.ticker.Chan():", "tw.onTick()",
     "case task := <-tw.setChannel:", "tw.setTask(&task)",
     "case key := <-tw.removeChannel:", "tw.removeTask(key)",
     "case task := <-tw.moveChannel:", "tw.moveTask(task)",
     "case fn := <-tw.drainChannel:", "tw.drainAll(fn)",
     "case <-tw.stopChannel:", "tw.ticker.Stop()", "return",
     "}", "}"] := rfl

/-- the constructors: NewTimingWheel checks its arguments (guard above) and delegates with a real ticker;
NewTimingWheelWithTicker copies every argument into its field, makes `numSlots` slots, unbuffered channels
(a public method returns nil only once the loop has the request), initialises the slots and starts the loop. -/
theorem tie_constructors :
    newTimingWheelStmts =
      ["if GUARD {", "return nil, fmt.Errorf(\"interval: %v, slots: %d, execute: %p\", interval, numSlots, execute)", "}",
       "return NewTimingWheelWithTicker(interval, numSlots, execute, timex.NewTicker(interval))"]
    ∧ ctorFields =
      ["interval: interval", "ticker: ticker", "slots: make([]*list.List, numSlots)", "timers: NewSafeMap()",
       "tickedPos: INIT", "execute: execute", "numSlots: numSlots",
       "setChannel: make(chan timingEntry)", "moveChannel: make(chan baseEntry)", "removeChannel: make(chan any)",
       "drainChannel: make(chan func(key, value any))", "stopChannel: make(chan lang.PlaceholderType)"]
    ∧ ctorStmts = ["tw := &TimingWheel{…}", "tw.initSlots()", "go tw.run()", "return tw, nil"]
    ∧ initSlotsStmts = ["for i := 0; i < tw.numSlots; i++ {", "tw.slots[i] = list.New()", "}"] :=
  ⟨rfl, rfl, rfl, rfl⟩

/-- the scan loop the model's `scanEntry` was written against: removed → drop; circle > 0 → circle--;
diff > 0 → relocate and clear diff; else fire and forget the key. -/
theorem tie_scanShape : scanShape =
    ["for e != nil {", "if task.removed {", "call e.Next", "call l.Remove", "continue", "}", "else{",
     "if task.circle > 0 {", "store task.circle", "call e.Next", "continue", "}", "else{",
     "if task.diff > 0 {", "call e.Next", "call l.Remove", "call tw.slots[pos].PushBack",
     "call tw.setTimerPosition", "store task.diff", "continue", "}", "}", "}",
     "call e.Next", "call l.Remove", "call tw.timers.Del", "}", "call tw.runTasks"] := rfl

theorem tie_drainShape : drainShape =
    ["range tw.slots {", "for e != nil {", "call e.Next", "call slot.Remove",
     "if !task.removed {", "call tw.timers.Del", "}", "}", "}",
     "if len(tasks) == 0 {", "return", "}",
     "go{", "func{", "call threading.NewTaskRunner", "range tasks {", "func{", "call fn", "}", "call runner.Schedule",
     "}", "}", "call func", "}"] := rfl

theorem tie_removeShape : removeShape =
    ["call tw.timers.Get", "if !ok {", "return", "}", "store timer.item.removed", "call tw.timers.Del"] := rfl

theorem tie_setTaskShape : setTaskShape =
    ["if task.delay < tw.interval {", "store task.delay", "}", "call tw.timers.Get", "if ok {",
     "store entry.item.value", "call tw.moveTask", "}", "else{", "call tw.getPositionAndCircle",
     "store task.circle", "call tw.slots[pos].PushBack", "call tw.setTimerPosition", "}"] := rfl

theorem tie_onTickShape : onTickShape = ["store tw.tickedPos", "call tw.scanAndRunTasks"] := rfl

end GoZero.C12.Tie
