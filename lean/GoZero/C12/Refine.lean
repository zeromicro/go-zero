/-
C12 — the wheel refines the timer table, operation by operation.
-/
import GoZero.C12.Proofs
import GoZero.C12.SpecFacts
namespace GoZero.C12

theorem hasKey_abs (tw : TW) (k : Nat) : Spec.hasKey (abs tw) k = hasKey tw k :=
  List.any_map

theorem move_refines (tw : TW) (h : WF tw) (k s : Nat) (hs : 1 ≤ s) :
    WF (moveWith moveCase tw k s) ∧ abs (moveWith moveCase tw k s) = Spec.move (abs tw) k s := by
  constructor
  · refine ⟨h.npos, h.tp, List.forall_mem_map.mpr fun e0 he0 => ?_⟩
    have hw := h.ent e0 he0
    split
    · exact (applyMove_spec tw h e0 hw.1 s hs).2
    · exact hw
  · simp only [abs, moveWith, Spec.move, List.map_map]
    apply List.map_congr_left
    intro e he
    have hw := h.ent e he
    simp only [Function.comp_def]
    by_cases hk : e.key = k
    · simp only [hk, if_true, absEntry, (applyMove_spec tw h e hw.1 s hs).1, applyMove_key, applyMove_value]
    · simp only [hk, if_false, absEntry]

/-- `scan_spec` along the list of entries: the kept entries represent the table after the tick, what fires is what the
table fires, and the kept entries stay within bounds. -/
theorem tick_list (n p : Nat) (hp : p < n) (es : List Entry) (hes : ∀ e ∈ es, e.slot < n ∧ e.diff < n) :
    (es.filterMap (fun e => match scanEntry n ((p + 1) % n) e with | .stay e' => some e' | .fire => none)).map
        (absEntry n ((p + 1) % n))
      = ((es.map (absEntry n p)).filter (·.rem ≠ 1)).map (fun x => { x with rem := x.rem - 1 })
    ∧ es.filterMap (fun e => match scanEntry n ((p + 1) % n) e with
          | .stay _ => none | .fire => some (e.key, e.value))
      = ((es.map (absEntry n p)).filter (·.rem = 1)).map (fun x => (x.key, x.value))
    ∧ ∀ e' ∈ es.filterMap (fun e => match scanEntry n ((p + 1) % n) e with | .stay e' => some e' | .fire => none),
        e'.slot < n ∧ e'.diff < n := by
  induction es with
  | nil => simp
  | cons e es ih =>
    obtain ⟨hw, hes'⟩ := List.forall_mem_cons.mp hes
    have ih' := ih hes'
    have hsc := scan_spec n p hp e hw.1 hw.2
    cases hc : scanEntry n ((p + 1) % n) e with
    | fire =>
      rw [hc] at hsc
      simp only [List.filterMap_cons, hc, List.map_cons, absEntry, List.filter_cons, hsc]
      simp only [ne_eq, not_true_eq_false, decide_false, decide_true, if_true, if_false, Bool.false_eq_true,
        List.map_cons]
      refine ⟨ih'.1, ?_, ih'.2.2⟩
      rw [ih'.2.1]
    | stay e' =>
      rw [hc] at hsc
      obtain ⟨h1, h2, h3, h4, h5, h6⟩ := hsc
      simp only [List.filterMap_cons, hc, List.map_cons, List.filter_cons]
      have hr : (absEntry n p e).rem = remaining n p e := rfl
      simp only [hr, ne_eq, h1, not_false_eq_true, decide_true, decide_false, if_true, if_false,
        Bool.false_eq_true, List.map_cons]
      refine ⟨?_, ih'.2.1, List.forall_mem_cons.mpr ⟨⟨h5, h6⟩, ih'.2.2⟩⟩
      rw [ih'.1]
      congr 1
      simp only [absEntry, h3, h4]
      congr 1
      omega

theorem step_refines (tw : TW) (h : WF tw) (op : Op) :
    WF (step tw op).1 ∧ abs (step tw op).1 = (Spec.step (abs tw) op).1
      ∧ (step tw op).2 = (Spec.step (abs tw) op).2 := by
  cases op with
  | set k v s =>
    simp only [step, stepWith, Spec.step, setWith, Spec.set, hasKey_abs]
    have hs : 1 ≤ (if s = 0 then 1 else s) := by split <;> omega
    generalize (if s = 0 then 1 else s) = s' at hs ⊢
    by_cases hk : hasKey tw k = true
    · simp only [hk, if_true]
      let tw1 : TW := { tw with entries := tw.entries.map fun e => if e.key = k then { e with value := v } else e }
      have hwf1 : WF tw1 := by
        refine ⟨h.npos, h.tp, List.forall_mem_map.mpr fun e0 he0 => ?_⟩
        have := h.ent e0 he0
        split <;> exact this
      have hm := move_refines tw1 hwf1 k s' hs
      refine ⟨hm.1, ?_, trivial⟩
      rw [hm.2]
      simp only [abs, tw1, Spec.move, List.map_map]
      apply List.map_congr_left
      intro e _
      simp only [Function.comp_def]
      by_cases hk' : e.key = k
      · simp [hk', absEntry, remaining]
      · simp [hk', absEntry]
    · simp only [hk, Bool.false_eq_true, if_false]
      refine ⟨⟨h.npos, h.tp, List.forall_mem_append.mpr ⟨h.ent, List.forall_mem_singleton.mpr
        ⟨Nat.mod_lt _ h.npos, h.npos⟩⟩⟩, ?_, trivial⟩
      simp only [abs, List.map_append, List.map_cons, List.map_nil]
      congr 2
      simp only [absEntry, remaining_fresh tw.n tw.tickedPos s' k v h.tp hs]
  | move k s =>
    simp only [step, stepWith, Spec.step]
    by_cases hs : s = 0
    · simp only [hs, if_true]
      refine ⟨h, trivial, ?_⟩
      simp only [abs, List.filter_map, List.map_map]
      rfl
    · simp only [hs, if_false]
      have hm := move_refines tw h k s (by omega)
      exact ⟨hm.1, hm.2, trivial⟩
  | remove k =>
    simp only [step, stepWith, Spec.step, remove, Spec.remove]
    refine ⟨⟨h.npos, h.tp, ?_⟩, ?_, trivial⟩
    · intro e he
      exact h.ent e (List.mem_filter.mp he).1
    · simp only [abs, List.filter_map]
      rfl
  | tick =>
    simp only [step, stepWith, Spec.step, tick, Spec.tick]
    obtain ⟨habs, hout, hent⟩ := tick_list tw.n tw.tickedPos h.tp tw.entries h.ent
    exact ⟨⟨h.npos, Nat.mod_lt _ h.npos, hent⟩, habs, hout⟩
  | drain =>
    simp only [step, stepWith, Spec.step, drain, Spec.drain]
    refine ⟨⟨h.npos, h.tp, by simp⟩, by simp [abs], ?_⟩
    simp [abs, absEntry, Function.comp_def]

theorem init_wf (n : Nat) (hn : 0 < n) : WF (TW.init n) :=
  ⟨hn, by simp only [TW.init]; omega, by simp [TW.init]⟩

theorem run_refines (tw : TW) (h : WF tw) (ops : List Op) :
    run tw ops = Spec.run (abs tw) ops := by
  induction ops generalizing tw with
  | nil => rfl
  | cons op ops ih =>
    obtain ⟨hwf, habs, hout⟩ := step_refines tw h op
    show (step tw op).2 :: run (step tw op).1 ops = (Spec.step (abs tw) op).2 :: Spec.run (Spec.step (abs tw) op).1 ops
    rw [hout, ih _ hwf, habs]

theorem after_refines (tw : TW) (h : WF tw) (ops : List Op) :
    WF (ops.foldl (fun tw op => (step tw op).1) tw)
    ∧ abs (ops.foldl (fun tw op => (step tw op).1) tw) = Spec.after (abs tw) ops :=
  List.foldl_rel (r := fun tw t => WF tw ∧ abs tw = t) ⟨h, rfl⟩
    fun op _ tw _ ⟨hwf, he⟩ => he ▸ ⟨(step_refines tw hwf op).1, (step_refines tw hwf op).2.1⟩

end GoZero.C12
