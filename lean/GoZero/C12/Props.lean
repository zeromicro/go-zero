/-
C12 — property theorems (nothing but statements, their short proofs from the lemmas, and
non-vacuity examples).  Helper lemmas live in Proofs.lean / Refine.lean / SpecFacts.lean.
-/
import GoZero.C12.Refine
import GoZero.C12.SpecFacts
namespace GoZero.C12

/-- **C12, main theorem.**  For every wheel size `n ≥ 1` and every sequence of
set / move / remove / tick / drain operations (delays given as `steps = ⌊d/interval⌋`, below or above
a revolution, issued at any wheel position), the (key,value) pairs the wheel hands to the execute
callback at every operation are exactly those of the timer table `Spec`. -/
theorem tw_refines_timer_table (n : Nat) (hn : 0 < n) (ops : List Op) :
    run (TW.init n) ops = Spec.run [] ops :=
  run_refines (TW.init n) (init_wf n hn) ops

/-- every reachable wheel state is well formed and represents the spec's table (invariant form). -/
theorem reachable_abs (n : Nat) (hn : 0 < n) (ops : List Op) :
    WF (ops.foldl (fun tw op => (step tw op).1) (TW.init n))
    ∧ abs (ops.foldl (fun tw op => (step tw op).1) (TW.init n))
        = ops.foldl (fun t op => (Spec.step t op).1) [] :=
  after_refines (TW.init n) (init_wf n hn) ops

/-! In the statements below `ops₀` is an arbitrary history (any sets, moves, removes, ticks, drains; the wheel position may have
wrapped any number of times); then the timer is set / moved; `ops` are the following operations, none of
which sets, moves or removes `k` (and no drain). -/

/-- The clauses about one timer in one statement: whatever operation `op` leaves `(k, v, s)` pending, it fires exactly
once, at the `s`-th following tick, with `v`. -/
theorem fires_exactly_at_due_after (n : Nat) (hn : 0 < n) (ops₀ : List Op) (op : Op) (ops : List Op) (k v s : Nat)
    (hs : 1 ≤ s)
    (hm : (⟨k, v, s⟩ : Spec.Timer) ∈ (Spec.step (Spec.after [] ops₀) op).1)
    (hun : ∀ op ∈ ops, Spec.touches k op = false) (i v' : Nat) :
    (k, v') ∈ (run (TW.init n) (ops₀ ++ op :: ops)).getD (ops₀.length + 1 + i) [] ↔
      (v' = v ∧ i < ops.length ∧ Spec.isTick (ops.getD i .drain) = true ∧ Spec.ticksIn (ops.take (i + 1)) = s) := by
  rw [tw_refines_timer_table n hn, Spec.run_after]
  exact Spec.pending_fires_exactly_at_due _ (Spec.step_keys_nodup _ (Spec.reachable_keys_nodup ops₀) op) k v s hm hs
    ops hun i v'

/-- **Set timers fire exactly once, at the ⌊d/interval⌋-th following tick, with the set value.** -/
theorem set_fires_exactly_at_due (n : Nat) (hn : 0 < n) (ops₀ ops : List Op) (k v s : Nat) (hs : 1 ≤ s)
    (hun : ∀ op ∈ ops, Spec.touches k op = false) (i v' : Nat) :
    (k, v') ∈ (run (TW.init n) (ops₀ ++ .set k v s :: ops)).getD (ops₀.length + 1 + i) [] ↔
      (v' = v ∧ i < ops.length ∧ Spec.isTick (ops.getD i .drain) = true ∧ Spec.ticksIn (ops.take (i + 1)) = s) := by
  refine fires_exactly_at_due_after n hn ops₀ (.set k v s) ops k v s hs ?_ hun i v'
  rw [Spec.step_set _ k v s hs]
  exact Spec.set_pending _ k v s

/-- **Moved timers fire exactly once, at the ⌊d/interval⌋-th tick after the move, with their latest
value** (`hpend`: the key was pending with value `v` when it was moved). -/
theorem move_fires_exactly_at_due (n : Nat) (hn : 0 < n) (ops₀ ops : List Op) (k v s0 s : Nat) (hs : 1 ≤ s)
    (hpend : (⟨k, v, s0⟩ : Spec.Timer) ∈ ops₀.foldl (fun t op => (Spec.step t op).1) [])
    (hun : ∀ op ∈ ops, Spec.touches k op = false) (i v' : Nat) :
    (k, v') ∈ (run (TW.init n) (ops₀ ++ .move k s :: ops)).getD (ops₀.length + 1 + i) [] ↔
      (v' = v ∧ i < ops.length ∧ Spec.isTick (ops.getD i .drain) = true ∧ Spec.ticksIn (ops.take (i + 1)) = s) := by
  refine fires_exactly_at_due_after n hn ops₀ (.move k s) ops k v s hs ?_ hun i v'
  rw [Spec.step_move _ k s hs]
  exact Spec.move_pending _ k v s0 s hpend

/-- **A removed timer never fires** (until the key is set again). -/
theorem removed_never_fires (n : Nat) (hn : 0 < n) (ops₀ ops : List Op) (k : Nat)
    (hun : ∀ op ∈ ops, Spec.touches k op = false) (i v' : Nat) :
    (k, v') ∉ (run (TW.init n) (ops₀ ++ .remove k :: ops)).getD (ops₀.length + 1 + i) [] := by
  rw [tw_refines_timer_table n hn, Spec.run_after]
  exact Spec.absent_never_fires _ k (Spec.remove_absent _ k) ops hun i v'

/-- **Drain delivers each pending timer exactly once**: the callback gets exactly the pending table, whose keys are
pairwise distinct, and the table is empty afterwards (for the wheel's own entries see
`drain_delivers_all_once_and_empties`). -/
theorem drain_each_once (n : Nat) (hn : 0 < n) (ops₀ : List Op) :
    let pending := ops₀.foldl (fun t op => (Spec.step t op).1) []
    (run (TW.init n) (ops₀ ++ [Op.drain])).getD ops₀.length [] = pending.map (fun x => (x.key, x.value))
    ∧ (pending.map (·.key)).Nodup
    ∧ (ops₀ ++ [Op.drain]).foldl (fun t op => (Spec.step t op).1) [] = [] := by
  intro pending
  rw [tw_refines_timer_table n hn, Spec.run_at]
  exact ⟨rfl, Spec.reachable_keys_nodup ops₀, by rw [List.foldl_append]; rfl⟩

/-! A `moveTask` that compares absolute slot indices (`moveCaseBuggy`) does not refine the timer table: two
machine-checked witnesses, both replayed on go-zero as it was before that comparison was repaired
(known_findings.json: C12/move-wrapped-slot, status fixed). -/

/-- n = 10, six ticks (tickedPos = 5), timer set 8 ticks ahead (slot 3, behind tickedPos), moved to
2 ticks: `moveCaseBuggy` fires it at tick 12, not at tick 2. -/
theorem buggy_move_late :
    runWith moveCaseBuggy (TW.init 10)
      (List.replicate 6 .tick ++ [.set 1 7 8, .move 1 2] ++ List.replicate 12 .tick)
    ≠ Spec.run [] (List.replicate 6 .tick ++ [.set 1 7 8, .move 1 2] ++ List.replicate 12 .tick) := by
  decide

/-- n = 10, tickedPos = 5, timer set 3 ticks ahead (slot 8), moved to 17 ticks: fires after 7. -/
theorem buggy_move_early :
    runWith moveCaseBuggy (TW.init 10)
      (List.replicate 6 .tick ++ [.set 1 7 3, .move 1 17] ++ List.replicate 17 .tick)
    ≠ Spec.run [] (List.replicate 6 .tick ++ [.set 1 7 3, .move 1 17] ++ List.replicate 17 .tick) := by
  decide

/-- a well-formed wheel whose timer's slot has wrapped behind `tickedPos` and carries a pending lazy move (circle and
diff both non-zero); it is the state after six ticks, `set 1 7 8`, `move 1 22` on `TW.init 10`. -/
example : WF { n := 10, tickedPos := 5, entries := [{ key := 1, value := 7, slot := 3, circle := 1, diff := 4 }] } :=
  ⟨by decide, by decide, by simp⟩

example : (run (TW.init 10) (List.replicate 6 .tick ++ [.set 1 7 8, .move 1 2, .tick, .tick])).getLast? = some [(1, 7)] := by
  decide

/-- the hypotheses of `set_fires_exactly_at_due` are met by a concrete wrapped-position history, and its
right-hand side is true there (i = 7 is the 8th tick after the set). -/
example : (1, 7) ∈ (run (TW.init 10) (List.replicate 6 .tick ++ .set 1 7 8 :: List.replicate 8 .tick)).getD (6 + 1 + 7) [] := by
  decide

example : ∀ op ∈ List.replicate 8 Op.tick, Spec.touches 1 op = false := by decide

/-- `move_fires_exactly_at_due`'s pending hypothesis is satisfiable. -/
example : (⟨1, 7, 8⟩ : Spec.Timer) ∈ (List.replicate 6 Op.tick ++ [Op.set 1 7 8]).foldl (fun t op => (Spec.step t op).1) [] := by
  decide

end GoZero.C12
