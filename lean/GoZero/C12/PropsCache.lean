/-
C12 — core/collection/cache.go with `WithLimit` as a client of the wheel: for EVERY configuration (limit absent /
≤ 0 / positive, any LRU state, any data) the requests of SetWithExpire / Set / Take / Del reach the wheel in program
order and end with the request that decides the key; every entry has a pending timer and every timer an entry.
-/
import GoZero.C12.ProofsCache
namespace GoZero.C12

/-- `WithLimit(limit)` configures an LRU list exactly for `limit > 0`; 0 and negative limits are no limit. -/
theorem cache_withLimit_config (limit expire : Int) :
    ((CacheL.init limit expire).limit = 0 ↔ limit ≤ 0) ∧ (0 < limit → ((CacheL.init limit expire).limit : Int) = limit) := by
  unfold CacheL.init
  constructor
  · split <;> simp <;> omega
  · intro h; simp [h]; omega

/-- SetWithExpire issues, in this order: at most one RemoveTimer, for ANOTHER key (the evicted one), then the
SetTimer of its own key with the value and the expiry it was given — for every cache state and limit. -/
theorem cache_set_requests (c : CacheL) (k v : Nat) (e : Int) :
    (c.setWithExpire k v e).2 = [.setTimer (some k) v e]
    ∨ ∃ old, old ≠ k ∧ (c.setWithExpire k v e).2 = [.removeTimer (some old), .setTimer (some k) v e] := by
  unfold CacheL.setWithExpire
  obtain ⟨_, h⟩ | ⟨old, hne, _, h⟩ := lruAdd_shape { c with data := upsert c.data k v } k
  · left; simp [h]
  · right; exact ⟨old, hne, by simp [h]⟩

/-- [clause 1 through the Cache, every configuration] after SetWithExpire / Set / a fetching Take with an expiry
> 0 on a running wheel the key is pending with the stored value, due floor(e/interval) ticks ahead (1 when the
expiry is below one interval) — whatever was evicted on the way.  With `api_refines_timer_table` and
`api_setTimer_fires_exactly_at_due` the wheel fires it at exactly that tick.  `e` is the delay SetTimer is given (in
cache.go: after the jitter, see `tie_cache`); the `0` is the label under which `ApiG.issue` logs the client's own calls. -/
theorem cache_set_arms_timer (c : CacheL) (a : Spec.Api) (k v : Nat) (e : Int)
    (hrun : a.stopped = false) (he : 0 < e) :
    (⟨k, v, if stepsOf a.interval e = 0 then 1 else stepsOf a.interval e⟩ : Spec.Timer)
      ∈ (ApiG.issue Spec.step 0 a (c.setWithExpire k v e).2).1.inner := by
  rcases cache_set_requests c k v e with h | ⟨old, _, h⟩ <;>
    rw [h, (issue_silent 0 _ a hrun (by simp [silent_remove, silent_set, he])).2.2] <;>
    exact Spec.set_pending _ k v _

example : (⟨1, 7, 2⟩ : Spec.Timer) ∈
    (ApiG.issue Spec.step 0 (Spec.Api.init 1000000000)
      (({ limit := 1, expire := 5, data := [(0, 3)], lru := [0] } : CacheL).setWithExpire 1 7 2000000000).2).1.inner := by
  decide

/-- every outcome kind of Take's fetch: a value is stored with `Set` (the cache's own expire); an error (typed nil
included), a panic or Goexit stores nothing and issues no request; a hit only touches the LRU order. -/
theorem cache_take_outcomes (c : CacheL) (k v : Nat) :
    (c.lookup k = none → (c.take k v .ok = ((c.set k v).1, (c.set k v).2, some v))
      ∧ c.take k v .err = (c, [], none) ∧ c.take k v .noReturn = (c, [], none))
    ∧ (∀ f w, c.lookup k = some w → c.take k v f = c.doGet k) := by
  constructor
  · intro h; simp [CacheL.take, h]
  · intro f w h; simp [CacheL.take, h]

/-- [clause 3 through the Cache] after Del on a running wheel no timer is pending for the key (one RemoveTimer, or
two when the key was listed in the LRU list: `onEvict` issues the first). -/
theorem cache_del_removes_timer (c : CacheL) (a : Spec.Api) (k : Nat) (hrun : a.stopped = false) :
    Spec.hasKey (ApiG.issue Spec.step 0 a (c.del k).2).1.inner k = false := by
  unfold CacheL.del CacheL.lruRemove CacheL.onEvict
  split <;> simp [ApiG.issue, ApiG.step, ApiG.submit, hrun, Spec.step, Spec.hasKey_remove_self]

/-- why the ORDER of the requests is part of the property (witness of seeded change C12-7, `go RemoveTimer` in
onEvict): the removal of an evicted key followed by a new Set of that key leaves the timer pending in program
order, and leaves NO timer when the removal reaches the wheel after the SetTimer. -/
theorem requests_out_of_program_order_lose_the_timer (t : Spec.Table) (k v s : Nat) :
    Spec.hasKey (Spec.set (Spec.remove t k) k v s) k = true
    ∧ Spec.hasKey (Spec.remove (Spec.set t k v s) k) k = false :=
  ⟨(Spec.hasKey_iff _ k).mpr ((Spec.mem_keys_set _ k v s k).mpr (.inr rfl)), Spec.hasKey_remove_self _ _⟩

example : Spec.hasKey (Spec.remove (Spec.set [⟨3, 1, 4⟩] 3 9 2) 3) 3 = false := by decide

/-- [every entry expires, no timer without an entry — for EVERY limit (absent, ≤ 0, positive), every positive
expire, every wheel interval and every sequence of SetWithExpire / Set / Del / Get / Take (every outcome of fetch) /
tick, the expiry callbacks (Del from inside the execute callback) included]  the keys in `data` are exactly the keys
with a pending timer, and the wheel is never stopped.  (An expiry ≤ 0 is rejected by SetTimer and the error is
dropped: that entry never expires — modelled as the code behaves and excluded here by `hpos` / `hexp`.) -/
theorem cache_entry_iff_pending_timer (limit expire : Int) (interval : Nat) (hexp : 0 < expire) (ops : List COp)
    (hpos : ∀ k v e, COp.set k v e ∈ ops → 0 < e) :
    (ops.foldl cacheStep (Spec.Api.init interval, CacheL.init limit expire)).1.stopped = false
    ∧ ∀ j, j ∈ (ops.foldl cacheStep (Spec.Api.init interval, CacheL.init limit expire)).2.data.map (·.1)
        ↔ Spec.hasKey (ops.foldl cacheStep (Spec.Api.init interval, CacheL.init limit expire)).1.inner j = true := by
  have h0 : CInv expire (Spec.Api.init interval, CacheL.init limit expire) :=
    ⟨rfl, rfl, fun j => by simp [keysOf, CacheL.init, Spec.keys, Spec.Api.init]⟩
  obtain ⟨h1, _, h3⟩ := cacheRun_inv expire hexp ops _ hpos h0
  exact ⟨h1, fun j => (h3 j).trans (Spec.hasKey_iff _ j).symm⟩

/-- limit 1: the second Set evicts key 0 (its timer goes with it), the tick after two seconds expires key 1. -/
example : ((([.put 0 5, .put 1 6, .get 0, .tick] : List COp).foldl cacheStep
      (Spec.Api.init 1000000000, CacheL.init 1 2000000000)).2.data,
    (([.put 0 5, .put 1 6, .get 0, .tick] : List COp).foldl cacheStep
      (Spec.Api.init 1000000000, CacheL.init 1 2000000000)).1.inner,
    (([.put 0 5, .put 1 6, .tick, .tick] : List COp).foldl cacheStep
      (Spec.Api.init 1000000000, CacheL.init 1 2000000000)).2.data)
    = ([(1, 6)], [⟨1, 6, 1⟩], []) := by decide

/-- [the same, on the WHEEL: every wheel size, every limit, every history]  the keys in the cache's `data` are
exactly the keys with a live entry in the wheel, and what the cache over the wheel does is what the cache over the
timer table does (same data, same LRU order after every operation). -/
theorem cache_entry_iff_live_timer_on_the_wheel (n : Nat) (hn : 0 < n) (limit expire : Int) (interval : Nat)
    (hexp : 0 < expire) (ops : List COp) (hpos : ∀ k v e, COp.set k v e ∈ ops → 0 < e) :
    (ops.foldl cacheStepW (Api.init interval n, CacheL.init limit expire)).1.stopped = false
    ∧ (∀ j, j ∈ (ops.foldl cacheStepW (Api.init interval n, CacheL.init limit expire)).2.data.map (·.1)
        ↔ hasKey (ops.foldl cacheStepW (Api.init interval n, CacheL.init limit expire)).1.inner j = true)
    ∧ (ops.foldl cacheStepW (Api.init interval n, CacheL.init limit expire)).2
        = (ops.foldl cacheStep (Spec.Api.init interval, CacheL.init limit expire)).2 := by
  have hr := cacheRunW_refines ops (Api.init interval n, CacheL.init limit expire) (init_wf n hn)
  have h0 : absApi (Api.init interval n) = Spec.Api.init interval := by
    simp [absApi, Api.init, Spec.Api.init, abs, TW.init]
  rw [h0] at hr
  have hs := cache_entry_iff_pending_timer limit expire interval hexp ops hpos
  have e1 := congrArg Prod.fst hr.2
  have e2 := congrArg Prod.snd hr.2
  simp only at e1 e2
  refine ⟨?_, ?_, e2⟩
  · have := hs.1; rw [← e1] at this; exact this
  · intro j
    have := hs.2 j
    rw [← e1, ← e2] at this
    simp only [absApi, hasKey_abs] at this
    exact this

example : ((([.put 0 5, .put 1 6, .get 0, .tick] : List COp).foldl cacheStepW
      (Api.init 1000000000 300, CacheL.init 1 2000000000)).2.data,
    (([.put 0 5, .put 1 6, .get 0, .tick] : List COp).foldl cacheStepW
      (Api.init 1000000000 300, CacheL.init 1 2000000000)).1.inner.entries.map (·.key))
    = ([(1, 6)], [1]) := by decide

end GoZero.C12
