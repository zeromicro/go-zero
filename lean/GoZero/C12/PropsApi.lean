/-
C12 — property theorems about the public API layer (argument validation, Stop), delays below one
interval (SetTimer clamps, MoveTimer runs the task at once and keeps the timer), Drain, and the clauses of the
property through the public methods; with non-vacuity examples.
-/
import GoZero.C12.ProofsApi
import GoZero.C12.Props
namespace GoZero.C12

/-- **The public API over the wheel behaves like the public API over the timer table**: for every tick
interval, every wheel size `n ≥ 1` and every sequence of SetTimer / MoveTimer / RemoveTimer / Drain / Stop
calls and ticks (any key including nil, any delay including ≤ 0 and below one interval, calls after Stop),
every call returns the same error and hands the same (key,value) pairs to the callbacks. -/
theorem api_refines_timer_table (iv n : Nat) (hn : 0 < n) (cs : List Call) :
    (Api.init iv n).run cs = (Spec.Api.init iv).run cs :=
  api_run_refines (Api.init iv n) (init_wf n hn) cs

/-- **On a running wheel, calls with valid arguments are exactly the wheel's operations**: every such call
returns nil (ticks return nothing) and the callbacks get what the wheel model hands out for the operation
list `set k v ⌊d/interval⌋ / move k ⌊d/interval⌋ / remove k / drain / tick` — so `set_fires_exactly_at_due`,
`move_fires_exactly_at_due`, `removed_never_fires`, `drain_delivers_all_once_and_empties` speak about
SetTimer / MoveTimer / RemoveTimer / Drain as called through the public API. -/
theorem api_valid_calls_are_wheel_ops (iv n : Nat) (cs : List Call) (hv : ∀ c ∈ cs, validCall c = true) :
    ((Api.init iv n).run cs).map (·.2) = run (TW.init n) (cs.map (toOp iv))
    ∧ ∀ r ∈ (Api.init iv n).run cs, r.1 = .ok ∨ r.1 = .unit :=
  valid_run (Api.init iv n) rfl cs hv

/-- **Argument validation as a decision table** (any timer mechanism, any state):
SetTimer / MoveTimer return ErrArgument iff `delay ≤ 0` or the key is nil, else ErrClosed iff the wheel was
stopped, else nil; RemoveTimer the same without the delay; Drain has no argument check. -/
theorem api_validation_table {T : Type} (ts : TStep T) (a : ApiG T) :
    (∀ key v d,
        ((a.step ts (.setTimer key v d)).2.1 = .errArgument ↔ (d ≤ 0 ∨ key = none))
      ∧ ((a.step ts (.setTimer key v d)).2.1 = .errClosed ↔ (0 < d ∧ key ≠ none ∧ a.stopped = true))
      ∧ ((a.step ts (.setTimer key v d)).2.1 = .ok ↔ (0 < d ∧ key ≠ none ∧ a.stopped = false)))
    ∧ (∀ key d,
        ((a.step ts (.moveTimer key d)).2.1 = .errArgument ↔ (d ≤ 0 ∨ key = none))
      ∧ ((a.step ts (.moveTimer key d)).2.1 = .errClosed ↔ (0 < d ∧ key ≠ none ∧ a.stopped = true))
      ∧ ((a.step ts (.moveTimer key d)).2.1 = .ok ↔ (0 < d ∧ key ≠ none ∧ a.stopped = false)))
    ∧ (∀ key,
        ((a.step ts (.removeTimer key)).2.1 = .errArgument ↔ key = none)
      ∧ ((a.step ts (.removeTimer key)).2.1 = .errClosed ↔ (key ≠ none ∧ a.stopped = true))
      ∧ ((a.step ts (.removeTimer key)).2.1 = .ok ↔ (key ≠ none ∧ a.stopped = false)))
    ∧ ((a.step ts .drain).2.1 ≠ .errArgument
      ∧ ((a.step ts .drain).2.1 = .errClosed ↔ a.stopped = true)
      ∧ ((a.step ts .drain).2.1 = .ok ↔ a.stopped = false)) := by
  refine ⟨?_, ?_, ?_, ?_⟩
  · intro key v d
    by_cases hd : d ≤ 0 <;> cases key <;> cases hst : a.stopped <;>
      simp [ApiG.step, ApiG.submit, badDelayKey, hd, hst] <;> omega
  · intro key d
    by_cases hd : d ≤ 0 <;> cases key <;> cases hst : a.stopped <;>
      simp [ApiG.step, ApiG.submit, badDelayKey, hd, hst] <;> omega
  · intro key
    cases key <;> cases hst : a.stopped <;> simp [ApiG.step, ApiG.submit, hst]
  · cases hst : a.stopped <;> simp [ApiG.step, ApiG.submit, hst]

/-- a call that returns an error (or panics) changes nothing and runs no callback. -/
theorem api_rejected_call_has_no_effect {T : Type} (ts : TStep T) (a : ApiG T) (c : Call)
    (h : (a.step ts c).2.1 = .errArgument ∨ (a.step ts c).2.1 = .errClosed ∨ (a.step ts c).2.1 = .panic) :
    (a.step ts c).1 = a ∧ (a.step ts c).2.2 = [] := by
  revert h
  cases c with
  | setTimer key v d | moveTimer key d =>
    cases key with
    | none => simp [ApiG.step, badDelayKey]
    | some k =>
      by_cases hb : badDelayKey d false = true <;> cases hst : a.stopped <;>
        simp [ApiG.step, ApiG.submit, hb, hst]
  | removeTimer key => cases key <;> cases hst : a.stopped <;> simp [ApiG.step, ApiG.submit, hst]
  | drain | tick | stop => cases hst : a.stopped <;> simp [ApiG.step, ApiG.submit, hst]

/-- **After Stop nothing happens any more**: Stop on a running wheel stops the ticker once, and whatever is
called afterwards (valid or not, ticks included) runs no callback and never returns nil. -/
theorem stop_then_silent {T : Type} (ts : TStep T) (a : ApiG T) (hrun : a.stopped = false) (cs : List Call) :
    (a.step ts .stop).1.tickerStops = a.tickerStops + 1
    ∧ (a.step ts .stop).2 = (.unit, [])
    ∧ ∀ out ∈ (a.step ts .stop).1.run ts cs, out.2 = [] ∧ out.1 ≠ .ok := by
  have hst : (a.step ts .stop).1.stopped = true := by simp [ApiG.step, hrun]
  refine ⟨by simp [ApiG.step, hrun], by simp [ApiG.step, hrun], stopped_run ts _ hst cs⟩

/-! Delays below one interval are outside the property's quantifier; Cache (C16) relies on the clamp. -/

/-- **SetTimer with `0 < delay < interval` is SetTimer with `delay = interval`** (`setTask` clamps). -/
theorem setTimer_below_interval_clamps {T : Type} (ts : TStep T) (a : ApiG T) (key : Option Nat) (v : Nat)
    (d : Int) (hd : 0 < d) (hlt : d < a.interval) (hts : ∀ t k, ts t (.set k v 0) = ts t (.set k v 1)) :
    a.step ts (.setTimer key v d) = a.step ts (.setTimer key v a.interval) := by
  have hiv : 0 < a.interval := by omega
  have h0 : stepsOf a.interval d = 0 := by
    unfold stepsOf
    exact Nat.div_eq_of_lt (by omega)
  have h1 : stepsOf a.interval (a.interval : Int) = 1 := by
    unfold stepsOf
    simp [Nat.div_self hiv]
  cases key with
  | none => simp [ApiG.step, badDelayKey]
  | some k =>
    have hb1 : badDelayKey d (some k).isNone = false := by simp [badDelayKey]; omega
    have hb2 : badDelayKey (a.interval : Int) (some k).isNone = false := by simp [badDelayKey]; omega
    simp only [ApiG.step, hb1, hb2, Bool.false_eq_true, if_false, h0, h1, ApiG.submit, hts]

/-- the wheel and the table both satisfy the hypothesis of `setTimer_below_interval_clamps`. -/
theorem set_zero_steps_is_one_step (tw : TW) (t : Spec.Table) (k v : Nat) :
    step tw (.set k v 0) = step tw (.set k v 1) ∧ Spec.step t (.set k v 0) = Spec.step t (.set k v 1) :=
  ⟨rfl, rfl⟩

/-- **A timer set with a delay below one interval fires exactly once, at the next tick**, with the set
value (same form as `set_fires_exactly_at_due` with `s = 1`). -/
theorem set_below_interval_fires_at_next_tick (n : Nat) (hn : 0 < n) (ops₀ ops : List Op) (k v : Nat)
    (hun : ∀ op ∈ ops, Spec.touches k op = false) (i v' : Nat) :
    (k, v') ∈ (run (TW.init n) (ops₀ ++ .set k v 0 :: ops)).getD (ops₀.length + 1 + i) [] ↔
      (v' = v ∧ i < ops.length ∧ Spec.isTick (ops.getD i .drain) = true ∧ Spec.ticksIn (ops.take (i + 1)) = 1) :=
  fires_exactly_at_due_after n hn ops₀ (.set k v 0) ops k v 1 (Nat.le_refl 1) (Spec.set_pending _ k v 1) hun i v'

/-- **MoveTimer with a delay below one interval runs the pending task at once, exactly once, and keeps the
timer**: the callback gets `(k, v)` at the move, and everything afterwards is as if the move had not been
issued (so the task is executed again at its old due tick). -/
theorem move_below_interval_runs_now_and_keeps_timer (n : Nat) (hn : 0 < n) (ops₀ ops : List Op) (k v s : Nat)
    (hpend : (⟨k, v, s⟩ : Spec.Timer) ∈ ops₀.foldl (fun t op => (Spec.step t op).1) []) :
    (run (TW.init n) (ops₀ ++ .move k 0 :: ops)).getD ops₀.length [] = [(k, v)]
    ∧ (run (TW.init n) (ops₀ ++ .move k 0 :: ops)).drop (ops₀.length + 1)
        = (run (TW.init n) (ops₀ ++ ops)).drop ops₀.length := by
  rw [tw_refines_timer_table n hn, tw_refines_timer_table n hn, Spec.run_at, Spec.run_drop_after, Spec.run_drop]
  exact ⟨Spec.filter_key_pending _ (Spec.reachable_keys_nodup ops₀) k v s hpend, rfl⟩

/-- An operation the timer table does not notice (no output, same table) is not noticed by the wheel's callbacks
either: nothing runs at it, and everything afterwards is as if it had not been issued. -/
theorem unnoticed_op_is_noop (n : Nat) (hn : 0 < n) (ops₀ : List Op) (op : Op) (ops : List Op)
    (h : Spec.step (Spec.after [] ops₀) op = (Spec.after [] ops₀, [])) :
    (run (TW.init n) (ops₀ ++ op :: ops)).getD ops₀.length [] = []
    ∧ (run (TW.init n) (ops₀ ++ op :: ops)).drop (ops₀.length + 1)
        = (run (TW.init n) (ops₀ ++ ops)).drop ops₀.length := by
  rw [tw_refines_timer_table n hn, tw_refines_timer_table n hn, Spec.run_at, Spec.run_drop_after, Spec.run_drop, h]
  exact ⟨rfl, rfl⟩

/-- MoveTimer (any delay) on a key that is not pending does nothing. -/
theorem move_absent_is_noop (n : Nat) (hn : 0 < n) (ops₀ ops : List Op) (k s : Nat)
    (habs : k ∉ Spec.keys (ops₀.foldl (fun t op => (Spec.step t op).1) [])) :
    (run (TW.init n) (ops₀ ++ .move k s :: ops)).getD ops₀.length [] = []
    ∧ (run (TW.init n) (ops₀ ++ .move k s :: ops)).drop (ops₀.length + 1)
        = (run (TW.init n) (ops₀ ++ ops)).drop ops₀.length :=
  unnoticed_op_is_noop n hn ops₀ (.move k s) ops (Spec.step_move_absent _ k s habs)

/-- **Drain, for every reachable state of the wheel**: the callback is handed exactly the pending timers
(each key once, with its latest value), the wheel holds no entry afterwards, and nothing fires until a
timer is set again. -/
theorem drain_delivers_all_once_and_empties (n : Nat) (hn : 0 < n) (ops₀ ops : List Op)
    (hns : ∀ op ∈ ops, isSet op = false) :
    let pending := ops₀.foldl (fun t op => (Spec.step t op).1) []
    let tw := ops₀.foldl (fun tw op => (step tw op).1) (TW.init n)
    (step tw .drain).2 = pending.map (fun x => (x.key, x.value))
    ∧ ((step tw .drain).2.map (·.1)).Nodup
    ∧ (step tw .drain).1.entries = []
    ∧ ∀ out ∈ (run (TW.init n) (ops₀ ++ .drain :: ops)).drop (ops₀.length + 1), out = [] := by
  intro pending tw
  obtain ⟨hwf, hab⟩ := reachable_abs n hn ops₀
  obtain ⟨_, _, hout⟩ := step_refines tw hwf .drain
  have hout : (step tw .drain).2 = pending.map (fun x => (x.key, x.value)) := hout.trans (by rw [hab]; rfl)
  refine ⟨hout, ?_, rfl, ?_⟩
  · rw [hout, List.map_map]
    exact Spec.reachable_keys_nodup ops₀
  · rw [tw_refines_timer_table n hn, Spec.run_drop_after]
    exact Spec.empty_silent ops hns

/-- **every reachable wheel holds at most one live entry per key** (what lets the code address a timer
through the `timers` map: key ↦ the one entry of that key). -/
theorem reachable_wheel_keys_nodup (n : Nat) (hn : 0 < n) (ops : List Op) :
    ((ops.foldl (fun tw op => (step tw op).1) (TW.init n)).entries.map (·.key)).Nodup := by
  have hk : Spec.KeysNodup (ops.foldl (fun t op => (Spec.step t op).1) []) := Spec.reachable_keys_nodup ops
  rw [← (reachable_abs n hn ops).2] at hk
  simpa [Spec.KeysNodup, Spec.keys, abs, absEntry, List.map_map, Function.comp_def] using hk

/-- a valid call after a history of valid calls and before more of them: what the callbacks get is the wheel's run
of the corresponding operations. -/
theorem api_outputs_around (iv n : Nat) (cs₀ : List Call) (c : Call) (cs : List Call)
    (hv₀ : ∀ c ∈ cs₀, validCall c = true) (hc : validCall c = true) (hv : ∀ c ∈ cs, validCall c = true) :
    ((Api.init iv n).run (cs₀ ++ c :: cs)).map (·.2)
      = run (TW.init n) (cs₀.map (toOp iv) ++ toOp iv c :: cs.map (toOp iv))
    ∧ ∀ r ∈ (Api.init iv n).run (cs₀ ++ c :: cs), r.1 = .ok ∨ r.1 = .unit := by
  have := api_valid_calls_are_wheel_ops iv n (cs₀ ++ c :: cs)
    (List.forall_mem_append.mpr ⟨hv₀, List.forall_mem_cons.mpr ⟨hc, hv⟩⟩)
  rwa [List.map_append, List.map_cons] at this

/-- `fires_exactly_at_due_after` through the API: whatever valid call leaves `(k, v, s)` pending. -/
theorem api_fires_exactly_at_due_after (iv n : Nat) (hn : 0 < n) (cs₀ : List Call) (c : Call) (cs : List Call)
    (hv₀ : ∀ c ∈ cs₀, validCall c = true) (hc : validCall c = true) (hv : ∀ c ∈ cs, validCall c = true)
    (k v s : Nat) (hs : 1 ≤ s)
    (hm : (⟨k, v, s⟩ : Spec.Timer) ∈ (Spec.step (Spec.after [] (cs₀.map (toOp iv))) (toOp iv c)).1)
    (hun : ∀ c ∈ cs, Spec.touches k (toOp iv c) = false) (i v' : Nat) :
    (k, v') ∈ (((Api.init iv n).run (cs₀ ++ c :: cs)).map (·.2)).getD (cs₀.length + 1 + i) [] ↔
      (v' = v ∧ i < cs.length ∧ Spec.isTick (toOp iv (cs.getD i .drain)) = true
        ∧ Spec.ticksIn ((cs.take (i + 1)).map (toOp iv)) = s) := by
  have := fires_exactly_at_due_after n hn (cs₀.map (toOp iv)) (toOp iv c) (cs.map (toOp iv)) k v s hs hm
    (List.forall_mem_map.mpr hun) i v'
  rw [List.length_map, List.length_map, getD_map_toOp, ← List.map_take] at this
  rw [(api_outputs_around iv n cs₀ c cs hv₀ hc hv).1]
  exact this

/-- **Clause 1 (set), through the API.**  On a running wheel of any size, after any history of valid calls,
`SetTimer(k, v, d)` with `d ≥ interval` hands `(k, v')` to the execute callback at the `i`-th following call
iff `v' = v`, that call is a tick, and it is the `⌊d/interval⌋`-th tick since the SetTimer — provided no call
in between sets, moves, removes `k` or drains. -/
theorem api_setTimer_fires_exactly_at_due (iv n : Nat) (hn : 0 < n) (hiv : 0 < iv) (cs₀ cs : List Call)
    (hv₀ : ∀ c ∈ cs₀, validCall c = true) (hv : ∀ c ∈ cs, validCall c = true) (k v : Nat) (d : Int)
    (hd : (iv : Int) ≤ d) (hun : ∀ c ∈ cs, Spec.touches k (toOp iv c) = false) (i v' : Nat) :
    (k, v') ∈ (((Api.init iv n).run (cs₀ ++ .setTimer (some k) v d :: cs)).map (·.2)).getD (cs₀.length + 1 + i) [] ↔
      (v' = v ∧ i < cs.length ∧ Spec.isTick (toOp iv (cs.getD i .drain)) = true
        ∧ Spec.ticksIn ((cs.take (i + 1)).map (toOp iv)) = d.toNat / iv) := by
  refine api_fires_exactly_at_due_after iv n hn cs₀ _ cs hv₀ (by simp [validCall]; omega) hv k v (stepsOf iv d)
    (one_le_stepsOf iv hiv d hd) ?_ hun i v'
  rw [toOp, Spec.step_set _ k v _ (one_le_stepsOf iv hiv d hd)]
  exact Spec.set_pending _ k v _

/-- **Clause 2 (move), through the API**: `MoveTimer(k, d)` with `d ≥ interval` on a key pending with value
`v`: fires exactly once, at the `⌊d/interval⌋`-th tick after the MoveTimer, with `v`. -/
theorem api_moveTimer_fires_exactly_at_due (iv n : Nat) (hn : 0 < n) (hiv : 0 < iv) (cs₀ cs : List Call)
    (hv₀ : ∀ c ∈ cs₀, validCall c = true) (hv : ∀ c ∈ cs, validCall c = true) (k v s0 : Nat) (d : Int)
    (hd : (iv : Int) ≤ d)
    (hpend : (⟨k, v, s0⟩ : Spec.Timer) ∈ (cs₀.map (toOp iv)).foldl (fun t op => (Spec.step t op).1) [])
    (hun : ∀ c ∈ cs, Spec.touches k (toOp iv c) = false) (i v' : Nat) :
    (k, v') ∈ (((Api.init iv n).run (cs₀ ++ .moveTimer (some k) d :: cs)).map (·.2)).getD (cs₀.length + 1 + i) [] ↔
      (v' = v ∧ i < cs.length ∧ Spec.isTick (toOp iv (cs.getD i .drain)) = true
        ∧ Spec.ticksIn ((cs.take (i + 1)).map (toOp iv)) = d.toNat / iv) := by
  refine api_fires_exactly_at_due_after iv n hn cs₀ _ cs hv₀ (by simp [validCall]; omega) hv k v (stepsOf iv d)
    (one_le_stepsOf iv hiv d hd) ?_ hun i v'
  rw [toOp, Spec.step_move _ k _ (one_le_stepsOf iv hiv d hd)]
  exact Spec.move_pending _ k v s0 _ hpend

/-- **Clause 3 (remove), through the API**: after `RemoveTimer(k)` no later call hands `k` to a callback
(until `k` is set again). -/
theorem api_removeTimer_never_fires (iv n : Nat) (hn : 0 < n) (cs₀ cs : List Call)
    (hv₀ : ∀ c ∈ cs₀, validCall c = true) (hv : ∀ c ∈ cs, validCall c = true) (k : Nat)
    (hun : ∀ c ∈ cs, Spec.touches k (toOp iv c) = false) (i v' : Nat) :
    (k, v') ∉ (((Api.init iv n).run (cs₀ ++ .removeTimer (some k) :: cs)).map (·.2)).getD (cs₀.length + 1 + i) [] := by
  rw [(api_outputs_around iv n cs₀ _ cs hv₀ rfl hv).1]
  have := removed_never_fires n hn (cs₀.map (toOp iv)) (cs.map (toOp iv)) k (List.forall_mem_map.mpr hun) i v'
  rwa [List.length_map] at this

/-- **Clause 4 (Drain), through the API**: `Drain(fn)` after any history of valid calls returns nil and hands
`fn` exactly the pending timers, each key once, with its latest value. -/
theorem api_drain_delivers_each_once (iv n : Nat) (hn : 0 < n) (cs₀ : List Call)
    (hv₀ : ∀ c ∈ cs₀, validCall c = true) :
    let pending := (cs₀.map (toOp iv)).foldl (fun t op => (Spec.step t op).1) []
    (((Api.init iv n).run (cs₀ ++ [.drain])).map (·.2)).getD cs₀.length [] = pending.map (fun x => (x.key, x.value))
    ∧ (pending.map (·.key)).Nodup
    ∧ (∀ r ∈ (Api.init iv n).run (cs₀ ++ [.drain]), r.1 = .ok ∨ r.1 = .unit) := by
  intro pending
  obtain ⟨hout, hok⟩ := api_outputs_around iv n cs₀ .drain [] hv₀ rfl (fun _ h => nomatch h)
  obtain ⟨hd, hnd, _⟩ := drain_each_once n hn (cs₀.map (toOp iv))
  rw [List.length_map] at hd
  exact ⟨by rw [hout]; exact hd, hnd, hok⟩

/-- a concrete API history with every kind of result: bad delay, nil key, a timer firing, Stop, a call and
a tick after Stop, Stop twice. -/
example : (Api.init 7 10).run
      [.setTimer (some 1) 5 0, .setTimer none 5 14, .setTimer (some 1) 5 14, .tick, .tick, .stop,
       .setTimer (some 1) 5 14, .moveTimer none 14, .drain, .tick, .stop]
    = [(.errArgument, []), (.errArgument, []), (.ok, []), (.unit, []), (.unit, [(1, 5)]), (.unit, []),
       (.errClosed, []), (.errArgument, []), (.errClosed, []), (.unit, []), (.panic, [])] := by decide

/-- the hypothesis of `api_valid_calls_are_wheel_ops` is satisfiable. -/
example : ∀ c ∈ [Call.setTimer (some 1) 5 14, .tick, .moveTimer (some 1) 3, .removeTimer (some 2), .drain],
    validCall c = true := by decide

/-- delay 3 < interval 7: SetTimer fires at the next tick; MoveTimer runs the task at once and it fires again. -/
example : (Api.init 7 10).run
      [.setTimer (some 1) 5 3, .tick, .setTimer (some 2) 6 21, .moveTimer (some 2) 3, .tick, .tick, .tick]
    = [(.ok, []), (.unit, [(1, 5)]), (.ok, []), (.ok, [(2, 6)]), (.unit, []), (.unit, []), (.unit, [(2, 6)])] := by
  decide

/-- the pending hypothesis of `move_below_interval_runs_now_and_keeps_timer` is satisfiable. -/
example : (⟨2, 6, 3⟩ : Spec.Timer) ∈ [Op.set 2 6 3].foldl (fun t op => (Spec.step t op).1) [] := by decide

/-- Drain on a wheel with a wrapped, lazily moved timer and a second key. -/
example : (run (TW.init 10) (List.replicate 6 .tick ++ [.set 1 7 8, .move 1 12, .set 2 9 3, .drain, .tick, .move 1 4, .tick])).drop 9
    = [[(1, 7), (2, 9)], [], [], []] := by decide

/-- clause 1 through the API on a wrapped wheel: interval 7, delay 59 = 8 intervals + 3. -/
example : (1, 7) ∈ (((Api.init 7 10).run (List.replicate 6 .tick ++ .setTimer (some 1) 7 59 :: List.replicate 8 .tick)).map (·.2)).getD (6 + 1 + 7) [] := by
  decide

example : ∀ c ∈ List.replicate 8 Call.tick, validCall c = true ∧ Spec.touches 1 (toOp 7 c) = false := by decide

end GoZero.C12
