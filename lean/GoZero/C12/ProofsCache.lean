/-
C12 — lemmas about core/collection/cache.go with an LRU limit (`CacheL`, Clients.lean) as a client of the wheel: the
keys in `data` are the keys with a pending timer, over the timer table; and the same client over the wheel model
(`cacheStepW`) refines the one over the table.
-/
import GoZero.C12.ProofsClients
namespace GoZero.C12

/-- `lruAdd` leaves `data` alone, or evicts one OTHER key: from `data`, with one RemoveTimer. -/
theorem lruAdd_shape (c : CacheL) (k : Nat) :
    ((c.lruAdd k).1.data = c.data ∧ (c.lruAdd k).2 = [])
    ∨ ∃ old, old ≠ k ∧ (c.lruAdd k).1.data = c.data.filter (·.1 ≠ old) ∧ (c.lruAdd k).2 = [.removeTimer (some old)] := by
  unfold CacheL.lruAdd
  split
  · exact .inl ⟨rfl, rfl⟩
  · split
    · exact .inl ⟨rfl, rfl⟩
    · next hc =>
      split
      · next hlen =>
        refine .inr ⟨(k :: c.lru).getLast (List.cons_ne_nil _ _), ?_, rfl, rfl⟩
        -- the evicted key is the last of `k :: lru`; the list is longer than one, so it is a member of `lru`
        cases hlru : c.lru with
        | nil => simp [hlru] at hlen; omega
        | cons y ys =>
          rw [List.getLast_cons (List.cons_ne_nil y ys)]
          intro heq
          have hm := List.getLast_mem (List.cons_ne_nil y ys)
          rw [heq, ← hlru] at hm
          exact hc (List.contains_iff_mem.mpr hm)
      · exact .inl ⟨rfl, rfl⟩

theorem lruRemove_shape (c : CacheL) (k : Nat) :
    ((c.lruRemove k).1.data = c.data ∧ (c.lruRemove k).2 = [])
    ∨ ((c.lruRemove k).1.data = c.data.filter (·.1 ≠ k) ∧ (c.lruRemove k).2 = [.removeTimer (some k)]) := by
  unfold CacheL.lruRemove
  split
  · exact .inr ⟨rfl, rfl⟩
  · exact .inl ⟨rfl, rfl⟩

theorem lruAdd_expire (c : CacheL) (k : Nat) : (c.lruAdd k).1.expire = c.expire := by
  unfold CacheL.lruAdd
  split
  · rfl
  · split
    · rfl
    · split <;> rfl

theorem del_expire (c : CacheL) (k : Nat) : (c.del k).1.expire = c.expire := by
  unfold CacheL.del CacheL.lruRemove
  split <;> rfl

theorem client_expire (c : CacheL) (op : COp) : (c.client op).1.expire = c.expire := by
  cases op with
  | set k v e | put k v => exact lruAdd_expire { c with data := upsert c.data k v } k
  | del k => exact del_expire c k
  | get k =>
    simp only [CacheL.client, CacheL.doGet]
    cases c.lookup k with
    | none => rfl
    | some w => exact lruAdd_expire c k
  | take k v f =>
    simp only [CacheL.client, CacheL.take, CacheL.doGet]
    cases c.lookup k with
    | some w => exact lruAdd_expire c k
    | none =>
      cases f with
      | ok => exact lruAdd_expire { c with data := upsert c.data k v } k
      | err | noReturn => rfl
  | tick => rfl

def keysOf (c : CacheL) : List Nat := c.data.map (·.1)

theorem keys_upsert (d : List (Nat × Nat)) (k v j : Nat) :
    j ∈ (upsert d k v).map (·.1) ↔ (j ∈ d.map (·.1) ∨ j = k) := by
  unfold upsert
  split
  · next h =>
    have hk : k ∈ d.map (·.1) := by simpa using h
    rw [List.map_map, List.map_congr_left (g := (·.1)) fun x _ => by
      simp only [Function.comp]; split <;> simp [*]]
    exact ⟨.inl, fun h' => h'.elim id (· ▸ hk)⟩
  · simp

/-- a valid call whose request hands nothing to a callback: all the cache issues. -/
def Silent (c : Call) : Prop := validCall c = true ∧ ∀ iv t, (Spec.step t (toOp iv c)).2 = []

theorem silent_remove (k : Nat) : Silent (.removeTimer (some k)) := ⟨rfl, fun _ _ => rfl⟩

theorem silent_set (k v : Nat) (e : Int) (he : 0 < e) : Silent (.setTimer (some k) v e) :=
  ⟨decide_eq_true he, fun _ _ => rfl⟩

/-- silent calls issued on a running wheel: nothing runs, and the table is the table after their requests. -/
theorem issue_silent (key : Nat) (cs : List Call) (a : Spec.Api) (hrun : a.stopped = false)
    (hq : ∀ x ∈ cs, Silent x) :
    (ApiG.issue Spec.step key a cs).1.stopped = false
    ∧ (ApiG.issue Spec.step key a cs).2.1 = []
    ∧ (ApiG.issue Spec.step key a cs).1.inner = Spec.after a.inner (cs.map (toOp a.interval)) := by
  induction cs generalizing a with
  | nil => exact ⟨hrun, rfl, rfl⟩
  | cons c rest ih =>
    obtain ⟨⟨hv, hout⟩, hq'⟩ := List.forall_mem_cons.mp hq
    obtain ⟨r, _, hs⟩ := valid_step Spec.step a hrun c hv
    obtain ⟨i1, i3, i4⟩ := ih (ApiG.step Spec.step a c).1 (by rw [hs]; exact hrun) hq'
    simp only [ApiG.issue, List.map_cons, List.foldl_cons]
    rw [hs] at i1 i3 i4 ⊢
    exact ⟨i1, by rw [i3, hout]; rfl, i4⟩

/-- the keys in the cache's `data` are the keys with a pending timer. -/
def Rel (c : CacheL) (t : Spec.Table) : Prop := ∀ j, j ∈ keysOf c ↔ j ∈ Spec.keys t

/-- `r` is what a cache function returns over the table `t`: only silent calls, and cache and table related again
once their requests have reached the wheel. -/
def Moves (iv : Nat) (t : Spec.Table) (r : CacheL × List Call) : Prop :=
  (∀ x ∈ r.2, Silent x) ∧ Rel r.1 (Spec.after t (r.2.map (toOp iv)))

theorem moves_lruAdd (iv : Nat) (c : CacheL) (t : Spec.Table) (k : Nat) (h : Rel c t) :
    Moves iv t (c.lruAdd k) := by
  obtain ⟨hd, hc⟩ | ⟨old, _, hd, hc⟩ := lruAdd_shape c k
  · exact ⟨by simp [hc], fun j => by simpa only [keysOf, hd, hc, List.map_nil, List.foldl_nil] using h j⟩
  · refine ⟨by simp [hc, silent_remove], fun j => ?_⟩
    simp only [keysOf, hd, hc, List.map_cons, List.map_nil, List.foldl_cons, List.foldl_nil, toOp, Spec.step,
      Spec.mem_map_filter_ne, Spec.mem_keys_remove]
    rw [← h j]; rfl

theorem moves_set (iv : Nat) (c : CacheL) (t : Spec.Table) (k v : Nat) (e : Int) (h : Rel c t) (he : 0 < e) :
    Moves iv t (c.setWithExpire k v e) := by
  unfold CacheL.setWithExpire
  obtain ⟨hd, hc⟩ | ⟨old, hne, hd, hc⟩ := lruAdd_shape { c with data := upsert c.data k v } k
  · refine ⟨by simp [hc, silent_set, he], fun j => ?_⟩
    simp only [keysOf, hd, hc, List.nil_append, List.map_cons, List.map_nil, List.foldl_cons, List.foldl_nil, toOp,
      Spec.step, keys_upsert, Spec.mem_keys_set]
    rw [← h j]; rfl
  · refine ⟨by simp [hc, silent_remove, silent_set, he], fun j => ?_⟩
    simp only [keysOf, hd, hc, List.cons_append, List.nil_append, List.map_cons, List.map_nil, List.foldl_cons,
      List.foldl_nil, toOp, Spec.step, Spec.mem_map_filter_ne, keys_upsert, Spec.mem_keys_set, Spec.mem_keys_remove]
    rw [show j ∈ c.data.map (·.1) ↔ j ∈ Spec.keys t from h j]
    -- `hne`: the evicted key is not the key being set
    exact ⟨fun ⟨h1, h2⟩ => h1.elim (fun h1 => .inl ⟨h1, h2⟩) .inr,
      fun h1 => h1.elim (fun ⟨h1, h2⟩ => ⟨.inl h1, h2⟩) fun e => ⟨.inr e, e ▸ hne.symm⟩⟩

/-- `Del` takes the key out of `data` and out of the table (one RemoveTimer, or two when the key was listed). -/
theorem del_effect (iv : Nat) (c : CacheL) (t : Spec.Table) (k : Nat) :
    (∀ x ∈ (c.del k).2, Silent x)
    ∧ (∀ j, j ∈ keysOf (c.del k).1 ↔ (j ∈ keysOf c ∧ j ≠ k))
    ∧ (∀ j, j ∈ Spec.keys (Spec.after t ((c.del k).2.map (toOp iv))) ↔ (j ∈ Spec.keys t ∧ j ≠ k)) := by
  unfold CacheL.del
  obtain ⟨hd, hc⟩ | ⟨hd, hc⟩ := lruRemove_shape { c with data := c.data.filter (·.1 ≠ k) } k <;>
    refine ⟨by rw [hc]; simp [silent_remove], fun j => ?_, fun j => ?_⟩ <;>
    simp only [keysOf, hd, hc, List.cons_append, List.nil_append, List.map_cons, List.map_nil, List.foldl_cons,
      List.foldl_nil, toOp, Spec.step, Spec.mem_map_filter_ne, Spec.mem_keys_remove, and_assoc, and_self]

theorem moves_client (iv : Nat) (c : CacheL) (t : Spec.Table) (op : COp) (hop : op ≠ .tick)
    (hexp : 0 < c.expire) (hpos : ∀ k v e, op = .set k v e → 0 < e) (h : Rel c t) :
    Moves iv t (c.client op) := by
  have stay : Moves iv t (c, []) := ⟨by simp, h⟩
  cases op with
  | set k v e => exact moves_set iv c t k v e h (hpos k v e rfl)
  | put k v => exact moves_set iv c t k v c.expire h hexp
  | del k =>
    obtain ⟨hq, hc, ht⟩ := del_effect iv c t k
    exact ⟨hq, fun j => (hc j).trans ((and_congr_left' (h j)).trans (ht j).symm)⟩
  | get k =>
    simp only [CacheL.client, CacheL.doGet]
    cases c.lookup k with
    | none => exact stay
    | some w => exact moves_lruAdd iv c t k h
  | take k v f =>
    simp only [CacheL.client, CacheL.take, CacheL.doGet]
    cases c.lookup k with
    | some w => exact moves_lruAdd iv c t k h
    | none =>
      cases f with
      | ok => exact moves_set iv c t k v c.expire h hexp
      | err | noReturn => exact stay
  | tick => exact absurd rfl hop

/-- the expiry callbacks of a tick: every fired key leaves `data` and (again) the table. -/
theorem settle_cache (f : Nat) (a : Spec.Api) (c : CacheL) (pend : List (Nat × Nat))
    (hrun : a.stopped = false) (hlen : pend.length ≤ f) :
    (ApiG.settle Spec.step cacheLCb f a c pend).api.stopped = false
    ∧ (ApiG.settle Spec.step cacheLCb f a c pend).cb.expire = c.expire
    ∧ (∀ j, j ∈ Spec.keys (ApiG.settle Spec.step cacheLCb f a c pend).api.inner
          ↔ (j ∈ Spec.keys a.inner ∧ j ∉ pend.map (·.1)))
    ∧ (∀ j, j ∈ keysOf (ApiG.settle Spec.step cacheLCb f a c pend).cb ↔ (j ∈ keysOf c ∧ j ∉ pend.map (·.1))) := by
  induction f generalizing a c pend with
  | zero =>
    obtain rfl : pend = [] := List.length_eq_zero_iff.mp (Nat.le_zero.mp hlen)
    simp [ApiG.settle, hrun]
  | succ f ih =>
    cases pend with
    | nil => simp [ApiG.settle, hrun]
    | cons kv rest =>
      obtain ⟨e1, e3, e4⟩ := del_effect a.interval c a.inner kv.1
      obtain ⟨i1, i3, i4⟩ := issue_silent kv.1 (c.del kv.1).2 a hrun e1
      obtain ⟨r1, r2, r3, r4⟩ := ih (ApiG.issue Spec.step kv.1 a (c.del kv.1).2).1 (c.del kv.1).1 rest i1
        (by simpa using hlen)
      simp only [ApiG.settle, cacheLCb, i3, List.append_nil]
      refine ⟨r1, r2.trans (del_expire c kv.1), fun j => ?_, fun j => ?_⟩
      · rw [r3 j, i4, e4 j]; simp [and_assoc]
      · rw [r4 j, e3 j]; simp [and_assoc]

/-- the invariant: the wheel runs, the cache's expire is the configured one, and the keys in `data` are exactly the
keys with a pending timer. -/
def CInv (expire : Int) (st : Spec.Api × CacheL) : Prop :=
  st.1.stopped = false ∧ st.2.expire = expire ∧ Rel st.2 st.1.inner

theorem cacheStep_inv (expire : Int) (hexp : 0 < expire) (st : Spec.Api × CacheL) (op : COp)
    (hpos : ∀ k v e, op = .set k v e → 0 < e) (h : CInv expire st) : CInv expire (cacheStep st op) := by
  obtain ⟨hrun, hex, hrel⟩ := h
  by_cases hop : op = .tick
  · subst hop
    -- the tick takes the due keys out of the table, their expiry callbacks take them out of `data`
    have hf : (Spec.tick st.1.inner).2.length ≤ st.1.inner.length + 1 := by
      simp only [Spec.tick, List.length_map]; exact Nat.le_succ_of_le (List.length_filter_le _ _)
    obtain ⟨s1, s2, s3, s4⟩ := settle_cache (st.1.inner.length + 1)
      ⟨st.1.interval, (Spec.tick st.1.inner).1, false, st.1.tickerStops⟩ st.2 (Spec.tick st.1.inner).2 rfl hf
    simp only [cacheStep, CacheL.client, ApiG.issue, ApiG.step, hrun, Bool.false_eq_true, if_false, Spec.step,
      List.append_nil]
    refine ⟨s1, s2.trans hex, fun j => ?_⟩
    rw [s4 j, s3 j, hrel j, Spec.mem_keys_tick st.1.inner j]
    exact ⟨fun ⟨h1, h2⟩ => ⟨h1.resolve_right h2, h2⟩, fun ⟨h1, h2⟩ => ⟨.inl h1, h2⟩⟩
  · obtain ⟨c1, c3⟩ := moves_client st.1.interval st.2 st.1.inner op hop (hex ▸ hexp) hpos hrel
    obtain ⟨i1, i3, i4⟩ := issue_silent 0 (st.2.client op).2 st.1 hrun c1
    simp only [cacheStep, i3, ApiG.settle]
    exact ⟨i1, (client_expire st.2 op).trans hex, i4 ▸ c3⟩

theorem cacheRun_inv (expire : Int) (hexp : 0 < expire) (ops : List COp) (st : Spec.Api × CacheL)
    (hpos : ∀ k v e, COp.set k v e ∈ ops → 0 < e) (h : CInv expire st) : CInv expire (ops.foldl cacheStep st) :=
  List.foldlRecOn ops cacheStep h fun st hst op hm =>
    cacheStep_inv expire hexp st op (fun k v e he => hpos k v e (he ▸ hm)) hst

/-- the same client over the wheel model (fuel: the number of live entries bounds what one tick fires). -/
def cacheStepW (st : Api × CacheL) (op : COp) : Api × CacheL :=
  ((ApiG.settle step cacheLCb (st.1.inner.entries.length + 1) (ApiG.issue step 0 st.1 (st.2.client op).2).1
      (st.2.client op).1 (ApiG.issue step 0 st.1 (st.2.client op).2).2.1).api,
   (ApiG.settle step cacheLCb (st.1.inner.entries.length + 1) (ApiG.issue step 0 st.1 (st.2.client op).2).1
      (st.2.client op).1 (ApiG.issue step 0 st.1 (st.2.client op).2).2.1).cb)

theorem cacheStepW_refines (st : Api × CacheL) (h : WF st.1.inner) (op : COp) :
    WF (cacheStepW st op).1.inner
    ∧ (absApi (cacheStepW st op).1, (cacheStepW st op).2) = cacheStep (absApi st.1, st.2) op := by
  obtain ⟨hwf, habs, hout⟩ := issue_refines 0 (st.2.client op).2 st.1 h
  obtain ⟨hwf', hr⟩ := settle_refines cacheLCb (st.1.inner.entries.length + 1) _ (st.2.client op).1
    (ApiG.issue step 0 st.1 (st.2.client op).2).2.1 hwf
  refine ⟨hwf', ?_⟩
  simp only [cacheStep, show (absApi st.1).inner.length = st.1.inner.entries.length from List.length_map _]
  rw [← habs, ← hout, ← hr]
  rfl

theorem cacheRunW_refines (ops : List COp) (st : Api × CacheL) (h : WF st.1.inner) :
    WF (ops.foldl cacheStepW st).1.inner
    ∧ (absApi (ops.foldl cacheStepW st).1, (ops.foldl cacheStepW st).2) = ops.foldl cacheStep (absApi st.1, st.2) :=
  List.foldl_rel (r := fun (st : Api × CacheL) st' => WF st.1.inner ∧ (absApi st.1, st.2) = st') ⟨h, rfl⟩
    fun op _ st _ ⟨hwf, he⟩ => he ▸ cacheStepW_refines st hwf op

end GoZero.C12
