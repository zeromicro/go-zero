/-
C12 — what is handed to the callbacks when callbacks stay inside the callback over later ticks, panic or call
runtime.Goexit (`scanAndRunTasks` → `runTasks`, Deliver.lean), for every interleaving of ticks and callback goroutines;
composed with the wheel in `every_due_pair_reaches_a_callback_exactly_once`.
-/
import GoZero.C12.ProofsDeliver
import GoZero.C12.Props
namespace GoZero.C12

/-- [for every recover scope, every behaviour of the callbacks, every interleaving]  when all goroutines are done,
what was handed to callbacks is, batch by batch, that batch's own prefix up to its first fatal task: what a
callback does can only affect LATER tasks of ITS OWN tick, never another tick (before, after, or concurrent). -/
theorem deliver_each_batch_on_its_own (sc : Scope) (oc : Pair → Outcome) (evs : List DEv) (p : Pair)
    (hfin : (Dl.runO sc oc {} evs).finished = true) :
    ((Dl.runO sc oc {} evs).out).count p
      = (((batches evs).map (deliveredOf fun q => survives sc (oc q))).flatten).count p := by
  have := runO_count sc oc p evs {}
  rw [finished_map_flatten _ rfl _ hfin] at this
  simpa using this

/-- [per-task recovery, the code that exists]  callbacks that PANIC (with an error value or anything else) affect
the delivery of no other timer, in their tick or any other: every due pair is handed to a callback exactly once. -/
theorem panicking_callback_affects_no_other_timer (oc : Pair → Outcome) (hno : ∀ q, oc q ≠ .goexit)
    (evs : List DEv) (p : Pair) (hfin : (Dl.runO .perTask oc {} evs).finished = true) :
    ((Dl.runO .perTask oc {} evs).out).count p = ((batches evs).flatten).count p := by
  rw [deliver_each_batch_on_its_own .perTask oc evs p hfin, map_deliveredOf_all _ fun q => survives_perTask _ (hno q)]

/-- At ANY moment of ANY interleaving of ticks and callback goroutines, no pair was handed to a callback more often
than the ticks found it due (no double delivery, nothing that was not due). -/
theorem deliver_fresh_never_more (evs : List DEv) (p : Pair) :
    ((Dl.run {} evs).out).count p ≤ ((batches evs).flatten).count p := by
  have := runO_count .perTask (fun _ => .ret) p evs {}
  simp only [← Dl.run_eq_runO, map_deliveredOf_all (fun _ => survives .perTask .ret) fun _ => rfl, List.count_nil,
    List.flatten_nil, Nat.zero_add] at this
  omega

/-- [exactly once] when every goroutine has walked its slice, each pair was handed to a callback exactly as often as
the ticks found it due — whatever the interleaving (callbacks blocked over any number of later ticks). -/
theorem deliver_fresh_exactly_once (evs : List DEv) (p : Pair) (hfin : (Dl.run {} evs).finished = true) :
    ((Dl.run {} evs).out).count p = ((batches evs).flatten).count p := by
  rw [Dl.run_eq_runO] at hfin ⊢
  exact panicking_callback_affects_no_other_timer (fun _ => .ret) (fun _ h => nomatch h) evs p hfin

example : (Dl.run {} [.spawn [(2, 769), (0, 460)], .run 0, .spawn [(53, 240), (55, 885)], .run 1, .run 1, .run 0]).out
    = [(2, 769), (53, 240), (55, 885), (0, 460)] := by decide

/-- witness of seeded change C12-8 (a buffer kept on the wheel and reused by every tick): the callback of the first
due task of tick 1 blocks, tick 2 finds two tasks due and overwrites the buffer, the goroutine of tick 1 goes on:
`0:460` is never delivered and `55:885` is delivered twice (the replay the harness finds, mode=sched `hold`). -/
theorem deliver_shared_buffer_loses_and_duplicates :
    (DlShared.run {} [.spawn [(2, 769), (0, 460)], .run 0, .spawn [(53, 240), (55, 885)], .run 1, .run 1, .run 0]).out
      = [(2, 769), (53, 240), (55, 885), (55, 885)] := by decide

/-- [Goexit, modelled as the code behaves]  of a batch none of whose callbacks calls Goexit, `deliveredOf` keeps
everything (with `deliver_each_batch_on_its_own`: such a tick is delivered completely, whatever other ticks do). -/
theorem goexit_affects_no_other_tick (oc : Pair → Outcome) (b : List Pair) (hb : ∀ x ∈ b, oc x ≠ .goexit) :
    deliveredOf (fun q => survives .perTask (oc q)) b = b :=
  deliveredOf_all_mem _ b fun x hx => survives_perTask _ (hb x hx)

/-- witness (the real code, mode=sched `boom 2 goexit`): keys 1, 2, 3 due at one tick, the callback of key 2 calls
Goexit: 3:30 is never delivered; key 4, due at the next tick, is. -/
theorem goexit_loses_the_rest_of_its_tick :
    (Dl.runO .perTask (fun p => if p.1 = 2 then .goexit else .ret) {}
      [.spawn [(1, 10), (2, 20), (3, 30)], .run 0, .run 0, .run 0, .spawn [(4, 40)], .run 1, .run 0]).out
      = [(1, 10), (2, 20), (4, 40)] := by decide

/-- witness of seeded change C12-9 (one GoSafe around the loop in place of RunSafe per task): a PANIC then loses
the rest of the tick as well. -/
theorem recover_around_the_loop_loses_the_rest_on_panic :
    (Dl.runO .aroundLoop (fun p => if p.1 = 2 then .panic else .ret) {}
      [.spawn [(1, 10), (2, 20), (3, 30)], .run 0, .run 0, .run 0]).out = [(1, 10), (2, 20)]
    ∧ (Dl.runO .perTask (fun p => if p.1 = 2 then .panic else .ret) {}
      [.spawn [(1, 10), (2, 20), (3, 30)], .run 0, .run 0, .run 0]).out = [(1, 10), (2, 20), (3, 30)] := by decide

/-- [wheel + delivery composed: every wheel size, every history, every interleaving of ticks and callback goroutines,
callbacks that return or panic]  if the batches handed to runTasks are what the wheel's operations produce, then,
once the callback goroutines are done, every pair has reached a callback exactly as often as the TIMER TABLE says it
was due (at its floor(d/interval)-th tick, with the most recently set value); and, with callbacks that all return,
never more often at any moment.  `hb` takes EVERY output list of the wheel as a batch, also what `.drain` and a
`.move k 0` hand out, which the code delivers on goroutines of their own (`tie_drainScope`, `tie_moveImmediateScope`)
and not through runTasks: for the counts, and without Goexit, the difference cannot be seen. -/
theorem every_due_pair_reaches_a_callback_exactly_once (n : Nat) (hn : 0 < n) (ops : List Op) (oc : Pair → Outcome)
    (hno : ∀ q, oc q ≠ .goexit) (evs : List DEv) (hb : batches evs = run (TW.init n) ops) (p : Pair) :
    (((Dl.runO .perTask oc {} evs).finished = true →
        ((Dl.runO .perTask oc {} evs).out).count p = ((Spec.run [] ops).flatten).count p))
    ∧ ((Dl.run {} evs).out).count p ≤ ((Spec.run [] ops).flatten).count p := by
  rw [← tw_refines_timer_table n hn ops, ← hb]
  exact ⟨fun hfin => panicking_callback_affects_no_other_timer oc hno evs p hfin, deliver_fresh_never_more evs p⟩

example : batches [.spawn [], .spawn [(1, 7)], .run 1] = run (TW.init 3) [.set 1 7 1, .tick] := by decide

end GoZero.C12
