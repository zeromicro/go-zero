/-
C12 — lemmas for the API layer (Api.lean): refinement of the API over the wheel by the API over the timer table,
silence after Stop, a valid call on a running wheel as its request handed to the timer mechanism.
-/
import GoZero.C12.Api
import GoZero.C12.Refine
import GoZero.C12.SpecFacts
namespace GoZero.C12

def absApi (a : Api) : Spec.Api :=
  { interval := a.interval, inner := abs a.inner, stopped := a.stopped, tickerStops := a.tickerStops }

theorem submit_refines (a : Api) (h : WF a.inner) (op : Op) :
    WF (a.submit step op).1.inner
    ∧ absApi (a.submit step op).1 = ((absApi a).submit Spec.step op).1
    ∧ (a.submit step op).2 = ((absApi a).submit Spec.step op).2 := by
  have hs := step_refines a.inner h op
  unfold ApiG.submit
  by_cases hst : a.stopped = true
  · simp [hst, absApi, h]
  · simp [hst, absApi, hs.1, hs.2.1, hs.2.2]

theorem api_step_refines (a : Api) (h : WF a.inner) (c : Call) :
    WF (ApiG.step step a c).1.inner
    ∧ absApi (ApiG.step step a c).1 = (ApiG.step Spec.step (absApi a) c).1
    ∧ (ApiG.step step a c).2 = (ApiG.step Spec.step (absApi a) c).2 := by
  have hT := step_refines a.inner h .tick
  cases c with
  | setTimer key v d | moveTimer key d =>
    simp only [ApiG.step]
    split
    · exact ⟨h, rfl, rfl⟩
    · cases key with
      | none => exact ⟨h, rfl, rfl⟩
      | some k => exact submit_refines a h _
  | removeTimer key =>
    cases key with
    | none => exact ⟨h, rfl, rfl⟩
    | some k => exact submit_refines a h _
  | drain => exact submit_refines a h .drain
  | tick =>
    simp only [ApiG.step]
    cases hst : a.stopped <;> simp [hst, absApi, h, hT.1, hT.2.1, hT.2.2]
  | stop =>
    simp only [ApiG.step]
    cases hst : a.stopped <;> simp [hst, absApi, h]

theorem api_run_refines (a : Api) (h : WF a.inner) (cs : List Call) :
    ApiG.run step a cs = ApiG.run Spec.step (absApi a) cs := by
  induction cs generalizing a with
  | nil => rfl
  | cons c cs ih =>
    obtain ⟨hwf, habs, hout⟩ := api_step_refines a h c
    simp only [ApiG.run]
    rw [hout, ih _ hwf, habs]

theorem stopped_step {T : Type} (ts : TStep T) (a : ApiG T) (hst : a.stopped = true) (c : Call) :
    (a.step ts c).1 = a ∧ (a.step ts c).2.2 = [] ∧ (a.step ts c).2.1 ≠ .ok := by
  cases c with
  | setTimer key v d | moveTimer key d =>
    simp only [ApiG.step]
    split
    · simp
    · cases key <;> simp [ApiG.submit, hst]
  | removeTimer key => cases key <;> simp [ApiG.step, ApiG.submit, hst]
  | drain | tick | stop => simp [ApiG.step, ApiG.submit, hst]

theorem stopped_run {T : Type} (ts : TStep T) (a : ApiG T) (hst : a.stopped = true) (cs : List Call) :
    ∀ out ∈ a.run ts cs, out.2 = [] ∧ out.1 ≠ .ok := by
  induction cs with
  | nil => simp [ApiG.run]
  | cons c cs ih =>
    have hs := stopped_step ts a hst c
    exact List.forall_mem_cons.mpr ⟨hs.2, hs.1.symm ▸ ih⟩

/-- a call whose arguments pass the guards (Stop excluded). -/
def validCall : Call → Bool
  | .setTimer (some _) _ d => decide (0 < d)
  | .moveTimer (some _) d => decide (0 < d)
  | .removeTimer (some _) => true
  | .drain => true
  | .tick => true
  | _ => false

/-- the request the run loop handles for a valid call (`steps = delay / interval`). -/
def toOp (iv : Nat) : Call → Op
  | .setTimer (some k) v d => .set k v (stepsOf iv d)
  | .moveTimer (some k) d => .move k (stepsOf iv d)
  | .removeTimer (some k) => .remove k
  | .drain => .drain
  | _ => .tick

theorem valid_step {T : Type} (ts : TStep T) (a : ApiG T) (hrun : a.stopped = false) (c : Call)
    (hv : validCall c = true) :
    ∃ r, (r = .ok ∨ r = .unit) ∧ a.step ts c
      = ({ a with inner := (ts a.inner (toOp a.interval c)).1 }, r, (ts a.inner (toOp a.interval c)).2) := by
  cases c with
  | setTimer key v d | moveTimer key d =>
    cases key with
    | none => cases hv
    | some k =>
      have hb : badDelayKey d false = false := by simpa [badDelayKey, validCall] using hv
      exact ⟨.ok, .inl rfl, by simp [ApiG.step, ApiG.submit, hb, hrun, toOp]⟩
  | removeTimer key =>
    cases key with
    | none => cases hv
    | some k => exact ⟨.ok, .inl rfl, by simp [ApiG.step, ApiG.submit, hrun, toOp]⟩
  | drain => exact ⟨.ok, .inl rfl, by simp [ApiG.step, ApiG.submit, hrun, toOp]⟩
  | tick => exact ⟨.unit, .inr rfl, by simp [ApiG.step, hrun, toOp]⟩
  | stop => cases hv

theorem valid_run (a : Api) (hrun : a.stopped = false) (cs : List Call) (hv : ∀ c ∈ cs, validCall c = true) :
    (a.run cs).map (·.2) = run a.inner (cs.map (toOp a.interval))
    ∧ ∀ r ∈ a.run cs, r.1 = .ok ∨ r.1 = .unit := by
  induction cs generalizing a with
  | nil => exact ⟨rfl, fun _ h => nomatch h⟩
  | cons c cs ih =>
    obtain ⟨hc, hv'⟩ := List.forall_mem_cons.mp hv
    obtain ⟨r, hr, hs⟩ : ∃ r, _ ∧ a.step c = _ := valid_step step a hrun c hc
    obtain ⟨ih1, ih2⟩ := ih (a.step c).1 (by rw [hs]; exact hrun) hv'
    constructor
    · show (a.step c).2.2 :: (Api.run (a.step c).1 cs).map (·.2)
        = (step a.inner (toOp a.interval c)).2 :: run (step a.inner (toOp a.interval c)).1 (cs.map (toOp a.interval))
      rw [ih1, hs]
    · exact List.forall_mem_cons.mpr ⟨(congrArg (·.2.1) hs).symm ▸ hr, ih2⟩

theorem getD_map_toOp (iv : Nat) (cs : List Call) (i : Nat) :
    (cs.map (toOp iv)).getD i .drain = toOp iv (cs.getD i .drain) := by
  rw [List.getD_eq_getElem?_getD, List.getD_eq_getElem?_getD, List.getElem?_map]
  cases cs[i]? <;> rfl

theorem one_le_stepsOf (iv : Nat) (hiv : 0 < iv) (d : Int) (hd : (iv : Int) ≤ d) : 1 ≤ stepsOf iv d :=
  (Nat.le_div_iff_mul_le hiv).mpr (by omega)

end GoZero.C12
