/-
C12 — helper lemmas for Clients.lean: the callback layer over the wheel refines the callback layer over the
timer table; calls issued from callbacks are ordinary sequential calls.
-/
import GoZero.C12.Clients
import GoZero.C12.ProofsApi
namespace GoZero.C12

theorem issue_refines (k : Nat) (cs : List Call) (a : Api) (h : WF a.inner) :
    WF (ApiG.issue step k a cs).1.inner
    ∧ absApi (ApiG.issue step k a cs).1 = (ApiG.issue Spec.step k (absApi a) cs).1
    ∧ (ApiG.issue step k a cs).2 = (ApiG.issue Spec.step k (absApi a) cs).2 := by
  induction cs generalizing a with
  | nil => exact ⟨h, rfl, rfl⟩
  | cons c cs ih =>
    obtain ⟨hwf, habs, hout⟩ := api_step_refines a h c
    obtain ⟨hwf', habs', hout'⟩ := ih _ hwf
    simp only [ApiG.issue]
    rw [← hout, ← habs, ← habs', ← hout']
    exact ⟨hwf', rfl, rfl⟩

def absSettled {σ : Type} (r : Settled TW σ) : Settled Spec.Table σ :=
  ⟨absApi r.api, r.cb, r.fired, r.inner, r.left⟩

theorem settle_refines {σ : Type} (cb : Cb σ) (fuel : Nat) (a : Api) (s : σ) (pend : List (Nat × Nat))
    (h : WF a.inner) :
    WF (ApiG.settle step cb fuel a s pend).api.inner
    ∧ absSettled (ApiG.settle step cb fuel a s pend) = ApiG.settle Spec.step cb fuel (absApi a) s pend := by
  induction fuel generalizing a s pend with
  | zero => exact ⟨h, rfl⟩
  | succ f ih =>
    cases pend with
    | nil => exact ⟨h, rfl⟩
    | cons kv rest =>
      obtain ⟨hwf, habs, hout⟩ := issue_refines kv.1 (cb s kv.1 kv.2).2 a h
      obtain ⟨hwf', hr⟩ := ih _ (cb s kv.1 kv.2).1 (rest ++ (ApiG.issue step kv.1 a (cb s kv.1 kv.2).2).2.1) hwf
      simp only [ApiG.settle]
      rw [← hout, ← habs, ← hr]
      exact ⟨hwf', rfl⟩

theorem runCb_refines {σ : Type} (cb : Cb σ) (fuel : Nat) (cs : List Call) (a : Api) (s : σ) (h : WF a.inner) :
    ApiG.runCb step cb fuel a s cs = ApiG.runCb Spec.step cb fuel (absApi a) s cs := by
  induction cs generalizing a s with
  | nil => rfl
  | cons c cs ih =>
    obtain ⟨hwf, habs, hout⟩ := api_step_refines a h c
    obtain ⟨hwf', hr⟩ := settle_refines cb fuel _ s (ApiG.step step a c).2.2 hwf
    simp only [ApiG.runCb, ApiG.stepCb]
    rw [← hout, ← habs, ← hr]
    exact congrArg _ (ih _ _ hwf')

theorem issue_is_run {T : Type} (ts : TStep T) (k : Nat) (cs : List Call) (a : ApiG T) :
    (ApiG.issue ts k a cs).1 = ApiG.after ts a cs
    ∧ (ApiG.issue ts k a cs).2.1 = (ApiG.run ts a cs).flatMap (·.2)
    ∧ (ApiG.issue ts k a cs).2.2.map (·.2.1) = cs
    ∧ (ApiG.issue ts k a cs).2.2.map (·.2.2) = (ApiG.run ts a cs).map (·.1)
    ∧ ∀ x ∈ (ApiG.issue ts k a cs).2.2, x.1 = k := by
  induction cs generalizing a with
  | nil => simp [ApiG.issue, ApiG.after, ApiG.run]
  | cons c cs ih =>
    have := ih (a.step ts c).1
    simp only [ApiG.issue, ApiG.after, ApiG.run, List.foldl_cons, List.flatMap_cons, List.map_cons]
    exact ⟨this.1, by rw [this.2.1], by rw [this.2.2.1], by rw [this.2.2.2.1],
      List.forall_mem_cons.mpr ⟨rfl, this.2.2.2.2⟩⟩

theorem after_append {T : Type} (ts : TStep T) (a : ApiG T) (xs ys : List Call) :
    ApiG.after ts a (xs ++ ys) = ApiG.after ts (ApiG.after ts a xs) ys := by
  simp [ApiG.after, List.foldl_append]

theorem run_append_api {T : Type} (ts : TStep T) (xs ys : List Call) (a : ApiG T) :
    ApiG.run ts a (xs ++ ys) = ApiG.run ts a xs ++ ApiG.run ts (ApiG.after ts a xs) ys := by
  induction xs generalizing a with
  | nil => rfl
  | cons x xs ih => simp [ApiG.run, ApiG.after, ih]

end GoZero.C12
