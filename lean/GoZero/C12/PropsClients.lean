/-
C12 — property theorems about calls issued from inside a running callback (execute or Drain) and about the anchored
clients of the wheel: core/stores/cache/cleaner.go (`clean` re-arms its key) and the expiry callback of
core/collection/cache.go.
-/
import GoZero.C12.ProofsClients
import GoZero.C12.PropsApi
namespace GoZero.C12

/-- **Callbacks that call back into the wheel**: for every interval, wheel size, callback behaviour `cb`
(any state machine issuing any calls — SetTimer, MoveTimer, RemoveTimer, Drain, Stop — from inside the execute
or Drain callback), and every sequence of calls and ticks, the API over the wheel and the API over the timer
table return the same errors, hand the same pairs to the callbacks, and log the same inner calls. -/
theorem callback_calls_refine_timer_table {σ : Type} (iv n : Nat) (hn : 0 < n) (cb : Cb σ) (fuel : Nat) (s : σ)
    (cs : List Call) :
    ApiG.runCb step cb fuel (Api.init iv n) s cs = ApiG.runCb Spec.step cb fuel (Spec.Api.init iv) s cs :=
  runCb_refines cb fuel cs (Api.init iv n) s (init_wf n hn)

/-- **A call issued from inside a callback is an ordinary call, executed after the operation that fired the
callback** (any timer mechanism, any callback behaviour): the state after the callbacks have run is the state
after executing the logged inner calls one after the other; what was handed to callbacks is the fired queue
followed by what those calls fired; the results are those of the sequential run. -/
theorem callback_calls_are_sequential_calls {T σ : Type} (ts : TStep T) (cb : Cb σ) (fuel : Nat) (a : ApiG T) (s : σ)
    (pend : List (Nat × Nat)) :
    let r := ApiG.settle ts cb fuel a s pend
    let calls := r.inner.map (·.2.1)
    r.api = ApiG.after ts a calls
    ∧ r.fired ++ r.left = pend ++ (ApiG.run ts a calls).flatMap (·.2)
    ∧ r.inner.map (·.2.2) = (ApiG.run ts a calls).map (·.1) := by
  induction fuel generalizing a s pend with
  | zero => simp [ApiG.settle, ApiG.after, ApiG.run]
  | succ f ih =>
    cases pend with
    | nil => simp [ApiG.settle, ApiG.after, ApiG.run]
    | cons kv rest =>
      have hi := issue_is_run ts kv.1 (cb s kv.1 kv.2).2 a
      have := ih (ApiG.issue ts kv.1 a (cb s kv.1 kv.2).2).1 (cb s kv.1 kv.2).1
        (rest ++ (ApiG.issue ts kv.1 a (cb s kv.1 kv.2).2).2.1)
      simp only [ApiG.settle, List.map_append, hi.2.2.1, after_append, run_append_api, List.flatMap_append,
        List.cons_append]
      rw [← hi.1]
      refine ⟨this.1, ?_, ?_⟩
      · rw [this.2.1, hi.2.1]; simp [List.append_assoc]
      · rw [this.2.2, hi.2.2.2.1]

/-- **A fired key is forgotten before its callback runs**: on every reachable wheel, a key the tick hands to
the execute callback is not in the wheel after the tick (the code: `timers.Del` before `runTasks`). -/
theorem fired_key_is_forgotten (n : Nat) (hn : 0 < n) (ops₀ : List Op) (k v : Nat)
    (hf : (k, v) ∈ (run (TW.init n) (ops₀ ++ [.tick])).getD ops₀.length []) :
    k ∉ Spec.keys ((ops₀ ++ [Op.tick]).foldl (fun t op => (Spec.step t op).1) [])
    ∧ hasKey ((ops₀ ++ [Op.tick]).foldl (fun tw op => (step tw op).1) (TW.init n)) k = false := by
  rw [tw_refines_timer_table n hn, Spec.run_at] at hf
  have hab : k ∉ Spec.keys ((ops₀ ++ [Op.tick]).foldl (fun t op => (Spec.step t op).1) []) := by
    rw [List.foldl_append]
    exact Spec.fired_absent _ (Spec.reachable_keys_nodup ops₀) k v hf
  refine ⟨hab, ?_⟩
  rw [← (reachable_abs n hn (ops₀ ++ [Op.tick])).2, ← Spec.hasKey_iff, hasKey_abs] at hab
  simpa using hab

/-- **Re-arming from the callback with MoveTimer is lost** (what seeded change C06-4 does in cleaner.go): the
key that just fired is not pending, so a MoveTimer on it — any delay — runs nothing and changes nothing;
every later operation behaves as if the MoveTimer had not been issued. -/
theorem rearm_with_move_from_callback_is_lost (n : Nat) (hn : 0 < n) (ops₀ ops : List Op) (k v s : Nat)
    (hf : (k, v) ∈ (run (TW.init n) (ops₀ ++ [.tick])).getD ops₀.length []) :
    (run (TW.init n) ((ops₀ ++ [.tick]) ++ .move k s :: ops)).getD (ops₀ ++ [Op.tick]).length [] = []
    ∧ (run (TW.init n) ((ops₀ ++ [.tick]) ++ .move k s :: ops)).drop ((ops₀ ++ [Op.tick]).length + 1)
        = (run (TW.init n) ((ops₀ ++ [.tick]) ++ ops)).drop (ops₀ ++ [Op.tick]).length :=
  move_absent_is_noop n hn (ops₀ ++ [Op.tick]) ops k s (fired_key_is_forgotten n hn ops₀ k v hf).1

/-- **Re-arming from the callback with SetTimer works** (cleaner.go's `clean`): a key set with `s = ⌊d/interval⌋ ≥ 1`
right after a tick — where a callback's SetTimer lands, `callback_calls_are_sequential_calls` — fires exactly once,
at the `s`-th tick after that tick, with the new value (`set_fires_exactly_at_due` after the history `ops₀ ++ [tick]`). -/
theorem rearm_with_set_from_callback_fires_at_due (n : Nat) (hn : 0 < n) (ops₀ ops : List Op) (k v s : Nat)
    (hs : 1 ≤ s) (hun : ∀ op ∈ ops, Spec.touches k op = false) (i v' : Nat) :
    (k, v') ∈ (run (TW.init n) ((ops₀ ++ [.tick]) ++ .set k v s :: ops)).getD ((ops₀ ++ [Op.tick]).length + 1 + i) [] ↔
      (v' = v ∧ i < ops.length ∧ Spec.isTick (ops.getD i .drain) = true ∧ Spec.ticksIn (ops.take (i + 1)) = s) :=
  set_fires_exactly_at_due n hn (ops₀ ++ [Op.tick]) ops k v s hs hun i v'

/-- the retry schedule: every next delay is a whole number of wheel intervals (one second), at least five, so a
re-armed clean task is never clamped and never runs at once; the chain from `AddCleanTask`'s one second is
5 s, 1 min, 5 min, 1 h and then ends. -/
theorem cleaner_schedule :
    (∀ d, (nextDelay d).2 = true →
        stepsOf second (nextDelay d).1 ∈ [5, 60, 300, 3600] ∧ (nextDelay d).1 = (stepsOf second (nextDelay d).1 * second : Nat))
    ∧ nextDelay second = (((5 * second : Nat) : Int), true)
    ∧ nextDelay ((5 * second : Nat) : Int) = (((60 * second : Nat) : Int), true)
    ∧ nextDelay ((60 * second : Nat) : Int) = (((300 * second : Nat) : Int), true)
    ∧ nextDelay ((300 * second : Nat) : Int) = (((3600 * second : Nat) : Int), true)
    ∧ (nextDelay ((3600 * second : Nat) : Int)).2 = false := by
  refine ⟨?_, by decide, by decide, by decide, by decide, by decide⟩
  intro d h
  unfold nextDelay at h ⊢
  split at h
  · simp [*, stepsOf, second]
  · split at h
    · simp [*, stepsOf, second]
    · split at h
      · simp [*, stepsOf, second]
      · split at h
        · simp [*, stepsOf, second]
        · simp at h

/-- **what `clean` does on the wheel**: a task that fails with a delay that has a successor re-arms its own
key with SetTimer — one valid call, whose request to the run loop is `set k · ⌊next/1s⌋`; a task that succeeds,
or whose schedule is exhausted, issues nothing. -/
theorem cleaner_rearm_call (o : Outcomes) (k : Nat) (d : Nat) :
    (((o.next k).1 = true ∧ (nextDelay d).2 = true) →
        ∃ c, (cleanerCb o k d).2 = [c] ∧ validCall c = true
          ∧ toOp second c = .set k (nextDelay d).1.toNat (stepsOf second (nextDelay d).1)
          ∧ 5 ≤ stepsOf second (nextDelay d).1)
    ∧ (((o.next k).1 = false ∨ (nextDelay d).2 = false) → (cleanerCb o k d).2 = []) := by
  constructor
  · intro ⟨h1, h2⟩
    obtain ⟨hmem, hmul⟩ := cleaner_schedule.1 (d : Int) h2
    have h5 : 5 ≤ stepsOf second (nextDelay d).1 := by simp at hmem; omega
    refine ⟨.setTimer (some k) (nextDelay d).1.toNat (nextDelay d).1, by simp [cleanerCb, h1, h2], ?_, rfl, h5⟩
    have : 0 < stepsOf second (nextDelay (d : Int)).1 * second := Nat.mul_pos (by omega) (by decide)
    simp only [validCall, decide_eq_true_eq]
    omega
  · intro h
    rcases h with h | h
    · simp [cleanerCb, h]
    · unfold cleanerCb
      split <;> simp [h]

/-- **the expiry callback's `RemoveTimer` finds nothing**: `Cache.Del(key)`, called by the wheel's callback for
the key that just fired, calls RemoveTimer on a key the wheel has already forgotten — it changes nothing and
later operations behave as if it had not been issued (a key set again later is not disturbed). -/
theorem cache_expiry_remove_is_noop (n : Nat) (hn : 0 < n) (ops₀ ops : List Op) (k v : Nat)
    (hf : (k, v) ∈ (run (TW.init n) (ops₀ ++ [.tick])).getD ops₀.length []) :
    (run (TW.init n) ((ops₀ ++ [.tick]) ++ .remove k :: ops)).drop ((ops₀ ++ [Op.tick]).length + 1)
        = (run (TW.init n) ((ops₀ ++ [.tick]) ++ ops)).drop (ops₀ ++ [Op.tick]).length :=
  (unnoticed_op_is_noop n hn (ops₀ ++ [Op.tick]) (.remove k) ops
    (Spec.step_remove_absent _ k (fired_key_is_forgotten n hn ops₀ k v hf).1)).2

/-- a callback that re-arms its own key from inside (fires at tick 2, re-armed for 3 more ticks → tick 5),
and a Drain callback that sets its key again from inside Drain. -/
example : (ApiG.runCb step armCb 100 (Api.init 1 10)
      [⟨1, [.setTimer (some 1) 8 3]⟩, ⟨2, [.setTimer (some 2) 9 1]⟩]
      [.setTimer (some 1) 7 2, .setTimer (some 2) 6 5, .tick, .tick, .drain, .tick, .tick, .tick]).map (fun o => (o.2.1, o.2.2.1.length))
    = [([], 0), ([], 0), ([], 0), ([(1, 7)], 1), ([(2, 6), (1, 8)], 1), ([(2, 9)], 0), ([], 0), ([], 0)] := by
  decide

/-- `fired_key_is_forgotten`'s hypothesis is satisfiable. -/
example : (1, 7) ∈ (run (TW.init 10) ([.set 1 7 1] ++ [.tick])).getD 1 [] := by decide

/-- the cleaner: a task that fails twice runs at tick 1, is re-armed for 5 s, runs at tick 6, is re-armed for
1 min; `cleanerCb` issues the SetTimer from inside the callback. -/
example : ((ApiG.runCb step cleanerCb 100 (Api.init second 300) [(1, [true, true])]
      (addCleanTask 1 :: List.replicate 7 .tick)).map (·.2.1))
    = [[], [(1, 1000000000)], [], [], [], [], [(1, 5000000000)], []] := by
  decide

example : Outcomes.next [(1, [true, false])] 1 = (true, [(1, [false])]) := by decide

end GoZero.C12
