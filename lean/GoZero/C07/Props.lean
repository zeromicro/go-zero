/-
C07 — property theorems (statements, their short proofs from the invariants, non-vacuity examples).
Invariants and their preservation live in ProofsSF(X) / ProofsLC(X) / ProofsRME, ProofsRM, ProofsRMX.

The theorems about runs quantify over `Reach s` (for RM also `ReachI`: with registrations, `ReachE`: with evictions):
every configuration reachable by ANY schedule of ANY number of goroutines, each issuing any number of calls with any
keys, the user function returning anything after any number of other goroutines' steps.  The theorems about single
rows (`*_blocked_cases`, `*_holder_enabled`, `rm_critical_section_enabled`, `*_flow`, `rm_closure_row_*`, `rm_nil_*_panics`,
`rm_nil_returned_without_assertion`) hold of every state.
-/
import GoZero.C07.ProofsSFX
import GoZero.C07.ProofsLCX
import GoZero.C07.ProofsRM
import GoZero.C07.ProofsRMX
import GoZero.C07.ProofsRME
namespace GoZero.C07

/-- two options that are `none` under the same condition are `some` together: with a `*_blocked_cases` on both sides,
enabledness does not depend on the input. -/
theorem isSome_of_iff {α : Type} {a b : Option α} {P : Prop} (ha : a = none ↔ P) (hb : b = none ↔ P)
    (h : a.isSome = true) : b.isSome = true := by
  cases b with
  | some _ => rfl
  | none => rw [ha.2 (hb.1 rfl)] at h; cases h

/-- **Someone can move** (the argument of the three `*_no_deadlock` theorems, for any step function): enabledness does
not depend on the input, and whoever is blocked waits for a busy goroutine that is enabled, or — `waiting` — for a busy
one that is not itself waiting.  Then some busy goroutine is enabled: a busy goroutine `t` itself, whom it waits for, or
whom that one waits for. -/
theorem no_deadlock_of {σ : Type} {step : σ → Tid → Nat → Option σ} {s : σ} {busy waiting : Tid → Prop}
    (indep : ∀ u y z, (step s u y).isSome = true → (step s u z).isSome = true)
    (blocked : ∀ v, step s v 0 = none →
      (∃ u, busy u ∧ ∀ y, (step s u y).isSome = true) ∨ (waiting v ∧ ∃ u, busy u ∧ ¬ waiting u))
    {t : Tid} (ht : busy t) : ∃ u, busy u ∧ ∀ y, (step s u y).isSome = true := by
  cases hst : step s t 0 with
  | some s' => exact ⟨t, ht, fun y => indep t 0 y (by simp [hst])⟩
  | none =>
    rcases blocked t hst with a | ⟨_, u, hb, hnw⟩
    · exact a
    · cases hsu : step s u 0 with
      | some s' => exact ⟨u, hb, fun y => indep u 0 y (by simp [hsu])⟩
      | none =>
        rcases blocked u hsu with a | ⟨hw, _⟩
        · exact a
        · exact absurd hw hnw

/-! ## SingleFlight (core/syncx/singleflight.go) -/

/-- **At most one execution per key at any instant.**  Two goroutines that both hold a published flight
(from registering the call in `g.calls` until deleting it — the user function runs strictly inside) for the
same key are the same goroutine. -/
theorem sf_exclusive {s : SF.St} (h : SF.Reach s) (t u : Tid)
    (ht : (s.pc t).inFlight = true) (hu : (s.pc u).inFlight = true) (hk : s.key t = s.key u) : t = u :=
  SF.flight_unique (SF.inv_reach h) t u ht hu hk

/-- at most one goroutine per key is running the user function (`m1` / `mp`; `mp`: it is going to panic): those rows
are inside the flight. -/
theorem sf_exclusive_fn {s : SF.St} (h : SF.Reach s) (t u : Tid)
    (ht : (s.pc t).running = true) (hu : (s.pc u).running = true) (hk : s.key t = s.key u) : t = u :=
  sf_exclusive h t u (SF.PC.inFlight_of_running ht) (SF.PC.inFlight_of_running hu) hk

/-- **History form of the exclusion**: the execution intervals `[fstart, fend]` of two different call objects of
the same key are disjoint — one of them ended before the other started. -/
theorem sf_exec_disjoint {s : SF.St} (h : SF.Reach s) (c d : CallId) (hne : c ≠ d) (hk : s.ekey c = s.ekey d)
    (a a' : Nat) (hc : s.fstart c = some a) (hd : s.fstart d = some a') :
    (∃ b, s.fend c = some b ∧ b < a') ∨ (∃ b, s.fend d = some b ∧ b < a) :=
  ((SF.invX_reach h).disj c d a a' hne hk hc hd).imp SF.endsBefore_iff.1 SF.endsBefore_iff.1

/-- **No stale result.**  Every returned call `r` got exactly what the (single) execution of the function
for call object `r.exec` returned, that execution was for `r`'s key, and either `r` is the leading call of that
execution itself (then it is reported fresh) or the leading call overlaps `r` in time: it was invoked before
`r` returned and, if it has returned at all, it returned after `r` was invoked.  A result retained from a call
that had already returned is therefore never handed out. -/
theorem sf_no_stale {s : SF.St} (h : SF.Reach s) (r : Ret) (hr : r ∈ s.rets) :
    s.fnres r.exec = some r.val ∧ s.ekey r.exec = r.key ∧
    (r.fresh = true → s.leader r.exec = r.tid ∧ s.linv r.exec = r.inv ∧ s.lret r.exec = some r.ret) ∧
    (r.fresh = false → s.linv r.exec < r.ret ∧ ∀ lr, s.lret r.exec = some lr → r.inv < lr) := by
  obtain ⟨_, a2, a3, _, _, a6, a7⟩ := (SF.inv_reach h).rets r hr
  refine ⟨a2, a3, a6, fun hf => ⟨(a7 hf).1, fun lr hlr => ?_⟩⟩
  have := (a7 hf).2
  rw [hlr] at this
  exact this

/-- **Never a retained result** (the property's own wording): a caller is never handed the result of an
execution whose leading call had already returned when the caller invoked. -/
theorem sf_never_retained {s : SF.St} (h : SF.Reach s) (r : Ret) (hr : r ∈ s.rets) (lr : Nat)
    (hl : s.lret r.exec = some lr) (hle : lr ≤ r.inv) : False := by
  obtain ⟨_, _, hfresh, hjoin⟩ := sf_no_stale h r hr
  have hinv := ((SF.inv_reach h).rets r hr).2.2.2.1
  cases hf : r.fresh with
  | true =>
    have := (hfresh hf).2.2
    rw [hl] at this
    have : lr = r.ret := by simpa using this
    omega
  | false =>
    have := (hjoin hf).2 lr hl
    omega

/-- **Exactly one fresh caller per execution**: among the returned calls that were handed the result of call
object `c`, the number reported fresh is 1 once the leading call has returned, and 0 before — and 0 for ever if
the function panicked (the leading call then ends with the panic and returns nothing). -/
theorem sf_one_fresh {s : SF.St} (h : SF.Reach s) (c : CallId) :
    (s.rets.filter (fun r => r.fresh && r.exec == c)).length = if (s.lret c).isSome ∧ s.pan c = false then 1 else 0 :=
  List.countP_eq_length_filter ▸ SF.fresh_reach h c

/-! ### a panicking user function (outside the property's quantifier; this is what the code does)
`makeCall`'s deferred block runs while the panic unwinds: the key is deleted under the lock, the wait group is
released, then the panic propagates to the leader's caller.  `c.val, c.err = fn()` never executed, so every
joiner of that flight returns the zero values `(nil, nil)` — silently, with `fresh = false`. Nobody hangs. -/

/-- joiners of a flight whose function panicked get the zero value, not reported fresh; the leader itself never
returns from such a call. -/
theorem sf_panic_joiners_zero {s : SF.St} (h : SF.Reach s) (r : Ret) (hr : r ∈ s.rets) (hp : s.pan r.exec = true) :
    r.val = 0 ∧ r.fresh = false := by
  have hi := SF.inv_reach h
  obtain ⟨a1, a2, _⟩ := hi.rets r hr
  have hz := hi.panz r.exec a1 hp
  rw [a2] at hz
  refine ⟨by simpa using hz, ?_⟩
  -- no record of this execution counts as fresh
  have hf : ∀ q ∈ s.rets, q.fresh = true → q.exec ≠ r.exec := by simpa [hp] using SF.fresh_reach h r.exec
  exact Bool.eq_false_iff.2 fun hfr => hf r hr hfr rfl

/-- when the panic leaves `Do`/`DoEx` (`px`), the deferred cleanup is complete: the wait group is released and
the key no longer maps to this call — the next caller starts a new flight, nobody is left waiting. -/
theorem sf_panic_cleanup {s : SF.St} (h : SF.Reach s) (t : Tid) (ht : s.pc t = .px) :
    s.wg (s.reg t) = 0 ∧ s.calls (s.key t) ≠ some (s.reg t) ∧ s.pan (s.reg t) = true := by
  have hi := SF.inv_reach h
  have ho := hi.owns t (by simp [ht, SF.PC.owns])
  refine ⟨hi.wg0 t (Or.inr (by simp [ht, SF.PC.after])), ?_, ?_⟩
  · intro hc
    have := (hi.calls _ _ hc).2.2.1
    rw [ho.2.1, ht] at this
    simp [SF.PC.inFlight] at this
  · rw [hi.pnown t (by simp [ht, SF.PC.owns])]; exact hi.pnpx t ht

/-- a non-panicking execution is never cut short: a goroutine that returns fresh went through the store. -/
theorem sf_fresh_not_panicked {s : SF.St} (h : SF.Reach s) (r : Ret) (hr : r ∈ s.rets) (hf : r.fresh = true) :
    s.pan r.exec = false := by
  cases hp : s.pan r.exec with
  | false => rfl
  | true => have := (sf_panic_joiners_zero h r hr hp).2; rw [hf] at this; cases this

theorem sf_blocked_cases {s : SF.St} {t : Tid} {x : Nat} : SF.step s t x = none ↔
    ((s.pc t = .l0 ∨ s.pc t = .d0) ∧ s.lock ≠ none) ∨ (s.pc t = .w1 ∧ s.wg (s.reg t) ≠ 0) := by
  unfold SF.step
  split <;> (try split) <;> simp_all

/-! ### a re-entrant call on the same key (outside the quantifier): self-deadlock
If `fn` itself calls `Do` with the key it is running for, the inner call finds the outer call's entry and waits for
its `Done`, which only comes after `fn` returns.  In the model: goroutine `u` (the inner call) waits on the call
object of leader `t` whose function is still running; as long as `t` does not take its `fn returns` step (it
cannot: `fn` is waiting for `u`), `u` stays blocked — whatever all other goroutines do. -/
theorem sf_reentrant_blocked {s s' : SF.St} (h : SF.Reach s) (t u v : Tid) (x : Nat)
    (ht : (s.pc t).running = true) (hu : s.pc u = .w1) (hreg : s.reg u = s.reg t)
    (hv : v ≠ t) (hs : SF.step s v x = some s') :
    (s'.pc t).running = true ∧ s'.pc u = .w1 ∧ s'.reg u = s'.reg t ∧ ∀ y, SF.step s' u y = none := by
  have hi := SF.inv_reach h
  have ho := SF.PC.owns_of_running ht
  have hw := hi.wg1 t (by revert ht; cases s.pc t <;> simp [SF.PC.running, SF.PC.wgOne])
  have key : (s'.pc t).running = true ∧ s'.pc u = .w1 ∧ s'.reg u = s'.reg t ∧ s'.wg (s'.reg u) ≠ 0 := by
    by_cases huv : v = u
    · -- `u` itself cannot step: the counter it waits on is 1
      subst huv
      rw [sf_blocked_cases.2 (.inr ⟨hu, by simp [hreg, hw]⟩)] at hs
      cases hs
    · -- anybody else leaves `t`, `u` and `t`'s call object alone
      have ft := (SF.step_writes hs).other _ (Ne.symm hv)
      have fu := (SF.step_writes hs).other _ (Ne.symm huv)
      rw [ft.pc, fu.pc, fu.reg, ft.reg, hreg, (SF.owner_call hi hs (Ne.symm hv) ho).wg, hw]
      exact ⟨ht, hu, rfl, by simp⟩
  exact ⟨key.1, key.2.1, key.2.2.1, fun y => sf_blocked_cases.2 (.inr ⟨key.2.1, key.2.2.2⟩)⟩

theorem sf_holder_enabled {s : SF.St} (u : Tid) (hu : (s.pc u).holdsLock = true) (y : Nat) :
    (SF.step s u y).isSome = true := by
  cases hb : SF.step s u y with
  | some _ => rfl
  | none => rcases sf_blocked_cases.1 hb with ⟨h | h, _⟩ | ⟨h, _⟩ <;> rw [h] at hu <;> cases hu

/-- **Who a blocked SingleFlight caller waits for**: the holder of the mutex — who is inside one of the short
critical sections, never in user code, and can always take its next step — or, at `c.wg.Wait()`, the leader of a
flight *for the same key* that has not called `Done` yet. Calls on other keys are never waited for. -/
theorem sf_keys_independent {s : SF.St} (h : SF.Reach s) (t : Tid) (x : Nat) (hb : SF.step s t x = none) :
    (∃ u, s.lock = some u ∧ (s.pc u).holdsLock = true ∧ ∀ y, (SF.step s u y).isSome = true) ∨
    (s.pc t = .w1 ∧ ∃ u, s.key u = s.key t ∧ (s.pc u).wgOne = true ∧ s.reg u = s.reg t) := by
  have hi := SF.inv_reach h
  rcases sf_blocked_cases.1 hb with ⟨_, hl⟩ | ⟨hp, hw⟩
  · left
    cases hlk : s.lock with
    | none => exact absurd hlk hl
    | some u => exact ⟨u, rfl, hi.lockr u hlk, fun y => sf_holder_enabled u (hi.lockr u hlk) y⟩
  · right
    refine ⟨hp, s.leader (s.reg t), ?_⟩
    obtain ⟨a1, a2, _, a4⟩ := hi.waits t (by simp [hp, SF.PC.waits])
    rcases a4 with hl | ⟨hpub, hreg⟩
    · exact absurd (hi.done _ a1 hl).2 hw
    · have hown := hi.owns (s.leader (s.reg t)) (by revert hpub; cases s.pc (s.leader (s.reg t)) <;> simp [SF.PC.pubd, SF.PC.owns])
      have hk : s.key (s.leader (s.reg t)) = s.key t := by rw [← hown.2.2.1, hreg, a2]
      refine ⟨hk, ?_, hreg⟩
      -- published and counter ≠ 0 ⇒ not yet past Done
      have h0 := hi.wg0 (s.leader (s.reg t))
      rw [hreg] at h0
      revert hpub h0
      cases s.pc (s.leader (s.reg t)) <;> simp [SF.PC.pubd, SF.PC.wgOne, SF.PC.after] <;> omega

/-- **No deadlock, no lost wake-up**: whenever some call is in progress, some goroutine that is inside a call
can take a step (for every environment input). -/
theorem sf_no_deadlock {s : SF.St} (h : SF.Reach s) (t : Tid) (ht : s.pc t ≠ .idle) :
    ∃ u, s.pc u ≠ .idle ∧ ∀ y, (SF.step s u y).isSome = true := by
  refine no_deadlock_of (busy := fun u => s.pc u ≠ .idle) (waiting := fun u => s.pc u = .w1)
    (fun u y z => isSome_of_iff sf_blocked_cases sf_blocked_cases) ?_ ht
  · -- the holder of the mutex is inside a call and enabled; the leader a joiner waits for is past `Add`, not in `Wait`
    intro v hv
    rcases sf_keys_independent h v 0 hv with ⟨u, _, hh, he⟩ | ⟨hp, u, _, hw, _⟩
    · exact .inl ⟨u, by revert hh; cases s.pc u <;> simp [SF.PC.holdsLock], he⟩
    · exact .inr ⟨hp, u, by revert hw; cases s.pc u <;> simp [SF.PC.wgOne]⟩

/-- a step moves the stepping goroutine to a row its successor table `succ` (beside `stmt` in the model) lists, and nobody
else. -/
theorem sf_flow {s s' : SF.St} {t : Tid} {x : Nat} (hs : SF.step s t x = some s') :
    s'.pc t ∈ SF.succ (s.pc t) ∧ ∀ u, u ≠ t → s'.pc u = s.pc u := SF.step_flow hs

/-! non-vacuity: a concrete schedule — goroutine 0 leads on key 7, goroutine 1 joins while the function runs,
goroutine 2 arrives after the function has ended but before the entry is deleted; all three return 42. -/

def sfDemo : List (Tid × Nat) :=
  [(0,7),(0,0),(0,0),(0,0),(0,0),(0,0),(0,0),(0,0),   -- 0: invoke … fn started (m1)
   (1,7),(1,0),(1,0),(1,0),                            -- 1: invoke, lock, found, unlock → waits
   (0,42),(0,0),                                       -- 0: fn returns 42, stored
   (2,7),(2,0),(2,0),(2,0),                            -- 2: arrives after fn ended, still finds the entry
   (0,0),(0,0),(0,0),(0,0),(0,0),                      -- 0: lock, delete, unlock, Done, return (fresh)
   (1,0),(1,0),(2,0),(2,0)]                            -- waiters wake and return

theorem sfDemo_reach : ∀ s, SF.run SF.init sfDemo = some s → SF.Reach s :=
  fun _ hs => sf_reach_of_run _ _ _ .init hs

example : (SF.run SF.init sfDemo).map (fun s => s.rets.map fun r => (r.tid, r.key, r.val, r.fresh, r.exec))
    = some [(2, 7, 42, false, 0), (1, 7, 42, false, 0), (0, 7, 42, true, 0)] := by decide

/-- a panicking leader: goroutine 0 leads on key 7 and its function panics (input 1 at `fn starts`); goroutine 1
joined while it ran.  1 returns the zero value, not fresh; 0's call ends without a return record; the key is
free again (goroutine 2 then leads a new flight and returns 5, fresh). -/
def sfPanicDemo : List (Tid × Nat) :=
  [(0,7),(0,0),(0,0),(0,0),(0,0),(0,0),(0,0),(0,1),   -- 0: invoke … fn started, will panic (mp)
   (1,7),(1,0),(1,0),(1,0),                            -- 1: joins, waits
   (0,0),                                              -- 0: fn panics
   (0,0),(0,0),(0,0),(0,0),(0,0),                      -- 0: deferred lock, delete, unlock, Done; panic leaves Do
   (1,0),(1,0),                                        -- 1: wakes, returns (nil, nil)
   (2,7),(2,0),(2,0),(2,0),(2,0),(2,0),(2,0),(2,0),(2,5),(2,0),(2,0),(2,0),(2,0),(2,0),(2,0)]

example : (SF.run SF.init sfPanicDemo).map (fun s => s.rets.map fun r => (r.tid, r.key, r.val, r.fresh, r.exec))
    = some [(2, 7, 5, true, 1), (1, 7, 0, false, 0)] := by decide
example : (SF.run SF.init sfPanicDemo).map (fun s => (s.pc 0, s.pan 0, s.pan 1, (s.calls 7).isNone))
    = some (SF.PC.idle, true, false, true) := by decide

/-- in `sfPanicDemo` after 17 steps goroutine 0 is at `px`: `sf_panic_cleanup`'s hypotheses are inhabited. -/
example : (SF.run SF.init (sfPanicDemo.take 17)).map (fun s => (s.pc 0, s.wg 0, (s.calls 7).isNone, s.pc 1))
    = some (SF.PC.px, 0, true, SF.PC.w1) := by decide

/-- `sf_reentrant_blocked` is inhabited: in `sfDemo` after 12 steps goroutine 0 runs its function and goroutine 1
waits on the same call object. -/
example : (SF.run SF.init (sfDemo.take 12)).map (fun s => (s.pc 0, s.pc 1, decide (s.reg 1 = s.reg 0)))
    = some (SF.PC.m1, SF.PC.w1, true) := by decide

/-- in `sfDemo`, after 12 steps goroutine 1 is blocked at `c.wg.Wait()`; `sf_keys_independent` names goroutine 0
(same key), and `sf_no_deadlock` is witnessed by goroutine 0 being enabled. -/
example : (SF.run SF.init (sfDemo.take 12)).map
      (fun s => (s.pc 1, (SF.step s 1 0).isSome, decide (s.key 0 = s.key 1), (SF.step s 0 0).isSome))
    = some (SF.PC.w1, false, true, true) := by decide

/-! ## LockedCalls (core/syncx/lockedcalls.go) -/

/-- **No two executions for the same key overlap**: two goroutines that both have their wait group registered in
`lg.m` (from `lg.m[key] = &wg` until `delete(lg.m, key)` — the caller's function runs strictly inside) for the same
key are the same goroutine. -/
theorem lc_exclusive_per_key {s : LC.St} (h : LC.Reach s) (t u : Tid)
    (ht : (s.pc t).inFlight = true) (hu : (s.pc u).inFlight = true) (hk : s.key t = s.key u) : t = u :=
  LC.flight_unique (LC.inv_reach h) t u ht hu hk

/-- **History form**: the execution intervals of two different calls on the same key are disjoint (every call
allocates its own wait group `c`, `d`; `fstart`/`fend` are the clock values at which its function started / ended). -/
theorem lc_exec_disjoint {s : LC.St} (h : LC.Reach s) (c d : Nat) (hne : c ≠ d) (hk : s.ekey c = s.ekey d)
    (a a' : Nat) (hc : s.fstart c = some a) (hd : s.fstart d = some a') :
    (∃ b, s.fend c = some b ∧ b < a') ∨ (∃ b, s.fend d = some b ∧ b < a) :=
  ((LC.invX_reach h).disj c d a a' hne hk hc hd).imp LC.endsBefore_iff.1 LC.endsBefore_iff.1

/-- **Every caller's own function runs exactly once** during its call, and the call returns that function's
result (never somebody else's). -/
theorem lc_own_fn_once {s : LC.St} (h : LC.Reach s) (r : LRet) (hr : r ∈ s.rets) :
    r.runs = 1 ∧ r.val = r.own := by
  have := (LC.inv_reach h).rets r hr
  exact ⟨this.1, this.2.1⟩

/-- … and during a call that is still in progress the caller's own function has run at most once — exactly once as
soon as it has started (rows `f1` … `px`). -/
theorem lc_own_fn_at_most_once {s : LC.St} (h : LC.Reach s) (t : Tid) (ht : s.pc t ≠ .idle) :
    s.runs t ≤ 1 ∧ ((s.pc t).ranOnce = true → s.runs t = 1) := by
  have hi := LC.inv_reach h
  have h0 := hi.notrun t
  have h1 := hi.ranonce t
  revert ht h0 h1
  cases s.pc t <;> simp [LC.PC.notRun, LC.PC.ranOnce] <;> omega

/-- inhabited: after 8 steps of its first call goroutine 0 is inside its function, which has run once. -/
example : (LC.run LC.init (List.replicate 1 (0,3) ++ List.replicate 7 (0,0))).map (fun s => (s.pc 0, s.runs 0))
    = some (LC.PC.f1, 1) := by decide

theorem lc_blocked_cases {s : LC.St} {t : Tid} {x : Nat} : LC.step s t x = none ↔
    ((s.pc t = .b0 ∨ s.pc t = .e0) ∧ s.lock ≠ none) ∨ (s.pc t = .b3 ∧ s.wg (s.reg t) ≠ 0) := by
  unfold LC.step
  split <;> (try split) <;> simp_all

theorem lc_holder_enabled {s : LC.St} (u : Tid) (hu : (s.pc u).holdsLock = true) (y : Nat) :
    (LC.step s u y).isSome = true := by
  cases hb : LC.step s u y with
  | some _ => rfl
  | none => rcases lc_blocked_cases.1 hb with ⟨h | h, _⟩ | ⟨h, _⟩ <;> rw [h] at hu <;> cases hu

/-- **Calls on different keys never wait for each other**: a blocked caller waits either for the holder of the
mutex — who is inside a short critical section, never in user code, and always able to step — or, at `wg.Wait()`,
for a goroutine *on the same key* whose wait group is still registered / not yet released. -/
theorem lc_keys_independent {s : LC.St} (h : LC.Reach s) (t : Tid) (x : Nat) (hb : LC.step s t x = none) :
    (∃ u, s.lock = some u ∧ (s.pc u).holdsLock = true ∧ ∀ y, (LC.step s u y).isSome = true) ∨
    (s.pc t = .b3 ∧ ∃ u, s.key u = s.key t ∧ (s.pc u).wgOne = true ∧ s.reg u = s.reg t) := by
  have hi := LC.inv_reach h
  rcases lc_blocked_cases.1 hb with ⟨_, hl⟩ | ⟨hp, hw⟩
  · left
    cases hlk : s.lock with
    | none => exact absurd hlk hl
    | some u => exact ⟨u, rfl, hi.lockr u hlk, fun y => lc_holder_enabled u (hi.lockr u hlk) y⟩
  · right
    have := (hi.waits t (Or.inr hp)).2.2 hw
    exact ⟨hp, s.owner (s.reg t), this.2.2, this.1, this.2.1⟩

/-- the mutex is released after at most five further steps of its holder, none of them a user step. -/
theorem lc_lock_released {s : LC.St} (h : LC.Reach s) (u : Tid) (hl : s.lock = some u) :
    ∃ n, n ≤ 5 ∧ ∃ s', LC.run s (List.replicate n (u, 0)) = some s' ∧ s'.lock = none := by
  have hp := (LC.inv_reach h).lockr u hl
  revert hp
  cases hpc : s.pc u <;> simp [LC.PC.holdsLock]
  · cases hm : s.m (s.key u) with
    | some w => exact ⟨2, by omega, by simp [List.replicate, LC.run, LC.step, hpc, hm, upd]⟩
    | none => exact ⟨5, by omega, by simp [List.replicate, LC.run, LC.step, hpc, hm, upd]⟩
  · exact ⟨1, by omega, by simp [List.replicate, LC.run, LC.step, hpc]⟩
  · exact ⟨4, by omega, by simp [List.replicate, LC.run, LC.step, hpc, upd]⟩
  · exact ⟨3, by omega, by simp [List.replicate, LC.run, LC.step, hpc, upd]⟩
  · exact ⟨2, by omega, by simp [List.replicate, LC.run, LC.step, hpc, upd]⟩
  · exact ⟨1, by omega, by simp [List.replicate, LC.run, LC.step, hpc]⟩
  · exact ⟨2, by omega, by simp [List.replicate, LC.run, LC.step, hpc, upd]⟩
  · exact ⟨1, by omega, by simp [List.replicate, LC.run, LC.step, hpc]⟩

/-- **No deadlock, no lost wake-up** (the reason for "delete first, Done later"): whenever some LockedCalls call
is in progress, some goroutine that is inside a call can take a step. -/
theorem lc_no_deadlock {s : LC.St} (h : LC.Reach s) (t : Tid) (ht : s.pc t ≠ .idle) :
    ∃ u, s.pc u ≠ .idle ∧ ∀ y, (LC.step s u y).isSome = true := by
  refine no_deadlock_of (busy := fun u => s.pc u ≠ .idle) (waiting := fun u => s.pc u = .b3)
    (fun u y z => isSome_of_iff lc_blocked_cases lc_blocked_cases) ?_ ht
  · intro v hv
    rcases lc_keys_independent h v 0 hv with ⟨u, _, hh, he⟩ | ⟨hp, u, _, hw, _⟩
    · exact .inl ⟨u, by revert hh; cases s.pc u <;> simp [LC.PC.holdsLock], he⟩
    · exact .inr ⟨hp, u, by revert hw; cases s.pc u <;> simp [LC.PC.wgOne]⟩

/-- a step moves the stepping goroutine to a row its successor table `succ` (beside `stmt` in the model) lists, and nobody
else. -/
theorem lc_flow {s s' : LC.St} {t : Tid} {x : Nat} (hs : LC.step s t x = some s') :
    s'.pc t ∈ LC.succ (s.pc t) ∧ ∀ u, u ≠ t → s'.pc u = s.pc u := LC.step_flow hs

/-! non-vacuity: goroutine 0 runs on key 3; goroutine 1 (same key) finds the wait group, waits, retries and then
runs its own function; goroutine 2 (key 4) runs to completion while goroutine 0 is still inside its function. -/
def lcDemo : List (Tid × Nat) :=
  [(0,3),(0,0),(0,0),(0,0),(0,0),(0,0),(0,0),(0,0),          -- 0: … inside fn (f1)
   (1,3),(1,0),(1,0),(1,0),                                   -- 1: finds 0's wait group, unlocks, now at Wait
   (2,4),(2,0),(2,0),(2,0),(2,0),(2,0),(2,0),(2,0),(2,9),(2,0),(2,0),(2,0),(2,0),(2,0),  -- 2: other key, done
   (0,5),(0,0),(0,0),(0,0),(0,0),(0,0),                       -- 0: fn returns 5, delete, unlock, Done, return
   (1,0),(1,0),(1,0),(1,0),(1,0),(1,0),(1,0),(1,0),(1,6),(1,0),(1,0),(1,0),(1,0),(1,0)] -- 1: retry, own fn → 6

example : (LC.run LC.init lcDemo).map (fun s => s.rets.map fun r => (r.tid, r.key, r.val, r.runs))
    = some [(1, 3, 6, 1), (0, 3, 5, 1), (2, 4, 9, 1)] := by decide

/-- goroutine 1 really is blocked at `wg.Wait()` while 0 runs, and `lc_keys_independent` names 0 (same key). -/
example : (LC.run LC.init (lcDemo.take 12)).map (fun s => (s.pc 1, (LC.step s 1 0).isSome, decide (s.key 0 = s.key 1)))
    = some (LC.PC.b3, false, true) := by decide

/-- a panicking caller function (outside the quantifier): goroutine 0's function on key 3 panics while goroutine 1
waits for the key; the deferred block still deletes the entry and releases the wait group, the panic leaves `Do`
(no return record for 0), and goroutine 1 then runs its own function.  All LockedCalls theorems above quantify over
these schedules too (`lc_no_deadlock`: nobody is left waiting). -/
def lcPanicDemo : List (Tid × Nat) :=
  [(0,3),(0,0),(0,0),(0,0),(0,0),(0,0),(0,0),(0,1),          -- 0: … fn started, will panic (fp)
   (1,3),(1,0),(1,0),(1,0),                                   -- 1: finds 0's wait group, now at Wait
   (0,0),(0,0),(0,0),(0,0),(0,0),(0,0),                       -- 0: fn panics; delete, unlock, Done; panic leaves Do
   (1,0),(1,0),(1,0),(1,0),(1,0),(1,0),(1,0),(1,0),(1,6),(1,0),(1,0),(1,0),(1,0),(1,0)] -- 1: retry, own fn → 6

example : (LC.run LC.init lcPanicDemo).map (fun s => (s.rets.map fun r => (r.tid, r.key, r.val, r.runs), s.pc 0))
    = some ([(1, 3, 6, 1)], LC.PC.idle) := by decide

/-! ## ResourceManager (core/syncx/resourcemanager.go) and the two anchored users of the same pattern
`RM.Reach` ranges over every `Cfg`: `Cfg.getResource` (ResourceManager.GetResource), `Cfg.cacheTake`
(collection.Cache.Take: a lookup in front of the flight, no type assertion after it) and `Cfg.doTake`
(cacheNode.doTake).  Read "create" as `create` / `fetch` / `query` and "the map" as `manager.resources` / `c.data` /
the redis key.  Every theorem of this section therefore speaks about all three. -/

/-- with registrations (`RM.ReachI`: `Inject` while no call is in progress, see the section on `Inject` below), too, each
key gets its instance at most once (a registration counts as the creation) … -/
theorem rm_inject_create_once {s : RM.St} (h : RM.ReachI s) (k : Key) : s.ncreate k ≤ 1 :=
  ((RM.inv_reachI h).r3 k).1

/-- … and everyone is handed that one instance. -/
theorem rm_inject_same_instance {s : RM.St} (h : RM.ReachI s) (r : RRet) (hr : r ∈ s.rets) (hv : r.val ≠ 0) :
    s.ncreate r.key = 1 ∧ r.val = s.inst r.key := by
  have := (RM.inv_reachI h).retsI r hr hv
  exact ⟨this.1, this.2.symm⟩

/-- **Each keyed resource is created successfully at most once**, on every schedule. -/
theorem rm_create_once {s : RM.St} (h : RM.Reach s) (k : Key) : s.ncreate k ≤ 1 :=
  rm_inject_create_once (RM.reachI_of_reach h) k

/-- **Everyone gets the same instance**: a `GetResource` call that returns a resource (not an error) returns the
instance made by the one successful `create` of its key. -/
theorem rm_same_instance {s : RM.St} (h : RM.Reach s) (r : RRet) (hr : r ∈ s.rets) (hv : r.val ≠ 0) :
    s.ncreate r.key = 1 ∧ r.val = s.inst r.key :=
  rm_inject_same_instance (RM.reachI_of_reach h) r hr hv

/-- **… to everyone**: any two calls on the same key that returned a resource returned the same one — whichever way
each got it (own flight, shared flight, re-check inside the flight, hit in front of the flight). -/
theorem rm_everyone_same {s : RM.St} (h : RM.Reach s) (r q : RRet) (hr : r ∈ s.rets) (hq : q ∈ s.rets)
    (hk : r.key = q.key) (hrv : r.val ≠ 0) (hqv : q.val ≠ 0) : r.val = q.val := by
  have a := (rm_same_instance h r hr hrv).2
  have b := (rm_same_instance h q hq hqv).2
  rw [a, b, hk]

/-- what a `GetResource` call returns is what the single execution of the closure for its flight returned (its
own, or the one it shared), and that flight was for its key. -/
theorem rm_result_is_execution {s : RM.St} (h : RM.Reach s) (r : RRet) (hr : r ∈ s.rets) (hd : r.direct = false) :
    s.fnres r.exec = some r.val ∧ s.ekey r.exec = r.key := by
  have := (RM.inv_reach h).rets r hr hd
  exact ⟨this.2.1, this.2.2⟩

/-- a call answered by the lookup in front of the flight (`collection.Cache.Take`'s first `doGet`) returns the stored
instance — never an error, never nil — which is the one successful load's instance. -/
theorem rm_direct_hit {s : RM.St} (h : RM.Reach s) (r : RRet) (hr : r ∈ s.rets) (hd : r.direct = true) :
    r.val ≠ 0 ∧ s.ncreate r.key = 1 ∧ r.val = s.inst r.key := by
  have hv := (RM.inv_reach h).retsD r hr hd
  have := (RM.inv_reach h).retsI r hr hv
  exact ⟨hv, this.1, this.2.symm⟩

/-- no step changes the configuration (which user the system models). -/
theorem rm_cfg_constant {s s' : RM.St} {t : Tid} {x : Nat} (hs : RM.step s t x = some s') : s'.cfg = s.cfg :=
  (RM.step_writes hs).cfg

/-- **cleanup of the users' flight group** (as `sf_cleanup`): an entry of the flight map belongs to a leader that is
right now inside that flight for that key — whichever way `create`/`fetch`/`query` ended. -/
theorem rm_cleanup {s : RM.St} (h : RM.Reach s) (k : Key) (c : CallId) (hc : s.calls k = some c) :
    (s.pc (s.leader c)).inFlight = true ∧ s.reg (s.leader c) = c ∧ s.key (s.leader c) = k := by
  have hi := RM.inv_reach h
  obtain ⟨_, a2, a3, a4⟩ := hi.calls k c hc
  have ho := hi.owns (s.leader c) (RM.PC.owns_of_inFlight a3)
  rw [a4] at ho
  exact ⟨a3, a4, by rw [← ho.2.2.1]; exact a2⟩

theorem rm_quiescent_clean {s : RM.St} (h : RM.Reach s) (hq : ∀ t, s.pc t = .idle) (k : Key) : s.calls k = none :=
  (RM.invF_reach h).quiescent_clean hq k

/-- what the map holds for a key is the instance made by the key's one successful `create`, and is not the error value. -/
theorem rm_stored {s : RM.St} (h : RM.Reach s) (k : Key) (v : Val) (hv : s.res k = some v) :
    s.ncreate k = 1 ∧ v = s.inst k ∧ v ≠ 0 := by
  have := (RM.inv_reach h).r1 k v hv
  exact ⟨this.1, this.2.1.symm, this.2.2⟩

/-- at most one goroutine per key is anywhere inside the closure (lookup, `create`, store). -/
theorem rm_exclusive {s : RM.St} (h : RM.Reach s) (t u : Tid)
    (ht : (s.pc t).inFlight = true) (hu : (s.pc u).inFlight = true) (hk : s.key t = s.key u) : t = u :=
  (RM.invF_reach h).flight_unique t u ht hu hk

/-- a step moves the stepping goroutine to a row its successor table `succ` (beside `stmt` in the model) lists, and nobody
else. -/
theorem rm_flow {s s' : RM.St} {t : Tid} {x : Nat} (hs : RM.step s t x = some s') :
    s'.pc t ∈ RM.succ (s.pc t) ∧ ∀ u, u ≠ t → s'.pc u = s.pc u := RM.step_flow hs

/-! non-vacuity: goroutine 0's `create` for key 2 fails; goroutine 1 (joined the flight) gets the error too;
goroutine 0 tries again and creates instance 9; goroutine 2 then finds it in the map. -/
def rmDemo : List (Tid × Nat) :=
  [(0,2)] ++ List.replicate 11 (0,0) ++          -- 0: invoke … create() running (g5)
  [(1,2),(1,0),(1,0),(1,0)] ++                    -- 1: joins the flight
  List.replicate 7 (0,0) ++                       -- 0: create fails (input 0), store, delete, Done, return
  [(1,0),(1,0)] ++                                -- 1: returns the error
  [(0,2)] ++ List.replicate 11 (0,0) ++ [(0,9)] ++ List.replicate 9 (0,0) ++   -- 0: second call creates 9
  [(2,2)] ++ List.replicate 16 (2,0)              -- 2: finds 9 in the map

example : (RM.run (RM.init .getResource) rmDemo).map (fun s => (s.rets.map fun r => (r.tid, r.key, r.val), s.ncreate 2, s.res 2))
    = some ([(2, 2, 9), (0, 2, 9), (1, 2, 0), (0, 2, 0)], 1, some 9) := by decide

/-! ### a panicking `create` (outside the property's quantifier; this is what the code does)
The flight group cleans up as in `sf_panic_cleanup` and the panic leaves `GetResource` in the leader.  A joiner gets
`(nil, nil)` from `Do` and `val.(io.Closer)` then panics with a nil interface conversion: joiners of a panicked
flight panic as well (rows `w2`/`px` of the model); nothing is stored, the next caller creates afresh.  All `rm_*`
theorems above quantify over these schedules too. -/
theorem rm_panic_cleanup {s : RM.St} (h : RM.Reach s) (t : Tid) (ht : s.pc t = .px) :
    s.wg (s.reg t) = 0 ∧ s.calls (s.key t) ≠ some (s.reg t) := by
  have hi := RM.inv_reach h
  have ho := hi.owns t (by simp [ht, RM.PC.owns])
  refine ⟨hi.wg0 t (Or.inr (by simp [ht, RM.PC.after])), ?_⟩
  intro hc
  have := (hi.calls _ _ hc).2.2.1
  rw [ho.2.1, ht] at this
  simp [RM.PC.inFlight] at this

/-- goroutine 0's `create` for key 2 panics while goroutine 1 has joined the flight: neither call returns
(both panic), nothing is stored or counted; goroutine 2 then creates instance 9. -/
def rmPanicDemo : List (Tid × Nat) :=
  [(0,2)] ++ List.replicate 10 (0,0) ++ [(0,1)] ++   -- 0: invoke … create() running, will panic (gp)
  [(1,2),(1,0),(1,0),(1,0)] ++                    -- 1: joins the flight
  List.replicate 6 (0,0) ++                       -- 0: create panics; delete, unlock, Done; panic leaves GetResource
  [(1,0),(1,0)] ++                                -- 1: wakes; val.(io.Closer) panics
  [(2,2)] ++ List.replicate 11 (2,0) ++ [(2,9)] ++ List.replicate 9 (2,0)   -- 2: creates 9

example : (RM.run (RM.init .getResource) rmPanicDemo).map
      (fun s => (s.rets.map fun r => (r.tid, r.key, r.val), s.ncreate 2, s.res 2, s.pc 0, s.pc 1))
    = some ([(2, 2, 9)], 1, some 9, RM.PC.idle, RM.PC.idle) := by decide

/-! ### collection.Cache.Take as an instance (`Cfg.cacheTake`)
goroutine 0 misses in front of the flight, leads, `fetch` returns 9, `c.Set`; goroutine 1 missed in front of the
flight too (before the store), enters after 0's flight is gone, leads its own flight and finds 9 in the re-check
inside the barrier (no second fetch: `ncreate = 1`); goroutine 2 then hits in front of the flight (direct). -/
def takeDemo : List (Tid × Nat) :=
  [(0,2)] ++ List.replicate 4 (0,0) ++            -- 0: invoke, p0..p3 (miss) → l0
  [(1,2)] ++ List.replicate 4 (1,0) ++            -- 1: invoke, p0..p3 (miss) → l0
  List.replicate 11 (0,0) ++ [(0,9)] ++ List.replicate 9 (0,0) ++   -- 0: flight, fetch → 9, Set, delete, Done, return
  List.replicate 16 (1,0) ++                      -- 1: own flight, re-check finds 9
  [(2,2)] ++ List.replicate 4 (2,0)               -- 2: direct hit

example : (RM.run (RM.init .cacheTake) takeDemo).map
      (fun s => s.rets.map fun r => (r.tid, r.key, r.val, r.direct))
    = some [(2, 2, 9, true), (1, 2, 9, false), (0, 2, 9, false)] := by decide
example : (RM.run (RM.init .cacheTake) takeDemo).map (fun s => (s.ncreate 2, s.res 2)) = some (1, some 9) := by decide

/-- without the re-check inside the barrier (what seeded C07-1 and C07-2 did to GetResource) goroutine 1 would fetch again:
the model's row `g3` is what prevents it — in `takeDemo` after 40 steps goroutine 1 is at `g3` with `found`. -/
example : (RM.run (RM.init .cacheTake) (takeDemo.take 40)).map (fun s => (s.pc 1, s.found 1, s.loc 1))
    = some (RM.PC.g3, true, 9) := by decide

/-- a panicking `fetch` under `Cfg.cacheTake` (what the code does): the leader's Take panics, the joiner returns
`(nil, nil)` (no type assertion), nothing is stored; the key is free again. -/
def takePanicDemo : List (Tid × Nat) :=
  [(0,2)] ++ List.replicate 14 (0,0) ++ [(0,1)] ++   -- 0: pre-miss, flight, fetch starts, will panic (gp)
  [(1,2)] ++ List.replicate 7 (1,0) ++            -- 1: pre-miss, joins the flight
  List.replicate 6 (0,0) ++                       -- 0: fetch panics; delete, unlock, Done; panic leaves Take
  [(1,0),(1,0)]                                   -- 1: wakes, returns the nil value
example : (RM.run (RM.init .cacheTake) takePanicDemo).map
      (fun s => s.rets.map fun r => (r.tid, r.key, r.val, r.direct))
    = some [(1, 2, 0, false)] := by decide
example : (RM.run (RM.init .cacheTake) takePanicDemo).map
      (fun s => (s.ncreate 2, s.res 2, s.pc 0, s.pc 1, (s.calls 2).isNone))
    = some (0, none, RM.PC.idle, RM.PC.idle, true) := by decide

/-! `Inject` (outside `RM.Reach`, inside `RM.ReachI` when the manager is quiescent and the key holds nothing: `rm_inject_*`;
what the code does): registered *before* any call it is simply the instance
everyone gets and `create` never runs; registered *after* a successful create it replaces the stored instance, so
later callers hold a different instance than earlier ones — `Inject` is a test hook, not covered by the property. -/
example : ((RM.inject (RM.init .getResource) 2 5).bind fun s => RM.run s ([(0,2)] ++ List.replicate 16 (0,0))).map
      (fun s => (s.rets.map fun r => (r.tid, r.key, r.val), s.ncreate 2, s.inst 2))
    = some ([(0, 2, 5)], 1, 5) := by decide   -- (ghost: the registration counts as the key's one creation, `rm_injected_is_handed_out`)

example : (((RM.run (RM.init .getResource) rmDemo).bind fun s => RM.inject s 2 5).bind fun s =>
        RM.run s ([(3,2)] ++ List.replicate 16 (3,0))).map (fun s => s.rets.map fun r => (r.tid, r.key, r.val))
    = some [(3, 2, 5), (2, 2, 9), (0, 2, 9), (1, 2, 0), (0, 2, 0)] := by decide

/-! ## Cleanup on every exit (return, error, panic)
`g.calls` / `lg.m` hold an entry only while the goroutine that registered it is still between "registered" and
"deleted" of the SAME call: whichever way the user function ends (value, error — the same rows — or panic, rows
`mp`/`fp`/`gp` → deferred block → `px`), the entry is gone before the call ends, so a later call never finds a
finished flight (seeded C07-3) and never waits on a wait group nobody will release (seeded C07-4). -/

/-- **SingleFlight cleanup**: every entry of `g.calls` belongs to a leader that is right now inside the flight of
that very call object, for that key, and whose call has not ended. -/
theorem sf_cleanup {s : SF.St} (h : SF.Reach s) (k : Key) (c : CallId) (hc : s.calls k = some c) :
    (s.pc (s.leader c)).inFlight = true ∧ s.reg (s.leader c) = c ∧ s.key (s.leader c) = k ∧ s.lret c = none := by
  have hi := SF.inv_reach h
  obtain ⟨_, a2, a3, a4⟩ := hi.calls k c hc
  have ho := hi.owns (s.leader c) (SF.PC.owns_of_inFlight a3)
  rw [a4] at ho
  exact ⟨a3, a4, by rw [← ho.2.2.1]; exact a2, ho.2.2.2.2⟩

/-- a goroutine outside a flight (idle: its last call ended by return, error or panic; or on the joiner path; or past
`delete`) has no entry in the map: **after any execution ends the key is absent** unless a NEW call registered it. -/
theorem sf_cleanup_after_call {s : SF.St} (h : SF.Reach s) (t : Tid) (ht : (s.pc t).inFlight = false)
    (k : Key) (c : CallId) (hc : s.calls k = some c) : s.leader c ≠ t := by
  intro e
  have := (sf_cleanup h k c hc).1
  rw [e, ht] at this
  cases this

/-- when no call is in progress the map is empty. -/
theorem sf_quiescent_clean {s : SF.St} (h : SF.Reach s) (hq : ∀ t, s.pc t = .idle) (k : Key) : s.calls k = none := by
  cases hc : s.calls k with
  | none => rfl
  | some c =>
    have := (sf_cleanup h k c hc).1
    rw [hq] at this
    simp [SF.PC.inFlight] at this

/-- past `Done()` (rows `r0`, `px`) and before `Add(1)` (row `n1`) the counter of the goroutine's own call object is
zero, however the function ended.  (That a returned call's counter stays zero is the clause `done` of `SF.Inv`.) -/
theorem sf_wg_released {s : SF.St} (h : SF.Reach s) (t : Tid) (hp : s.pc t = .r0 ∨ s.pc t = .px ∨ s.pc t = .n1) :
    s.wg (s.reg t) = 0 := by
  have hi := SF.inv_reach h
  rcases hp with hp | hp | hp
  · exact hi.wg0 t (Or.inr (by simp [hp, SF.PC.after]))
  · exact hi.wg0 t (Or.inr (by simp [hp, SF.PC.after]))
  · exact hi.wg0 t (Or.inl hp)

/-- in `sfPanicDemo`, once goroutine 0's panic has left `Do` (18 steps) nothing is registered for key 7 although
goroutine 1 still waits to be woken; `sf_cleanup`'s hypothesis is inhabited after 12 steps (entry of call 0). -/
example : (SF.run SF.init (sfPanicDemo.take 18)).map (fun s => (s.pc 0, (s.calls 7).isNone, s.wg 0))
    = some (SF.PC.idle, true, 0) := by decide
example : (SF.run SF.init (sfPanicDemo.take 12)).map (fun s => (s.calls 7, s.leader 0, s.pc 0))
    = some (some 0, 0, SF.PC.mp) := by decide

/-- **LockedCalls cleanup**: every entry of `lg.m` is the wait group of a goroutine that is right now between
registering and deleting it, for that key. -/
theorem lc_cleanup {s : LC.St} (h : LC.Reach s) (k : Key) (w : Nat) (hm : s.m k = some w) :
    (s.pc (s.owner w)).inFlight = true ∧ s.reg (s.owner w) = w ∧ s.key (s.owner w) = k := by
  have := (LC.inv_reach h).m k w hm
  exact ⟨this.2.1, this.2.2.1, this.2.2.2⟩

/-- a goroutine whose call has ended (return, error or panic: `e2`…`px`, `idle`) or has not registered yet has no entry
in `lg.m`. -/
theorem lc_cleanup_after_call {s : LC.St} (h : LC.Reach s) (t : Tid) (ht : (s.pc t).inFlight = false)
    (k : Key) (w : Nat) (hm : s.m k = some w) : s.owner w ≠ t := by
  intro e
  have := (lc_cleanup h k w hm).1
  rw [e, ht] at this
  cases this

/-- … and every wait group with a non-zero counter belongs to a goroutine that has not reached the end of `Done()` of
that very wait group: after the call ended — also by an error or a panic — nobody can block on it (C07-4's hang). -/
theorem lc_wg_released {s : LC.St} (h : LC.Reach s) (w : Nat) (hw : w < s.next) (hz : s.wg w ≠ 0) :
    (s.pc (s.owner w)).wgOne = true ∧ s.reg (s.owner w) = w :=
  (LC.inv_reach h).wgfree w hw hz

theorem lc_quiescent_clean {s : LC.St} (h : LC.Reach s) (hq : ∀ t, s.pc t = .idle) (k : Key) : s.m k = none := by
  cases hm : s.m k with
  | none => rfl
  | some w =>
    have := (lc_cleanup h k w hm).1
    rw [hq] at this
    simp [LC.PC.inFlight] at this

/-- in `lcPanicDemo`, after goroutine 0's panic left `Do` (18 steps): key 3 is free, wait group 0 released, goroutine 1
(still at `wg.Wait()`) can go on. -/
example : (LC.run LC.init (lcPanicDemo.take 18)).map (fun s => (s.pc 0, (s.m 3).isNone, s.wg 0, s.pc 1, (LC.step s 1 0).isSome))
    = some (LC.PC.idle, true, 0, LC.PC.b3, true) := by decide
example : (LC.run LC.init (lcPanicDemo.take 12)).map (fun s => (s.m 3, s.owner 0, s.pc 0))
    = some (some 0, 0, LC.PC.fp) := by decide

/-! ## end-to-end statements over the WHOLE configuration space of the public API

`*_reach_of_run`: every prefix-closed run of the executable step function — from the state the constructor builds, for
every schedule given as a plain list — is reachable; so every theorem above holds after ANY list of (goroutine, input)
pairs, for every user `Cfg` (all combinations of `pre`, `asrt`, `lerr`, not only the three named ones). -/

theorem lc_reach_of_run (l : List (Tid × Nat)) : ∀ (s0 s : LC.St), LC.Reach s0 → LC.run s0 l = some s → LC.Reach s := by
  induction l with
  | nil => intro s0 s h0 hr; simp [LC.run] at hr; subst hr; exact h0
  | cons a l ih =>
    intro s0 s h0 hr
    simp only [LC.run] at hr
    split at hr
    · rename_i s1 hs1; exact ih s1 s (.step a.1 a.2 h0 hs1) hr
    · simp at hr

theorem rm_reach_of_run (l : List (Tid × Nat)) : ∀ (s0 s : RM.St), RM.Reach s0 → RM.run s0 l = some s → RM.Reach s := by
  induction l with
  | nil => intro s0 s h0 hr; simp [RM.run] at hr; subst hr; exact h0
  | cons a l ih =>
    intro s0 s h0 hr
    simp only [RM.run] at hr
    split at hr
    · rename_i s1 hs1; exact ih s1 s (.step a.1 a.2 h0 hs1) hr
    · simp at hr

/-- **SingleFlight end to end**: after ANY schedule on a fresh `NewSingleFlight()`: every returned call got the result
of the one execution of its flight, that flight was for its key and its leading call overlaps the caller's call; and
every entry of `g.calls` belongs to a leader of that key that has not returned.  (The count of fresh callers is
`sf_one_fresh`.) -/
theorem sf_end_to_end (l : List (Tid × Nat)) (s : SF.St) (hr : SF.run SF.init l = some s) :
    (∀ r ∈ s.rets, s.fnres r.exec = some r.val ∧ s.ekey r.exec = r.key ∧
       ∀ lr, s.lret r.exec = some lr → r.inv < lr ∨ (r.fresh = true ∧ lr = r.ret)) ∧
    (∀ k c, s.calls k = some c → s.key (s.leader c) = k ∧ s.lret c = none) := by
  have h := sf_reach_of_run l _ _ .init hr
  refine ⟨fun r hrm => ?_, fun k c hc => ?_⟩
  · have a := sf_no_stale h r hrm
    refine ⟨a.1, a.2.1, fun lr hlr => ?_⟩
    cases hf : r.fresh with
    | true =>
      have := (a.2.2.1 hf).2.2
      rw [hlr] at this
      exact .inr ⟨rfl, by simpa using this⟩
    | false => exact .inl ((a.2.2.2 hf).2 lr hlr)
  · have := sf_cleanup h k c hc
    exact ⟨this.2.2.1, this.2.2.2⟩

example : (SF.run SF.init sfDemo).isSome = true := by decide

/-- **LockedCalls end to end**: after ANY schedule on a fresh `NewLockedCalls()` every returned call ran its own
function exactly once and returned that run's result. -/
theorem lc_end_to_end (l : List (Tid × Nat)) (s : LC.St) (hr : LC.run LC.init l = some s) :
    ∀ r ∈ s.rets, r.runs = 1 ∧ r.val = r.own := by
  have h := lc_reach_of_run l _ _ .init hr
  intro r hrm
  exact lc_own_fn_once h r hrm

/-- **Every user of the double-checked pattern, end to end** (all `Cfg`: `ResourceManager.GetResource`,
`collection.Cache.Take`, `cacheNode.doTake` through any of its four entry points, and every other combination of the
flags): after ANY schedule on a freshly constructed object, every key was loaded successfully at most once, and any
two calls of a key that returned an instance returned the same one. -/
theorem rm_end_to_end (cfg : Cfg) (l : List (Tid × Nat)) (s : RM.St) (hr : RM.run (RM.init cfg) l = some s) :
    s.cfg = cfg ∧ (∀ k, s.ncreate k ≤ 1) ∧
    (∀ r ∈ s.rets, ∀ q ∈ s.rets, r.key = q.key → r.val ≠ 0 → q.val ≠ 0 → r.val = q.val) := by
  have h := rm_reach_of_run l _ _ (.init cfg) hr
  refine ⟨?_, fun k => rm_create_once h k, fun r hrm q hq hk hv hw => rm_everyone_same h r q hrm hq hk hv hw⟩
  clear h
  revert hr
  generalize hs0 : RM.init cfg = s0
  have hc : s0.cfg = cfg := by subst hs0; rfl
  clear hs0
  induction l generalizing s0 with
  | nil => intro hr; simp [RM.run] at hr; subst hr; exact hc
  | cons a l ih =>
    intro hr
    simp only [RM.run] at hr
    split at hr
    · rename_i s1 hs1; exact ih s1 (by rw [rm_cfg_constant hs1]; exact hc) hr
    · simp at hr

example : (RM.run (RM.init { pre := true, asrt := true }) takeDemo).map (fun s => (s.cfg, s.ncreate 2)) =
    some ({ pre := true, asrt := true }, 1) := by decide

/-- **Negative caching is consistent** (`cacheNode.doTake`: a query that reports "no such row" makes `doTake` store the
not-found placeholder — in the model the instance that execution created; the harness prints such results as the id of
that execution): whatever set of instances `isNF` stands for the placeholders, two calls of one key that returned
something never disagree on whether the row exists — nobody is handed a row for a key somebody else was told does not
exist, as long as the entry is cached. -/
theorem rm_not_found_consistent {s : RM.St} (h : RM.Reach s) (isNF : Val → Prop) (r q : RRet) (hr : r ∈ s.rets)
    (hq : q ∈ s.rets) (hk : r.key = q.key) (hrv : r.val ≠ 0) (hqv : q.val ≠ 0) : isNF r.val ↔ isNF q.val := by
  rw [rm_everyone_same h r q hr hq hk hrv hqv]

/-- … and it is reported after at most one query: the placeholder's execution is the key's one successful load. -/
theorem rm_not_found_one_query {s : RM.St} (h : RM.Reach s) (r : RRet) (hr : r ∈ s.rets) (hv : r.val ≠ 0) :
    s.ncreate r.key = 1 := (rm_same_instance h r hr hv).1

/-! ### several instances (`objs` > 1 in the harness): nothing leaks between objects

A family of objects, each built by its constructor with its own maps and its own flight group (tied:
`tie_newSingleFlight`, `tie_newLockedCalls`, `tie_newResourceManager`, `tie_newCache_fields`), steps one object at a
time.  Whatever the other objects do, every object of the family is a reachable configuration of the single-object
system — so every theorem above holds for each of them — and a step of object `i` leaves every other object untouched. -/
inductive RM.MReach : (Nat → RM.St) → Prop
  | init (cfgs : Nat → Cfg) : RM.MReach (fun i => RM.init (cfgs i))
  | step {m : Nat → RM.St} {s' : RM.St} (i : Nat) (t : Tid) (x : Nat) :
      RM.MReach m → RM.step (m i) t x = some s' → RM.MReach (upd m i s')

theorem rm_instances_independent {m : Nat → RM.St} (h : RM.MReach m) (i : Nat) : RM.Reach (m i) := by
  induction h with
  | init cfgs => exact .init (cfgs i)
  | step j t x _ hs ih =>
    by_cases hij : i = j
    · subst hij; rw [upd_same]; exact .step t x ih hs
    · rw [upd_other _ _ _ _ hij]; exact ih

/-- the frame half of `RM.MReach.step`: `upd_other` at the family of objects. -/
theorem rm_instances_untouched (m : Nat → RM.St) (i j : Nat) (s' : RM.St) (hij : j ≠ i) : upd m i s' j = m j :=
  upd_other m i j s' hij

/-- e.g. two managers with the same key: each creates its own instance once; neither sees the other's. -/
theorem rm_instances_create_once {m : Nat → RM.St} (h : RM.MReach m) (i : Nat) (k : Key) : (m i).ncreate k ≤ 1 :=
  rm_create_once (rm_instances_independent h i) k

example : ∃ m, RM.MReach m ∧ (m 1).pc 0 = .l0 ∧ (m 0).pc 0 = .idle :=
  ⟨_, .step (s' := { RM.init .getResource with pc := upd (RM.init .getResource).pc 0 .l0, key := upd (RM.init .getResource).key 0 2 })
        1 0 2 (.init fun _ => .getResource) (by simp [RM.step, RM.init, Cfg.getResource]), by simp [upd], by simp [upd, RM.init]⟩

/-! ### `cacheNode.doTake`'s closure decisions (`RM.doTakeClosure`, tied to the translated source by
`tie_doTake_decisions`) are the branching of rows g3 and g5 — for every cache-read / query outcome. -/

/-- row g3: the closure goes on to the query iff `doTakeClosure` says it queries; otherwise it ends at once with the
found instance (a row, or the placeholder) or with the error outcome `0` (a failed lookup). -/
theorem rm_closure_row_g3 (s : RM.St) (t : Tid) (c : RM.CacheRead) (q : RM.QueryRes)
    (hpc : s.pc t = .g3) (hl : s.cfg.lerr = true) (hf : s.found t = c.found) :
    (RM.step s t c.g3Input).map (fun s' => (s'.pc t, s'.tmp t)) =
      some (if (RM.doTakeClosure c q).queried then (.g4, s.tmp t)
            else (.m2, if (RM.doTakeClosure c q).out = .error then 0 else s.loc t)) := by
  unfold RM.step; rw [hpc]
  cases c <;> cases q <;> simp [RM.CacheRead.found] at hf <;>
    simp [hf, hl, RM.doTakeClosure, RM.CacheRead.g3Input, upd]

/-- row g5: after the query the closure stores (the row, or the not-found placeholder — an instance) iff
`doTakeClosure` says so; a failed query ends with the error outcome, nothing stored. -/
theorem rm_closure_row_g5 (s : RM.St) (t : Tid) (q : RM.QueryRes) (v : Val) (hv : v ≠ 0) (hpc : s.pc t = .g5) :
    (RM.step s t (q.g5Input v)).map (fun s' => s'.pc t) =
      some (if (RM.doTakeClosure .empty q).stored then .g6 else .m2) := by
  unfold RM.step; rw [hpc]
  cases q <;> simp [RM.doTakeClosure, RM.QueryRes.g5Input, upd, hv]

/-- a failed lookup (`doGetCache` returned a redis / context error) never runs the loader and never counts as a load:
the flight ends with the error outcome for the leader and every joiner. -/
theorem rm_lookup_error_no_load (s s' : RM.St) (t : Tid) (x : Nat) (hpc : s.pc t = .g3) (hf : s.found t = false)
    (hx : x ≠ 0) (hl : s.cfg.lerr = true) (hs : RM.step s t x = some s') :
    s'.pc t = .m2 ∧ s'.tmp t = 0 ∧ s'.ncreate = s.ncreate ∧ s'.res = s.res := by
  unfold RM.step at hs; rw [hpc] at hs
  simp [hf, hx, hl] at hs
  subst hs; simp [upd]

example : ((RM.run (RM.init .doTake) ([(0,2)] ++ List.replicate 9 (0,0))).bind fun s => RM.step s 0 1).map
    (fun s => (s.pc 0, s.tmp 0, s.ncreate 2)) = some (.m2, 0, 0) := by decide

/-! ### who a blocked `GetResource` / `Take` call waits for

Full statement (as `sf_keys_independent` for SingleFlight): a blocked caller waits only for the holder of a mutex — who
exists and is enabled — or for the unfinished leader of a flight of its OWN key.  `rm_keys_independent_partial` says
all of that for the flight-group mutex, the write lock (`InvF.lockr`, `RM.rwr_reach`: a taken flight-group mutex /
write lock has a holder inside its critical section) and `Wait`; the readers are identified by `RM.Readers` (the
counter is the length of a duplicate-free list of exactly the goroutines at p1 / p2 / g1 / g2), which gives the full
`rm_keys_independent` and `rm_no_deadlock` below.

The rows at the map's lock (p0, p2, g0, g2, g6, g8) are `ResourceManager`'s `RWMutex`.  `collection.Cache` has a
`sync.Mutex` there (`doGet`, `Set`: a lookup also waits for a lookup), `cacheNode.doTake` has no lock at all (one redis GET,
one SET: these rows are no steps of cachenode.go).  Every schedule of their code is a schedule of the model, with the lock
rows taken next to the operation they bracket, so what holds of all schedules holds of them; but of these two theorems only
the part about the flight group describes who THEIR callers wait for. -/
theorem rm_blocked_cases {s : RM.St} {t : Tid} {x : Nat} : RM.step s t x = none ↔
    ((s.pc t = .l0 ∨ s.pc t = .d0) ∧ s.lock ≠ none) ∨ (s.pc t = .w1 ∧ s.wg (s.reg t) ≠ 0) ∨
    ((s.pc t = .p0 ∨ s.pc t = .g0) ∧ s.rw ≠ none) ∨ (s.pc t = .g6 ∧ ¬(s.rw = none ∧ s.nrd = 0)) := by
  unfold RM.step
  split <;> (try split) <;> simp_all

theorem rm_critical_section_enabled (s : RM.St) (u : Tid) (y : Nat)
    (hu : (s.pc u).holdsLock = true ∨ s.pc u = .g7 ∨ s.pc u = .g8 ∨ s.pc u = .p1 ∨ s.pc u = .p2 ∨ s.pc u = .g1 ∨ s.pc u = .g2) :
    (RM.step s u y).isSome = true := by
  cases hb : RM.step s u y with
  | some _ => rfl
  | none =>
    rcases rm_blocked_cases.1 hb with ⟨h | h, _⟩ | ⟨h, _⟩ | ⟨h | h, _⟩ | ⟨h, _⟩ <;> simp [h, RM.PC.holdsLock] at hu

/-- **Who a blocked `GetResource` / `Take` caller waits for** (every `Cfg`): the holder of the flight-group mutex — who is
inside one of its short critical sections and can always take its next step —, the writer of the resource map (rows g7 /
g8: one store, one unlock, always enabled), readers of the map (rows p1 p2 g1 g2 are always enabled:
`rm_critical_section_enabled`; this statement only says that the read counter is not zero, `rm_keys_independent`
names a reader), or, in `Wait`, the leader of a flight *for the same
key* that has not called `Done` yet.  Calls on other keys are never waited for. -/
theorem rm_keys_independent_partial {s : RM.St} (h : RM.Reach s) (t : Tid) (x : Nat) (hb : RM.step s t x = none) :
    (∃ u, s.lock = some u ∧ (s.pc u).holdsLock = true ∧ ∀ y, (RM.step s u y).isSome = true) ∨
    (s.pc t = .w1 ∧ ∃ u, s.key u = s.key t ∧ (s.pc u).wgOne = true ∧ s.reg u = s.reg t) ∨
    (∃ u, s.rw = some u ∧ (s.pc u = .g7 ∨ s.pc u = .g8) ∧ ∀ y, (RM.step s u y).isSome = true) ∨
    (s.pc t = .g6 ∧ s.rw = none ∧ s.nrd ≠ 0) := by
  have hi := RM.inv_reach h
  have hl := RM.invF_reach h
  rcases rm_blocked_cases.1 hb with ⟨_, hlk⟩ | ⟨hp, hw⟩ | hrw
  · left
    cases hlock : s.lock with
    | none => exact absurd hlock hlk
    | some u => exact ⟨u, rfl, hl.lockr u hlock, fun y => rm_critical_section_enabled s u y (.inl (hl.lockr u hlock))⟩
  · right; left
    refine ⟨hp, s.leader (s.reg t), ?_⟩
    obtain ⟨a1, a2, a4⟩ := hi.waits t (by simp [hp, RM.PC.waits])
    rcases a4 with hlr | ⟨hpub, hreg⟩
    · exact absurd (hi.done _ a1 hlr).2 hw
    · have hown := hi.owns (s.leader (s.reg t)) (by revert hpub; cases s.pc (s.leader (s.reg t)) <;> simp [RM.PC.pubd, RM.PC.owns])
      have hk : s.key (s.leader (s.reg t)) = s.key t := by rw [← hown.2.2.1, hreg, a2]
      refine ⟨hk, ?_, hreg⟩
      have h0 := hi.wg0 (s.leader (s.reg t))
      rw [hreg] at h0
      revert hpub h0
      cases s.pc (s.leader (s.reg t)) <;> simp [RM.PC.pubd, RM.PC.wgOne, RM.PC.after] <;> omega
  · -- blocked at the map's lock: by its writer, or (`g6`, no writer) by readers
    cases hrwv : s.rw with
    | some u =>
      right; right; left
      have := RM.rwr_reach h u hrwv
      exact ⟨u, rfl, this, fun y => rm_critical_section_enabled s u y (by rcases this with h1 | h1 <;> simp [h1])⟩
    | none =>
      rcases hrw with ⟨_, hrw⟩ | ⟨hp, hg⟩
      · exact absurd hrwv hrw
      · exact .inr (.inr (.inr ⟨hp, rfl, fun h0 => hg ⟨hrwv, h0⟩⟩))

/-- non-vacuity: goroutine 1 joined goroutine 0's flight on key 2 and is blocked in `Wait` while `create` runs. -/
example : (RM.run (RM.init .getResource) (rmDemo.take 16)).map (fun s => (s.pc 1, (RM.step s 1 0).isSome, decide (s.key 1 = s.key 0)))
    = some (.w1, false, true) := by decide

/-! ### the full statements (readers identified: `RM.Readers`, `RM.reader_exists` in ProofsRMX.lean) -/

/-- **Who a blocked `GetResource` / `Take` caller waits for** (every `Cfg`; full statement, as `sf_keys_independent`): the
holder of the flight-group mutex, the writer of the map, or an identified READER of the map — each of whom is inside a
short critical section and can always take its next step — or, in `Wait`, the leader of a flight *for the same key*
that has not called `Done` yet.  Calls on other keys are never waited for. -/
theorem rm_keys_independent {s : RM.St} (h : RM.Reach s) (t : Tid) (x : Nat) (hb : RM.step s t x = none) :
    (∃ u, s.lock = some u ∧ (s.pc u).holdsLock = true ∧ ∀ y, (RM.step s u y).isSome = true) ∨
    (s.pc t = .w1 ∧ ∃ u, s.key u = s.key t ∧ (s.pc u).wgOne = true ∧ s.reg u = s.reg t) ∨
    (∃ u, s.rw = some u ∧ (s.pc u = .g7 ∨ s.pc u = .g8) ∧ ∀ y, (RM.step s u y).isSome = true) ∨
    (s.pc t = .g6 ∧ ∃ u, (s.pc u).isRd = true ∧ ∀ y, (RM.step s u y).isSome = true) := by
  rcases rm_keys_independent_partial h t x hb with a | a | a | ⟨hp, _, hn⟩
  · exact .inl a
  · exact .inr (.inl a)
  · exact .inr (.inr (.inl a))
  · obtain ⟨u, hu⟩ := RM.reader_exists h hn
    refine .inr (.inr (.inr ⟨hp, u, hu, fun y => rm_critical_section_enabled s u y ?_⟩))
    revert hu; cases s.pc u <;> simp [RM.PC.isRd]

/-- **No deadlock, no lost wake-up** for `GetResource` and both `Take` users: whenever some call is in progress, some
goroutine that is inside a call can take a step (for every environment input). -/
theorem rm_no_deadlock {s : RM.St} (h : RM.Reach s) (t : Tid) (ht : s.pc t ≠ .idle) :
    ∃ u, s.pc u ≠ .idle ∧ ∀ y, (RM.step s u y).isSome = true := by
  refine no_deadlock_of (busy := fun u => s.pc u ≠ .idle) (waiting := fun u => s.pc u = .w1)
    (fun u y z => isSome_of_iff rm_blocked_cases rm_blocked_cases) ?_ ht
  · intro v hv
    rcases rm_keys_independent h v 0 hv with ⟨u, _, hh, he⟩ | ⟨hp, u, _, hw, _⟩ | ⟨u, _, hh, he⟩ | ⟨_, u, hh, he⟩
    · exact .inl ⟨u, by revert hh; cases s.pc u <;> simp [RM.PC.holdsLock], he⟩
    · exact .inr ⟨hp, u, by revert hw; cases s.pc u <;> simp [RM.PC.wgOne]⟩
    · exact .inl ⟨u, by rcases hh with hh | hh <;> simp [hh], he⟩
    · exact .inl ⟨u, by revert hh; cases s.pc u <;> simp [RM.PC.isRd], he⟩

/-- non-vacuity: goroutine 1 waits for goroutine 0's flight; goroutine 0 (inside `create`) is enabled. -/
example : (RM.run (RM.init .getResource) (rmDemo.take 16)).map
    (fun s => (s.pc 1, (RM.step s 1 0).isSome, s.pc 0, (RM.step s 0 0).isSome)) = some (.w1, false, .g5, true) := by decide

/-! ### `ResourceManager.Inject` inside the theorems (`RM.ReachI`: calls and registrations — a registration while
no call is in progress, of a key that holds nothing, with a non-nil resource; this is how mon's `Inject` test hook is
used and how the correspondence runs pre-register resources).  `rm_inject_create_once` and `rm_inject_same_instance`
stand in front of their `Reach` instances above. -/

theorem rm_run_keeps_instance (k : Key) (l : List (Tid × Nat)) : ∀ (s1 s2 : RM.St), RM.ReachI s1 → s1.ncreate k = 1 →
    RM.run s1 l = some s2 → RM.ReachI s2 ∧ s2.ncreate k = 1 ∧ s2.inst k = s1.inst k := by
  induction l with
  | nil => intro s1 s2 h h1 hr; simp [RM.run] at hr; subst hr; exact ⟨h, h1, rfl⟩
  | cons a l ih =>
    intro s1 s2 h h1 hr
    simp only [RM.run] at hr
    split at hr
    · rename_i s' hs'
      have st := RM.made_stable (RM.inv_reachI h) hs' ⟨h1, rfl⟩
      have := ih s' s2 (.step a.1 a.2 h hs') st.1 hr
      exact ⟨this.1, this.2.1, by rw [this.2.2, st.2]⟩
    · simp at hr

/-- **a registered resource is THE instance of its key for ever**: after `Inject(k, v)` (quiescent manager, `k` holds
nothing, `v` not nil) and ANY further schedule, `create` for `k` never succeeds again and every call on `k` that
returns a resource returns `v`. -/
theorem rm_injected_is_handed_out {s s1 s2 : RM.St} {k : Key} {v : Val} (h : RM.ReachI s) (hq : ∀ t, s.pc t = .idle)
    (hk : s.res k = none) (hv : v ≠ 0) (hi : RM.inject s k v = some s1) (l : List (Tid × Nat))
    (hrun : RM.run s1 l = some s2) :
    s2.ncreate k = 1 ∧ s2.inst k = v ∧ ∀ r ∈ s2.rets, r.key = k → r.val ≠ 0 → r.val = v := by
  have h1 : RM.ReachI s1 := .inject k v h hq hk hv hi
  have hs1 : s1.ncreate k = 1 ∧ s1.inst k = v := by rw [RM.inject_eq hi]; simp [upd]
  obtain ⟨h2, hn, hin⟩ := rm_run_keeps_instance k l s1 s2 h1 hs1.1 hrun
  refine ⟨hn, by rw [hin, hs1.2], fun r hr hrk hrv => ?_⟩
  have := (rm_inject_same_instance h2 r hr hrv).2
  rw [this, hrk, hin, hs1.2]

/-! ### expiry / eviction / Del (`RM.evict`, `RM.ReachE`: calls and evictions in any order)

An entry may disappear at any time the map's lock is free — `collection.Cache.Del`, the timing wheel's expiry, lru
eviction, `cacheNode.Del`, a redis TTL.  The FLIGHT part of the invariant (`RM.InvF`, ProofsRME.lean) survives it, so the
flight group never becomes a second cache: **never a retained result** — whatever is evicted between a flight's end
and the next call, a caller that does not find the entry in the map is handed the result of an execution of a flight
that is registered (its leader inside it) while the caller is inside its own call; an entry of the flight group exists
only while its leader is inside that very flight.  NOT re-established under eviction (stated per epoch only in the ghost
field `ncreate`, which `evict` resets): the map part — "at most one successful load per key and epoch" and "everyone
gets the epoch's instance" (a caller that read the entry just before it was evicted legitimately returns the old
instance). -/

/-- with evictions, too: what a call returns from a flight is what the single execution of that flight's closure
returned, and that flight was for the caller's key. -/
theorem rm_evict_result_is_execution {s : RM.St} (h : RM.ReachE s) (r : RRet) (hr : r ∈ s.rets) (hd : r.direct = false) :
    r.exec < s.next ∧ s.fnres r.exec = some r.val ∧ s.ekey r.exec = r.key :=
  (RM.invF_reachE h).rets r hr hd

/-- … the flight group holds an entry only while its leader is inside that very flight (so a flight that has ended can
not be joined: the next caller registers a flight of its own and runs the closure — lookup, and on a miss the loader —
again), … -/
theorem rm_evict_cleanup {s : RM.St} (h : RM.ReachE s) (k : Key) (c : CallId) (hc : s.calls k = some c) :
    c < s.next ∧ s.ekey c = k ∧ (s.pc (s.leader c)).inFlight = true ∧ s.reg (s.leader c) = c :=
  (RM.invF_reachE h).calls k c hc

/-- … a joiner only ever waits for / reads a flight that was published for its own key, … -/
theorem rm_evict_joins_own_key {s : RM.St} (h : RM.ReachE s) (u : Tid) (hu : (s.pc u).waits = true) :
    s.ekey (s.reg u) = s.key u ∧ RM.published s (s.reg u) :=
  ⟨((RM.invF_reachE h).waits u hu).2.1, ((RM.invF_reachE h).waits u hu).2.2⟩

/-- … and when no call is in progress the flight group is empty, whatever was loaded or evicted before. -/
theorem rm_evict_quiescent_clean {s : RM.St} (h : RM.ReachE s) (hq : ∀ t, s.pc t = .idle) (k : Key) : s.calls k = none :=
  (RM.invF_reachE h).quiescent_clean hq k

/-- an eviction starts a new epoch of the key: nothing stored, no load counted. -/
theorem rm_evict_new_epoch {s s' : RM.St} {k : Key} (hs : RM.evict s k = some s') :
    s'.res k = none ∧ s'.ncreate k = 0 ∧ s'.calls = s.calls ∧ s'.cval = s.cval := by
  rw [RM.evict_eq hs]; simp [upd]

/-- non-vacuity (`cacheNode.doTake` / `Cache.Take` alike): goroutine 0 loads 9 for key 2; the entry is evicted; goroutine
1's call — started after the first flight ended — finds nothing retained, runs the loader AGAIN (it returns 11) and is
handed 11, not 9. -/
def evictDemo1 : List (Tid × Nat) := [(0,2)] ++ List.replicate 11 (0,0) ++ [(0,9)] ++ List.replicate 9 (0,0)
def evictDemo2 : List (Tid × Nat) := [(1,2)] ++ List.replicate 11 (1,0) ++ [(1,11)] ++ List.replicate 9 (1,0)

example : (((RM.run (RM.init .doTake) evictDemo1).bind fun s => RM.evict s 2).bind fun s => RM.run s evictDemo2).map
    (fun s => (s.rets.map fun r => (r.tid, r.key, r.val), s.res 2, s.ncreate 2, (s.calls 2).isNone))
    = some ([(1, 2, 11), (0, 2, 9)], some 11, 1, true) := by decide

/-! ### a loader that returns `(nil, nil)` — what the code does (`RM.nilInst`)

The nil instance is stored and shared like any instance (so every `rm_*` theorem covers it: one load, everyone "gets"
it); users that assert the type after the flight (`Cfg.asrt`: `GetResource`, `doTake`) panic instead of returning it —
leader, joiners and, because the key now holds it, every later caller: the key is poisoned; `collection.Cache.Take`
hands `(nil, nil)` to everyone. -/

theorem rm_nil_leader_panics (s : RM.St) (t : Tid) (x : Nat) (hpc : s.pc t = .r0) (hv : s.cval (s.reg t) = RM.nilInst)
    (ha : s.cfg.asrt = true) : (RM.step s t x).map (fun s' => (s'.pc t, s'.rets)) = some (.idle, s.rets) := by
  unfold RM.step; rw [hpc]; simp [hv, ha, upd]

theorem rm_nil_joiner_panics (s : RM.St) (t : Tid) (x : Nat) (hpc : s.pc t = .w2) (hv : s.cval (s.reg t) = RM.nilInst)
    (ha : s.cfg.asrt = true) : (RM.step s t x).map (fun s' => (s'.pc t, s'.rets)) = some (.idle, s.rets) := by
  unfold RM.step; rw [hpc]; simp [hv, ha, upd]

theorem rm_nil_returned_without_assertion (s : RM.St) (t : Tid) (x : Nat) (hpc : s.pc t = .r0)
    (hv : s.cval (s.reg t) = RM.nilInst) (ha : s.cfg.asrt = false) :
    ((RM.step s t x).bind (·.rets.head?)).map (·.val) = some RM.nilInst := by
  unfold RM.step; rw [hpc]; simp [hv, ha]

/-- **nobody who asserts the type is ever handed the nil instance** (`GetResource`, `doTake`: `asrt`, no lookup in front of
the flight): on every schedule every returned call returned something else — the callers of a key that holds the nil
instance panic instead (`rm_nil_leader_panics`, `rm_nil_joiner_panics`).  By induction over the run: under `asrt` without `pre`
nobody is ever in the rows in front of the flight (`Writes.front`), and the rows that append a record refuse `nilInst`
(`Writes.rets`). -/
theorem rm_nil_never_returned_asserted {s : RM.St} (h : RM.Reach s) (ha : s.cfg.asrt = true) (hp : s.cfg.pre = false) :
    (∀ t, (s.pc t).front = false) ∧ ∀ r ∈ s.rets, r.val ≠ RM.nilInst := by
  induction h with
  | init cfg => simp [RM.init, RM.PC.front]
  | step t x hr hs ih =>
    rename_i s0 s1
    have hc := rm_cfg_constant hs
    rw [hc] at ha hp
    obtain ⟨i1, i2⟩ := ih ha hp
    have it := i1 t
    refine ⟨fun u => ?_, ?_⟩
    · by_cases hu : u = t
      · subst hu
        cases hf : (s1.pc u).front with
        | false => rfl
        | true =>
          rcases (RM.step_writes hs).front hf with h1 | h1
          · rw [it] at h1; cases h1
          · rw [hp] at h1; cases h1
      · rw [((RM.step_writes hs).other u hu).pc]; exact i1 u
    · intro r hr
      rcases mem_of_appended (RM.step_writes hs).rets hr with hm | ⟨_, ⟨_, hpc, _⟩ | ⟨_, _, _, _, hn⟩⟩
      · exact i2 r hm
      · rw [hpc] at it; cases it
      · exact hn ha

/-- the poisoned key (`GetResource`): goroutine 0's `create` returns `(nil, nil)` — it is stored, goroutine 0 panics;
goroutine 1 comes later, finds the nil instance in the map and panics, too: nobody ever returns. -/
example : (RM.run (RM.init .getResource) ([(0,2)] ++ List.replicate 11 (0,0) ++ [(0,1)] ++ List.replicate 9 (0,0) ++
    [(1,2)] ++ List.replicate 16 (1,0))).map (fun s => (s.rets.length, s.res 2, s.ncreate 2, s.pc 0, s.pc 1))
    = some (0, some 1, 1, .idle, .idle) := by decide
/-- `collection.Cache.Take`: the same schedule hands the nil value to both. -/
example : (RM.run (RM.init .cacheTake) ([(0,2)] ++ List.replicate 15 (0,0) ++ [(0,1)] ++ List.replicate 9 (0,0) ++
    [(1,2)] ++ List.replicate 4 (1,0))).map (fun s => (s.rets.map fun r => (r.tid, r.val, r.direct), s.res 2))
    = some ([(1, 1, true), (0, 1, false)], some 1) := by decide

end GoZero.C07
