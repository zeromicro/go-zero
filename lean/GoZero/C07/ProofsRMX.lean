/-
C07 — ResourceManager / Take users: who holds the map's write lock (`rwr_reach`, the converse of `InvF.writer`) and the readers
of the map identified (`Readers`), both from `Writes` alone; `Inject` as an environment action (`ReachI`), on top of `Inv`; used
by the waiting and registration theorems of Props.lean.
-/
import GoZero.C07.ProofsRM
namespace GoZero.C07.RM

variable {s s' : St} {t : Tid} {x : Nat}

theorem rwr_step (hl : ∀ u, s.rw = some u → (s.pc u = .g7 ∨ s.pc u = .g8)) (hs : step s t x = some s') :
    ∀ u, s'.rw = some u → (s'.pc u = .g7 ∨ s'.pc u = .g8) :=
  mutex_held (step_writes hs).rw (fun u hu => by rw [(step_flow hs).2 u hu]) hl

theorem rwr_reach {s : St} (h : Reach s) : ∀ u, s.rw = some u → (s.pc u = .g7 ∨ s.pc u = .g8) := by
  induction h with
  | init cfg => simp [init]
  | step t x _ hs ih => exact rwr_step ih hs

theorem ncreate_zero_of_quiescent {s : St} (h : Inv s) (hq : ∀ t, s.pc t = .idle) (k : Key) (hk : s.res k = none) :
    s.ncreate k = 0 := by
  have h3 := (h.r3 k).2
  by_cases h0 : s.ncreate k = 0
  · exact h0
  · rcases h3 h0 with h1 | ⟨h1, _⟩
    · exact absurd hk h1
    · rw [hq] at h1; rcases h1 with h1 | h1 <;> cases h1

theorem inject_eq {s s' : St} {k : Key} {v : Val} (hs : inject s k v = some s') :
    s' = { s with res := upd s.res k (some v), ncreate := upd s.ncreate k 1, inst := upd s.inst k v } := by
  unfold inject at hs
  split at hs <;> simp at hs
  exact hs.symm

theorem inv_inject {s s' : St} {k : Key} {v : Val} (h : Inv s) (hq : ∀ t, s.pc t = .idle) (hk : s.res k = none)
    (hv : v ≠ 0) (hs : inject s k v = some s') : Inv s' := by
  have hn := ncreate_zero_of_quiescent h hq k hk
  rw [inject_eq hs]
  -- the flight clauses do not read the map; nobody is inside a call, so the clauses about the closure's rows are vacuous
  exact { h with
    r2 := fun u hu => by simp [hq] at hu
    r2' := fun u hu => by simp [hq] at hu
    r4 := fun u hu => by simp [hq] at hu
    r4' := fun u hu => by simp [hq] at hu
    pre4 := fun u hu => by simp [hq] at hu
    r1 := fun k' v' hr => by
      by_cases hkk : k' = k
      · subst hkk; simp [upd] at hr ⊢; exact ⟨hr.symm ▸ rfl, hr ▸ hv⟩
      · simp [upd, hkk] at hr ⊢; exact h.r1 k' v' hr
    r3 := fun k' => by
      by_cases hkk : k' = k
      · subst hkk; simp [upd]
      · simp [upd, hkk]; exact h.r3 k'
    r5 := fun c v' hc hf hv' => by
      have := h.r5 c v' hc hf hv'
      by_cases hkk : s.ekey c = k
      · rw [hkk, hn] at this; omega
      · simp [upd, hkk]; exact this
    retsI := fun r hr hv' => by
      have := h.retsI r hr hv'
      by_cases hkk : r.key = k
      · rw [hkk, hn] at this; omega
      · simp [upd, hkk]; exact this }

/-- configurations reachable by calls AND registrations (`Inject` while the manager is quiescent, of a key that holds
nothing, with a non-nil resource). -/
inductive ReachI : St → Prop
  | init (cfg : Cfg) : ReachI (init cfg)
  | step {s s' : St} (t : Tid) (x : Nat) : ReachI s → step s t x = some s' → ReachI s'
  | inject {s s' : St} (k : Key) (v : Val) : ReachI s → (∀ t, s.pc t = .idle) → s.res k = none → v ≠ 0 →
      inject s k v = some s' → ReachI s'

theorem invs_reachI {s : St} (h : ReachI s) : SimSF s ∧ InvF s ∧ Inv s := by
  induction h with
  | init cfg => exact ⟨simSF_init cfg, invF_init cfg, inv_init cfg⟩
  | step t x _ hs ih =>
    have a := simSF_step ih.1 hs
    have b := invF_step a ih.2.1 hs
    exact ⟨a, b, inv_step ih.2.1 b ih.2.2 hs⟩
  | inject k v _ hq hk hv hs ih =>
    refine ⟨?_, ?_, inv_inject ih.2.2 hq hk hv hs⟩ <;> rw [inject_eq hs]
    · exact simSF_resources ih.1 _ _ _
    · exact invF_resources ih.2.1 _ _ _

theorem inv_reachI {s : St} (h : ReachI s) : Inv s := (invs_reachI h).2.2

theorem reachI_of_reach {s : St} (h : Reach s) : ReachI s := by
  induction h with
  | init cfg => exact .init cfg
  | step t x _ hs ih => exact .step t x ih hs

theorem inv_reach {s : St} (h : Reach s) : Inv s := inv_reachI (reachI_of_reach h)

/-- the read-lock counter is the number of goroutines inside a read-locked section (a duplicate-free list of them has that
length). -/
def Readers (s : St) : Prop :=
  ∃ l : List Tid, l.Nodup ∧ l.length = s.nrd ∧ ∀ u, u ∈ l ↔ (s.pc u).isRd = true

theorem readers_init (cfg : Cfg) : Readers (init cfg) := ⟨[], by simp, by simp [init], by simp [init, PC.isRd]⟩

theorem readers_step (h : Readers s) (hs : step s t x = some s') : Readers s' := by
  obtain ⟨l, hnd, hlen, hmem⟩ := h
  have hoth : ∀ u, u ≠ t → s'.pc u = s.pc u := (step_flow hs).2
  rcases (step_writes hs).rd with ⟨hn, h0, h1⟩ | ⟨hn, h0, h1⟩ | ⟨hn, h01⟩
  · have htl : t ∉ l := fun hm => by have := (hmem t).1 hm; rw [h0] at this; cases this
    refine ⟨t :: l, List.nodup_cons.2 ⟨htl, hnd⟩, by simp [hlen, hn], fun u => ?_⟩
    by_cases hu : u = t
    · subst hu; simp [h1]
    · simp [hu, hoth u hu, hmem u]
  · have htl : t ∈ l := (hmem t).2 h0
    refine ⟨l.erase t, hnd.erase t, by rw [List.length_erase_of_mem htl, hlen, hn], fun u => ?_⟩
    by_cases hu : u = t
    · subst hu; simp [h1, hnd.not_mem_erase]
    · rw [List.mem_erase_of_ne hu, hoth u hu, hmem u]
  · refine ⟨l, hnd, by rw [hlen, hn], fun u => ?_⟩
    by_cases hu : u = t
    · subst hu; rw [h01]; exact hmem u
    · rw [hoth u hu]; exact hmem u

theorem readers_reach {s : St} (h : Reach s) : Readers s := by
  induction h with
  | init cfg => exact readers_init cfg
  | step t x _ hs ih => exact readers_step ih hs

theorem reader_exists {s : St} (h : Reach s) (hn : s.nrd ≠ 0) : ∃ u, (s.pc u).isRd = true := by
  obtain ⟨l, _, hlen, hmem⟩ := readers_reach h
  cases l with
  | nil => simp at hlen; exact absurd hlen.symm hn
  | cons a l => exact ⟨a, (hmem a).1 (by simp)⟩

end GoZero.C07.RM
