/-
C07 — LockedCalls: execution intervals (history form of the per-key exclusion), on top of `Inv`.
-/
import GoZero.C07.ProofsLC
namespace GoZero.C07.LC

def endsBefore (o : Option Nat) (a : Nat) : Prop := match o with | some b => b < a | none => False

theorem endsBefore_none (a : Nat) : endsBefore none a = False := rfl
theorem endsBefore_some (a b : Nat) : endsBefore (some b) a = (b < a) := rfl

theorem endsBefore_iff {o : Option Nat} {a : Nat} : endsBefore o a ↔ ∃ b, o = some b ∧ b < a := by
  cases o <;> simp [endsBefore]

/-- the goroutine owns a wait group whose function has not started (`notRun` ∧ `owns`: `fstart` is still `none`) -/
def PC.notStarted : PC → Bool
  | .c1 | .c2 | .c3 | .f0 => true
  | _ => false

/-- the caller's function is executing -/
def PC.running : PC → Bool
  | .f1 | .fp => true
  | _ => false

structure InvX (s : St) : Prop where
  ekey    : ∀ u, (s.pc u).owns = true → s.ekey (s.reg u) = s.key u
  nstart  : ∀ u, (s.pc u).notStarted = true → s.fstart (s.reg u) = none ∧ s.fend (s.reg u) = none
  run1    : ∀ u, (s.pc u).running = true → s.fstart (s.reg u) ≠ none ∧ s.fend (s.reg u) = none
  running : ∀ w, w < s.next → s.fstart w ≠ none → s.fend w = none → (s.pc (s.owner w)).running = true ∧ s.reg (s.owner w) = w
  tstart  : ∀ w a, s.fstart w = some a → a < s.now ∧ w < s.next
  tend    : ∀ w b, s.fend w = some b → b < s.now ∧ endsBefore (s.fstart w) b ∧ s.fstart w ≠ none
  disj    : ∀ c d a a', c ≠ d → s.ekey c = s.ekey d → s.fstart c = some a → s.fstart d = some a' →
              endsBefore (s.fend c) a' ∨ endsBefore (s.fend d) a

theorem invX_init : InvX init := by
  constructor <;> simp [init, PC.notStarted, PC.owns, PC.running]

/-- the stepping goroutine's own row, for the clauses about execution intervals. -/
macro "close_stepx" hs:ident : tactic =>
  `(tactic| (step_cases $hs:ident <;> simp_all [upd, PC.owns, PC.notStarted, PC.running]))

variable {s s' : St} {t u : Tid} {x : Nat} {c : Nat} {a b : Nat}

theorem PC.owns_of_notStarted {p : PC} (h : p.notStarted = true) : p.owns = true := by cases p <;> simp_all [notStarted, owns]
theorem PC.owns_of_running {p : PC} (h : p.running = true) : p.owns = true := by cases p <;> simp_all [running, owns]
theorem PC.inFlight_of_running {p : PC} (h : p.running = true) : p.inFlight = true := by cases p <;> simp_all [running, inFlight]

theorem unalloc (hx : InvX s) (hn : s.next ≤ c) : s.fstart c = none ∧ s.fend c = none := by
  have hf : s.fstart c = none := by
    cases hf : s.fstart c with
    | none => rfl
    | some a => exact absurd (hx.tstart c a hf).2 (Nat.not_lt.2 hn)
  cases hb : s.fend c with
  | none => exact ⟨hf, rfl⟩
  | some b => exact absurd hf (hx.tend c b hb).2.2

/-- `fstart` is written when the function starts (`f0`, own wait group); the wait group `c0` allocates had none and gets none. -/
theorem step_fstart (hx : InvX s) (hs : step s t x = some s') (c : Nat) :
    s'.fstart c = s.fstart c ∨ (s.pc t = .f0 ∧ c = s.reg t ∧ s'.fstart c = some s.now) := by
  have := (unalloc hx (Nat.le_refl s.next)).1
  step_cases hs <;> simp_all [upd]
  all_goals by_cases h1 : c = s.reg t <;> simp [h1]

theorem step_fend (hx : InvX s) (hs : step s t x = some s') (c : Nat) :
    s'.fend c = s.fend c ∨ ((s.pc t).running = true ∧ c = s.reg t ∧ s'.fend c = some s.now) := by
  have := (unalloc hx (Nat.le_refl s.next)).2
  step_cases hs <;> simp_all [upd, PC.running]
  all_goals by_cases h1 : c = s.reg t <;> simp [h1]

/-- `fend` is written only while the function runs, where it is `none`. -/
theorem fend_stable (hx : InvX s) (hs : step s t x = some s') (hb : s.fend c = some b) : s'.fend c = some b := by
  rcases step_fend hx hs c with e | ⟨hr, rfl, _⟩
  · rw [e, hb]
  · rw [(hx.run1 t hr).2] at hb; cases hb

theorem invX_step (h : Inv s) (hx : InvX s) (hs : step s t x = some s') : InvX s' where
  ekey u hu := by
    by_cases hut : u = t
    · have h1 := hx.ekey t
      subst hut; close_stepx hs
    · have wr := step_writes hs
      have fr := wr.other _ hut
      rw [fr.pc] at hu
      rw [fr.key, fr.reg, (wr.alloc _ (h.owns u hu).1).2.2]
      exact hx.ekey u hu
  nstart u hu := by
    by_cases hut : u = t
    · have h2 := hx.nstart t
      subst hut; close_stepx hs
    · have wr := step_writes hs
      have fr := wr.other _ hut
      rw [fr.pc] at hu
      have f := owner_wg h hs hut (PC.owns_of_notStarted hu)
      rw [fr.reg, f.fstart, f.fend]
      exact hx.nstart u hu
  run1 u hu := by
    by_cases hut : u = t
    · have h1 := hx.run1 t
      have h2 := hx.nstart t
      subst hut; close_stepx hs
    · have wr := step_writes hs
      have fr := wr.other _ hut
      rw [fr.pc] at hu
      have f := owner_wg h hs hut (PC.owns_of_running hu)
      rw [fr.reg, f.fstart, f.fend]
      exact hx.run1 u hu
  running c hc h1 h2 := by
    rcases call_cases s.next c (s.reg t) (s.pc t).owns with hn | ⟨ho, rfl⟩ | ⟨hn, ho⟩
    · -- a wait group allocated just now has not started
      rcases step_fstart hx hs c with e | ⟨_, rfl, _⟩
      · rw [e, (unalloc hx hn).1] at h1; exact absurd rfl h1
      · exact absurd (h.owns t (by simp [*, PC.owns])).1 (Nat.not_lt.2 hn)
    · obtain ⟨o1, o2⟩ := h.owns t ho
      have h3 := hx.running (s.reg t) o1
      rw [((step_writes hs).alloc _ o1).2.1, o2] at *
      close_stepx hs
    · have wr := step_writes hs
      have f := wr.wg _ hn ho
      rw [f.fstart] at h1; rw [f.fend] at h2
      obtain ⟨r1, r2⟩ := hx.running c hn h1 h2
      have hut : s.owner c ≠ t := fun e => by rw [e] at r1 r2; exact ho (PC.owns_of_running r1) r2.symm
      have fr := wr.other _ hut
      rw [(wr.alloc _ hn).2.1, fr.pc, fr.reg]; exact ⟨r1, r2⟩
  tstart c a hc := by
    have wr := step_writes hs
    rw [wr.now]
    rcases step_fstart hx hs c with e | ⟨hpc, rfl, e⟩ <;> rw [e] at hc
    · obtain ⟨a1, a2⟩ := hx.tstart c a hc
      exact ⟨Nat.lt_succ_of_lt a1, (wr.alloc _ a2).1⟩
    · cases hc
      exact ⟨Nat.lt_succ_self _, (wr.alloc _ (h.owns t (by simp [hpc, PC.owns])).1).1⟩
  tend c b hc := by
    have wr := step_writes hs
    rw [wr.now]
    rcases step_fend hx hs c with e | ⟨hr, rfl, e⟩ <;> rw [e] at hc
    · -- an execution that had ended: its start is not written again
      obtain ⟨b1, b2, b3⟩ := hx.tend c b hc
      rcases step_fstart hx hs c with f | ⟨hpc, rfl, _⟩
      · rw [f]; exact ⟨Nat.lt_succ_of_lt b1, b2, b3⟩
      · rw [(hx.nstart t (by simp [hpc, PC.notStarted])).2] at hc; cases hc
    · -- the function ends now; it had started earlier
      cases hc
      rcases step_fstart hx hs (s.reg t) with f | ⟨hpc, _⟩
      · rw [f]
        cases hf : s.fstart (s.reg t) with
        | none => exact absurd hf (hx.run1 t hr).1
        | some a => exact ⟨Nat.lt_succ_self _, (hx.tstart _ a hf).1, by simp⟩
      · rw [hpc] at hr; cases hr
  disj c d a a' hne hk hc hd := by
    have wr := step_writes hs
    have mono : ∀ {c a}, endsBefore (s.fend c) a → endsBefore (s'.fend c) a := fun he =>
      have ⟨b, hb, hlt⟩ := endsBefore_iff.1 he
      endsBefore_iff.2 ⟨b, fend_stable hx hs hb, hlt⟩
    -- the only interesting step: `t` starts its function while another execution for the key has started; that one has ended
    have key : ∀ e a', s.pc t = .f0 → e ≠ s.reg t → s'.ekey e = s'.ekey (s.reg t) → s.fstart e = some a' →
        endsBefore (s'.fend e) s.now := by
      intro e a' hpc hne' hke hst
      have ot1 := (h.owns t (by simp [hpc, PC.owns])).1
      have ot3 := hx.ekey t (by simp [hpc, PC.owns])
      have he := (hx.tstart e a' hst).2
      rw [(wr.alloc _ he).2.2, (wr.alloc _ ot1).2.2] at hke
      cases hfe : s.fend e with
      | some b => rw [fend_stable hx hs hfe]; exact (hx.tend e b hfe).1
      | none =>
        exfalso
        obtain ⟨r1, r2⟩ := hx.running e he (by rw [hst]; simp) hfe
        have ol := hx.ekey (s.owner e) (PC.owns_of_running r1)
        have : s.owner e = t := flight_unique h _ _ (PC.inFlight_of_running r1) (by simp [hpc, PC.inFlight])
          (by rw [← ol, r2, hke, ot3])
        rw [this, hpc] at r1
        cases r1
    rcases step_fstart hx hs c with e1 | ⟨hpc, rfl, e1⟩ <;> rw [e1] at hc
    · rcases step_fstart hx hs d with e2 | ⟨hpc, rfl, e2⟩ <;> rw [e2] at hd
      · rw [(wr.alloc _ (hx.tstart c a hc).2).2.2, (wr.alloc _ (hx.tstart d a' hd).2).2.2] at hk
        exact (hx.disj c d a a' hne hk hc hd).imp mono mono
      · cases hd
        exact .inl (key c a hpc hne hk hc)
    · cases hc
      rcases step_fstart hx hs d with e2 | ⟨_, rfl, _⟩
      · rw [e2] at hd; exact .inr (key d a' hpc (Ne.symm hne) hk.symm hd)
      · exact absurd rfl hne

theorem invX_reach {s : St} (h : Reach s) : InvX s := by
  induction h with
  | init => exact invX_init
  | step t x hr hs ih => exact invX_step (inv_reach hr) ih hs

end GoZero.C07.LC
