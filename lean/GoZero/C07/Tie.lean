/-
C07 — Tie: the statement skeletons the extractor reads from core/syncx/{singleflight,lockedcalls,resourcemanager}.go
are the ones the models' step tables were written against.  `SF.stmt pc` is the statement the model's
row `pc` stands for; a reordered delete/Done, a dropped lock, a changed `fresh` flag, a different map key, an
extra or missing statement breaks an obligation here.
-/
import GoZero.Extracted.C07
import GoZero.C07.Model
namespace GoZero.C07.Tie
open GoZero.Extracted.C07

theorem extraction_clean : extractionErrors = [] := rfl

open SF in
/-- `createCall`: lock; look the key up; found → unlock, wait, (done = true); else allocate, Add(1), publish, unlock. -/
theorem tie_createCall : createCallShape =
    [stmt .l0, stmt .l1, "if ok {", stmt .w0, stmt .w1, "return c, true", "}",
     stmt .n0, stmt .n1, stmt .n2, stmt .n3, "return c, false"] := rfl

open SF in
/-- `makeCall`: run fn, store its result; deferred: lock, **delete the entry, unlock, then Done**.  The cleanup is a
`defer`red function registered before `fn` is called, so it also runs when `fn` panics (model rows `mp` → `d0 … d3` → `px`;
the store `m2` is skipped). -/
theorem tie_makeCall : makeCallShape =
    ["defer{", "func{", stmt .d0, stmt .d1, stmt .d2, stmt .d3, "}", "call func", "}",
     stmt .m0, stmt .m2, "store c.err"] := rfl

open SF in
/-- `DoEx`: joiners (`done`) are reported `fresh = false`, the executing caller `fresh = true`. -/
theorem tie_doEx : doExShape =
    ["call g.createCall(key)", "if done {", stmt .w2, "}", "call g.makeCall(c, key, fn)", stmt .r0] := rfl

/-- `Do` is `DoEx` without the flag. -/
theorem tie_do : doShape =
    ["call g.createCall(key)", "if done {", "return c.val, c.err", "}", "call g.makeCall(c, key, fn)",
     "return c.val, c.err"] := rfl

theorem tie_newSingleFlight : newSingleFlightShape = ["return &flightGroup{ calls: make(map[string]*call), }"] := rfl

open LC in
/-- `lockedGroup.Do`: lock; somebody registered for the key → unlock, wait, **retry from the top**; else makeCall
(still holding the mutex). -/
theorem tie_lockedDo : lockedDoShape =
    ["label begin", stmt .b0, stmt .b1, "if ok {", stmt .b2, stmt .b3, "goto begin", "}",
     "call lg.makeCall(key, fn)", stmt .e4] := rfl

open LC in
/-- `lockedGroup.makeCall`: Add(1), register, unlock, run the caller's own fn; deferred: lock, **delete, unlock,
then Done** (registered with `defer` before `fn` runs: also executed when `fn` panics, rows `fp` → `e0 … e3` → `px`). -/
theorem tie_lockedMakeCall : lockedMakeCallShape =
    [stmt .c0, stmt .c1, stmt .c2, stmt .c3,
     "defer{", "func{", stmt .e0, stmt .e1, stmt .e2, stmt .e3, "}", "call func", "}",
     stmt .f0, stmt .e4] := rfl

theorem tie_newLockedCalls : newLockedCallsShape = ["return &lockedGroup{ m: make(map[string]*sync.WaitGroup), }"] := rfl

open RM in
/-- `GetResource`: the closure handed to `singleFlight.Do` — read-locked lookup, return the stored instance if
present, else `create`, return its error, else store under the write lock and return the new instance. -/
theorem tie_getResource : getResourceShape =
    ["func{", stmt .g0, stmt .g1, stmt .g2, stmt .g3, "return resource, nil", "}",
     stmt .g4, stmt .g5, "return nil, err", "}",
     stmt .g6, "defer{", stmt .g8, "}", stmt .g7, "return resource, nil", "}",
     "call manager.singleFlight.Do(key, func)", "if err != nil {", "return nil, err", "}",
     "return val.(io.Closer), nil"] := rfl

/-- the manager's flight group is the `SingleFlight` of singleflight.go (whose skeleton is tied above). -/
theorem tie_newResourceManager : newResourceManagerShape =
    ["return &ResourceManager{ resources: make(map[string]io.Closer), singleFlight: NewSingleFlight(), }"] := rfl

/-- `Inject`: one write-locked map store — the atomic `RM.inject` of the model (used by the correspondence runs to
pre-register resources; outside `RM.Reach`). -/
theorem tie_rmInject : rmInjectShape =
    ["call manager.lock.Lock()", "mapset manager.resources[key] = resource", "call manager.lock.Unlock()"] := rfl

/-- `Close`: under the write lock, close every held resource, then drop the map (the manager must not be used
afterwards: a later `GetResource` would store into a nil map).  The correspondence runs call it after all calls
returned and check that exactly the held instances were closed, once each. -/
theorem tie_rmClose : rmCloseShape =
    ["call manager.lock.Lock()", "defer{", "call manager.lock.Unlock()", "}", "var be",
     "range manager.resources {", "call resource.Close()", "if err != nil {", "call be.Add(err)", "}", "}",
     "store manager.resources", "call be.Err()", "return <call>"] := rfl

/-! ### the synchronisation objects are the ones the rows' semantics were written for
(`sync.Mutex`: exclusive; `sync.WaitGroup`: counter, `Wait` passes iff 0; `sync.RWMutex`: one writer or many readers;
the maps are keyed by the caller's key string) -/
theorem tie_callFields : callFields = ["wg sync.WaitGroup", "val any", "err error"] := rfl
theorem tie_flightGroupFields : flightGroupFields = ["calls map[string]*call", "lock sync.Mutex"] := rfl
theorem tie_lockedGroupFields : lockedGroupFields = ["mu sync.Mutex", "m map[string]*sync.WaitGroup"] := rfl
theorem tie_resourceManagerFields : resourceManagerFields =
    ["resources map[string]io.Closer", "singleFlight SingleFlight", "lock sync.RWMutex"] := rfl

/-! ### the users named in the property's anchors
`cacheNode.doTake` and `collection.Cache.Take` put exactly one `SingleFlight` call around the load, keyed by the
cache key itself (so "one execution per key" is "one load per cache key"). -/
theorem tie_cacheNode_barrier : cacheNodeBarrierCalls = ["c.barrier.DoEx(key, func)"] := rfl
theorem tie_collectionCache_barrier : collectionCacheBarrierCalls = ["c.barrier.Do(key, func)"] := rfl
theorem tie_collectionCache_ctor : collectionCacheBarrierCtor = ["syncx.NewSingleFlight()"] := rfl

/-- `collection.Cache.Take` = unlocked lookup (hit → return) ; `barrier.Do(key, closure)` with the closure of the
same form as `GetResource`'s: look the key up again (`RM` row g1/g3: found → return it), run the loader (g4), on error
return it uncached (g5), else store (g7) and return the loaded value; joiners and leader alike return the flight's
`val`.  This is why its histories are checked against the `RM` model and monitor (harness TestVerifC07Collection). -/
theorem tie_collectionTake : collectionTakeShape =
    ["call c.doGet(key)", "if ok {", "call c.stats.IncrementHit()", "return val, nil", "}",
     "var fresh",
     "func{", "call c.doGet(key)", "if ok {", "return val, nil", "}",
     "call fetch()", "if e != nil {", "return nil, e", "}",
     "call c.Set(key, v)", "return v, nil", "}",
     "call c.barrier.Do(key, func)", "if err != nil {", "return nil, err", "}",
     "if fresh {", "call c.stats.IncrementMiss()", "return val, nil", "}",
     "call c.stats.IncrementHit()", "return val, nil"] := rfl

/-- `cacheNode.doTake`: the closure handed to the flight starts with the cache read for the same key, … -/
theorem tie_doTake_reads_cache_first : cacheNodeDoTakeShape.take 2 = ["func{", "call c.doGetCache(ctx, key, v)"] := rfl
/-- … queries the database exactly once, writes the cache after it, … -/
theorem tie_doTake_one_query :
    cacheNodeDoTakeShape.filter (fun t => t = "call query(v)" || t = "call cacheVal(v)" || t = "call c.setCacheWithNotFound(ctx, key)")
      = ["call query(v)", "call c.setCacheWithNotFound(ctx, key)", "call cacheVal(v)"] := rfl
/-- … hands the marshalled row to the flight; after the flight: an error goes to everyone, the fresh caller keeps
its own `v`, every joiner unmarshals the *leader's* bytes into its own `v`. -/
theorem tie_doTake_after_flight :
    cacheNodeDoTakeShape.dropWhile (fun t => t ≠ "call jsonx.Marshal(v)") =
      ["call jsonx.Marshal(v)", "return <call>", "}",
       "call c.barrier.DoEx(key, func)", "if err != nil {", "return err", "}", "if fresh {", "return nil", "}",
       "call c.stat.IncrementTotal()", "call c.stat.IncrementHit()",
       "call jsonx.Unmarshal(val.([]byte), v)", "return <call>"] := rfl

/-- sqlc and monc hand ONE process-wide flight group to every cache (node) they build: flights are keyed by the
cache key across all models of the process. -/
theorem tie_sqlc_flight : sqlcFlightVar = ["singleFlights = syncx.NewSingleFlight()"] ∧
    sqlcFlightUses = ["NewConn: cache.New(c, singleFlights, stats, sql.ErrNoRows, opts)",
                      "NewNodeConn: cache.NewNode(rds, singleFlights, stats, sql.ErrNoRows, opts)"] := ⟨rfl, rfl⟩
theorem tie_monc_flight : moncFlightVar = ["singleFlight = syncx.NewSingleFlight()"] ∧
    moncFlightUses = ["NewModel: cache.New(conf, singleFlight, stats, mongo.ErrNoDocuments, opts)",
                      "NewNodeModel: cache.NewNode(rds, singleFlight, stats, mongo.ErrNoDocuments, opts)"] := ⟨rfl, rfl⟩

/-- the process-wide ResourceManagers: redis clients / clusters keyed by address, mongo clients by url (plus the
`Inject` test hook), sql connections by data-source name — one `GetResource` call each, nothing else touches them. -/
theorem tie_redis_managers :
    redisClientManagerVar = ["clientManager = syncx.NewResourceManager()"] ∧
    redisClientManagerUses = ["getClient: clientManager.GetResource(r.Addr, func)"] ∧
    redisClusterManagerVar = ["clusterManager = syncx.NewResourceManager()"] ∧
    redisClusterManagerUses = ["getCluster: clusterManager.GetResource(r.Addr, func)"] := ⟨rfl, rfl, rfl, rfl⟩
theorem tie_mon_manager :
    monClientManagerVar = ["clientManager = syncx.NewResourceManager()"] ∧
    monClientManagerUses = ["Inject: clientManager.Inject(key, &ClosableClient{client})",
                            "getClient: clientManager.GetResource(url, func)"] := ⟨rfl, rfl⟩
theorem tie_sqlx_manager :
    sqlxConnManagerVar = ["connManager = syncx.NewResourceManager()"] ∧
    sqlxConnManagerUses = ["getCachedSqlConn: connManager.GetResource(server, func)"] := ⟨rfl, rfl⟩

/-! ### the functions `Take` / `doTake` call on the property's path, the constructors' wiring -/

/-- the rows of `RM` under `Cfg.cacheTake`: which statement of core/collection/cache.go each stands for. -/
def takeStmt : RM.PC → String
  | .p0 | .g0 => "call c.lock.Lock()"          -- doGet
  | .p1 | .g1 => "mapget c.data[key]"
  | .p2 | .g2 => "call c.lock.Unlock()"
  | .p3 | .g3 => "if ok {"
  | .g4 => "call fetch()"
  | .g5 => "if e != nil {"
  | .g6 => "call c.lock.Lock()"                 -- Set → SetWithExpire
  | .g7 => "mapset c.data[key] = value"
  | .g8 => "call c.lock.Unlock()"
  | _ => "(singleflight)"

/-- `Cache.doGet` (rows p0…p2 in front of the flight and g0…g2 inside it): lookup of `c.data[key]` under `c.lock`
(a `sync.Mutex`; the model's read lock only adds schedules), `ok` returned as read. -/
theorem tie_collectionDoGet : collectionDoGetShape =
    [takeStmt .p0, "defer{", takeStmt .p2, "}", takeStmt .p1, "if ok {", "call c.lruCache.add(key)", "}",
     "return value, ok"] := rfl

/-- `Cache.Set` / `SetWithExpire` (rows g6…g8): the store into `c.data[key]` under `c.lock`, key and value as passed. -/
theorem tie_collectionSet : collectionSetShape = ["call c.SetWithExpire(key, value, c.expire)"] ∧
    collectionSetWithExpireShape =
      [takeStmt .g6, takeStmt .g7, "call c.lruCache.add(key)", takeStmt .g8,
       "call c.unstableExpiry.AroundDuration(expire)", "call c.timingWheel.SetTimer(key, value, expiry)"] := ⟨rfl, rfl⟩

/-- `Cache.Take` row by row (`tie_collectionTake` with the rows' statements named): front lookup p0…p3, closure g0…g5,
store g6…g8. -/
theorem tie_collectionTake_rows : collectionTakeShape =
    ["call c.doGet(key)", takeStmt .p3, "call c.stats.IncrementHit()", "return val, nil", "}",
     "var fresh",
     "func{", "call c.doGet(key)", takeStmt .g3, "return val, nil", "}",
     takeStmt .g4, takeStmt .g5, "return nil, e", "}",
     "call c.Set(key, v)", "return v, nil", "}",
     "call c.barrier.Do(key, func)", "if err != nil {", "return nil, err", "}",
     "if fresh {", "call c.stats.IncrementMiss()", "return val, nil", "}",
     "call c.stats.IncrementHit()", "return val, nil"] := tie_collectionTake

/-- `NewCache` wires a flight group of its own and an empty map into every Cache (per instance: nothing shared). -/
theorem tie_newCache_fields :
    collectionNewCacheFields =
      ["data: make(map[string]any)", "expire: expire", "lruCache: emptyLruCache", "barrier: syncx.NewSingleFlight()",
       "unstableExpiry: mathx.NewUnstable(expiryDeviation)"] := rfl

/-- `NewNode` stores the flight group, the redis handle and the not-found error it was given (the group may be shared
between nodes: sqlc / monc pass one per process). -/
theorem tie_newNode_fields :
    cacheNodeNewNodeFields.filter (fun f => f = "barrier: barrier" || f = "rds: rds" || f = "errNotFound: errNotFound") =
      ["rds: rds", "barrier: barrier", "errNotFound: errNotFound"] ∧ cacheNodeNewNodeFields.length = 9 := by decide

/-- the four entry points of `doTake` (and `SetCtx`) forward the caller's `val`, `key` and `query` unchanged. -/
theorem tie_cacheNode_entry_points :
    cacheNodeTakeShape = ["call context.Background()", "call c.TakeCtx(context.Background(), val, key, query)", "return <call>"] ∧
    cacheNodeTakeCtxShape = ["func{", "call c.SetCtx(ctx, key, v)", "return <call>", "}",
                             "call c.doTake(ctx, val, key, query, func)", "return <call>"] ∧
    cacheNodeTakeWithExpireShape = ["call context.Background()",
                                    "call c.TakeWithExpireCtx(context.Background(), val, key, query)", "return <call>"] ∧
    cacheNodeTakeWithExpireCtxShape = ["call c.aroundDuration(c.expiry)", "func{", "call query(v, expire)", "return <call>", "}",
                                       "func{", "call c.SetWithExpireCtx(ctx, key, v, expire)", "return <call>", "}",
                                       "call c.doTake(ctx, val, key, func, func)", "return <call>"] ∧
    cacheNodeSetCtxShape = ["call c.aroundDuration(c.expiry)",
                            "call c.SetWithExpireCtx(ctx, key, val, c.aroundDuration(c.expiry))", "return <call>"] := ⟨rfl, rfl, rfl, rfl, rfl⟩

/-- `doGetCache` (row g1 of `Cfg.doTake`): redis GET of the same key; empty → `errNotFound` (a miss), the placeholder →
`errPlaceholder`, else the cached row is unmarshalled into the caller's `v`. -/
theorem tie_doGetCache : cacheNodeDoGetCacheShape =
    ["call c.stat.IncrementTotal()", "call c.rds.GetCtx(ctx, key)", "if err != nil {", "call c.stat.IncrementMiss()",
     "return err", "}", "if len(data) == 0 {", "call c.stat.IncrementMiss()", "return c.errNotFound", "}",
     "call c.stat.IncrementHit()", "if data == notFoundPlaceholder {", "return errPlaceholder", "}",
     "call c.processCache(ctx, key, data, v)", "return <call>"] := rfl

/-- the whole closure of `doTake` (error classification included): cache read; placeholder → not found; other error →
returned, no query; miss → `query`; not found → placeholder written, not found; error → returned; else `cacheVal`. -/
theorem tie_doTake_closure :
    cacheNodeDoTakeShape.takeWhile (fun t => t ≠ "call jsonx.Marshal(v)") =
      ["func{", "call c.doGetCache(ctx, key, v)", "if err != nil {",
       "if errors.Is(err, errPlaceholder) {", "return nil, c.errNotFound", "}",
       "else{", "if !errors.Is(err, c.errNotFound) {", "return nil, err", "}", "}",
       "call query(v)", "if errors.Is(err, c.errNotFound) {", "call c.setCacheWithNotFound(ctx, key)",
       "if err != nil {", "call logger.Error(err)", "}", "return nil, c.errNotFound", "}",
       "else{", "if err != nil {", "call c.stat.IncrementDbFails()", "return nil, err", "}", "}",
       "call cacheVal(v)", "if err != nil {", "call logger.Error(err)", "}", "}"] := rfl

/-! ### decision conditions translated to Lean (extract/c07.go `c07Branches`) and compared with the models'
branching for ALL values of their atoms — a negated or swapped condition breaks these even if the skeleton survives. -/

/-- `createCall`: exit 0 (`return c, true`: join) iff the key is in `g.calls` — the model's row `l1` branches the same way. -/
theorem tie_createCall_branch (s : SF.St) (t : Tid) (x : Nat) (h : s.pc t = .l1) :
    (SF.step s t x).map (fun s' => s'.pc t) =
      some (if createCallBranch (s.calls (s.key t)).isSome = 0 then .w0 else .n0) := by
  unfold SF.step; rw [h]
  cases hc : s.calls (s.key t) <;> simp [createCallBranch, upd]
theorem tie_createCall_exits : createCallBranchExits = ["return c, true", "return c, false"] := rfl

/-- `DoEx`: `done` (joiner) takes the exit that reports `fresh = false` (row `w2`), the leader the one with `true` (`r0`);
`Do` branches the same way. -/
theorem tie_doEx_branch : ∀ done, doExBranchExits[doExBranch done]? = some (SF.stmt (if done then .w2 else .r0))
    ∧ doBranch done = doExBranch done := by decide
/-- … and those rows record exactly these flags. -/
theorem tie_doEx_fresh_model (s : SF.St) (t : Tid) (x : Nat) :
    (s.pc t = .w2 → ((SF.step s t x).bind (·.rets.head?)).map (·.fresh) = some false) ∧
    (s.pc t = .r0 → ((SF.step s t x).bind (·.rets.head?)).map (·.fresh) = some true) := by
  constructor <;> intro h <;> unfold SF.step <;> rw [h] <;> simp

/-- `lockedGroup.Do`: key registered → wait and `goto begin` (rows b2, b3 → b0), else `makeCall` (c0). -/
theorem tie_lockedDo_branch (s : LC.St) (t : Tid) (x : Nat) (h : s.pc t = .b1) :
    (LC.step s t x).map (fun s' => s'.pc t) =
      some (if lockedDoBranch (s.m (s.key t)).isSome = 0 then .b2 else .c0) := by
  unfold LC.step; rw [h]
  cases hc : s.m (s.key t) <;> simp [lockedDoBranch, upd]
theorem tie_lockedDo_exits : lockedDoBranchExits = ["goto begin", "return lg.makeCall(key, fn)"] := rfl
theorem tie_lockedDo_retry (s : LC.St) (t : Tid) (x : Nat) (h : s.pc t = .b3) (hw : s.wg (s.reg t) = 0) :
    (LC.step s t x).map (fun s' => s'.pc t) = some .b0 := by
  unfold LC.step; rw [h]; simp [hw, upd]

/-- the closure of `GetResource` / `Cache.Take`: found → exit 0 (the stored instance, no load); load failed → exit 1
(the error, nothing stored); else exit 2 (store, return the new instance) — rows g3 and g5 branch the same way. -/
theorem tie_closure_branch_g3 (s : RM.St) (t : Tid) (x : Nat) (h : s.pc t = .g3) (hx : x = 0 ∨ s.cfg.lerr = false) :
    (RM.step s t x).map (fun s' => s'.pc t) =
      some (if getResourceClosureBranch (s.found t) false = 0 then .m2 else .g4) := by
  unfold RM.step; rw [h]
  cases hf : s.found t <;> rcases hx with hx | hx <;> simp [getResourceClosureBranch, upd, hx]
theorem tie_closure_branch_g5 (s : RM.St) (t : Tid) (x : Nat) (h : s.pc t = .g5) :
    (RM.step s t x).map (fun s' => s'.pc t) =
      some (if getResourceClosureBranch false (x == 0) = 1 then .m2 else .g6) := by
  unfold RM.step; rw [h]
  by_cases hx : x = 0 <;> simp [getResourceClosureBranch, upd, hx]
theorem tie_closure_exits :
    getResourceClosureBranchExits = ["return resource, nil", "return nil, err", "return resource, nil"] ∧
    collectionTakeClosureBranchExits = ["return val, nil", "return nil, e", "return v, nil"] ∧
    (∀ a b, collectionTakeClosureBranch a b = getResourceClosureBranch a b) := by decide

/-- what distinguishes the users (`Cfg`): `Cache.Take` has an exit in front of the flight (`pre`, row p3 branches on
`found` like exit 0 of `collectionTakeBranch`) and no type assertion after it; `GetResource` starts with the flight and
asserts `val.(io.Closer)`; `doTake` starts with the flight and asserts `val.([]byte)`. -/
theorem tie_cfg_users :
    (∀ e f, collectionTakeBranch true e f = 0) ∧ (∀ e f, collectionTakeBranch false e f ≠ 0) ∧
    collectionTakeBranchExits = ["return val, nil", "return nil, err", "return val, nil", "return val, nil"] ∧
    Cfg.cacheTake = { pre := true, asrt := false } ∧
    getResourceShape.head? = some "func{" ∧ getResourceBranchExits = ["return nil, err", "return val.(io.Closer), nil"] ∧
    (∀ e, getResourceBranch e = if e then 0 else 1) ∧
    Cfg.getResource = { pre := false, asrt := true } ∧
    cacheNodeDoTakeShape.head? = some "func{" ∧ cacheNodeDoTakeShape.getLast? = some "return <call>" ∧
    cacheNodeDoTakeShape.contains "call jsonx.Unmarshal(val.([]byte), v)" = true ∧
    Cfg.doTake = { pre := false, asrt := true, lerr := true } ∧ Cfg.getResource.lerr = false ∧ Cfg.cacheTake.lerr = false := by decide
theorem tie_front_lookup_p3 (s : RM.St) (t : Tid) (x : Nat) (h : s.pc t = .p3) :
    (RM.step s t x).map (fun s' => s'.pc t) =
      some (if collectionTakeBranch (s.found t) false false = 0 then .idle else .l0) := by
  unfold RM.step; rw [h]
  cases hf : s.found t <;> simp [collectionTakeBranch, upd]

/-- the wait group is incremented by exactly 1 (and released by one `Done`): `Wait` passes iff the leader is past `Done`. -/
theorem tie_wgAdd : sfWgAdd = [1] ∧ lcWgAdd = [1] := ⟨rfl, rfl⟩
theorem tie_wgAdd_model (s : SF.St) (l : LC.St) (t : Tid) (x : Nat) :
    (s.pc t = .n1 → (SF.step s t x).map (fun s' => s'.wg (s.reg t)) = some (s.wg (s.reg t) + 1)) ∧
    (l.pc t = .c1 → (LC.step l t x).map (fun s' => s'.wg (l.reg t)) = some (l.wg (l.reg t) + 1)) := by
  constructor <;> intro h
  · unfold SF.step; rw [h]; simp [upd]
  · unfold LC.step; rw [h]; simp [upd]

/-! ### the ORDER OF EFFECTS as typed lists (extract/c07.go `c07Effects`) with a semantic reading: every row of
`SF` and `LC` that `sfEff` / `lcEff` tie to an effect (the rows at the mutex, the map and the wait group, the allocation, the
store; not `idle`, the returns, `fn`'s rows: `.other`, `.callFn` read as `True`) does to the state what the effect read from
the source at that position says (`sf_eff_sound`, `lc_eff_sound`: for ALL states, goroutines and inputs). -/

/-- the effect each `SF` row stands for. -/
def sfEff : SF.PC → Eff
  | .l0 => .lock "g.lock" | .l1 => .mapGet "g.calls" "key" | .w0 => .unlock "g.lock" | .w1 => .wgWait "c.wg"
  | .n0 => .alloc "c" | .n1 => .wgAdd "c.wg" 1 | .n2 => .mapSet "g.calls" "key" "c" | .n3 => .unlock "g.lock"
  | .m0 => .callFn | .m2 => .store "c.val"
  | .d0 => .lock "g.lock" | .d1 => .mapDel "g.calls" "key" | .d2 => .unlock "g.lock" | .d3 => .wgDone "c.wg"
  | _ => .other "-"

theorem tie_createCall_effects : createCallEffects =
    [sfEff .l0, sfEff .l1, .ifc "ok", sfEff .w0, sfEff .w1, .ret "c, true", .close,
     sfEff .n0, sfEff .n1, sfEff .n2, sfEff .n3, .ret "c, false"] := rfl

/-- the cleanup is registered (`defer`) BEFORE the user's function is called; inside it: lock, delete, unlock, Done. -/
theorem tie_makeCall_effects : makeCallEffects =
    [.deferBegin, .funcBegin, sfEff .d0, sfEff .d1, sfEff .d2, sfEff .d3, .close, .callLit, .close,
     sfEff .m0, sfEff .m2, .store "c.err"] := rfl

/-- what an effect does to the state of `SF` when goroutine `t` performs it (`s` before, `s'` after). -/
def sfEffSem (e : Eff) (s s' : SF.St) (t : Tid) : Prop :=
  match e with
  | .lock _ => s.lock = none ∧ s'.lock = some t ∧ s'.calls = s.calls ∧ s'.wg = s.wg
  | .unlock _ => s'.lock = none ∧ s'.calls = s.calls ∧ s'.wg = s.wg
  | .mapGet _ _ => s'.calls = s.calls ∧ s'.lock = s.lock ∧ s'.wg = s.wg ∧ (∀ c, s.calls (s.key t) = some c → s'.reg t = c)
  | .mapSet _ _ _ => s'.calls (s.key t) = some (s.reg t) ∧ (∀ k, k ≠ s.key t → s'.calls k = s.calls k) ∧ s'.lock = s.lock
  | .mapDel _ _ => s'.calls (s.key t) = none ∧ (∀ k, k ≠ s.key t → s'.calls k = s.calls k) ∧ s'.lock = s.lock
  | .wgAdd _ n => (s'.wg (s.reg t) : Int) = s.wg (s.reg t) + n ∧ s'.calls = s.calls
  | .wgDone _ => s'.wg (s.reg t) = s.wg (s.reg t) - 1 ∧ s'.calls = s.calls ∧ s'.lock = s.lock
  | .wgWait _ => s.wg (s.reg t) = 0 ∧ s'.wg = s.wg ∧ s'.calls = s.calls
  | .alloc _ => s'.reg t = s.next ∧ s'.next = s.next + 1 ∧ s'.wg s.next = 0 ∧ s'.cval s.next = 0 ∧ s'.calls = s.calls
  | .store _ => s'.cval (s.reg t) = s.tmp t ∧ s'.calls = s.calls ∧ s'.wg = s.wg
  | _ => True

/-- every step of the model performs the effect its row is tied to — for all states, goroutines and inputs. -/
theorem sf_eff_sound (s s' : SF.St) (t : Tid) (x : Nat) (h : SF.step s t x = some s') :
    sfEffSem (sfEff (s.pc t)) s s' t := by
  cases hpc : s.pc t <;> simp only [SF.step, hpc, sfEff, sfEffSem] at h ⊢ <;>
    (try split at h) <;> simp at h <;> (try subst h) <;> simp_all [upd] <;> (try omega)

/-- the effect each `LC` row stands for. -/
def lcEff : LC.PC → Eff
  | .b0 => .lock "lg.mu" | .b1 => .mapGet "lg.m" "key" | .b2 => .unlock "lg.mu" | .b3 => .wgWait "wg"
  | .c0 => .alloc "wg" | .c1 => .wgAdd "wg" 1 | .c2 => .mapSet "lg.m" "key" "&wg" | .c3 => .unlock "lg.mu"
  | .f0 => .callFn
  | .e0 => .lock "lg.mu" | .e1 => .mapDel "lg.m" "key" | .e2 => .unlock "lg.mu" | .e3 => .wgDone "wg"
  | _ => .other "-"

theorem tie_lockedDo_effects : lockedDoEffects =
    [.label "begin", lcEff .b0, lcEff .b1, .ifc "ok", lcEff .b2, lcEff .b3, .goto_ "begin", .close,
     .call "lg.makeCall(key, fn)", .ret "<call>"] := rfl

/-- register (alloc, Add(1), publish) and unlock BEFORE the deferred cleanup is registered and `fn` is called. -/
theorem tie_lockedMakeCall_effects : lockedMakeCallEffects =
    [lcEff .c0, lcEff .c1, lcEff .c2, lcEff .c3, .deferBegin, .funcBegin, lcEff .e0, lcEff .e1, lcEff .e2, lcEff .e3,
     .close, .callLit, .close, lcEff .f0, .ret "<call>"] := rfl

def lcEffSem (e : Eff) (s s' : LC.St) (t : Tid) : Prop :=
  match e with
  | .lock _ => s.lock = none ∧ s'.lock = some t ∧ s'.m = s.m ∧ s'.wg = s.wg
  | .unlock _ => s'.lock = none ∧ s'.m = s.m ∧ s'.wg = s.wg
  | .mapGet _ _ => s'.m = s.m ∧ s'.lock = s.lock ∧ s'.wg = s.wg ∧ (∀ c, s.m (s.key t) = some c → s'.reg t = c)
  | .mapSet _ _ _ => s'.m (s.key t) = some (s.reg t) ∧ (∀ k, k ≠ s.key t → s'.m k = s.m k) ∧ s'.lock = s.lock
  | .mapDel _ _ => s'.m (s.key t) = none ∧ (∀ k, k ≠ s.key t → s'.m k = s.m k) ∧ s'.lock = s.lock
  | .wgAdd _ n => (s'.wg (s.reg t) : Int) = s.wg (s.reg t) + n ∧ s'.m = s.m
  | .wgDone _ => s'.wg (s.reg t) = s.wg (s.reg t) - 1 ∧ s'.m = s.m ∧ s'.lock = s.lock
  | .wgWait _ => s.wg (s.reg t) = 0 ∧ s'.wg = s.wg ∧ s'.m = s.m
  | .alloc _ => s'.reg t = s.next ∧ s'.next = s.next + 1 ∧ s'.wg s.next = 0 ∧ s'.m = s.m
  | _ => True

theorem lc_eff_sound (s s' : LC.St) (t : Tid) (x : Nat) (h : LC.step s t x = some s') :
    lcEffSem (lcEff (s.pc t)) s s' t := by
  cases hpc : s.pc t <;> simp only [LC.step, hpc, lcEff, lcEffSem] at h ⊢ <;>
    (try split at h) <;> simp at h <;> (try subst h) <;> simp_all [upd] <;> (try omega)

/-- the closure of `GetResource`: read-locked lookup, `create`, write-locked store (unlock deferred); `Inject`: one
write-locked store — the rows g0…g8 of `RM` and `RM.inject`. -/
theorem tie_getResource_effects : getResourceEffects =
    [.funcBegin, .rlock "manager.lock", .mapGet "manager.resources" "key", .runlock "manager.lock", .ifc "ok",
     .ret "resource, nil", .close, .call "create()", .ifc "err != nil", .ret "nil, err", .close,
     .lock "manager.lock", .deferBegin, .unlock "manager.lock", .close, .mapSet "manager.resources" "key" "resource",
     .ret "resource, nil", .close, .call "manager.singleFlight.Do(key, func)", .ifc "err != nil", .ret "nil, err", .close,
     .ret "val.(io.Closer), nil"] ∧
    rmInjectEffects = [.lock "manager.lock", .mapSet "manager.resources" "key" "resource", .unlock "manager.lock"] := ⟨rfl, rfl⟩

/-- the rows g0, g1, g2, g6, g7, g8 of `RM` (the ones that touch the map or its lock) do what these effects say: read lock / lookup / read unlock / write lock / store / unlock. -/
theorem rm_eff_sound (s s' : RM.St) (t : Tid) (x : Nat) (h : RM.step s t x = some s') :
    (s.pc t = .g0 → s.rw = none ∧ s'.nrd = s.nrd + 1 ∧ s'.res = s.res) ∧
    (s.pc t = .g1 → s'.found t = (s.res (s.key t)).isSome ∧ s'.res = s.res ∧ (∀ v, s.res (s.key t) = some v → s'.loc t = v)) ∧
    (s.pc t = .g2 → s'.nrd = s.nrd - 1 ∧ s'.res = s.res) ∧
    (s.pc t = .g6 → s.rw = none ∧ s.nrd = 0 ∧ s'.rw = some t ∧ s'.res = s.res) ∧
    (s.pc t = .g7 → s'.res (s.key t) = some (s.loc t) ∧ ∀ k, k ≠ s.key t → s'.res k = s.res k) ∧
    (s.pc t = .g8 → s'.rw = none ∧ s'.res = s.res) := by
  refine ⟨?_, ?_, ?_, ?_, ?_, ?_⟩ <;> intro hpc <;> simp only [RM.step, hpc] at h <;> (try split at h) <;>
    simp at h <;> (try subst h) <;> simp_all [upd]

/-! ### forwarded argument lists of the delegating entry points (extract/c07.go `c07Forward`), read
semantically: `fwd codes params litParams` is the argument list the callee receives (`none`: not a parameter — a
literal, `context.Background()`, a local).  For ALL arguments the callee gets the caller's values in the right
positions: a dropped, swapped or replaced argument breaks these. -/
def fwd {α : Type} (codes : List Int) (ps ls : List α) : List (Option α) :=
  codes.map fun c => if c < 0 then none else if c < 100 then ps[c.toNat]? else ls[(c - 100).toNat]?

/-- `Do` / `DoEx` hand their `key` to `createCall` and `(c, key, fn)` to `makeCall`; `lockedGroup.Do` hands `(key, fn)` on. -/
theorem tie_fwd_syncx {α : Type} (key fn : α) :
    fwd doFwdCreateCall [key, fn] [] = [some key] ∧ fwd doExFwdCreateCall [key, fn] [] = [some key] ∧
    fwd doFwdMakeCall [key, fn] [] = [none, some key, some fn] ∧ fwd doExFwdMakeCall [key, fn] [] = [none, some key, some fn] ∧
    fwd lockedDoFwdMakeCall [key, fn] [] = [some key, some fn] ∧
    fwd getResourceFwdDo [key, fn] [] = [some key, none] ∧ getResourceFwdDo = [0, -3] := by
  simp [fwd, doFwdCreateCall, doExFwdCreateCall, doFwdMakeCall, doExFwdMakeCall, lockedDoFwdMakeCall, getResourceFwdDo]

/-- `collection.Cache.Take(key, fetch)`: the flight is keyed by the caller's key, the closure stores under the SAME key;
`Set(key, value)` forwards both to `SetWithExpire`. -/
theorem tie_fwd_collection {α : Type} (key fetch value : α) :
    fwd collectionTakeFwdDo [key, fetch] [] = [some key, none] ∧ collectionTakeFwdDo = [0, -3] ∧
    fwd collectionTakeFwdSet [key, fetch] [] = [some key, none] ∧
    fwd collectionSetFwd [key, value] [] = [some key, some value, none] := by
  simp [fwd, collectionTakeFwdDo, collectionTakeFwdSet, collectionSetFwd]

/-- the four entry points of `cacheNode`: `Take(val, key, query)` = `TakeCtx(Background, val, key, query)` =
`doTake(ctx, val, key, query, {SetCtx(ctx, key, v)})`; likewise `TakeWithExpire`; `SetCtx` forwards `(ctx, key, val)`. -/
theorem tie_fwd_cacheNode_entry {α : Type} (ctx val key query v : α) :
    fwd cacheNodeTakeFwd [val, key, query] [] = [none, some val, some key, some query] ∧ cacheNodeTakeFwd.head? = some (-2) ∧
    fwd cacheNodeTakeCtxFwd [ctx, val, key, query] [] = [some ctx, some val, some key, some query, none] ∧
    fwd cacheNodeTakeCtxFwdSet [ctx, val, key, query] [v] = [some ctx, some key, some v] ∧
    fwd cacheNodeTakeWithExpireFwd [val, key, query] [] = [none, some val, some key, some query] ∧
    cacheNodeTakeWithExpireFwd.head? = some (-2) ∧
    fwd cacheNodeTakeWithExpireCtxFwd [ctx, val, key, query] [] = [some ctx, some val, some key, none, none] ∧
    fwd cacheNodeTakeWithExpireCtxFwdQuery [ctx, val, key, query] [v] = [some v, none] ∧
    fwd cacheNodeTakeWithExpireCtxFwdSet [ctx, val, key, query] [v] = [some ctx, some key, some v, none] ∧
    fwd cacheNodeSetCtxFwd [ctx, key, val] [] = [some ctx, some key, some val, none] := by
  simp [fwd, cacheNodeTakeFwd, cacheNodeTakeCtxFwd, cacheNodeTakeCtxFwdSet, cacheNodeTakeWithExpireFwd,
    cacheNodeTakeWithExpireCtxFwd, cacheNodeTakeWithExpireCtxFwdQuery, cacheNodeTakeWithExpireCtxFwdSet, cacheNodeSetCtxFwd]

/-- `doTake(ctx, v, key, query, cacheVal)`: the flight is keyed by `key`; the closure reads the cache for `(ctx, key)` into
the caller's `v`, runs `query(v)`, `cacheVal(v)`, and on not-found writes the placeholder for `(ctx, key)`;
`doGetCache(ctx, key, v)` reads `(ctx, key)`; `setCacheWithNotFound(ctx, key)` writes the placeholder under `key`. -/
theorem tie_fwd_doTake {α : Type} (ctx v key query cacheVal : α) :
    fwd cacheNodeDoTakeFwdDoEx [ctx, v, key, query, cacheVal] [] = [some key, none] ∧
    fwd cacheNodeDoTakeFwdDoGetCache [ctx, v, key, query, cacheVal] [] = [some ctx, some key, some v] ∧
    fwd cacheNodeDoTakeFwdQuery [ctx, v, key, query, cacheVal] [] = [some v] ∧
    fwd cacheNodeDoTakeFwdCacheVal [ctx, v, key, query, cacheVal] [] = [some v] ∧
    fwd cacheNodeDoTakeFwdNotFound [ctx, v, key, query, cacheVal] [] = [some ctx, some key] ∧
    fwd cacheNodeDoGetCacheFwdGet [ctx, key, v] [] = [some ctx, some key] ∧
    fwd cacheNodeSetNotFoundFwd [ctx, key] [] = [some ctx, some key, none, none] := by
  simp [fwd, cacheNodeDoTakeFwdDoEx, cacheNodeDoTakeFwdDoGetCache, cacheNodeDoTakeFwdQuery, cacheNodeDoTakeFwdCacheVal,
    cacheNodeDoTakeFwdNotFound, cacheNodeDoGetCacheFwdGet, cacheNodeSetNotFoundFwd]

/-- negative caching: the placeholder is written with SETNX under the caller's key (in the model: the instance the
not-found execution "created", stored by rows g6…g8; `rm_not_found_consistent`). -/
theorem tie_setCacheWithNotFound : cacheNodeSetCacheWithNotFoundShape =
    ["call c.aroundDuration(c.notFoundExpiry)", "call ttlSeconds(c.aroundDuration(c.notFoundExpiry))",
     "call c.rds.SetnxExCtx(ctx, key, notFoundPlaceholder, seconds)", "return err"] := rfl

/-! ### whole decision trees (extract/c07.go `c07DecisionTree`: nested if / else-if, re-assigned variables as
separate atoms) compared with the model's decision function `RM.doTakeClosure` for ALL outcomes of the cache read and
of the query. -/

theorem tie_decision_atoms :
    doTakeClosureExitAtoms = ["err != nil", "errors.Is(err, errPlaceholder)", "errors.Is(err, c.errNotFound)",
      "errors.Is(err, c.errNotFound)", "err != nil", "err != nil", "err != nil"] ∧
    doTakeClosureExitExits = ["return nil, c.errNotFound", "return nil, err", "return nil, c.errNotFound", "return nil, err",
      "return jsonx.Marshal(v)"] ∧
    doGetCacheExitAtoms = ["err != nil", "len(data) == 0", "data == notFoundPlaceholder"] ∧
    doGetCacheExitExits = ["return err", "return c.errNotFound", "return errPlaceholder", "return c.processCache(ctx, key, data, v)"] ∧
    processCacheExitAtoms = ["err == nil", "e != nil"] ∧ processCacheExitExits = ["return nil", "return c.errNotFound"] ∧
    doTakeExitAtoms = ["err != nil", "fresh"] ∧
    doTakeExitExits = ["return err", "return nil", "return jsonx.Unmarshal(val.([]byte), v)"] := ⟨rfl, rfl, rfl, rfl, rfl, rfl, rfl, rfl⟩

open RM in
/-- what the closure's three conditions on the cache-read error see, computed THROUGH the translated `doGetCache` and
`processCache`: (err != nil, errors.Is(err, errPlaceholder), errors.Is(err, c.errNotFound)). -/
def cacheErrAtoms (c : CacheRead) : Bool × Bool × Bool :=
  let ex := doGetCacheExit (c == .error) (c == .empty) (c == .placeholder)
  if ex = 0 then (true, false, false)                                          -- return err
  else if ex = 1 then (true, false, true)                                      -- return c.errNotFound
  else if ex = 2 then (true, true, false)                                      -- return errPlaceholder
  else if processCacheExit (c == .row) false = 0 then (false, false, false)    -- processCache: return nil
  else (true, false, true)                                                     -- processCache: return c.errNotFound

open RM in
/-- the return statement the model's decision function stands for. -/
def closureExitOf (r : Closure) : Nat :=
  match r.out, r.queried with
  | .value, _ => 4 | .notFound, false => 0 | .error, false => 1 | .notFound, true => 2 | .error, true => 3

open RM in
/-- **the whole closure of `doTake`, semantically**: for every outcome of the cache read (redis / context error, no
entry, placeholder, row, corrupt row) and of the query (row, not found, error), and whatever the two logging-only
conditions are, the translated code reaches exactly the return statement `RM.doTakeClosure` says. -/
theorem tie_doTake_decisions (c : CacheRead) (q : QueryRes) (setNfErr cacheValErr : Bool) :
    doTakeClosureExit (cacheErrAtoms c).1 (cacheErrAtoms c).2.1 (cacheErrAtoms c).2.2 (q == .notFound) setNfErr (q != .row) cacheValErr
      = closureExitOf (doTakeClosure c q) := by
  cases c <;> cases q <;> cases setNfErr <;> cases cacheValErr <;> decide

/-- after the flight: an error goes to every caller of the flight, the fresh caller keeps its own `v`, a joiner
unmarshals the flight's bytes (rows r0 / w2 of `RM`: both return `cval` of the flight). -/
theorem tie_doTake_after_flight_decisions : ∀ e f, doTakeExit e f = if e then 0 else if f then 1 else 2 := by decide

/-! ### allocation sites of the constructors (extract/c07.go `c07Allocs`: typed `Alloc` per field of the
constructor's literal).  The multi-object theorems (`RM.MReach`, `rm_instances_independent`, and the per-object `SF` /
`LC` systems) start every object from ITS OWN initial state: that is exactly "every state-carrying field is allocated
afresh at each construction" — a package-level variable there (one flight group / map for all objects: seeded C07-9, own
mutations M2 / M5, a barrier shared between objects) makes `ownState` false. -/

/-- every listed field is initialised by a call / literal evaluated at each construction. -/
def ownState (allocs : List (String × Alloc)) (stateFields : List String) : Bool :=
  stateFields.all fun f => match allocs.lookup f with | some (.fresh _) => true | _ => false

def globalsOf (allocs : List (String × Alloc)) : List String :=
  allocs.filterMap fun fa => match fa.2 with | .global n => some n | _ => none

/-- `NewSingleFlight`, `NewLockedCalls`, `NewResourceManager`, `NewCache`: own map(s) AND own flight group per object
(the manager's and the cache's flight group come from `NewSingleFlight()`, itself fresh); no package-level object in any
of them except the stateless `emptyLruCache`.  `NewNode` keeps the CALLER's flight group, redis handle, stat and
not-found error (parameters 1, 0, 2, 3): sharing is the caller's decision (sqlc / monc: one group per process). -/
theorem tie_ctor_own_state :
    ownState newSingleFlightAllocs ["calls"] = true ∧ ownState newLockedCallsAllocs ["m"] = true ∧
    ownState newResourceManagerAllocs ["resources", "singleFlight"] = true ∧
    newResourceManagerAllocs.lookup "singleFlight" = some (.fresh "NewSingleFlight") ∧
    ownState newCacheAllocs ["data", "barrier"] = true ∧
    newCacheAllocs.lookup "barrier" = some (.fresh "syncx.NewSingleFlight") ∧
    globalsOf newSingleFlightAllocs = [] ∧ globalsOf newLockedCallsAllocs = [] ∧ globalsOf newResourceManagerAllocs = [] ∧
    globalsOf newCacheAllocs = ["emptyLruCache"] ∧ globalsOf newNodeAllocs = [] ∧
    newNodeAllocs.lookup "barrier" = some (.param 1) ∧ newNodeAllocs.lookup "rds" = some (.param 0) ∧
    newNodeAllocs.lookup "stat" = some (.param 2) ∧ newNodeAllocs.lookup "errNotFound" = some (.param 3) := by decide

/-- the reading is not vacuous: a shared object in a state field is rejected. -/
example : ownState [("resources", .fresh "make"), ("singleFlight", .global "resourceFlights")] ["resources", "singleFlight"] = false := by
  decide

end GoZero.C07.Tie
