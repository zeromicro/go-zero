/-
C07 — LockedCalls: the inductive invariant of the interleaving model and its preservation by every step.
-/
import GoZero.C07.LC
namespace GoZero.C07.LC

def PC.holdsLock : PC → Bool
  | .b1 | .b2 | .c0 | .c1 | .c2 | .c3 | .e1 | .e2 => true
  | _ => false
/-- the caller's wait group is registered in `lg.m` -/
def PC.inFlight : PC → Bool
  | .c3 | .f0 | .f1 | .fp | .e0 | .e1 => true
  | _ => false
def PC.preReg : PC → Bool
  | .c0 | .c1 | .c2 => true
  | _ => false
/-- the goroutine owns a wait group it allocated and has not released yet -/
def PC.owns : PC → Bool
  | .c1 | .c2 | .c3 | .f0 | .f1 | .fp | .e0 | .e1 | .e2 | .e3 => true
  | _ => false
def PC.wgOne : PC → Bool
  | .c2 | .c3 | .f0 | .f1 | .fp | .e0 | .e1 | .e2 | .e3 => true
  | _ => false
/-- before the own function has started -/
def PC.notRun : PC → Bool
  | .b0 | .b1 | .b2 | .b3 | .c0 | .c1 | .c2 | .c3 | .f0 => true
  | _ => false
def PC.ranOnce : PC → Bool
  | .f1 | .fp | .e0 | .e1 | .e2 | .e3 | .e4 | .px => true
  | _ => false

/-- Every wait group below `next` has one owner (the ghost `owner`), who alone writes it from `c1` to `Done`; `wg1`, `wg0` say
what its counter is at each row; `flight`, `prereg`, `m` tie the map to the owners in flight (whence `flight_unique`); `waits`,
`wgfree`: a non-zero counter means its owner is busy with that wait group (for the one a waiter found, and for every one);
`notrun`, `ranonce` count the runs of the caller's own function; the rest is the ghost clock and the records. -/
structure Inv (s : St) : Prop where
  lock   : ∀ u, (s.pc u).holdsLock = true → s.lock = some u
  lockr  : ∀ u, s.lock = some u → (s.pc u).holdsLock = true
  flight : ∀ u, (s.pc u).inFlight = true → s.m (s.key u) = some (s.reg u)
  prereg : ∀ u, (s.pc u).preReg = true → s.m (s.key u) = none
  owns   : ∀ u, (s.pc u).owns = true → s.reg u < s.next ∧ s.owner (s.reg u) = u
  wg1    : ∀ u, (s.pc u).wgOne = true → s.wg (s.reg u) = 1
  wg0    : ∀ u, s.pc u = .c1 → s.wg (s.reg u) = 0
  m      : ∀ k w, s.m k = some w → w < s.next ∧ (s.pc (s.owner w)).inFlight = true ∧ s.reg (s.owner w) = w
              ∧ s.key (s.owner w) = k
  /-- a wait group somebody still waits on: an owner that is before or at `Add` (`c1`, `c2`) is there with another, new wait
  group; the counter is non-zero only while the owner (same key) is busy with this one -/
  waits  : ∀ u, s.pc u = .b2 ∨ s.pc u = .b3 → s.reg u < s.next ∧
              ((s.pc (s.owner (s.reg u)) = .c1 ∨ s.pc (s.owner (s.reg u)) = .c2) → s.reg (s.owner (s.reg u)) ≠ s.reg u) ∧
              (s.wg (s.reg u) ≠ 0 → (s.pc (s.owner (s.reg u))).wgOne = true ∧ s.reg (s.owner (s.reg u)) = s.reg u
                  ∧ s.key (s.owner (s.reg u)) = s.key u)
  wgfree : ∀ w, w < s.next → s.wg w ≠ 0 → (s.pc (s.owner w)).wgOne = true ∧ s.reg (s.owner w) = w
  notrun : ∀ u, (s.pc u).notRun = true → s.runs u = 0
  ranonce : ∀ u, (s.pc u).ranOnce = true → s.runs u = 1
  tinv   : ∀ u, s.pc u ≠ .idle → s.inv u < s.now
  rets   : ∀ r ∈ s.rets, r.runs = 1 ∧ r.val = r.own ∧ r.inv < r.ret ∧ r.ret < s.now

theorem inv_init : Inv init := by
  constructor <;> simp [init, PC.holdsLock, PC.inFlight, PC.preReg, PC.owns, PC.wgOne, PC.notRun, PC.ranOnce]

macro "step_cases" hs:ident : tactic =>
  `(tactic| (unfold step at $hs:ident; split at $hs:ident <;> (try split at $hs:ident) <;> simp at $hs:ident <;> (try subst $hs:ident)))

/-- the stepping goroutine's own row: with the row's effect written out, what the invariant says at the old
program counter decides the clause at the new one. -/
macro "close_step" hs:ident : tactic =>
  `(tactic| (step_cases $hs:ident <;>
      simp_all [upd, PC.holdsLock, PC.inFlight, PC.preReg, PC.owns, PC.wgOne, PC.notRun, PC.ranOnce]))

variable {s s' : St} {t u : Tid} {x : Nat} {w : Nat}

structure SameRegs (s s' : St) (u : Tid) : Prop where
  pc : s'.pc u = s.pc u
  key : s'.key u = s.key u
  reg : s'.reg u = s.reg u
  inv : s'.inv u = s.inv u
  runs : s'.runs u = s.runs u

structure SameWg (s s' : St) (w : Nat) : Prop where
  wg : s'.wg w = s.wg w
  fstart : s'.fstart w = s.fstart w
  fend : s'.fend w = s.fend w

/-- what one step of goroutine `t` writes, read off the program text alone (no invariant).  `lock` says exactly how the
mutex moves with the stepping goroutine: left alone, taken on entering the critical section, released on leaving it; `m`:
`lg.m` is written by rows `c2` and `e1` only, at the stepping goroutine's key, and `c2` goes on to `c3` with its key and wait
group; `wg`: a row writes to a wait group only if the stepping goroutine owns it (or allocates it just now). -/
structure Writes (s s' : St) (t : Tid) : Prop where
  other : ∀ u, u ≠ t → SameRegs s s' u
  flow : s'.pc t ∈ succ (s.pc t)
  now : s'.now = s.now + 1
  alloc : ∀ w, w < s.next → w < s'.next ∧ s'.owner w = s.owner w ∧ s'.ekey w = s.ekey w
  blank : s'.next = s.next ∨ (s'.next = s.next + 1 ∧ s'.wg s.next = 0)
  wg : ∀ w, w < s.next → ((s.pc t).owns = true → w ≠ s.reg t) → SameWg s s' w
  lock : (s'.lock = s.lock ∧ ((s'.pc t).holdsLock = true ↔ (s.pc t).holdsLock = true)) ∨
    (s.lock = none ∧ s'.lock = some t ∧ (s'.pc t).holdsLock = true) ∨
    ((s.pc t).holdsLock = true ∧ ¬ (s'.pc t).holdsLock = true ∧ s'.lock = none)
  m : ∀ k, (s'.m k = s.m k ∧ (s.pc t = .e1 → k ≠ s.key t)) ∨
      (s.pc t = .c2 ∧ k = s.key t ∧ s'.m k = some (s.reg t) ∧ s'.pc t = .c3 ∧ s'.reg t = s.reg t ∧ s'.key t = s.key t)
      ∨ (s.pc t = .e1 ∧ k = s.key t ∧ s'.m k = none)
  inFlight : (s.pc t).inFlight = true → s'.reg t = s.reg t ∧ s'.key t = s.key t ∧ (s.pc t ≠ .e1 → (s'.pc t).inFlight = true)
  rets : s'.rets = s.rets ∨ ∃ r, s'.rets = r :: s.rets ∧ s.pc t = .e4 ∧ r.runs = s.runs t ∧ r.val = r.own ∧ r.inv = s.inv t
      ∧ r.ret = s.now

theorem step_writes (hs : step s t x = some s') : Writes s s' t := by
  step_cases hs <;> exact {
    other := fun u hu => by constructor <;> simp [upd, hu]
    flow := by simp_all [upd, succ]
    now := rfl
    alloc := fun w hw => by have := Nat.ne_of_lt hw; simp [upd, *]; try exact Nat.lt_succ_of_lt hw
    blank := by simp [upd]
    wg := fun w hw ht => by have := Nat.ne_of_lt hw; simp [PC.owns, *] at ht <;> constructor <;> simp [upd, *]
    lock := by simp_all [PC.holdsLock]
    m := fun k => by simp_all [upd]; try (by_cases hk : k = s.key t <;> simp [hk])
    inFlight := fun hf => by simp_all [upd, PC.inFlight]
    rets := by simp [*] }

theorem step_flow (hs : step s t x = some s') : s'.pc t ∈ succ (s.pc t) ∧ ∀ u, u ≠ t → s'.pc u = s.pc u :=
  ⟨(step_writes hs).flow, fun u hu => ((step_writes hs).other u hu).pc⟩

/-- the wait group a step allocates starts at zero. -/
theorem step_blank (hs : step s t x = some s') (hw : s.next ≤ w) (hw' : w < s'.next) : s'.wg w = 0 := by
  rcases (step_writes hs).blank with e | ⟨e, e1⟩ <;> rw [e] at hw'
  · exact absurd hw' (Nat.not_lt.2 hw)
  · rw [Nat.le_antisymm (Nat.le_of_lt_succ hw') hw]; exact e1

theorem PC.owns_of_inFlight {p : PC} (h : p.inFlight = true) : p.owns = true := by cases p <;> simp_all [inFlight, owns]
theorem PC.wgOne_of_inFlight {p : PC} (h : p.inFlight = true) : p.wgOne = true := by cases p <;> simp_all [inFlight, wgOne]
theorem PC.owns_of_wgOne {p : PC} (h : p.wgOne = true) : p.owns = true := by cases p <;> simp_all [wgOne, owns]

theorem flight_unique (h : Inv s) (u v : Tid) (hu : (s.pc u).inFlight = true) (hv : (s.pc v).inFlight = true)
    (hk : s.key u = s.key v) : u = v := by
  have a := h.flight u hu
  rw [hk, h.flight v hv, Option.some.injEq] at a
  rw [← (h.owns u (PC.owns_of_inFlight hu)).2, ← a, (h.owns v (PC.owns_of_inFlight hv)).2]

theorem owns_ne (h : Inv s) (hut : u ≠ t) (hu : (s.pc u).owns = true) (ht : (s.pc t).owns = true) : s.reg u ≠ s.reg t :=
  fun e => hut (by rw [← (h.owns u hu).2, e, (h.owns t ht).2])

/-- interference freedom of the owner's view: the wait group `u` owns is out of the reach of every other goroutine. -/
theorem owner_wg (h : Inv s) (hs : step s t x = some s') (hut : u ≠ t) (hu : (s.pc u).owns = true) :
    SameWg s s' (s.reg u) :=
  (step_writes hs).wg _ (h.owns u hu).1 (owns_ne h hut hu)

/-- what `Inv` says about one goroutine `u` at its row: the clauses of `Inv` word for word, at one `u` (`waits` apart, which
looks at another goroutine's wait group; `lock`, `lockr` apart, which follow from `Writes.lock` alone). -/
structure Inv.Thread (s : St) (u : Tid) : Prop where
  flight : (s.pc u).inFlight = true → s.m (s.key u) = some (s.reg u)
  prereg : (s.pc u).preReg = true → s.m (s.key u) = none
  owns   : (s.pc u).owns = true → s.reg u < s.next ∧ s.owner (s.reg u) = u
  wg1    : (s.pc u).wgOne = true → s.wg (s.reg u) = 1
  wg0    : s.pc u = .c1 → s.wg (s.reg u) = 0
  notrun : (s.pc u).notRun = true → s.runs u = 0
  ranonce : (s.pc u).ranOnce = true → s.runs u = 1
  tinv   : s.pc u ≠ .idle → s.inv u < s.now

theorem Inv.thread (h : Inv s) (u : Tid) : Inv.Thread s u :=
  ⟨h.flight u, h.prereg u, h.owns u, h.wg1 u, h.wg0 u, h.notrun u, h.ranonce u, h.tinv u⟩

/-- local correctness: the stepping goroutine's own row.  Row by row, what the invariant says at the old program counter
is worked out once (`simp … at`), then decides every clause at the new one. -/
theorem thread_own (h : Inv s) (hs : step s t x = some s') : Inv.Thread s' t := by
  obtain ⟨a3, a4, a5, a6, a7, a8, a9, a10⟩ := h.thread t
  step_cases hs <;>
    simp [PC.inFlight, PC.preReg, PC.owns, PC.wgOne, PC.notRun, PC.ranOnce, *]
      at a3 a4 a5 a6 a7 a8 a9 a10 <;>
    constructor <;>
    simp [upd, PC.inFlight, PC.preReg, PC.owns, PC.wgOne, PC.notRun, PC.ranOnce, *] <;>
    omega

/-- interference freedom: a step of `t` leaves what the invariant says about another goroutine `u` intact. -/
theorem thread_other (h : Inv s) (hs : step s t x = some s') (hut : u ≠ t) : Inv.Thread s' u := by
  have wr := step_writes hs
  have fr := wr.other _ hut
  constructor <;> rw [fr.pc]
  case flight =>
    intro hu
    rw [fr.key, fr.reg, ← h.flight u hu]
    rcases wr.m (s.key u) with ⟨e, _⟩ | ⟨ht, hk, _⟩ | ⟨ht, hk, _⟩
    · exact e
    · -- `t` registers: its key was absent from the map, so it is not `u`'s
      have := h.prereg t (by simp [ht, PC.preReg])
      rw [← hk, h.flight u hu] at this; cases this
    · exact absurd (flight_unique h u t hu (by simp [ht, PC.inFlight]) hk) hut
  case prereg =>
    intro hu
    rw [fr.key, ← h.prereg u hu]
    -- `u` holds the mutex, so `t` is at neither of the rows that write the map
    have hl := h.lock u (by revert hu; cases s.pc u <;> simp [PC.preReg, PC.holdsLock])
    rcases wr.m (s.key u) with ⟨e, _⟩ | ⟨ht, _⟩ | ⟨ht, _⟩
    · exact e
    all_goals
      rw [h.lock t (by simp [ht, PC.holdsLock])] at hl; cases hl; exact absurd rfl hut
  case owns =>
    intro hu
    obtain ⟨a1, a2, _⟩ := wr.alloc _ (h.owns u hu).1
    rw [fr.reg, a2]
    exact ⟨a1, (h.owns u hu).2⟩
  case wg1 => intro hu; rw [fr.reg, (owner_wg h hs hut (PC.owns_of_wgOne hu)).wg]; exact h.wg1 u hu
  case wg0 => intro hu; rw [fr.reg, (owner_wg h hs hut (by simp [hu, PC.owns])).wg]; exact h.wg0 u hu
  case notrun => rw [fr.runs]; exact h.notrun u
  case ranonce => rw [fr.runs]; exact h.ranonce u
  case tinv => intro hu; rw [fr.inv, wr.now]; exact Nat.lt_succ_of_lt (h.tinv u hu)

theorem thread_step (h : Inv s) (hs : step s t x = some s') (u : Tid) : Inv.Thread s' u := by
  by_cases hut : u = t
  · subst hut; exact thread_own h hs
  · exact thread_other h hs hut

theorem inv_step (h : Inv s) (hs : step s t x = some s') : Inv s' where
  lock := mutex_kept (step_writes hs).lock (fun u hu => by rw [(step_flow hs).2 u hu]) h.lock
  lockr := mutex_held (step_writes hs).lock (fun u hu => by rw [(step_flow hs).2 u hu]) h.lockr
  flight u := (thread_step h hs u).flight
  prereg u := (thread_step h hs u).prereg
  owns u := (thread_step h hs u).owns
  wg1 u := (thread_step h hs u).wg1
  wg0 u := (thread_step h hs u).wg0
  notrun u := (thread_step h hs u).notrun
  ranonce u := (thread_step h hs u).ranonce
  tinv u := (thread_step h hs u).tinv
  m k w hw := by
    have wr := step_writes hs
    -- an entry that was in the map before and is not the one deleted now
    have old : s.m k = some w → (s.pc t = .e1 → k ≠ s.key t) → w < s'.next ∧ (s'.pc (s'.owner w)).inFlight = true ∧
        s'.reg (s'.owner w) = w ∧ s'.key (s'.owner w) = k := by
      intro hw hd
      obtain ⟨c1, c3, c4, c2⟩ := h.m k w hw
      obtain ⟨a1, a2, _⟩ := wr.alloc _ c1
      rw [a2]
      refine ⟨a1, ?_⟩
      by_cases hut : s.owner w = t
      · rw [hut] at c2 c3 c4 ⊢
        obtain ⟨e3, e2, ef⟩ := wr.inFlight c3
        exact ⟨ef fun hd1 => hd hd1 c2.symm, e3.trans c4, e2.trans c2⟩
      · have fr := wr.other _ hut
        rw [fr.pc, fr.key, fr.reg]; exact ⟨c3, c4, c2⟩
    rcases wr.m k with ⟨e, hd⟩ | ⟨ht, rfl, e, e1, e2⟩ | ⟨_, _, e⟩ <;> rw [e] at hw
    · exact old hw hd
    · -- the entry `t` registers just now
      cases hw
      obtain ⟨o1, o2⟩ := h.owns t (by simp [ht, PC.owns])
      obtain ⟨a1, a2, _⟩ := wr.alloc _ o1
      rw [a2, o2]
      exact ⟨a1, by simp [e1, PC.inFlight], e2⟩
    · cases hw
  waits u hu := by
    by_cases hut : u = t
    · subst hut
      have hb : s.pc u = .b1 ∨ s.pc u = .b2 := by step_cases hs <;> simp_all [upd]
      rcases hb with hpc | hpc <;> simp [step, hpc] at hs
      · -- row `b1` found the key's wait group in the map: its owner is in flight for this key
        cases hm : s.m (s.key u) with
        | none => simp [hm] at hs; subst hs; simp [upd] at hu
        | some w =>
          simp [hm] at hs; subst hs
          obtain ⟨m1, m2, m3, m4⟩ := h.m _ _ hm
          have hO : s.owner w ≠ u := fun e => by rw [e, hpc] at m2; cases m2
          simp [upd, hO, m1, m3, m4, PC.wgOne_of_inFlight m2]
          constructor <;> intro hc <;> rw [hc] at m2 <;> cases m2
      · -- row `b2` only releases the mutex
        subst hs
        obtain ⟨w1, w2, w3⟩ := h.waits u (.inl hpc)
        by_cases hO : s.owner (s.reg u) = u <;> simp_all [upd, PC.wgOne]
    · have fr := (step_writes hs).other _ hut
      rw [fr.pc] at hu
      rw [fr.key, fr.reg]
      obtain ⟨w1, w2, w3⟩ := h.waits u hu
      obtain ⟨a1, a2, _⟩ := (step_writes hs).alloc _ w1
      rw [a2]
      by_cases hO : s.owner (s.reg u) = t
      · -- the owner itself steps: it passes `Add` with a fresh wait group, and `Done` brings the counter to zero
        have h3 := h.wg1 t
        rw [hO] at w2 w3 ⊢
        refine ⟨a1, ?_⟩
        have hne : s.reg u ≠ s.next := Nat.ne_of_lt w1
        by_cases hz : s.wg (s.reg u) = 0
        · -- counter zero: this is not the wait group the owner writes: at `c1` its own is another one (`waits`), from `c2` to
          -- `e3` its own has counter 1 (`wg1`)
          clear w3 hO a2 fr
          step_cases hs <;> simp_all [upd, PC.wgOne] <;> omega
        · -- counter one: the owner is between `Add` and `Done` with this wait group and `u`'s key
          obtain ⟨g1, g2, g3⟩ := w3 hz
          have h5 := h3 g1
          rw [← g2] at w2 ⊢
          rw [← g3]
          clear w3 hO a2 fr hz g2 g3 hne h3
          close_step hs
      · have frO := (step_writes hs).other _ hO
        rw [frO.pc, frO.key, frO.reg, ((step_writes hs).wg _ w1 fun ho e => hO (by rw [e, (h.owns t ho).2])).wg]
        exact ⟨a1, w2, w3⟩
  wgfree w hw hz := by
    rcases call_cases s.next w (s.reg t) (s.pc t).owns with hn | ⟨ho, rfl⟩ | ⟨hn, ho⟩
    · exact absurd (step_blank hs hn hw) hz
    · -- the owner's own row: the counter is 1 from `Add` (`c1`) to `Done` (`e3`)
      obtain ⟨o1, o2⟩ := h.owns t ho
      rw [((step_writes hs).alloc _ o1).2.1, o2]
      have h3 := h.wg1 t
      close_step hs
    · have wr := step_writes hs
      rw [(wr.wg _ hn ho).wg] at hz
      obtain ⟨a, b⟩ := h.wgfree w hn hz
      have hut : s.owner w ≠ t := fun e => by rw [e] at a b; exact ho (PC.owns_of_wgOne a) b.symm
      have fr := wr.other _ hut
      rw [(wr.alloc _ hn).2.1, fr.pc, fr.reg]; exact ⟨a, b⟩
  rets r hr := by
    have wr := step_writes hs
    rw [wr.now]
    rcases mem_of_appended (wr.rets) hr with hm | ⟨hpc, e1, e2, e3, e4⟩
    · obtain ⟨a1, a2, a3, a4⟩ := h.rets r hm
      exact ⟨a1, a2, a3, Nat.lt_succ_of_lt a4⟩
    · rw [e1, e3, e4]
      exact ⟨h.ranonce t (by simp [hpc, PC.ranOnce]), e2, h.tinv t (by simp [hpc]), Nat.lt_succ_self _⟩

theorem inv_reach {s : St} (h : Reach s) : Inv s := by
  induction h with
  | init => exact inv_init
  | step t x _ hs ih => exact inv_step ih hs

end GoZero.C07.LC
