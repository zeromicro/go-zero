/-
C07 — ResourceManager / Take users: the flight part `InvF` of the invariant (every clause that does not speak about the
resource map), for calls and for evictions (`ReachE`).  `resourcemanager.go` runs its closure under
`manager.singleFlight.Do(key, …)`, so the flight group of `RM` is a SingleFlight: `sim_step` shows that every step of `RM`
amounts to steps of `SF` on it (`PC.sf`, `Sim`, `sfSched`), and `invF_of_sim` reads `InvF` off `SF.Inv`.  ProofsRM.lean
adds the clauses about the map.
-/
import GoZero.C07.RM
import GoZero.C07.ProofsSF
namespace GoZero.C07.RM

def PC.holdsLock : PC → Bool
  | .l1 | .w0 | .n0 | .n1 | .n2 | .n3 | .d1 | .d2 => true
  | _ => false
/-- the call is published in `g.calls` (the closure runs strictly inside) -/
def PC.inFlight : PC → Bool
  | .n3 | .g0 | .g1 | .g2 | .g3 | .g4 | .g5 | .gp | .g6 | .g7 | .g8 | .m2 | .d0 | .d1 => true
  | _ => false
def PC.preReg : PC → Bool
  | .n0 | .n1 | .n2 => true
  | _ => false
def PC.owns : PC → Bool
  | .n1 | .n2 | .n3 | .g0 | .g1 | .g2 | .g3 | .g4 | .g5 | .gp | .g6 | .g7 | .g8 | .m2 | .d0 | .d1 | .d2 | .d3 | .r0 | .px => true
  | _ => false
def PC.pubd : PC → Bool
  | .n3 | .g0 | .g1 | .g2 | .g3 | .g4 | .g5 | .gp | .g6 | .g7 | .g8 | .m2 | .d0 | .d1 | .d2 | .d3 | .r0 | .px => true
  | _ => false
def PC.wgOne : PC → Bool
  | .n2 | .n3 | .g0 | .g1 | .g2 | .g3 | .g4 | .g5 | .gp | .g6 | .g7 | .g8 | .m2 | .d0 | .d1 | .d2 | .d3 => true
  | _ => false
def PC.noRes : PC → Bool
  | .n1 | .n2 | .n3 | .g0 | .g1 | .g2 | .g3 | .g4 | .g5 | .gp | .g6 | .g7 | .g8 => true
  | _ => false
def PC.stored : PC → Bool
  | .d0 | .d1 | .d2 | .d3 | .r0 | .px => true
  | _ => false
/-- the goroutine's call object is past `Done` -/
def PC.after : PC → Bool
  | .r0 | .px => true
  | _ => false
def PC.waits : PC → Bool
  | .w0 | .w1 | .w2 => true
  | _ => false
/-- rows inside a read-locked section of the map -/
def PC.isRd : PC → Bool
  | .p1 | .p2 | .g1 | .g2 => true
  | _ => false
/-- the lookup in front of the flight -/
def PC.front : PC → Bool
  | .p0 | .p1 | .p2 | .p3 => true
  | _ => false

def finished (s : St) (c : CallId) : Prop := s.lret c = true ∨ ((s.pc (s.leader c)).after = true ∧ s.reg (s.leader c) = c)
def published (s : St) (c : CallId) : Prop := s.lret c = true ∨ ((s.pc (s.leader c)).pubd = true ∧ s.reg (s.leader c) = c)

/-- the entry of `k` disappears (atomic with respect to the map's lock, like `Cache.Del` under `c.lock` / a redis DEL).
Ghost: a new epoch of the key begins — the count of successful loads starts again. -/
def evict (s : St) (k : Key) : Option St :=
  if s.rw = none ∧ s.nrd = 0 then some { s with res := upd s.res k none, ncreate := upd s.ncreate k 0 } else none

/-- configurations reachable by calls and evictions, in any order. -/
inductive ReachE : St → Prop
  | init (cfg : Cfg) : ReachE (init cfg)
  | step {s s' : St} (t : Tid) (x : Nat) : ReachE s → step s t x = some s' → ReachE s'
  | evict {s s' : St} (k : Key) : ReachE s → evict s k = some s' → ReachE s'

/-- the clauses about the flight group: none mentions `res`, `ncreate`, `inst`.  (`Inv` of ProofsRM.lean has the same
clauses, `lockr` apart, and those about the map.) -/
structure InvF (s : St) : Prop where
  lock : ∀ u, (s.pc u).holdsLock = true → s.lock = some u
  flight : ∀ u, (s.pc u).inFlight = true → s.calls (s.key u) = some (s.reg u)
  prereg : ∀ u, (s.pc u).preReg = true → s.calls (s.key u) = none
  owns : ∀ u, (s.pc u).owns = true → s.reg u < s.next ∧ s.leader (s.reg u) = u ∧ s.ekey (s.reg u) = s.key u
              ∧ s.lret (s.reg u) = false
  wg1 : ∀ u, (s.pc u).wgOne = true → s.wg (s.reg u) = 1
  wg0 : ∀ u, (s.pc u = .n1 ∨ (s.pc u).after = true) → s.wg (s.reg u) = 0
  nores : ∀ u, (s.pc u).noRes = true → s.fnres (s.reg u) = none
  tmpres : ∀ u, s.pc u = .m2 → s.fnres (s.reg u) = some (s.tmp u)
  stored : ∀ u, (s.pc u).stored = true → s.fnres (s.reg u) = some (s.cval (s.reg u))
  calls : ∀ k c, s.calls k = some c → c < s.next ∧ s.ekey c = k ∧ (s.pc (s.leader c)).inFlight = true ∧ s.reg (s.leader c) = c
  waits : ∀ u, (s.pc u).waits = true → s.reg u < s.next ∧ s.ekey (s.reg u) = s.key u ∧ published s (s.reg u)
  woken : ∀ u, s.pc u = .w2 → finished s (s.reg u)
  done : ∀ c, c < s.next → s.lret c = true → s.fnres c = some (s.cval c) ∧ s.wg c = 0
  lretlt : ∀ c, s.lret c = true → c < s.next
  writer : ∀ u, (s.pc u = .g7 ∨ s.pc u = .g8) → s.rw = some u
  rets : ∀ r ∈ s.rets, r.direct = false → r.exec < s.next ∧ s.fnres r.exec = some r.val ∧ s.ekey r.exec = r.key
  cv0 : ∀ u, (s.pc u).noRes = true → s.cval (s.reg u) = 0
  lockr : ∀ u, s.lock = some u → (s.pc u).holdsLock = true

-- unfold `step` at `hs` and split by the row of the stepping goroutine (and the row's own `if` / `match`), so that `s'` is
-- the row's record update.  Same text as `SF`'s, imported here, which fails on `RM.step` and gives way to this one.
macro "step_cases" hs:ident : tactic =>
  `(tactic| (unfold step at $hs:ident; split at $hs:ident <;> (try split at $hs:ident) <;> simp at $hs:ident <;> (try subst $hs:ident)))

variable {s s' : St} {t u : Tid} {x : Nat} {c : CallId}

/-- `s'` agrees with `s` on the registers of goroutine `u` that the clauses about the map read. -/
structure SameRegs (s s' : St) (u : Tid) : Prop where
  pc : s'.pc u = s.pc u
  key : s'.key u = s.key u
  loc : s'.loc u = s.loc u
  found : s'.found u = s.found u

/-- what one step of goroutine `t` writes, read off the program text alone (no invariant).  `rw`, like `rd`, says exactly how
the lock moves with the stepping goroutine: left alone, taken on entering `g7`, released on leaving `g8`. -/
structure Writes (s s' : St) (t : Tid) (x : Nat) : Prop where
  other : ∀ u, u ≠ t → SameRegs s s' u
  flow : s'.pc t ∈ succ (s.pc t)
  cfg : s'.cfg = s.cfg
  alloc : ∀ c, c < s.next → c < s'.next ∧ s'.ekey c = s.ekey c ∧ s'.leader c = s.leader c
  blank : s'.next = s.next ∨ (s'.next = s.next + 1 ∧ s'.lret s.next = false ∧ s'.fnres s.next = none)
  fnres : ∀ c, c < s.next → ((s.pc t).noRes = true → c ≠ s.reg t) → s'.fnres c = s.fnres c
  fnres_own : (s.pc t).owns = true → s'.fnres (s.reg t) = s.fnres (s.reg t) ∨ s'.fnres (s.reg t) = some 0 ∨
      (s.pc t = .g3 ∧ s.found t = true ∧ s'.fnres (s.reg t) = some (s.loc t)) ∨
      (s.pc t = .g8 ∧ s'.fnres (s.reg t) = some (s.loc t))
  rw : (s'.rw = s.rw ∧ ((s'.pc t = .g7 ∨ s'.pc t = .g8) ↔ (s.pc t = .g7 ∨ s.pc t = .g8))) ∨
    (s.rw = none ∧ s'.rw = some t ∧ (s'.pc t = .g7 ∨ s'.pc t = .g8)) ∨
    ((s.pc t = .g7 ∨ s.pc t = .g8) ∧ ¬(s'.pc t = .g7 ∨ s'.pc t = .g8) ∧ s'.rw = none)
  rd : (s'.nrd = s.nrd + 1 ∧ (s.pc t).isRd = false ∧ (s'.pc t).isRd = true) ∨
    (s'.nrd = s.nrd - 1 ∧ (s.pc t).isRd = true ∧ (s'.pc t).isRd = false) ∨
    (s'.nrd = s.nrd ∧ (s'.pc t).isRd = (s.pc t).isRd)
  res : ∀ k, s'.res k = s.res k ∨ (s.pc t = .g7 ∧ k = s.key t ∧ s'.res k = some (s.loc t))
  ncreate : ∀ k, (s'.ncreate k = s.ncreate k ∧ s'.inst k = s.inst k ∧ s'.creator k = s.creator k) ∨
      (s.pc t = .g5 ∧ k = s.key t ∧ s'.ncreate k = s.ncreate k + 1 ∧ s'.inst k = x ∧ s'.creator k = t ∧ s'.pc t = .g6
        ∧ s'.key t = s.key t)
  rets : s'.rets = s.rets ∨ ∃ r, s'.rets = r :: s.rets ∧ r.key = s.key t ∧
      ((r.direct = true ∧ s.pc t = .p3 ∧ s.found t = true ∧ r.val = s.loc t) ∨
       (r.direct = false ∧ (s.pc t = .w2 ∨ s.pc t = .r0) ∧ r.exec = s.reg t ∧ r.val = s.cval (s.reg t)
         ∧ (s.cfg.asrt = true → r.val ≠ nilInst)))
  front : (s'.pc t).front = true → (s.pc t).front = true ∨ s.cfg.pre = true

theorem step_writes (hs : step s t x = some s') : Writes s s' t x := by
  step_cases hs <;> exact {
    other := fun u hu => by constructor <;> simp [upd, hu]
    flow := by simp_all [upd, succ]
    cfg := rfl
    alloc := fun c hc => by have := Nat.ne_of_lt hc; simp [upd, *]; try exact Nat.lt_succ_of_lt hc
    blank := by simp [upd]
    fnres := fun c hc ht => by have := Nat.ne_of_lt hc; simp [PC.noRes, *] at ht <;> simp [upd, *]
    fnres_own := fun ho => by simp_all [upd, PC.owns]
    rw := by simp_all
    rd := by simp_all [upd, PC.isRd]
    res := fun k => by simp_all [upd]; try (by_cases hk : k = s.key t <;> simp [hk])
    ncreate := fun k => by simp_all [upd]; try (by_cases hk : k = s.key t <;> simp [hk])
    rets := by simp [*]; try (intro ha hv; simp_all)
    front := by simp_all [upd, PC.front] }

theorem step_flow (hs : step s t x = some s') : s'.pc t ∈ succ (s.pc t) ∧ ∀ u, u ≠ t → s'.pc u = s.pc u :=
  ⟨(step_writes hs).flow, fun u hu => ((step_writes hs).other u hu).pc⟩

theorem PC.owns_of_inFlight {p : PC} (h : p.inFlight = true) : p.owns = true := by cases p <;> simp_all [inFlight, owns]
theorem PC.owns_of_noRes {p : PC} (h : p.noRes = true) : p.owns = true := by cases p <;> simp_all [noRes, owns]
theorem PC.stored_of_after {p : PC} (h : p.after = true) : p.stored = true := by cases p <;> simp_all [after, stored]

theorem InvF.flight_unique (h : InvF s) (u v : Tid) (hu : (s.pc u).inFlight = true) (hv : (s.pc v).inFlight = true)
    (hk : s.key u = s.key v) : u = v := by
  have a := h.flight u hu
  rw [hk, h.flight v hv, Option.some.injEq] at a
  rw [← (h.owns u (PC.owns_of_inFlight hu)).2.1, ← a, (h.owns v (PC.owns_of_inFlight hv)).2.1]

theorem InvF.quiescent_clean (h : InvF s) (hq : ∀ t, s.pc t = .idle) (k : Key) : s.calls k = none := by
  cases hc : s.calls k with
  | none => rfl
  | some c =>
    have := (h.calls k c hc).2.2.1
    rw [hq] at this
    cases this

/-- where `fnres` is written it was `none`. -/
theorem fnres_stable (h : InvF s) (hs : step s t x = some s') (hc : c < s.next) {v : Val} (hv : s.fnres c = some v) :
    s'.fnres c = some v := by
  rw [(step_writes hs).fnres c hc fun ht e => (by rw [e, h.nores t ht] at hv; cases hv), hv]

/-- the call object a step allocates is blank. -/
theorem step_blank (hs : step s t x = some s') (hc : s.next ≤ c) (hc' : c < s'.next) :
    s'.lret c = false ∧ s'.fnres c = none := by
  rcases (step_writes hs).blank with e | ⟨e, e1⟩ <;> rw [e] at hc'
  · exact absurd hc' (Nat.not_lt.2 hc)
  · rw [Nat.le_antisymm (Nat.le_of_lt_succ hc') hc]; exact e1

theorem rets_new (h : InvF s) (hs : step s t x = some s') :
    s'.rets = s.rets ∨ ∃ r, s'.rets = r :: s.rets ∧ r.key = s.key t ∧
      ((r.direct = true ∧ s.pc t = .p3 ∧ s.found t = true ∧ r.val = s.loc t) ∨
       (r.direct = false ∧ r.exec < s.next ∧ s.fnres r.exec = some r.val ∧ s.ekey r.exec = r.key)) := by
  rcases (step_writes hs).rets with e | ⟨r, e, hk, hr | ⟨hd, hpc, e1, e2, _⟩⟩
  · exact .inl e
  · exact .inr ⟨r, e, hk, .inl hr⟩
  · refine .inr ⟨r, e, hk, .inr ⟨hd, ?_⟩⟩
    rw [e1, e2, hk]
    rcases hpc with hpc | hpc
    · -- a joiner returns what the finished leader stored
      obtain ⟨w1, w2, _⟩ := h.waits t (by simp [hpc, PC.waits])
      refine ⟨w1, ?_, w2⟩
      rcases h.woken t hpc with hf | ⟨hf, hr⟩
      · exact (h.done _ w1 hf).1
      · have := h.stored _ (PC.stored_of_after hf)
        rwa [hr] at this
    · obtain ⟨o1, _, o3, _⟩ := h.owns t (by simp [hpc, PC.owns])
      exact ⟨o1, h.stored t (by simp [hpc, PC.stored]), o3⟩

/-- the row of `SF` a row of `RM` stands for: the lookup in front of the flight happens before `Do` is invoked; the closure's
rows up to the start of `create` (`g0 … g4`) stand at `m0`, where `fn` has not started in `SF` yet (the input of `g4`
decides whether it panics, as `m0`'s does); from `g5` on at `m1`, `fn` running and past the point where it can panic. -/
def PC.sf : PC → SF.PC
  | .idle | .p0 | .p1 | .p2 | .p3 => .idle
  | .l0 => .l0 | .l1 => .l1 | .w0 => .w0 | .w1 => .w1 | .w2 => .w2
  | .n0 => .n0 | .n1 => .n1 | .n2 => .n2 | .n3 => .n3
  | .g0 | .g1 | .g2 | .g3 | .g4 => .m0
  | .g5 | .g6 | .g7 | .g8 => .m1
  | .gp => .mp
  | .m2 => .m2 | .d0 => .d0 | .d1 => .d1 | .d2 => .d2 | .d3 => .d3 | .r0 => .r0 | .px => .px

/-- `f` is a configuration of `SF` that the flight group of `r` is in.  Nothing is said about `SF`'s clocks (`RM` has none), nor about
`rets` and `pan` (`RM` keeps its own; `InvF.rets` is proved apart: `rets_step`), nor about the key of a goroutine that is not inside `Do`: `RM` takes the key at `idle`, `SF` when the
lookup in front of the flight has missed (`p3`). -/
structure Sim (r : St) (f : SF.St) : Prop where
  lock : f.lock = r.lock
  calls : f.calls = r.calls
  wg : f.wg = r.wg
  cval : f.cval = r.cval
  next : f.next = r.next
  pc : ∀ u, f.pc u = (r.pc u).sf
  key : ∀ u, (r.pc u).sf ≠ .idle → f.key u = r.key u
  reg : f.reg = r.reg
  tmp : f.tmp = r.tmp
  pn : f.pn = r.pn
  leader : f.leader = r.leader
  fnres : f.fnres = r.fnres
  ekey : f.ekey = r.ekey
  lret : ∀ c, (f.lret c).isSome = r.lret c

/-- the steps of `SF` that one step of `RM` amounts to.  None where the flight group is not touched: the lookup in front
of the flight, the closure's rows at the map (`g0 … g2`, `g6`, `g7`), `g3` and `g5` going on inside the closure.  A miss
at `p3` is `SF`'s `idle` row, with the key `RM` took at `idle`.  `g4` is `m0`: the same input says whether `create`, that
is `fn`, panics.  A row that ends the closure (`g3`, `g5`, `g8` to `m2`) is `m1` with the closure's value as `fn`'s; from
`g3`, where `fn` has not started in `SF` yet, `m0` and `m1` at once.  Every other row is the same row of `SF`. -/
def sfSched (r : St) (t : Tid) (x : Nat) : List (Tid × Nat) :=
  match r.pc t with
  | .idle => if r.cfg.pre = true then [] else [(t, x)]
  | .p0 | .p1 | .p2 | .g0 | .g1 | .g2 | .g6 | .g7 => []
  | .p3 => if r.found t = true then [] else [(t, r.key t)]
  | .g3 =>
    match r.found t, decide (x ≠ 0 ∧ r.cfg.lerr = true) with
    | _, true => [(t, 0), (t, 0)]
    | true, false => [(t, 0), (t, r.loc t)]
    | false, false => []
  | .g5 => if x = 0 then [(t, 0)] else []
  | .g8 => [(t, r.loc t)]
  | _ => [(t, x)]

variable {r r' : St} {f : SF.St}

theorem sim_step (h : Sim r f) (hs : step r t x = some r') : ∃ f', SF.run f (sfSched r t x) = some f' ∧ Sim r' f' := by
  obtain ⟨h1, h2, h3, h4, h5, h6, h7, h8, h9, h10, h11, h12, h13, h14⟩ := h
  step_cases hs
  -- run the listed steps of `SF` …
  all_goals
    simp [sfSched, SF.run, SF.step, PC.sf, *]
  -- … and compare field by field: left alone, written as `SF` writes it, or (`lret`) `true` for `some _`;
  all_goals
    constructor <;>
      (try first | rfl | assumption | exact upd_rel (R := fun (a : Option Nat) (b : Bool) => a.isSome = b) h14 _ rfl)
  -- `pc` and `key`, for the stepping goroutine and for the others.
  all_goals
    intro u
    by_cases hu : u = t
    · subst hu; simp +contextual [upd, PC.sf, *]
    · simp +contextual [upd, *]

theorem PC.sf_holdsLock (p : PC) : p.sf.holdsLock = p.holdsLock := by cases p <;> rfl
theorem PC.sf_inFlight (p : PC) : p.sf.inFlight = p.inFlight := by cases p <;> rfl
theorem PC.sf_preReg (p : PC) : p.sf.preReg = p.preReg := by cases p <;> rfl
theorem PC.sf_owns (p : PC) : p.sf.owns = p.owns := by cases p <;> rfl
theorem PC.sf_pubd (p : PC) : p.sf.pubd = p.pubd := by cases p <;> rfl
theorem PC.sf_wgOne (p : PC) : p.sf.wgOne = p.wgOne := by cases p <;> rfl
theorem PC.sf_noRes (p : PC) : p.sf.noRes = p.noRes := by cases p <;> rfl
theorem PC.sf_stored (p : PC) : p.sf.stored = p.stored := by cases p <;> rfl
theorem PC.sf_after (p : PC) : p.sf.after = p.after := by cases p <;> rfl
theorem PC.sf_waits (p : PC) : p.sf.waits = p.waits := by cases p <;> rfl

theorem Sim.lret_true (h : Sim r f) : r.lret c = true ↔ f.lret c ≠ none := by
  rw [← h.lret]; cases f.lret c <;> simp

theorem Sim.published (h : Sim r f) (hp : SF.published f c) : published r c :=
  hp.imp h.lret_true.2 fun ⟨a, b⟩ => by rw [← h.leader, ← h.reg, ← PC.sf_pubd, ← h.pc]; exact ⟨a, b⟩

theorem Sim.finished (h : Sim r f) (hp : SF.finished f c) : finished r c :=
  hp.imp h.lret_true.2 fun ⟨a, b⟩ => by rw [← h.leader, ← h.reg, ← PC.sf_after, ← h.pc]; exact ⟨a, b⟩

/-- the clauses of `InvF` about the flight group are what `SF.Inv` says of it.  `writer` (the map's write lock) and `rets`
(`RM`'s records: none where the type assertion panics, one for a direct hit) have no counterpart in `SF`: hypotheses. -/
theorem invF_of_sim (h : Sim r f) (hi : SF.Inv f) (hw : ∀ u, (r.pc u = .g7 ∨ r.pc u = .g8) → r.rw = some u)
    (hr : ∀ q ∈ r.rets, q.direct = false → q.exec < r.next ∧ r.fnres q.exec = some q.val ∧ r.ekey q.exec = q.key) :
    InvF r := by
  -- inside `Do` both systems hold the same key
  have hk : ∀ u, (r.pc u).owns = true ∨ (r.pc u).preReg = true ∨ (r.pc u).waits = true → f.key u = r.key u := fun u hu =>
    h.key u fun e => by revert hu e; cases r.pc u <;> simp [PC.sf, PC.owns, PC.preReg, PC.waits]
  exact {
    lock := fun u hu => by rw [← h.lock]; exact hi.lock u (by rw [h.pc, PC.sf_holdsLock]; exact hu)
    lockr := fun u hu => by rw [← PC.sf_holdsLock, ← h.pc]; exact hi.lockr u (by rw [h.lock]; exact hu)
    flight := fun u hu => by
      rw [← h.calls, ← h.reg, ← hk u (.inl (PC.owns_of_inFlight hu))]
      exact hi.flight u (by rw [h.pc, PC.sf_inFlight]; exact hu)
    prereg := fun u hu => by
      rw [← h.calls, ← hk u (.inr (.inl hu))]
      exact hi.prereg u (by rw [h.pc, PC.sf_preReg]; exact hu)
    owns := fun u hu => by
      obtain ⟨o1, o2, o3, _, o5⟩ := hi.owns u (by rw [h.pc, PC.sf_owns]; exact hu)
      rw [← h.reg, ← h.next, ← h.leader, ← h.ekey, ← hk u (.inl hu), ← h.lret, o5]
      exact ⟨o1, o2, o3, rfl⟩
    wg1 := fun u hu => by rw [← h.wg, ← h.reg]; exact hi.wg1 u (by rw [h.pc, PC.sf_wgOne]; exact hu)
    wg0 := fun u hu => by
      rw [← h.wg, ← h.reg]
      exact hi.wg0 u (hu.imp (fun e => by rw [h.pc, e]; rfl) fun e => by rw [h.pc, PC.sf_after]; exact e)
    nores := fun u hu => by rw [← h.fnres, ← h.reg]; exact hi.nores u (by rw [h.pc, PC.sf_noRes]; exact hu)
    tmpres := fun u hu => by rw [← h.fnres, ← h.reg, ← h.tmp]; exact hi.tmpres u (by rw [h.pc, hu]; rfl)
    stored := fun u hu => by
      rw [← h.fnres, ← h.reg, ← h.cval]; exact hi.stored u (by rw [h.pc, PC.sf_stored]; exact hu)
    cv0 := fun u hu => by rw [← h.cval, ← h.reg]; exact hi.cv0 u (by rw [h.pc, PC.sf_noRes]; exact hu)
    calls := fun k c hc => by
      rw [← h.next, ← h.ekey, ← h.leader, ← h.reg, ← PC.sf_inFlight, ← h.pc]
      exact hi.calls k c (by rw [h.calls]; exact hc)
    waits := fun u hu => by
      obtain ⟨w1, w2, _, w4⟩ := hi.waits u (by rw [h.pc, PC.sf_waits]; exact hu)
      rw [h.reg] at w4
      rw [← h.reg, ← h.next, ← h.ekey, ← hk u (.inr (.inr hu))]
      exact ⟨w1, w2, by rw [h.reg]; exact h.published w4⟩
    woken := fun u hu => by
      have := h.finished (hi.woken u (by rw [h.pc, hu]; rfl))
      rwa [h.reg] at this
    done := fun c hc hl => by
      rw [← h.fnres, ← h.cval, ← h.wg]
      exact hi.done c (by rw [h.next]; exact hc) (h.lret_true.1 hl)
    lretlt := fun c hl => by
      cases hv : f.lret c with
      | none => exact absurd hv (h.lret_true.1 hl)
      | some v => rw [← h.next]; exact (hi.tlret c v hv).2
    writer := hw
    rets := hr }

def SimSF (r : St) : Prop := ∃ f, SF.Reach f ∧ Sim r f

theorem simSF_init (cfg : Cfg) : SimSF (init cfg) := ⟨SF.init, .init, by constructor <;> intros <;> rfl⟩

theorem simSF_step (h : SimSF s) (hs : step s t x = some s') : SimSF s' :=
  let ⟨_, hf, hsim⟩ := h
  let ⟨f', hrun, hsim'⟩ := sim_step hsim hs
  ⟨f', sf_reach_of_run _ _ _ hf hrun, hsim'⟩

theorem simSF_resources (h : SimSF s) (res : Key → Option Val) (ncreate : Key → Nat) (inst : Key → Val) :
    SimSF { s with res := res, ncreate := ncreate, inst := inst } :=
  let ⟨f, hf, hsim⟩ := h
  ⟨f, hf, { hsim with }⟩

theorem writer_step (h : InvF s) (hs : step s t x = some s') : ∀ u, (s'.pc u = .g7 ∨ s'.pc u = .g8) → s'.rw = some u :=
  mutex_kept (step_writes hs).rw (fun u hu => by rw [(step_flow hs).2 u hu]) h.writer

theorem rets_step (h : InvF s) (hs : step s t x = some s') (q : RRet) (hq : q ∈ s'.rets) (hd : q.direct = false) :
    q.exec < s'.next ∧ s'.fnres q.exec = some q.val ∧ s'.ekey q.exec = q.key := by
  -- it is enough that the record is right in `s`
  suffices q.exec < s.next ∧ s.fnres q.exec = some q.val ∧ s.ekey q.exec = q.key by
    obtain ⟨a1, a2, a3⟩ := this
    obtain ⟨b1, b2, _⟩ := (step_writes hs).alloc _ a1
    exact ⟨b1, fnres_stable h hs a1 a2, b2.trans a3⟩
  rcases mem_of_appended (rets_new h hs) hq with hm | ⟨_, ⟨hr0, _⟩ | ⟨_, hr0⟩⟩
  · exact h.rets q hm hd
  · rw [hd] at hr0; cases hr0
  · exact hr0

/-- the flight clauses of `InvF s'` are read off `SimSF s'` alone; `InvF s` is used for `writer` and `rets` only. -/
theorem invF_step (hsim : SimSF s') (h : InvF s) (hs : step s t x = some s') : InvF s' :=
  let ⟨_, hf, hsim'⟩ := hsim
  invF_of_sim hsim' (SF.inv_reach hf) (writer_step h hs) (rets_step h hs)

theorem invF_init (cfg : Cfg) : InvF (init cfg) := by
  constructor <;> simp [init, PC.holdsLock, PC.inFlight, PC.preReg, PC.owns, PC.wgOne, PC.noRes, PC.stored, PC.waits, PC.after]

theorem invF_resources (h : InvF s) (res : Key → Option Val) (ncreate : Key → Nat) (inst : Key → Val) :
    InvF { s with res := res, ncreate := ncreate, inst := inst } :=
  { h with }

theorem evict_eq {k : Key} (hs : evict s k = some s') :
    s' = { s with res := upd s.res k none, ncreate := upd s.ncreate k 0 } := by
  unfold evict at hs
  split at hs <;> simp at hs
  exact hs.symm

theorem invs_reachE {s : St} (h : ReachE s) : SimSF s ∧ InvF s := by
  induction h with
  | init cfg => exact ⟨simSF_init cfg, invF_init cfg⟩
  | step t x _ hs ih => exact ⟨simSF_step ih.1 hs, invF_step (simSF_step ih.1 hs) ih.2 hs⟩
  | evict k _ hs ih => rw [evict_eq hs]; exact ⟨simSF_resources ih.1 _ _ _, invF_resources ih.2 _ _ _⟩

theorem invF_reachE {s : St} (h : ReachE s) : InvF s := (invs_reachE h).2

theorem reachE_of_reach {s : St} (h : Reach s) : ReachE s := by
  induction h with
  | init cfg => exact .init cfg
  | step t x _ hs ih => exact .step t x ih hs

theorem invF_reach {s : St} (h : Reach s) : InvF s := invF_reachE (reachE_of_reach h)

end GoZero.C07.RM
