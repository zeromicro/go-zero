/-
C07 — SingleFlight: the inductive invariant of the interleaving model and its preservation by every step.
-/
import GoZero.C07.SF
namespace GoZero.C07.SF

def PC.holdsLock : PC → Bool
  | .l1 | .w0 | .n0 | .n1 | .n2 | .n3 | .d1 | .d2 => true
  | _ => false
/-- the call is published in `g.calls` -/
def PC.inFlight : PC → Bool
  | .n3 | .m0 | .m1 | .mp | .m2 | .d0 | .d1 => true
  | _ => false
/-- the goroutine looked the key up, found nothing, has not published yet -/
def PC.preReg : PC → Bool
  | .n0 | .n1 | .n2 => true
  | _ => false
/-- the goroutine owns a `call` object it allocated -/
def PC.owns : PC → Bool
  | .n1 | .n2 | .n3 | .m0 | .m1 | .mp | .m2 | .d0 | .d1 | .d2 | .d3 | .r0 | .px => true
  | _ => false
/-- … and has published it -/
def PC.pubd : PC → Bool
  | .n3 | .m0 | .m1 | .mp | .m2 | .d0 | .d1 | .d2 | .d3 | .r0 | .px => true
  | _ => false
def PC.wgOne : PC → Bool
  | .n2 | .n3 | .m0 | .m1 | .mp | .m2 | .d0 | .d1 | .d2 | .d3 => true
  | _ => false
def PC.noRes : PC → Bool
  | .n1 | .n2 | .n3 | .m0 | .m1 | .mp => true
  | _ => false
def PC.stored : PC → Bool
  | .d0 | .d1 | .d2 | .d3 | .r0 | .px => true
  | _ => false
def PC.waits : PC → Bool
  | .w0 | .w1 | .w2 => true
  | _ => false
/-- the rows a goroutine that unwinds a panic of `fn` passes: the deferred block of `makeCall`, then `px` -/
def PC.deferred : PC → Bool
  | .d0 | .d1 | .d2 | .d3 | .px => true
  | _ => false
/-- the goroutine's call object is past `Done` -/
def PC.after : PC → Bool
  | .r0 | .px => true
  | _ => false

/-- `a` is earlier than the (possibly not yet existing) time `o`. -/
def before (a : Nat) (o : Option Nat) : Prop := match o with | none => True | some b => a < b

theorem before_none (a : Nat) : before a none = True := rfl
theorem before_some (a b : Nat) : before a (some b) = (a < b) := rfl

/-- the leader of call `c` is done with it (wait-group released, result stored) -/
def finished (s : St) (c : CallId) : Prop := s.lret c ≠ none ∨ ((s.pc (s.leader c)).after = true ∧ s.reg (s.leader c) = c)
/-- the leader of call `c` has published it (or is long gone) -/
def published (s : St) (c : CallId) : Prop := s.lret c ≠ none ∨ ((s.pc (s.leader c)).pubd = true ∧ s.reg (s.leader c) = c)

/-- what `Inv.rets` records of a returned call `r`, in this order: its call object is allocated; `r.val` is the outcome of
that execution; the execution was for `r`'s key; `r.inv < r.ret < now`; if fresh, `r` is the leading call itself (leader,
invocation and return time); if not, the leading call was invoked before `r` returned and has not returned before `r`
was invoked.  `sf_no_stale`, `sf_never_retained`, `sf_end_to_end` are read off. -/
def RetOK (s : St) (r : Ret) : Prop :=
  r.exec < s.next ∧ s.fnres r.exec = some r.val ∧ s.ekey r.exec = r.key ∧ r.inv < r.ret ∧ r.ret < s.now
    ∧ (r.fresh = true → s.leader r.exec = r.tid ∧ s.linv r.exec = r.inv ∧ s.lret r.exec = some r.ret)
    ∧ (r.fresh = false → s.linv r.exec < r.ret ∧ before r.inv (s.lret r.exec))

/-- Every call object below `next` has one leader, who owns it from `n1` to its return and alone writes it (`owns`); the
clauses over regions (`wg1` … `stored`, `cv0`, `pn*`) say what the owner's object holds at each row; `flight`, `prereg`, `calls`
tie the map to the owners in flight (whence `flight_unique`); `waits`, `woken` are what a joiner knows of the leader of the call
it found; the rest is the ghost clock and the records. -/
structure Inv (s : St) : Prop where
  lock   : ∀ u, (s.pc u).holdsLock = true → s.lock = some u
  lockr  : ∀ u, s.lock = some u → (s.pc u).holdsLock = true
  flight : ∀ u, (s.pc u).inFlight = true → s.calls (s.key u) = some (s.reg u)
  prereg : ∀ u, (s.pc u).preReg = true → s.calls (s.key u) = none
  owns   : ∀ u, (s.pc u).owns = true → s.reg u < s.next ∧ s.leader (s.reg u) = u ∧ s.ekey (s.reg u) = s.key u
              ∧ s.linv (s.reg u) = s.inv u ∧ s.lret (s.reg u) = none
  wg1    : ∀ u, (s.pc u).wgOne = true → s.wg (s.reg u) = 1
  wg0    : ∀ u, (s.pc u = .n1 ∨ (s.pc u).after = true) → s.wg (s.reg u) = 0
  nores  : ∀ u, (s.pc u).noRes = true → s.fnres (s.reg u) = none
  tmpres : ∀ u, s.pc u = .m2 → s.fnres (s.reg u) = some (s.tmp u)
  stored : ∀ u, (s.pc u).stored = true → s.fnres (s.reg u) = some (s.cval (s.reg u))
  calls  : ∀ k c, s.calls k = some c → c < s.next ∧ s.ekey c = k ∧ (s.pc (s.leader c)).inFlight = true ∧ s.reg (s.leader c) = c
  waits  : ∀ u, (s.pc u).waits = true → s.reg u < s.next ∧ s.ekey (s.reg u) = s.key u
              ∧ before (s.inv u) (s.lret (s.reg u)) ∧ published s (s.reg u)
  woken  : ∀ u, s.pc u = .w2 → finished s (s.reg u)
  done   : ∀ c, c < s.next → s.lret c ≠ none → s.fnres c = some (s.cval c) ∧ s.wg c = 0
  tinv   : ∀ u, s.pc u ≠ .idle → s.inv u < s.now
  tlinv  : ∀ c, c < s.next → s.linv c < s.now
  tlret  : ∀ c r, s.lret c = some r → r < s.now ∧ c < s.next
  rets   : ∀ r ∈ s.rets, RetOK s r
  -- panicking executions
  cv0    : ∀ u, (s.pc u).noRes = true → s.cval (s.reg u) = 0
  pnpc   : ∀ u, (s.pc u).owns = true → s.pn u = true → (s.pc u).deferred = true
  pnpx   : ∀ u, s.pc u = .px → s.pn u = true
  pnown  : ∀ u, (s.pc u).owns = true → s.pan (s.reg u) = s.pn u
  panz   : ∀ c, c < s.next → s.pan c = true → s.fnres c = some 0

theorem inv_init : Inv init := by
  constructor <;> simp [init, PC.holdsLock, PC.inFlight, PC.preReg, PC.owns, PC.wgOne, PC.noRes, PC.stored, PC.waits, PC.deferred, PC.after]

macro "step_cases" hs:ident : tactic =>
  `(tactic| (unfold step at $hs:ident; split at $hs:ident <;> (try split at $hs:ident) <;> simp at $hs:ident <;> (try subst $hs:ident)))

/-- the stepping goroutine's own row: with the row's effect written out, what the invariant says at the old
program counter decides the clause at the new one. -/
macro "close_step" hs:ident : tactic =>
  `(tactic| (step_cases $hs:ident <;>
      simp_all [upd, PC.holdsLock, PC.inFlight, PC.preReg, PC.owns, PC.pubd, PC.wgOne, PC.noRes, PC.stored, PC.waits, PC.deferred, PC.after]))

variable {s s' : St} {t u : Tid} {x : Nat} {c : CallId}

structure SameRegs (s s' : St) (u : Tid) : Prop where
  pc : s'.pc u = s.pc u
  key : s'.key u = s.key u
  reg : s'.reg u = s.reg u
  tmp : s'.tmp u = s.tmp u
  pn : s'.pn u = s.pn u
  inv : s'.inv u = s.inv u

structure SameCall (s s' : St) (c : CallId) : Prop where
  wg : s'.wg c = s.wg c
  cval : s'.cval c = s.cval c
  lret : s'.lret c = s.lret c
  fnres : s'.fnres c = s.fnres c
  fstart : s'.fstart c = s.fstart c
  fend : s'.fend c = s.fend c
  pan : s'.pan c = s.pan c

/-- what one step of goroutine `t` writes, read off the program text alone (no invariant).  `lock` says exactly how the
mutex moves with the stepping goroutine: left alone, taken on entering the critical section, released on leaving it;
`calls`: `g.calls` is written by rows `n2` and `d1` only, at the stepping goroutine's key, and `n2` goes on to `n3` with its
call in hand; `call`: a row writes to a call object only if the stepping goroutine owns it (or allocates it just now). -/
structure Writes (s s' : St) (t : Tid) : Prop where
  other : ∀ u, u ≠ t → SameRegs s s' u
  flow : s'.pc t ∈ succ (s.pc t)
  now : s'.now = s.now + 1
  alloc : ∀ c, c < s.next → c < s'.next ∧ s'.ekey c = s.ekey c ∧ s'.leader c = s.leader c ∧ s'.linv c = s.linv c
  blank : s'.next = s.next ∨
      (s'.next = s.next + 1 ∧ s'.lret s.next = none ∧ s'.pan s.next = false ∧ s'.fnres s.next = none)
  call : ∀ c, c < s.next → ((s.pc t).owns = true → c ≠ s.reg t) → SameCall s s' c
  lock : (s'.lock = s.lock ∧ ((s'.pc t).holdsLock = true ↔ (s.pc t).holdsLock = true)) ∨
    (s.lock = none ∧ s'.lock = some t ∧ (s'.pc t).holdsLock = true) ∨
    ((s.pc t).holdsLock = true ∧ ¬ (s'.pc t).holdsLock = true ∧ s'.lock = none)
  calls : ∀ k, (s'.calls k = s.calls k ∧ (s.pc t = .d1 → k ≠ s.key t)) ∨
      (s.pc t = .n2 ∧ k = s.key t ∧ s'.calls k = some (s.reg t) ∧ s'.pc t = .n3 ∧ s'.reg t = s.reg t)
      ∨ (s.pc t = .d1 ∧ k = s.key t ∧ s'.calls k = none)
  before : ∀ a c, a < s.now → before a (s.lret c) → before a (s'.lret c)
  inFlight : (s.pc t).inFlight = true → s'.reg t = s.reg t ∧ (s.pc t ≠ .d1 → (s'.pc t).inFlight = true)
  waits : (s'.pc t).waits = true → s'.key t = s.key t ∧ s'.inv t = s.inv t ∧
      (((s.pc t).waits = true ∧ s'.reg t = s.reg t) ∨ (s.pc t = .l1 ∧ s.calls (s.key t) = some (s'.reg t)))
  rets : s'.rets = s.rets ∨ ∃ r, s'.rets = r :: s.rets ∧ r.exec = s.reg t ∧
      ((s.pc t = .w2 ∧ r.fresh = false) ∨ (s.pc t = .r0 ∧ r.fresh = true))

theorem step_writes (hs : step s t x = some s') : Writes s s' t := by
  step_cases hs <;> exact {
    other := fun u hu => by constructor <;> simp [upd, hu]
    flow := by simp_all [upd, succ]
    now := rfl
    alloc := fun c hc => by have := Nat.ne_of_lt hc; simp [upd, *]; try exact Nat.lt_succ_of_lt hc
    blank := by simp [upd]
    call := fun c hc ht => by have := Nat.ne_of_lt hc; simp [PC.owns, *] at ht <;> constructor <;> simp [upd, *]
    lock := by simp_all [PC.holdsLock]
    calls := fun k => by simp_all [upd]; try (by_cases hk : k = s.key t <;> simp [hk])
    before := fun a c ha hv => by simp_all [upd] <;> split <;> simp_all [SF.before]
    inFlight := fun hf => by simp_all [upd, PC.inFlight]
    waits := fun hw => by simp_all [upd, PC.waits]
    rets := by simp [*] }

theorem step_flow (hs : step s t x = some s') : s'.pc t ∈ succ (s.pc t) ∧ ∀ u, u ≠ t → s'.pc u = s.pc u :=
  ⟨(step_writes hs).flow, fun u hu => ((step_writes hs).other u hu).pc⟩

/-- the call object a step allocates is blank. -/
theorem step_blank (hs : step s t x = some s') (hc : s.next ≤ c) (hc' : c < s'.next) :
    s'.lret c = none ∧ s'.pan c = false ∧ s'.fnres c = none := by
  rcases (step_writes hs).blank with e | ⟨e, e1⟩ <;> rw [e] at hc'
  · exact absurd hc' (Nat.not_lt.2 hc)
  · rw [Nat.le_antisymm (Nat.le_of_lt_succ hc') hc]; exact e1

theorem PC.owns_of_inFlight {p : PC} (h : p.inFlight = true) : p.owns = true := by cases p <;> simp_all [inFlight, owns]
theorem PC.pubd_of_inFlight {p : PC} (h : p.inFlight = true) : p.pubd = true := by cases p <;> simp_all [inFlight, pubd]
theorem PC.owns_of_wgOne {p : PC} (h : p.wgOne = true) : p.owns = true := by cases p <;> simp_all [wgOne, owns]
theorem PC.owns_of_noRes {p : PC} (h : p.noRes = true) : p.owns = true := by cases p <;> simp_all [noRes, owns]
theorem PC.owns_of_stored {p : PC} (h : p.stored = true) : p.owns = true := by cases p <;> simp_all [stored, owns]
theorem PC.owns_of_after {p : PC} (h : p.after = true) : p.owns = true := by cases p <;> simp_all [after, owns]
theorem PC.stored_of_after {p : PC} (h : p.after = true) : p.stored = true := by cases p <;> simp_all [after, stored]
theorem PC.after_of_pubd {p : PC} (h : p.pubd = true) (h' : p.wgOne = false) : p.after = true := by
  cases p <;> simp_all [pubd, wgOne, after]

theorem flight_unique (h : Inv s) (u v : Tid) (hu : (s.pc u).inFlight = true) (hv : (s.pc v).inFlight = true)
    (hk : s.key u = s.key v) : u = v := by
  have a := h.flight u hu
  rw [hk, h.flight v hv, Option.some.injEq] at a
  rw [← (h.owns u (PC.owns_of_inFlight hu)).2.1, ← a, (h.owns v (PC.owns_of_inFlight hv)).2.1]

theorem owns_ne (h : Inv s) (hut : u ≠ t) (hu : (s.pc u).owns = true) (ht : (s.pc t).owns = true) : s.reg u ≠ s.reg t :=
  fun e => hut (by rw [← (h.owns u hu).2.1, e, (h.owns t ht).2.1])

/-- interference freedom of the owner's view: the call object `u` owns is out of the reach of every other goroutine. -/
theorem owner_call (h : Inv s) (hs : step s t x = some s') (hut : u ≠ t) (hu : (s.pc u).owns = true) :
    SameCall s s' (s.reg u) :=
  (step_writes hs).call _ (h.owns u hu).1 (owns_ne h hut hu)

theorem lret_stable (h : Inv s) (hs : step s t x = some s') (hc : c < s.next) {v : Nat} (hv : s.lret c = some v) :
    s'.lret c = some v := by
  have w := step_writes hs
  rw [(w.call _ hc fun ht e => by rw [e, (h.owns t ht).2.2.2.2] at hv; cases hv).lret, hv]

/-- only rows inside `noRes` write `fnres`, and there it is `none`. -/
theorem fnres_stable (h : Inv s) (hs : step s t x = some s') (hc : c < s.next) {v : Val} (hv : s.fnres c = some v) :
    s'.fnres c = some v := by
  have ht : (s.pc t).noRes = true → c ≠ s.reg t := fun ht e => by rw [e, h.nores t ht] at hv; cases hv
  have : c ≠ s.next := Nat.ne_of_lt hc
  step_cases hs <;> simp [PC.noRes, *] at ht <;> simp [upd, *]

/-- `R` is a stretch of the leader's program that it leaves only by returning: "the leader of `c` has returned, or is
inside `R` with `c` in hand" survives a step, once it does so for the leader's own rows. -/
theorem leader_step (R : PC → Bool) (h : Inv s) (hs : step s t x = some s') (hc : c < s.next)
    (own : R (s.pc t) = true → c = s.reg t → s'.lret c ≠ none ∨ (R (s'.pc t) = true ∧ s'.reg t = c))
    (hp : s.lret c ≠ none ∨ (R (s.pc (s.leader c)) = true ∧ s.reg (s.leader c) = c)) :
    s'.lret c ≠ none ∨ (R (s'.pc (s'.leader c)) = true ∧ s'.reg (s'.leader c) = c) := by
  have w := step_writes hs
  rw [(w.alloc _ hc).2.2.1]
  rcases hp with hp | ⟨hp, hr⟩
  · cases hv : s.lret c with
    | none => exact absurd hv hp
    | some v => exact .inl (by rw [lret_stable h hs hc hv]; simp)
  · by_cases hut : s.leader c = t
    · rw [hut] at hp hr ⊢; exact own hp hr.symm
    · have fr := w.other _ hut
      exact .inr (by rw [fr.pc, fr.reg]; exact ⟨hp, hr⟩)

/-- the leader walks on through `pubd` and records its return when it leaves. -/
theorem published_step (h : Inv s) (hs : step s t x = some s') (hc : c < s.next) (hp : published s c) :
    published s' c :=
  leader_step PC.pubd h hs hc (fun hp hr => by subst hr; close_step hs) hp

theorem finished_step (h : Inv s) (hs : step s t x = some s') (hc : c < s.next) (hp : finished s c) :
    finished s' c :=
  leader_step PC.after h hs hc (fun hp hr => by subst hr; close_step hs) hp

theorem retOK_frame (h : Inv s) (hs : step s t x = some s') (r : Ret) (hr : RetOK s r) : RetOK s' r := by
  have w := step_writes hs
  obtain ⟨a1, a2, a3, a4, a5, a6, a7⟩ := hr
  obtain ⟨b1, b2, b3, b4⟩ := w.alloc _ a1
  refine ⟨b1, fnres_stable h hs a1 a2, by rw [b2]; exact a3, a4, by rw [w.now]; omega, ?_, ?_⟩
  · intro hf
    obtain ⟨c1, c2, c3⟩ := a6 hf
    exact ⟨by rw [b3]; exact c1, by rw [b4]; exact c2, lret_stable h hs a1 c3⟩
  · intro hf
    obtain ⟨c1, c2⟩ := a7 hf
    exact ⟨by rw [b4]; exact c1, w.before _ _ (by omega) c2⟩

theorem rets_new (h : Inv s) (hs : step s t x = some s') :
    s'.rets = s.rets ∨ ∃ r, s'.rets = r :: s.rets ∧ RetOK s' r := by
  have w := step_writes hs
  rcases w.rets with e | ⟨_, _, _, hpc⟩
  · exact .inl e
  · have h7 := h.tinv t
    rcases hpc with ⟨hpc, _⟩ | ⟨hpc, _⟩ <;> simp [step, hpc] at hs <;> subst hs <;> simp [hpc, upd, RetOK] at h7 ⊢
    · -- a joiner returns what the finished leader stored
      obtain ⟨w1, w2, w3, w4⟩ := h.waits t (by simp [hpc, PC.waits])
      refine ⟨w1, ?_, w2, by omega, h.tlinv _ w1, w3⟩
      rcases h.woken t hpc with hf | ⟨hf, hr⟩
      · exact (h.done _ w1 hf).1
      · have := h.stored _ (PC.stored_of_after hf)
        rwa [hr] at this
    · obtain ⟨o1, o2, o3, o4, _⟩ := h.owns t (by simp [hpc, PC.owns])
      exact ⟨o1, h.stored t (by simp [hpc, PC.stored]), o3, by omega, o2, o4⟩

/-- what `Inv` says about one goroutine `u` at its row: the clauses of `Inv` word for word, at one `u` (`waits` and `woken`
apart, which look at another goroutine's call; `lock`, `lockr` apart, which follow from `Writes.lock` alone). -/
structure Inv.Thread (s : St) (u : Tid) : Prop where
  flight : (s.pc u).inFlight = true → s.calls (s.key u) = some (s.reg u)
  prereg : (s.pc u).preReg = true → s.calls (s.key u) = none
  owns   : (s.pc u).owns = true → s.reg u < s.next ∧ s.leader (s.reg u) = u ∧ s.ekey (s.reg u) = s.key u
              ∧ s.linv (s.reg u) = s.inv u ∧ s.lret (s.reg u) = none
  wg1    : (s.pc u).wgOne = true → s.wg (s.reg u) = 1
  wg0    : (s.pc u = .n1 ∨ (s.pc u).after = true) → s.wg (s.reg u) = 0
  nores  : (s.pc u).noRes = true → s.fnres (s.reg u) = none
  tmpres : s.pc u = .m2 → s.fnres (s.reg u) = some (s.tmp u)
  stored : (s.pc u).stored = true → s.fnres (s.reg u) = some (s.cval (s.reg u))
  tinv   : s.pc u ≠ .idle → s.inv u < s.now
  cv0    : (s.pc u).noRes = true → s.cval (s.reg u) = 0
  pnpc   : (s.pc u).owns = true → s.pn u = true → (s.pc u).deferred = true
  pnpx   : s.pc u = .px → s.pn u = true
  pnown  : (s.pc u).owns = true → s.pan (s.reg u) = s.pn u

theorem Inv.thread (h : Inv s) (u : Tid) : Inv.Thread s u :=
  ⟨h.flight u, h.prereg u, h.owns u, h.wg1 u, h.wg0 u, h.nores u, h.tmpres u, h.stored u, h.tinv u,
    h.cv0 u, h.pnpc u, h.pnpx u, h.pnown u⟩

/-- local correctness: the stepping goroutine's own row.  Row by row, what the invariant says at the old program counter
is worked out once (`simp … at`), then decides every clause at the new one. -/
theorem thread_own (h : Inv s) (hs : step s t x = some s') : Inv.Thread s' t := by
  obtain ⟨a3, a4, a5, a6, a7, a8, a9, a10, a11, a12, a13, a14, a15⟩ := h.thread t
  step_cases hs <;>
    simp [PC.inFlight, PC.preReg, PC.owns, PC.wgOne, PC.noRes, PC.stored, PC.deferred, PC.after, *]
      at a3 a4 a5 a6 a7 a8 a9 a10 a11 a12 a13 a14 a15 <;>
    constructor <;>
    simp [upd, PC.inFlight, PC.preReg, PC.owns, PC.wgOne, PC.noRes, PC.stored, PC.deferred, PC.after, *] <;>
    omega

/-- interference freedom: a step of `t` leaves what the invariant says about another goroutine `u` intact. -/
theorem thread_other (h : Inv s) (hs : step s t x = some s') (hut : u ≠ t) : Inv.Thread s' u := by
  have w := step_writes hs
  have fr := w.other _ hut
  have call := fun hu => owner_call h hs hut hu
  constructor <;> rw [fr.pc]
  case flight =>
    intro hu
    rw [fr.key, fr.reg, ← h.flight u hu]
    rcases w.calls (s.key u) with ⟨e, _⟩ | ⟨ht, hk, _⟩ | ⟨ht, hk, _⟩
    · exact e
    · -- `t` publishes: its key was absent from the map, so it is not `u`'s
      have := h.prereg t (by simp [ht, PC.preReg])
      rw [← hk, h.flight u hu] at this; cases this
    · exact absurd (flight_unique h u t hu (by simp [ht, PC.inFlight]) hk) hut
  case prereg =>
    intro hu
    rw [fr.key, ← h.prereg u hu]
    -- `u` holds the mutex, so `t` is at neither of the rows that write the map
    have hl := h.lock u (by revert hu; cases s.pc u <;> simp [PC.preReg, PC.holdsLock])
    rcases w.calls (s.key u) with ⟨e, _⟩ | ⟨ht, _⟩ | ⟨ht, _⟩
    · exact e
    all_goals
      rw [h.lock t (by simp [ht, PC.holdsLock])] at hl; cases hl; exact absurd rfl hut
  case owns =>
    intro hu
    obtain ⟨a1, a2, a3, a4⟩ := w.alloc _ (h.owns u hu).1
    rw [fr.key, fr.reg, fr.inv, a2, a3, a4, (call hu).lret]
    exact ⟨a1, (h.owns u hu).2⟩
  case wg1 => intro hu; rw [fr.reg, (call (PC.owns_of_wgOne hu)).wg]; exact h.wg1 u hu
  case wg0 =>
    intro hu
    rw [fr.reg, (call (by rcases hu with hu | hu; simp [hu, PC.owns]; exact PC.owns_of_after hu)).wg]
    exact h.wg0 u hu
  case nores => intro hu; rw [fr.reg, (call (PC.owns_of_noRes hu)).fnres]; exact h.nores u hu
  case tmpres => intro hu; rw [fr.reg, fr.tmp, (call (by simp [hu, PC.owns])).fnres]; exact h.tmpres u hu
  case stored =>
    intro hu
    rw [fr.reg, (call (PC.owns_of_stored hu)).fnres, (call (PC.owns_of_stored hu)).cval]
    exact h.stored u hu
  case tinv => intro hu; rw [fr.inv, w.now]; exact Nat.lt_succ_of_lt (h.tinv u hu)
  case cv0 => intro hu; rw [fr.reg, (call (PC.owns_of_noRes hu)).cval]; exact h.cv0 u hu
  case pnpc => rw [fr.pn]; exact h.pnpc u
  case pnpx => rw [fr.pn]; exact h.pnpx u
  case pnown => intro hu; rw [fr.reg, fr.pn, (call hu).pan]; exact h.pnown u hu

theorem thread_step (h : Inv s) (hs : step s t x = some s') (u : Tid) : Inv.Thread s' u := by
  by_cases hut : u = t
  · subst hut; exact thread_own h hs
  · exact thread_other h hs hut

theorem inv_step (h : Inv s) (hs : step s t x = some s') : Inv s' where
  lock := mutex_kept (step_writes hs).lock (fun u hu => by rw [(step_flow hs).2 u hu]) h.lock
  lockr := mutex_held (step_writes hs).lock (fun u hu => by rw [(step_flow hs).2 u hu]) h.lockr
  flight u := (thread_step h hs u).flight
  prereg u := (thread_step h hs u).prereg
  owns u := (thread_step h hs u).owns
  wg1 u := (thread_step h hs u).wg1
  wg0 u := (thread_step h hs u).wg0
  nores u := (thread_step h hs u).nores
  tmpres u := (thread_step h hs u).tmpres
  stored u := (thread_step h hs u).stored
  tinv u := (thread_step h hs u).tinv
  cv0 u := (thread_step h hs u).cv0
  pnpc u := (thread_step h hs u).pnpc
  pnpx u := (thread_step h hs u).pnpx
  pnown u := (thread_step h hs u).pnown
  calls k c hc := by
    have w := step_writes hs
    -- an entry that was in the map before and is not the one deleted now
    have old : s.calls k = some c → (s.pc t = .d1 → k ≠ s.key t) → c < s'.next ∧ s'.ekey c = k ∧
        (s'.pc (s'.leader c)).inFlight = true ∧ s'.reg (s'.leader c) = c := by
      intro hc hd
      obtain ⟨c1, c2, c3, c4⟩ := h.calls k c hc
      obtain ⟨a1, a2, a3, _⟩ := w.alloc _ c1
      rw [a2, a3]
      refine ⟨a1, c2, ?_⟩
      by_cases hut : s.leader c = t
      · rw [hut] at c3 c4 ⊢
        obtain ⟨e3, ef⟩ := w.inFlight c3
        exact ⟨ef fun hd1 => hd hd1 (by rw [← c2, ← c4, (h.owns t (PC.owns_of_inFlight c3)).2.2.1]), e3.trans c4⟩
      · have fr := w.other _ hut
        rw [fr.pc, fr.reg]; exact ⟨c3, c4⟩
    rcases w.calls k with ⟨e, hd⟩ | ⟨ht, rfl, e, e1, e2⟩ | ⟨_, _, e⟩ <;> rw [e] at hc
    · exact old hc hd
    · -- the entry `t` publishes just now
      cases hc
      obtain ⟨o1, o2, o3, _⟩ := h.owns t (by simp [ht, PC.owns])
      obtain ⟨a1, a2, a3, _⟩ := w.alloc _ o1
      rw [a2, a3, o2]
      exact ⟨a1, o3, by simp [e1, PC.inFlight], e2⟩
    · cases hc
  waits u hu := by
    have w := step_writes hs
    -- what a waiter looks at never moves backwards
    have old : ∀ {c k a}, c < s.next ∧ s.ekey c = k ∧ before a (s.lret c) ∧ published s c → a < s.now →
        c < s'.next ∧ s'.ekey c = k ∧ before a (s'.lret c) ∧ published s' c := by
      intro c k a ⟨w1, w2, w3, w4⟩ ha
      obtain ⟨a1, a2, _⟩ := w.alloc _ w1
      exact ⟨a1, a2.trans w2, w.before _ _ ha w3, published_step h hs w1 w4⟩
    by_cases hut : u = t
    · subst hut
      obtain ⟨e2, e6, ⟨hw, e3⟩ | ⟨hpc, hcl⟩⟩ := w.waits hu <;> rw [e2, e6]
      · rw [e3]; exact old (h.waits u hw) (h.tinv u (by intro e; simp [e, PC.waits] at hw))
      · -- the call found in the map is in flight: published, and its leader has not returned
        obtain ⟨c1, c2, c3, c4⟩ := h.calls _ _ hcl
        have hl := (h.owns _ (PC.owns_of_inFlight c3)).2.2.2.2
        rw [c4] at hl
        exact old ⟨c1, c2, by rw [hl]; trivial, .inr ⟨PC.pubd_of_inFlight c3, c4⟩⟩ (h.tinv u (by simp [hpc]))
    · have fr := w.other _ hut
      rw [fr.pc] at hu
      rw [fr.key, fr.reg, fr.inv]
      exact old (h.waits u hu) (h.tinv u (by intro e; simp [e, PC.waits] at hu))
  woken u hu := by
    by_cases hut : u = t
    · -- `Wait` returned: the counter is zero, so the leader of the published call is past `Done`
      subst hut
      have ⟨hpc, hz, e3⟩ : s.pc u = .w1 ∧ s.wg (s.reg u) = 0 ∧ s'.reg u = s.reg u := by
        step_cases hs <;> simp_all [upd]
      obtain ⟨w1, _, _, w4⟩ := h.waits u (by simp [hpc, PC.waits])
      rw [e3]
      refine finished_step h hs w1 (w4.imp id fun ⟨hp, hr⟩ => ⟨PC.after_of_pubd hp ?_, hr⟩)
      cases hw : (s.pc (s.leader (s.reg u))).wgOne with
      | false => rfl
      | true => have := h.wg1 _ hw; rw [hr, hz] at this; cases this
    · have w := step_writes hs
      have fr := w.other _ hut
      rw [fr.pc] at hu
      rw [fr.reg]
      exact finished_step h hs (h.waits u (by simp [hu, PC.waits])).1 (h.woken u hu)
  done c hc hl := by
    rcases call_cases s.next c (s.reg t) (s.pc t).owns with hn | ⟨ho, rfl⟩ | ⟨hn, ho⟩
    · exact absurd (step_blank hs hn hc).1 hl
    · -- the leader returns (`r0`, `px`): the result is stored and `Done` is behind it
      have h2 := h.owns t
      have h3 := h.stored t
      have h4 := h.wg0 t
      close_step hs
    · have w := step_writes hs
      have f := w.call _ hn ho
      rw [f.lret] at hl; rw [f.fnres, f.cval, f.wg]
      exact h.done c hn hl
  tlinv c hc := by
    have h1 := h.tlinv c
    have h2 := h.tinv t
    step_cases hs <;> simp [upd] at * <;> grind
  tlret c r hc := by
    by_cases hl : s.lret c = some r
    · have w := step_writes hs
      obtain ⟨a, b⟩ := h.tlret c r hl
      exact ⟨by rw [w.now]; exact Nat.lt_succ_of_lt a, (w.alloc _ b).1⟩
    · -- the leader returns now (`r0`, `px`)
      have h2 := h.owns t
      step_cases hs <;> simp_all [upd, PC.owns] <;> grind
  rets r hr := by
    rcases mem_of_appended (rets_new h hs) hr with hm | hok
    · exact retOK_frame h hs r (h.rets r hm)
    · exact hok
  panz c hc hp := by
    rcases call_cases s.next c (s.reg t) (s.pc t).owns with hn | ⟨ho, rfl⟩ | ⟨hn, ho⟩
    · rw [(step_blank hs hn hc).2.1] at hp; cases hp
    · have h1 := h.panz (s.reg t)
      have h2 := h.nores t
      close_step hs
    · have w := step_writes hs
      have f := w.call _ hn ho
      rw [f.pan] at hp; rw [f.fnres]
      exact h.panz c hn hp

theorem inv_reach {s : St} (h : Reach s) : Inv s := by
  induction h with
  | init => exact inv_init
  | step t x _ hs ih => exact inv_step ih hs

def FreshInv (s : St) : Prop :=
  ∀ c, s.rets.countP (fun r => r.fresh && r.exec == c) = if (s.lret c).isSome ∧ s.pan c = false then 1 else 0

theorem fresh_step (h : Inv s) (hf : FreshInv s) (hs : step s t x = some s') : FreshInv s' := by
  intro c
  rcases call_cases s.next c (s.reg t) (s.pc t).owns with hn | ⟨ho, rfl⟩ | ⟨hn, ho⟩
  · -- not allocated before the step: its leader has not returned, and no record names it
    have h' := inv_step h hs
    have hl : s'.lret c = none := by
      cases hv : s'.lret c with
      | none => rfl
      | some r => rw [(step_blank hs hn (h'.tlret c r hv).2).1] at hv; cases hv
    rw [hl, List.countP_eq_zero.2 fun r hr e => ?_]
    · simp
    · obtain ⟨_, rfl⟩ : r.fresh = true ∧ r.exec = c := by simpa using e
      obtain ⟨r1, r2, _⟩ := h'.rets r hr
      rw [(step_blank hs hn r1).2.2] at r2; cases r2
  · -- the leader's own call: counted when it returns without a panic (`r0`), never after a panic (`px`)
    have h1 := hf (s.reg t)
    have h2 := h.owns t
    have h4 := h.pnown t
    have h5 := h.pnpc t
    have h6 := h.pnpx t
    step_cases hs <;> simp_all [upd, PC.owns, PC.deferred]
  · -- another call: its fields stay, and a record appended now is a joiner's or names `t`'s own call
    have w := step_writes hs
    have f := w.call _ hn ho
    rw [f.lret, f.pan, ← hf c]
    rcases w.rets with e | ⟨r, e, he, ⟨_, hfr⟩ | ⟨hpc, _⟩⟩ <;> rw [e]
    · simp [hfr]
    · simp [he, Ne.symm (ho (by simp [hpc, PC.owns]))]

theorem fresh_reach {s : St} (h : Reach s) : FreshInv s := by
  induction h with
  | init => intro c; simp [init]
  | step t x hr hs ih => exact fresh_step (inv_reach hr) ih hs

end GoZero.C07.SF

namespace GoZero.C07

theorem sf_reach_of_run (l : List (Tid × Nat)) : ∀ (s0 s : SF.St), SF.Reach s0 → SF.run s0 l = some s → SF.Reach s := by
  induction l with
  | nil => intro s0 s h0 hr; simp [SF.run] at hr; subst hr; exact h0
  | cons a l ih =>
    intro s0 s h0 hr
    simp only [SF.run] at hr
    split at hr
    · rename_i s1 hs1; exact ih s1 s (.step a.1 a.2 h0 hs1) hr
    · simp at hr

end GoZero.C07
