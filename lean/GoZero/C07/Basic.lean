/-
C07 — basics shared by the executable small-step models of core/syncx/singleflight.go (`SF`), core/syncx/lockedcalls.go (`LC`)
and of the double-checked singleflight pattern of core/syncx/resourcemanager.go, core/collection/cache.go (`Take`) and
core/stores/cache/cachenode.go (`doTake`) (`RM`).      (core Lean only)

One model = one transition system `step : St → Tid → Nat → Option St`:
  * `Tid := Nat`  — an unbounded supply of goroutines; every goroutine loops  idle → call → … → return → idle,
    so one goroutine issues any number of calls, with any keys.
  * the third argument is the *environment input* of the step: the key on `invoke`, the value the user
    function returns on `fn end` (encodes the pair (val, err); `0` is Go's zero value), on `fn start` whether the function
    is going to panic (`≠ 0`), in `RM` at row `g3` whether the lookup inside the flight fails (`Cfg.lerr`); ignored elsewhere.
  * `none` = the step is not enabled (mutex taken, wait-group counter not zero).
  * one row per statement of the Go function (the row list is tied to the extracted statement skeleton in Tie.lean).
  * ghost fields (logical clock, call / execution records, the list of returned calls) never influence control
    (but `RM.St.pan`, listed with the ghosts, is read by row `w2`: the value of a panicked flight is nil).
A schedule is a list of `(tid, input)`; `Reach` closes over *every* schedule.
-/
import GoZero.Base.Mutex
namespace GoZero.C07

abbrev Tid := Nat
abbrev Key := Nat
abbrev CallId := Nat
abbrev Val := Nat

def upd {α : Type} (f : Nat → α) (i : Nat) (v : α) : Nat → α := fun j => if j = i then v else f j

@[simp] theorem upd_same {α : Type} (f : Nat → α) (i : Nat) (v : α) : upd f i v i = v := by simp [upd]
theorem upd_other {α : Type} (f : Nat → α) (i j : Nat) (v : α) (h : j ≠ i) : upd f i v j = f j := by simp [upd, h]

theorem upd_rel {α β : Type} {R : α → β → Prop} {m : Nat → α} {m' : Nat → β} (h : ∀ c, R (m c) (m' c)) (i : Nat)
    {v : α} {v' : β} (hv : R v v') : ∀ c, R (upd m i v c) (upd m' i v' c) := by
  intro c; unfold upd; split
  · exact hv
  · exact h c

/-- The three ways an object `c` of an allocator whose counter stands at `n` can stand to a goroutine that, if `o`, owns
object `r`: not allocated yet, the goroutine's own, out of its reach. -/
theorem call_cases (n c r : Nat) (o : Bool) : n ≤ c ∨ (o = true ∧ c = r) ∨ (c < n ∧ (o = true → c ≠ r)) := by
  by_cases h1 : c < n <;> by_cases h2 : o = true ∧ c = r <;> grind

theorem mem_of_appended {α : Type} {Q : α → Prop} {l l' : List α} {r : α} (h : l' = l ∨ ∃ r0, l' = r0 :: l ∧ Q r0)
    (hr : r ∈ l') : r ∈ l ∨ Q r := by
  rcases h with e | ⟨r0, e, hq⟩ <;> rw [e] at hr
  · exact .inl hr
  · rcases List.mem_cons.mp hr with rfl | hm
    · exact .inr hq
    · exact .inl hm

/-- one returned SingleFlight call (`SF.St.rets`), as seen by its caller (ghost record); `LC` and `RM` have their own `LRet`,
`RRet`. -/
structure Ret where
  tid   : Tid
  key   : Key
  inv   : Nat          -- clock at invocation
  ret   : Nat          -- clock at return
  exec  : CallId       -- the `call` object whose result was handed out
  val   : Val          -- (val, err) handed to the caller
  fresh : Bool         -- DoEx's `fresh`
  deriving Repr, DecidableEq

end GoZero.C07
