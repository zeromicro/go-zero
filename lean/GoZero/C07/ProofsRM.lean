/-
C07 — ResourceManager / Take users: the inductive invariant of the interleaving model — the flight part (`InvF`, ProofsRME.lean) plus
the double-checked map — and its preservation by every step.
-/
import GoZero.C07.ProofsRME
namespace GoZero.C07.RM

/-- The clauses down to `lretlt`, and `writer`, `rets`, `cv0`, are those of `InvF`, word for word and under the same names:
`inv_step` copies them from `InvF s'` (`{ f with … }`) and proves the others, which speak about the map. -/
structure Inv (s : St) : Prop where
  lock   : ∀ u, (s.pc u).holdsLock = true → s.lock = some u
  flight : ∀ u, (s.pc u).inFlight = true → s.calls (s.key u) = some (s.reg u)
  prereg : ∀ u, (s.pc u).preReg = true → s.calls (s.key u) = none
  owns   : ∀ u, (s.pc u).owns = true → s.reg u < s.next ∧ s.leader (s.reg u) = u ∧ s.ekey (s.reg u) = s.key u
              ∧ s.lret (s.reg u) = false
  wg1    : ∀ u, (s.pc u).wgOne = true → s.wg (s.reg u) = 1
  wg0    : ∀ u, (s.pc u = .n1 ∨ (s.pc u).after = true) → s.wg (s.reg u) = 0
  nores  : ∀ u, (s.pc u).noRes = true → s.fnres (s.reg u) = none
  tmpres : ∀ u, s.pc u = .m2 → s.fnres (s.reg u) = some (s.tmp u)
  stored : ∀ u, (s.pc u).stored = true → s.fnres (s.reg u) = some (s.cval (s.reg u))
  calls  : ∀ k c, s.calls k = some c → c < s.next ∧ s.ekey c = k ∧ (s.pc (s.leader c)).inFlight = true ∧ s.reg (s.leader c) = c
  waits  : ∀ u, (s.pc u).waits = true → s.reg u < s.next ∧ s.ekey (s.reg u) = s.key u ∧ published s (s.reg u)
  woken  : ∀ u, s.pc u = .w2 → finished s (s.reg u)
  done   : ∀ c, c < s.next → s.lret c = true → s.fnres c = some (s.cval c) ∧ s.wg c = 0
  lretlt : ∀ c, s.lret c = true → c < s.next
  -- the double-checked map
  writer : ∀ u, (s.pc u = .g7 ∨ s.pc u = .g8) → s.rw = some u
  -- what a key holds is its instance: the one counted creation made it, and it is not the error value
  r1     : ∀ k v, s.res k = some v → s.ncreate k = 1 ∧ s.inst k = v ∧ v ≠ 0
  -- the creator on its way to the store: its creation is counted, the key still holds nothing
  r2     : ∀ u, (s.pc u = .g6 ∨ s.pc u = .g7) → s.ncreate (s.key u) = 1 ∧ s.inst (s.key u) = s.loc u ∧ s.loc u ≠ 0
              ∧ s.res (s.key u) = none ∧ s.creator (s.key u) = u
  -- … and after the store
  r2'    : ∀ u, s.pc u = .g8 → s.res (s.key u) = some (s.loc u)
  -- at most one counted creation per key; a counted creation is stored, or its creator is on the way to the store
  r3     : ∀ k, s.ncreate k ≤ 1 ∧ (s.ncreate k ≠ 0 → s.res k ≠ none ∨
              ((s.pc (s.creator k) = .g6 ∨ s.pc (s.creator k) = .g7) ∧ s.key (s.creator k) = k))
  -- after the lookup inside the flight: a hit is what the key holds; a miss means no creation is counted
  r4     : ∀ u, (s.pc u = .g2 ∨ s.pc u = .g3) → (s.found u = true → s.res (s.key u) = some (s.loc u))
              ∧ (s.found u = false → s.ncreate (s.key u) = 0)
  -- … and none is counted while `create` runs
  r4'    : ∀ u, (s.pc u = .g4 ∨ s.pc u = .g5) → s.ncreate (s.key u) = 0
  -- a flight's outcome other than the error value is the key's instance
  r5     : ∀ c v, c < s.next → s.fnres c = some v → v ≠ 0 → s.ncreate (s.ekey c) = 1 ∧ s.inst (s.ekey c) = v
  rets   : ∀ r ∈ s.rets, r.direct = false → r.exec < s.next ∧ s.fnres r.exec = some r.val ∧ s.ekey r.exec = r.key
  -- the lookup in front of the flight (`Cfg.pre`): what it found is (and stays) the stored instance
  pre4   : ∀ u, (s.pc u = .p2 ∨ s.pc u = .p3) → s.found u = true → s.res (s.key u) = some (s.loc u)
  -- a returned value other than the error value is the key's instance; a direct hit never returns the error value
  retsI  : ∀ r ∈ s.rets, r.val ≠ 0 → s.ncreate r.key = 1 ∧ s.inst r.key = r.val
  retsD  : ∀ r ∈ s.rets, r.direct = true → r.val ≠ 0
  -- a panicking create
  cv0    : ∀ u, (s.pc u).noRes = true → s.cval (s.reg u) = 0

theorem inv_init (cfg : Cfg) : Inv (init cfg) := by
  constructor <;> simp [init, PC.holdsLock, PC.inFlight, PC.preReg, PC.owns, PC.wgOne, PC.noRes, PC.stored, PC.waits, PC.after]

variable {s s' : St} {t u : Tid} {x : Nat} {c : CallId} {k : Key} {v : Val}

/-- `g7` writes only where the key holds nothing. -/
theorem res_stable (h : Inv s) (hs : step s t x = some s') (hv : s.res k = some v) : s'.res k = some v := by
  rcases (step_writes hs).res k with e | ⟨ht, rfl, _⟩
  · rw [e, hv]
  · rw [(h.r2 t (.inr ht)).2.2.2.1] at hv; cases hv

/-- `g5` counts a creation only where there was none. -/
theorem made_stable (h : Inv s) (hs : step s t x = some s') (hm : s.ncreate k = 1 ∧ s.inst k = v) :
    s'.ncreate k = 1 ∧ s'.inst k = v := by
  rcases (step_writes hs).ncreate k with ⟨e1, e2, _⟩ | ⟨ht, rfl, _⟩
  · rw [e1, e2]; exact hm
  · rw [h.r4' t (.inr ht)] at hm; cases hm.1

/-- the map and its ghosts at the key of a flight are out of the reach of every goroutine but the one inside it. -/
theorem flight_key (hf : InvF s) (hs : step s t x = some s') (hut : u ≠ t) (hu : (s.pc u).inFlight = true) :
    s'.res (s.key u) = s.res (s.key u) ∧ s'.ncreate (s.key u) = s.ncreate (s.key u) ∧
      s'.inst (s.key u) = s.inst (s.key u) ∧ s'.creator (s.key u) = s.creator (s.key u) := by
  have hk : ∀ {p}, s.pc t = p → p.inFlight = true → s.key u ≠ s.key t := fun ht hp hk =>
    hut (hf.flight_unique u t hu (by rw [ht]; exact hp) hk)
  refine ⟨?_, ?_⟩
  · rcases (step_writes hs).res (s.key u) with e | ⟨ht, e, _⟩
    · exact e
    · exact absurd e (hk ht rfl)
  · rcases (step_writes hs).ncreate (s.key u) with e | ⟨ht, e, _⟩
    · exact e
    · exact absurd e (hk ht rfl)

/-- a key's creation count: row `g5` counts one where there was none (`r4'`), and the creator walks `g6`, `g7` and
then stores. -/
theorem r3_step (h : Inv s) (hs : step s t x = some s') :
    ∀ k, s'.ncreate k ≤ 1 ∧ (s'.ncreate k ≠ 0 → s'.res k ≠ none ∨
      ((s'.pc (s'.creator k) = .g6 ∨ s'.pc (s'.creator k) = .g7) ∧ s'.key (s'.creator k) = k)) := by
  intro k
  obtain ⟨a, b⟩ := h.r3 k
  -- a key that had its creation: it still holds its instance, or its creator is still on the way to the store
  have old : s.ncreate k ≠ 0 → s'.res k ≠ none ∨
      ((s'.pc (s.creator k) = .g6 ∨ s'.pc (s.creator k) = .g7) ∧ s'.key (s.creator k) = k) := fun h0 => by
    rcases b h0 with hr | ⟨hc, hk⟩
    · cases hv : s.res k with
      | none => exact absurd hv hr
      | some v => exact .inl (by rw [res_stable h hs hv]; simp)
    · by_cases hut : s.creator k = t
      · rw [hut] at hc hk ⊢
        rcases hc with hc | hc <;> simp [step, hc] at hs
        · obtain ⟨_, rfl⟩ := hs; exact .inr ⟨by simp [upd], hk⟩
        · subst hs; exact .inl (by simp [upd, hk])
      · have fr := (step_writes hs).other _ hut
        exact .inr ⟨by rw [fr.pc]; exact hc, by rw [fr.key]; exact hk⟩
  rcases (step_writes hs).ncreate k with ⟨e1, _, e3⟩ | ⟨ht, rfl, e1, _, e3, e4, e5⟩ <;> rw [e1, e3]
  · exact ⟨a, old⟩
  · rw [h.r4' t (.inr ht)]
    exact ⟨Nat.le_refl _, fun _ => .inr ⟨.inl e4, e5⟩⟩

/-- what `Inv` says about the view one goroutine `u` has of the map, at its row of the closure or of the lookup in front
of the flight: the clauses `r2 r2' r4 r4' pre4` of `Inv` word for word, at one `u`. -/
structure Inv.Thread (s : St) (u : Tid) : Prop where
  r2   : (s.pc u = .g6 ∨ s.pc u = .g7) → s.ncreate (s.key u) = 1 ∧ s.inst (s.key u) = s.loc u ∧ s.loc u ≠ 0
            ∧ s.res (s.key u) = none ∧ s.creator (s.key u) = u
  r2'  : s.pc u = .g8 → s.res (s.key u) = some (s.loc u)
  r4   : (s.pc u = .g2 ∨ s.pc u = .g3) → (s.found u = true → s.res (s.key u) = some (s.loc u))
            ∧ (s.found u = false → s.ncreate (s.key u) = 0)
  r4'  : (s.pc u = .g4 ∨ s.pc u = .g5) → s.ncreate (s.key u) = 0
  pre4 : (s.pc u = .p2 ∨ s.pc u = .p3) → s.found u = true → s.res (s.key u) = some (s.loc u)

/-- the rows at which `Inv.Thread` says something: after a lookup, on the way to the store, after it. -/
def PC.view : PC → Bool
  | .g2 | .g3 | .g4 | .g5 | .g6 | .g7 | .g8 | .p2 | .p3 => true
  | _ => false

/-- local correctness: the stepping goroutine's own row.  A row that does not lead into `PC.view` (all but nine) is
dismissed before anything is worked out. -/
theorem thread_own (hf : InvF s) (h : Inv s) (hs : step s t x = some s') : Inv.Thread s' t := by
  by_cases hv : (s'.pc t).view = true
  · have a1 := h.r2 t
    have a3 := h.r4 t
    have a4 := h.r4' t
    have a5 := h.pre4 t
    -- a key without a creation holds nothing
    have b1 : s.ncreate (s.key t) = 0 → s.res (s.key t) = none := fun h0 => by
      cases hr : s.res (s.key t) with
      | none => rfl
      | some v => rw [(h.r1 _ v hr).1] at h0; cases h0
    by_cases hrd : s.pc t = .g1 ∨ s.pc t = .p1
    · -- the rows that read the map.  In `g1`, a key that holds nothing and has a creation would have its creator inside
      -- this flight
      have b2 : s.pc t = .g1 → s.res (s.key t) = none → s.ncreate (s.key t) = 0 := fun ht hn => by
        cases h0 : s.ncreate (s.key t) with
        | zero => rfl
        | succ n =>
          rcases (h.r3 (s.key t)).2 (by rw [h0]; exact Nat.succ_ne_zero n) with hr | ⟨hw, hk⟩
          · exact absurd hn hr
          · have := hf.flight_unique _ t (by rcases hw with hw | hw <;> simp [hw, PC.inFlight]) (by simp [ht, PC.inFlight]) hk
            rw [this, ht] at hw; rcases hw with hw | hw <;> cases hw
      clear hv
      rcases hrd with hg | hg <;> simp [step, hg] at hs <;> subst hs <;>
        rcases hr : s.res (s.key t) with _ | v <;> constructor <;> simp_all [upd]
    · step_cases hs <;> simp [upd, PC.view] at hv <;> simp [*] at a1 a3 a4 a5 hrd <;> constructor <;> simp [upd, *] <;>
        assumption
  · constructor <;> intro hu <;> exfalso <;> revert hv hu <;> cases s'.pc t <;> simp [PC.view]

/-- interference freedom: a step of `t` leaves the view another goroutine `u` has of the map intact. -/
theorem thread_other (hf : InvF s) (h : Inv s) (hs : step s t x = some s') (hut : u ≠ t) : Inv.Thread s' u := by
  have fr := (step_writes hs).other u hut
  -- inside a flight, the map and its ghosts at `u`'s key are out of `t`'s reach
  have fk := fun hu => flight_key hf hs hut hu
  constructor <;> rw [fr.pc, fr.key]
  case r2 =>
    intro hu
    obtain ⟨k1, k2, k3, k4⟩ := fk (by rcases hu with hu | hu <;> simp [hu, PC.inFlight])
    rw [fr.loc, k1, k2, k3, k4]
    exact h.r2 u hu
  case r2' => intro hu; rw [fr.loc]; exact res_stable h hs (h.r2' u hu)
  case r4 =>
    intro hu
    obtain ⟨k1, k2, _⟩ := fk (by rcases hu with hu | hu <;> simp [hu, PC.inFlight])
    rw [fr.loc, fr.found, k1, k2]
    exact h.r4 u hu
  case r4' =>
    intro hu
    rw [(fk (by rcases hu with hu | hu <;> simp [hu, PC.inFlight])).2.1]
    exact h.r4' u hu
  case pre4 => intro hu hfd; rw [fr.found] at hfd; rw [fr.loc]; exact res_stable h hs (h.pre4 u hu hfd)

theorem thread_step (hf : InvF s) (h : Inv s) (hs : step s t x = some s') (u : Tid) : Inv.Thread s' u := by
  by_cases hut : u = t
  · subst hut; exact thread_own hf h hs
  · exact thread_other hf h hs hut

theorem inv_step (hf : InvF s) (f : InvF s') (h : Inv s) (hs : step s t x = some s') : Inv s' :=
  { f with
    r2 u := (thread_step hf h hs u).r2
    r2' u := (thread_step hf h hs u).r2'
    r4 u := (thread_step hf h hs u).r4
    r4' u := (thread_step hf h hs u).r4'
    pre4 u := (thread_step hf h hs u).pre4
    r1 k v hv := by
      suffices s.ncreate k = 1 ∧ s.inst k = v ∧ v ≠ 0 from ⟨(made_stable h hs ⟨this.1, this.2.1⟩).1, (made_stable h hs ⟨this.1, this.2.1⟩).2, this.2.2⟩
      rcases (step_writes hs).res k with e | ⟨ht, rfl, e⟩ <;> rw [e] at hv
      · exact h.r1 k v hv
      · -- the instance stored just now is the one created
        cases hv
        obtain ⟨a, b, c, _⟩ := h.r2 t (.inr ht)
        exact ⟨a, b, c⟩
    r3 := r3_step h hs
    r5 c v hc hv hz := by
      rcases call_cases s.next c (s.reg t) (s.pc t).owns with hn | ⟨ho, rfl⟩ | ⟨hn, ho⟩
      · rw [(step_blank hs hn hc).2] at hv; cases hv
      · -- the closure hands out what it found in the map (`g3`) or what it stored there (`g8`)
        obtain ⟨o1, _, o3, _⟩ := hf.owns t ho
        rw [((step_writes hs).alloc _ o1).2.1, o3]
        apply made_stable h hs
        rcases (step_writes hs).fnres_own ho with e | e | ⟨hpc, hfd, e⟩ | ⟨hpc, e⟩ <;> rw [e] at hv
        · rw [← o3]; exact h.r5 _ v o1 hv hz
        · rw [Option.some.injEq] at hv; exact absurd hv.symm hz
        all_goals
          cases hv
        · exact ⟨(h.r1 _ _ ((h.r4 t (.inr hpc)).1 hfd)).1, (h.r1 _ _ ((h.r4 t (.inr hpc)).1 hfd)).2.1⟩
        · exact ⟨(h.r1 _ _ (h.r2' t hpc)).1, (h.r1 _ _ (h.r2' t hpc)).2.1⟩
      · rw [(step_writes hs).fnres c hn fun ht => ho (PC.owns_of_noRes ht)] at hv
        rw [((step_writes hs).alloc c hn).2.1]
        exact made_stable h hs (h.r5 c v hn hv hz)
    retsI r hr hv := by
      apply made_stable h hs
      rcases mem_of_appended (rets_new hf hs) hr with hm | ⟨hk, ⟨_, hpc, hfd, e1⟩ | ⟨_, a1, a2, a3⟩⟩
      · exact h.retsI r hm hv
      · -- a direct hit returns the stored instance
        have := h.r1 _ _ (h.pre4 t (.inr hpc) hfd)
        rw [hk, e1]; exact ⟨this.1, this.2.1⟩
      · rw [← a3]; exact h.r5 _ _ a1 a2 hv
    retsD r hr hd := by
      rcases mem_of_appended (rets_new hf hs) hr with hm | ⟨_, ⟨_, hpc, hfd, e1⟩ | ⟨hd', _⟩⟩
      · exact h.retsD r hm hd
      · rw [e1]; exact (h.r1 _ _ (h.pre4 t (.inr hpc) hfd)).2.2
      · rw [hd] at hd'; cases hd' }

end GoZero.C07.RM
