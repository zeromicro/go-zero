/-
C11 — property theorems (proofs of the invariants are in Proofs*.lean).

The model (Model.lean) is a small-step transition system with one row per atomic action of
periodicalexecutor.go, for ANY number of goroutines; `Reachable cfg s` quantifies over every schedule of
Add / Flush / Wait callers, background flushers that quit when idle and are restarted, ticker ticks, clock
advances, and callbacks that return or panic.  `cfg.full` (the container's threshold test) is arbitrary,
so bulk (count ≥ max) and chunk (bytes ≥ max) executors are instances.
-/
import GoZero.C11.Proofs
import GoZero.C11.ProofsWait
import GoZero.C11.ProofsWaitStep
namespace GoZero.C11

/-- tasks in the hands of goroutines (taken out of the container / commander, callback not ended yet) -/
def inHands (x : Task) (s : St) : Nat := ((s.thr.map fun th => th.reg.count x)).sum
/-- tasks in the commander channel's buffer -/
def inCommander (x : Task) (s : St) : Nat := match s.commander with | some b => b.count x | none => 0

/-- **No loss, no duplication** (multiset conservation), for every schedule and any number of goroutines:
every task accepted by `AddTask` is in exactly one of: the container, the commander buffer, the hands of one
goroutine (producer handing over, flusher, `Flush`/`Wait` caller — before or inside the callback), or the
multiset of tasks whose callback has ended. In particular a task reaches the callback at most once, and is
never dropped — across threshold hand-overs, periodic flushes, explicit flushes, flusher quit and restart. -/
theorem no_loss_no_dup (cfg : Cfg) (s : St) (h : Reachable cfg s) (x : Task) :
    s.added.count x = s.container.count x + inCommander x s + inHands x s + s.finished.count x :=
  -- `Inv.cons` is stated with `cmdCount`, `held` (Proofs.lean), which unfold to `inCommander`, `inHands`
  (inv_reachable h).cons x

/-- a goroutine holds tasks only between taking a batch and the end of its callback -/
theorem hands_empty_outside_execution (cfg : Cfg) (s : St) (h : Reachable cfg s) (t : Nat) (th : Thread)
    (ht : s.thr[t]? = some th) (hp : holds th.pc = false) : th.reg = [] :=
  (inv_reachable h).empty t th ht hp

theorem inHands_eq_zero (x : Task) (s : St) (h : ∀ (t : Nat) (th : Thread), s.thr[t]? = some th → th.reg = []) :
    inHands x s = 0 :=
  sumBy_eq_zero (fun th => th.reg.count x) s.thr fun t th ht => by rw [h t th ht]; rfl

/-- **Exactly once at rest**: when nothing is pending (container and commander empty, nobody holds a batch),
the tasks whose callback ended are a permutation of the tasks added. -/
theorem exactly_once_at_rest (cfg : Cfg) (s : St) (h : Reachable cfg s) (hc : s.container = [])
    (hcmd : s.commander = none) (hh : ∀ (t : Nat) (th : Thread), s.thr[t]? = some th → th.reg = []) :
    s.finished.Perm s.added := by
  rw [List.perm_iff_count]
  intro x
  have := no_loss_no_dup cfg s h x
  have h0 := inHands_eq_zero x s hh
  simp [hc, inCommander, hcmd, h0] at this
  omega

/-- **A panicking callback loses only its own batch**: a callback that panics is, for everybody else,
the same step as a callback that returns — same container, commander, counters and goroutine states
(`RunSafe` recovers, the deferred `wg.Done` still runs next); only the ghost `lost` records the batch. -/
theorem panic_loses_own_batch_only (cfg : Cfg) (s s' : St) (t : Nat)
    (h : step cfg s t (.cbEnd true) = some s') :
    step cfg s t (.cbEnd false) = some { s' with lost := s.lost } ∧
    ∃ th, s.thr[t]? = some th ∧ s'.lost = s.lost ++ th.reg ∧ s'.finished = s.finished ++ th.reg := by
  rcases step_row h with ⟨_, hd, _⟩ | ⟨pc, reg, last, snap, hth, hr⟩
  · cases hd
  cases hr
  case fCall c => exact ⟨Row.step (.fCall c false) hth, _, hth, rfl, rfl⟩
  case bCall => exact ⟨Row.step (.bCall false) hth, _, hth, rfl, rfl⟩

/-! ### Wait covers prior adds

`th.snap` = the tasks accepted (`AddTask` done) before this goroutine called `Wait`; `.wUnbarrier` =
`waitGroup.Wait()` has returned.  The proof is by the invariant `WInv` of ProofsWait.lean (wg = number of
goroutines between wg.Add and wg.Done; inflight = number of handed-over batches not yet decremented; per Wait
caller a phase inequality), which holds initially and is preserved by every row of the step table of the fixed code
(ProofsWaitStep.lean: `winv_step`, by cases on the row).  In the statements below `nEntered`, `nLimbo` count the
goroutines whose pc is `entered` / `limbo` (they unfold to `cnt entered`, `cnt limbo` of ProofsGuard.lean), `cmd01` is 1
while the commander holds a batch, `eHeld x s` counts `x` in the registers of the `entered` goroutines.  The pinned
(pre-fix) order violates the property (`pinned_wait_misses_handover`). -/

theorem wait_invariant_reachable (cfg : Cfg) (hfix : cfg.fixed = true) (s : St) (h : Reachable cfg s) : WInv s :=
  reachable_invariant winv_init (winv_step cfg hfix) h

/-- **Wait covers prior adds** (fixed code, every schedule, any number of goroutines): when `Wait` has come back
from `waitGroup.Wait()`, the callback of every task that was accepted before `Wait` was called has ended. -/
theorem wait_covers_prior_adds (cfg : Cfg) (hfix : cfg.fixed = true) (s : St) (h : Reachable cfg s)
    (t : Nat) (th : Thread) (ht : s.thr[t]? = some th) (hpc : th.pc = .wUnbarrier) (x : Task) :
    th.snap.count x ≤ s.finished.count x :=
  ((wait_invariant_reachable cfg hfix s h).ph t th ht x).2.2 (by simp [hpc, phase])

/-- the two decisive steps on the way: once `Wait` has seen `inflight ≤ 0`, every prior task is finished or in
the hands of a goroutine that is counted in the wait group … -/
theorem wait_after_spin_covers (cfg : Cfg) (hfix : cfg.fixed = true) (s : St) (h : Reachable cfg s)
    (t : Nat) (th : Thread) (ht : s.thr[t]? = some th) (hpc : th.pc = .wBarrier ∨ th.pc = .wWait) (x : Task) :
    th.snap.count x ≤ s.finished.count x + eHeld x s :=
  ((wait_invariant_reachable cfg hfix s h).ph t th ht x).2.1 (by rcases hpc with h | h <;> simp [h, phase])

/-- … and the counters mean what the protocol needs: `wg` counts exactly the goroutines between `wg.Add(1)` and
`wg.Done()`, `inflight` exactly the batches between `atomic.AddInt32(&pe.inflight, 1)` in `addAndCheck` and the
flusher's decrement. -/
theorem counters_exact (cfg : Cfg) (hfix : cfg.fixed = true) (s : St) (h : Reachable cfg s) :
    s.wg = nEntered s ∧ s.inflight = ((nLimbo s + cmd01 s : Nat) : Int) :=
  ⟨(wait_invariant_reachable cfg hfix s h).wg, (wait_invariant_reachable cfg hfix s h).infl⟩

/-- non-vacuity: on the fixed code a `Wait` does get to `.wUnbarrier` with a non-empty snapshot (caller 0 adds
task 1, caller 1 calls Wait, flushes it itself, the callback returns, the spin and the wait group let it pass) -/
def waitSchedule : List (Nat × Act) :=
  [(0, .add 1), (0, .tau), (0, .tau), (0, .tau), (0, .tau), (0, .tau),
   (1, .wait), (1, .tau), (1, .tau), (1, .tau), (1, .tau), (1, .tau), (1, .cbEnd false),
   (1, .tau), (1, .tau), (1, .tau), (1, .tau)]

example : ∃ s th, Reachable { full := bulkFull 2, fixed := true } s ∧ s.thr[1]? = some th ∧
    th.pc = .wUnbarrier ∧ th.snap = [1] ∧ s.finished = [1] := by
  have hr : ∃ s, run { full := bulkFull 2, fixed := true } (init 3) waitSchedule = some s ∧
      ∃ th, s.thr[1]? = some th ∧ th.pc = .wUnbarrier ∧ th.snap = [1] ∧ s.finished = [1] := by decide
  obtain ⟨s, h1, th, h2⟩ := hr
  exact ⟨s, th, reachable_run (Reachable.init 3) _ h1, h2⟩

/-- the schedule of the defect found on the unfixed code (replayed on the real code by the harness, section 0):
caller 0 fills a batch (1,2) whose callback is still running in the flusher (goroutine 3), adds 3; caller 1
adds 4, takes the batch (3,4) and parks it in the commander; caller 2 calls Wait; the first callback ends. -/
def pinnedSchedule : List (Nat × Act) :=
  [(0, .add 1), (0, .tau), (0, .tau), (0, .tau), (0, .tau), (0, .tau), (3, .start),
   (0, .add 2), (0, .tau), (0, .tau), (0, .tau), (0, .tau), (0, .tau), (0, .tau), (0, .tau),
   (3, .tau), (3, .tau), (3, .tau), (3, .confirm 0), (3, .tau),
   (0, .add 3), (0, .tau), (0, .tau), (0, .tau), (0, .tau),
   (1, .add 4), (1, .tau), (1, .tau), (1, .tau), (1, .tau), (1, .tau), (1, .tau), (1, .tau),
   (2, .wait), (2, .tau), (2, .tau), (2, .tau), (2, .tau), (2, .tau), (2, .tau), (2, .tau),
   (3, .cbEnd false), (3, .tau), (3, .tau), (3, .tau), (2, .tau)]

def missedAt (s : St) : Bool :=
  match s.thr[2]? with
  | some th => th.pc == .wUnbarrier && th.snap.contains 3 && !(s.finished.contains 3) && (s.added == [1, 2, 3, 4])
  | none => false

/-- **Witness of the defect** (pinned order: the flusher decrements `inflight` and only then enters the wait
group; `Wait` does not look at `inflight`): there is a schedule after which `Wait` has returned while task 3,
accepted before `Wait` was called, has not reached the callback. -/
theorem pinned_wait_misses_handover :
    (run { full := bulkFull 2, fixed := false } (init 4) pinnedSchedule).map missedAt = some true := by
  decide

/-- the same schedule is not executable on the fixed code: `Wait` is held back by `inflight > 0`. -/
theorem fixed_blocks_pinned_schedule :
    (run { full := bulkFull 2, fixed := true } (init 4) pinnedSchedule).isNone = true := by
  decide

/-- non-vacuity: the state after the defect schedule (4 goroutines: two producers, a Wait caller, a flusher;
one batch finished, one parked in a goroutine's hands) is reachable, and the conservation equation holds
there with a non-trivial split: task 3 is neither in the container nor finished — it is in the flusher's hands. -/
example : ∃ s, Reachable { full := bulkFull 2, fixed := false } s ∧ s.added = [1, 2, 3, 4] ∧
    s.finished = [1, 2] ∧ s.container = [] ∧ inHands 3 s = 1 :=
  reachable_of_run 4 pinnedSchedule (by decide)

end GoZero.C11
