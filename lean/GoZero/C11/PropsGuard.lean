/-
C11 — "on the periodic flush": while tasks are pending in the container, somebody is committed to flush them.
The driver (Driver.lean) checks the same condition on every observed run ("tasks … are pending in the container but
no background flusher exists"); here it is an inductive invariant of the step table, for every configuration, schedule and number of
goroutines.  It is the theorem in which the flusher's DEFERRED quit-time Flush takes part: an Add can slip in
between the flusher's empty tick Flush and its quit decision — then the container is not empty, `guarded` is
reset, no flusher is alive, and only the quitting goroutine's deferred Flush stands between the task and oblivion.
-/
import GoZero.C11.ProofsLive
namespace GoZero.C11

theorem guard_invariant_reachable (cfg : Cfg) (s : St) (h : Reachable cfg s) : GInv s := (pinv_reachable h).1

/-- `guarded` means what the protocol needs: while it is set, a background flusher is alive or on its way -/
theorem guarded_means_flusher_alive (cfg : Cfg) (s : St) (h : Reachable cfg s) (hg : s.guarded = true) :
    0 < s.spawn ∨ ∃ (t : Nat) (th : Thread), s.thr[t]? = some th ∧ (flusherPc th.pc = true ∨ spawning th.pc = true) := by
  have ha := (guard_invariant_reachable cfg s h).alive hg
  by_cases h0 : 0 < s.spawn
  · exact Or.inl h0
  · exact Or.inr (exists_of_cnt_add_pos flusherPc spawning s (by omega))

/-- **pending tasks have a flusher** (every cfg, schedule, number of goroutines): while the container is not empty,
there is a goroutine committed to flushing it without any further call of the API (where it stands, not that it
gets there: ticks and the scheduler are the environment) —
a live background flusher (between its start and its quit decision: its next tick flushes), or the `go` of one is
pending (spawn token) or about to be issued by a producer that has set `guarded`, or a producer is still inside
`addAndCheck` before the deferred guard check (it will start one, or one exists), or a flusher that has decided to
quit has not yet run its deferred `Flush` (which takes the whole container: `flush_takes_all_pending`). -/
theorem pending_tasks_have_a_flusher (cfg : Cfg) (s : St) (h : Reachable cfg s) (hc : s.container ≠ []) :
    0 < s.spawn ∨ ∃ (t : Nat) (th : Thread), s.thr[t]? = some th ∧
      (flusherPc th.pc = true ∨ spawning th.pc = true ∨ preGuard th.pc = true ∨ quitting th.pc = true) := by
  have hp := (guard_invariant_reachable cfg s h).pending hc
  cases hg : s.guarded with
  | true =>
    rcases guarded_means_flusher_alive cfg s h hg with h0 | ⟨t, th, ht, hq | hq⟩
    · exact Or.inl h0
    · exact Or.inr ⟨t, th, ht, Or.inl hq⟩
    · exact Or.inr ⟨t, th, ht, Or.inr (Or.inl hq)⟩
  | false =>
    rw [hg, b2n_false] at hp
    obtain ⟨t, th, ht, hq⟩ := exists_of_cnt_add_pos preGuard quitting s (by omega)
    exact Or.inr ⟨t, th, ht, Or.inr (Or.inr hq)⟩

/-- caller 0 adds task 1 (threshold 3), the flusher (goroutine 2) flushes it on a tick; 11 intervals later the next
tick finds nothing, the flusher is past the idle bound and on its way to the lock of `shallQuit` when caller 0 adds
task 2 (sees `guarded`, starts nobody); the flusher then resets `guarded` and decides to quit. -/
def quitWindowSchedule : List (Nat × Act) :=
  [(0, .add 1), (0, .tau), (0, .tau), (0, .tau), (0, .tau), (0, .tau), (2, .start),
   (2, .tick), (2, .tau), (2, .tau), (2, .tau), (2, .tau), (2, .tau), (2, .cbEnd false), (2, .tau),
   (0, .advance 11),
   (2, .tick), (2, .tau), (2, .tau), (2, .tau), (2, .tau), (2, .tau), (2, .tau), (2, .tau),
   (0, .add 2), (0, .tau), (0, .tau), (0, .tau), (0, .tau),
   (2, .tau), (2, .tau), (2, .tau)]

/-- **witness**: a reachable configuration in which a task is pending, `guarded` is reset, no `go` is pending and
the ONLY goroutine that is not idle is the flusher that has decided to quit — the `quitting` disjunct of
`pending_tasks_have_a_flusher` cannot be dropped, i.e. without `defer pe.Flush()` in `backgroundFlush` task 2 would
never be executed unless somebody calls the API again.  Three more steps of that goroutine take the task. -/
theorem quit_time_flush_is_needed :
    (run { full := bulkFull 3, interval := 1 } (init 3) quitWindowSchedule).map
      (fun s => (s.container, s.guarded, s.spawn, s.thr.map (·.pc))) =
      some ([2], false, 0, [.idle, .idle, .fEnter .quit]) ∧
    ((run { full := bulkFull 3, interval := 1 } (init 3) (quitWindowSchedule ++ [(2, .tau), (2, .tau), (2, .tau)])).map
      (fun s => (s.container, s.thr[2]?.map (·.reg)))) = some ([], some [2]) := by
  decide

/-- non-vacuity of `pending_tasks_have_a_flusher`: the witness state is reachable and its container is not empty -/
example : ∃ s, Reachable { full := bulkFull 3, interval := 1 } s ∧ s.container = [2] ∧ s.guarded = false :=
  reachable_of_run 3 quitWindowSchedule (by decide)

end GoZero.C11
