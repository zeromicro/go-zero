/-
C11 — the step table of Model.lean as a relation `Row cfg s t reg last snap pc a s'`: one constructor per row of
`stepTh` and per outcome of a row's test, the guard as a hypothesis, the successor state written out.  The pc is an
index, so a proof about every step is one `cases` that fixes the pc (`step_row`); `Row.step` is the converse.
`bTakePinned`, `bDec`, `bEnter`, `fDoneWaitPinned` are the rows of the order before fixes/C11-wait-misses-handover.patch
(`cfg.fixed = false`: the flusher decrements `inflight` before it enters the wait group, `Wait` does not poll).
-/
import GoZero.C11.Model
namespace GoZero.C11

section
variable (cfg : Cfg) (s : St) (t : Nat) (reg : List Task) (last : Nat) (snap : List Task)

inductive Row : Pc → Act → St → Prop
  | add (x : Task) : Row .idle (.add x) (s.upd t ⟨.aLock x, reg, last, snap⟩)
  | flush : Row .idle .flush (s.upd t ⟨.fEnter .ext, reg, last, snap⟩)
  | wait : Row .idle .wait (s.upd t ⟨.fEnter .wait, reg, last, s.added⟩)
  | start (hsp : s.spawn ≠ 0) :
      Row .idle .start ({ s with spawn := s.spawn - 1 }.upd t ⟨.bSelect false, reg, s.now, snap⟩)
  | aLock (x : Task) (hl : s.lock = false) :
      Row (.aLock x) .tau ({ s with lock := true }.upd t ⟨.aAdd x, reg, last, snap⟩)
  | aAddFull (x : Task) (hf : cfg.full (s.container ++ [x]) = true) :
      Row (.aAdd x) .tau
        ({ s with container := s.container ++ [x], added := s.added ++ [x] }.upd t ⟨.aInc, reg, last, snap⟩)
  | aAddRoom (x : Task) (hf : cfg.full (s.container ++ [x]) = false) :
      Row (.aAdd x) .tau
        ({ s with container := s.container ++ [x], added := s.added ++ [x] }.upd t ⟨.aGuard false, reg, last, snap⟩)
  | aInc : Row .aInc .tau ({ s with inflight := s.inflight + 1 }.upd t ⟨.aRemove, reg, last, snap⟩)
  | aRemove : Row .aRemove .tau ({ s with container := [] }.upd t ⟨.aGuard true, s.container, last, snap⟩)
  | aGuardKeep (ok : Bool) (hg : s.guarded = true) :
      Row (.aGuard ok) .tau (s.upd t ⟨.aUnlock ok false, reg, last, snap⟩)
  | aGuardSet (ok : Bool) (hg : s.guarded = false) :
      Row (.aGuard ok) .tau ({ s with guarded := true }.upd t ⟨.aUnlock ok true, reg, last, snap⟩)
  | aUnlockSpawn (ok : Bool) :
      Row (.aUnlock ok true) .tau ({ s with lock := false }.upd t ⟨.aSpawn ok, reg, last, snap⟩)
  | aUnlockSend : Row (.aUnlock true false) .tau ({ s with lock := false }.upd t ⟨.aSend, reg, last, snap⟩)
  | aUnlockIdle : Row (.aUnlock false false) .tau ({ s with lock := false }.upd t ⟨.idle, reg, last, snap⟩)
  | aSpawnSend : Row (.aSpawn true) .tau ({ s with spawn := s.spawn + 1 }.upd t ⟨.aSend, reg, last, snap⟩)
  | aSpawnIdle : Row (.aSpawn false) .tau ({ s with spawn := s.spawn + 1 }.upd t ⟨.idle, reg, last, snap⟩)
  | aSend (hc : s.commander = none) :
      Row .aSend .tau ({ s with commander := some reg }.upd t ⟨.aConfirm, [], last, snap⟩)
  | fEnter (c : Ctx) (hb : s.barrier = false) :
      Row (.fEnter c) .tau ({ s with wg := s.wg + 1 }.upd t ⟨.fLock c, reg, last, snap⟩)
  | fLock (c : Ctx) (hl : s.lock = false) :
      Row (.fLock c) .tau ({ s with lock := true }.upd t ⟨.fRemove c, reg, last, snap⟩)
  | fRemove (c : Ctx) :
      Row (.fRemove c) .tau ({ s with container := [] }.upd t ⟨.fUnlock c, s.container, last, snap⟩)
  | fUnlock (c : Ctx) : Row (.fUnlock c) .tau ({ s with lock := false }.upd t ⟨.fExec c, reg, last, snap⟩)
  | fExecNone (c : Ctx) (hr : reg = []) : Row (.fExec c) .tau (s.upd t ⟨.fDone c false, reg, last, snap⟩)
  | fExecCall (c : Ctx) (hr : reg ≠ []) : Row (.fExec c) .tau (s.upd t ⟨.fCall c, reg, last, snap⟩)
  | fCall (c : Ctx) (p : Bool) :
      Row (.fCall c) (.cbEnd p)
        ({ s with finished := s.finished ++ reg, lost := if p then s.lost ++ reg else s.lost }.upd t
          ⟨.fDone c true, [], last, snap⟩)
  | fDoneExt (ok : Bool) (hw : s.wg ≠ 0) :
      Row (.fDone .ext ok) .tau ({ s with wg := s.wg - 1 }.upd t ⟨.idle, reg, last, snap⟩)
  | fDoneQuit (ok : Bool) (hw : s.wg ≠ 0) :
      Row (.fDone .quit ok) .tau ({ s with wg := s.wg - 1 }.upd t ⟨.idle, reg, last, snap⟩)
  | fDoneWait (ok : Bool) (hw : s.wg ≠ 0) (hfix : cfg.fixed = true) :
      Row (.fDone .wait ok) .tau ({ s with wg := s.wg - 1 }.upd t ⟨.wSpin, reg, last, snap⟩)
  | fDoneWaitPinned (ok : Bool) (hw : s.wg ≠ 0) (hfix : cfg.fixed = false) :
      Row (.fDone .wait ok) .tau ({ s with wg := s.wg - 1 }.upd t ⟨.wBarrier, reg, last, snap⟩)
  | fDoneTick (hw : s.wg ≠ 0) :
      Row (.fDone .tick true) .tau ({ s with wg := s.wg - 1 }.upd t ⟨.bSelect false, reg, s.now, snap⟩)
  | fDoneTickEmpty (hw : s.wg ≠ 0) :
      Row (.fDone .tick false) .tau ({ s with wg := s.wg - 1 }.upd t ⟨.bQuit, reg, last, snap⟩)
  | wSpin (hi : ¬ s.inflight > 0) : Row .wSpin .tau (s.upd t ⟨.wBarrier, reg, last, snap⟩)
  | wBarrier (hb : s.barrier = false) :
      Row .wBarrier .tau ({ s with barrier := true }.upd t ⟨.wWait, reg, last, snap⟩)
  | wWait (hw : s.wg = 0) : Row .wWait .tau (s.upd t ⟨.wUnbarrier, reg, last, snap⟩)
  | wUnbarrier : Row .wUnbarrier .tau ({ s with barrier := false }.upd t ⟨.idle, reg, last, snap⟩)
  | bTake (cm : Bool) (b : List Task) (hc : s.commander = some b) (hfix : cfg.fixed = true) :
      Row (.bSelect cm) .tau ({ s with commander := none }.upd t ⟨.bEnterF, b, last, snap⟩)
  | bTakePinned (cm : Bool) (b : List Task) (hc : s.commander = some b) (hfix : cfg.fixed = false) :
      Row (.bSelect cm) .tau ({ s with commander := none }.upd t ⟨.bDec, b, last, snap⟩)
  | bTickSkip : Row (.bSelect true) .tick (s.upd t ⟨.bSelect false, reg, last, snap⟩)
  | bTickFlush : Row (.bSelect false) .tick (s.upd t ⟨.fEnter .tick, reg, last, snap⟩)
  | bDec : Row .bDec .tau ({ s with inflight := s.inflight - 1 }.upd t ⟨.bEnter, reg, last, snap⟩)
  | bEnter (hb : s.barrier = false) :
      Row .bEnter .tau ({ s with wg := s.wg + 1 }.upd t ⟨.bConfirm, reg, last, snap⟩)
  | bEnterF (hb : s.barrier = false) :
      Row .bEnterF .tau ({ s with wg := s.wg + 1 }.upd t ⟨.bDecF, reg, last, snap⟩)
  | bDecF : Row .bDecF .tau ({ s with inflight := s.inflight - 1 }.upd t ⟨.bConfirm, reg, last, snap⟩)
  /-- the rendezvous moves two goroutines: the flusher `t` and the producer `u` it confirms -/
  | bConfirm (u : Nat) (tu : Thread) (hu : s.thr[u]? = some tu) (hpu : tu.pc = .aConfirm) :
      Row .bConfirm (.confirm u) ((s.upd t ⟨.bExec, reg, last, snap⟩).upd u { tu with pc := .idle })
  | bExecNone (hr : reg = []) : Row .bExec .tau (s.upd t ⟨.bDone, reg, last, snap⟩)
  | bExecCall (hr : reg ≠ []) : Row .bExec .tau (s.upd t ⟨.bCall, reg, last, snap⟩)
  | bCall (p : Bool) :
      Row .bCall (.cbEnd p)
        ({ s with finished := s.finished ++ reg, lost := if p then s.lost ++ reg else s.lost }.upd t
          ⟨.bDone, [], last, snap⟩)
  | bDone (hw : s.wg ≠ 0) : Row .bDone .tau ({ s with wg := s.wg - 1 }.upd t ⟨.bSelect true, reg, s.now, snap⟩)
  | bQuitStay (hq : s.now - last ≤ cfg.interval * idleRound) :
      Row .bQuit .tau (s.upd t ⟨.bSelect false, reg, last, snap⟩)
  | bQuitGo (hq : ¬ s.now - last ≤ cfg.interval * idleRound) :
      Row .bQuit .tau (s.upd t ⟨.qLock, reg, last, snap⟩)
  | qLock (hl : s.lock = false) : Row .qLock .tau ({ s with lock := true }.upd t ⟨.qCheck, reg, last, snap⟩)
  | qCheckStop (hi : s.inflight = 0) :
      Row .qCheck .tau ({ s with guarded := false }.upd t ⟨.qUnlock true, reg, last, snap⟩)
  | qCheckStay (hi : s.inflight ≠ 0) : Row .qCheck .tau (s.upd t ⟨.qUnlock false, reg, last, snap⟩)
  | qUnlockStop : Row (.qUnlock true) .tau ({ s with lock := false }.upd t ⟨.fEnter .quit, reg, last, snap⟩)
  | qUnlockStay : Row (.qUnlock false) .tau ({ s with lock := false }.upd t ⟨.bSelect false, reg, last, snap⟩)
end

variable {cfg : Cfg} {s s' : St} {t : Nat} {a : Act}

theorem stepTh_row {pc : Pc} {reg : List Task} {last : Nat} {snap : List Task}
    (h : stepTh cfg s t ⟨pc, reg, last, snap⟩ a = some s') : Row cfg s t reg last snap pc a s' := by
  -- one bullet per alternative of `stepTh`, in its order
  unfold stepTh at h
  dsimp only at h
  split at h
  · cases h; exact .add _
  · cases h; exact .flush
  · cases h; exact .wait
  · split at h <;> cases h; exact .start ‹_›
  · split at h <;> cases h; exact .aLock _ (Bool.eq_false_iff.mpr ‹_›)
  · split at h <;> cases h
    · exact .aAddFull _ ‹_›
    · exact .aAddRoom _ (Bool.eq_false_iff.mpr ‹_›)
  · cases h; exact .aInc
  · cases h; exact .aRemove
  · split at h <;> cases h
    · exact .aGuardKeep _ ‹_›
    · exact .aGuardSet _ (Bool.eq_false_iff.mpr ‹_›)
  · rename_i ok sp; cases ok <;> cases sp <;> cases h <;> constructor <;> assumption
  · rename_i ok; cases ok <;> cases h <;> constructor <;> assumption
  · split at h <;> cases h; exact .aSend ‹_›
  · split at h <;> cases h; exact .fEnter _ (Bool.eq_false_iff.mpr ‹_›)
  · split at h <;> cases h; exact .fLock _ (Bool.eq_false_iff.mpr ‹_›)
  · cases h; exact .fRemove _
  · cases h; exact .fUnlock _
  · split at h <;> cases h
    · exact .fExecNone _ ‹_›
    · exact .fExecCall _ ‹_›
  · cases h; exact .fCall _ _
  · rename_i c ok
    split at h
    · cases h
    · cases hf : cfg.fixed <;> cases c <;> cases ok <;> simp only [flushRet, hf] at h <;> cases h <;>
        first | exact .fDoneQuit _ ‹_› | (constructor <;> assumption)
  · split at h <;> cases h; exact .wSpin ‹_›
  · split at h <;> cases h; exact .wBarrier (Bool.eq_false_iff.mpr ‹_›)
  · split at h <;> cases h; exact .wWait ‹_›
  · cases h; exact .wUnbarrier
  · split at h
    · cases h
    · cases hf : cfg.fixed <;> simp only [hf] at h <;> cases h <;> constructor <;> assumption
  · rename_i cm; cases cm <;> cases h <;> constructor <;> assumption
  · cases h; exact .bDec
  · split at h <;> cases h; exact .bEnter (Bool.eq_false_iff.mpr ‹_›)
  · split at h <;> cases h; exact .bEnterF (Bool.eq_false_iff.mpr ‹_›)
  · cases h; exact .bDecF
  · split at h
    · split at h <;> cases h; exact .bConfirm _ _ ‹_› ‹_›
    · cases h
  · split at h <;> cases h
    · exact .bExecNone ‹_›
    · exact .bExecCall ‹_›
  · cases h; exact .bCall _
  · split at h <;> cases h; exact .bDone ‹_›
  · split at h <;> cases h
    · exact .bQuitStay ‹_›
    · exact .bQuitGo ‹_›
  · split at h <;> cases h; exact .qLock (Bool.eq_false_iff.mpr ‹_›)
  · split at h <;> cases h
    · exact .qCheckStop ‹_›
    · exact .qCheckStay ‹_›
  · rename_i stop; cases stop <;> cases h <;> constructor <;> assumption
  · cases h

theorem step_row (h : step cfg s t a = some s') :
    (∃ d, a = .advance d ∧ s' = { s with now := s.now + d }) ∨
      ∃ pc reg last snap, s.thr[t]? = some ⟨pc, reg, last, snap⟩ ∧ Row cfg s t reg last snap pc a s' := by
  unfold step at h
  split at h
  · cases h; exact .inl ⟨_, rfl, rfl⟩
  · split at h
    · cases h
    · exact .inr ⟨_, _, _, _, ‹_›, stepTh_row h⟩

theorem Row.step {pc : Pc} {reg : List Task} {last : Nat} {snap : List Task}
    (hr : Row cfg s t reg last snap pc a s') (hth : s.thr[t]? = some ⟨pc, reg, last, snap⟩) :
    step cfg s t a = some s' := by
  cases hr <;> simp [GoZero.C11.step, stepTh, flushRet, *]

theorem getElem?_upd (s : St) (t : Nat) (th' : Thread) (u : Nat) :
    (s.upd t th').thr[u]? = if t = u then (if t < s.thr.length then some th' else none) else s.thr[u]? := by
  simp [St.upd, List.getElem?_set]

theorem upd_cases {s : St} {t u : Nat} {th' tu : Thread} (h : (s.upd t th').thr[u]? = some tu) :
    tu = th' ∨ s.thr[u]? = some tu := by
  rw [getElem?_upd] at h
  split at h
  · split at h
    · exact .inl (Option.some.inj h).symm
    · cases h
  · exact .inr h

/-- every pass over the table takes the rendezvous row as two updates of one goroutine each, the flusher's and then the
producer's: after the first the producer's record is where it was -/
theorem confirm_partner {s : St} {t u : Nat} {reg : List Task} {last : Nat} {snap : List Task} {tu : Thread}
    (hth : s.thr[t]? = some ⟨.bConfirm, reg, last, snap⟩) (hu : s.thr[u]? = some tu) (hpu : tu.pc = .aConfirm)
    (th' : Thread) : (s.upd t th').thr[u]? = some tu := by
  have hne : t ≠ u := by rintro rfl; rw [hth] at hu; cases hu; cases hpu
  rw [getElem?_upd, if_neg hne]; exact hu

end GoZero.C11
