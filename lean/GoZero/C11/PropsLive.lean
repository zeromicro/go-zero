/-
C11 — deadlock freedom of the producer / flusher protocol (`cfg.fixed`): a reachable configuration in which nobody can
move by itself is a rest state (`stuck_is_rest`); no livelock and progress to rest; two decided deadlock witnesses.

"Move by itself" = the internal actions of the goroutines: their next atomic action (`tau`), the start of a spawned
flusher, the confirmation rendezvous, and the END of a running callback (callbacks return: the environment
assumption of every liveness statement).  NOT internal: new API calls, ticks, the clock.

The proof is a wait-for analysis over the ownership invariant `DInv` (ProofsLive.lean), the wait-group / inflight
invariant `WInv` and the flusher-existence invariant `GInv`: pe.lock is always held by a goroutine that can move;
`waitGroup.Wait` inside pe.wgBarrier waits only for goroutines that are already past the barrier and can move;
a producer at the commander / the confirmation always has a flusher (`inflight > 0` forbids the quit).  There is no
cycle Wait → barrier → flusher → inflight → Wait — which is exactly the cycle the shape of seeded C11-7 (polling
`inflight` INSIDE the barrier) creates: `spin_inside_barrier_deadlocks`.
-/
import GoZero.C11.ProofsLive
import GoZero.C11.ProofsTerm
import GoZero.C11.ProofsWaitStep
import GoZero.C11.PropsGuard
import GoZero.C11.Props
namespace GoZero.C11

/-- nobody can move by itself -/
def Stuck (cfg : Cfg) (s : St) : Prop := ∀ (t : Nat) (a : Act), internal a = true → step cfg s t a = none

/-- what must hold for a goroutine at `pc` not to be able to move -/
def blockedCond (s : St) : Pc → Prop
  | .idle => s.spawn = 0
  | .aLock _ => s.lock = true | .fLock _ => s.lock = true | .qLock => s.lock = true
  | .aSend => s.commander.isSome = true
  | .aConfirm => True
  | .fEnter _ => s.barrier = true | .bEnter => s.barrier = true | .bEnterF => s.barrier = true
  | .wBarrier => s.barrier = true
  | .wSpin => 0 < s.inflight
  | .wWait => s.wg ≠ 0
  | .bSelect _ => s.commander = none
  | .bConfirm => ∀ (u : Nat) (tu : Thread), s.thr[u]? = some tu → tu.pc ≠ .aConfirm
  | .fDone _ _ => s.wg = 0 | .bDone => s.wg = 0
  | _ => False

theorem stuck_blocked (cfg : Cfg) (s : St) (hst : Stuck cfg s) (t : Nat) (th : Thread) (ht : s.thr[t]? = some th) :
    blockedCond s th.pc := by
  -- `step` is read once for the action `tau`; the pcs below look only at their own alternative of `stepTh`
  have h1 : stepTh cfg s t th .tau = none := by simpa [step, ht] using hst t .tau rfl
  cases hpc : th.pc
  case idle => simpa [step, ht, stepTh, hpc, blockedCond] using hst t .start rfl
  case fCall | bCall => have := hst t (.cbEnd false) rfl; simp [step, ht, stepTh, hpc] at this
  case bConfirm =>
    intro u tu hu hp
    have := hst t (.confirm u) rfl
    simp [step, ht, stepTh, hpc, hu, hp] at this
  case aGuard | qCheck =>
    simp only [stepTh, hpc] at h1
    split at h1 <;> cases h1
  case aSend | bSelect =>
    simp only [stepTh, hpc] at h1
    cases hc : s.commander <;> simp [hc, blockedCond] at h1 ⊢
  all_goals simp [stepTh, hpc, blockedCond] at h1 ⊢ <;> exact h1

/-- where a goroutine that cannot move may stand: outside the critical section; with the lock free, inside the wait group
only at the rendezvous — or the counter is zero (a `wg.Done` on an empty wait group, which the count of `WInv` excludes);
holding the barrier only in `waitGroup.Wait`; and with lock, wait group and barrier free only at one of five places -/
theorem blocked_place {s : St} {pc : Pc} (hb : blockedCond s pc) :
    lockRegion pc = false ∧
    (s.lock = false → entered pc = true → pc = .bConfirm ∨ s.wg = 0) ∧
    (s.wg = 0 → barrierHolder pc = false) ∧
    (s.lock = false → s.wg = 0 → s.barrier = false → entered pc = false → pc ≠ .bDec → pc ≠ .bEnter →
      pc = .idle ∨ pc = .aSend ∨ pc = .aConfirm ∨ pc = .wSpin ∨ ∃ c, pc = .bSelect c) := by
  cases pc <;> simp_all [blockedCond, lockRegion, entered, barrierHolder]

theorem exists_move {cfg : Cfg} {s : St} (h : ¬ Stuck cfg s) :
    ∃ (u : Nat) (a : Act) (s' : St), internal a = true ∧ step cfg s u a = some s' :=
  Classical.byContradiction fun hno => h fun u a ha => by
    cases hs : step cfg s u a with
    | none => rfl
    | some s' => exact absurd ⟨u, a, s', ha, hs⟩ hno

/-- **DEADLOCK FREEDOM** (fixed code; every cfg, every schedule, any number of goroutines; `hslots`: the Go runtime
can start a goroutine whose `go` statement was issued — the model's goroutine slots are not exhausted):
a reachable configuration in which no goroutine can move by itself is a REST state:
every caller is back (idle) — no `Add`, `Flush` or `Wait` is parked anywhere —, the only other goroutines are
flushers in their select; the commander is empty, pe.lock and pe.wgBarrier are free, the wait group and `inflight`
are zero, no `go` is pending; and the container is empty, or below its threshold with a flusher waiting for its tick.
Contrapositive: while some `Add` / `Flush` / `Wait` has not returned, or a batch is in the commander or in
somebody's hands, SOME goroutine can move (given that callbacks return). -/
theorem stuck_is_rest (cfg : Cfg) (hfix : cfg.fixed = true) (s : St) (h : Reachable cfg s)
    (hslots : 0 < s.spawn → ∃ (t : Nat) (th : Thread), s.thr[t]? = some th ∧ th.pc = .idle)
    (hst : Stuck cfg s) :
    (∀ (t : Nat) (th : Thread), s.thr[t]? = some th → th.pc = .idle ∨ ∃ c, th.pc = .bSelect c) ∧
    s.commander = none ∧ s.lock = false ∧ s.barrier = false ∧ s.wg = 0 ∧ s.inflight = 0 ∧ s.spawn = 0 ∧
    (s.container = [] ∨ (cfg.full s.container = false ∧
      ∃ (t : Nat) (th : Thread) (c : Bool), s.thr[t]? = some th ∧ th.pc = .bSelect c)) := by
  -- in this order, each step using the ones before: lock free (F1), nobody at `bConfirm` (NC), wait group empty (F2),
  -- barrier free (F3), the five places left (K), no spawn token (hs0), the kinds that vanish there (Z), a flusher in its
  -- select while `guarded` (FL), commander empty (F4), nobody at `aSend` (N1), `inflight = 0` (F5), the two rest places (R)
  have B := stuck_blocked cfg s hst
  have W := wait_invariant_reachable cfg hfix s h
  -- `nEntered`, `nLimbo` of `WInv` unfold to `cnt entered`, `cnt limbo`
  have Wwg : s.wg = cnt entered s := W.wg
  have Winf : s.inflight = ((cnt limbo s + cmd01 s : Nat) : Int) := W.infl
  have D := (pinv_reachable (cfg := cfg) h).2
  have G := guard_invariant_reachable cfg s h
  have kind_free : ∀ p : Pc → Bool, (∀ pc, blockedCond s pc → p pc = false) → cnt p s = 0 :=
    fun p hp => cnt_zero p s fun t th ht => hp _ (B t th ht)
  have F1 : s.lock = false := by
    have h0 := kind_free lockRegion fun _ hb => (blocked_place hb).1
    have := D.lockOwn
    cases hl : s.lock <;> simp [hl, h0] at this ⊢
  have NC : ∀ (t : Nat) (th : Thread), s.thr[t]? = some th → th.pc ≠ .bConfirm := by
    intro t th ht hpc
    have hb := B t th ht
    rw [hpc] at hb
    have : 0 < cnt atConfirm s := by
      have := cnt_mem_le taken s ht (by simp [hpc, taken])
      rw [D.conf]; omega
    obtain ⟨u, tu, hu, hp⟩ := exists_of_cnt_pos _ _ this
    have hq : tu.pc = .aConfirm := by
      cases hq : tu.pc <;> first | rfl | (simp [hq, atConfirm] at hp)
    exact hb u tu hu hq
  have F2 : s.wg = 0 := by
    refine Classical.byContradiction fun hne => ?_
    have := cnt_zero entered s fun t th ht => Bool.eq_false_iff.mpr fun he =>
      ((blocked_place (B t th ht)).2.1 F1 he).elim (NC t th ht) hne
    omega
  have F3 : s.barrier = false := by
    have h0 := kind_free barrierHolder fun _ hb => (blocked_place hb).2.2.1 F2
    have := D.barOwn
    cases hl : s.barrier <;> simp [hl, h0] at this ⊢
  -- the five places at which a goroutine can be when nobody can move
  have K : ∀ (t : Nat) (th : Thread), s.thr[t]? = some th →
      th.pc = .idle ∨ th.pc = .aSend ∨ th.pc = .aConfirm ∨ th.pc = .wSpin ∨ ∃ c, th.pc = .bSelect c := by
    intro t th ht
    have he : entered th.pc = false := Bool.eq_false_iff.mpr fun he => by
      have := cnt_mem_le entered s ht he
      omega
    have hnp := W.nopinned t th ht
    exact (blocked_place (B t th ht)).2.2.2 F1 F2 F3 he hnp.1 hnp.2
  have hs0 : s.spawn = 0 := by
    refine Classical.byContradiction fun hne => ?_
    obtain ⟨t, th, ht, hp⟩ := hslots (by omega)
    have hb := B t th ht
    rw [hp] at hb
    exact hne hb
  have Z : ∀ (p : Pc → Bool), p .idle = false → p .aSend = false → p .aConfirm = false → p .wSpin = false →
      (∀ c, p (.bSelect c) = false) → cnt p s = 0 := by
    intro p h1 h2 h3 h4 h5
    refine cnt_zero p s (fun t th ht => ?_)
    rcases K t th ht with h | h | h | h | ⟨c, h⟩ <;> simp [h, h1, h2, h3, h4, h5]
  have hpg : cnt preGuard s = 0 := Z _ rfl rfl rfl rfl (fun _ => rfl)
  have hspw : cnt spawning s = 0 := Z _ rfl rfl rfl rfl (fun _ => rfl)
  have hq : cnt quitting s = 0 := Z _ rfl rfl rfl rfl (fun _ => rfl)
  have htk : cnt taken s = 0 := Z _ rfl rfl rfl rfl (fun _ => rfl)
  have hmh : cnt midHandover s = 0 := Z _ rfl rfl rfl rfl (fun _ => rfl)
  -- while `guarded` is set a flusher is alive, and the only rest place of a flusher is its select
  have FL : s.guarded = true → ∃ (t : Nat) (th : Thread) (c : Bool), s.thr[t]? = some th ∧ th.pc = .bSelect c := by
    intro hg
    have := G.alive hg
    obtain ⟨t, th, ht, hp⟩ := exists_of_cnt_pos flusherPc s (by omega)
    rcases K t th ht with h | h | h | h | ⟨c, h⟩
    case inr.inr.inr.inr => exact ⟨t, th, c, ht, h⟩
    all_goals simp [h, flusherPc] at hp
  have F4 : s.commander = none := by
    cases hc : s.commander with
    | none => rfl
    | some b =>
      -- the batch counts in `inflight`, which keeps `guarded` set; but a flusher in its select would take the batch
      have hinf : 0 < s.inflight := by have := W.infl; simp [cmd01, hc] at this; omega
      have := D.infl hinf
      obtain ⟨t, th, c, ht, h⟩ := FL (by cases hg : s.guarded <;> simp [hg, hpg] at this ⊢)
      have hb := B t th ht
      rw [h] at hb
      cases hc.symm.trans hb
  have N1 : ∀ (t : Nat) (th : Thread), s.thr[t]? = some th → th.pc ≠ .aSend := by
    intro t th ht hpc
    have hb := B t th ht
    rw [hpc] at hb
    simp [blockedCond, F4] at hb
  have hlim : cnt limbo s = 0 := by
    refine cnt_zero _ s (fun t th ht => ?_)
    have n1 := N1 t th ht
    rcases K t th ht with h | h | h | h | ⟨c, h⟩ <;> simp [h, limbo] at n1 ⊢
  have F5 : s.inflight = 0 := by
    rw [hlim] at Winf; simpa [cmd01, F4] using Winf
  have R : ∀ (t : Nat) (th : Thread), s.thr[t]? = some th → th.pc = .idle ∨ ∃ c, th.pc = .bSelect c := by
    intro t th ht
    have hb := B t th ht
    rcases K t th ht with h | h | h | h | ⟨c, h⟩
    · exact Or.inl h
    · exact absurd h (N1 t th ht)
    · have := cnt_mem_le atConfirm s ht (by simp [h, atConfirm])
      rw [D.conf] at this
      simp [cmd01, F4, htk] at this
    · rw [h] at hb
      simp [blockedCond, F5] at hb
    · exact Or.inr ⟨c, h⟩
  refine ⟨R, F4, F1, F3, F2, F5, hs0, ?_⟩
  rcases D.rest hmh with hc | hf
  · exact Or.inl hc
  · by_cases hc : s.container = []
    · exact Or.inl hc
    · have hp := G.pending hc
      exact Or.inr ⟨hf, FL (by cases hg : s.guarded <;> simp [hg, hpg, hq] at hp ⊢)⟩

/-- **deadlock freedom, as progress**: while some goroutine is inside `Add` / `Flush` / `Wait` or a flusher is anywhere
but in its select, some goroutine can move by itself -/
theorem deadlock_free (cfg : Cfg) (hfix : cfg.fixed = true) (s : St) (h : Reachable cfg s)
    (hslots : 0 < s.spawn → ∃ (t : Nat) (th : Thread), s.thr[t]? = some th ∧ th.pc = .idle)
    (t : Nat) (th : Thread) (ht : s.thr[t]? = some th) (hbusy : th.pc ≠ .idle ∧ ∀ c, th.pc ≠ .bSelect c) :
    ∃ (u : Nat) (a : Act) (s' : St), internal a = true ∧ step cfg s u a = some s' := by
  refine exists_move fun hst => ?_
  rcases (stuck_is_rest cfg hfix s h hslots hst).1 t th ht with h1 | ⟨c, h1⟩
  · exact hbusy.1 h1
  · exact hbusy.2 c h1

/-- the same for what is pending outside the container: a batch in the commander keeps somebody moving -/
theorem commander_batch_keeps_moving (cfg : Cfg) (hfix : cfg.fixed = true) (s : St) (h : Reachable cfg s)
    (hslots : 0 < s.spawn → ∃ (t : Nat) (th : Thread), s.thr[t]? = some th ∧ th.pc = .idle)
    (hc : s.commander ≠ none) :
    ∃ (u : Nat) (a : Act) (s' : St), internal a = true ∧ step cfg s u a = some s' :=
  exists_move fun hst => hc (stuck_is_rest cfg hfix s h hslots hst).2.1

/-- **at rest the container is below its threshold**: in every reachable configuration
in which pe.lock is free — nobody is inside `addAndCheck` / `Flush`'s critical section — the container is empty or
its threshold predicate is false; for every cfg (any threshold predicate), schedule and number of goroutines. -/
theorem at_rest_below_threshold (cfg : Cfg) (s : St) (h : Reachable cfg s) (hl : s.lock = false) :
    s.container = [] ∨ cfg.full s.container = false := by
  have D := (pinv_reachable (cfg := cfg) h).2
  have h0 : cnt lockRegion s = 0 := by rw [D.lockOwn, hl]; rfl
  refine D.rest (cnt_zero _ s (fun t th ht => ?_))
  have := sumBy_zero_mem _ h0 ht
  cases hpc : th.pc <;> simp [hpc, lockRegion, midHandover, b2n] at this ⊢

/-- pe.lock and pe.wgBarrier are held exactly while one goroutine is inside the critical section / inside Wait's Guard -/
theorem lock_and_barrier_owned (cfg : Cfg) (s : St) (h : Reachable cfg s) :
    cnt lockRegion s = b2n s.lock ∧ cnt barrierHolder s = b2n s.barrier :=
  ⟨(pinv_reachable (cfg := cfg) h).2.lockOwn, (pinv_reachable (cfg := cfg) h).2.barOwn⟩

/-- **no livelock**: every run that consists of internal actions only (no new API call, no tick) is finite, bounded
by the work the goroutines still have in front of them — for EVERY configuration (no reachability needed), every
cfg: the protocol has no internal cycle.  (A `Wait` that polls `inflight` is a disabled row here, not a step; what
excludes a `Wait` parked at the poll is `stuck_is_rest`.) -/
theorem internal_runs_are_bounded (cfg : Cfg) (s s' : St) (sched : List (Nat × Act))
    (hall : ∀ p ∈ sched, internal p.2 = true) (h : run cfg s sched = some s') : sched.length ≤ mu s := by
  have := mu_run cfg sched s s' hall h; omega

/-- every configuration has a finite internal run to a configuration in which nobody can move by itself -/
theorem internal_run_to_stuck (cfg : Cfg) (s : St) :
    ∃ (sched : List (Nat × Act)) (s' : St), (∀ p ∈ sched, internal p.2 = true) ∧ run cfg s sched = some s' ∧ Stuck cfg s' := by
  generalize hn : mu s = n
  induction n using Nat.strongRecOn generalizing s with
  | _ n ih =>
    by_cases hst : Stuck cfg s
    · exact ⟨[], s, by simp, rfl, hst⟩
    · obtain ⟨t, a, s1, ha, hs⟩ := exists_move hst
      have hlt := mu_step cfg s s1 t a ha hs
      obtain ⟨sched, s', hall, hr, hst'⟩ := ih (mu s1) (by omega) s1 rfl
      exact ⟨(t, a) :: sched, s', List.forall_mem_cons.mpr ⟨ha, hall⟩, by simp [run, hs, hr], hst'⟩

/-- **PROGRESS** (fixed code): from every reachable configuration — whatever is in flight: producers at the commander,
Waits polling or at the barrier, flushers anywhere, callbacks running — there is a FINITE run of internal actions
(the goroutines' own steps and the ends of the running callbacks; no new call, no tick) to a configuration in which
nobody can move, and there (given a goroutine slot for every pending `go`): every `Add`, `Flush` and `Wait` HAS
RETURNED, and every accepted task has been executed exactly once or sits in the container — below the threshold,
with a flusher waiting for the tick that will flush it. Together with `internal_runs_are_bounded` (every internal run
is finite) this is liveness under the one assumption that callbacks return. -/
theorem progress_to_rest (cfg : Cfg) (hfix : cfg.fixed = true) (s : St) (h : Reachable cfg s) :
    ∃ (sched : List (Nat × Act)) (s' : St), (∀ p ∈ sched, internal p.2 = true) ∧ run cfg s sched = some s' ∧
      Reachable cfg s' ∧ Stuck cfg s' ∧
      ((0 < s'.spawn → ∃ (t : Nat) (th : Thread), s'.thr[t]? = some th ∧ th.pc = .idle) →
        (∀ (t : Nat) (th : Thread), s'.thr[t]? = some th → th.pc = .idle ∨ ∃ c, th.pc = .bSelect c) ∧
        (∀ x, s'.added.count x = s'.container.count x + s'.finished.count x) ∧
        (s'.container = [] ∨ (cfg.full s'.container = false ∧
          ∃ (t : Nat) (th : Thread) (c : Bool), s'.thr[t]? = some th ∧ th.pc = .bSelect c))) := by
  obtain ⟨sched, s', hall, hr, hst⟩ := internal_run_to_stuck cfg s
  have hre := reachable_run h sched hr
  refine ⟨sched, s', hall, hr, hre, hst, fun hslots => ?_⟩
  have R := stuck_is_rest cfg hfix s' hre hslots hst
  refine ⟨R.1, fun x => ?_, R.2.2.2.2.2.2.2⟩
  have hc := no_loss_no_dup cfg s' hre x
  have h0 := inHands_eq_zero x s' fun t th ht => hands_empty_outside_execution cfg s' hre t th ht <| by
    rcases R.1 t th ht with hp | ⟨c, hp⟩ <;> simp [hp, holds]
  simp [inCommander, R.2.1, h0] at hc
  exact hc

/-- the step table with Wait changed as in seeded C11-7: the poll of `inflight` moved INSIDE `wgBarrier.Guard`
(after Flush: take the barrier, THEN poll `inflight`, then `waitGroup.Wait`) -/
def step7 (cfg : Cfg) (s : St) (t : Nat) (a : Act) : Option St :=
  match s.thr[t]? with
  | none => step cfg s t a
  | some th =>
    match th.pc, a with
    | .fDone .wait _, .tau =>
      if s.wg = 0 then none else some ({ s with wg := s.wg - 1 }.upd t { th with pc := .wBarrier })
    | .wBarrier, .tau => if s.barrier then none else some ({ s with barrier := true }.upd t { th with pc := .wSpin })
    | .wSpin, .tau => if s.inflight > 0 then none else some (s.upd t { th with pc := .wWait })
    | _, _ => step cfg s t a

def run7 (cfg : Cfg) (s : St) : List (Nat × Act) → Option St
  | [] => some s
  | (t, a) :: rest => match step7 cfg s t a with
    | none => none
    | some s' => run7 cfg s' rest

/-- no internal action of any goroutine is enabled (decidable form: goroutine indices and confirmation partners
range over the goroutine list; outside it nothing is enabled anyway) -/
def stuck7 (cfg : Cfg) (s : St) : Bool :=
  (List.range s.thr.length).all fun t =>
    (step7 cfg s t .tau).isNone && (step7 cfg s t .start).isNone && (step7 cfg s t (.cbEnd false)).isNone &&
    (step7 cfg s t (.cbEnd true)).isNone && (List.range s.thr.length).all fun u => (step7 cfg s t (.confirm u)).isNone

/-- caller 0 adds task 1 (threshold 1): the batch goes to the commander, the producer waits for the confirmation;
caller 1 calls Wait: flushes nothing, takes the barrier and polls `inflight` = 1 inside it; the flusher starts,
receives the batch and wants to enter the wait group — behind the barrier. -/
def seeded7Schedule : List (Nat × Act) :=
  [(0, .add 1), (0, .tau), (0, .tau), (0, .tau), (0, .tau), (0, .tau), (0, .tau), (0, .tau), (0, .tau),
   (1, .wait), (1, .tau), (1, .tau), (1, .tau), (1, .tau), (1, .tau), (1, .tau), (1, .tau),
   (2, .start), (2, .tau)]

/-- **witness**: with the poll inside the barrier the protocol DEADLOCKS — `Add` is parked at the confirmation,
`Wait` polls `inflight` (= 1) for ever while holding the barrier, the flusher is parked at the barrier holding the
batch: nobody can move, task 1 is never executed, and none of them is at rest.  `stuck_is_rest` excludes exactly
this for the real step table. -/
theorem spin_inside_barrier_deadlocks :
    (run7 { full := bulkFull 1 } (init 3) seeded7Schedule).map
      (fun s => (stuck7 { full := bulkFull 1 } s, s.thr.map (·.pc), s.barrier, s.inflight, s.finished)) =
      some (true, [.aConfirm, .wSpin, .bEnterF], true, 1, []) := by
  decide

/-- the same schedule on the real step table does not get there: `Wait` polls BEFORE the barrier, the flusher
enters (the barrier is free), confirms, executes: after the schedule (minus the blocked poll step) the flusher can move -/
example : ((run { full := bulkFull 1 } (init 3) (seeded7Schedule.take 16 ++ [(2, .start), (2, .tau)])).bind
    (fun s => step { full := bulkFull 1 } s 2 .tau)).isSome = true := by decide

/-- the step table with `executeTasks` changed as in seeded C11-8: `doneExecution` is the last statement INSIDE the
RunSafe closure, so a PANICKING callback skips it (rows fCall / bCall with `cbEnd true` go on without `wg.Done`) -/
def step8 (cfg : Cfg) (s : St) (t : Nat) (a : Act) : Option St :=
  match s.thr[t]? with
  | none => step cfg s t a
  | some th =>
    match th.pc, a with
    | .fCall c, .cbEnd true =>
      some ({ s with finished := s.finished ++ th.reg, lost := s.lost ++ th.reg }.upd t
        { th with pc := flushRet cfg c true, reg := [] })
    | .bCall, .cbEnd true =>
      some ({ s with finished := s.finished ++ th.reg, lost := s.lost ++ th.reg }.upd t
        { th with pc := .bSelect true, reg := [], last := s.now })
    | _, _ => step cfg s t a

def run8 (cfg : Cfg) (s : St) : List (Nat × Act) → Option St
  | [] => some s
  | (t, a) :: rest => match step8 cfg s t a with
    | none => none
    | some s' => run8 cfg s' rest

def stuck8 (cfg : Cfg) (s : St) : Bool :=
  (List.range s.thr.length).all fun t =>
    (step8 cfg s t .tau).isNone && (step8 cfg s t .start).isNone && (step8 cfg s t (.cbEnd false)).isNone &&
    (step8 cfg s t (.cbEnd true)).isNone && (List.range s.thr.length).all fun u => (step8 cfg s t (.confirm u)).isNone

/-- caller 0 adds task 1 (threshold 3; the flusher starts and rests in its select), flushes it itself, the callback
PANICS; caller 0 then calls Wait -/
def seeded8Schedule : List (Nat × Act) :=
  [(0, .add 1), (0, .tau), (0, .tau), (0, .tau), (0, .tau), (0, .tau), (2, .start),
   (0, .flush), (0, .tau), (0, .tau), (0, .tau), (0, .tau), (0, .tau), (0, .cbEnd true),
   (0, .wait), (0, .tau), (0, .tau), (0, .tau), (0, .tau), (0, .tau), (0, .tau), (0, .tau), (0, .tau)]

/-- **witness**: with `doneExecution` inside the RunSafe closure one panicking callback wedges the executor — the wait
group keeps the count of the panicked batch, the next `Wait` is parked in `waitGroup.Wait()` holding the barrier for
ever although every callback has ended: the panic loses far more than its own batch.  On the real table
`panic_loses_own_batch_only` makes the panicking end the same step as the returning one. -/
theorem done_inside_runsafe_wedges_wait :
    (run8 { full := bulkFull 3 } (init 3) seeded8Schedule).map
      (fun s => (stuck8 { full := bulkFull 3 } s, s.thr.map (·.pc), s.wg, s.barrier, s.finished)) =
      some (true, [.wWait, .idle, .bSelect false], 1, true, [1]) := by
  decide

/-- the rest states `stuck_is_rest` describes are reachable: a task pending below the threshold and a flusher in its
select (caller 0 adds task 1 with threshold 3; the flusher starts); that nothing can move there is `blockedCond` read
off the three pcs, it is not part of the statement -/
example : ∃ s, Reachable { full := bulkFull 3 } s ∧ s.container = [1] ∧ s.thr.map (·.pc) = [.idle, .idle, .bSelect false] :=
  reachable_of_run 3 [(0, .add 1), (0, .tau), (0, .tau), (0, .tau), (0, .tau), (0, .tau), (2, .start)] (by decide)

end GoZero.C11
