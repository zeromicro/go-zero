/-
C11 — property theorems about the containers (bulkContainer, chunkContainer, sqlx dbInserter) over Go's slice
semantics (Containers.lean): they obey the `TaskContainer` laws that the PeriodicalExecutor model assumes when it
keeps the container as `container : List Task` with a threshold predicate `cfg.full`:

  * AddTask appends the task and returns true IFF the threshold is reached (bulk: len >= maxTasks; chunk: the
    accumulated declared sizes >= maxChunkSize, for ANY Go int sizes — zero, negative, huge; sqlx: len >= 1000);
  * RemoveAll returns exactly the tasks added since the last RemoveAll, each once, in order, and leaves nothing;
  * the returned batch is NOT ALIASED: no later AddTask / RemoveAll changes what it shows (the container drops its
    reference: `= nil`), for every growth policy of `append`, every threshold (also 0, negative, 1) and every run.
-/
import GoZero.C11.ProofsContainers
import GoZero.C11.Model
namespace GoZero.C11

/-- **the three containers are lawful** (for every `append` growth policy, every threshold, every size function) -/
theorem containers_lawful (grow : Nat → Nat) (size : Task → Int) :
    Lawful (bulkTC (α := Task) grow) ∧ Lawful (chunkTC grow size) ∧ Lawful (sqlTC (α := String) grow) :=
  ⟨bulk_lawful grow, chunk_lawful grow size, sql_lawful grow⟩

/-- **a lawful container refines the list container of the executor model, on every run**: the answers of AddTask
are the threshold predicate on the pending list, every batch handed out by RemoveAll — read in the FINAL heap,
i.e. however late the callback looks at it — is the list of tasks added since the previous RemoveAll, in order,
and what is left at the end is the pending list. -/
theorem container_refines_list {σ α : Type} (C : TaskContainer σ α) (law : Lawful C) (h : Heap α) (c : σ)
    (hi : C.inv h c) (ops : List (COp α)) :
    (runC C h c ops).2.2.map (COut.view (runC C h c ops).1) = (runA (C.full c) (h.read (C.tasks c)) ops).2 ∧
    (runC C h c ops).1.read (C.tasks (runC C h c ops).2.1) = (runA (C.full c) (h.read (C.tasks c)) ops).1 := by
  induction ops generalizing h c with
  | nil => exact ⟨rfl, rfl⟩
  | cons op ops ih =>
    cases op with
    | add x =>
      have := ih _ _ (law.add_inv h c x hi)
      rw [law.full_add, law.add_pending h c x hi] at this
      simp only [runC, runA, List.map_cons, COut.view, this.1, this.2, law.add_full h c x hi, and_self]
    | removeAll =>
      have := ih h _ (law.remove_inv h c hi)
      have hnil : h.read (C.tasks (C.removeAll c).1) = [] := if_pos (law.remove_nil c)
      rw [law.full_remove, hnil] at this
      -- the batch just handed out is read in the final heap: no later operation has changed what it shows
      have hst := runC_stable law ops h (C.removeAll c).1 (C.tasks c) (law.remove_inv h c hi) (law.remove_known h c hi)
        (Or.inl (law.remove_nil c))
      simp only [runC, runA, List.map_cons, COut.view, this.1, this.2, law.remove_batch c, hst, and_self]

/-- **RemoveAll's batch is not aliased by later Adds**: whatever the container does after handing out `b`,
`b` shows the same tasks. -/
theorem returned_batch_not_aliased {σ α : Type} (C : TaskContainer σ α) (law : Lawful C) (h : Heap α) (c : σ)
    (hi : C.inv h c) (later : List (COp α)) :
    (runC C h (C.removeAll c).1 later).1.read (C.removeAll c).2 = h.read (C.tasks c) := by
  rw [law.remove_batch]
  exact runC_stable law later h _ _ (law.remove_inv h c hi) (law.remove_known h c hi) (Or.inl (law.remove_nil c))

/-- the bulk executor's container from `NewBulkExecutor(…, WithBulkTasks(max))`, any `max` (also 0 / negative / 1):
the executor model's `bulkFull max` list container, on every run from the empty container (the outputs; what is left
in the container is the second half of `container_refines_list`) -/
theorem bulk_refines_model (grow : Nat → Nat) (max : Int) (ops : List (COp Task)) :
    (runC (bulkTC grow) {} { maxTasks := max } ops).2.2.map (COut.view (runC (bulkTC grow) {} { maxTasks := max } ops).1)
      = (runA (bulkFull max) [] ops).2 :=
  (container_refines_list (bulkTC grow) (bulk_lawful grow) {} { maxTasks := max } (Heap.wf_nil _) ops).1

/-- the chunk executor's container from `NewChunkExecutor(…, WithChunkBytes(max))`: `chunkFull size max` -/
theorem chunk_refines_model (grow : Nat → Nat) (size : Task → Int) (max : Int) (ops : List (COp Task)) :
    (runC (chunkTC grow size) {} { maxChunkSize := max } ops).2.2.map
        (COut.view (runC (chunkTC grow size) {} { maxChunkSize := max } ops).1)
      = (runA (chunkFull size max) [] ops).2 :=
  (container_refines_list (chunkTC grow size) (chunk_lawful grow size) {} { maxChunkSize := max }
    ⟨Heap.wf_nil _, rfl⟩ ops).1

/-- the sqlx inserter's container: the bulk list container with the constant threshold `maxBulkRows` -/
theorem sqlx_refines_model (grow : Nat → Nat) (ops : List (COp String)) :
    (runC (sqlTC grow) {} {} ops).2.2.map (COut.view (runC (sqlTC grow) {} {} ops).1)
      = (runA (fun l => decide ((l.length : Int) ≥ maxBulkRows)) [] ops).2 :=
  (container_refines_list (sqlTC grow) (sql_lawful grow) {} {} (Heap.wf_nil _) ops).1

/-- the abstract run, read as the property reads it: the adds `xs` since the last RemoveAll come back as ONE batch,
in order, and nothing stays behind -/
theorem runA_batch {α : Type} (full : List α → Bool) (pending xs : List α) :
    (runA full pending (xs.map COp.add ++ [COp.removeAll])).2.getLast? = some (AOut.batch (pending ++ xs)) ∧
    (runA full pending (xs.map COp.add ++ [COp.removeAll])).1 = [] := by
  induction xs generalizing pending with
  | nil => simp [runA]
  | cons x xs ih =>
    have := ih (pending ++ [x])
    simp only [List.map_cons, List.cons_append, runA, List.append_assoc] at this ⊢
    refine ⟨?_, this.2⟩
    rw [List.getLast?_cons]
    rw [this.1]; rfl

/-- the executor model touches its container only through this interface: row `aAdd` is one `add` of `runA`
(and branches on its answer), rows `aRemove` / `fRemove` are one `removeAll` -/
theorem executor_rows_are_container_ops (cfg : Cfg) (s : St) (t : Nat) (th : Thread) :
    (∀ x, th.pc = .aAdd x → stepTh cfg s t th .tau =
      some ({ s with container := (runA cfg.full s.container [.add x]).1, added := s.added ++ [x] }.upd t
        { th with pc := if (runA cfg.full s.container [.add x]).2 = [AOut.full true] then .aInc else .aGuard false })) ∧
    (th.pc = .aRemove → stepTh cfg s t th .tau =
      some ({ s with container := (runA cfg.full s.container [.removeAll]).1 }.upd t
        { th with pc := .aGuard true, reg := s.container }) ∧
      (runA cfg.full s.container [.removeAll]).2 = [AOut.batch s.container]) ∧
    (∀ c, th.pc = .fRemove c → stepTh cfg s t th .tau =
      some ({ s with container := (runA cfg.full s.container [.removeAll]).1 }.upd t
        { th with pc := .fUnlock c, reg := s.container })) := by
  refine ⟨?_, ?_, ?_⟩
  · intro x hpc
    unfold stepTh
    simp only [hpc, runA]
    by_cases hb : cfg.full (s.container ++ [x]) = true <;> simp [hb]
  · intro hpc
    unfold stepTh
    simp [hpc, runA]
  · intro c hpc
    unfold stepTh
    simp [hpc, runA]

/-- every row of the batch is in the statement exactly once, in order, between the prefix and the (optional) suffix -/
theorem sql_rows_exactly_once (pre suffix : String) (values : List String) :
    rowsOf (sqlPieces pre suffix values) = values := by
  have h : ∀ vs : List String, rowsOf (rowPieces vs) = vs := by
    intro vs
    induction vs with
    | nil => rfl
    | cons v rest ih =>
      cases rest with
      | nil => rfl
      | cons w rest => simp only [rowPieces, rowsOf, List.filterMap_cons] at ih ⊢; rw [ih]
  unfold sqlPieces rowsOf
  simp only [List.filterMap_append, List.filterMap_cons, List.filterMap_nil, List.nil_append]
  have := h values
  unfold rowsOf at this
  rw [this]
  split <;> simp

/-- an empty batch is not executed (`if len(values) == 0 { return }`); a non-empty one always is -/
theorem sql_stmt_none_iff (pre suffix : String) (values : List String) :
    (sqlStmt pre suffix values).isNone = true ↔ values = [] := by
  unfold sqlStmt
  cases values <;> simp

/-- a run with a hand-over in the middle: threshold 2, tasks 1 2 3, RemoveAll after 2 and at the end; the first
batch is read AFTER task 3 was appended -/
example :
    let r := runC (bulkTC (α := Task) (fun n => n)) {} { maxTasks := 2 } [.add 1, .add 2, .removeAll, .add 3, .removeAll]
    r.2.2.map (COut.view r.1) = [.full false, .full true, .batch [1, 2], .full false, .batch [3]] := by decide

/-- zero-size and negative-size chunk tasks are kept and handed out (size function: the task number minus 2) -/
example :
    let r := runC (chunkTC (α := Task) (fun n => n) (fun x => (x : Int) - 2)) {} { maxChunkSize := 3 }
      [.add 2, .add 1, .removeAll, .add 2, .add 7, .removeAll]
    r.2.2.map (COut.view r.1) = [.full false, .full false, .batch [2, 1], .full false, .full true, .batch [2, 7]] := by
  decide

/-- a `RemoveAll` that keeps the backing array: `bc.tasks = bc.tasks[:0]` -/
def BulkC.removeAllKeep (c : BulkC) : BulkC × Slice := ({ c with tasks := Heap.slice0 c.tasks }, c.tasks)

/-- the laws have teeth: the batch it hands out is overwritten by the next AddTask — [1, 2] reads [3, 2] afterwards -/
example :
    let g : Nat → Nat := fun n => n
    let a1 := BulkC.addTask (α := Task) g {} { maxTasks := 2 } 1
    let a2 := BulkC.addTask g a1.1 a1.2.1 2
    let rm := BulkC.removeAllKeep a2.2.1
    let a3 := BulkC.addTask g a2.1 rm.1 3
    a2.1.read rm.2 = [1, 2] ∧ a3.1.read rm.2 = [3, 2] := by decide

example : sqlStmt "insert into t(a) values" "on duplicate key update a=values(a)" ["(1)", "(2)"]
    = some "insert into t(a) values (1), (2) on duplicate key update a=values(a)" := by
  -- `suffix.length` on the literal would decode it: count its characters instead
  unfold sqlStmt; rw [String.length_ofList]; decide +kernel

example : sqlStmt "insert into t(a) values" "" ["(1)"] = some "insert into t(a) values (1)" := by decide

end GoZero.C11
