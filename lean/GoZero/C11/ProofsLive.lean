/-
C11 — the ownership invariant `DInv` behind deadlock freedom (PropsLive.lean): who holds pe.lock and pe.wgBarrier, who
waits for a confirmation, what `inflight > 0` promises, what the container holds at rest.  Every row of the step table
keeps it together with `GInv` (ProofsGuard.lean), the two being the protocol's invariant for every cfg (`pinv_*`): one
rule for a step of one goroutine, `pinv_upd`, one pass, `pinv_step`.
-/
import GoZero.C11.ProofsGuard
namespace GoZero.C11

/-- inside the critical section of pe.lock -/
def lockRegion : Pc → Bool
  | .aAdd _ => true | .aInc => true | .aRemove => true | .aGuard _ => true | .aUnlock _ _ => true
  | .fRemove _ => true | .fUnlock _ => true | .qCheck => true | .qUnlock _ => true
  | _ => false

/-- inside `pe.wgBarrier.Guard` of Wait -/
def barrierHolder : Pc → Bool
  | .wWait => true | .wUnbarrier => true
  | _ => false

/-- a producer waiting for the confirmation of its hand-over -/
def atConfirm : Pc → Bool
  | .aConfirm => true
  | _ => false

/-- a flusher between the commander receive and the confirmation -/
def taken : Pc → Bool
  | .bDec => true | .bEnter => true | .bEnterF => true | .bDecF => true | .bConfirm => true
  | _ => false

/-- between `AddTask` answering "full" and `RemoveAll` (inside the critical section) -/
def midHandover : Pc → Bool
  | .aInc => true | .aRemove => true
  | _ => false

structure DInv (cfg : Cfg) (s : St) : Prop where
  /-- pe.lock is held exactly while one goroutine is inside a critical section -/
  lockOwn : cnt lockRegion s = b2n s.lock
  /-- pe.wgBarrier is held exactly while one Wait is inside its Guard -/
  barOwn : cnt barrierHolder s = b2n s.barrier
  /-- every producer waiting for a confirmation has its batch in the commander or in the hands of a flusher that will confirm -/
  conf : cnt atConfirm s = cmd01 s + cnt taken s
  /-- a batch on its way to the flusher keeps the flusher alive: `inflight > 0` implies `guarded` (or a producer is about to set it) -/
  infl : 0 < s.inflight → 0 < b2n s.guarded + cnt preGuard s
  /-- outside a hand-over the container is below its threshold -/
  rest : cnt midHandover s = 0 → s.container = [] ∨ cfg.full s.container = false

theorem dinv_init (cfg : Cfg) (n : Nat) : DInv cfg (init n) := by
  constructor <;> simp [init, cnt, sumBy_replicate, b2n, cmd01, lockRegion, barrierHolder, atConfirm, taken]

@[simp] theorem lockRegion_fLock (c : Ctx) : lockRegion (.fLock c) = false := rfl
@[simp] theorem lockRegion_fEnter (c : Ctx) : lockRegion (.fEnter c) = false := rfl

variable {cfg : Cfg} {s s0 : St} {t : Nat} {th th' : Thread}

/-- a count that equals a flag survives a step of goroutine `t` if the flag follows the kind of `t`'s pc: both are
kept, `t` enters the region and sets the flag, which was clear, or `t` leaves it and clears the flag (`t` was counted,
so the flag was set: the premise of `h`) -/
theorem own_upd (p : Pc → Bool) (hth : s.thr[t]? = some th) (h0 : s0.thr = s.thr) {b b' : Bool}
    (hi : cnt p s = b2n b)
    (h : (p th.pc = true → b = true) → b2n b + b2n (p th'.pc) = b2n b' + b2n (p th.pc)) :
    cnt p (s0.upd t th') = b2n b' := by
  have k := cnt_upd p hth h0 th'
  have := h fun hp => by cases b <;> simp [hp, hi] at k ⊢
  omega

/-- a step of goroutine `t` keeps both invariants if each shared field a clause reads follows the kind of `t`'s pc:
the lock and barrier flags (`hlock`, `hbar`: kept, set on entering the region, cleared on leaving it; the premise of
each says that `t` was counted, so the flag was set), the commander against `atConfirm` / `taken` (`hconf`), and for the
three clauses of the form "under a condition on the shared state some number is positive" (`hinfl`, `hpend`, `halive`)
the condition held before and the contribution of the shared fields and of `t` did not shrink, or there is a
contribution now; `hrest`: outside a hand-over the container is as before, or empty, or below its threshold.
Each premise defaults to "nothing changed"; a row names the ones it has to argue for. -/
theorem pinv_upd (hth : s.thr[t]? = some th) (h0 : s0.thr = s.thr) (hg : GInv s) (hd : DInv cfg s)
    (hlock : (lockRegion th.pc = true → s.lock = true) →
      b2n s.lock + b2n (lockRegion th'.pc) = b2n s0.lock + b2n (lockRegion th.pc) := by exact fun _ => rfl)
    (hbar : (barrierHolder th.pc = true → s.barrier = true) →
      b2n s.barrier + b2n (barrierHolder th'.pc) = b2n s0.barrier + b2n (barrierHolder th.pc) := by
        exact fun _ => rfl)
    (hconf : b2n (atConfirm th'.pc) + cmd01 s + b2n (taken th.pc) =
      b2n (atConfirm th.pc) + cmd01 s0 + b2n (taken th'.pc) := by rfl)
    (hinfl : 0 < s0.inflight →
      (0 < s.inflight ∧ b2n s.guarded + b2n (preGuard th.pc) ≤ b2n s0.guarded + b2n (preGuard th'.pc)) ∨
        0 < b2n s0.guarded + b2n (preGuard th'.pc) := by exact fun h => .inl ⟨h, Nat.le_refl _⟩)
    (hrest : b2n (midHandover th'.pc) = 0 → (b2n (midHandover th.pc) = 0 ∧ s0.container = s.container) ∨
      s0.container = [] ∨ cfg.full s0.container = false := by exact fun h => .inl ⟨h, rfl⟩)
    (hpend : s0.container ≠ [] →
      (s.container ≠ [] ∧ b2n s.guarded + b2n (preGuard th.pc) + b2n (quitting th.pc) ≤
        b2n s0.guarded + b2n (preGuard th'.pc) + b2n (quitting th'.pc)) ∨
        0 < b2n s0.guarded + b2n (preGuard th'.pc) + b2n (quitting th'.pc) := by
          exact fun h => .inl ⟨h, Nat.le_refl _⟩)
    (halive : s0.guarded = true →
      (s.guarded = true ∧ s.spawn + b2n (spawning th.pc) + b2n (flusherPc th.pc) ≤
        s0.spawn + b2n (spawning th'.pc) + b2n (flusherPc th'.pc)) ∨
        0 < s0.spawn + b2n (spawning th'.pc) + b2n (flusherPc th'.pc) := by
          exact fun h => .inl ⟨h, Nat.le_refl _⟩) :
    GInv (s0.upd t th') ∧ DInv cfg (s0.upd t th') := by
  have k := fun p => cnt_upd p hth h0 th'
  refine ⟨⟨live_upd _ _ hth h0 hg.pending hpend, live_upd _ _ hth h0 hg.alive halive⟩,
    own_upd _ hth h0 hd.lockOwn hlock, own_upd _ hth h0 hd.barOwn hbar, ?_, ?_, ?_⟩
  · show _ = cmd01 s0 + _
    have := k atConfirm; have := k taken; have := hd.conf; omega
  · show 0 < s0.inflight → 0 < b2n s0.guarded + _
    have := k preGuard
    intro hh
    rcases hinfl hh with ⟨h1, h2⟩ | h2
    · have := hd.infl h1; omega
    · omega
  · show _ → s0.container = [] ∨ cfg.full s0.container = false
    have := k midHandover
    intro hh
    rcases hrest (by omega) with ⟨h1, h2⟩ | h2
    · exact h2 ▸ hd.rest (by omega)
    · exact h2

theorem pinv_step (cfg : Cfg) (s s' : St) (t : Nat) (a : Act) (hi : GInv s ∧ DInv cfg s)
    (h : step cfg s t a = some s') : GInv s' ∧ DInv cfg s' := by
  obtain ⟨hg, hd⟩ := hi
  rcases step_row h with ⟨d, rfl, rfl⟩ | ⟨pc, reg, last, snap, hth, hr⟩
  · exact ⟨⟨hg.pending, hg.alive⟩, hd.lockOwn, hd.barOwn, hd.conf, hd.infl, hd.rest⟩
  cases hr
  case bConfirm hu hpu =>
    -- the flusher leaves `taken` as the producer it confirms leaves `atConfirm`; no other kind is entered or left
    have k3 : cnt atConfirm _ + 0 + 1 = cnt atConfirm s + 0 + 0 := cnt_confirm hth hu hpu atConfirm
    have k4 : cnt taken _ + 1 + 0 = cnt taken s + 0 + 0 := cnt_confirm hth hu hpu taken
    have := hd.conf
    refine ⟨⟨?_, ?_⟩, ?_, ?_, ?_, ?_, ?_⟩
    · rw [cnt_confirm_keep hth hu hpu preGuard rfl rfl, cnt_confirm_keep hth hu hpu quitting rfl rfl]; exact hg.pending
    · rw [cnt_confirm_keep hth hu hpu spawning rfl rfl, cnt_confirm_keep hth hu hpu flusherPc rfl rfl]; exact hg.alive
    · rw [cnt_confirm_keep hth hu hpu _ rfl rfl]; exact hd.lockOwn
    · rw [cnt_confirm_keep hth hu hpu _ rfl rfl]; exact hd.barOwn
    · show cnt atConfirm _ = cmd01 s + cnt taken _
      omega
    · rw [cnt_confirm_keep hth hu hpu _ rfl rfl]; exact hd.infl
    · rw [cnt_confirm_keep hth hu hpu _ rfl rfl]; exact hd.rest
  -- pe.lock: taken by the three `Lock` rows (guard: it was free), released by the six `Unlock` rows
  case aLock hl | qLock hl => exact pinv_upd hth rfl hg hd (hlock := fun _ => by rw [hl]; rfl)
  case fLock c hl => cases c <;> exact pinv_upd hth rfl hg hd (hlock := fun _ => by rw [hl]; rfl)
  case aUnlockSpawn | aUnlockSend | aUnlockIdle | qUnlockStop | qUnlockStay =>
    exact pinv_upd hth rfl hg hd (hlock := fun h => by rw [h rfl]; rfl)
  case fUnlock c => cases c <;> exact pinv_upd hth rfl hg hd (hlock := fun h => by rw [h rfl]; rfl)
  -- pe.wgBarrier: taken and released by `Wait` only
  case wBarrier hb => exact pinv_upd hth rfl hg hd (hbar := fun _ => by rw [hb]; rfl)
  case wUnbarrier => exact pinv_upd hth rfl hg hd (hbar := fun h => by rw [h rfl]; rfl)
  -- `aSend` fills the commander as the producer starts to wait for the confirmation; `bTake` empties it as the
  -- flusher becomes `taken`
  case aSend hc | bTake hc _ | bTakePinned hc _ =>
    exact pinv_upd hth rfl hg hd (hconf := by simp [cmd01, hc, atConfirm, taken])
  -- `aAdd` fills the container as a producer that is `preGuard`, and goes on to the hand-over (`aInc`, which raises
  -- `inflight` inside `preGuard`) exactly when the container has reached its threshold
  case aAddFull =>
    exact pinv_upd hth rfl hg hd (hinfl := fun _ => .inr (Nat.succ_pos _)) (hrest := nofun)
      (hpend := fun _ => .inr (Nat.succ_pos _))
  case aAddRoom hf =>
    exact pinv_upd hth rfl hg hd (hinfl := fun _ => .inr (Nat.succ_pos _)) (hrest := fun _ => .inr (.inr hf))
      (hpend := fun _ => .inr (Nat.succ_pos _))
  case aInc => exact pinv_upd hth rfl hg hd (hinfl := fun _ => .inr (Nat.succ_pos _)) (hrest := nofun)
  -- a producer leaves `preGuard` with `guarded` set; the one that sets it is `spawning` until its `go` (a spawn
  -- token), and `start` turns the token into a flusher
  case aGuardSet =>
    exact pinv_upd hth rfl hg hd (hinfl := fun _ => .inr (Nat.succ_pos _)) (hpend := fun _ => .inr (Nat.succ_pos _))
      (halive := fun _ => .inr (Nat.succ_pos _))
  case aGuardKeep hk =>
    have h1 : 0 < b2n s.guarded + 0 := by rw [hk]; exact Nat.one_pos
    exact pinv_upd hth rfl hg hd (hinfl := fun _ => .inr h1) (hpend := fun _ => .inr h1)
  case aSpawnSend | aSpawnIdle => exact pinv_upd hth rfl hg hd (halive := fun _ => .inr (Nat.succ_pos _))
  case start hsp =>
    have : s.spawn + 0 + 0 ≤ s.spawn - 1 + 0 + 1 := by omega
    exact pinv_upd hth rfl hg hd (halive := fun h => .inl ⟨h, this⟩)
  -- the flusher resets `guarded` only when `inflight = 0` and only as it becomes `quitting`; it stays so until its
  -- `fRemove` has emptied the container
  case qCheckStop h0 =>
    exact pinv_upd hth rfl hg hd (hinfl := fun (h : 0 < s.inflight) => absurd h (by omega))
      (hpend := fun _ => .inr (Nat.succ_pos _)) (halive := nofun)
  case bDec | bDecF =>
    exact pinv_upd hth rfl hg hd (hinfl := fun (h : 0 < s.inflight - 1) => .inl ⟨by omega, Nat.le_refl _⟩)
  -- `RemoveAll` empties the container
  case aRemove =>
    exact pinv_upd hth rfl hg hd (hrest := fun _ => .inr (.inl rfl)) (hpend := fun h => absurd rfl h)
  case fRemove c =>
    cases c <;> exact pinv_upd hth rfl hg hd (hrest := fun _ => .inr (.inl rfl)) (hpend := fun h => absurd rfl h)
  -- the other rows of a `Flush`: `quitting` and `flusherPc` depend on the context `c`, one case per context
  case fEnter c _ | fExecNone c _ | fExecCall c _ | fCall c _ => cases c <;> exact pinv_upd hth rfl hg hd
  all_goals exact pinv_upd hth rfl hg hd

theorem pinv_reachable {cfg : Cfg} {s : St} (h : Reachable cfg s) : GInv s ∧ DInv cfg s :=
  reachable_invariant (fun n => ⟨ginv_init n, dinv_init cfg n⟩) (pinv_step cfg) h

end GoZero.C11
