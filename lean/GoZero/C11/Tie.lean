/-
C11 — Tie: what the extractor read from core/executors/{periodical,bulk,chunk}executor.go and from
core/stores/sqlx/bulkinserter.go *now* equals the statement skeletons the step table of Model.lean, the containers,
the constructors and the statement parser were written against (see the table at the top of Model.lean).
A failing obligation here means the code moved away from the model.
-/
import GoZero.Extracted.C11
import GoZero.C11.Model
import GoZero.C11.Containers
import GoZero.C11.Api
import GoZero.C11.SqlParse
namespace GoZero.C11.Tie
open GoZero.Extracted.C11

theorem extraction_clean : extractionErrors = [] := rfl

/-- the property's literal number: the flusher may quit after more than 10 idle intervals -/
theorem tie_idleRound : idleRound = 10 ∧ GoZero.C11.idleRound = 10 := ⟨rfl, rfl⟩

theorem tie_addShape : addShape =
    ["call pe.addAndCheck", "if ok {", "send pe.commander", "recv pe.confirmChan", "}"] := rfl

theorem tie_addAndCheckShape : addAndCheckShape =
    ["call pe.lock.Lock", "defer{", "func{", "if !pe.guarded {", "store pe.guarded", "defer{",
     "call pe.backgroundFlush", "}", "}", "call pe.lock.Unlock", "}", "call func", "}",
     "if pe.container.AddTask(task) {", "call atomic.AddInt32", "call pe.container.RemoveAll", "return", "}",
     "return"] := rfl

theorem tie_flushShape : flushShape =
    ["call pe.enterExecution", "func{", "call pe.lock.Lock", "defer{", "call pe.lock.Unlock", "}",
     "call pe.container.RemoveAll", "return", "}", "call func", "call pe.executeTasks", "return"] := rfl

theorem tie_waitShape : waitShape =
    ["call pe.Flush", "for atomic.LoadInt32(&pe.inflight) > 0 {", "}", "func{", "call pe.waitGroup.Wait", "}",
     "call pe.wgBarrier.Guard"] := rfl

theorem tie_backgroundFlushShape : backgroundFlushShape =
    ["go{", "func{", "defer{", "call pe.Flush", "}", "call pe.newTicker", "defer{", "call ticker.Stop", "}",
     "call timex.Now", "for {", "select{", "case recv pe.commander:", "call pe.enterExecution",
     "call atomic.AddInt32", "send pe.confirmChan", "call pe.executeTasks", "call timex.Now",
     "case recv ticker.Chan(); call ticker.Chan:", "if commanded {", "}", "else{", "if pe.Flush() {",
     "call timex.Now", "}", "else{", "if pe.shallQuit(last) {", "return", "}", "}", "}", "}", "}", "}",
     "call func", "}"] := rfl

theorem tie_enterExecutionShape : enterExecutionShape =
    ["func{", "call pe.waitGroup.Add", "}", "call pe.wgBarrier.Guard"] := rfl

theorem tie_doneExecutionShape : doneExecutionShape =
    ["call pe.waitGroup.Done"] := rfl

theorem tie_executeTasksShape : executeTasksShape =
    ["defer{", "call pe.doneExecution", "}", "call pe.hasTasks", "if ok {", "func{",
     "call pe.container.Execute", "}", "call threading.RunSafe", "}", "return"] := rfl

theorem tie_hasTasksShape : hasTasksShape =
    ["if tasks == nil {", "return", "}", "switch val.Kind() {",
     "case reflect.Array, reflect.Chan, reflect.Map, reflect.Slice:", "call val.Len", "return", "default:",
     "return", "}"] := rfl

theorem tie_shallQuitShape : shallQuitShape =
    ["if timex.Since(last) <= pe.interval*idleRound {", "return", "}", "call pe.lock.Lock",
     "if atomic.LoadInt32(&pe.inflight) == 0 {", "store pe.guarded", "}", "call pe.lock.Unlock", "return"] := rfl

theorem tie_newShape : newShape =
    ["func{", "call timex.NewTicker", "return", "}", "func{", "call executor.Flush", "}",
     "call proc.AddShutdownListener", "return"] := rfl

theorem tie_bulkAddTaskShape : bulkAddTaskShape =
    ["store bc.tasks", "return"] := rfl

theorem tie_bulkRemoveAllShape : bulkRemoveAllShape =
    ["store bc.tasks", "return"] := rfl

theorem tie_bulkExecuteShape : bulkExecuteShape =
    ["call bc.execute"] := rfl

theorem tie_bulkAddShape : bulkAddShape =
    ["call be.executor.Add", "return"] := rfl

theorem tie_bulkFlushShape : bulkFlushShape =
    ["call be.executor.Flush"] := rfl

theorem tie_bulkWaitShape : bulkWaitShape =
    ["call be.executor.Wait"] := rfl

theorem tie_chunkAddTaskShape : chunkAddTaskShape =
    ["store bc.tasks", "store bc.size", "return"] := rfl

theorem tie_chunkRemoveAllShape : chunkRemoveAllShape =
    ["store bc.tasks", "store bc.size", "return"] := rfl

theorem tie_chunkExecuteShape : chunkExecuteShape =
    ["call bc.execute"] := rfl

theorem tie_chunkAddShape : chunkAddShape =
    ["call ce.executor.Add", "return"] := rfl

theorem tie_chunkFlushShape : chunkFlushShape =
    ["call ce.executor.Flush"] := rfl

theorem tie_chunkWaitShape : chunkWaitShape =
    ["call ce.executor.Wait"] := rfl

/-! ### what the skeletons drop: comparison operators, atomic deltas, channel capacities, local flags -/

/-- meaning of a Go comparison operator on integers -/
def cmpEval (op : String) (a b : Int) : Bool :=
  match op with
  | ">=" => decide (a ≥ b) | ">" => decide (a > b) | "<=" => decide (a ≤ b) | "<" => decide (a < b)
  | "==" => decide (a = b) | "!=" => decide (a ≠ b) | _ => false

/-- bulk: `AddTask` appends and answers `len(bc.tasks) >= bc.maxTasks` — the model's `bulkFull`, for all inputs -/
theorem tie_bulkThreshold :
    bulkAddTaskStmts = ["bc.tasks = append(bc.tasks, task)", "return len(bc.tasks) >= bc.maxTasks"] ∧
    bulkThreshold.head? = some "len(bc.tasks)" ∧ bulkThreshold.getLast? = some "bc.maxTasks" ∧
    ∀ (l : List Task) (max : Int), bulkFull max l = cmpEval (bulkThreshold.getD 1 "") (l.length : Int) max :=
  ⟨rfl, rfl, rfl, fun _ _ => rfl⟩

/-- chunk: `AddTask` appends the value, adds the size and answers `bc.size >= bc.maxChunkSize` — `chunkFull` -/
theorem tie_chunkThreshold :
    chunkAddTaskStmts = ["ck := task.(chunk)", "bc.tasks = append(bc.tasks, ck.val)", "bc.size += ck.size",
      "return bc.size >= bc.maxChunkSize"] ∧
    chunkThreshold.head? = some "bc.size" ∧ chunkThreshold.getLast? = some "bc.maxChunkSize" ∧
    ∀ (size : Task → Int) (l : List Task) (max : Int),
      chunkFull size max l = cmpEval (chunkThreshold.getD 1 "") ((l.map size).sum) max :=
  ⟨rfl, rfl, rfl, fun _ _ _ => rfl⟩

/-- `RemoveAll` hands out everything and empties the container (chunk: also resets the byte count) -/
theorem tie_removeAllStmts :
    bulkRemoveAllStmts = ["tasks := bc.tasks", "bc.tasks = nil", "return tasks"] ∧
    chunkRemoveAllStmts = ["tasks := bc.tasks", "bc.tasks = nil", "bc.size = 0", "return tasks"] := ⟨rfl, rfl⟩

theorem tie_executeStmts :
    bulkExecuteStmts = ["vals := tasks.([]any)", "bc.execute(vals)"] ∧
    chunkExecuteStmts = ["vals := tasks.([]any)", "bc.execute(vals)"] := ⟨rfl, rfl⟩

/-- the constructors pass the options' threshold to the container and the container to the executor;
`ChunkExecutor.Add` wraps value and size into one task -/
theorem tie_constructors :
    newBulkStmts.getD 2 "" = "container := &bulkContainer{ execute: execute, maxTasks: options.cachedTasks, }" ∧
    newBulkStmts.getD 3 "" = "executor := &BulkExecutor{ executor: NewPeriodicalExecutor(options.flushInterval, container), container: container, }" ∧
    newChunkStmts.getD 2 "" = "container := &chunkContainer{ execute: execute, maxChunkSize: options.chunkSize, }" ∧
    newChunkStmts.getD 3 "" = "executor := &ChunkExecutor{ executor: NewPeriodicalExecutor(options.flushInterval, container), container: container, }" ∧
    chunkAddStmts = ["ce.executor.Add(chunk{ val: task, size: size, })", "return nil"] := ⟨rfl, rfl, rfl, rfl, rfl⟩

/-- the flusher's loop, statement by statement: the commander case sets `commanded`, enters the wait group BEFORE
it decrements `inflight` (the fixed order: rows bEnterF, bDecF), confirms, executes, stamps `last`; the ticker case
skips one flush after a commanded one, stamps `last` only after a non-empty flush, and asks `shallQuit(last)` only
after an empty one (rows bSelect/tick, fDone tick, bQuit) -/
theorem tie_backgroundFlushCases : backgroundFlushCases =
    ["case vals := <-pe.commander:", "commanded = true", "pe.enterExecution()", "atomic.AddInt32(&pe.inflight, -1)",
     "pe.confirmChan <- lang.Placeholder", "pe.executeTasks(vals)", "last = timex.Now()",
     "case <-ticker.Chan():",
     "if commanded { commanded = false } else if pe.Flush() { last = timex.Now() } else if pe.shallQuit(last) { return }"] :=
  rfl

theorem tie_commandedAssigns : commandedAssigns = ["var commanded bool", "commanded = true", "commanded = false"] ∧
    lastAssigns = ["last := timex.Now()", "last = timex.Now()", "last = timex.Now()"] := ⟨rfl, rfl⟩

/-- `inflight` goes up by one per handed-over batch (row aInc), down by one per received batch (row bDecF), and is
only read by `Wait` and `shallQuit` -/
theorem tie_inflightDeltas :
    addAndCheckAtomics = ["atomic.AddInt32(&pe.inflight, 1)"] ∧
    backgroundFlushAtomics = ["atomic.AddInt32(&pe.inflight, -1)"] ∧
    waitAtomics = ["atomic.LoadInt32(&pe.inflight)"] ∧
    shallQuitAtomics = ["atomic.LoadInt32(&pe.inflight)"] := ⟨rfl, rfl, rfl, rfl⟩

/-- commander has a buffer of ONE batch (row aSend blocks on a full buffer), confirmChan is unbuffered
(row bConfirm is a rendezvous) -/
theorem tie_channelCapacities : newMakes = ["make(chan any, 1)", "make(chan lang.PlaceholderType)"] := rfl

/-- conditions with their operators and polarity -/
theorem tie_conditions :
    addAndCheckConds = ["if !pe.guarded", "if pe.container.AddTask(task)", "return pe.container.RemoveAll(), true",
      "return nil, false"] ∧
    addConds = ["if ok"] ∧
    executeTasksConds = ["if ok", "return ok"] ∧
    hasTasksConds = ["if tasks == nil", "return false", "return val.Len() > 0", "return true"] ∧
    shallQuitConds = ["if timex.Since(last) <= pe.interval*idleRound", "return",
      "if atomic.LoadInt32(&pe.inflight) == 0", "return"] ∧
    shallQuitStops = ["stop = true"] ∧
    waitConds = ["for atomic.LoadInt32(&pe.inflight) > 0"] ∧
    flushConds = ["return pe.executeTasks(func() any { pe.lock.Lock() defer pe.lock.Unlock() return pe.container.RemoveAll() }())",
      "return pe.container.RemoveAll()"] := ⟨rfl, rfl, rfl, rfl, rfl, rfl, rfl, rfl⟩

/-- the model's reading of those conditions, as functions: row bQuit stays iff `now - last ≤ interval * idleRound`,
row qCheck stops iff `inflight = 0`, row wSpin passes iff `¬ inflight > 0`, rows fExec / bExec call iff the batch is
non-empty -/
theorem tie_condition_meaning (cfg : Cfg) (s : St) (t : Nat) (th : Thread) :
    (th.pc = .bQuit → stepTh cfg s t th .tau =
      some (s.upd t { th with pc := if cmpEval "<=" ((s.now - th.last : Nat) : Int) ((cfg.interval * GoZero.C11.idleRound : Nat) : Int) then .bSelect false else .qLock })) ∧
    (th.pc = .qCheck → stepTh cfg s t th .tau =
      if cmpEval "==" s.inflight 0 then some ({ s with guarded := false }.upd t { th with pc := .qUnlock true })
      else some (s.upd t { th with pc := .qUnlock false })) ∧
    (th.pc = .wSpin → stepTh cfg s t th .tau =
      if cmpEval ">" s.inflight 0 then none else some (s.upd t { th with pc := .wBarrier })) := by
  refine ⟨?_, ?_, ?_⟩ <;> intro hpc <;> unfold stepTh <;> simp [hpc, cmpEval, ← Int.ofNat_le, Int.natCast_mul]

/-! ### users of the executor named by the property's anchors: core/stores/sqlx BulkInserter -/

/-- `dbInserter` is a bulk container with the constant threshold `maxBulkRows = 1000`: the same `bulkFull`, so every
theorem of Props.lean (stated for an arbitrary `cfg.full`) covers the inserter -/
theorem tie_sqlxContainer :
    sqlxMaxBulkRows = 1000 ∧
    sqlxAddTaskStmts = ["in.values = append(in.values, task.(string))", "return len(in.values) >= maxBulkRows"] ∧
    sqlxRemoveAllStmts = ["values := in.values", "in.values = nil", "return values"] ∧
    sqlxThreshold = ["len(in.values)", ">=", "maxBulkRows"] ∧
    ∀ (l : List Task), bulkFull sqlxMaxBulkRows l = cmpEval (sqlxThreshold.getD 1 "") (l.length : Int) 1000 :=
  ⟨rfl, rfl, rfl, rfl, fun _ => rfl⟩

/-- `Insert` = format + `executor.Add` under the read lock; `Flush`, `UpdateOrDelete`, `UpdateStmt` = `executor.Flush`
(+ `Sync` for the statement swap); `Execute` ignores an empty batch -/
theorem tie_sqlxCalls :
    sqlxInsertShape = ["call bi.lock.RLock", "defer{", "call bi.lock.RUnlock", "}", "call format", "if err != nil {",
      "return", "}", "call bi.executor.Add", "return"] ∧
    sqlxFlushShape = ["call bi.executor.Flush"] ∧
    sqlxUpdateOrDeleteShape = ["call bi.executor.Flush", "call fn"] ∧
    sqlxUpdateStmtShape = ["call parseInsertStmt", "if err != nil {", "return", "}", "call bi.lock.Lock", "defer{",
      "call bi.lock.Unlock", "}", "store bi.stmt", "call bi.executor.Flush", "func{", "store bi.inserter.stmt", "}",
      "call bi.executor.Sync", "return"] ∧
    sqlxSetResultHandlerShape = ["func{", "store bi.inserter.resultHandler", "}", "call bi.executor.Sync"] ∧
    sqlxNewShape = ["call parseInsertStmt", "if err != nil {", "return", "}", "call executors.NewPeriodicalExecutor",
      "return"] ∧
    sqlxExecuteConds.head? = some "if len(values) == 0" := ⟨rfl, rfl, rfl, rfl, rfl, rfl, rfl⟩

theorem tie_syncShape : syncShape = ["call pe.lock.Lock", "defer{", "call pe.lock.Unlock", "}", "call fn"] := rfl

/-! ### SEMANTIC tie: the container methods and the executor's decisions, translated from the Go source into Lean
functions (extract/c11.go: c11Translated / c11CondFn) and proven equal to the model's definitions FOR ALL ARGUMENTS.
The primitives of Go the methods use are parameters of the translated functions; here they are instantiated with the
slice-heap model of Containers.lean (`append` in place / fresh array, `len`, `nil`, `s[:0]`). -/

section Containers
variable {α : Type} (grow : Nat → Nat)

def lenI (s : Slice) : Int := (s.len : Int)

/-- `bulkContainer.AddTask` = `BulkC.addTask`: same heap, same `tasks`, same answer; `maxTasks` is not assigned -/
theorem tie_bulkAddTask_sem (h : Heap α) (c : BulkC) (x : α) :
    bulkAddTaskFn (Heap.append grow) lenI ({} : Slice) Heap.slice0 h c.tasks c.maxTasks x
      = ((BulkC.addTask grow h c x).1, (BulkC.addTask grow h c x).2.1.tasks, (BulkC.addTask grow h c x).2.2) ∧
    (BulkC.addTask grow h c x).2.1.maxTasks = c.maxTasks := ⟨rfl, rfl⟩

/-- `bulkContainer.RemoveAll` = `BulkC.removeAll`: returns the slice, leaves `nil` -/
theorem tie_bulkRemoveAll_sem (c : BulkC) :
    bulkRemoveAllFn (Heap.append (α := α) grow) lenI ({} : Slice) Heap.slice0 c.tasks
      = ((BulkC.removeAll c).1.tasks, (BulkC.removeAll c).2) ∧
    (BulkC.removeAll c).1.maxTasks = c.maxTasks := ⟨rfl, rfl⟩

/-- `chunkContainer.AddTask` = `ChunkC.addTask` (the task is the pair value / declared size) -/
theorem tie_chunkAddTask_sem (size : α → Int) (h : Heap α) (c : ChunkC) (x : α) :
    chunkAddTaskFn (Heap.append grow) lenI ({} : Slice) Heap.slice0 (fun x => (x, size x)) Prod.fst Prod.snd
        h c.tasks c.size c.maxChunkSize x
      = ((ChunkC.addTask grow size h c x).1, (ChunkC.addTask grow size h c x).2.1.tasks,
         (ChunkC.addTask grow size h c x).2.1.size, (ChunkC.addTask grow size h c x).2.2) ∧
    (ChunkC.addTask grow size h c x).2.1.maxChunkSize = c.maxChunkSize := ⟨rfl, rfl⟩

/-- `chunkContainer.RemoveAll` = `ChunkC.removeAll`: returns the slice, leaves `nil` and size 0 -/
theorem tie_chunkRemoveAll_sem (c : ChunkC) :
    chunkRemoveAllFn (Heap.append (α := α) grow) lenI ({} : Slice) Heap.slice0 c.tasks c.size
      = ((ChunkC.removeAll c).1.tasks, (ChunkC.removeAll c).1.size, (ChunkC.removeAll c).2) ∧
    (ChunkC.removeAll c).1.maxChunkSize = c.maxChunkSize := ⟨rfl, rfl⟩

/-- `dbInserter.AddTask` / `RemoveAll` = `SqlC.addTask` / `SqlC.removeAll` (threshold: the constant `maxBulkRows`) -/
theorem tie_sqlxContainer_sem (h : Heap α) (c : SqlC) (x : α) :
    sqlxAddTaskFn (Heap.append grow) lenI ({} : Slice) Heap.slice0 id h c.values x
      = ((SqlC.addTask grow h c x).1, (SqlC.addTask grow h c x).2.1.values, (SqlC.addTask grow h c x).2.2) ∧
    sqlxRemoveAllFn (Heap.append (α := α) grow) lenI ({} : Slice) Heap.slice0 c.values
      = ((SqlC.removeAll c).1.values, (SqlC.removeAll c).2) := ⟨rfl, rfl⟩

/-- `dbInserter.Execute` up to the `Exec` call = `sqlStmt`: no statement for an empty batch, else
prefix ␣ rows joined by ", " [␣ suffix if the suffix is not empty] -/
theorem tie_sqlxExecute_sem (pre suffix : String) (values : List String) :
    sqlxExecuteFn id (fun l => (l.length : Int)) (fun s => (s.length : Int)) (fun l sep => sep.intercalate l)
      pre suffix values = sqlStmt pre suffix values := by
  unfold sqlxExecuteFn sqlStmt
  by_cases h1 : values.length = 0 <;> by_cases h2 : suffix.length > 0 <;> simp [h1, h2] <;> omega

end Containers

/-- the executor's decisions: every row of the step table that branches does so on the condition translated from the
source — bQuit (stay iff Since(last) <= interval*idleRound), qCheck (stop iff inflight == 0), wSpin (spin iff
inflight > 0), aGuard (start a flusher iff !guarded), aAdd (hand over iff AddTask said full), aUnlock (send iff ok),
fExec / bExec (call iff hasTasks: Len() > 0) -/
theorem tie_conditions_sem (cfg : Cfg) (s : St) (t : Nat) (th : Thread) :
    (th.pc = .bQuit → stepTh cfg s t th .tau =
      some (s.upd t { th with pc := if shallQuitStaysFn ((s.now - th.last : Nat) : Int) (cfg.interval : Int) then .bSelect false else .qLock })) ∧
    (th.pc = .qCheck → stepTh cfg s t th .tau =
      if shallQuitStopsFn s.inflight then some ({ s with guarded := false }.upd t { th with pc := .qUnlock true })
      else some (s.upd t { th with pc := .qUnlock false })) ∧
    (th.pc = .wSpin → stepTh cfg s t th .tau =
      if waitSpinsFn s.inflight then none else some (s.upd t { th with pc := .wBarrier })) ∧
    (∀ ok, th.pc = .aGuard ok → stepTh cfg s t th .tau =
      if startsFlusherFn s.guarded then some ({ s with guarded := true }.upd t { th with pc := .aUnlock ok true })
      else some (s.upd t { th with pc := .aUnlock ok false })) ∧
    (∀ x, th.pc = .aAdd x → stepTh cfg s t th .tau =
      some ({ s with container := s.container ++ [x], added := s.added ++ [x] }.upd t
        { th with pc := if handsOverFn (cfg.full (s.container ++ [x])) then .aInc else .aGuard false })) ∧
    (∀ ok sp, th.pc = .aUnlock ok sp → stepTh cfg s t th .tau =
      some ({ s with lock := false }.upd t { th with pc := if sp then .aSpawn ok else if addSendsFn ok then .aSend else .idle })) ∧
    (∀ c, th.pc = .fExec c → stepTh cfg s t th .tau =
      some (s.upd t { th with pc := if executesFn (hasTasksLenFn (th.reg.length : Int)) then .fCall c else .fDone c false })) ∧
    (th.pc = .bExec → stepTh cfg s t th .tau =
      some (s.upd t { th with pc := if executesFn (hasTasksLenFn (th.reg.length : Int)) then .bCall else .bDone })) := by
  refine ⟨?_, ?_, ?_, ?_, ?_, ?_, ?_, ?_⟩
  · intro hpc; unfold stepTh
    simp [hpc, shallQuitStaysFn, GoZero.C11.idleRound, idleRound, ← Int.ofNat_le, Int.natCast_mul]
  · intro hpc; unfold stepTh; simp [hpc, shallQuitStopsFn]
  · intro hpc; unfold stepTh; simp [hpc, waitSpinsFn]
  · intro ok hpc; unfold stepTh; simp only [hpc, startsFlusherFn]; cases s.guarded <;> simp
  · intro x hpc; unfold stepTh; simp only [hpc, handsOverFn]
    by_cases hb : cfg.full (s.container ++ [x]) = true <;> simp [hb]
  · intro ok sp hpc; unfold stepTh; simp only [hpc, addSendsFn]
    cases ok <;> cases sp <;> simp
  · intro c hpc; unfold stepTh; simp only [hpc, executesFn, hasTasksLenFn]
    cases th.reg <;> simp <;> omega
  · intro hpc; unfold stepTh; simp only [hpc, executesFn, hasTasksLenFn]
    cases th.reg <;> simp <;> omega

/-- the package defaults that `newBulkOptions` / `newChunkOptions` start from and the sqlx inserter's interval and
threshold: the literals the sequential driver and `SqlC` use -/
theorem tie_defaults :
    defaultBulkTasks = 1000 ∧ GoZero.C11.defaultBulkTasks = defaultBulkTasks ∧
    defaultChunkSize = 1048576 ∧ GoZero.C11.defaultChunkSize = defaultChunkSize ∧
    defaultFlushInterval = 1000000000 ∧ GoZero.C11.defaultFlushInterval = defaultFlushInterval ∧
    sqlxFlushInterval = 1000000000 ∧ GoZero.C11.maxBulkRows = sqlxMaxBulkRows := ⟨rfl, rfl, rfl, rfl, rfl, rfl, rfl, rfl⟩

/-- options: every `With*` stores its argument in the field the constructor forwards, the defaults are the package
constants, the options are applied to a fresh value (no state shared between executors) -/
theorem tie_options :
    newBulkOptionsStmts = ["return bulkOptions{ cachedTasks: defaultBulkTasks, flushInterval: defaultFlushInterval, }"] ∧
    newChunkOptionsStmts = ["return chunkOptions{ chunkSize: defaultChunkSize, flushInterval: defaultFlushInterval, }"] ∧
    withBulkTasksStmts = ["return func(options *bulkOptions) { options.cachedTasks = tasks }"] ∧
    withBulkIntervalStmts = ["return func(options *bulkOptions) { options.flushInterval = duration }"] ∧
    withChunkBytesStmts = ["return func(options *chunkOptions) { options.chunkSize = size }"] ∧
    withFlushIntervalStmts = ["return func(options *chunkOptions) { options.flushInterval = duration }"] := ⟨rfl, rfl, rfl, rfl, rfl, rfl⟩

/-- constructors: the options start from the defaults and are applied to a local value; the executor literal forwards
interval and container; the flusher builds its ticker from `pe.interval`; the sqlx inserter hands ITS container and
the package's `flushInterval` to `NewPeriodicalExecutor` -/
theorem tie_constructors2 :
    newBulkStmts.take 2 = ["options := newBulkOptions()", "for _, opt := range opts { opt(&options) }"] ∧
    newChunkStmts.take 2 = ["options := newChunkOptions()", "for _, opt := range opts { opt(&options) }"] ∧
    newPeriodicalFields = ["commander: make(chan any, 1)", "interval: interval", "container: container",
      "confirmChan: make(chan lang.PlaceholderType)", "newTicker: func(d time.Duration) timex.Ticker { return timex.NewTicker(d) }"] ∧
    sqlxNewStmts.getD 2 "" = "inserter := &dbInserter{ sqlConn: sqlConn, stmt: bkStmt, }" ∧
    sqlxNewStmts.getD 3 "" = "return &BulkInserter{ executor: executors.NewPeriodicalExecutor(flushInterval, inserter), inserter: inserter, stmt: bkStmt, }, nil" ∧
    tickerCalls = ["pe.newTicker(pe.interval)"] := ⟨rfl, rfl, rfl, rfl, rfl, rfl⟩

/-! ### SEMANTIC tie of the public constructors: option records, defaults, option closures and forwarded arguments,
translated from the source (extract/c11.go: c11RecordDef / c11RecordLit / c11OptionSetter / c11Forward), equal to
Api.lean FOR ALL option values and ALL option lists -/

def bulkX (o : BulkOptions) : BulkOptionsX := { cachedTasks := o.cachedTasks, flushInterval := o.flushInterval }
def chunkX (o : ChunkOptions) : ChunkOptionsX := { chunkSize := o.chunkSize, flushInterval := o.flushInterval }

/-- the extracted closure of an option -/
def bulkOptX (o : BulkOptionsX) : BulkOpt → BulkOptionsX
  | .tasks n => withBulkTasksFn o n
  | .interval d => withBulkIntervalFn o d
def chunkOptX (o : ChunkOptionsX) : ChunkOpt → ChunkOptionsX
  | .bytes n => withChunkBytesFn o n
  | .interval d => withFlushIntervalFn o d

/-- defaults and option closures: `newBulkOptions()` is the record of the package constants, every `With*` writes its
argument into its own field and leaves the other alone -/
theorem tie_options_sem (bo : BulkOptions) (co : ChunkOptions) (n : Int) :
    newBulkOptionsFn = bulkX newBulkOptions ∧ newChunkOptionsFn = chunkX newChunkOptions ∧
    withBulkTasksFn (bulkX bo) n = bulkX (BulkOpt.apply bo (.tasks n)) ∧
    withBulkIntervalFn (bulkX bo) n = bulkX (BulkOpt.apply bo (.interval n)) ∧
    withChunkBytesFn (chunkX co) n = chunkX (ChunkOpt.apply co (.bytes n)) ∧
    withFlushIntervalFn (chunkX co) n = chunkX (ChunkOpt.apply co (.interval n)) :=
  ⟨rfl, rfl, rfl, rfl, rfl, rfl⟩

/-- **the constructors, end to end from the source**: start from the extracted defaults, apply the extracted option
closures in the order of the list (`for _, opt := range opts { opt(&options) }`), forward the extracted fields to the
container literal and to `NewPeriodicalExecutor`: that is `newBulkExecutor` / `newChunkExecutor` of Api.lean, for
every option list -/
theorem tie_constructors_sem (bo : List BulkOpt) (co : List ChunkOpt) :
    newBulkThresholdFn (bo.foldl bulkOptX newBulkOptionsFn) = (newBulkExecutor bo).threshold ∧
    newBulkIntervalFn (bo.foldl bulkOptX newBulkOptionsFn) = (newBulkExecutor bo).interval ∧
    newChunkThresholdFn (co.foldl chunkOptX newChunkOptionsFn) = (newChunkExecutor co).threshold ∧
    newChunkIntervalFn (co.foldl chunkOptX newChunkOptionsFn) = (newChunkExecutor co).interval ∧
    newBulkRanges = ["for _, opt := range opts { opt(&options) }"] ∧
    newChunkRanges = ["for _, opt := range opts { opt(&options) }"] := by
  -- the extracted closures commute with the model's options, so the two folds do
  have hb : bo.foldl bulkOptX newBulkOptionsFn = bulkX (bo.foldl BulkOpt.apply newBulkOptions) :=
    List.foldl_hom (init := newBulkOptions) bulkX fun _ a => by cases a <;> rfl
  have hc : co.foldl chunkOptX newChunkOptionsFn = chunkX (co.foldl ChunkOpt.apply newChunkOptions) :=
    List.foldl_hom (init := newChunkOptions) chunkX fun _ a => by cases a <;> rfl
  refine ⟨?_, ?_, ?_, ?_, rfl, rfl⟩
  · rw [hb]; rfl
  · rw [hb]; rfl
  · rw [hc]; rfl
  · rw [hc]; rfl

/-- delegating entry points WITH their argument lists: the wrappers pass the task on unchanged (`ChunkExecutor.Add`
wraps task and declared size into one chunk), `Flush` / `Wait` call `Flush` / `Wait` (not each other), the sqlx
inserter adds the formatted value it was given, the shutdown listener flushes, `executeTasks` runs the container's
`Execute` on the SAME batch under `threading.RunSafe` -/
theorem tie_delegation_args :
    bulkAddCalls = ["be.executor.Add(task)"] ∧ bulkFlushCalls = ["be.executor.Flush()"] ∧
    bulkWaitCalls = ["be.executor.Wait()"] ∧
    chunkAddCalls = ["ce.executor.Add(chunk{ val: task, size: size, })"] ∧
    chunkFlushCalls = ["ce.executor.Flush()"] ∧ chunkWaitCalls = ["ce.executor.Wait()"] ∧
    sqlxInsertCalls = ["format(bi.stmt.valueFormat, args...)", "bi.executor.Add(value)"] ∧
    sqlxFlushCalls = ["bi.executor.Flush()"] ∧ sqlxUpdateOrDeleteCalls = ["bi.executor.Flush()", "fn()"] ∧
    newShutdownCalls = ["proc.AddShutdownListener(func() { executor.Flush() })", "executor.Flush()"] ∧
    executeTasksCalls = ["pe.doneExecution()", "pe.hasTasks(tasks)",
      "threading.RunSafe(func() { pe.container.Execute(tasks) })", "pe.container.Execute(tasks)"] := ⟨rfl, rfl, rfl, rfl, rfl, rfl, rfl, rfl, rfl, rfl, rfl⟩

/-! ### parseInsertStmt: the Lean model SqlParse.lean against the source (decisions semantic, slices by text; the
model is also RUN against the real parser on the harness's statements by the sqlx driver) -/

/-- what Go's `strings.Index` / `IndexByte` / `LastIndexByte` return for the model's `Option Nat` -/
def goIdx : Option Nat → Int
  | none => -1
  | some n => (n : Int)

/-- the decisions of `parseInsertStmt`, translated from the source, are the model's: `pos0` (= found at a position
> 0) is the guard `pos <= 0` / `right > 0` / `left > 0`; the two rejection tests after the scan are `variables == 0` and
`columns > 0 && columns != variables`; the result is sliced as the model slices it; the keyword is `values` -/
theorem tie_parseInsertStmt_sem (o : Option Nat) (v c : Nat) :
    (pos0 o).isNone = parseBadSqlFn (goIdx o) ∧ (pos0 o).isSome = parseParenFoundFn (goIdx o) ∧
    decide (v = 0) = parseNoVariablesFn (v : Int) ∧
    decide (c > 0 ∧ c ≠ v) = parseMismatchFn (c : Int) (v : Int) ∧
    sqlxValuesKeyword = "values" ∧ GoZero.C11.valuesKeyword = sqlxValuesKeyword.toList ∧
    parseResultFields = ["prefix: stmt[:pos+len(valuesKeyword)]", "valueFormat: valueFormat", "suffix: suffix"] ∧
    parseValueFormatAssigns = ["var valueFormat string", "valueFormat = stmt[pos+left : pos+left+right+1]"] ∧
    parseSuffixAssigns = ["var suffix string", "suffix = strings.TrimSpace(stmt[pos+left+right+1:])"] ∧
    parseIndexCalls = ["strings.ToLower(stmt)", "strings.Index(lower, valuesKeyword)",
      "strings.LastIndexByte(lower[:pos], ')')", "strings.LastIndexByte(lower[:right], '(')",
      "strings.IndexByte(lower[pos:], '(')", "strings.IndexByte(lower[pos+left:], ')')",
      "strings.TrimSpace(stmt[pos+left+right+1:])"] := by
  refine ⟨?_, ?_, ?_, ?_, rfl, rfl, rfl, rfl, rfl, rfl⟩
  · rcases o with _ | _ | k <;> simp [pos0, goIdx, parseBadSqlFn]
    exact decide_eq_false (by omega)
  · rcases o with _ | _ | k <;> simp [pos0, goIdx, parseParenFoundFn]
  · simp [parseNoVariablesFn]
  · simp only [parseMismatchFn]
    by_cases h1 : c > 0 <;> by_cases h2 : c = v <;> simp [h1, h2] <;> omega

/-! ### TYPED delegations and TYPED order of effects (not strings compared as a whole: values of the extracted
inductive types, read by Lean functions) -/

/-- the model action a delegated call stands for, by callee and number of arguments only (`x` = the task the wrapper
was given; that the one argument of `Add` IS that task is the string equality in `tie_wrappers_sem`) -/
def delegAct (x : Task) : DelegX → Option Act
  | ⟨.add, [_]⟩ => some (Act.add x)
  | ⟨.flush, []⟩ => some Act.flush
  | ⟨.wait, []⟩ => some Act.wait
  | _ => none

/-- **every delegating entry point IS the model action of the same name** (seeded C11-9: `ChunkExecutor.Wait` calling
`Flush`): `Add` delegates to `Add` with one argument (bulk: the task itself; chunk: the task wrapped with its declared
size; sqlx `Insert`: the formatted value), `Flush` / `UpdateOrDelete` to `Flush`, `Wait` to `Wait`; `UpdateStmt` flushes
and then swaps under `Sync` -/
theorem tie_wrappers_sem (x : Task) :
    bulkAddDeleg.map (delegAct x) = [some (ApiCall.add x).act] ∧
    bulkFlushDeleg.map (delegAct x) = [some ApiCall.flush.act] ∧
    bulkWaitDeleg.map (delegAct x) = [some ApiCall.wait.act] ∧
    chunkAddDeleg.map (delegAct x) = [some (ApiCall.add x).act] ∧
    chunkFlushDeleg.map (delegAct x) = [some ApiCall.flush.act] ∧
    chunkWaitDeleg.map (delegAct x) = [some ApiCall.wait.act] ∧
    sqlxInsertDeleg.map (delegAct x) = [some (ApiCall.add x).act] ∧
    sqlxFlushDeleg.map (delegAct x) = [some ApiCall.flush.act] ∧
    sqlxUpdateOrDeleteDeleg.map (delegAct x) = [some ApiCall.flush.act] ∧
    bulkAddDeleg = [⟨.add, ["task"]⟩] ∧ chunkAddDeleg = [⟨.add, ["chunk{ val: task, size: size, }"]⟩] ∧
    sqlxInsertDeleg = [⟨.add, ["value"]⟩] ∧
    sqlxUpdateStmtDeleg = [⟨.flush, []⟩, ⟨.sync, ["func"]⟩] ∧ sqlxSetResultHandlerDeleg = [⟨.sync, ["func"]⟩] :=
  ⟨rfl, rfl, rfl, rfl, rfl, rfl, rfl, rfl, rfl, rfl, rfl, rfl, rfl, rfl⟩

/-- `waitGroup.Done` is released on EVERY path of `executeTasks`, also when the callback panics: `doneExecution` is
DEFERRED at the top level, first, and called nowhere else (seeded C11-8 moved it inside the RunSafe closure) -/
def releasesOnPanic (l : List EffX) : Bool :=
  l.head? == some ⟨0, .deferCall, "pe.doneExecution"⟩ && (l.filter (·.what == "pe.doneExecution")).length == 1

/-- the callback runs directly under `threading.RunSafe` -/
def callbackProtected (l : List EffX) : Bool :=
  (l.zip l.tail).any fun p => p.1.kind == .runSafe && p.2 == ⟨p.1.depth + 1, .call, "pe.container.Execute"⟩

/-- `Wait` polls `inflight` at the top level BEFORE it takes the barrier (seeded C11-7 polled inside the Guard) -/
def pollsBeforeBarrier (l : List EffX) : Bool :=
  match l.findIdx? (·.kind == .loop), l.findIdx? (·.kind == .guard) with
  | some i, some j => decide (i < j) && (l[i]?.map (·.depth)) == some 0 && (l[j]?.map (·.depth)) == some 0
  | _, _ => false

/-- **the order of effects, typed**: what the rows fCall/bCall → fDone/bDone for BOTH outcomes of the callback
(`panic_loses_own_batch_only`), the rows wSpin → wBarrier → wWait (`stuck_is_rest`), fEnter → fLock → fRemove → fUnlock →
fExec and aSend → aConfirm rest on -/
theorem tie_effects_sem :
    releasesOnPanic executeTasksEffs = true ∧ callbackProtected executeTasksEffs = true ∧
    pollsBeforeBarrier waitEffs = true ∧
    executeTasksEffs = [⟨0, .deferCall, "pe.doneExecution"⟩, ⟨0, .call, "pe.hasTasks"⟩, ⟨0, .ifc, "ok"⟩,
      ⟨1, .runSafe, "threading.RunSafe"⟩, ⟨2, .call, "pe.container.Execute"⟩, ⟨0, .ret, ""⟩] ∧
    waitEffs = [⟨0, .call, "pe.Flush"⟩, ⟨0, .loop, "atomic.LoadInt32(&pe.inflight) > 0"⟩, ⟨1, .call, "time.Sleep"⟩,
      ⟨0, .guard, "pe.wgBarrier.Guard"⟩, ⟨1, .call, "pe.waitGroup.Wait"⟩] ∧
    flushEffs = [⟨0, .call, "pe.enterExecution"⟩, ⟨0, .block, ""⟩, ⟨1, .call, "pe.lock.Lock"⟩,
      ⟨1, .deferCall, "pe.lock.Unlock"⟩, ⟨1, .call, "pe.container.RemoveAll"⟩, ⟨1, .ret, ""⟩,
      ⟨0, .call, "pe.executeTasks"⟩, ⟨0, .ret, ""⟩] ∧
    addEffs = [⟨0, .call, "pe.addAndCheck"⟩, ⟨0, .ifc, "ok"⟩, ⟨1, .send, "pe.commander"⟩, ⟨1, .recv, "pe.confirmChan"⟩] ∧
    enterExecutionEffs = [⟨0, .guard, "pe.wgBarrier.Guard"⟩, ⟨1, .call, "pe.waitGroup.Add"⟩] :=
  ⟨rfl, rfl, rfl, rfl, rfl, rfl, rfl, rfl⟩

/-- the predicates have teeth: the shapes of seeded C11-8 and C11-7 fail them -/
example : releasesOnPanic [⟨0, .ifc, "!pe.hasTasks(tasks)"⟩, ⟨1, .call, "pe.doneExecution"⟩, ⟨1, .ret, ""⟩,
    ⟨0, .runSafe, "threading.RunSafe"⟩, ⟨1, .call, "pe.container.Execute"⟩, ⟨1, .call, "pe.doneExecution"⟩, ⟨0, .ret, ""⟩] = false :=
  rfl
example : pollsBeforeBarrier [⟨0, .call, "pe.Flush"⟩, ⟨0, .guard, "pe.wgBarrier.Guard"⟩,
    ⟨1, .loop, "atomic.LoadInt32(&pe.inflight) > 0"⟩, ⟨2, .call, "time.Sleep"⟩, ⟨1, .call, "pe.waitGroup.Wait"⟩] = false :=
  rfl

end GoZero.C11.Tie
