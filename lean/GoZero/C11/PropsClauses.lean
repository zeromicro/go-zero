/-
C11 — the "when" clauses of the property, composed per trigger from call site to callback (property theorems):
the statement says every accepted task is executed "when the size threshold is reached, on the periodic flush,
on an explicit Flush, or at the latest by Wait".  Each trigger is a path  call site → Flush/addAndCheck → container
→ hands of the goroutine → callback;  the theorems below state, for every configuration (no reachability needed),
that the path takes the WHOLE container; together with `no_loss_no_dup` (Props.lean: what is in a goroutine's hands
is never lost or duplicated) and `wait_covers_prior_adds` this is the clause map of props/C11.json.
-/
import GoZero.C11.Proofs
namespace GoZero.C11

theorem step_tau_of {cfg : Cfg} {s : St} {t : Nat} {th : Thread} (ht : s.thr[t]? = some th) :
    step cfg s t .tau = stepTh cfg s t th .tau := by simp [step, ht]

theorem lt_of_get {s : St} {t : Nat} {th : Thread} (ht : s.thr[t]? = some th) : t < s.thr.length :=
  let ⟨h, _⟩ := List.getElem?_eq_some_iff.mp ht
  h

/-- the next `tau` of goroutine `t` after a step of `t` reads the record that step wrote -/
theorem step_tau_upd {cfg : Cfg} {s : St} {t : Nat} (hl : t < s.thr.length) (s0 : St) (th' : Thread)
    (h0 : s0.thr.length = s.thr.length) : step cfg (s0.upd t th') t .tau = stepTh cfg (s0.upd t th') t th' .tau :=
  step_tau_of (by rw [getElem?_upd]; simp [h0, hl])

/-- **threshold clause, call site → container → hand-over**: when `AddTask` says the threshold is reached, the same
critical section takes the WHOLE container (old tasks and the new one) into the producer's hands and counts it in
`inflight`; the container is empty afterwards. -/
theorem threshold_add_takes_batch (cfg : Cfg) (s : St) (t : Nat) (th : Thread) (x : Task)
    (ht : s.thr[t]? = some th) (hpc : th.pc = .aAdd x) (hfull : cfg.full (s.container ++ [x]) = true) :
    ∃ s', run cfg s [(t, .tau), (t, .tau), (t, .tau)] = some s' ∧ s'.container = [] ∧
      s'.inflight = s.inflight + 1 ∧ s'.added = s.added ++ [x] ∧
      ∃ th', s'.thr[t]? = some th' ∧ th'.pc = .aGuard true ∧ th'.reg = s.container ++ [x] := by
  have hl := lt_of_get ht
  simp only [run, step_tau_of ht, stepTh, hpc, hfull, ↓reduceIte]
  simp (disch := simp [St.upd]) only [step_tau_upd hl, stepTh]
  simp [St.upd, hl]

/-- **periodic flush / explicit Flush / Wait / quit-time flush, call site → container → callback**: a `Flush` in ANY
context (`c` = ext: a caller's Flush, tick: the flusher's periodic flush, wait: the Flush inside Wait, quit: the
deferred Flush of a quitting flusher) that has the lock takes the WHOLE container into its hands, leaves it empty,
and — when there is something — goes to the callback with exactly those tasks. -/
theorem flush_takes_all_pending (cfg : Cfg) (s : St) (t : Nat) (th : Thread) (c : Ctx)
    (ht : s.thr[t]? = some th) (hpc : th.pc = .fRemove c) :
    ∃ s', run cfg s [(t, .tau), (t, .tau), (t, .tau)] = some s' ∧ s'.container = [] ∧ s'.lock = false ∧
      ∃ th', s'.thr[t]? = some th' ∧ th'.reg = s.container ∧
        th'.pc = (if s.container = [] then .fDone c false else .fCall c) := by
  have hl := lt_of_get ht
  simp only [run, step_tau_of ht, stepTh, hpc]
  simp (disch := simp [St.upd]) only [step_tau_upd hl, stepTh]
  simp [St.upd, hl]

/-- **every trigger is a Flush**: the ticker case of the flusher's select (unless the previous round was a commanded
batch: then it only clears the flag), a caller's `Flush`, `Wait` (which first remembers what was added before it),
and the quitting flusher all enter `Flush` (`fEnter c`), whose rows are the ones of `flush_takes_all_pending` -/
theorem every_trigger_calls_flush (cfg : Cfg) (s : St) (t : Nat) (th : Thread) (ht : s.thr[t]? = some th) :
    (th.pc = .bSelect false → step cfg s t .tick = some (s.upd t { th with pc := .fEnter .tick })) ∧
    (th.pc = .bSelect true → step cfg s t .tick = some (s.upd t { th with pc := .bSelect false })) ∧
    (th.pc = .idle → step cfg s t .flush = some (s.upd t { th with pc := .fEnter .ext })) ∧
    (th.pc = .idle → step cfg s t .wait = some (s.upd t { th with pc := .fEnter .wait, snap := s.added })) ∧
    (th.pc = .qUnlock true → step cfg s t .tau = some ({ s with lock := false }.upd t { th with pc := .fEnter .quit })) := by
  obtain ⟨pc, reg, last, snap⟩ := th
  refine ⟨?_, ?_, ?_, ?_, ?_⟩ <;> intro (hpc : pc = _) <;> subst hpc
  · exact Row.step .bTickFlush ht
  · exact Row.step .bTickSkip ht
  · exact Row.step .flush ht
  · exact Row.step .wait ht
  · exact Row.step .qUnlockStop ht

/-- non-vacuity: bulk threshold 2, task 1 in the container, caller 0 inside `AddTask(2)` with the lock -/
example : ∃ s', run { full := bulkFull 2 } { thr := [{ pc := .aAdd 2 }], container := [1], lock := true, added := [1] }
    [(0, .tau), (0, .tau), (0, .tau)] = some s' ∧ s'.container = [] ∧ s'.inflight = 1 ∧
    s'.thr[0]?.map (·.reg) = some [1, 2] := by decide

/-- non-vacuity: a tick flush with two pending tasks goes to the callback with both -/
example : ∃ s', run { full := bulkFull 5 } { thr := [{ pc := .fRemove .tick }], container := [1, 2], lock := true, wg := 1 }
    [(0, .tau), (0, .tau), (0, .tau)] = some s' ∧ s'.container = [] ∧
    s'.thr[0]? = some { pc := .fCall .tick, reg := [1, 2] } := by decide

end GoZero.C11
