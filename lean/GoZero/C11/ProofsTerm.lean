/-
C11 — termination measure for the internal actions of the goroutines (PropsLive.lean: no livelock, every run of
internal actions is finite): `mu` = sum over the goroutines of the number of atomic actions they still have to do
before they are back at rest (idle / the flusher's select), plus 8 for a batch in the commander (it sends a resting
flusher through the hand-over path once more) plus 1 per pending `go`.
-/
import GoZero.C11.Proofs
namespace GoZero.C11

def cbase : Ctx → Nat
  | .ext => 0 | .quit => 0 | .wait => 4 | .tick => 11

def rank : Pc → Nat
  | .idle => 0
  | .aLock _ => 18 | .aAdd _ => 17 | .aInc => 16 | .aRemove => 15 | .aGuard _ => 14 | .aUnlock _ _ => 13
  | .aSpawn _ => 12 | .aSend => 10 | .aConfirm => 1
  | .fEnter c => cbase c + 7 | .fLock c => cbase c + 6 | .fRemove c => cbase c + 5 | .fUnlock c => cbase c + 4
  | .fExec c => cbase c + 3 | .fCall c => cbase c + 2 | .fDone c _ => cbase c + 1
  | .wSpin => 4 | .wBarrier => 3 | .wWait => 2 | .wUnbarrier => 1
  | .bSelect _ => 0 | .bDec => 6 | .bEnter => 5 | .bEnterF => 6 | .bDecF => 5 | .bConfirm => 4 | .bExec => 3
  | .bCall => 2 | .bDone => 1
  | .bQuit => 11 | .qLock => 10 | .qCheck => 9 | .qUnlock _ => 8

def work (s : St) : Nat := sumBy (fun th => rank th.pc) s.thr

def mu (s : St) : Nat := work s + 8 * cmd01 s + s.spawn

/-- what a goroutine does by itself (callbacks end; API calls, ticks and the clock are the environment) -/
def internal : Act → Bool
  | .tau => true | .start => true | .confirm _ => true | .cbEnd _ => true
  | _ => false

theorem mu_quiet {s s0 : St} {t : Nat} {th th' : Thread} (hth : s.thr[t]? = some th) (h0 : s0.thr = s.thr)
    (hc : s0.commander = s.commander) (hs : s0.spawn = s.spawn) (hr : rank th'.pc < rank th.pc) :
    mu (s0.upd t th') < mu s := by
  obtain ⟨r, e, u⟩ := sumBy_split (fun th => rank th.pc) hth
  simp only [mu, work, cmd01, St.upd, h0, hc, hs, u, e]
  omega

/-- **every internal action strictly decreases the measure**: the goroutine's rank drops by at least one; sending a
batch (`aSend`, rank 10 → 1) pays for the 8 the commander then holds, taking it (`bTake`) spends them on the hand-over
path, `aSpawn` (12 → at most 10) pays for the spawn token that `start` consumes -/
theorem mu_step (cfg : Cfg) (s s' : St) (t : Nat) (a : Act) (ha : internal a = true) (h : step cfg s t a = some s') :
    mu s' < mu s := by
  rcases step_row h with ⟨d, rfl, rfl⟩ | ⟨pc, reg, last, snap, hth, hr⟩
  · cases ha
  cases hr
  case add | flush | wait | bTickSkip | bTickFlush => cases ha
  case bConfirm u tu hu hpu =>
    have k : work _ + 4 + 1 = work s + 3 + 0 := sumBy_confirm rank hth hu hpu
    show work _ + 8 * cmd01 s + s.spawn < work s + 8 * cmd01 s + s.spawn
    omega
  case start | aSpawnSend | aSpawnIdle | aSend | bTake | bTakePinned =>
    obtain ⟨r, e, u⟩ := sumBy_split (fun th => rank th.pc) hth
    simp only [mu, work, St.upd, u, e]
    simp only [rank, cmd01, Option.isSome_none, Option.isSome_some, Bool.false_eq_true, ↓reduceIte, *]
    omega
  -- everywhere else the two ranks are literals, or `cbase c` plus literals for the rows of a Flush in context `c`
  all_goals first
    | exact mu_quiet hth rfl rfl rfl (Nat.lt_of_sub_eq_succ rfl)
    | exact mu_quiet hth rfl rfl rfl (Nat.add_lt_add_left (Nat.lt_of_sub_eq_succ rfl) _)

theorem mu_run (cfg : Cfg) (sched : List (Nat × Act)) (s s' : St) (hall : ∀ p ∈ sched, internal p.2 = true)
    (h : run cfg s sched = some s') : mu s' + sched.length ≤ mu s := by
  induction sched generalizing s with
  | nil => simp [run] at h; subst h; simp
  | cons p rest ih =>
    obtain ⟨t, a⟩ := p
    simp only [run] at h
    split at h
    · simp at h
    · rename_i s1 hs1
      obtain ⟨ha, hall⟩ := List.forall_mem_cons.mp hall
      have h1 := mu_step cfg s s1 t a ha hs1
      have h2 := ih s1 hall h
      simp; omega

end GoZero.C11
