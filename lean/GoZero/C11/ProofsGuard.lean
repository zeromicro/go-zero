/-
C11 — counting goroutines by the kind of their pc; the flusher-existence invariant `GInv` (its consequences are in
PropsGuard.lean; that every row of the step table keeps it is proved together with `DInv` in ProofsLive.lean).
-/
import GoZero.C11.Proofs
namespace GoZero.C11

/-- a producer inside the critical section of `addAndCheck` that has appended its task and has not yet run the
deferred `if !pe.guarded { pe.guarded = true; defer pe.backgroundFlush() }` -/
def preGuard : Pc → Bool
  | .aInc => true | .aRemove => true | .aGuard _ => true
  | _ => false

/-- a background flusher that has DECIDED to quit (`shallQuit` reset `guarded` and said stop) and has not yet taken
the container in its deferred `Flush` -/
def quitting : Pc → Bool
  | .qUnlock true => true | .fEnter .quit => true | .fLock .quit => true | .fRemove .quit => true
  | _ => false

/-- a producer that has set `guarded` and has not yet issued `go` for the new flusher -/
def spawning : Pc → Bool
  | .aUnlock _ true => true | .aSpawn _ => true
  | _ => false

/-- a live background flusher: from its start to its quit decision -/
def flusherPc : Pc → Bool
  | .bSelect _ => true | .bDec => true | .bEnter => true | .bEnterF => true | .bDecF => true | .bConfirm => true
  | .bExec => true | .bCall => true | .bDone => true | .bQuit => true | .qLock => true | .qCheck => true
  | .qUnlock false => true
  | .fEnter .tick => true | .fLock .tick => true | .fRemove .tick => true | .fUnlock .tick => true
  | .fExec .tick => true | .fCall .tick => true | .fDone .tick _ => true
  | _ => false

def b2n (b : Bool) : Nat := if b then 1 else 0

/-- number of goroutines whose pc is of kind `p` -/
def cnt (p : Pc → Bool) (s : St) : Nat := sumBy (fun th => b2n (p th.pc)) s.thr

/-- a step of goroutine `t` changes a count by the kinds of `t`'s old and new pc, whatever it does to the shared fields
(the second half says that `t` was counted) -/
theorem cnt_upd (p : Pc → Bool) {s s0 : St} {t : Nat} {th : Thread} (hth : s.thr[t]? = some th) (h0 : s0.thr = s.thr)
    (th' : Thread) :
    cnt p (s0.upd t th') + b2n (p th.pc) = cnt p s + b2n (p th'.pc) ∧ b2n (p th.pc) ≤ cnt p s := by
  obtain ⟨r, e, u⟩ := sumBy_split (fun th => b2n (p th.pc)) hth
  simp only [cnt, St.upd, h0, u, e]
  omega

section
variable {s : St} {t u : Nat} {reg : List Task} {last : Nat} {snap : List Task} {tu : Thread}
  (hth : s.thr[t]? = some ⟨.bConfirm, reg, last, snap⟩) (hu : s.thr[u]? = some tu) (hpu : tu.pc = .aConfirm)
include hth hu hpu

/-- the rendezvous row in a count -/
theorem cnt_confirm (p : Pc → Bool) :
    cnt p ((s.upd t ⟨.bExec, reg, last, snap⟩).upd u { tu with pc := .idle }) + b2n (p .bConfirm)
        + b2n (p .aConfirm) = cnt p s + b2n (p .bExec) + b2n (p .idle) :=
  sumBy_confirm (fun pc => b2n (p pc)) hth hu hpu

/-- a kind that neither half of the rendezvous enters or leaves -/
theorem cnt_confirm_keep (p : Pc → Bool) (h1 : p .bExec = p .bConfirm) (h2 : p .idle = p .aConfirm) :
    cnt p ((s.upd t ⟨.bExec, reg, last, snap⟩).upd u { tu with pc := .idle }) = cnt p s := by
  have := cnt_confirm hth hu hpu p
  rw [h1, h2] at this
  omega

end

/-- **flusher-existence invariant**.  `pending`: while tasks are in the container, somebody is committed to flush
them periodically — `guarded` is set (a flusher exists, see `alive`), or a producer is about to set it, or a quitting
flusher is on its way to its deferred Flush.  `alive`: while `guarded` is set, a flusher goroutine is alive (between
its start and its quit decision), or its `go` statement is pending / about to be issued. -/
structure GInv (s : St) : Prop where
  pending : s.container ≠ [] → 0 < b2n s.guarded + cnt preGuard s + cnt quitting s
  alive : s.guarded = true → 0 < s.spawn + cnt spawning s + cnt flusherPc s

theorem ginv_init (n : Nat) : GInv (init n) := by
  constructor <;> simp [init]

@[simp] theorem quitting_qUnlock (b : Bool) : quitting (.qUnlock b) = b := by cases b <;> rfl
@[simp] theorem quitting_fEnter (c : Ctx) : quitting (.fEnter c) = (c == .quit) := by cases c <;> rfl
@[simp] theorem quitting_fLock (c : Ctx) : quitting (.fLock c) = (c == .quit) := by cases c <;> rfl
@[simp] theorem quitting_fRemove (c : Ctx) : quitting (.fRemove c) = (c == .quit) := by cases c <;> rfl
@[simp] theorem spawning_aUnlock (a b : Bool) : spawning (.aUnlock a b) = b := by cases b <;> rfl
@[simp] theorem flusherPc_qUnlock (b : Bool) : flusherPc (.qUnlock b) = !b := by cases b <;> rfl
@[simp] theorem flusherPc_fEnter (c : Ctx) : flusherPc (.fEnter c) = (c == .tick) := by cases c <;> rfl
@[simp] theorem flusherPc_fLock (c : Ctx) : flusherPc (.fLock c) = (c == .tick) := by cases c <;> rfl
@[simp] theorem flusherPc_fRemove (c : Ctx) : flusherPc (.fRemove c) = (c == .tick) := by cases c <;> rfl
@[simp] theorem flusherPc_fUnlock (c : Ctx) : flusherPc (.fUnlock c) = (c == .tick) := by cases c <;> rfl
@[simp] theorem flusherPc_fExec (c : Ctx) : flusherPc (.fExec c) = (c == .tick) := by cases c <;> rfl
@[simp] theorem flusherPc_fCall (c : Ctx) : flusherPc (.fCall c) = (c == .tick) := by cases c <;> rfl
@[simp] theorem flusherPc_fDone (c : Ctx) (b : Bool) : flusherPc (.fDone c b) = (c == .tick) := by cases c <;> rfl

@[simp] theorem b2n_true : b2n true = 1 := rfl
@[simp] theorem b2n_false : b2n false = 0 := rfl

theorem cnt_zero (p : Pc → Bool) (s : St) (h : ∀ (t : Nat) (th : Thread), s.thr[t]? = some th → p th.pc = false) :
    cnt p s = 0 :=
  sumBy_eq_zero _ _ (fun t th ht => by simp [h t th ht])

theorem cnt_mem_le (p : Pc → Bool) (s : St) {t : Nat} {th : Thread} (ht : s.thr[t]? = some th) (hp : p th.pc = true) :
    0 < cnt p s := by
  have := sumBy_mem_le (fun th => b2n (p th.pc)) ht
  simp only [hp, b2n_true] at this; exact this

theorem exists_of_cnt_pos (p : Pc → Bool) (s : St) (h : 0 < cnt p s) :
    ∃ (t : Nat) (th : Thread), s.thr[t]? = some th ∧ p th.pc = true :=
  Classical.byContradiction fun hno => by
    have := cnt_zero p s fun t th ht => Bool.eq_false_iff.mpr fun hp => hno ⟨t, th, ht, hp⟩
    omega

theorem exists_of_cnt_add_pos (p q : Pc → Bool) (s : St) (h : 0 < cnt p s + cnt q s) :
    ∃ (t : Nat) (th : Thread), s.thr[t]? = some th ∧ (p th.pc = true ∨ q th.pc = true) := by
  by_cases h1 : 0 < cnt p s
  · obtain ⟨t, th, ht, hq⟩ := exists_of_cnt_pos _ _ h1
    exact ⟨t, th, ht, Or.inl hq⟩
  · obtain ⟨t, th, ht, hq⟩ := exists_of_cnt_pos q s (by omega)
    exact ⟨t, th, ht, Or.inr hq⟩

variable {s s0 : St} {t : Nat} {th th' : Thread}

/-- Both clauses say: under a condition `A` on the shared state, a shared number `f` and the goroutines of two kinds
add up to something.  This survives a step of goroutine `t` if, whenever the condition holds afterwards, it held before
and `f` and `t` contribute no less than before, or they contribute something afterwards. -/
theorem live_upd (p q : Pc → Bool) (hth : s.thr[t]? = some th) (h0 : s0.thr = s.thr) {A A' : Prop} {f f' : Nat}
    (hi : A → 0 < f + cnt p s + cnt q s)
    (h : A' → (A ∧ f + b2n (p th.pc) + b2n (q th.pc) ≤ f' + b2n (p th'.pc) + b2n (q th'.pc)) ∨
      0 < f' + b2n (p th'.pc) + b2n (q th'.pc)) :
    A' → 0 < f' + cnt p (s0.upd t th') + cnt q (s0.upd t th') := by
  have k1 := cnt_upd p hth h0 th'
  have k2 := cnt_upd q hth h0 th'
  intro ha
  rcases h ha with ⟨h1, h2⟩ | h2
  · have := hi h1; omega
  · omega

end GoZero.C11
