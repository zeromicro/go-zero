/-
C11 — lemmas about Go's `append` over the slice heap and the container laws (used by PropsContainers.lean).
-/
import GoZero.C11.Containers
namespace GoZero.C11

variable {α : Type}

namespace Heap

theorem read_nil (h : Heap α) : h.read {} = [] := by simp [read]

theorem read_length (h : Heap α) (s : Slice) (hw : h.Wf s) : (h.read s).length = s.len := by
  unfold read
  rcases hw with ⟨h0, h1⟩ | ⟨hc, _, hlen, _⟩
  · simp [h0, h1]
  · simp only [hc, ↓reduceIte, List.length_take]; omega

theorem append_read_self (grow : Nat → Nat) (h : Heap α) (s : Slice) (x : α) (hw : h.Wf s) :
    (h.append grow s x).1.read (h.append grow s x).2 = h.read s ++ [x] := by
  unfold append
  split
  · rename_i hlt
    rcases hw with ⟨h0, _⟩ | ⟨hc, harr, hlen, _⟩
    · omega
    · have hget : h.arrs[s.arr]? = some h.arrs[s.arr] := List.getElem?_eq_getElem harr
      simp only [hget, Option.getD_some] at hlen
      simp only [read, hc, ↓reduceIte, List.getElem?_set_self harr, Option.getD_some, hget]
      have h1 : (List.take s.len h.arrs[s.arr] ++ [x]).length = s.len + 1 := by
        simp only [List.length_append, List.length_take, List.length_cons, List.length_nil]; omega
      exact List.take_left' h1
  · rename_i hge
    have hcap : s.len + 1 + grow (s.len + 1) ≠ 0 := by omega
    simp only [read, hcap, ↓reduceIte, List.getElem?_append_right (Nat.le_refl _), Nat.sub_self,
      List.getElem?_cons_zero, Option.getD_some]
    apply List.take_of_length_le
    have := read_length h s hw
    simp only [read] at this
    simp only [List.length_append, List.length_cons, List.length_nil]
    omega

theorem append_wf (grow : Nat → Nat) (h : Heap α) (s : Slice) (x : α) (hw : h.Wf s) :
    (h.append grow s x).1.Wf (h.append grow s x).2 := by
  unfold append
  split
  · rename_i hlt
    rcases hw with ⟨h0, _⟩ | ⟨hc, harr, hlen, _⟩
    · omega
    · right
      have hget : h.arrs[s.arr]? = some h.arrs[s.arr] := List.getElem?_eq_getElem harr
      simp only [hget, Option.getD_some] at hlen
      refine ⟨hc, by simpa using harr, ?_, by simp only []; omega⟩
      simp only [List.getElem?_set_self harr, Option.getD_some, hget]
      simp only [List.length_append, List.length_take, List.length_cons, List.length_nil, List.length_drop]
      omega
  · right
    have hl := read_length h s hw
    refine ⟨by simp only []; omega, by simp, ?_, by simp only []; omega⟩
    simp only [List.getElem?_append_right (Nat.le_refl _), Nat.sub_self, List.getElem?_cons_zero, Option.getD_some,
      List.length_append, List.length_cons, List.length_nil, hl]
    omega

theorem append_frame (grow : Nat → Nat) (h : Heap α) (s b : Slice) (x : α) (hk : h.Known b)
    (ha : Apart s b) :
    (h.append grow s x).1.read b = h.read b ∧ (h.append grow s x).1.Known b ∧ Apart (h.append grow s x).2 b := by
  by_cases hb : b.cap = 0
  · exact ⟨by simp [read, hb], Or.inl hb, Or.inr (Or.inl hb)⟩
  · have hbl : b.arr < h.arrs.length := hk.resolve_left hb
    unfold append
    split
    · rename_i hlt
      have hne : s.arr ≠ b.arr := (ha.resolve_left (by omega)).resolve_left hb
      refine ⟨?_, Or.inr (by simpa using hbl), Or.inr (Or.inr hne)⟩
      simp only [read, hb, ↓reduceIte]
      rw [List.getElem?_set_ne hne]
    · refine ⟨?_, Or.inr (by simp; omega), Or.inr (Or.inr (by simp; omega))⟩
      simp only [read, hb, ↓reduceIte]
      rw [List.getElem?_append_left hbl]

theorem append_len (grow : Nat → Nat) (h : Heap α) (s : Slice) (x : α) : (h.append grow s x).2.len = s.len + 1 := by
  unfold append; split <;> rfl

theorem wf_nil (h : Heap α) : h.Wf {} := Or.inl ⟨rfl, rfl⟩

theorem wf_known (h : Heap α) (s : Slice) (hw : h.Wf s) : h.Known s := hw.imp (·.1) (·.2.1)

end Heap

theorem bulk_lawful (grow : Nat → Nat) : Lawful (bulkTC (α := α) grow) where
  add_pending := fun h c x hi => Heap.append_read_self grow h c.tasks x hi
  add_full := by
    intro h c x hi
    simp only [bulkTC, BulkC.addTask, Heap.append_len, List.length_append, List.length_cons, List.length_nil,
      Heap.read_length h c.tasks hi]
  add_inv := fun h c x hi => Heap.append_wf grow h c.tasks x hi
  add_frame := fun h c x b _ hk ha => Heap.append_frame grow h c.tasks b x hk ha
  remove_batch := fun _ => rfl
  remove_nil := fun _ => rfl
  remove_inv := fun h _ _ => Heap.wf_nil h
  remove_known := fun h c hi => Heap.wf_known h c.tasks hi
  full_add := fun _ _ _ => rfl
  full_remove := fun _ => rfl

/-- the sqlx inserter's container is the bulk container with `maxTasks := maxBulkRows`: every law is the bulk law at
that record -/
theorem sql_lawful (grow : Nat → Nat) : Lawful (sqlTC (α := α) grow) :=
  let B := bulk_lawful (α := α) grow
  let b (c : SqlC) : BulkC := { tasks := c.values, maxTasks := maxBulkRows }
  { add_pending := fun h c => B.add_pending h (b c)
    add_full := fun h c => B.add_full h (b c)
    add_inv := fun h c => B.add_inv h (b c)
    add_frame := fun h c => B.add_frame h (b c)
    remove_batch := fun c => B.remove_batch (b c)
    remove_nil := fun c => B.remove_nil (b c)
    remove_inv := fun h c => B.remove_inv h (b c)
    remove_known := fun h c => B.remove_known h (b c)
    full_add := fun _ _ _ => rfl
    full_remove := fun _ => rfl }

theorem chunk_lawful (grow : Nat → Nat) (size : α → Int) : Lawful (chunkTC grow size) where
  add_pending := fun h c x hi => Heap.append_read_self grow h c.tasks x hi.1
  add_full := by
    intro h c x hi
    simp only [chunkTC, ChunkC.addTask, hi.2, List.map_append, List.sum_append, List.map_cons, List.map_nil,
      List.sum_cons, List.sum_nil, Int.add_zero]
  add_inv := by
    intro h c x hi
    refine ⟨Heap.append_wf grow h c.tasks x hi.1, ?_⟩
    have := Heap.append_read_self grow h c.tasks x hi.1
    simp only [chunkTC, ChunkC.addTask, this, hi.2, List.map_append, List.sum_append, List.map_cons, List.map_nil,
      List.sum_cons, List.sum_nil, Int.add_zero]
  add_frame := fun h c x b _ hk ha => Heap.append_frame grow h c.tasks b x hk ha
  remove_batch := fun _ => rfl
  remove_nil := fun _ => rfl
  remove_inv := fun h _ _ => ⟨Heap.wf_nil h, rfl⟩
  remove_known := fun h c hi => Heap.wf_known h c.tasks hi.1
  full_add := fun _ _ _ => rfl
  full_remove := fun _ => rfl

variable {σ : Type}

/-- a slice that was handed out keeps its contents through every later run of the container -/
theorem runC_stable {C : TaskContainer σ α} (law : Lawful C) :
    ∀ (ops : List (COp α)) (h : Heap α) (c : σ) (b : Slice), C.inv h c → h.Known b → Heap.Apart (C.tasks c) b →
      (runC C h c ops).1.read b = h.read b := by
  intro ops
  induction ops with
  | nil => intro h c b _ _ _; rfl
  | cons op ops ih =>
    intro h c b hi hk ha
    cases op with
    | add x =>
      have hf := law.add_frame h c x b hi hk ha
      simp only [runC]
      rw [ih _ _ b (law.add_inv h c x hi) hf.2.1 hf.2.2, hf.1]
    | removeAll =>
      simp only [runC]
      exact ih h _ b (law.remove_inv h c hi) hk (Or.inl (law.remove_nil c))

end GoZero.C11
