/-
C11 — the Wait invariant `WInv` (ProofsWait.lean) is preserved by every row of the step table of the fixed
code (`winv_step`); hence it holds in every reachable configuration (`wait_invariant_reachable`, Props.lean).
-/
import GoZero.C11.ProofsWait
namespace GoZero.C11

/-- the side conditions of `winv_upd` for a row that moves no task, by `simp` with the pc equation `hpc`.  For the
producer's half of the rendezvous row: its old pc is known only through `hpu : tu.pc = .aConfirm`, so the `rfl`
defaults of `winv_upd` (`m2`, `hwg`, `hinf`) do not compute there. -/
macro "wrow" hw:ident hth:ident hinv:ident hpc:ident : tactic => `(tactic| (
  refine winv_upd _ _ _ _ _ $hw rfl $hth $hinv ?m1 ?m2 ?m3 ?hwg ?hinf ?hnp ?hsnap ?hadd ?hown
  case m1 => intro x; simp [List.count_append]
  case m2 => intro x; simp [eterm, entered, List.count_append, $hpc:ident]
  case m3 => intro x; simp [List.count_append]
  case hwg => simp [e01, entered, $hpc:ident]
  case hinf => simp [l01, limbo, cmd01, $hpc:ident] <;> (first | omega | rfl | (split <;> simp) | (cases ‹Bool› <;> simp))
  case hnp => simp
  case hsnap => intro x; have := ($hw).snapLe _ _ $hth x; simpa using this
  case hadd => intro x; simp
  case hown => left; simp [phase, $hpc:ident]))

theorem winv_step (cfg : Cfg) (hfix : cfg.fixed = true) (s s' : St) (t : Nat) (a : Act) (hw : WInv s)
    (h : step cfg s t a = some s') : WInv s' := by
  have hinv : Inv s' := inv_step cfg s s' t a hw.inv h
  rcases step_row h with ⟨d, rfl, rfl⟩ | ⟨pc, reg, last, snap, hth, hr⟩
  · exact ⟨hinv, hw.wg, hw.infl, hw.nopinned, hw.snapLe, hw.ph⟩
  have hreg := hw.inv.empty t _ hth
  have hnp := hw.nopinned t _ hth
  have hsn := hw.snapLe t _ hth
  have hph := hw.ph t _ hth
  cases hr
  case bConfirm u tu hu hpu =>
    have hpc : (⟨.bConfirm, reg, last, snap⟩ : Thread).pc = .bConfirm := rfl
    have hinv1 : Inv (s.upd t ⟨.bExec, reg, last, snap⟩) := inv_quiet hw.inv hth rfl rfl rfl rfl rfl rfl nofun
    have hw1 : WInv (s.upd t ⟨.bExec, reg, last, snap⟩) := by wrow hw hth hinv1 hpc
    have hu1 := confirm_partner hth hu hpu ⟨.bExec, reg, last, snap⟩
    wrow hw1 hu1 hinv hpu
  -- the rows excluded by `cfg.fixed` and by `nopinned`
  case bTakePinned hf | fDoneWaitPinned hf => cases hfix.symm.trans hf
  case bDec => exact absurd rfl hnp.1
  case bEnter => exact absurd rfl hnp.2
  -- the rows that move tasks
  case wait =>
    exact winv_upd _ _ _ _ _ hw rfl hth hinv (hsnap := fun _ => Nat.le_refl _)
      (hown := .inr fun _ => ⟨nofun, nofun, nofun⟩)
  case aAddFull y _ | aAddRoom y _ =>
    refine winv_upd _ _ _ _ _ hw rfl hth hinv (m1 := fun x => ?_) (hsnap := fun x => ?_) (hadd := fun x => ?_)
    · simp only [List.count_append]; omega
    · have := hsn x; simp only [List.count_append] at this ⊢; omega
    · simp only [List.count_append]; omega
  case aRemove =>
    exact winv_upd _ _ _ _ _ hw rfl hth hinv (m1 := fun _ => Nat.add_le_add_right (Nat.zero_le _) _)
  case fRemove c =>
    -- the Flush of a Wait enters phase 1: what of its snapshot was still in the container is in its hands afterwards
    cases hreg rfl
    refine winv_upd _ _ _ _ _ hw rfl hth hinv (m1 := fun _ => Nat.add_le_add_right (Nat.zero_le _) _)
      (m2 := fun _ => Nat.add_le_add_left (Nat.zero_le _) _) (hown := ?_)
    cases c <;> exact .inr fun x => ⟨fun _ => hsn x, nofun, nofun⟩
  case fCall | bCall =>
    refine winv_upd _ _ _ _ _ hw rfl hth hinv (m2 := fun x => ?_) (m3 := fun x => ?_)
    · simp [eterm, entered, List.count_append]
    · simp [List.count_append]
  -- the rows that move a counter
  case aInc | bDecF =>
    refine winv_upd _ _ _ _ _ hw rfl hth hinv (hinf := ?_)
    simp [l01, limbo, cmd01]; omega
  case aSend hc | bTake hc _ =>
    refine winv_upd _ _ _ _ _ hw rfl hth hinv (hinf := ?_)
    simp [l01, limbo, cmd01, hc]
  case fEnter | bEnterF =>
    exact winv_upd _ _ _ _ _ hw rfl hth hinv (m2 := fun _ => Nat.add_le_add_left (Nat.zero_le _) _)
  case fDoneExt hwg | fDoneQuit hwg | fDoneWait hwg _ | fDoneTick hwg | fDoneTickEmpty hwg | bDone hwg =>
    cases hreg rfl
    exact winv_upd _ _ _ _ _ hw rfl hth hinv (m2 := fun _ => Nat.add_le_add_left (Nat.zero_le _) _)
      (hwg := Nat.sub_one_add_one hwg)
  -- the rows at which a Wait moves on to its next phase
  case wSpin hin =>
    refine winv_upd _ _ _ _ _ hw rfl hth hinv (hown := .inr fun x => ⟨nofun, fun _ => ?_, nofun⟩)
    have e := eHeld_upd hth rfl { pc := .wBarrier, reg := reg, last := last, snap := snap } x
    have := spin_pass s hw hin t _ hth rfl x
    simp [eterm, entered, St.upd] at e this ⊢
    omega
  case wWait h0 =>
    refine winv_upd _ _ _ _ _ hw rfl hth hinv (hown := .inr fun x => ⟨nofun, nofun, fun _ => ?_⟩)
    have := (hph x).2.1 rfl
    have := wg_pass s hw h0 x
    simp only [St.upd] at * ; omega
  case wUnbarrier =>
    exact winv_upd _ _ _ _ _ hw rfl hth hinv (hown := .inr fun _ => ⟨nofun, nofun, nofun⟩)
  -- all other rows change only the pc, within its kinds
  all_goals exact winv_upd _ _ _ _ _ hw rfl hth hinv

end GoZero.C11
