/-
C11 — sums over the goroutine list; the conservation invariant and its preservation; from an inductive invariant and
from a schedule run to `Reachable`.
-/
import GoZero.C11.Rows
namespace GoZero.C11

def sumBy (f : Thread → Nat) (l : List Thread) : Nat := (l.map f).sum

theorem sumBy_nil (f : Thread → Nat) : sumBy f [] = 0 := rfl
theorem sumBy_cons (f : Thread → Nat) (a : Thread) (l : List Thread) : sumBy f (a :: l) = f a + sumBy f l := by
  simp [sumBy]

/-- a goroutine's share of a sum over the goroutine list; the rest `r` stays when its record is rewritten.  Every
counting argument about a step goes through this: a step of goroutine `t` changes the sum by `f th' - f th`. -/
theorem sumBy_split (f : Thread → Nat) {l : List Thread} {t : Nat} {th : Thread} (h : l[t]? = some th) :
    ∃ r, sumBy f l = r + f th ∧ ∀ th', sumBy f (l.set t th') = r + f th' := by
  induction l generalizing t with
  | nil => simp at h
  | cons a l ih =>
    cases t with
    | zero =>
      cases h
      exact ⟨sumBy f l, by simp [sumBy_cons, Nat.add_comm], fun th' => by simp [sumBy_cons, Nat.add_comm]⟩
    | succ t =>
      obtain ⟨r, e, u⟩ := ih (by simpa using h)
      exact ⟨f a + r, by simp [sumBy_cons, e, Nat.add_assoc], fun th' => by simp [sumBy_cons, u, Nat.add_assoc]⟩

theorem sumBy_mem_le (f : Thread → Nat) {l : List Thread} {t : Nat} {th : Thread} (h : l[t]? = some th) :
    f th ≤ sumBy f l := by
  obtain ⟨r, e, _⟩ := sumBy_split f h; omega

theorem sumBy_le_sumBy (f g : Thread → Nat) (l : List Thread)
    (h : ∀ (t : Nat) (th : Thread), l[t]? = some th → f th ≤ g th) : sumBy f l ≤ sumBy g l := by
  induction l with
  | nil => simp [sumBy]
  | cons a l ih =>
    have h0 := h 0 a (by simp)
    have := ih (fun t th ht => h (t + 1) th (by simpa using ht))
    simp [sumBy_cons]; omega

theorem sumBy_zero_mem (f : Thread → Nat) {l : List Thread} (h : sumBy f l = 0) {t : Nat} {th : Thread}
    (ht : l[t]? = some th) : f th = 0 := by
  have := sumBy_mem_le f ht; omega

theorem sumBy_eq_zero (f : Thread → Nat) (l : List Thread)
    (h : ∀ (t : Nat) (th : Thread), l[t]? = some th → f th = 0) : sumBy f l = 0 := by
  induction l with
  | nil => rfl
  | cons a l ih => rw [sumBy_cons, h 0 a rfl, ih fun t th ht => h (t + 1) th (by simpa using ht)]

theorem sumBy_replicate (f : Thread → Nat) (n : Nat) (a : Thread) : sumBy f (List.replicate n a) = n * f a := by
  induction n with
  | zero => simp [sumBy]
  | succ n ih => simp [List.replicate_succ, sumBy_cons, ih, Nat.succ_mul]; omega

/-- the rendezvous row, which moves two goroutines, in a sum over pcs -/
theorem sumBy_confirm (f : Pc → Nat) {s : St} {t u : Nat} {reg : List Task} {last : Nat} {snap : List Task}
    {tu : Thread}
    (hth : s.thr[t]? = some ⟨.bConfirm, reg, last, snap⟩) (hu : s.thr[u]? = some tu) (hpu : tu.pc = .aConfirm) :
    sumBy (fun th => f th.pc) ((s.upd t ⟨.bExec, reg, last, snap⟩).upd u { tu with pc := .idle }).thr
        + f .bConfirm + f .aConfirm = sumBy (fun th => f th.pc) s.thr + f .bExec + f .idle := by
  obtain ⟨r, e, v⟩ := sumBy_split (fun th => f th.pc) hth
  obtain ⟨q, e', v'⟩ := sumBy_split (fun th => f th.pc) (confirm_partner hth hu hpu ⟨.bExec, reg, last, snap⟩)
  have := v' { tu with pc := .idle }
  simp only [St.upd, v, hpu] at e e' this ⊢
  omega

/-- pcs at which the goroutine's register holds a batch -/
def holds : Pc → Bool
  | .aGuard ok => ok | .aUnlock ok _ => ok | .aSpawn ok => ok | .aSend => true
  | .fUnlock _ => true | .fExec _ => true | .fCall _ => true
  | .bDec => true | .bEnter => true | .bEnterF => true | .bDecF => true | .bConfirm => true
  | .bExec => true | .bCall => true
  | _ => false

def held (x : Task) (s : St) : Nat := sumBy (fun th => th.reg.count x) s.thr
def cmdCount (x : Task) (s : St) : Nat := match s.commander with | some b => b.count x | none => 0

def cmd01 (s : St) : Nat := if s.commander.isSome then 1 else 0

/-- conservation: every accepted task is in exactly one place -/
structure Inv (s : St) : Prop where
  cons : ∀ x, s.added.count x = s.container.count x + cmdCount x s + held x s + s.finished.count x
  empty : ∀ (t : Nat) (th : Thread), s.thr[t]? = some th → holds th.pc = false → th.reg = []

theorem init_get {n t : Nat} {th : Thread} (h : (init n).thr[t]? = some th) : th = {} := by
  simp [init, List.getElem?_replicate] at h
  exact h.2.symm

theorem inv_init (n : Nat) : Inv (init n) := by
  constructor
  · intro x; simp [init, held, cmdCount, sumBy_replicate]
  · intro t th h _
    rw [init_get h]

/-- a step of goroutine `t` that rewrites its record and moves tasks between the shared places keeps the
invariant if the tasks balance and the new record holds a batch only where it may -/
theorem inv_upd {s s0 : St} {t : Nat} {th th' : Thread} (hi : Inv s) (hth : s.thr[t]? = some th) (h0 : s0.thr = s.thr)
    (hcons : ∀ x, s0.added.count x + s.container.count x + cmdCount x s + th.reg.count x + s.finished.count x
        = s.added.count x + s0.container.count x + cmdCount x s0 + th'.reg.count x + s0.finished.count x)
    (hnew : holds th'.pc = false → th'.reg = []) : Inv (s0.upd t th') := by
  constructor
  · intro x
    obtain ⟨r, e, u⟩ := sumBy_split (fun th => th.reg.count x) hth
    have h1 := hcons x
    have h2 := hi.cons x
    simp only [held, cmdCount, St.upd, h0, u] at *
    omega
  · intro u tu hu hp
    rcases upd_cases hu with rfl | hu
    · exact hnew hp
    · exact hi.empty u tu (h0 ▸ hu) hp

/-- a step that moves no task -/
theorem inv_quiet {s s0 : St} {t : Nat} {th th' : Thread} (hi : Inv s) (hth : s.thr[t]? = some th)
    (h0 : s0.thr = s.thr) (hc : s0.container = s.container) (hm : s0.commander = s.commander)
    (ha : s0.added = s.added) (hf : s0.finished = s.finished) (hr : th'.reg = th.reg)
    (hnew : holds th'.pc = false → th.reg = []) : Inv (s0.upd t th') :=
  inv_upd hi hth h0 (fun x => by simp only [hc, hm, ha, hf, hr, cmdCount]) (fun h => hr ▸ hnew h)

theorem inv_step (cfg : Cfg) (s s' : St) (t : Nat) (a : Act) (hi : Inv s) (h : step cfg s t a = some s') : Inv s' := by
  rcases step_row h with ⟨d, rfl, rfl⟩ | ⟨pc, reg, last, snap, hth, hr⟩
  · exact ⟨hi.cons, hi.empty⟩
  have he := hi.empty t _ hth
  cases hr
  -- the rows that move tasks: into the container, out of it into a goroutine's hands (which were empty), through
  -- the commander, and into `finished`
  case aAddFull | aAddRoom =>
    exact inv_upd hi hth rfl (fun y => by simp only [List.count_append, cmdCount]; omega) (fun _ => he rfl)
  case aRemove | fRemove =>
    obtain rfl : reg = [] := he rfl
    exact inv_upd hi hth rfl (fun y => by simp [cmdCount]; omega) nofun
  case aSend hc =>
    exact inv_upd hi hth rfl (fun y => by simp [hc, cmdCount]) (fun _ => rfl)
  case bTake hc _ | bTakePinned hc _ =>
    obtain rfl : reg = [] := he rfl
    exact inv_upd hi hth rfl (fun y => by simp [hc, cmdCount]) nofun
  case fCall | bCall =>
    exact inv_upd hi hth rfl (fun y => by simp [List.count_append, cmdCount]; omega) (fun _ => rfl)
  case bConfirm u tu hu hpu =>
    have h1 : Inv (s.upd t ⟨.bExec, reg, last, snap⟩) := inv_quiet hi hth rfl rfl rfl rfl rfl rfl nofun
    exact inv_quiet h1 (confirm_partner hth hu hpu _) rfl rfl rfl rfl rfl rfl
      fun _ => hi.empty u tu hu (hpu ▸ rfl)
  -- all other rows keep the register; if the new pc does not hold a batch (`h`), the register is empty because the old
  -- pc did not hold one either (same `holds`, or `holds` false outright) or because the row's guard says so
  -- (`fExecNone`, `bExecNone`); where the new pc holds a batch `h` is absurd
  all_goals
    refine inv_quiet hi hth rfl rfl rfl rfl rfl rfl fun h => ?_
    first | exact he h | exact he rfl | assumption | cases h

theorem reachable_invariant {cfg : Cfg} {P : St → Prop} (h0 : ∀ n, P (init n))
    (hs : ∀ (s s' : St) (t : Nat) (a : Act), P s → step cfg s t a = some s' → P s') {s : St}
    (h : Reachable cfg s) : P s := by
  induction h with
  | init n => exact h0 n
  | step t a _ h ih => exact hs _ _ t a ih h

theorem inv_reachable {cfg : Cfg} {s : St} (h : Reachable cfg s) : Inv s :=
  reachable_invariant inv_init (inv_step cfg) h

theorem reachable_run {cfg : Cfg} {s : St} (h : Reachable cfg s) (sched : List (Nat × Act)) {s' : St}
    (hr : run cfg s sched = some s') : Reachable cfg s' := by
  induction sched generalizing s with
  | nil => simp [run] at hr; subst hr; exact h
  | cons p rest ih =>
    obtain ⟨t, a⟩ := p
    simp only [run] at hr
    split at hr
    · simp at hr
    · rename_i s1 hs1
      exact ih (Reachable.step t a h hs1) hr

theorem reachable_of_run {cfg : Cfg} (n : Nat) (sched : List (Nat × Act)) {P : St → Prop}
    (h : ∃ s, run cfg (init n) sched = some s ∧ P s) : ∃ s, Reachable cfg s ∧ P s :=
  let ⟨s, h1, h2⟩ := h
  ⟨s, reachable_run (.init n) sched h1, h2⟩

end GoZero.C11
