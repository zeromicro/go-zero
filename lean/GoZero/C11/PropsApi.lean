/-
C11 — property theorems over the WHOLE configuration space of the public API: every option list passed to
`NewBulkExecutor` / `NewChunkExecutor` (none, one kind only, repeated, in any order, zero / negative values), every
declared-size function of `ChunkExecutor.Add`, every schedule, any number of goroutines.  A negative interval reaches the
model as 0 (`Executor.cfg` takes `toNat`): the quit condition `Since(last) <= interval*idleRound` is then not Go's; the
theorems here do not depend on the interval.
-/
import GoZero.C11.Api
import GoZero.C11.Props
namespace GoZero.C11

theorem bulk_foldl_tasks (opts : List BulkOpt) (o : BulkOptions) :
    (opts.foldl BulkOpt.apply o).cachedTasks = lastTasks o.cachedTasks opts ∧
    (opts.foldl BulkOpt.apply o).flushInterval = lastBulkInterval o.flushInterval opts := by
  induction opts generalizing o with
  | nil => exact ⟨rfl, rfl⟩
  | cons a rest ih => cases a <;> exact ih _

theorem chunk_foldl_bytes (opts : List ChunkOpt) (o : ChunkOptions) :
    (opts.foldl ChunkOpt.apply o).chunkSize = lastBytes o.chunkSize opts ∧
    (opts.foldl ChunkOpt.apply o).flushInterval = lastChunkInterval o.flushInterval opts := by
  induction opts generalizing o with
  | nil => exact ⟨rfl, rfl⟩
  | cons a rest ih => cases a <;> exact ih _

/-- **the thresholds and intervals in force are the ones the caller configured**, for EVERY option list: the last
`WithBulkTasks` / `WithChunkBytes` (resp. interval option) wins, and without one the package default (1000 tasks,
1 MiB, 1 s) is in force; options of the other kind never disturb it. -/
theorem constructor_applies_options (bo : List BulkOpt) (co : List ChunkOpt) :
    (newBulkExecutor bo).threshold = lastTasks 1000 bo ∧
    (newBulkExecutor bo).interval = lastBulkInterval 1000000000 bo ∧
    (newChunkExecutor co).threshold = lastBytes 1048576 co ∧
    (newChunkExecutor co).interval = lastChunkInterval 1000000000 co ∧
    (newBulkExecutor bo).chunk = false ∧ (newChunkExecutor co).chunk = true :=
  ⟨(bulk_foldl_tasks bo newBulkOptions).1, (bulk_foldl_tasks bo newBulkOptions).2,
   (chunk_foldl_bytes co newChunkOptions).1, (chunk_foldl_bytes co newChunkOptions).2, rfl, rfl⟩

/-- an option appended to any list is the one in force; an option of the other kind appended changes nothing -/
theorem last_option_wins (bo : List BulkOpt) (co : List ChunkOpt) (n d : Int) :
    (newBulkExecutor (bo ++ [.tasks n])).threshold = n ∧
    (newBulkExecutor (bo ++ [.interval d])).threshold = (newBulkExecutor bo).threshold ∧
    (newBulkExecutor (bo ++ [.interval d])).interval = d ∧
    (newChunkExecutor (co ++ [.bytes n])).threshold = n ∧
    (newChunkExecutor (co ++ [.interval d])).threshold = (newChunkExecutor co).threshold ∧
    (newChunkExecutor (co ++ [.interval d])).interval = d := by
  simp [newBulkExecutor, newChunkExecutor, List.foldl_append, BulkOpt.apply, ChunkOpt.apply]

/-- the threshold test of the executor a constructor builds, read on the pending tasks: count (bulk) or sum of the
declared sizes (chunk) against the configured threshold — for every option list -/
theorem built_threshold_meaning (bo : List BulkOpt) (co : List ChunkOpt) (size : Task → Int) (l : List Task) :
    (((newBulkExecutor bo).cfg size).full l = true ↔ (l.length : Int) ≥ lastTasks 1000 bo) ∧
    (((newChunkExecutor co).cfg size).full l = true ↔ (l.map size).sum ≥ lastBytes 1048576 co) := by
  have h := constructor_applies_options bo co
  constructor
  · simp [Executor.cfg, h.2.2.2.2.1, bulkFull, h.1]
  · simp [Executor.cfg, h.2.2.2.2.2, chunkFull, h.2.2.1]

/-- every executor a public constructor can build -/
inductive Built : Executor → Prop
  | bulk (opts : List BulkOpt) : Built (newBulkExecutor opts)
  | chunk (opts : List ChunkOpt) : Built (newChunkExecutor opts)

/-- **END TO END over the whole public configuration space**: for every executor built by `NewBulkExecutor` /
`NewChunkExecutor` with ANY option list, every declared-size function, every schedule of Add / Flush / Wait callers,
ticks, clock advances, flusher quit / restart and returning or panicking callbacks, and any number of goroutines:
(1) every accepted task is in exactly one place (container, commander, one goroutine's hands, finished) — never
lost, never duplicated; (2) goroutines hold tasks only between taking a batch and the end of its callback;
(3) a `Wait` that is back from `waitGroup.Wait()` has seen the callback of every task accepted before it was called
end. -/
theorem public_api_exactly_once (e : Executor) (_hb : Built e) (size : Task → Int) (s : St)
    (h : Reachable (e.cfg size) s) :
    (∀ x, s.added.count x = s.container.count x + inCommander x s + inHands x s + s.finished.count x) ∧
    (∀ (t : Nat) (th : Thread), s.thr[t]? = some th → holds th.pc = false → th.reg = []) ∧
    (∀ (t : Nat) (th : Thread), s.thr[t]? = some th → th.pc = .wUnbarrier → ∀ x, th.snap.count x ≤ s.finished.count x) :=
  ⟨no_loss_no_dup _ s h, hands_empty_outside_execution _ s h,
   fun t th ht hpc x => wait_covers_prior_adds _ rfl s h t th ht hpc x⟩

/-- the public entry points are the model's actions with the same arguments: a call from an idle goroutine is
enabled and enters the row of the PeriodicalExecutor's method (the wrappers only delegate) -/
theorem api_call_enters_executor (cfg : Cfg) (s : St) (t : Nat) (th : Thread) (ht : s.thr[t]? = some th)
    (hidle : th.pc = .idle) (c : ApiCall) :
    step cfg s t c.act = some (s.upd t (match c with
      | .add x => { th with pc := .aLock x }
      | .flush => { th with pc := .fEnter .ext }
      | .wait => { th with pc := .fEnter .wait, snap := s.added })) := by
  obtain ⟨pc, reg, last, snap⟩ := th
  subst (hidle : pc = _)
  cases c
  · exact Row.step (.add _) ht
  · exact Row.step .flush ht
  · exact Row.step .wait ht

/-- options in any order, repeated, negative: `WithBulkInterval(5), WithBulkTasks(7), WithBulkTasks(-2), WithBulkInterval(0)` -/
example : newBulkExecutor [.interval 5, .tasks 7, .tasks (-2), .interval 0] = { chunk := false, threshold := -2, interval := 0 } := by
  decide

example : newBulkExecutor [] = { chunk := false, threshold := 1000, interval := 1000000000 } := by decide
example : newChunkExecutor [.interval 3] = { chunk := true, threshold := 1048576, interval := 3 } := by decide

/-- `public_api_exactly_once` is not vacuous: an executor built with `WithBulkTasks(2)` reaches a state in which
a Wait is back with a non-empty snapshot (the schedule of Props.lean) -/
example : ∃ s th, Reachable ((newBulkExecutor [.tasks 5, .tasks 2]).cfg (fun _ => 0)) s ∧ s.thr[1]? = some th ∧
    th.pc = .wUnbarrier ∧ th.snap = [1] ∧ s.finished = [1] := by
  have hr : ∃ s, run ((newBulkExecutor [.tasks 5, .tasks 2]).cfg (fun _ => 0)) (init 3) waitSchedule = some s ∧
      ∃ th, s.thr[1]? = some th ∧ th.pc = .wUnbarrier ∧ th.snap = [1] ∧ s.finished = [1] := by decide
  obtain ⟨s, h1, th, h2⟩ := hr
  exact ⟨s, th, reachable_run (Reachable.init 3) _ h1, h2⟩

example : Built (newChunkExecutor [.bytes 0, .interval (-1)]) := Built.chunk _

end GoZero.C11
