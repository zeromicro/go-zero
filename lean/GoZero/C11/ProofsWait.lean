/-
C11 — the Wait invariant (`cfg.fixed`, the code after fixes/C11-wait-misses-handover.patch: Wait polls `inflight`
before `waitGroup.Wait`, the flusher enters execution before decrementing `inflight`):
  wg       = number of goroutines between wg.Add(1) and wg.Done()
  inflight = number of batches between `atomic.AddInt32(&pe.inflight, 1)` in addAndCheck and the flusher's decrement
  a Wait caller's snapshot of `added` is covered, phase by phase, by what it still has to wait for.
-/
import GoZero.C11.Proofs
namespace GoZero.C11

/-- between `wg.Add(1)` and `wg.Done()` -/
def entered : Pc → Bool
  | .fLock _ => true | .fRemove _ => true | .fUnlock _ => true | .fExec _ => true | .fCall _ => true
  | .fDone _ _ => true | .bDecF => true | .bConfirm => true | .bExec => true | .bCall => true | .bDone => true
  | _ => false

/-- counted in `inflight` -/
def limbo : Pc → Bool
  | .aRemove => true | .aGuard ok => ok | .aUnlock ok _ => ok | .aSpawn ok => ok | .aSend => true
  | .bEnterF => true | .bDecF => true
  | _ => false

/-- phases of a Wait caller: 1 = own RemoveAll done, 2 = saw inflight = 0, 3 = saw wg = 0 -/
def phase : Pc → Nat
  | .fUnlock c => if c = .wait then 1 else 0 | .fExec c => if c = .wait then 1 else 0
  | .fCall c => if c = .wait then 1 else 0 | .fDone c _ => if c = .wait then 1 else 0 | .wSpin => 1
  | .wBarrier => 2 | .wWait => 2 | .wUnbarrier => 3
  | _ => 0

def e01 (pc : Pc) : Nat := if entered pc then 1 else 0
def l01 (pc : Pc) : Nat := if limbo pc then 1 else 0
def eterm (x : Task) (th : Thread) : Nat := if entered th.pc then th.reg.count x else 0
def nEntered (s : St) : Nat := sumBy (fun th => e01 th.pc) s.thr
def nLimbo (s : St) : Nat := sumBy (fun th => l01 th.pc) s.thr
def eHeld (x : Task) (s : St) : Nat := sumBy (eterm x) s.thr

def phaseOk (s : St) (th : Thread) : Prop :=
  ∀ x, (phase th.pc = 1 → th.snap.count x + s.container.count x ≤ s.added.count x) ∧
       (phase th.pc = 2 → th.snap.count x ≤ s.finished.count x + eHeld x s) ∧
       (phase th.pc = 3 → th.snap.count x ≤ s.finished.count x)

structure WInv (s : St) : Prop where
  inv : Inv s
  wg : s.wg = nEntered s
  infl : s.inflight = ((nLimbo s + cmd01 s : Nat) : Int)
  nopinned : ∀ (t : Nat) (th : Thread), s.thr[t]? = some th → th.pc ≠ .bDec ∧ th.pc ≠ .bEnter
  snapLe : ∀ (t : Nat) (th : Thread), s.thr[t]? = some th → ∀ x, th.snap.count x ≤ s.added.count x
  ph : ∀ (t : Nat) (th : Thread), s.thr[t]? = some th → phaseOk s th

theorem phaseOk_mono (s s' : St) (th th' : Thread) (hp : phase th'.pc = phase th.pc) (hs : th'.snap = th.snap)
    (m1 : ∀ x, s'.container.count x + s.added.count x ≤ s.container.count x + s'.added.count x)
    (m2 : ∀ x, s.finished.count x + eHeld x s ≤ s'.finished.count x + eHeld x s')
    (m3 : ∀ x, s.finished.count x ≤ s'.finished.count x) (h : phaseOk s th) : phaseOk s' th' := by
  intro x
  obtain ⟨a1, a2, a3⟩ := h x
  have b1 := m1 x; have b2 := m2 x; have b3 := m3 x
  rw [hp, hs]
  refine ⟨fun h1 => ?_, fun h2 => ?_, fun h3 => ?_⟩
  · have := a1 h1; omega
  · have := a2 h2; omega
  · have := a3 h3; omega

theorem eHeld_upd {s s0 : St} {t : Nat} {th : Thread} (hth : s.thr[t]? = some th) (h0 : s0.thr = s.thr)
    (th' : Thread) (x : Task) : eHeld x (s0.upd t th') + eterm x th = eHeld x s + eterm x th' := by
  obtain ⟨r, e, u⟩ := sumBy_split (eterm x) hth
  simp only [eHeld, St.upd, h0, u, e]; omega

/-- a step of goroutine `t` keeps the Wait invariant if: the tasks only move forward (`m1`–`m3`: from the container
into hands that are counted in the wait group or on to `finished`), the two counters follow `t`'s pc (`hwg`,
`hinf`), and `t`'s own phase inequality is kept (`hown`: same phase and snapshot, or proved for the new phase).
Each premise defaults to "nothing changed"; a row names the ones it has to argue for. -/
theorem winv_upd (s s0 : St) (t : Nat) (th th' : Thread) (hw : WInv s) (h0 : s0.thr = s.thr)
    (hth : s.thr[t]? = some th)
    (hinv : Inv (s0.upd t th'))
    (m1 : ∀ x, s0.container.count x + s.added.count x ≤ s.container.count x + s0.added.count x := by
      exact fun _ => Nat.le_refl _)
    (m2 : ∀ x, s.finished.count x + eterm x th ≤ s0.finished.count x + eterm x th' := by
      exact fun _ => Nat.le_refl _)
    (m3 : ∀ x, s.finished.count x ≤ s0.finished.count x := by exact fun _ => Nat.le_refl _)
    (hwg : s0.wg + e01 th.pc = s.wg + e01 th'.pc := by rfl)
    (hinf : s0.inflight + ((l01 th.pc + cmd01 s : Nat) : Int) = s.inflight + ((l01 th'.pc + cmd01 s0 : Nat) : Int) := by
      rfl)
    (hnp : th'.pc ≠ .bDec ∧ th'.pc ≠ .bEnter := by exact ⟨nofun, nofun⟩)
    (hsnap : ∀ x, th'.snap.count x ≤ s0.added.count x := by assumption)
    (hadd : ∀ x, s.added.count x ≤ s0.added.count x := by exact fun _ => Nat.le_refl _)
    (hown : (phase th'.pc = phase th.pc ∧ th'.snap = th.snap) ∨ phaseOk (s0.upd t th') th' := by
      exact .inl ⟨rfl, rfl⟩) :
    WInv (s0.upd t th') := by
  have mono : ∀ (tu tu' : Thread), phase tu'.pc = phase tu.pc → tu'.snap = tu.snap → phaseOk s tu →
      phaseOk (s0.upd t th') tu' := fun tu tu' hp hs h =>
    phaseOk_mono s _ tu tu' hp hs m1 (fun x => by
      have := eHeld_upd hth h0 th' x
      have := m2 x
      simp only [St.upd] at *
      omega) m3 h
  refine ⟨hinv, ?_, ?_, fun u tu hu => ?_, fun u tu hu x => ?_, fun u tu hu => ?_⟩
  · obtain ⟨r, e, u⟩ := sumBy_split (fun th => e01 th.pc) hth
    have := hw.wg
    simp only [nEntered, St.upd, h0, u, e] at *; omega
  · obtain ⟨r, e, u⟩ := sumBy_split (fun th => l01 th.pc) hth
    have := hw.infl
    simp only [nLimbo, St.upd, h0, u, e, cmd01] at *; omega
  · rcases upd_cases hu with rfl | hu
    · exact hnp
    · exact hw.nopinned u tu (h0 ▸ hu)
  · rcases upd_cases hu with rfl | hu
    · exact hsnap x
    · exact Nat.le_trans (hw.snapLe u tu (h0 ▸ hu) x) (hadd x)
  · rcases upd_cases hu with rfl | hu
    · rcases hown with ⟨hp, hs⟩ | h
      · exact mono th _ hp hs (hw.ph t th hth)
      · exact h
    · exact mono tu tu rfl rfl (hw.ph u tu (h0 ▸ hu))

theorem holds_cases (pc : Pc) (h : holds pc = true) :
    entered pc = true ∨ limbo pc = true ∨ pc = .bDec ∨ pc = .bEnter := by
  cases pc <;> simp_all [holds, entered, limbo]

/-- the poll of `Wait`: with `inflight = 0` nothing is in the commander or on its way there, so whatever the caller's
Flush left outside `finished` is in the register of a goroutine counted in the wait group -/
theorem spin_pass (s : St) (hw : WInv s) (hin : ¬ s.inflight > 0) (t : Nat) (th : Thread)
    (hth : s.thr[t]? = some th) (hpc : th.pc = .wSpin) (x : Task) :
    th.snap.count x ≤ s.finished.count x + eHeld x s := by
  have h1 := ((hw.ph t th hth) x).1 (by simp [hpc, phase])
  have h2 := hw.inv.cons x
  have h3 := hw.infl
  have hl : nLimbo s = 0 := by omega
  have hc : cmd01 s = 0 := by omega
  have hcmd : cmdCount x s = 0 := by
    unfold cmd01 at hc; unfold cmdCount
    cases hcm : s.commander <;> simp_all
  have hle : held x s ≤ eHeld x s := by
    apply sumBy_le_sumBy
    intro u tu hu
    have hl0 := sumBy_zero_mem _ hl hu
    simp only [eterm]
    by_cases hh : holds tu.pc = true
    · rcases holds_cases _ hh with h | h | h | h
      · simp [h]
      · simp [l01, h] at hl0
      · exact absurd h (hw.nopinned u tu hu).1
      · exact absurd h (hw.nopinned u tu hu).2
    · have := hw.inv.empty u tu hu (by simpa using hh)
      simp [this]
  omega

/-- `waitGroup.Wait()`: with `wg = 0` no goroutine is between `wg.Add` and `wg.Done`, so nothing is held there -/
theorem wg_pass (s : St) (hw : WInv s) (h0 : s.wg = 0) (x : Task) : eHeld x s = 0 := by
  have h1 := hw.wg
  apply sumBy_eq_zero
  intro u tu hu
  have := sumBy_zero_mem (fun th => e01 th.pc) (by unfold nEntered at h1; omega) hu
  simp only [e01] at this
  simp only [eterm]
  split <;> simp_all

theorem winv_init (n : Nat) : WInv (init n) := by
  refine ⟨inv_init n, ?_, ?_, ?_, ?_, ?_⟩
  · simp [init, nEntered, sumBy_replicate, e01, entered]
  · simp [init, nLimbo, sumBy_replicate, l01, limbo, cmd01]
  · intro t th h
    rw [init_get h]
    exact ⟨nofun, nofun⟩
  · intro t th h x
    rw [init_get h]
    exact Nat.zero_le _
  · intro t th h x
    rw [init_get h]
    exact ⟨nofun, nofun, nofun⟩

end GoZero.C11
