/-
C11 — the sqlx BulkInserter's statement handling as theorems: what `parseInsertStmt` (Lean model: SqlParse.lean, run
by the sqlx driver against the real parser on every statement of the harness) makes of a statement, and that the
statement `dbInserter.Execute` hands to `Exec` is TEXTUALLY  `<prefix> (row), (row), … [ <suffix>]`  for exactly the
rows of the batch.
-/
import GoZero.Base.StringLit
import GoZero.C11.SqlParse
import GoZero.C11.DriverSqlx
import GoZero.C11.Containers
namespace GoZero.C11

theorem indexOfL_spec (pat : List Char) (l : List Char) (n : Nat) (h : indexOfL pat l = some n) :
    isPrefixL pat (l.drop n) = true := by
  induction l generalizing n with
  | nil =>
    unfold indexOfL at h
    split at h
    · simp at h; subst h
      cases pat with
      | nil => rfl
      | cons a p => simp at *
    · simp at h
  | cons c l ih =>
    unfold indexOfL at h
    split at h
    · rename_i hp; simp at h; subst h; simpa using hp
    · cases hq : indexOfL pat l with
      | none => simp [hq] at h
      | some m => simp [hq] at h; subst h; simpa using ih m hq

theorem pos0_spec (o : Option Nat) (n : Nat) (h : pos0 o = some n) : o = some n ∧ 0 < n := by
  cases o with
  | none => simp [pos0] at h
  | some m => cases m with
    | zero => simp [pos0] at h
    | succ k => simp [pos0] at h; subst h; simp

/-- **what an accepted statement's prefix is**: `parseInsertStmt` accepts only if the FIRST occurrence of the keyword
`values` (any case) is at a position > 0; the prefix is the statement up to and INCLUDING that occurrence — everything the
rows are appended to -/
theorem parse_prefix (stmt : List Char) (b : BulkStmtL) (h : parseInsertL stmt = some b) :
    ∃ pos, 0 < pos ∧ indexOfL valuesKeyword (stmt.map lowerC) = some pos ∧
      isPrefixL valuesKeyword ((stmt.map lowerC).drop pos) = true ∧ b.pre = stmt.take (pos + 6) := by
  unfold parseInsertL at h
  simp only at h
  split at h
  · simp at h
  · rename_i pos hpos
    obtain ⟨h1, h2⟩ := pos0_spec _ _ hpos
    refine ⟨pos, h2, h1, indexOfL_spec _ _ _ h1, ?_⟩
    split at h
    · simp at h
    · split at h
      · simp at h
      · simp at h; rw [← h.2.2]; rfl

theorem map_range_getElem?_bind {α β : Type} (f : α → Option β) (l : List α) :
    (List.range l.length).map (fun i => (l[i]?).bind f) = l.map f := by
  apply List.ext_getElem?
  intro i
  by_cases h : i < l.length <;> simp [h]

/-- the parser on the statements of the harness (the real `parseInsertStmt` is compared with this on every run):
accepted with / without suffix and column list, the keyword in the suffix again, tabs and newlines, a trimmed suffix;
rejected: no variables, no keyword, keyword at position 0, keyword inside the table name, columns ≠ variables -/
theorem parse_harness_statements :
    (List.range 13).map sqlxParsed =
      [some ("insert into t(a) values", "", "(?)"),
       some ("INSERT INTO t(a) VALUES", "ON DUPLICATE KEY UPDATE a=VALUES(a)", "(?)"),
       some ("insert ignore into t values", "", "(?)"),
       some ("insert into t(a) values", "on duplicate key update a = a + 1, b = 2", "(?)"),
       none, none, none, none,
       some ("INSERT INTO t ( a ) VALUES", "", "(?)"),
       some ("insert into t(a) values", "on duplicate key update a=values(a)", "(?)"),
       none, none,
       some ("insert\tinto t(a)\nvalues", "ON DUPLICATE KEY UPDATE a = 1", "(?)")] := by
  -- the thirteen texts are taken apart into their characters first, so that the evaluation runs the parser and not the
  -- UTF-8 decoding of `toList` on a literal.  `sqlxParsed i` looks statement `i` up in `sqlxStmts`;
  -- `map_range_getElem?_bind` turns the thirteen look-ups into one `map` over the list, so that `unfold sqlxStmts` exposes
  -- the literals to `lit_chars` (`rfl` for that step would run the parser in the elaborator)
  rw [show (List.range 13).map sqlxParsed = sqlxStmts.map parseInsert from map_range_getElem?_bind parseInsert sqlxStmts]
  unfold sqlxStmts
  simp only [List.map, parseInsert]
  lit_chars
  decide +kernel

def piecesText : List Piece → String
  | [] => ""
  | p :: ps => p.text ++ piecesText ps

theorem piecesText_append (a b : List Piece) : piecesText (a ++ b) = piecesText a ++ piecesText b := by
  induction a with
  | nil => simp [piecesText]
  | cons p ps ih => simp [piecesText, ih, String.append_assoc]

theorem rowPieces_text (v : String) (vs : List String) :
    piecesText (rowPieces (v :: vs)) = ", ".intercalate (v :: vs) := by
  induction vs generalizing v with
  | nil => simp [rowPieces, piecesText, Piece.text]
  | cons w rest ih =>
    rw [String.intercalate_cons_cons, ← ih w]
    simp [rowPieces, piecesText, Piece.text, String.append_assoc]

/-- **the statement handed to `Exec` is `<prefix> (row), (row), … [ <suffix>]`**: for a non-empty batch the string
`dbInserter.Execute` assembles (`sqlStmt`, tied to the source by `tie_sqlxExecute_sem`) is the concatenation of the
pieces prefix · " " · the rows of the batch separated by ", " · (" " · suffix, if there is one); `sql_rows_exactly_once`
says the row pieces are exactly the rows of the batch, in order, each once -/
theorem exec_statement_text (pre suffix : String) (v : String) (vs : List String) :
    sqlStmt pre suffix (v :: vs) = some (piecesText (sqlPieces pre suffix (v :: vs))) := by
  unfold sqlStmt sqlPieces
  simp only [List.length_cons, Nat.add_one_ne_zero, ↓reduceIte, Option.some.injEq, piecesText_append]
  by_cases hs : suffix.length > 0 <;> simp [hs, piecesText, Piece.text, rowPieces_text, String.append_assoc]

example : piecesText (sqlPieces "insert into t(a) values" "on duplicate key update a=1" ["(1)", "(2)"])
    = "insert into t(a) values (1), (2) on duplicate key update a=1" := by decide +kernel

end GoZero.C11
