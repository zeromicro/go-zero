/-
C06 — property theorems: the cleaner's retry of a failed DEL is independent of the writer's context.
Clause (2) "… until it expires or a write through Exec invalidates it": an Exec whose DEL failed has armed a retry;
when that retry's DEL is due and the node is up, the entry is gone — whatever became of the context the writer
called ExecCtx / DelCacheCtx with (request-scoped and cancelled, past its deadline, cancelled before the call).
-/
import GoZero.C06.Ctx
import GoZero.C06.Store
namespace GoZero.C06.Ctx

/-- the tick of the store model under the per-task failure function (`dueSlots` / `tickTask` are the model's own). -/
def tickWith (fails : Nat → Bool) (s : St) : St :=
  { s with cache := delKeys s.cache (dueSlots fails s.tasks), tasks := s.tasks.filterMap (tickTask fails) }

/-- FOR EVERY fate of the writer's context, every age of the task and every outage pattern: a retry that is due
on a node that is up deletes every key of its task — the code's retry runs with a background context
(`Tie.tie_retryDelCtx`), so the failure function is the node's alone. -/
theorem retry_independent_of_writer_context (s : St) (down : Nat → Bool) (fate : Nat → Fate) (age : Nat → Nat)
    (t : Task) (ht : t ∈ s.tasks) (hd : t.rem ≤ 1) (hu : down t.node = false) (k : CKey) (hk : k ∈ t.keys) :
    (tickWith (effDown .background fate age down) s).cache (t.node, k) = none := by
  rw [effDown_background]
  simp [tickWith, delKeys, mem_dueSlots ht hd hu hk]

/-- … and it is the model's `tick` (the operation the driver replays) for every fate. -/
theorem tick_ignores_writer_context (s : St) (down : List Bool) (fate : Nat → Fate) (age : Nat → Nat) :
    (tickWith (effDown .background fate age (downOf down)) s).cache = (tick s down).1.cache
    ∧ (tickWith (effDown .background fate age (downOf down)) s).tasks = (tick s down).1.tasks := by
  rw [effDown_background]; exact ⟨rfl, rfl⟩

/-- WITNESS (what seeded change C06-9 does): if the retry captures the writer's context, then for a
request-scoped context (cancelled when the call returned), a context cancelled before the call, or a deadline
that has passed, the retry fails at EVERY tick on a perfectly healthy node … -/
theorem captured_context_fails_every_retry (f : Fate) (tick : Nat) (hf : f.aliveAt tick = false) :
    retryFails .captured f tick false = true := by
  simp [retryFails, hf]

/-- … so no tick ever deletes anything: the stale entry stays until its TTL ends. -/
theorem captured_dead_context_leaves_the_entry (s : St) (fate : Nat → Fate) (age : Nat → Nat) (down : Nat → Bool)
    (hdead : ∀ n, (fate n).aliveAt (age n) = false) :
    (tickWith (effDown .captured fate age down) s).cache = s.cache := by
  have hup : ∀ n, effDown .captured fate age down n = true := by
    intro n; simp [effDown, retryFails, hdead n]
  have : dueSlots (effDown .captured fate age down) s.tasks = [] := by
    unfold dueSlots
    simp [hup]
  funext sl
  simp [tickWith, this, delKeys]

/-- non-vacuity: a request-scoped context is dead at the first retry, a 3-tick deadline is alive at tick 1 and
dead at tick 6 (the second retry). -/
example : Fate.cancelledAfter.aliveAt 1 = false ∧ (Fate.deadlineAfter 3).aliveAt 1 = true ∧ (Fate.deadlineAfter 3).aliveAt 6 = false := by
  decide

example : retryFails .captured .cancelledAfter 1 false = true ∧ retryFails .background .cancelledAfter 1 false = false := by
  decide

end GoZero.C06.Ctx
