/-
C06 — concurrent readers of MANY keys on MANY nodes, as ONE system: the flight group with its call
objects (Calls.lean, allocator `new(call)`) composed with the multi-node store model (Model.lean).

Goroutine `t` reads primary key `key t` through instance `inst t` (configuration `cs (inst t)`: its own
cache.Options, the common dispatch) with the environment `env t` (jitter draw, fault mask of its cache commands,
database fault).  All of them run under ONE barrier (the instances built by NewConn / NewNodeConn).  The function
the leader of a flight runs inside DoEx is the whole body of doTake = `takeP` on the SHARED store; its result
is what the call object publishes (`Calls.stepV`).  Followers never touch the store (tie_doTakeShape).
`hist` is a ghost: the sequential history — one Take per finished flight, in the order the flights finished.

Atomicity assumption as in Refine.lean: the leader's GET … query … SET is one step.
-/
import GoZero.C06.Histories
import GoZero.C06.Calls
namespace GoZero.C06.Many

structure In where
  j   : Nat := 500
  m   : List Bool := []
  dbf : Bool := false

structure MSt where
  store : St
  fl    : Calls.St Res
  hist  : List (Nat × Op)

def takeOf (key : Nat → Nat) (env : Nat → In) (t : Nat) : Op := .take (key t) (env t).j (env t).m (env t).dbf

def mstep (cs : Nat → Cfg) (inst key : Nat → Nat) (env : Nat → In) (x : MSt) (t : Nat) : Option MSt :=
  if x.fl.pc t = 2 then
    (Calls.stepV key (step (cs (inst t)) x.store (takeOf key env t)).2.res x.fl t).map fun fl' =>
      { store := (step (cs (inst t)) x.store (takeOf key env t)).1, fl := fl', hist := x.hist ++ [(inst t, takeOf key env t)] }
  else (Calls.stepV key Res.ok x.fl t).map fun fl' => { x with fl := fl' }

inductive MReach (cs : Nat → Cfg) (inst key : Nat → Nat) (env : Nat → In) (s0 : St) : MSt → Prop
  | init : MReach cs inst key env s0 ⟨s0, Calls.St.init, []⟩
  | step {x x' : MSt} (t : Nat) : MReach cs inst key env s0 x → mstep cs inst key env x t = some x' → MReach cs inst key env s0 x'

theorem runI_append (cs : Nat → Cfg) (s : St) (a b : List (Nat × Op)) : runI cs s (a ++ b) = runI cs (runI cs s a) b := by
  induction a generalizing s with
  | nil => rfl
  | cons x a ih => simp only [List.cons_append, runI]; exact ih _

/-- `v` is the result of a sequential Take of key `k` somewhere in the history `hist` (started from `s0`). -/
def Expl (cs : Nat → Cfg) (s0 : St) (hist : List (Nat × Op)) (k : Nat) (v : Res) : Prop :=
  ∃ h1 h2 i j m d, hist = h1 ++ (i, Op.take k j m d) :: h2 ∧ v = (step (cs i) (runI cs s0 h1) (.take k j m d)).2.res

theorem expl_mono (cs : Nat → Cfg) (s0 : St) (hist l : List (Nat × Op)) (k : Nat) (v : Res) (h : Expl cs s0 hist k v) :
    Expl cs s0 (hist ++ l) k v := by
  obtain ⟨h1, h2, i, j, m, d, he, hv⟩ := h
  exact ⟨h1, h2 ++ l, i, j, m, d, by rw [he]; simp, hv⟩

theorem expl_last (cs : Nat → Cfg) (s0 : St) (hist : List (Nat × Op)) (i k j : Nat) (m : List Bool) (d : Bool) :
    Expl cs s0 (hist ++ [(i, .take k j m d)]) k (step (cs i) (runI cs s0 hist) (.take k j m d)).2.res :=
  ⟨hist, [], i, j, m, d, rfl, rfl⟩

structure MInv (cs : Nat → Cfg) (key : Nat → Nat) (s0 : St) (x : MSt) : Prop where
  store : x.store = runI cs s0 x.hist
  fl    : Calls.InvG key (Expl cs s0 x.hist) x.fl

/-- `Calls.stepV` publishes the supplied value at pc 2 only (`invG_step` asks `G` of it only there), so the dummy `Res.ok`
that `mstep` supplies elsewhere is never looked at; at pc 2 the value is the result of the Take just appended to `hist`. -/
theorem minv_reachable {cs : Nat → Cfg} {inst key : Nat → Nat} {env : Nat → In} {s0 : St} {x : MSt}
    (h : MReach cs inst key env s0 x) : MInv cs key s0 x := by
  induction h with
  | init => exact ⟨rfl, Calls.invG_init key _⟩
  | @step x x' t _ hs ih =>
    unfold mstep at hs
    by_cases hpc : x.fl.pc t = 2
    · rw [if_pos hpc, Option.map_eq_some_iff] at hs
      obtain ⟨fl', hfl, rfl⟩ := hs
      refine ⟨?_, ?_⟩
      · show _ = runI cs s0 (x.hist ++ [(inst t, takeOf key env t)])
        rw [runI_append, ← ih.store]; rfl
      · have hm := Calls.invG_mono (fun k v hk => expl_mono cs s0 x.hist [(inst t, takeOf key env t)] k v hk) ih.fl
        refine Calls.invG_step hm (fun _ => ?_) hfl
        rw [ih.store]
        exact expl_last cs s0 x.hist (inst t) (key t) (env t).j (env t).m (env t).dbf
    · rw [if_neg hpc, Option.map_eq_some_iff] at hs
      obtain ⟨fl', hfl, rfl⟩ := hs
      exact ⟨ih.store, Calls.invG_step ih.fl (fun h => absurd h hpc) hfl⟩

end GoZero.C06.Many
