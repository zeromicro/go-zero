/-
C06 — what a read returns: fail-fast on a failing GET, served from the cache, database errors returned and
not cached, and the coherent read (a `loaded` entry is what the database holds, by `Coh`).
-/
import GoZero.C06.Spec
import GoZero.C06.Coherence
namespace GoZero.C06

theorem takeP_failfast (c : Cfg) (s : St) (pk j : Nat) (m : List Bool) (dbf : Bool) (h : failAt m 0 = true) :
    takeP c s pk j m dbf = (s, { res := .cacheerr, q := 0, cmds := [⟨.get, c.place (.p pk), [.p pk], true⟩] }) := by
  unfold takeP; simp [getCache_fail s _ (.p pk) m h]

theorem qindex_failfast (c : Cfg) (s : St) (a j : Nat) (m : List Bool) (dbf : Bool) (h : failAt m 0 = true) :
    qindex c s a j m dbf = (s, { res := .cacheerr, q := 0, cmds := [⟨.get, c.place (.x a), [.x a], true⟩] }) := by
  unfold qindex; simp [getCache_fail s _ (.x a) m h]

theorem takeP_served (c : Cfg) {s : St} {pk : Nat} {e : Entry} (j : Nat) {m : List Bool} (dbf : Bool)
    (he : s.cache (c.slot (.p pk)) = some e) (hl : e.val = .ph ∨ parses (.p pk) e.val = true) (hf : failAt m 0 = false) :
    takeP c s pk j m dbf =
      (s, { res := if e.val = .ph then .notfound else .val e.val, q := 0,
            cmds := [⟨.get, c.place (.p pk), [.p pk], false⟩] }) := by
  unfold takeP
  rw [getCache_live he hl hf]
  by_cases hv : e.val = .ph <;> simp [hv]

theorem takeP_dberr (c : Cfg) (s : St) (pk j : Nat) (m : List Bool) (dbf : Bool)
    (h : (takeP c s pk j m dbf).2.res = .dberr) :
    dbf = true ∧ (takeP c s pk j m dbf).2.q = 1 ∧ Shrinks s (takeP c s pk j m dbf).1 := by
  have hs := getCache_shrinks s (c.place (.p pk)) (.p pk) m
  unfold takeP at h ⊢
  simp only [] at h ⊢
  cases hg : (getCache s (c.place (.p pk)) (CKey.p pk) m).2.1 <;> simp only [hg] at h ⊢
  · cases h
  · cases h
  · cases h
  · cases dbf
    · simp only [Bool.false_eq_true, if_false] at h
      split at h <;> cases h
    · exact ⟨rfl, rfl, hs⟩

theorem qindex_dberr (c : Cfg) (s : St) (a j : Nat) (m : List Bool) (dbf : Bool)
    (h : (qindex c s a j m dbf).2.res = .dberr) :
    dbf = true ∧ (qindex c s a j m dbf).2.q = 1 ∧ Shrinks s (qindex c s a j m dbf).1 := by
  have hs := getCache_shrinks s (c.place (.x a)) (.x a) m
  unfold qindex at h ⊢
  simp only [] at h ⊢
  cases hg : (getCache s (c.place (.x a)) (CKey.x a) m).2.1 <;> simp only [hg] at h ⊢
  · cases h
  · cases h
  · rename_i v
    obtain ⟨e, he, _, _, hst⟩ := getCache_hit hg
    cases v <;> simp only [] at h ⊢
    · cases h
    · cases h
    · rw [hst] at h ⊢
      exact takeP_dberr c s _ j _ dbf h
    · cases h
  · cases dbf
    · simp only [Bool.false_eq_true, if_false] at h
      split at h
      · cases h
      · split at h <;> cases h
    · exact ⟨rfl, rfl, hs⟩

theorem expected_p (s : St) (pk : Nat) :
    Spec.expected s (.p pk) = if dbView s (.p pk) = .ph then .notfound else .val (dbView s (.p pk)) := by
  cases hr : dbRow s pk with
  | none => simp [Spec.expected, dbView, hr]
  | some r => simp [Spec.expected, dbView, hr, dbRow_ne_ph hr]

/-- **coherent read through a primary key**: unless the GET fails (cache error) or the database call fails,
a Take whose cached entry — if there is one — is `loaded` returns exactly what the database holds. -/
theorem takeP_coherent (c : Cfg) {s : St} (hc : Coh s) (pk j : Nat) (m : List Bool)
    (hl : ∀ e, s.cache (c.slot (.p pk)) = some e → e.origin = .loaded) (hf : failAt m 0 = false) :
    (takeP c s pk j m false).2.res = Spec.expected s (.p pk) := by
  unfold takeP
  simp only []
  split
  · rename_i hg
    exact absurd hg (getCache_not_err hf)
  · rename_i hg
    obtain ⟨e, he, hv, _⟩ := getCache_placeholder hg
    rw [expected_p, ← hc _ e he (hl e he), hv, if_pos rfl]
  · rename_i v hg
    obtain ⟨e, he, hv, hp, _⟩ := getCache_hit hg
    have hne : v ≠ .ph := fun h => by rw [h] at hp; cases hp
    rw [expected_p, ← hc _ e he (hl e he), hv, if_neg hne]
  · simp only [Spec.expected]
    cases dbRow s pk <;> simp

theorem index_of_view_pk {s : St} {a n : Nat} (hv : CVal.pk n = dbView s (.x a)) :
    ∃ r, dbIndex s a = some r ∧ r.1 = n := by
  simp only [dbView] at hv
  cases hr : dbIndex s a with
  | none => rw [hr] at hv; cases hv
  | some r => rw [hr] at hv; simp at hv; exact ⟨r, rfl, hv.symm⟩

theorem expected_x_of_view_ph {s : St} {a : Nat} (hv : CVal.ph = dbView s (.x a)) :
    Spec.expected s (.x a) = .notfound := by
  simp only [dbView] at hv
  simp only [Spec.expected]
  cases hr : dbIndex s a with
  | none => rfl
  | some r => rw [hr] at hv; cases hv

/-- **coherent read through an index key**: both entries consulted (the index entry, and the primary entry it
points to) are `loaded` if present; no cache command fails, the database call does not fail. -/
theorem qindex_coherent (c : Cfg) {s : St} (hc : Coh s) (a j : Nat) (m : List Bool)
    (hl : ∀ e, s.cache (c.slot (.x a)) = some e → e.origin = .loaded)
    (hl' : ∀ e n e', s.cache (c.slot (.x a)) = some e → e.val = .pk n → s.cache (c.slot (.p n)) = some e' → e'.origin = .loaded)
    (hm : ∀ i, failAt m i = false) :
    (qindex c s a j m false).2.res = Spec.expected s (.x a) := by
  have hf := hm 0
  unfold qindex
  simp only []
  cases hg : (getCache s (c.place (.x a)) (CKey.x a) m).2.1 <;> (try simp only [])
  · exact absurd hg (getCache_not_err hf)
  · obtain ⟨e, he, hv, _⟩ := getCache_placeholder hg
    exact (expected_x_of_view_ph (hv ▸ hc _ e he (hl e he))).symm
  · rename_i v
    obtain ⟨e, he, hv, hp, hst⟩ := getCache_hit hg
    cases v <;> simp [parses] at hp
    rename_i n
    obtain ⟨r, hr, hrn⟩ := index_of_view_pk (hv ▸ hc _ e he (hl e he))
    simp only [hst]
    have hf2 : failAt (m.drop (getCache s (c.place (.x a)) (CKey.x a) m).2.2.length) 0 = false := by
      rw [failAt_drop]; exact hm _
    rw [takeP_coherent c hc n j _ (fun e' he' => hl' e n e' he hv he') hf2]
    simp only [Spec.expected, hr]
    have := dbIndex_row hr
    rw [hrn] at this
    rw [this]
  · simp only [Bool.false_eq_true, if_false, Spec.expected, hm]
    cases hr : dbIndex s a with
    | none => rfl
    | some r => rfl

end GoZero.C06
