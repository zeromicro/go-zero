/-
C06 — property theorems: concurrent readers of SEVERAL keys under one barrier, with the call OBJECTS of
the flight group explicit (Calls.lean).  Clause (3) of the property: "concurrent reads … run at most one query at
a time, and all receive its result" — here: the result of the query OF THEIR OWN KEY, whatever other keys are
being loaded through the same barrier at the same time, for any number of goroutines and keys and every schedule.
-/
import GoZero.C06.Calls
import GoZero.C06.Instances
import GoZero.C06.Decode
namespace GoZero.C06.Calls

variable {α : Type}

/-- every reader that returned holds exactly the answer of the query of the flight of ITS key that it created or
joined (`f` = the number of that flight): never nil, never the answer to another key's query — for any number of
goroutines, any assignment of keys to goroutines, every database answer and every schedule. -/
theorem readers_receive_the_result_of_their_key {key : Nat → Nat} {q : Nat → Nat → α} {s : St α}
    (h : Reachable .fresh key q s) (t : Nat) (ht : s.pc t = 4) :
    (s.heap (s.ref t)).key = key t ∧ s.got t = some (q (key t) (s.heap (s.ref t)).flight) := by
  obtain ⟨_, hk, _, hg⟩ := (inv_reachable h).ret t ht
  exact ⟨hk, hg⟩

/-- readers that shared a call object read the same key and received the same result. -/
theorem readers_of_one_call_share_key_and_result {key : Nat → Nat} {q : Nat → Nat → α} {s : St α}
    (h : Reachable .fresh key q s) (t u : Nat) (ht : s.pc t = 4) (hu : s.pc u = 4) (hr : s.ref t = s.ref u) :
    key t = key u ∧ s.got t = s.got u := by
  have a := readers_receive_the_result_of_their_key h t ht
  have b := readers_receive_the_result_of_their_key h u hu
  rw [hr] at a
  have hk : key t = key u := a.1.symm.trans b.1
  exact ⟨hk, by rw [a.2, b.2, hk]⟩

/-- at most one database query in flight per key, however many keys are being loaded at once. -/
theorem one_query_in_flight_per_key_among_many_keys {key : Nat → Nat} {q : Nat → Nat → α} {s : St α}
    (h : Reachable .fresh key q s) (t u : Nat) (ht : s.pc t = 2) (hu : s.pc u = 2) (hk : key t = key u) : t = u :=
  (inv_reachable h).one_leader_per_key ht hu hk

/-- a parked follower holds an object that is (still, or was) registered for ITS key: loads of other keys never
touch it. -/
theorem follower_holds_a_call_of_its_key {key : Nat → Nat} {q : Nat → Nat → α} {s : St α}
    (h : Reachable .fresh key q s) (t : Nat) (ht : s.pc t = 3) : (s.heap (s.ref t)).key = key t :=
  ((inv_reachable h).wait t ht).2

/-- the witness schedule under `new(call)`: the follower of key 0 receives the answer of flight 0 of key 0. -/
theorem fresh_witness_schedule :
    ((run .fresh wKey wQ St.init wSched).map fun s => (s.pc 1, s.got 1, s.got 2)) = some (4, some (0, 0), some (1, 1)) := by
  decide

/-- WITNESS (what seeded change C06-8 does): if `createCall` takes the object from a pool that `makeCall` fills
right after `wg.Done()`, the very same schedule hands the follower of key 0 the answer to the query of key 1. -/
theorem pooled_witness_schedule :
    ((run .pooled wKey wQ St.init wSched).map fun s => (s.pc 1, s.got 1)) = some (4, some (1, 1)) := by
  decide

/-- … stated as a property: with a recycled call object a reachable state exists in which a reader that returned
holds something that is the answer to NO query of its key. -/
theorem pooled_call_object_hands_a_reader_the_result_of_another_key :
    ∃ (key : Nat → Nat) (q : Nat → Nat → Nat × Nat) (s : St (Nat × Nat)) (t : Nat),
      Reachable .pooled key q s ∧ s.pc t = 4 ∧ ∀ f, s.got t ≠ some (q (key t) f) := by
  obtain ⟨s, hrun, hw⟩ := Option.map_eq_some_iff.mp pooled_witness_schedule
  obtain ⟨hpc, hgot⟩ := Prod.mk.inj hw
  refine ⟨wKey, wQ, s, 1, run_reachable .init _ hrun, hpc, ?_⟩
  intro f hf
  rw [hgot] at hf
  simp [wQ, wKey] at hf

/-- non-vacuity: the fresh model reaches states with returned readers of two different keys. -/
example : ∃ s : St (Nat × Nat), Reachable .fresh wKey wQ s ∧ s.pc 1 = 4 ∧ s.pc 2 = 4 ∧ wKey 1 ≠ wKey 2 := by
  have hw : ((run .fresh wKey wQ St.init wSched).map fun s => (s.pc 1, s.pc 2)) = some (4, 4) := by decide
  obtain ⟨s, hrun, hw⟩ := Option.map_eq_some_iff.mp hw
  obtain ⟨h1, h2⟩ := Prod.mk.inj hw
  exact ⟨s, run_reachable .init _ hrun, h1, h2, by decide⟩

/-- WITNESS SCHEDULE: goroutines 0, 1 and 3 read key 0, the fn of 0 aborts.  0 registers, 1 joins, 0 starts its
query and aborts (pc 5: its own panic / Goexit), 1 wakes up on the object released WITHOUT a value and panics in
doTake's `val.([]byte)` (pc 6: an interface-conversion error, not 0's panic value), and a later reader 3 finds the
key free again, loads and returns the answer of ITS flight (flight 1): the barrier is released, nothing wrong is
returned to anybody. -/
theorem aborting_leader_witness :
    ((runA (fun t => t = 0) (fun _ => 0) wQ St.init [0, 1, 0, 0, 1, 3, 3, 3]).map
      fun s => (s.pc 0, s.pc 1, s.got 0, s.got 1, s.pc 3, s.got 3, s.calls 0)) = some (5, 6, none, none, 4, some (0, 1), none) := by
  rfl

/-- with a leader that returns, the same schedule hands the follower the leader's answer (flight 0). -/
theorem returning_leader_same_schedule :
    ((runA (fun _ => false) (fun _ => 0) wQ St.init [0, 1, 0, 0, 1, 3, 3, 3]).map
      fun s => (s.pc 0, s.pc 1, s.got 0, s.got 1, s.pc 3, s.got 3)) = some (4, 4, some (0, 0), some (0, 0), 4, some (0, 1)) := by
  rfl

/-- if the follower path and the hit path decode with UseNumber (the code: Tie.tie_decoders), then for EVERY
integer — however large — the leader, the followers of its flight and later cache hits hold the same value (same
digits, same kind of number): every reader derives the same primary cache key from an index entry. -/
theorem all_paths_yield_the_same_number (dec : Decode.Path → Decode.Decoder)
    (hf : dec .follower = .useNumber) (hh : dec .hit = .useNumber) (n : Int) (p p' : Decode.Path) :
    Decode.valueOn dec p n = Decode.valueOn dec p' n ∧ Decode.valueOn dec p n = .exact n := by
  cases p <;> cases p' <;> simp [Decode.valueOn, Decode.decodeInt, hf, hh]

/-- WITNESS (seeded change C06-10): with encoding/json's plain Unmarshal on the follower path a sharing reader
holds a different value than the leader and than a cache hit, for every integer. -/
theorem plain_decoder_on_the_follower_path_changes_the_value (n : Int) :
    Decode.valueOn (fun p => if p = .follower then .plain else .useNumber) .follower n
      ≠ Decode.valueOn (fun p => if p = .follower then .plain else .useNumber) .leader n
    ∧ Decode.valueOn (fun p => if p = .follower then .plain else .useNumber) .follower n
      ≠ Decode.valueOn (fun p => if p = .follower then .plain else .useNumber) .hit n := by
  simp [Decode.valueOn, Decode.decodeInt]

example : Decode.valueOn (fun _ => .useNumber) .follower 9007199254740993 = .exact 9007199254740993 := by decide

/-- if every hop of the table forwards, the nodes of an instance built by ANY constructor are configured with
exactly the options the caller gave — for every options value. -/
theorem options_reach_the_nodes {O : Type} (dflt : O) (table : List (String × List String))
    (hall : ∀ c : Multi.Ctor, (Multi.hops c).all (Multi.hopForwards table) = true) (c : Multi.Ctor) (o : O) :
    Multi.optsAtNode dflt table c o = o := by
  unfold Multi.optsAtNode
  rw [hall c]; simp

/-- WITNESS (what seeded change C06-7 does): a table in which the loop of cache.New calls NewNode without the
options configures the nodes of a NewConn instance with the defaults, whatever the caller asked for. -/
theorem dropped_options_leave_the_defaults :
    Multi.optsAtNode (0 : Nat) [("sqlc.NewConn", ["param", "opts..."]), ("cache.New", ["param", "opts...", "absent"]),
      ("cache.NewNode", ["param", "opts..."])] .newConn 20000 = 0 := by
  decide

example : Multi.optsAtNode (0 : Nat) [("sqlc.NewConn", ["param", "opts..."]), ("cache.New", ["param", "opts...", "param", "opts..."]),
      ("cache.NewNode", ["param", "opts..."])] .newConn 20000 = 20000 := by
  decide

end GoZero.C06.Calls
