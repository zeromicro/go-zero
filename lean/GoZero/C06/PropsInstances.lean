/-
C06 — property theorems: SEVERAL instances (sqlc.CachedConn / monc.Model) over the same cache servers.

  * store side: a history in which every operation goes through one of any number of instances, each with its
    own cache.Options (`runI cs`, `cs i` = the configuration of instance `i`; where the dispatch matters all instances
    dispatch alike: `SameServers`) — the invariants of Props.lean hold along every such history, what one
    instance loads every other serves, what one invalidates is gone for all;
  * concurrent side: reader goroutines of ONE key spread over any number of instances (`Multi.mstep`: the
    product of one flight group per barrier object) — at most one database query in flight per barrier, hence
    at most one among ALL instances built by the constructors that hand the package-wide barrier on
    (NewConn / NewNodeConn; monc NewModel / NewNodeModel), every reader receives the result of the one query of
    the flight it created or joined; with two different barriers two queries CAN be in flight (witness: what
    seeded change C06-3 does to NewNodeConn).
-/
import GoZero.C06.Props
namespace GoZero.C06
open Multi

/-- **coherence invariant over several instances** (any number, any options per instance, any interleaving of
their operations, every fault placement): a `loaded` entry whose key's view was not changed since holds what
the database holds — whichever instance loaded it. -/
theorem coherence_invariant_instances (cs : Nat → Cfg) (ops : List (Nat × Op)) : Coh (runI cs St.init ops) :=
  runI_coh cs ops

/-- every stale entry is accounted for, whichever instance's Exec left it behind and whichever instance's
DelCtx armed the retry (the cleaner is one package-level wheel shared by all instances). -/
theorem stale_entries_have_pending_retry_instances (cs : Nat → Cfg) (ops : List (Nat × Op)) :
    Prov (runI cs St.init ops) :=
  runI_prov cs ops

/-- **dispatch invariant over several instances**: as long as all instances dispatch alike (same servers:
`cacheNode.String` is the server address, so the rings of two `cache.New` over one ClusterConf coincide), an entry
of a key is only ever on the key's node — no instance leaves a copy where another will not invalidate it. -/
theorem entries_on_their_node_instances (cs : Nat → Cfg) (pl : CKey → Nat) (hs : SameServers cs pl)
    (ops : List (Nat × Op)) : ∀ (k : Slot) e, (runI cs St.init ops).cache k = some e → k.1 = pl k.2 :=
  runI_placed hs ops

/-- **never a persistent key, several instances**: every instance built with ANY Options value (`os i`), every
topology, every interleaved history: no entry is ever without a TTL. -/
theorem no_persistent_key_instances (os : Nat → Options) (cl : Bool) (pl : CKey → Nat) (ops : List (Nat × Op))
    (hl : ∀ iop ∈ ops, OpLegal iop.2) :
    ∀ k e, (runI (fun i => { Cfg.ofOptions (os i) with cluster := cl, place := pl }) St.init ops).cache k = some e → 0 < e.ttl :=
  runI_finite (fun i => { Cfg.ofOptions (os i) with cluster := cl, place := pl }) (fun i => configured_expiries_positive (os i)) ops hl

/-- **coherent reads over several instances** (the `_partial` carve-out is the one of
`coherent_reads_partial`): in every history over any number of instances that respects the proviso, a read through
ANY instance `i` whose GET and database call do not fail returns exactly what the database holds, unless the
entry survived a failed DEL of an Exec (of whichever instance), for which a retry is pending or was given up. -/
theorem coherent_reads_partial_instances (cs : Nat → Cfg) (pl : CKey → Nat) (hs : SameServers cs pl)
    (ops : List (Nat × Op)) (hp : ProvisoI cs St.init ops) (i pk j : Nat) (m : List Bool) (hf : failAt m 0 = false) :
    (takeP (cs i) (runI cs St.init ops) pk j m false).2.res = Spec.expected (runI cs St.init ops) (.p pk)
    ∨ ∃ e, (runI cs St.init ops).cache ((cs i).slot (.p pk)) = some e ∧ e.origin = .stale
           ∧ (Pending (runI cs St.init ops) ((cs i).slot (.p pk)) ∨ 0 < (runI cs St.init ops).gaveUp) :=
  takeP_coherent_or_stale (cs i) (runI_coh cs ops) (runI_prov cs ops)
    (runI_noBehind hs ops _ (entries_init _) (entries_init _) hp) pk j m hf

/-- **what one instance loads, every other instance serves**: a row loaded from the database by a read through
instance `c1` (miss, no fault) is returned by a read through any instance `c2` over the same servers without a
database call — whatever the options of either. -/
theorem loaded_by_one_instance_served_by_all (c1 c2 : Cfg) (hpl : c1.place = c2.place) (s : St) (pk j j' : Nat)
    (r : CVal) (m : List Bool) (dbf : Bool)
    (hmiss : s.cache (c1.slot (.p pk)) = none) (hr : dbRow s pk = some r) (hrow : parses (.p pk) r = true)
    (hf : failAt m 0 = false) :
    (takeP c1 s pk j [] false).2.q = 1
    ∧ (takeP c2 (takeP c1 s pk j [] false).1 pk j' m dbf).2.q = 0
    ∧ (takeP c2 (takeP c1 s pk j [] false).1 pk j' m dbf).2.res = .val r := by
  have hw : (takeP c1 s pk j [] false).1.cache (c2.slot (.p pk)) = some ⟨r, ttlSec c1.exp j * 1000, .loaded⟩
      ∧ (takeP c1 s pk j [] false).2.q = 1 := by
    unfold Cfg.slot at hmiss ⊢
    rw [← hpl]
    unfold takeP getCache setex
    simp [failAt, hmiss, hr, upd, Cfg.slot]
  have := served_from_cache c2 _ pk j' _ m dbf hw.1 (Or.inr hrow) hf
  refine ⟨hw.2, this.1, ?_⟩
  rw [this.2.2]; simp [dbRow_ne_ph hr]

/-- … and the absence of a row alike: the not-found marker written through one instance answers the reads of
every other instance without a database call. -/
theorem marker_of_one_instance_served_by_all (c1 c2 : Cfg) (hpl : c1.place = c2.place) (s : St) (pk j j' : Nat)
    (m : List Bool) (dbf : Bool)
    (hmiss : s.cache (c1.slot (.p pk)) = none) (hr : dbRow s pk = none) (hf : failAt m 0 = false) :
    (takeP c2 (takeP c1 s pk j [] false).1 pk j' m dbf).2.q = 0
    ∧ (takeP c2 (takeP c1 s pk j [] false).1 pk j' m dbf).2.res = .notfound := by
  have hw := (notfound_placeholder_ttl c1 s pk j hmiss hr).1
  have hsl : c1.slot (.p pk) = c2.slot (.p pk) := by unfold Cfg.slot; rw [hpl]
  rw [hsl] at hw
  have := served_from_cache c2 _ pk j' _ m dbf hw (Or.inl rfl) hf
  exact ⟨this.1, by rw [this.2.2]; simp⟩

/-- **what one instance invalidates is gone for every instance**: after an Exec through `c1` whose DELs do not
fail, no instance `c2` over the same servers finds an entry under any of the named keys. -/
theorem invalidated_by_one_instance_gone_for_all (c1 c2 : Cfg) (hpl : c1.place = c2.place) (s : St) (ks : List CKey)
    (w : Write) (m : List (List Bool)) (hm : ∀ n i, failAt (m.getD n []) i = false) (k : CKey) (hk : k ∈ ks) :
    (execOp c1 s ks w m false).1.cache (c2.slot k) = none := by
  have hsl : c2.slot k = c1.slot k := by unfold Cfg.slot; rw [hpl]
  rw [hsl]
  unfold execOp
  simp only [Bool.false_eq_true, if_false]
  exact del_without_fault_removes_every_key c1 _ ks m hm k hk

/-- non-vacuity: three instances with different options (20 s / 3 s; defaults; 7 s / 1 s) over two nodes: instance 0
loads row 1 (TTL from ITS options), instance 1 is served from that entry, instance 2 overwrites the row and
invalidates, instance 1 reloads with ITS options (7 days); an absent row read through instance 2 leaves the marker
with instance 2's not-found expiry. -/
example :
    let pl : CKey → Nat := fun k => match k with | .x _ => 1 | .p _ => 0
    let cs : Nat → Cfg := fun i => { Cfg.ofOptions (if i = 0 then { expiry := some 20000, notFound := some 3000 }
                                       else if i = 1 then {} else { expiry := some 7000, notFound := some 1000 }) with place := pl }
    let ops : List (Nat × Op) := [(2, .exec [.p 1, .x 1] (.put 1 10 1) [] false), (0, .take 1 500 [] false)]
    (runI cs St.init ops).cache (0, .p 1) = some ⟨.row 1 10 1, 20000, .loaded⟩
    ∧ (takeP (cs 1) (runI cs St.init ops) 1 0 [] false).2 = { res := .val (.row 1 10 1), q := 0, cmds := [⟨.get, 0, [.p 1], false⟩] }
    ∧ (runI cs St.init (ops ++ [(2, .exec [.p 1, .x 1] (.put 1 11 1) [] false), (1, .take 1 500 [] false)])).cache (0, .p 1)
        = some ⟨.row 1 11 1, 604800000, .loaded⟩
    ∧ (runI cs St.init (ops ++ [(2, .take 5 500 [] false)])).cache (0, .p 5) = some ⟨.ph, 1000, .loaded⟩ := by
  refine ⟨by decide, by decide, by decide, by decide⟩

/-- **at most one database query in flight per barrier**, for any number of reader goroutines spread over any
number of instances and every schedule: two goroutines whose instances' loads run under the same barrier object
and that are both inside their database query are the same goroutine. -/
theorem one_query_in_flight_per_barrier {α : Type} (inst : Nat → Ctor) (q : Barrier → Nat → α) (s : MCfg α)
    (h : MReach inst q s) (t u : Nat) (hb : barrierOf (inst t) = barrierOf (inst u))
    (ht : pcOf inst s t = 2) (hu : pcOf inst s u = 2) : t = u := by
  unfold pcOf at ht hu
  rw [← hb] at hu
  exact single_loader_per_key _ _ (component_reachable h _) t u ht hu

/-- **… hence at most one across ALL sqlc instances built by the shared-barrier constructors** — `NewConn` and
`NewNodeConn`, in any number and any mix (the barrier argument of both is the package-level `singleFlights`:
`Tie.tie_ctorBarriers`, `tie_barrierVars`). -/
theorem shared_constructors_single_loader {α : Type} (inst : Nat → Ctor) (q : Barrier → Nat → α) (s : MCfg α)
    (h : MReach inst q s) (t u : Nat) (hst : (inst t).sharedSqlc = true) (hsu : (inst u).sharedSqlc = true)
    (ht : pcOf inst s t = 2) (hu : pcOf inst s u = 2) : t = u := by
  exact one_query_in_flight_per_barrier inst q s h t u
    ((barrierOf_of_sharedSqlc hst).trans (barrierOf_of_sharedSqlc hsu).symm) ht hu

/-- the same for monc: `NewModel` / `NewNodeModel` (package-level `singleFlight`). -/
theorem shared_constructors_single_loader_monc {α : Type} (inst : Nat → Ctor) (q : Barrier → Nat → α) (s : MCfg α)
    (h : MReach inst q s) (t u : Nat) (hst : (inst t).sharedMonc = true) (hsu : (inst u).sharedMonc = true)
    (ht : pcOf inst s t = 2) (hu : pcOf inst s u = 2) : t = u := by
  exact one_query_in_flight_per_barrier inst q s h t u
    ((barrierOf_of_sharedMonc hst).trans (barrierOf_of_sharedMonc hsu).symm) ht hu

/-- counting form: among any duplicate-free set `ts` of reader goroutines that all go through shared-barrier
instances, at most ONE is inside its database query — however many instances there are. -/
theorem shared_constructors_at_most_one_query {α : Type} (inst : Nat → Ctor) (q : Barrier → Nat → α) (s : MCfg α)
    (h : MReach inst q s) (ts : List Nat) (hnd : ts.Nodup) (hsh : ∀ t ∈ ts, (inst t).sharedSqlc = true) :
    (querying inst s ts).length ≤ 1 := by
  have hnd' : (querying inst s ts).Nodup := hnd.filter _
  match hq : querying inst s ts, hnd' with
  | [], _ => simp
  | [_], _ => simp
  | a :: b :: _, hn =>
    have ha : a ∈ querying inst s ts := by rw [hq]; simp
    have hb : b ∈ querying inst s ts := by rw [hq]; simp
    unfold querying at ha hb
    rw [List.mem_filter] at ha hb
    have := shared_constructors_single_loader inst q s h a b (hsh a ha.1) (hsh b hb.1)
      (by simpa using ha.2) (by simpa using hb.2)
    subst this
    simp at hn

/-- **every reader receives its flight's query result, across instances**: a reader that has returned — through
whichever instance — holds exactly the answer of the one query run by the call (of its instance's barrier) that
it created or joined. -/
theorem readers_across_instances_receive_the_query_result {α : Type} (inst : Nat → Ctor) (q : Barrier → Nat → α)
    (s : MCfg α) (h : MReach inst q s) (t : Nat) (ht : pcOf inst s t = 4) :
    gotOf inst s t = some (q (barrierOf (inst t)) ((s (barrierOf (inst t))).joined t))
    ∧ (s (barrierOf (inst t))).joined t < (s (barrierOf (inst t))).gen :=
  let r := readers_receive_the_query_result _ _ (component_reachable h (barrierOf (inst t))) t ht
  ⟨r.1, r.2.1⟩

/-- one query per flight per barrier: queries started under barrier `b` = its finished calls (+1 while a leader is
inside its query). -/
theorem one_query_per_flight_per_barrier {α : Type} (inst : Nat → Ctor) (q : Barrier → Nat → α) (s : MCfg α)
    (h : MReach inst q s) (b : Barrier) : (s b).queries ≤ (s b).gen + 1 :=
  (one_query_per_flight _ _ (component_reachable h b)).1

/-- **WITNESS — why the barrier argument of every constructor matters** (seeded change C06-3 gives `NewNodeConn` a
fresh `syncx.NewSingleFlight()`; `NewConnWithCache` over caches with private barriers behaves like this by design):
whenever the instances of goroutines 0 and 1 run under DIFFERENT barrier objects there is a schedule in which both
are inside their database query for the same key at the same time. -/
theorem two_barriers_two_queries_in_flight {α : Type} (inst : Nat → Ctor) (q : Barrier → Nat → α)
    (hb : barrierOf (inst 0) ≠ barrierOf (inst 1)) :
    ∃ s, MReach inst q s ∧ pcOf inst s 0 = 2 ∧ pcOf inst s 1 = 2 := by
  obtain ⟨s1, r1, p1, f1⟩ := reach_query (inst := inst) (q := q) .init 0 rfl
  obtain ⟨s2, r2, p2, f2⟩ := reach_query r1 1 (by rw [f1 _ (Ne.symm hb)]; rfl)
  exact ⟨s2, r2, by rw [pcOf, f2 _ hb]; exact p1, p2⟩

/-- the witness instantiated: a `NewConn` instance and a `NewConnWithCache` instance over a cache with a private
barrier — and, for contrast, `NewConn` + `NewNodeConn` can never be in that state. -/
example : ∃ s, MReach (fun t => if t = 0 then Ctor.newConn else .newConnWithCache 0) (fun _ g => g) s
    ∧ pcOf (fun t => if t = 0 then Ctor.newConn else .newConnWithCache 0) s 0 = 2
    ∧ pcOf (fun t => if t = 0 then Ctor.newConn else .newConnWithCache 0) s 1 = 2 :=
  two_barriers_two_queries_in_flight _ _ (by decide)

example (s : MCfg Nat) (h : MReach (fun t => if t = 0 then Ctor.newConn else .newNodeConn) (fun _ g => g) s) :
    ¬ (pcOf (fun t => if t = 0 then Ctor.newConn else .newNodeConn) s 0 = 2
       ∧ pcOf (fun t => if t = 0 then Ctor.newConn else .newNodeConn) s 1 = 2) := fun ⟨h0, h1⟩ =>
  absurd (shared_constructors_single_loader _ _ s h 0 1 (by decide) (by decide) h0 h1) (by decide)

/-- non-vacuity of the positive statement: goroutine 0 (through a NewConn instance) is querying while goroutine 1
(through a NewNodeConn instance) waits on ITS call; both return the answer of call 0. -/
example : ∃ s, MReach (fun t => if t = 0 then Ctor.newConn else .newNodeConn) (fun _ g => g + 100) s
    ∧ pcOf (fun t => if t = 0 then Ctor.newConn else .newNodeConn) s 0 = 4
    ∧ pcOf (fun t => if t = 0 then Ctor.newConn else .newNodeConn) s 1 = 4
    ∧ gotOf (fun t => if t = 0 then Ctor.newConn else .newNodeConn) s 1 = some 100
    ∧ (s .sqlcPkg).queries = 1 := by
  refine ⟨_, .step 1 (.step 0 (.step 1 (.step 0 (.step 0 .init rfl) rfl) rfl) rfl) rfl, rfl, rfl, rfl, rfl⟩

end GoZero.C06
