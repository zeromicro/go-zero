/-
C06 — single loader per key: a small-step interleaving model of `doTake`'s load running inside
`barrier.DoEx` (core/syncx/singleflight.go: createCall / makeCall / DoEx), for ONE key and an arbitrary number
of reader goroutines (`Tid := Nat`, any schedule), carrying the RESULT of the call.

  pc 0  createCall under g.lock: no call registered → register mine (leader, pc 1); else → wait on it (pc 3)
  pc 1  leader inside fn: cache miss seen, database query starts                               (pc 2)
  pc 2  database query returns `q id`; fn caches and returns; makeCall stores c.val, c.err;
        deferred: delete(calls,key); wg.Done; DoEx returns c.val                                (pc 4)
  pc 3  follower: c.wg.Wait() returns once the call it joined is done; DoEx returns c.val       (pc 4)
  pc 4  returned
`flight` is `g.calls[key]` (the leader's id), `gen` counts finished calls = the id of the current call,
`joined t` the call goroutine `t` created or joined, `callVal id` is `c.val, c.err` of call `id` once fn has
returned, `got t` what DoEx returned to `t`, `queries` the number of database queries started.
`q : Nat → α` is the environment: what the database answers to the query of call `id` (row, not-found or an
error — anything; the theorems hold for every `q`).
-/
namespace GoZero.C06.Flight

structure Cfg (α : Type) where
  pc      : Nat → Nat
  flight  : Option Nat
  gen     : Nat
  joined  : Nat → Nat
  queries : Nat
  callVal : Nat → Option α
  got     : Nat → Option α

def upd {β : Type} (f : Nat → β) (t : Nat) (v : β) : Nat → β := fun u => if u = t then v else f u

def Cfg.init {α : Type} : Cfg α :=
  { pc := fun _ => 0, flight := none, gen := 0, joined := fun _ => 0, queries := 0,
    callVal := fun _ => none, got := fun _ => none }

variable {α : Type}

def step (q : Nat → α) (s : Cfg α) (t : Nat) : Option (Cfg α) :=
  match s.pc t with
  | 0 => match s.flight with
    | none => some { s with pc := upd s.pc t 1, flight := some t, joined := upd s.joined t s.gen }
    | some _ => some { s with pc := upd s.pc t 3, joined := upd s.joined t s.gen }
  | 1 => some { s with pc := upd s.pc t 2, queries := s.queries + 1 }
  | 2 => some { s with pc := upd s.pc t 4, flight := none, gen := s.gen + 1,
                       callVal := upd s.callVal s.gen (some (q s.gen)), got := upd s.got t (some (q s.gen)) }
  | 3 => if s.joined t < s.gen then some { s with pc := upd s.pc t 4, got := upd s.got t (s.callVal (s.joined t)) } else none
  | _ => none

theorem step_frame {q : Nat → α} {s s' : Cfg α} {u t : Nat} (h : step q s u = some s') (hne : t ≠ u) :
    s'.pc t = s.pc t ∧ s'.joined t = s.joined t ∧ s'.got t = s.got t := by
  unfold step at h
  split at h <;> (try split at h) <;> simp at h <;> (try subst h) <;> simp [upd, hne]

theorem step_lead (q : Nat → α) (s : Cfg α) (t : Nat) (h0 : s.pc t = 0) (hf : s.flight = none) :
    ∃ c, step q s t = some c ∧ c.pc t = 1 := by
  unfold step
  rw [h0]
  simp only [hf]
  exact ⟨_, rfl, by simp [upd]⟩

theorem step_query (q : Nat → α) (s : Cfg α) (t : Nat) (h1 : s.pc t = 1) :
    ∃ c, step q s t = some c ∧ c.pc t = 2 := by
  unfold step
  rw [h1]
  exact ⟨_, rfl, by simp [upd]⟩

theorem step_congr (q q' : Nat → α) (s : Cfg α) (t : Nat)
    (h : s.pc t = 2 → q s.gen = q' s.gen) : step q s t = step q' s t := by
  unfold step
  split
  · rfl
  · rfl
  · rename_i hpc; rw [h hpc]
  · rfl
  · rfl

theorem step_gen (q : Nat → α) (s s' : Cfg α) (t : Nat) (h : step q s t = some s') :
    s'.gen = if s.pc t = 2 then s.gen + 1 else s.gen := by
  unfold step at h
  split at h
  · rename_i hpc
    split at h <;> (cases h; simp [hpc])
  · rename_i hpc; cases h; simp [hpc]
  · rename_i hpc; cases h; simp [hpc]
  · rename_i hpc
    split at h
    · cases h; simp [hpc]
    · cases h
  · cases h

inductive Reachable (q : Nat → α) : Cfg α → Prop
  | init : Reachable q Cfg.init
  | step {s s' : Cfg α} (t : Nat) : Reachable q s → step q s t = some s' → Reachable q s'

/-- a goroutine in the leader region (pc 1 or 2) is the registered call's owner. -/
def Inv (s : Cfg α) : Prop := ∀ t, (s.pc t = 1 ∨ s.pc t = 2) → s.flight = some t

theorem inv_init : Inv (Cfg.init : Cfg α) := by
  intro t h; simp [Cfg.init] at h

theorem inv_step {q : Nat → α} {s s' : Cfg α} {t : Nat} (h : Inv s) (hs : step q s t = some s') : Inv s' := by
  unfold step at hs
  intro u hu
  have h1 := h u
  have h2 := h t
  split at hs <;> (try split at hs) <;> simp at hs <;> (try subst hs) <;> simp [upd] at * <;> grind

theorem inv_reachable {q : Nat → α} {s : Cfg α} (h : Reachable q s) : Inv s := by
  induction h with
  | init => exact inv_init
  | step t _ hs ih => exact inv_step ih hs

/-- bookkeeping invariant: the registered call's owner is in the leader region and leads the current call;
waiters joined a call that is the current one or finished; finished calls hold the answer of their query;
a goroutine that returned holds the answer of the query of the call it created or joined; one query per call. -/
structure Inv2 (q : Nat → α) (s : Cfg α) : Prop where
  owner   : ∀ l, s.flight = some l → (s.pc l = 1 ∨ s.pc l = 2)
  leader  : ∀ t, (s.pc t = 1 ∨ s.pc t = 2) → s.joined t = s.gen
  waiter  : ∀ t, s.pc t = 3 → s.joined t ≤ s.gen
  done    : ∀ g, g < s.gen → s.callVal g = some (q g)
  ret     : ∀ t, s.pc t = 4 → s.joined t < s.gen ∧ s.got t = some (q (s.joined t))
  count   : s.queries = s.gen + (match s.flight with | some l => if s.pc l = 2 then 1 else 0 | none => 0)

theorem inv2_init (q : Nat → α) : Inv2 q (Cfg.init : Cfg α) := by
  refine ⟨?_, ?_, ?_, ?_, ?_, ?_⟩ <;> simp [Cfg.init]

/-- what `Inv2` says of the single goroutine `u`. -/
def InvAt (q : Nat → α) (s : Cfg α) (u : Nat) : Prop :=
  ((s.pc u = 1 ∨ s.pc u = 2) → s.joined u = s.gen) ∧ (s.pc u = 3 → s.joined u ≤ s.gen) ∧
    (s.pc u = 4 → s.joined u < s.gen ∧ s.got u = some (q (s.joined u)))

theorem Inv2.of_at {q : Nat → α} {s : Cfg α} (t : Nat)
    (ho : ∀ l, s.flight = some l → (s.pc l = 1 ∨ s.pc l = 2)) (ht : InvAt q s t) (hu : ∀ u, u ≠ t → InvAt q s u)
    (hd : ∀ g, g < s.gen → s.callVal g = some (q g))
    (hc : s.queries = s.gen + (match s.flight with | some l => if s.pc l = 2 then 1 else 0 | none => 0)) : Inv2 q s := by
  have ha : ∀ u, InvAt q s u := fun u => if e : u = t then e ▸ ht else hu u e
  exact ⟨ho, fun u => (ha u).1, fun u => (ha u).2.1, hd, fun u => (ha u).2.2, hc⟩

/-- The goroutines that do not move keep their pc, call and result, and `gen` only grows; it grows when a leader
finishes, and then nobody else is in the leader region (`Inv`). -/
theorem invAt_of_ne {q : Nat → α} {s s' : Cfg α} {t u : Nat} (h1 : Inv s) (h : Inv2 q s)
    (hs : step q s t = some s') (hut : u ≠ t) : InvAt q s' u := by
  obtain ⟨hp, hj, hg⟩ := step_frame hs hut
  unfold InvAt
  rw [hp, hj, hg, step_gen q s s' t hs]
  refine ⟨fun hu => ?_, fun hu => ?_, fun hu => ?_⟩
  · have : s.pc t ≠ 2 := fun e => hut (Option.some.inj ((h1 u hu).symm.trans (h1 t (Or.inr e))))
    rw [if_neg this]
    exact h.leader u hu
  · have := h.waiter u hu
    split <;> omega
  · have := h.ret u hu
    exact ⟨by split <;> omega, this.2⟩

/-- Everybody but `t` is covered by `invAt_of_ne`; what is left in each case is the owner, `t` in its new place,
the finished calls and the count. -/
theorem inv2_step {q : Nat → α} {s s' : Cfg α} {t : Nat} (h1 : Inv s) (h : Inv2 q s)
    (hs : step q s t = some s') : Inv2 q s' := by
  have hoth := fun u (hut : u ≠ t) => invAt_of_ne h1 h hs hut
  have hnl : ∀ l, s.flight = some l → (s.pc t = 0 ∨ s.pc t = 3) → l ≠ t := by
    intro l hl hpc e
    have := h.owner l hl
    rw [e] at this
    omega
  unfold step at hs
  split at hs
  · rename_i hpc
    split at hs
    · -- pc 0, no call registered: `t` becomes the leader of call `gen`
      rename_i hfl
      cases hs
      refine Inv2.of_at t ?_ (by simp [InvAt, upd]) hoth h.done ?_
      · intro l hl; simp at hl; subst hl; simp [upd]
      · have := h.count; rw [hfl] at this; simp [upd, this]
    · -- pc 0, a call is registered: `t` joins it
      rename_i l hfl
      cases hs
      have hlt := hnl l hfl (Or.inl hpc)
      refine Inv2.of_at t ?_ (by simp [InvAt, upd]) hoth h.done ?_
      · intro l' hl'; simp at hl'; rw [hfl] at hl'; cases hl'
        simp [upd, hlt]; exact h.owner l hfl
      · have := h.count; rw [hfl] at this; simp [upd, hfl, hlt, this]
  · -- pc 1: the query starts
    rename_i hpc
    cases hs
    have hfl := h1 t (Or.inl hpc)
    refine Inv2.of_at t ?_ ?_ hoth h.done ?_
    · intro l hl; simp at hl; rw [hfl] at hl; cases hl; simp [upd]
    · simp [InvAt, upd]; exact h.leader t (Or.inl hpc)
    · have := h.count; rw [hfl] at this; simp [hpc] at this; simp [upd, hfl, this]
  · -- pc 2: the query returns, the call is finished
    rename_i hpc
    cases hs
    have hfl := h1 t (Or.inr hpc)
    refine Inv2.of_at t ?_ ?_ hoth ?_ ?_
    · intro l hl; simp at hl
    · simp [InvAt, upd, h.leader t (Or.inr hpc)]
    · intro g hg
      simp only [upd]
      by_cases hgg : g = s.gen
      · subst hgg; simp
      · simp [hgg]; exact h.done g (by simp at hg; omega)
    · have := h.count; rw [hfl] at this; simp [hpc] at this; simp [this]
  · -- pc 3: a waiter is released
    rename_i hpc
    split at hs
    · rename_i hlt
      cases hs
      refine Inv2.of_at t ?_ ?_ hoth h.done ?_
      · intro l hl; simp at hl
        simp [upd, hnl l hl (Or.inr hpc)]; exact h.owner l hl
      · simp [InvAt, upd]; exact ⟨hlt, h.done _ hlt⟩
      · have := h.count
        cases hfl : s.flight with
        | none => rw [hfl] at this; simpa using this
        | some l => rw [hfl] at this; simp [upd, hnl l hfl (Or.inr hpc)]; exact this
    · cases hs
  · cases hs

theorem inv2_reachable {q : Nat → α} {s : Cfg α} (h : Reachable q s) : Inv2 q s := by
  induction h with
  | init => exact inv2_init q
  | step t hr hs ih => exact inv2_step (inv_reachable hr) ih hs

end GoZero.C06.Flight
