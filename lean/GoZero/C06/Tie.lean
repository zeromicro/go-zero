/-
C06 — Tie: what the extractor reads from the go-zero tree at every run equals what the model was written against.
A failing obligation means the code moved away from the model (GoZero/C06/Model.lean).

  constants      placeholder "*", deviation 1/20 (= the property's ±5 %), default expiries 7 d / 1 min,
                 safety gap 5 s, the cleaner's retry table 1 s → 5 s → 1 min → 5 min → 1 h → give up
  …Shape         statement skeletons (branch structure, order of calls) of the functions the model's
                 case splits were written against
  …Facts         the return statements and the property-carrying calls with their arguments (which key, which
                 expiry, which delay, what is returned on which path) of every function on the modelled path
  cluster layer  cache.New (one node → cacheNode, several → cacheCluster over a consistent hash), the six
                 cacheCluster operations (dispatch by key; DelCtx: grouping assignment, one node DelCtx per group),
                 DoEx/createCall/makeCall returns (the shared `c.val`), sqlc.NewConn/GetCache/SetCache*, and the
                 monc.Model call sites (FindOne through TakeCtx; each of the 9 writes followed by DelCache)
-/
import GoZero.Extracted.C06
import GoZero.C06.Spec
import GoZero.C06.PropsCalls
import GoZero.C06.Ctx
import GoZero.C06.Decode
namespace GoZero.C06.Tie
open GoZero.C06
open GoZero.Extracted.C06

theorem extraction_clean : extractionErrors = [] := rfl

/-- the not-found marker the model calls `CVal.ph` (printed "*" by the harness). -/
theorem tie_placeholder : notFoundPlaceholder = "*" := rfl

/-- ±5 %: the deviation is 1/20, so `1 + dev − 2·dev·(j/1000) = (10500 − j)/10000`, the factor inside
`ttlSec` (the expression itself is tied by `tie_aroundFacts`). -/
theorem tie_deviation : expiryDeviation = (1 : Rat) / 20 := rfl

/-- the property's range ends are the model's: ⌈0.95e⌉ and ⌈1.05e⌉. -/
theorem tie_range (e : Nat) : ttlSec e 1000 = Spec.ttlLo e ∧ ttlSec e 0 = Spec.ttlHi e := by
  unfold ttlSec Spec.ttlLo Spec.ttlHi
  constructor <;> omega

theorem tie_defaults : defaultExpiry = (defaultExpiryMs : Int) * 1000000
    ∧ defaultNotFoundExpiry = (defaultNotFoundExpiryMs : Int) * 1000000
    ∧ safeGap = (safeGapSec : Int) * 1000000000 := by decide

/-- the cleaner's retry table (ns → s) is the model's `nextDelay`, and anything else gives up. -/
theorem tie_nextDelay :
    nextDelayTable.map (fun p => (p.1 / 1000000000, p.2 / 1000000000)) = [(1, 5), (5, 60), (60, 300), (300, 3600)]
    ∧ nextDelayTable.all (fun p => p.1 % 1000000000 = 0 && p.2 % 1000000000 = 0) = true
    ∧ nextDelayTableDefault = "return 0, false"
    ∧ ∀ d : Nat, nextDelay d = ([(1, 5), (5, 60), (60, 300), (300, 3600)] : List (Nat × Nat)).lookup d := by
  refine ⟨by decide, by decide, by decide, ?_⟩
  intro d
  unfold nextDelay
  simp only [List.lookup]
  by_cases h1 : d = 1
  · subst h1; rfl
  rw [if_neg h1, beq_eq_false_iff_ne.mpr h1]
  by_cases h5 : d = 5
  · subst h5; rfl
  rw [if_neg h5, beq_eq_false_iff_ne.mpr h5]
  by_cases h60 : d = 60
  · subst h60; rfl
  rw [if_neg h60, beq_eq_false_iff_ne.mpr h60]
  by_cases h300 : d = 300
  · subst h300; rfl
  rw [if_neg h300, beq_eq_false_iff_ne.mpr h300]

theorem tie_newOptionsShape : newOptionsShape = [
  "range opts {",
  "call opt",
  "}",
  "if o.Expiry <= 0 {",
  "store o.Expiry",
  "}",
  "if o.NotFoundExpiry <= 0 {",
  "store o.NotFoundExpiry",
  "}",
  "return"] := by rfl

/-- the state `newOptions` starts from is the zero `Options` (so an option that is not given equals 0:
`newOptions` uses `getD 0`), and every given option is applied to it. -/
theorem tie_newOptionsHead : newOptionsHead = [
  "var o Options",
  "for _, opt := range opts { opt(&o) }"] := by rfl

/-- which field an option assigns. -/
theorem tie_withOptionAssigns : withExpiryAssigns = ["o.Expiry = expiry"]
    ∧ withNotFoundExpiryAssigns = ["o.NotFoundExpiry = expiry"] := ⟨rfl, rfl⟩

/-- the field updates a translated effect list performs on (Expiry, NotFoundExpiry). -/
def applyOpt (st : Int × Int) : List (String × Int) → Int × Int
  | [] => st
  | fv :: r => applyOpt (if fv.1 = "o.Expiry" then (fv.2, st.2)
                         else if fv.1 = "o.NotFoundExpiry" then (st.1, fv.2) else (-1, -1)) r

/-- **the sanity checks of `newOptions`, translated from the source, are the model's `newOptionsMs`** for every
pair of field values (whole milliseconds; the Go values are nanoseconds): comparison operators (`<= 0`),
the constants, and which field gets which default. -/
theorem tie_newOptionsTail (e n : Int) :
    applyOpt (e * 1000000, n * 1000000)
        (newOptionsTail (e * 1000000) defaultExpiry (n * 1000000) defaultNotFoundExpiry)
      = (((newOptionsMs e n).1 : Int) * 1000000, ((newOptionsMs e n).2 : Int) * 1000000) := by
  have he : (e * 1000000 ≤ 0) ↔ e ≤ 0 := by omega
  have hn : (n * 1000000 ≤ 0) ↔ n ≤ 0 := by omega
  unfold newOptionsTail newOptionsMs
  by_cases h1 : e ≤ 0 <;> by_cases h2 : n ≤ 0 <;>
    simp [he, hn, h1, h2, applyOpt, defaultExpiry, defaultNotFoundExpiry, defaultExpiryMs, defaultNotFoundExpiryMs] <;> omega

theorem tie_doGetCacheShape : doGetCacheShape = [
  "call c.stat.IncrementTotal",
  "call c.rds.GetCtx",
  "if err != nil {",
  "call c.stat.IncrementMiss",
  "return",
  "}",
  "if len(data) == 0 {",
  "call c.stat.IncrementMiss",
  "return",
  "}",
  "call c.stat.IncrementHit",
  "if data == notFoundPlaceholder {",
  "return",
  "}",
  "call c.processCache",
  "return"] := by rfl

theorem tie_doTakeShape : doTakeShape = [
  "func{",
  "call c.doGetCache",
  "if err != nil {",
  "if errors.Is(err, errPlaceholder) {",
  "return",
  "}",
  "else{",
  "if !errors.Is(err, c.errNotFound) {",
  "return",
  "}",
  "}",
  "call query",
  "if errors.Is(err, c.errNotFound) {",
  "call c.setCacheWithNotFound",
  "if err != nil {",
  "call logger.Error",
  "}",
  "return",
  "}",
  "else{",
  "if err != nil {",
  "call c.stat.IncrementDbFails",
  "return",
  "}",
  "}",
  "call cacheVal",
  "if err != nil {",
  "call logger.Error",
  "}",
  "}",
  "call jsonx.Marshal",
  "return",
  "}",
  "call c.barrier.DoEx",
  "if err != nil {",
  "return",
  "}",
  "if fresh {",
  "return",
  "}",
  "call c.stat.IncrementTotal",
  "call c.stat.IncrementHit",
  "call jsonx.Unmarshal",
  "return"] := by rfl

theorem tie_processCacheShape : processCacheShape = [
  "call ?",
  "call jsonx.Unmarshal",
  "if err == nil {",
  "return",
  "}",
  "call logger.Error",
  "call stat.Report",
  "call c.rds.DelCtx",
  "if e != nil {",
  "call logger.Errorf",
  "}",
  "return"] := by rfl

/-- both branches of `cacheNode.DelCtx`: the per-key loop (every key its own DEL and, on failure, its own retry; no early exit — `delLoop`) and the single DEL (`delOne`). -/
theorem tie_delShape : delShape = [
  "if len(keys) == 0 {",
  "return",
  "}",
  "if len(keys) > 1 && c.rds.Type == redis.ClusterType {",
  "range keys {",
  "call c.rds.DelCtx",
  "if err != nil {",
  "call logger.Errorf",
  "call c.asyncRetryDelCache",
  "}",
  "}",
  "}",
  "else{",
  "call c.rds.DelCtx",
  "if err != nil {",
  "call formatKeys",
  "call logger.Errorf",
  "call c.asyncRetryDelCache",
  "}",
  "}",
  "return"] := by rfl

theorem tie_cleanShape : cleanShape = [
  "func{",
  "call dt.task",
  "if err == nil {",
  "return",
  "}",
  "call nextDelay",
  "if ok {",
  "store dt.delay",
  "call timingWheel.Load",
  "call tw.SetTimer",
  "if err != nil {",
  "}",
  "}",
  "else{",
  "call formatKeys",
  "call stat.Report",
  "}",
  "}",
  "call taskRunner.Schedule"] := by rfl

theorem tie_execShape : execShape = [
  "call exec",
  "if err != nil {",
  "return",
  "}",
  "call cc.DelCacheCtx",
  "return"] := by rfl

theorem tie_queryRowIndexShape : queryRowIndexShape = [
  "func{",
  "call indexQuery",
  "if err != nil {",
  "return",
  "}",
  "call keyer",
  "call cc.cache.SetWithExpireCtx",
  "return",
  "}",
  "call cc.cache.TakeWithExpireCtx",
  "if err != nil {",
  "return",
  "}",
  "if found {",
  "return",
  "}",
  "call keyer",
  "func{",
  "call primaryQuery",
  "return",
  "}",
  "call cc.cache.TakeCtx",
  "return"] := by rfl

theorem tie_newOptionsFacts : newOptionsFacts = [
  "return o"] := by rfl

theorem tie_newNodeFacts : newNodeFacts = [
  "return cacheNode{ rds: rds, expiry: o.Expiry, notFoundExpiry: o.NotFoundExpiry, barrier: barrier, r: rand.New(rand.NewSource(time.Now().UnixNano())), lock: new(sync.Mutex), unstableExpiry: mathx.NewUnstable(expiryDeviation), stat: st, errNotFound: errNotFound, }",
  "call mathx.NewUnstable(expiryDeviation)"] := by rfl

theorem tie_doGetCacheFacts : doGetCacheFacts = [
  "call c.rds.GetCtx(ctx, key)",
  "return err",
  "return c.errNotFound",
  "return errPlaceholder",
  "return c.processCache(ctx, key, data, v)",
  "call c.processCache(ctx, key, data, v)"] := by rfl

theorem tie_doTakeFacts : doTakeFacts = [
  "call c.barrier.DoEx(key, func{…})",
  "call c.doGetCache(ctx, key, v)",
  "return nil, c.errNotFound",
  "return nil, err",
  "call query(v)",
  "call c.setCacheWithNotFound(ctx, key)",
  "return nil, c.errNotFound",
  "return nil, err",
  "call cacheVal(v)",
  "return jsonx.Marshal(v)",
  "return err",
  "return nil",
  "return jsonx.Unmarshal(val.([]byte), v)"] := by rfl

theorem tie_processCacheFacts : processCacheFacts = [
  "return nil",
  "call c.rds.DelCtx(ctx, key)",
  "return c.errNotFound"] := by rfl

/-- how the seconds handed to Redis are computed — either of two forms of the source is accepted:
  * `int(math.Ceil(d.Seconds()))` inline in `SetWithExpireCtx` and `setCacheWithNotFound` (0 seconds for a jittered
    duration below 1 ns: witness `one_nanosecond_expiry_writes_a_persistent_key`);
  * the same rounding inside the helper `ttlSeconds`, which never returns less than 1 (`ttlSecondsFixed`; identical to
    the bare rounding for every expiry ≥ 2 ns: `ttl_fix_changes_nothing_above_1ns`) — what /repo has
    (fixes/C06-ttl-at-least-one-second.patch).
In both forms: the not-found marker uses `aroundDuration(c.notFoundExpiry)` and `SetnxExCtx` (SET NX EX), a row
uses `expire` (re-drawn from `c.expiry` when non-positive) and `SetexCtx`. -/
theorem tie_ttlSecondsForms :
    (setCacheWithNotFoundFacts = [
        "call math.Ceil(c.aroundDuration(c.notFoundExpiry).Seconds())",
        "call c.aroundDuration(c.notFoundExpiry)",
        "call c.rds.SetnxExCtx(ctx, key, notFoundPlaceholder, seconds)",
        "return err"]
      ∧ setWithExpireFacts = [
        "return err",
        "call c.aroundDuration(c.expiry)",
        "return c.rds.SetexCtx(ctx, key, string(data), int(math.Ceil(expire.Seconds())))",
        "call c.rds.SetexCtx(ctx, key, string(data), int(math.Ceil(expire.Seconds())))",
        "call math.Ceil(expire.Seconds())"]
      ∧ ttlSecondsFacts = [] ∧ ttlSecondsShape = [])
    ∨ (setCacheWithNotFoundFacts = [
        "call ttlSeconds(c.aroundDuration(c.notFoundExpiry))",
        "call c.aroundDuration(c.notFoundExpiry)",
        "call c.rds.SetnxExCtx(ctx, key, notFoundPlaceholder, seconds)",
        "return err"]
      ∧ setWithExpireFacts = [
        "return err",
        "call c.aroundDuration(c.expiry)",
        "return c.rds.SetexCtx(ctx, key, string(data), ttlSeconds(expire))",
        "call c.rds.SetexCtx(ctx, key, string(data), ttlSeconds(expire))",
        "call ttlSeconds(expire)"]
      ∧ ttlSecondsFacts = [
        "call math.Ceil(d.Seconds())",
        "return seconds",
        "return 1"]
      ∧ ttlSecondsShape = [
        "call d.Seconds",
        "call math.Ceil",
        "if seconds > 1 {",
        "return",
        "}",
        "return"]) := by
  -- whichever of the two forms the extractor found
  first | exact .inl ⟨rfl, rfl, rfl, rfl⟩ | exact .inr ⟨rfl, rfl, rfl, rfl⟩

theorem tie_setFacts : setFacts = [
  "return c.SetWithExpireCtx(ctx, key, val, c.aroundDuration(c.expiry))",
  "call c.SetWithExpireCtx(ctx, key, val, c.aroundDuration(c.expiry))",
  "call c.aroundDuration(c.expiry)"] := by rfl

theorem tie_takeFacts : takeFacts = [
  "return c.doTake(ctx, val, key, query, func(v any) error { return c.SetCtx(ctx, key, v) })",
  "call c.doTake(ctx, val, key, query, func{…})",
  "return c.SetCtx(ctx, key, v)",
  "call c.SetCtx(ctx, key, v)"] := by rfl

theorem tie_takeWithExpireFacts : takeWithExpireFacts = [
  "call c.aroundDuration(c.expiry)",
  "return c.doTake(ctx, val, key, func(v any) error { return query(v, expire) }, func(v any) error { return c.SetWithExpireCtx(ctx, key, v, expire) })",
  "call c.doTake(ctx, val, key, func{…}, func{…})",
  "return query(v, expire)",
  "call query(v, expire)",
  "return c.SetWithExpireCtx(ctx, key, v, expire)",
  "call c.SetWithExpireCtx(ctx, key, v, expire)"] := by rfl

theorem tie_getFacts : getFacts = [
  "call c.doGetCache(ctx, key, val)",
  "return c.errNotFound",
  "return err"] := by rfl

theorem tie_delFacts : delFacts = [
  "return nil",
  "call c.rds.DelCtx(ctx, key)",
  "call c.asyncRetryDelCache(key)",
  "call c.rds.DelCtx(ctx, keys)",
  "call c.asyncRetryDelCache(keys)",
  "return nil"] := by rfl

theorem tie_asyncRetryFacts : asyncRetryFacts = [
  "call AddCleanTask(func{…}, keys)",
  "call c.rds.Del(keys)",
  "return err"] := by rfl

theorem tie_aroundDurationFacts : aroundDurationFacts = [
  "return c.unstableExpiry.AroundDuration(duration)",
  "call c.unstableExpiry.AroundDuration(duration)"] := by rfl

theorem tie_addCleanTaskFacts : addCleanTaskFacts = [
  "call tw.SetTimer(stringx.Randn(taskKeyLen), delayTask{ delay: time.Second, task: task, keys: keys, }, time.Second)"] := by rfl

theorem tie_cleanFacts : cleanFacts = [
  "call taskRunner.Schedule(func{…})",
  "call dt.task()",
  "return",
  "call nextDelay(dt.delay)",
  "call tw.SetTimer(key, dt, next)"] := by rfl

theorem tie_cleanerInitFacts : cleanerInitFacts = [
  "call collection.NewTimingWheel(time.Second, timingWheelSlots, clean)"] := by rfl

theorem tie_execFacts : execFacts = [
  "call exec(ctx, cc.db)",
  "return nil, err",
  "return res, cc.DelCacheCtx(ctx, keys...)",
  "call cc.DelCacheCtx(ctx, keys)"] := by rfl

theorem tie_delCacheFacts : delCacheFacts = [
  "return cc.cache.DelCtx(ctx, keys...)",
  "call cc.cache.DelCtx(ctx, keys)"] := by rfl

theorem tie_queryRowFacts : queryRowFacts = [
  "return cc.cache.TakeCtx(ctx, v, key, func(v any) error { return query(ctx, cc.db, v) })",
  "call cc.cache.TakeCtx(ctx, v, key, func{…})",
  "return query(ctx, cc.db, v)",
  "call query(ctx, cc.db, v)"] := by rfl

theorem tie_queryRowIndexFacts : queryRowIndexFacts = [
  "call cc.cache.TakeWithExpireCtx(ctx, &primaryKey, key, func{…})",
  "call indexQuery(ctx, cc.db, v)",
  "return",
  "return cc.cache.SetWithExpireCtx(ctx, keyer(primaryKey), v, expire+cacheSafeGapBetweenIndexAndPrimary)",
  "call cc.cache.SetWithExpireCtx(ctx, keyer(primaryKey), v, expire + cacheSafeGapBetweenIndexAndPrimary)",
  "call keyer(primaryKey)",
  "return err",
  "return nil",
  "return cc.cache.TakeCtx(ctx, v, keyer(primaryKey), func(v any) error { return primaryQuery(ctx, cc.db, v, primaryKey) })",
  "call cc.cache.TakeCtx(ctx, v, keyer(primaryKey), func{…})",
  "call keyer(primaryKey)",
  "return primaryQuery(ctx, cc.db, v, primaryKey)",
  "call primaryQuery(ctx, cc.db, v, primaryKey)"] := by rfl

theorem tie_newNodeConnFacts : newNodeConnFacts = [
  "call cache.NewNode(rds, singleFlights, stats, sql.ErrNoRows, opts)",
  "return NewConnWithCache(db, c)"] := by rfl

theorem tie_aroundFacts : aroundFacts = [
  "call time.Duration((1 + u.deviation - 2*u.deviation*u.r.Float64()) * float64(base))",
  "call u.r.Float64()",
  "return val"] := by rfl

theorem tie_newUnstableFacts : newUnstableFacts = [
  "return Unstable{ deviation: deviation, r: rand.New(rand.NewSource(time.Now().UnixNano())), lock: new(sync.Mutex), }"] := by rfl

theorem tie_extractionErrors : extractionErrors = [] := extraction_clean

/-- `createCall`: under the lock, an existing call is joined (wait), else mine is registered — Flight.step pc 0 / pc 3. -/
theorem tie_createCallShape : createCallShape = ["call g.lock.Lock", "if ok {", "call g.lock.Unlock", "call c.wg.Wait",
    "return", "}", "call c.wg.Add", "mapset g.calls", "call g.lock.Unlock", "return"] := by rfl

/-- `makeCall`: fn runs, then (deferred) the call is unregistered and its waiters released — Flight.step pc 1, 2. -/
theorem tie_makeCallShape : makeCallShape = ["defer{", "func{", "call g.lock.Lock", "delete g.calls", "call g.lock.Unlock",
    "call c.wg.Done", "}", "call func", "}", "call fn", "store c.val", "store c.err"] := by rfl

theorem tie_doExShape : doExShape = ["call g.createCall", "if done {", "return", "}", "call g.makeCall", "return"] := by rfl

/-- the Redis types the model's `Cfg.cluster` distinguishes (harness cfg `type=node|cluster`). -/
theorem tie_redisTypes : redisClusterType = "cluster" ∧ redisNodeType = "node" := ⟨rfl, rfl⟩

/-- `cache.New`: one node → a plain cacheNode; several → one cacheNode per configured Redis, each added to the consistent hash with its weight (the harness builds its caches through this function). -/
theorem tie_newShape : newShape = [
  "if len(c) == 0 || TotalWeights(c) <= 0 {",
  "call log.Fatal",
  "}",
  "if len(c) == 1 {",
  "call redis.MustNewRedis",
  "call NewNode",
  "return",
  "}",
  "call hash.NewConsistentHash",
  "range c {",
  "call redis.MustNewRedis",
  "call NewNode",
  "call dispatcher.AddWithWeight",
  "}",
  "return"] := by rfl

/-- `cacheCluster.DelCtx`: 0 keys → nothing; 1 key → its node; else the keys are grouped under the node the dispatcher picks for each (`clusterDel`: `ks.filter (place · = n)`), and every group is deleted through its node — `clusterDel` / nodesOf. -/
theorem tie_clusterDelShape : clusterDelShape = [
  "switch len(keys) {",
  "case 0:",
  "return",
  "case 1:",
  "call cc.dispatcher.Get",
  "if !ok {",
  "return",
  "}",
  "call c.(Cache).DelCtx",
  "return",
  "default:",
  "range keys {",
  "call cc.dispatcher.Get",
  "if !ok {",
  "call be.Add",
  "continue",
  "}",
  "mapset nodes",
  "}",
  "range nodes {",
  "call c.(Cache).DelCtx",
  "if err != nil {",
  "call be.Add",
  "}",
  "}",
  "call be.Err",
  "return",
  "}"] := by rfl

theorem tie_newFacts : newFacts = [
  "call TotalWeights(c)",
  "return NewNode(redis.MustNewRedis(c[0].RedisConf), barrier, st, errNotFound, opts...)",
  "call NewNode(redis.MustNewRedis(c[0].RedisConf), barrier, st, errNotFound, opts)",
  "call redis.MustNewRedis(c[0].RedisConf)",
  "call hash.NewConsistentHash()",
  "call NewNode(redis.MustNewRedis(node.RedisConf), barrier, st, errNotFound, opts)",
  "call redis.MustNewRedis(node.RedisConf)",
  "call dispatcher.AddWithWeight(cn, node.Weight)",
  "return cacheCluster{ dispatcher: dispatcher, errNotFound: errNotFound, }"] := by rfl

theorem tie_clusterDelFacts : clusterDelFacts = [
  "return nil",
  "call cc.dispatcher.Get(key)",
  "return cc.errNotFound",
  "return c.(Cache).DelCtx(ctx, key)",
  "call c.(Cache).DelCtx(ctx, key)",
  "call cc.dispatcher.Get(key)",
  "call be.Add(fmt.Errorf(\"key %q not found\", key))",
  "call c.(Cache).DelCtx(ctx, ks)",
  "call be.Add(err)",
  "return be.Err()",
  "call be.Err()"] := by rfl

/-- the grouping itself: a key is appended to the group of the node it was dispatched to. -/
theorem tie_clusterDelGroups : clusterDelGroups = [
  "nodes[c] = append(nodes[c], key)"] := by rfl

/-- every single-key operation of the cluster (this obligation and the four after it) goes to the node `dispatcher.Get(key)` returns, with the same key and arguments (Model: `c.place k` / `c.slot k`). -/
theorem tie_clusterGetFacts : clusterGetFacts = [
  "call cc.dispatcher.Get(key)",
  "return cc.errNotFound",
  "return c.(Cache).GetCtx(ctx, key, val)",
  "call c.(Cache).GetCtx(ctx, key, val)"] := by rfl

theorem tie_clusterSetFacts : clusterSetFacts = [
  "call cc.dispatcher.Get(key)",
  "return cc.errNotFound",
  "return c.(Cache).SetCtx(ctx, key, val)",
  "call c.(Cache).SetCtx(ctx, key, val)"] := by rfl

theorem tie_clusterSetWithExpireFacts : clusterSetWithExpireFacts = [
  "call cc.dispatcher.Get(key)",
  "return cc.errNotFound",
  "return c.(Cache).SetWithExpireCtx(ctx, key, val, expire)",
  "call c.(Cache).SetWithExpireCtx(ctx, key, val, expire)"] := by rfl

theorem tie_clusterTakeFacts : clusterTakeFacts = [
  "call cc.dispatcher.Get(key)",
  "return cc.errNotFound",
  "return c.(Cache).TakeCtx(ctx, val, key, query)",
  "call c.(Cache).TakeCtx(ctx, val, key, query)"] := by rfl

theorem tie_clusterTakeWithExpireFacts : clusterTakeWithExpireFacts = [
  "call cc.dispatcher.Get(key)",
  "return cc.errNotFound",
  "return c.(Cache).TakeWithExpireCtx(ctx, val, key, query)",
  "call c.(Cache).TakeWithExpireCtx(ctx, val, key, query)"] := by rfl

theorem tie_newConnFacts : newConnFacts = [
  "call cache.New(c, singleFlights, stats, sql.ErrNoRows, opts)",
  "return NewConnWithCache(db, cc)"] := by rfl

theorem tie_getCacheFacts : getCacheFacts = [
  "return cc.cache.GetCtx(ctx, key, v)",
  "call cc.cache.GetCtx(ctx, key, v)"] := by rfl

theorem tie_setCacheFacts : setCacheFacts = [
  "return cc.cache.SetCtx(ctx, key, val)",
  "call cc.cache.SetCtx(ctx, key, val)"] := by rfl

theorem tie_setCacheWithExpireFacts : setCacheWithExpireFacts = [
  "return cc.cache.SetWithExpireCtx(ctx, key, val, expire)",
  "call cc.cache.SetWithExpireCtx(ctx, key, val, expire)"] := by rfl

theorem tie_doExFacts : doExFacts = [
  "call g.createCall(key)",
  "return c.val, false, c.err",
  "call g.makeCall(c, key, fn)",
  "return c.val, true, c.err"] := by rfl

theorem tie_makeCallFacts : makeCallFacts = [
  "call c.wg.Done()",
  "call fn()"] := by rfl

theorem tie_createCallFacts : createCallFacts = [
  "call c.wg.Wait()",
  "return c, true",
  "call c.wg.Add(1)",
  "return c, false"] := by rfl

theorem tie_moncNewModelFacts : moncNewModelFacts = [
  "call cache.New(conf, singleFlight, stats, mongo.ErrNoDocuments, opts)",
  "return NewModelWithCache(uri, db, collection, c)"] := by rfl

theorem tie_moncNewNodeModelFacts : moncNewNodeModelFacts = [
  "call cache.NewNode(rds, singleFlight, stats, mongo.ErrNoDocuments, opts)",
  "return NewModelWithCache(uri, db, collection, c)"] := by rfl

/-- monc (Mongo) reuses the same cache.Cache path (this obligation and the twelve after it): reads through TakeCtx, every write is followed by DelCache of the key(s) — the shape of sqlc ExecCtx (`execOp`). -/
theorem tie_moncDelCacheFacts : moncDelCacheFacts = [
  "return mm.cache.DelCtx(ctx, keys...)",
  "call mm.cache.DelCtx(ctx, keys)"] := by rfl

theorem tie_moncGetCacheFacts : moncGetCacheFacts = [
  "return mm.cache.Get(key, v)",
  "call mm.cache.Get(key, v)"] := by rfl

theorem tie_moncSetCacheFacts : moncSetCacheFacts = [
  "return mm.cache.Set(key, v)",
  "call mm.cache.Set(key, v)"] := by rfl

theorem tie_moncFindOneFacts : moncFindOneFacts = [
  "return mm.cache.TakeCtx(ctx, v, key, func(v any) error { return mm.Model.FindOne(ctx, v, filter, opts...) })",
  "call mm.cache.TakeCtx(ctx, v, key, func{…})",
  "return mm.Model.FindOne(ctx, v, filter, opts...)",
  "call mm.Model.FindOne(ctx, v, filter, opts)"] := by rfl

theorem tie_moncDeleteOneFacts : moncDeleteOneFacts = [
  "call mm.Model.DeleteOne(ctx, filter, opts)",
  "return 0, err",
  "call mm.DelCache(ctx, key)",
  "return 0, err",
  "return val, nil"] := by rfl

theorem tie_moncFindOneAndDeleteFacts : moncFindOneAndDeleteFacts = [
  "call mm.Model.FindOneAndDelete(ctx, v, filter, opts)",
  "return err",
  "return mm.DelCache(ctx, key)",
  "call mm.DelCache(ctx, key)"] := by rfl

theorem tie_moncFindOneAndReplaceFacts : moncFindOneAndReplaceFacts = [
  "call mm.Model.FindOneAndReplace(ctx, v, filter, replacement, opts)",
  "return err",
  "return mm.DelCache(ctx, key)",
  "call mm.DelCache(ctx, key)"] := by rfl

theorem tie_moncFindOneAndUpdateFacts : moncFindOneAndUpdateFacts = [
  "call mm.Model.FindOneAndUpdate(ctx, v, filter, update, opts)",
  "return err",
  "return mm.DelCache(ctx, key)",
  "call mm.DelCache(ctx, key)"] := by rfl

theorem tie_moncInsertOneFacts : moncInsertOneFacts = [
  "call mm.Model.InsertOne(ctx, document, opts)",
  "return nil, err",
  "call mm.DelCache(ctx, key)",
  "return nil, err",
  "return res, nil"] := by rfl

theorem tie_moncReplaceOneFacts : moncReplaceOneFacts = [
  "call mm.Model.ReplaceOne(ctx, filter, replacement, opts)",
  "return nil, err",
  "call mm.DelCache(ctx, key)",
  "return nil, err",
  "return res, nil"] := by rfl

theorem tie_moncUpdateByIDFacts : moncUpdateByIDFacts = [
  "call mm.Model.UpdateByID(ctx, id, update, opts)",
  "return nil, err",
  "call mm.DelCache(ctx, key)",
  "return nil, err",
  "return res, nil"] := by rfl

theorem tie_moncUpdateManyFacts : moncUpdateManyFacts = [
  "call mm.Model.UpdateMany(ctx, filter, update, opts)",
  "return nil, err",
  "call mm.DelCache(ctx, keys)",
  "return nil, err",
  "return res, nil"] := by rfl

theorem tie_moncUpdateOneFacts : moncUpdateOneFacts = [
  "call mm.Model.UpdateOne(ctx, filter, update, opts)",
  "return nil, err",
  "call mm.DelCache(ctx, key)",
  "return nil, err",
  "return res, nil"] := by rfl

theorem tie_isNotFoundFacts : isNotFoundFacts = [
  "return errors.Is(err, c.errNotFound)",
  "call errors.Is(err, c.errNotFound)"] := by rfl

theorem tie_clusterIsNotFoundFacts : clusterIsNotFoundFacts = [
  "return errors.Is(err, cc.errNotFound)",
  "call errors.Is(err, cc.errNotFound)"] := by rfl

theorem tie_nodeWDelFacts : nodeWDelFacts = [
  "return c.DelCtx(context.Background(), keys...)",
  "call c.DelCtx(context.Background(), keys)"] := by rfl

theorem tie_clusterWDelFacts : clusterWDelFacts = [
  "return cc.DelCtx(context.Background(), keys...)",
  "call cc.DelCtx(context.Background(), keys)"] := by rfl

theorem tie_nodeWGetFacts : nodeWGetFacts = [
  "return c.GetCtx(context.Background(), key, val)",
  "call c.GetCtx(context.Background(), key, val)"] := by rfl

theorem tie_clusterWGetFacts : clusterWGetFacts = [
  "return cc.GetCtx(context.Background(), key, val)",
  "call cc.GetCtx(context.Background(), key, val)"] := by rfl

theorem tie_nodeWSetFacts : nodeWSetFacts = [
  "return c.SetCtx(context.Background(), key, val)",
  "call c.SetCtx(context.Background(), key, val)"] := by rfl

theorem tie_clusterWSetFacts : clusterWSetFacts = [
  "return cc.SetCtx(context.Background(), key, val)",
  "call cc.SetCtx(context.Background(), key, val)"] := by rfl

theorem tie_nodeWSetWithExpireFacts : nodeWSetWithExpireFacts = [
  "return c.SetWithExpireCtx(context.Background(), key, val, expire)",
  "call c.SetWithExpireCtx(context.Background(), key, val, expire)"] := by rfl

theorem tie_clusterWSetWithExpireFacts : clusterWSetWithExpireFacts = [
  "return cc.SetWithExpireCtx(context.Background(), key, val, expire)",
  "call cc.SetWithExpireCtx(context.Background(), key, val, expire)"] := by rfl

theorem tie_nodeWTakeFacts : nodeWTakeFacts = [
  "return c.TakeCtx(context.Background(), val, key, query)",
  "call c.TakeCtx(context.Background(), val, key, query)"] := by rfl

theorem tie_clusterWTakeFacts : clusterWTakeFacts = [
  "return cc.TakeCtx(context.Background(), val, key, query)",
  "call cc.TakeCtx(context.Background(), val, key, query)"] := by rfl

theorem tie_nodeWTakeWithExpireFacts : nodeWTakeWithExpireFacts = [
  "return c.TakeWithExpireCtx(context.Background(), val, key, query)",
  "call c.TakeWithExpireCtx(context.Background(), val, key, query)"] := by rfl

theorem tie_clusterWTakeWithExpireFacts : clusterWTakeWithExpireFacts = [
  "return cc.TakeWithExpireCtx(context.Background(), val, key, query)",
  "call cc.TakeWithExpireCtx(context.Background(), val, key, query)"] := by rfl

theorem tie_sqlcWDelCacheFacts : sqlcWDelCacheFacts = [
  "return cc.DelCacheCtx(context.Background(), keys...)",
  "call cc.DelCacheCtx(context.Background(), keys)"] := by rfl

theorem tie_sqlcWGetCacheFacts : sqlcWGetCacheFacts = [
  "return cc.GetCacheCtx(context.Background(), key, v)",
  "call cc.GetCacheCtx(context.Background(), key, v)"] := by rfl

theorem tie_sqlcWExecFacts : sqlcWExecFacts = [
  "return exec(conn)",
  "return cc.ExecCtx(context.Background(), execCtx, keys...)",
  "call cc.ExecCtx(context.Background(), execCtx, keys)"] := by rfl

theorem tie_sqlcWQueryRowFacts : sqlcWQueryRowFacts = [
  "return query(conn, v)",
  "return cc.QueryRowCtx(context.Background(), v, key, queryCtx)",
  "call cc.QueryRowCtx(context.Background(), v, key, queryCtx)"] := by rfl

theorem tie_sqlcWQueryRowIndexFacts : sqlcWQueryRowIndexFacts = [
  "return indexQuery(conn, v)",
  "return primaryQuery(conn, v, primary)",
  "return cc.QueryRowIndexCtx(context.Background(), v, key, keyer, indexQueryCtx, primaryQueryCtx)",
  "call cc.QueryRowIndexCtx(context.Background(), v, key, keyer, indexQueryCtx, primaryQueryCtx)"] := by rfl

theorem tie_sqlcWSetCacheFacts : sqlcWSetCacheFacts = [
  "return cc.SetCacheCtx(context.Background(), key, val)",
  "call cc.SetCacheCtx(context.Background(), key, val)"] := by rfl

theorem tie_sqlcWSetCacheWithExpireFacts : sqlcWSetCacheWithExpireFacts = [
  "return cc.SetCacheWithExpireCtx(context.Background(), key, val, expire)",
  "call cc.SetCacheWithExpireCtx(context.Background(), key, val, expire)"] := by rfl

/-- where a value comes from, as the extractor classified it. -/
inductive Src where
  | pkgvar (pkg : String) (decl : String)   -- a package-level variable, initialised once (`decl` = name=initialiser), never written again
  | caller (k : Nat)                        -- whatever the caller built (his barrier number k)
  | other (what : String)                   -- anything else, e.g. a fresh `syncx.NewSingleFlight()` per call
  deriving DecidableEq, Repr

def srcOf (pkg ctor : String) (tbl : List (String × List String)) : Src :=
  match tbl.lookup ctor with
  | some ["pkgvar", decl] => .pkgvar pkg decl
  | some l => .other (ctor ++ "/" ++ "/".intercalate l)
  | none => .other (ctor ++ "/?")

/-- the barrier of a constructor, read off the source. -/
def srcBarrier : Multi.Ctor → Src
  | .newConn => srcOf "sqlc" "NewConn" sqlcCtorBarriers
  | .newNodeConn => srcOf "sqlc" "NewNodeConn" sqlcCtorBarriers
  | .newModel => srcOf "monc" "NewModel" moncCtorBarriers
  | .newNodeModel => srcOf "monc" "NewNodeModel" moncCtorBarriers
  | .newConnWithCache k => .caller k
  | .newModelWithCache k => .caller k

/-- **the model's barrier structure is the source's**: two constructors put their instances under the same
barrier in the model (`Multi.barrierOf`) exactly if the barrier arguments read off the source are the same object —
NewConn and NewNodeConn both hand on the package-level `singleFlights` of sqlc (initialised once with
`syncx.NewSingleFlight()`, written nowhere else in the package), NewModel and NewNodeModel the package-level
`singleFlight` of monc.  A constructor that creates its own barrier (seeded change C06-3) falsifies this. -/
theorem tie_ctorBarriers (a b : Multi.Ctor) : Multi.barrierOf a = Multi.barrierOf b ↔ srcBarrier a = srcBarrier b := by
  have h1 : srcBarrier .newConn = .pkgvar "sqlc" "singleFlights=syncx.NewSingleFlight()" := rfl
  have h2 : srcBarrier .newNodeConn = .pkgvar "sqlc" "singleFlights=syncx.NewSingleFlight()" := rfl
  have h3 : srcBarrier .newModel = .pkgvar "monc" "singleFlight=syncx.NewSingleFlight()" := rfl
  have h4 : srcBarrier .newNodeModel = .pkgvar "monc" "singleFlight=syncx.NewSingleFlight()" := rfl
  cases a <;> cases b <;> simp [Multi.barrierOf, h1, h2, h3, h4] <;> simp [srcBarrier]

/-- the classification itself, with the initialiser: one barrier per package, created once. -/
theorem tie_barrierVars :
    sqlcCtorBarriers = [("NewConn", ["pkgvar", "singleFlights=syncx.NewSingleFlight()"]), ("NewNodeConn", ["pkgvar", "singleFlights=syncx.NewSingleFlight()"])]
    ∧ moncCtorBarriers = [("NewModel", ["pkgvar", "singleFlight=syncx.NewSingleFlight()"]), ("NewNodeModel", ["pkgvar", "singleFlight=syncx.NewSingleFlight()"])]
    ∧ newSingleFlightFacts = ["return &flightGroup{ calls: make(map[string]*call), }"] := ⟨rfl, rfl, rfl⟩

/-- the barrier travels unchanged: cache.New hands ITS parameter to every NewNode (single node and every node of
a cluster), NewNode stores ITS parameter in the node (`doTake` runs under `c.barrier.DoEx`: `tie_doTakeFacts`). -/
theorem tie_barrierHandedOn : cacheNewBarrierArgs = ["param:barrier", "param:barrier"]
    ∧ newNodeBarrierField = ["param:barrier"] := ⟨rfl, rfl⟩

/-- the with-cache constructors keep the cache — hence the barrier — they are given; the other constructors go
through them with the cache they just built. -/
theorem tie_withCacheKeepsCache : newConnWithCacheField = ["param:c"] ∧ newConnPassesCache = ["expr:local cc", "expr:local c"]
    ∧ moncNewModelField = ["param:c"] ∧ moncWithCachePasses = ["param:c", "expr:local c", "expr:local c"]
    ∧ moncMustNewModelFacts = ["call NewModel(uri, db, collection, c, opts)", "return model"]
    ∧ moncMustNewNodeModelFacts = ["call NewNodeModel(uri, db, collection, rds, opts)", "return model"] := ⟨rfl, rfl, rfl, rfl, rfl, rfl⟩

/-- the ring of a cacheCluster hashes `fmt.Sprint(node)` = the server ADDRESS: two caches built by `cache.New` over
the same ClusterConf dispatch every key alike (`SameServers`, Histories.lean). -/
theorem tie_nodeStringFacts : nodeStringFacts = ["return c.rds.Addr"] := rfl

/-- `cacheNode.DelCtx`: nothing to do for no keys; the per-key loop exactly for more than one key on a cluster-type
Redis — `nodeDel`'s two tests, for every key list and both Redis types. -/
theorem tie_delCtxConds (ks : List CKey) (cluster : Bool) :
    (delCtxCondEmpty ks.length = true ↔ ks = [])
    ∧ (delCtxCondLoop ks.length (if cluster then redisClusterType else redisNodeType) = true ↔ (ks.length > 1 ∧ cluster = true)) := by
  constructor
  · cases ks <;> simp [delCtxCondEmpty]; omega
  · cases cluster <;> simp [delCtxCondLoop, redisClusterType, redisNodeType] <;> omega

/-- … and for EVERY value of `c.rds.Type`, not only the two constants: the loop is taken iff the type is "cluster". -/
theorem tie_delCtxCondLoop_all (n : Int) (typ : String) : delCtxCondLoop n typ = (decide (n > 1) && typ == "cluster") := rfl

/-- `SetWithExpireCtx`: a non-positive expire falls back to the configured expiry (`setOp`: `if e ≤ 0`; ms vs ns). -/
theorem tie_setWithExpireCond (ms : Int) : setWithExpireCond (ms * 1000000) = decide (ms ≤ 0) := by
  simp [setWithExpireCond]; omega

/-- `ttlSeconds`: the rounded seconds are kept iff they exceed 1, else 1 (`ttlSecondsFixed`). -/
theorem tie_ttlSecondsCond (e j : Nat) :
    ttlSecondsFixed e j = if ttlSecondsCond (ttlSecNs e j : Nat) then ttlSecNs e j else 1 := by
  simp only [ttlSecondsFixed, ttlSecondsCond, decide_eq_true_eq]
  split <;> split <;> omega

/-- `doGetCache`: an empty value is a miss, exactly "*" is the not-found marker. -/
theorem tie_doGetCacheConds (n : Int) (data : String) :
    (doGetCacheCondEmpty n = true ↔ n = 0) ∧ (doGetCacheCondPlaceholder data = true ↔ data = "*") := by
  simp [doGetCacheCondEmpty, doGetCacheCondPlaceholder]

/-- `cache.New`: fatal for no node or no weight; a plain cacheNode for exactly one node, a cluster otherwise. -/
theorem tie_newConds (n w : Int) : (newCondFatal n w = true ↔ (n = 0 ∨ w ≤ 0)) ∧ (newCondSingle n = true ↔ n = 1) := by
  simp [newCondFatal, newCondSingle]

/-- `mathx.NewUnstable`: the two clamps (operators, constants, assigned values) are the model's `clampDev`. -/
theorem tie_newUnstableClamp (d : Rat) :
    clampDev d = (if newUnstableCondLow d then 0 else if newUnstableCondHigh d then 1 else d)
    ∧ newUnstableAssigns = ["deviation = 0", "deviation = 1"] := by
  refine ⟨?_, rfl⟩
  simp [clampDev, newUnstableCondLow, newUnstableCondHigh]

/-- `Unstable.AroundDuration` / `AroundInt`: the jittered value before truncation, as a term, for all arguments. -/
theorem tie_aroundExpr (dev r base : Rat) :
    aroundExpr dev r base = (1 + dev - 2 * dev * r) * base ∧ aroundIntExpr dev r base = (1 + dev - 2 * dev * r) * base :=
  ⟨rfl, rfl⟩

/-- … and with the deviation `p/qd` and the draw `j/1000` it is exactly the rational number whose floor is the
model's `aroundNs p qd base j` (`⌊((qd + p)·1000 − 2·p·j)·base / (qd·1000)⌋`; the numerator is non-negative for
`p ≤ qd`, `j ≤ 1000`, so the model's natural-number subtraction is the rational one). -/
theorem tie_aroundExpr_rational (p qd j base : Rat) (hq : qd ≠ 0) :
    aroundExpr (p / qd) (j / 1000) base = ((qd + p) * 1000 - 2 * p * j) * base / (qd * 1000) := by
  unfold aroundExpr
  grind

/-- `createCall` obtains the call object with `new(call)` (or `&call{}`): an object nobody else holds — the
allocator `Calls.Alloc.fresh` the theorems of PropsCalls.lean are proven for.  A pool / cache / parameter is
classified `other:…` and fails this obligation (the pooled allocator has the witness
`pooled_call_object_hands_a_reader_the_result_of_another_key`). -/
theorem tie_createCallAlloc : Calls.allocOfSource createCallAlloc = some .fresh := rfl

/-- nobody but `makeCall` (from Do / DoEx) is ever handed the call object: it is not put into a pool, a channel
wrapper or a registry from which another flight could get it while followers still hold it. -/
theorem tie_callObjectStaysPrivate : callObjectHandedTo = ["Do:g.makeCall", "DoEx:g.makeCall"] := rfl

/-- every constructor hop hands the function's own `opts` on, spread, in EVERY call of the next constructor
(cache.New: both the single-node shortcut and the loop over the cluster's nodes) … -/
theorem tie_optsForwardedAtEveryHop (c : Multi.Ctor) : (Multi.hops c).all (Multi.hopForwards optsForwarding) = true := by
  cases c <;> simp only [Multi.hops] <;> decide

/-- … so the nodes of an instance built by ANY constructor run with exactly the caller's options, for every
Options value (`Cfg.ofOptions` of the instance's own options is what the driver and PropsInstances use). -/
theorem tie_optionsReachTheNodes (c : Multi.Ctor) (o : Options) : Multi.optsAtNode ({} : Options) optsForwarding c o = o :=
  Calls.options_reach_the_nodes _ _ tie_optsForwardedAtEveryHop c o

/-- the DEL of the cleaner's retry is issued with a BACKGROUND context (the context-free `c.rds.Del`,
whose body hands `context.Background()` to `DelCtx`), not with the ctx of the DelCtx call that armed it —
`Ctx.RetryCtx.background`, for which `retry_independent_of_writer_context` is proven. -/
theorem tie_retryDelCtx : Ctx.retrySourceOf retryDelCtx = some .background := rfl

/-- the follower's decode at the end of doTake and the cache hit's decode in processCache call THE SAME
decoder, jsonx.Unmarshal, which is a json.Decoder with UseNumber (`Decode.Decoder.useNumber`, for which
`all_paths_yield_the_same_number` is proven); `json.Unmarshal` is a different callee and classifies as `plain`. -/
theorem tie_decoders : Decode.decoderOfSource doTakeDecoders = some .useNumber
    ∧ Decode.decoderOfSource processCacheDecoders = some .useNumber
    ∧ jsonxUnmarshalFacts = ["call unmarshalUseNumber(decoder, v)", "return formatError(string(data), err)", "return nil"]
    ∧ jsonxUseNumberFacts = ["call decoder.UseNumber()", "return decoder.Decode(v)", "call decoder.Decode(v)"] := ⟨rfl, rfl, rfl, rfl⟩

/-- the `Must…` constructors of monc hand their options on as well. -/
theorem tie_mustNewForward : Multi.hopForwards optsForwarding "monc.MustNewModel" = true
    ∧ Multi.hopForwards optsForwarding "monc.MustNewNodeModel" = true := ⟨rfl, rfl⟩

/-- NewNode configures the node with the two fields of `newOptions(opts...)`, each into its own field. -/
theorem tie_newNodeOptionFields : newNodeOptionFields = ["expr:o.Expiry", "expr:o.NotFoundExpiry"] := rfl

end GoZero.C06.Tie
