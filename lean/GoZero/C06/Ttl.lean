/-
C06 — TTLs: the arithmetic of the jittered expiry, and "every entry carries a TTL" for every legal operation.
-/
import GoZero.C06.Spec
import GoZero.C06.Store
namespace GoZero.C06

theorem ttlSec_in_range (e j : Nat) (hj : j ≤ 1000) (he : 0 < e) :
    Spec.ttlLo e ≤ ttlSec e j ∧ ttlSec e j ≤ Spec.ttlHi e ∧ 1 ≤ ttlSec e j := by
  have h1 : 9500 * e ≤ (10500 - j) * e := Nat.mul_le_mul_right e (by omega)
  have h2 : (10500 - j) * e ≤ 10500 * e := Nat.mul_le_mul_right e (by omega)
  unfold Spec.ttlLo Spec.ttlHi ttlSec
  generalize (10500 - j) * e = x at *
  omega

theorem ttlSec_pos (e j : Nat) (hj : j ≤ 1000) (he : 0 < e) : 1 ≤ ttlSec e j :=
  (ttlSec_in_range e j hj he).2.2

theorem ceilSec_pos (ms : Nat) (h : 0 < ms) : 1 ≤ ceilSec ms := by
  unfold ceilSec; omega

theorem newOptionsMs_pos (e n : Int) : 0 < (newOptionsMs e n).1 ∧ 0 < (newOptionsMs e n).2 := by
  unfold newOptionsMs defaultExpiryMs defaultNotFoundExpiryMs
  constructor <;> (simp only []; split <;> omega)

/-- every entry carries a TTL (`ttl = 0` is the model's persistent key). -/
def Finite (s : St) : Prop := Entries (fun _ e => 0 < e.ttl) s

/-- inputs the environment can actually produce: a jitter draw is `j/1000 ∈ [0, 1]` (`rand.Float64`).  (`raw k v t`
— a write into Redis behind the cache's back — carries the TTL `t > 0`; `t = 0` removes the key.) -/
def OpLegal : Op → Prop
  | .take _ j _ _ => j ≤ 1000
  | .qindex _ j _ _ => j ≤ 1000
  | .set _ _ _ j _ => j ≤ 1000
  | _ => True

theorem LoadWrites.ttl_pos {c : Cfg} (hc : 0 < c.exp ∧ 0 < c.nf) {j : Nat} (hj : j ≤ 1000) {s : St} {k : Slot} {e : Entry}
    (h : LoadWrites c j s k e) : 0 < e.ttl := by
  have h1 := ttlSec_pos c.exp j hj hc.1
  have h2 := ttlSec_pos c.nf j hj hc.2
  rcases h.ttl with h | h | h <;> omega

theorem step_finite (c : Cfg) (hc : 0 < c.exp ∧ 0 < c.nf) {s : St} (hf : Finite s) (op : Op) (hl : OpLegal op) :
    Finite (step c s op).1 := by
  cases op with
  | take pk j m dbf => exact entries_of_wrote hf (takeP_loads c s pk j m dbf) fun _ _ h => h.ttl_pos hc hl
  | qindex a j m dbf => exact entries_of_wrote hf (qindex_loads c s a j m dbf) fun _ _ h => h.ttl_pos hc hl
  | get k m => exact entries_of_wrote hf (getOp_wrote (W := fun _ _ => False) c s k m) fun _ _ h => h.elim
  | exec ks w m dbf =>
    intro k e hk
    obtain ⟨e0, he0, _, ht, _⟩ := execOp_entry hk
    rw [ht]; exact hf k e0 he0
  | del ks m => exact entries_of_shrinks hf (delOp_step c s ks m).shr
  | set k v e j m =>
    refine entries_of_wrote hf (setex_wrote (W := fun _ e => 0 < e.ttl) s (c.slot k) v _ _ _ ?_) fun _ _ h => h
    have h1 := ttlSec_pos c.exp j hl hc.1
    cases e with
    | none => exact Nat.mul_pos h1 (by decide)
    | some ms =>
      by_cases h : ms ≤ 0
      · simp only [h, if_true]; exact Nat.mul_pos h1 (by decide)
      · simp only [h, if_false]; exact Nat.mul_pos (ceilSec_pos _ (by omega)) (by decide)
  | raw k v t =>
    refine entries_of_wrote hf (wrote_upd (W := fun _ e => 0 < e.ttl) s (c.slot k) _ ?_) fun _ _ h => h
    intro e he
    split at he <;> cases he
    exact Nat.pos_of_ne_zero ‹_›
  | ft ms =>
    intro k e hk
    obtain ⟨e0, he0, _, _, ht⟩ := expire_entry hk
    exact ht (hf k e0 he0)
  | tick down => exact entries_of_shrinks hf (tick_shrinks s down)

end GoZero.C06
