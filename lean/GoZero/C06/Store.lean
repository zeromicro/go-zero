/-
C06 — what the operations do to the store, stated once.  Three relations between the state before and after:
  Shrinks     entries are only removed (a GET that drops an unparsable entry, every layer of DelCtx, a cleaner tick)
  DelStep     … and retry tasks are only appended (the layers of DelCtx)
  Wrote W     entries are removed, and entries satisfying `W` are written; database and cleaner untouched
              (the read paths, with `W` = "loaded from the database under the key's own slot"; the explicit set)
Every invariant of the store (Coherence, Provenance, Ttl) speaks of the single entries (`Prov` also of the retry table),
so it is preserved along `Shrinks` for free and along `Wrote W` as soon as the entries `W` describes satisfy it: the
invariant proofs do not look inside the read and set paths (nor, for what concerns single entries, inside Exec:
`execOp_entry`).
-/
import GoZero.C06.Model
namespace GoZero.C06

def SameDb (s s' : St) : Prop := s'.rows = s.rows ∧ s'.idx = s.idx

theorem dbView_of_sameDb {s s' : St} (h : SameDb s s') (k : CKey) : dbView s' k = dbView s k := by
  cases k <;> simp [dbView, dbRow, dbIndex, h.1, h.2]

theorem dbRow_of_sameDb {s s' : St} (h : SameDb s s') (pk : Nat) : dbRow s' pk = dbRow s pk := by
  simp [dbRow, h.1]

theorem dbIndex_of_sameDb {s s' : St} (h : SameDb s s') (a : Nat) : dbIndex s' a = dbIndex s a := by
  simp [dbIndex, h.1, h.2]

theorem SameDb.refl (s : St) : SameDb s s := ⟨rfl, rfl⟩

theorem SameDb.trans {a b c : St} (h1 : SameDb a b) (h2 : SameDb b c) : SameDb a c :=
  ⟨h2.1.trans h1.1, h2.2.trans h1.2⟩

/-- the cache of `s'` is the cache of `s` with some entries removed. -/
def Shrinks (s s' : St) : Prop := ∀ k, s'.cache k = s.cache k ∨ s'.cache k = none

theorem Shrinks.refl (s : St) : Shrinks s s := fun _ => Or.inl rfl

theorem Shrinks.trans {a b c : St} (h1 : Shrinks a b) (h2 : Shrinks b c) : Shrinks a c := by
  intro k
  rcases h2 k with h | h
  · exact (h1 k).imp h.trans h.trans
  · exact Or.inr h

theorem Shrinks.entry {s s' : St} (h : Shrinks s s') {k : Slot} {e : Entry} (hk : s'.cache k = some e) :
    s.cache k = some e := by
  rcases h k with h | h <;> rw [h] at hk
  · exact hk
  · cases hk

theorem delKeys_shrinks (s : St) (ks : List Slot) (tasks : List Task) (g : Nat) :
    Shrinks s { s with cache := delKeys s.cache ks, tasks := tasks, gaveUp := g } := by
  intro k
  simp only [delKeys]
  split
  · exact Or.inr rfl
  · exact Or.inl rfl

-- the fault masks: `failAt` against `headD`, `tail`, `drop` (the per-key loop of DelCtx and the second Take of the index path
-- hand the rest of their mask on)
theorem failAt_head (m : List Bool) : m.headD false = failAt m 0 := by
  cases m <;> rfl

theorem failAt_tail (m : List Bool) (i : Nat) : failAt m.tail i = failAt m (i + 1) := by
  cases m <;> simp [failAt]

theorem failAt_drop (m : List Bool) (k i : Nat) : failAt (m.drop k) i = failAt m (k + i) := by
  simp [failAt, List.getD, List.getElem?_drop]

/-- `s'` is `s` with some entries removed and some written, every written one satisfying `W`; nothing else moved. -/
structure Wrote (W : Slot → Entry → Prop) (s s' : St) : Prop where
  db    : SameDb s s'
  tasks : s'.tasks = s.tasks
  gave  : s'.gaveUp = s.gaveUp
  cache : ∀ k, s'.cache k = s.cache k ∨ s'.cache k = none ∨ ∃ e, s'.cache k = some e ∧ W k e

variable {W W' : Slot → Entry → Prop}

/-- the way the invariants use `Wrote`: an entry of the new state was there before, or is one of those written. -/
theorem Wrote.entry {s s' : St} (h : Wrote W s s') {k : Slot} {e : Entry} (hk : s'.cache k = some e) :
    s.cache k = some e ∨ W k e := by
  rcases h.cache k with h | h | ⟨e', he', hw⟩
  · exact Or.inl (h ▸ hk)
  · rw [h] at hk; cases hk
  · rw [he'] at hk; cases hk; exact Or.inr hw

theorem Wrote.trans {a b c : St} (h1 : Wrote W a b) (h2 : Wrote W b c) : Wrote W a c := by
  refine ⟨h1.db.trans h2.db, h2.tasks.trans h1.tasks, h2.gave.trans h1.gave, fun k => ?_⟩
  rcases h2.cache k with h | h
  · rw [h]; exact h1.cache k
  · exact Or.inr h

theorem Wrote.mono {s s' : St} (hw : ∀ k e, W k e → W' k e) (h : Wrote W s s') : Wrote W' s s' :=
  ⟨h.db, h.tasks, h.gave, fun k => (h.cache k).imp_right (Or.imp_right fun ⟨e, he, hW⟩ => ⟨e, he, hw k e hW⟩)⟩

theorem wrote_upd (s : St) (k : Slot) (o : Option Entry) (h : ∀ e, o = some e → W k e) :
    Wrote W s { s with cache := upd s.cache k o } := by
  refine ⟨⟨rfl, rfl⟩, rfl, rfl, fun k' => ?_⟩
  by_cases hk : k' = k
  · subst hk
    cases o with
    | none => exact Or.inr (Or.inl (by simp [upd]))
    | some e => exact Or.inr (Or.inr ⟨e, by simp [upd], h e rfl⟩)
  · exact Or.inl (by simp [upd, hk])

/-- an invariant of the single entries (where they sit, what they carry). -/
def Entries (Φ : Slot → Entry → Prop) (s : St) : Prop := ∀ k e, s.cache k = some e → Φ k e

theorem entries_of_shrinks {Φ : Slot → Entry → Prop} {s s' : St} (hp : Entries Φ s) (h : Shrinks s s') : Entries Φ s' :=
  fun k e hk => hp k e (h.entry hk)

theorem entries_of_wrote {Φ : Slot → Entry → Prop} {s s' : St} (hp : Entries Φ s) (h : Wrote W s s')
    (hw : ∀ k e, W k e → Φ k e) : Entries Φ s' :=
  fun k e hk => (h.entry hk).elim (hp k e) (hw k e)

theorem entries_init (Φ : Slot → Entry → Prop) : Entries Φ St.init := fun k e hk => by simp [St.init] at hk

/-- `doGetCache` + `processCache`, read off the outcome: what the outcome says of the mask, of the slot, and of the state
after (only a miss on an entry that does not unmarshal may have changed it: the entry is deleted unless that DEL fails). -/
theorem getCache_spec (s : St) (n : Nat) (k : CKey) (m : List Bool) :
    match (getCache s n k m).2.1 with
    | .err => failAt m 0 = true ∧ getCache s n k m = (s, .err, [⟨.get, n, [k], true⟩])
    | .placeholder => failAt m 0 = false ∧ ∃ e, s.cache (n, k) = some e ∧ e.val = .ph ∧ (getCache s n k m).1 = s
    | .hit v => failAt m 0 = false ∧ ∃ e, s.cache (n, k) = some e ∧ e.val = v ∧ parses k v = true ∧ (getCache s n k m).1 = s
    | .miss => failAt m 0 = false ∧
        ((s.cache (n, k) = none ∧ (getCache s n k m).1 = s) ∨
         ∃ e, s.cache (n, k) = some e ∧ e.val ≠ .ph ∧ parses k e.val = false ∧
           ((getCache s n k m).1 = s ∨ (getCache s n k m).1 = { s with cache := upd s.cache (n, k) none })) := by
  unfold getCache
  by_cases hf : failAt m 0 = true
  · simp [hf]
  · rw [if_neg hf]
    have hf : failAt m 0 = false := by simpa using hf
    cases he : s.cache (n, k) with
    | none => exact ⟨hf, .inl ⟨rfl, rfl⟩⟩
    | some e =>
      by_cases hv : e.val = .ph
      · simp [hv, hf]
      · by_cases hp : parses k e.val = true
        · simp [hv, hp, hf]
        · by_cases h1 : failAt m 1 = true
          · simp only [if_neg hv, if_neg hp, if_pos h1]
            exact ⟨hf, .inr ⟨e, rfl, hv, by simpa using hp, .inl trivial⟩⟩
          · simp only [if_neg hv, if_neg hp, if_neg h1]
            exact ⟨hf, .inr ⟨e, rfl, hv, by simpa using hp, .inr trivial⟩⟩

/-- the only thing a GET changes: an entry that does not unmarshal is deleted. -/
theorem getCache_state (s : St) (n : Nat) (k : CKey) (m : List Bool) :
    (getCache s n k m).1 = s ∨ (getCache s n k m).1 = { s with cache := upd s.cache (n, k) none } := by
  have h := getCache_spec s n k m
  split at h
  · exact .inl (by rw [h.2])
  · obtain ⟨_, _, _, _, h⟩ := h; exact .inl h
  · obtain ⟨_, _, _, _, _, h⟩ := h; exact .inl h
  · obtain ⟨_, ⟨_, h⟩ | ⟨_, _, _, _, h⟩⟩ := h
    · exact .inl h
    · exact h

theorem getCache_sameDb (s : St) (n : Nat) (k : CKey) (m : List Bool) : SameDb s (getCache s n k m).1 := by
  rcases getCache_state s n k m with h | h <;> rw [h] <;> exact ⟨rfl, rfl⟩

theorem getCache_shrinks (s : St) (n : Nat) (k : CKey) (m : List Bool) : Shrinks s (getCache s n k m).1 := by
  rcases getCache_state s n k m with h | h <;> rw [h]
  · exact Shrinks.refl s
  · intro k'
    by_cases hk : k' = (n, k) <;> simp [upd, hk]

theorem getCache_wrote (s : St) (n : Nat) (k : CKey) (m : List Bool) : Wrote W s (getCache s n k m).1 := by
  refine ⟨getCache_sameDb s n k m, ?_, ?_, fun k' => (getCache_shrinks s n k m k').imp_right Or.inl⟩ <;>
    rcases getCache_state s n k m with h | h <;> rw [h]

theorem getCache_fail (s : St) (n : Nat) (k : CKey) (m : List Bool) (h : failAt m 0 = true) :
    getCache s n k m = (s, .err, [⟨.get, n, [k], true⟩]) := by
  unfold getCache; simp [h]

theorem getCache_hit {s : St} {n : Nat} {k : CKey} {m : List Bool} {v : CVal} (h : (getCache s n k m).2.1 = .hit v) :
    ∃ e, s.cache (n, k) = some e ∧ e.val = v ∧ parses k v = true ∧ (getCache s n k m).1 = s := by
  have := getCache_spec s n k m
  rw [h] at this
  exact this.2

theorem getCache_placeholder {s : St} {n : Nat} {k : CKey} {m : List Bool} (h : (getCache s n k m).2.1 = .placeholder) :
    ∃ e, s.cache (n, k) = some e ∧ e.val = .ph ∧ (getCache s n k m).1 = s := by
  have := getCache_spec s n k m
  rw [h] at this
  exact this.2

/-- a miss: either nothing is stored, or what is stored does not unmarshal (and is not the placeholder). -/
theorem getCache_miss {s : St} {n : Nat} {k : CKey} {m : List Bool} (h : (getCache s n k m).2.1 = .miss) :
    failAt m 0 = false ∧ (s.cache (n, k) = none ∨ ∃ e, s.cache (n, k) = some e ∧ e.val ≠ .ph ∧ parses k e.val = false) := by
  have := getCache_spec s n k m
  rw [h] at this
  exact ⟨this.1, this.2.imp And.left fun ⟨e, he, hv, hp, _⟩ => ⟨e, he, hv, hp⟩⟩

theorem getCache_not_err {s : St} {n : Nat} {k : CKey} {m : List Bool} (hf : failAt m 0 = false) :
    (getCache s n k m).2.1 ≠ .err := by
  intro h
  have := getCache_spec s n k m
  rw [h] at this
  rw [hf] at this
  cases this.1

/-- an entry stays where it is unless it does not unmarshal and its DEL goes through. -/
theorem getCache_keeps {s : St} {n : Nat} {k : CKey} {m : List Bool} {e : Entry} (he : s.cache (n, k) = some e)
    (hk : parses k e.val = true ∨ failAt m 1 = true) : (getCache s n k m).1.cache (n, k) = some e := by
  unfold getCache
  simp only [he]
  split
  · exact he
  · split
    · exact he
    · split
      · exact he
      · rename_i hp
        rw [if_pos (hk.resolve_left hp)]
        exact he

theorem getCache_live {s : St} {n : Nat} {k : CKey} {m : List Bool} {e : Entry} (he : s.cache (n, k) = some e)
    (hl : e.val = .ph ∨ parses k e.val = true) (hf : failAt m 0 = false) :
    getCache s n k m = (s, (if e.val = .ph then .placeholder else .hit e.val), [⟨.get, n, [k], false⟩]) := by
  unfold getCache
  simp only [hf, he]
  by_cases hv : e.val = .ph
  · simp [hv]
  · rcases hl with h | h
    · exact absurd h hv
    · simp [hv, h]

theorem setex_wrote (s : St) (k : Slot) (v : CVal) (t : Nat) (o : Origin) (f : Bool) (h : W k ⟨v, t * 1000, o⟩) :
    Wrote W s (setex s k v t o f) := by
  unfold setex
  split
  · exact ⟨SameDb.refl s, rfl, rfl, fun _ => Or.inl rfl⟩
  · exact wrote_upd s k _ (by rintro _ ⟨⟩; exact h)

theorem setex_sameDb (s : St) (k v t o f) : SameDb s (setex s k v t o f) :=
  (setex_wrote (W := fun _ _ => True) s k v t o f trivial).db

/-- `SET key "*" NX EX ttl` on a free slot writes the marker with the given TTL (unless the command fails). -/
theorem setnx_free {s : St} {k : Slot} (he : s.cache k = none) (t : Nat) :
    (setnx s k t false).cache k = some ⟨.ph, t * 1000, .loaded⟩ := by
  unfold setnx
  simp [he, upd]

/-- the marker only ever goes into a free slot. -/
theorem setnx_wrote (s : St) (k : Slot) (t : Nat) (f : Bool) (h : s.cache k = none → W k ⟨.ph, t * 1000, .loaded⟩) :
    Wrote W s (setnx s k t f) := by
  unfold setnx
  split
  · exact ⟨SameDb.refl s, rfl, rfl, fun _ => Or.inl rfl⟩
  · split
    · exact ⟨SameDb.refl s, rfl, rfl, fun _ => Or.inl rfl⟩
    · rename_i hfree
      exact wrote_upd s k _ (by rintro _ ⟨⟩; exact h hfree)

theorem setnx_sameDb (s : St) (k t f) : SameDb s (setnx s k t f) :=
  (setnx_wrote (W := fun _ _ => True) s k t f fun _ => trivial).db

theorem dbView_p_of_row {s : St} {pk : Nat} {r : CVal} (h : dbRow s pk = some r) : dbView s (.p pk) = r := by
  simp [dbView, h]

theorem dbView_p_of_none {s : St} {pk : Nat} (h : dbRow s pk = none) : dbView s (.p pk) = .ph := by
  simp [dbView, h]

theorem dbView_x_of_none {s : St} {a : Nat} (h : dbIndex s a = none) : dbView s (.x a) = .ph := by
  simp [dbView, h]

theorem dbView_x_of_some {s : St} {a : Nat} {r : Nat × CVal} (h : dbIndex s a = some r) :
    dbView s (.x a) = .pk r.1 := by
  simp [dbView, h]

theorem dbIndex_row {s : St} {a : Nat} {r : Nat × CVal} (h : dbIndex s a = some r) : dbRow s r.1 = some r.2 := by
  unfold dbIndex at h
  unfold dbRow
  split at h
  · rename_i pk hp
    split at h
    · rename_i va hv
      cases h
      simp [hv]
    · cases h
  · cases h

theorem dbRow_ne_ph {s : St} {pk : Nat} {r : CVal} (h : dbRow s pk = some r) : r ≠ .ph := by
  unfold dbRow at h
  split at h <;> cases h
  simp

/-- what a Take may write: only under its own key, a `loaded` entry — the marker with the jittered not-found expiry
when the row is absent and the slot is free after the GET, the row with the jittered expiry when it is there. -/
def TakeWrites (c : Cfg) (s : St) (pk j : Nat) (m : List Bool) (k : Slot) (e : Entry) : Prop :=
  k = c.slot (.p pk) ∧
    ((dbRow s pk = none ∧ (getCache s (c.place (.p pk)) (.p pk) m).1.cache k = none ∧ e = ⟨.ph, ttlSec c.nf j * 1000, .loaded⟩)
    ∨ ∃ r, dbRow s pk = some r ∧ e = ⟨r, ttlSec c.exp j * 1000, .loaded⟩)

theorem takeP_wrote (c : Cfg) (s : St) (pk j : Nat) (m : List Bool) (dbf : Bool) :
    Wrote (TakeWrites c s pk j m) s (takeP c s pk j m dbf).1 := by
  have hg : Wrote (TakeWrites c s pk j m) s (getCache s (c.place (.p pk)) (.p pk) m).1 := getCache_wrote ..
  unfold takeP
  simp only []
  split
  · exact hg
  · exact hg
  · exact hg
  · split
    · exact hg
    · split
      · rename_i hr; exact hg.trans (setnx_wrote _ _ _ _ fun hfree => ⟨rfl, .inl ⟨hr, hfree, rfl⟩⟩)
      · rename_i r hr; exact hg.trans (setex_wrote _ _ _ _ _ _ ⟨rfl, .inr ⟨r, hr, rfl⟩⟩)

/-- an entry written by a load through an instance with configuration `c` and jitter draw `j`: on its key's node,
`loaded`, holding the database's view of the key, with one of the three TTLs of the load paths (not-found expiry,
expiry, expiry + 5 s for the primary entry of the index path). -/
structure LoadWrites (c : Cfg) (j : Nat) (s : St) (k : Slot) (e : Entry) : Prop where
  node   : k.1 = c.place k.2
  origin : e.origin = .loaded
  val    : e.val = dbView s k.2
  ttl    : e.ttl = ttlSec c.nf j * 1000 ∨ e.ttl = ttlSec c.exp j * 1000 ∨ e.ttl = (ttlSec c.exp j + safeGapSec) * 1000

theorem LoadWrites.of_sameDb {c : Cfg} {j : Nat} {s s' : St} (h : SameDb s s') {k : Slot} {e : Entry}
    (hw : LoadWrites c j s' k e) : LoadWrites c j s k e :=
  ⟨hw.node, hw.origin, dbView_of_sameDb h k.2 ▸ hw.val, hw.ttl⟩

theorem TakeWrites.load {c : Cfg} {s : St} {pk j : Nat} {m : List Bool} {k : Slot} {e : Entry}
    (h : TakeWrites c s pk j m k e) : LoadWrites c j s k e := by
  obtain ⟨rfl, ⟨hr, _, rfl⟩ | ⟨r, hr, rfl⟩⟩ := h
  · exact ⟨rfl, rfl, (dbView_p_of_none hr).symm, .inl rfl⟩
  · exact ⟨rfl, rfl, (dbView_p_of_row hr).symm, .inr (.inl rfl)⟩

theorem takeP_loads (c : Cfg) (s : St) (pk j : Nat) (m : List Bool) (dbf : Bool) :
    Wrote (LoadWrites c j s) s (takeP c s pk j m dbf).1 :=
  (takeP_wrote c s pk j m dbf).mono fun _ _ => TakeWrites.load

/-- what QueryRowIndex may write: the marker under the index key when the index knows nothing and the slot is free
after the GET; for a found row the primary entry (on ITS node, expiry + 5 s) and the index entry; or what the second
Take writes when the index entry was served. -/
def QindexWrites (c : Cfg) (s : St) (a j : Nat) (m : List Bool) (k : Slot) (e : Entry) : Prop :=
  (k = c.slot (.x a) ∧ dbIndex s a = none ∧ (getCache s (c.place (.x a)) (.x a) m).1.cache k = none
      ∧ e = ⟨.ph, ttlSec c.nf j * 1000, .loaded⟩)
  ∨ (∃ r, dbIndex s a = some r ∧
      ((k = c.slot (.p r.1) ∧ e = ⟨r.2, (ttlSec c.exp j + safeGapSec) * 1000, .loaded⟩)
       ∨ (k = c.slot (.x a) ∧ e = ⟨.pk r.1, ttlSec c.exp j * 1000, .loaded⟩)))
  ∨ ∃ n m', TakeWrites c (getCache s (c.place (.x a)) (.x a) m).1 n j m' k e

theorem qindex_wrote (c : Cfg) (s : St) (a j : Nat) (m : List Bool) (dbf : Bool) :
    Wrote (QindexWrites c s a j m) s (qindex c s a j m dbf).1 := by
  have hg : Wrote (QindexWrites c s a j m) s (getCache s (c.place (.x a)) (.x a) m).1 := getCache_wrote ..
  unfold qindex
  simp only []
  split
  · exact hg
  · exact hg
  · exact hg.trans ((takeP_wrote c _ _ j _ dbf).mono fun _ _ h => .inr (.inr ⟨_, _, h⟩))
  · exact hg
  · split
    · exact hg
    · split
      · rename_i hr; exact hg.trans (setnx_wrote _ _ _ _ fun hfree => .inl ⟨rfl, hr, hfree, rfl⟩)
      · rename_i r hr
        split
        · exact hg
        · exact (hg.trans (setex_wrote _ _ _ _ _ _ (.inr (.inl ⟨r, hr, .inl ⟨rfl, rfl⟩⟩)))).trans
            (setex_wrote _ _ _ _ _ _ (.inr (.inl ⟨r, hr, .inr ⟨rfl, rfl⟩⟩)))

theorem qindex_loads (c : Cfg) (s : St) (a j : Nat) (m : List Bool) (dbf : Bool) :
    Wrote (LoadWrites c j s) s (qindex c s a j m dbf).1 := by
  refine (qindex_wrote c s a j m dbf).mono ?_
  rintro k e (⟨rfl, hr, _, rfl⟩ | ⟨r, hr, ⟨rfl, rfl⟩ | ⟨rfl, rfl⟩⟩ | ⟨n, m', h⟩)
  · exact ⟨rfl, rfl, (dbView_x_of_none hr).symm, .inl rfl⟩
  · exact ⟨rfl, rfl, (dbView_p_of_row (dbIndex_row hr)).symm, .inr (.inr rfl)⟩
  · exact ⟨rfl, rfl, (dbView_x_of_some hr).symm, .inr (.inl rfl)⟩
  · exact h.load.of_sameDb (getCache_sameDb ..)

theorem getOp_wrote (c : Cfg) (s : St) (k : CKey) (m : List Bool) : Wrote W s (getOp c s k m).1 := by
  have hg : Wrote W s (getCache s (c.place k) k m).1 := getCache_wrote ..
  unfold getOp
  simp only []
  split <;> exact hg

/-- what the explicit set, and a write into Redis behind the cache's back, leave: an `explicit` entry in the key's
slot. -/
def ExplicitWrites (c : Cfg) (k : CKey) (k' : Slot) (e : Entry) : Prop := k' = c.slot k ∧ e.origin = .explicit

theorem setOp_wrote (c : Cfg) (s : St) (k : CKey) (v : CVal) (e : Option Int) (j : Nat) (m : List Bool) :
    Wrote (ExplicitWrites c k) s (setOp c s k v e j m).1 :=
  setex_wrote _ _ _ _ _ _ ⟨rfl, rfl⟩

theorem raw_wrote (c : Cfg) (s : St) (k : CKey) (v : CVal) (t : Nat) :
    Wrote (ExplicitWrites c k) s (step c s (.raw k v t)).1 :=
  wrote_upd _ _ _ (by intro e he; split at he <;> cases he; exact ⟨rfl, rfl⟩)

/-- same database, entries only removed, tasks only appended, nothing given up. -/
structure DelStep (s s' : St) : Prop where
  db : SameDb s s'
  shr : Shrinks s s'
  tasks : ∃ l, s'.tasks = s.tasks ++ l
  gave : s'.gaveUp = s.gaveUp

theorem DelStep.refl (s : St) : DelStep s s := ⟨SameDb.refl s, Shrinks.refl s, ⟨[], by simp⟩, rfl⟩

theorem DelStep.trans {a b c : St} (h1 : DelStep a b) (h2 : DelStep b c) : DelStep a c := by
  obtain ⟨l1, e1⟩ := h1.tasks
  obtain ⟨l2, e2⟩ := h2.tasks
  exact ⟨h1.db.trans h2.db, h1.shr.trans h2.shr, ⟨l1 ++ l2, by rw [e2, e1, List.append_assoc]⟩, h2.gave.trans h1.gave⟩

theorem delOne_step (s : St) (n : Nat) (ks : List CKey) (f : Bool) : DelStep s (delOne s n ks f) := by
  unfold delOne
  split
  · exact ⟨⟨rfl, rfl⟩, Shrinks.refl _, ⟨_, rfl⟩, rfl⟩
  · exact ⟨⟨rfl, rfl⟩, delKeys_shrinks s _ _ _, ⟨[], by simp⟩, rfl⟩

theorem delLoop_step (n : Nat) (ks : List CKey) : ∀ (s : St) (m : List Bool), DelStep s (delLoop s n ks m).1 := by
  induction ks with
  | nil => intro s m; exact DelStep.refl s
  | cons k ks ih =>
    intro s m
    simp only [delLoop]
    exact (delOne_step s n [k] _).trans (ih _ _)

theorem nodeDel_step (cl : Bool) (s : St) (n : Nat) (ks : List CKey) (m : List Bool) :
    DelStep s (nodeDel cl s n ks m).1 := by
  unfold nodeDel
  split
  · exact DelStep.refl s
  · split
    · exact delLoop_step n ks s m
    · exact delOne_step s n ks _

theorem clusterDel_step (c : Cfg) (ks : List CKey) (masks : List (List Bool)) (ns : List Nat) :
    ∀ s : St, DelStep s (clusterDel c ks masks ns s).1 := by
  induction ns with
  | nil => intro s; exact DelStep.refl s
  | cons n ns ih =>
    intro s
    simp only [clusterDel]
    exact (nodeDel_step _ s n _ _).trans (ih _)

theorem delOp_step (c : Cfg) (s : St) (ks : List CKey) (m : List (List Bool)) : DelStep s (delOp c s ks m).1 :=
  clusterDel_step c ks m _ s

/-- the DEL of a task that is due on a node that is up covers every key of the task. -/
theorem mem_dueSlots {dn : Nat → Bool} {ts : List Task} {t : Task} (ht : t ∈ ts) (hd : t.rem ≤ 1)
    (hu : dn t.node = false) {k : CKey} (hk : k ∈ t.keys) : (t.node, k) ∈ dueSlots dn ts := by
  unfold dueSlots
  simp only [List.mem_flatMap, List.mem_filter, decide_eq_true_eq]
  exact ⟨t, ⟨ht, hd, hu⟩, List.mem_map.mpr ⟨k, hk, rfl⟩⟩

theorem tick_shrinks (s : St) (down : List Bool) : Shrinks s (tick s down).1 := delKeys_shrinks s _ _ _

/-- ageing keeps what an entry holds and where it came from; a TTL stays a TTL. -/
theorem expire_entry {c : Slot → Option Entry} {ms : Nat} {k : Slot} {e' : Entry} (hk : expire c ms k = some e') :
    ∃ e, c k = some e ∧ e'.val = e.val ∧ e'.origin = e.origin ∧ (0 < e.ttl → 0 < e'.ttl) := by
  simp only [expire] at hk
  split at hk
  · rename_i e he
    refine ⟨e, he, ?_⟩
    split at hk
    · cases hk; exact ⟨rfl, rfl, id⟩
    · split at hk
      · cases hk
      · cases hk; exact ⟨rfl, rfl, fun _ => by simp; omega⟩
  · cases hk

/-- the ghost bookkeeping of a database write touches origins only: a `loaded` entry whose key's view changed becomes
`stale` (named by the Exec, on the key's node) or `unkeyed`. -/
theorem markChanged_spec {c : Cfg} {s s1 : St} {ks : List CKey} {k : Slot} {e : Entry}
    (hk : markChanged c s s1 ks k = some e) :
    ∃ e0, s.cache k = some e0 ∧ e.val = e0.val ∧ e.ttl = e0.ttl ∧
      ((e.origin = e0.origin ∧ (e0.origin = .loaded → dbView s1 k.2 = dbView s k.2)) ∨
       (e0.origin = .loaded ∧ dbView s1 k.2 ≠ dbView s k.2
        ∧ e.origin = (if k.2 ∈ ks ∧ c.place k.2 = k.1 then .stale else .unkeyed))) := by
  simp only [markChanged] at hk
  cases he0 : s.cache k with
  | none => simp [he0] at hk
  | some e0 =>
    simp only [he0] at hk
    refine ⟨e0, rfl, ?_⟩
    by_cases hv : dbView s1 k.2 = dbView s k.2
    · simp [hv] at hk; subst hk; exact ⟨rfl, rfl, Or.inl ⟨rfl, fun _ => hv⟩⟩
    · by_cases hl : e0.origin = .loaded
      · simp [hv, hl] at hk; subst hk; exact ⟨rfl, rfl, Or.inr ⟨hl, hv, rfl⟩⟩
      · simp [hv, hl] at hk; subst hk; exact ⟨rfl, rfl, Or.inl ⟨rfl, fun h => absurd h hl⟩⟩

/-- Exec as the entries see it: the entries left are old ones, value and TTL untouched; only the origin may have gone
from `loaded` to `stale` / `unkeyed`, and only for a key whose database view the write changed. -/
theorem execOp_entry {c : Cfg} {s : St} {ks : List CKey} {w : Write} {m : List (List Bool)} {dbf : Bool} {k : Slot}
    {e : Entry} (hk : (execOp c s ks w m dbf).1.cache k = some e) :
    ∃ e0, s.cache k = some e0 ∧ e.val = e0.val ∧ e.ttl = e0.ttl ∧
      (e.origin = e0.origin ∨
       (e0.origin = .loaded ∧ dbView (applyWrite s w) k.2 ≠ dbView s k.2
        ∧ e.origin = (if k.2 ∈ ks ∧ c.place k.2 = k.1 then .stale else .unkeyed))) := by
  unfold execOp at hk
  split at hk
  · exact ⟨e, hk, rfl, rfl, Or.inl rfl⟩
  · obtain ⟨e0, he0, hv, ht, h⟩ := markChanged_spec ((delOp_step c _ ks m).shr.entry hk)
    exact ⟨e0, he0, hv, ht, h.imp_left And.left⟩

theorem applyWrite_tasks (s : St) (w : Write) : (applyWrite s w).tasks = s.tasks ∧ (applyWrite s w).gaveUp = s.gaveUp := by
  cases w <;> exact ⟨rfl, rfl⟩

end GoZero.C06
