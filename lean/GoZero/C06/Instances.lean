/-
C06 — SEVERAL instances (sqlc.CachedConn / monc.Model) over the same cache servers (core Lean only).

  core/stores/sqlc/cachedsql.go    `singleFlights = syncx.NewSingleFlight()` (package level, assigned once),
                                   NewConn → cache.New(c, singleFlights, …), NewNodeConn → cache.NewNode(rds, singleFlights, …),
                                   NewConnWithCache(db, c) keeps the cache — and hence the barrier — the caller built
  core/stores/monc/cachedmodel.go  `singleFlight = syncx.NewSingleFlight()`, NewModel / NewNodeModel / NewModelWithCache alike
  core/stores/cache/cache.go       New hands ITS `barrier` argument to every NewNode of the cluster
  core/stores/cache/cachenode.go   NewNode stores it (`barrier: barrier`), doTake runs the load inside `c.barrier.DoEx(key, …)`

A barrier is one `flightGroup` (its own lock and `calls` map): barriers are independent objects, so the
model of a set of barriers is the PRODUCT of one `Flight.Cfg` per barrier; a reader goroutine `t` reads through
the instance `inst t` and therefore only ever steps in the component `barrierOf (inst t)`.
-/
import GoZero.C06.Flight
namespace GoZero.C06.Multi

/-- the barrier objects that exist: the package-level one of sqlc, the package-level one of monc, and those a
caller created himself (numbered) and handed to `cache.New` / `cache.NewNode`. -/
inductive Barrier where
  | sqlcPkg
  | moncPkg
  | custom (k : Nat)
  deriving DecidableEq, Repr

/-- how an instance came to be. -/
inductive Ctor where
  | newConn                      -- sqlc.NewConn
  | newNodeConn                  -- sqlc.NewNodeConn
  | newConnWithCache (k : Nat)   -- sqlc.NewConnWithCache over a cache built with the caller's barrier k
  | newModel                     -- monc.NewModel / MustNewModel
  | newNodeModel                 -- monc.NewNodeModel / MustNewNodeModel
  | newModelWithCache (k : Nat)  -- monc.NewModelWithCache over a cache built with the caller's barrier k
  deriving DecidableEq, Repr

/-- the barrier the loads of an instance run under (tied: `Tie.tie_ctorBarriers`, `tie_barrierVars`,
`tie_newFacts`, `tie_newNodeFacts`, `tie_withCacheKeepsCache`). -/
def barrierOf : Ctor → Barrier
  | .newConn | .newNodeConn => .sqlcPkg
  | .newModel | .newNodeModel => .moncPkg
  | .newConnWithCache k | .newModelWithCache k => .custom k

/-- built by one of the constructors that promise the package-wide barrier. -/
def Ctor.sharedSqlc : Ctor → Bool
  | .newConn | .newNodeConn => true
  | _ => false

def Ctor.sharedMonc : Ctor → Bool
  | .newModel | .newNodeModel => true
  | _ => false

theorem barrierOf_of_sharedSqlc {c : Ctor} (h : c.sharedSqlc = true) : barrierOf c = .sqlcPkg := by
  cases c <;> first | rfl | cases h

theorem barrierOf_of_sharedMonc {c : Ctor} (h : c.sharedMonc = true) : barrierOf c = .moncPkg := by
  cases c <;> first | rfl | cases h

/-! ### the caller's options on their way to the nodes

An instance is built by a chain of constructor calls; every hop receives `opts ...Option` and has to hand it on
(`f(…, opts...)`) for the nodes to be configured with it (NewNode → newOptions(opts...)).  `table` is what the
extractor reads at every hop (`Extracted.C06.optsForwarding`: per function the class of the options argument of
each call of the next constructor). -/

/-- the hops between the public constructor and `newOptions`. -/
def hops : Ctor → List String
  | .newConn => ["sqlc.NewConn", "cache.New", "cache.NewNode"]
  | .newNodeConn => ["sqlc.NewNodeConn", "cache.NewNode"]
  | .newConnWithCache _ => ["cache.New", "cache.NewNode"]          -- the caller built the cache with cache.New
  | .newModel => ["monc.NewModel", "cache.New", "cache.NewNode"]
  | .newNodeModel => ["monc.NewNodeModel", "cache.NewNode"]
  | .newModelWithCache _ => ["cache.New", "cache.NewNode"]

/-- a hop forwards iff EVERY call of the next constructor in it passes the function's own `opts` parameter, spread
(the flattened classification `param:opts...`; a call without the argument is classified `absent`). -/
def hopForwards (table : List (String × List String)) (hop : String) : Bool :=
  match table.find? (·.1 = hop) with
  | some (_, cls) => cls ≠ [] && cls.length % 2 = 0 &&
      (List.range (cls.length / 2)).all fun i => cls[2 * i]? = some "param" && cls[2 * i + 1]? = some "opts..."
  | none => false

/-- the options the nodes of an instance are configured with: the caller's, unless a hop drops them (then the
node runs `newOptions()` = `dflt`). -/
def optsAtNode {O : Type} (dflt : O) (table : List (String × List String)) (c : Ctor) (o : O) : O :=
  if (hops c).all (hopForwards table) then o else dflt

variable {α : Type}

abbrev MCfg (α : Type) := Barrier → Flight.Cfg α

def MCfg.init : MCfg α := fun _ => Flight.Cfg.init

def updB (s : MCfg α) (b : Barrier) (c : Flight.Cfg α) : MCfg α := fun b' => if b' = b then c else s b'

/-- goroutine `t` (reading the ONE key under consideration through instance `inst t`) takes its next step:
a step of the flight group of its instance's barrier; `q b g` = what the database answers to the query of
call `g` of barrier `b`. -/
def mstep (inst : Nat → Ctor) (q : Barrier → Nat → α) (s : MCfg α) (t : Nat) : Option (MCfg α) :=
  match Flight.step (q (barrierOf (inst t))) (s (barrierOf (inst t))) t with
  | some c => some (updB s (barrierOf (inst t)) c)
  | none => none

inductive MReach (inst : Nat → Ctor) (q : Barrier → Nat → α) : MCfg α → Prop
  | init : MReach inst q MCfg.init
  | step {s s' : MCfg α} (t : Nat) : MReach inst q s → mstep inst q s t = some s' → MReach inst q s'

theorem mstep_of_step (inst : Nat → Ctor) (q : Barrier → Nat → α) (s : MCfg α) (t : Nat) (c : Flight.Cfg α)
    (h : Flight.step (q (barrierOf (inst t))) (s (barrierOf (inst t))) t = some c) :
    mstep inst q s t = some (updB s (barrierOf (inst t)) c) := by
  unfold mstep; rw [h]

theorem component_reachable {inst : Nat → Ctor} {q : Barrier → Nat → α} {s : MCfg α} (h : MReach inst q s)
    (b : Barrier) : Flight.Reachable (q b) (s b) := by
  induction h with
  | init => exact .init
  | step t _ hs ih =>
    unfold mstep at hs
    split at hs
    · rename_i c hc
      cases hs
      unfold updB
      by_cases hb : b = barrierOf (inst t)
      · subst hb; simp only [if_true]; exact .step t ih hc
      · simp only [hb, if_false]; exact ih
    · cases hs

/-- a goroutine never moves in a flight group other than the one of its instance's barrier. -/
theorem idle_elsewhere {inst : Nat → Ctor} {q : Barrier → Nat → α} {s : MCfg α} (h : MReach inst q s)
    (t : Nat) (b : Barrier) (hb : b ≠ barrierOf (inst t)) : (s b).pc t = 0 := by
  induction h with
  | init => rfl
  | step u _ hs ih =>
    unfold mstep at hs
    split at hs
    · rename_i c hc
      cases hs
      unfold updB
      by_cases hbu : b = barrierOf (inst u)
      · subst hbu
        simp only [if_true]
        rw [(Flight.step_frame hc fun e => hb (by rw [e])).1]
        exact ih
      · simp only [hbu, if_false]; exact ih
    · cases hs

/-- where goroutine `t` stands: its pc in the flight group of its own barrier. -/
def pcOf (inst : Nat → Ctor) (s : MCfg α) (t : Nat) : Nat := (s (barrierOf (inst t))).pc t

/-- applied twice, it is the witness `two_barriers_two_queries_in_flight`. -/
theorem reach_query {inst : Nat → Ctor} {q : Barrier → Nat → α} {s : MCfg α} (h : MReach inst q s) (t : Nat)
    (hi : s (barrierOf (inst t)) = Flight.Cfg.init) :
    ∃ s', MReach inst q s' ∧ pcOf inst s' t = 2 ∧ ∀ b, b ≠ barrierOf (inst t) → s' b = s b := by
  obtain ⟨c1, hc1, p1⟩ := Flight.step_lead (q (barrierOf (inst t))) (s (barrierOf (inst t))) t (by rw [hi]; rfl) (by rw [hi]; rfl)
  have r1 := MReach.step t h (mstep_of_step inst q s t c1 hc1)
  obtain ⟨c2, hc2, p2⟩ := Flight.step_query (q (barrierOf (inst t))) (updB s (barrierOf (inst t)) c1 (barrierOf (inst t))) t
    (by simp [updB, p1])
  have r2 := MReach.step t r1 (mstep_of_step inst q _ t c2 hc2)
  exact ⟨_, r2, by simp [pcOf, updB, p2], fun b hb => by simp [updB, hb]⟩

/-- what `t`'s read returned. -/
def gotOf (inst : Nat → Ctor) (s : MCfg α) (t : Nat) : Option α := (s (barrierOf (inst t))).got t

/-- the goroutines among `ts` that are inside their database query. -/
def querying (inst : Nat → Ctor) (s : MCfg α) (ts : List Nat) : List Nat := ts.filter fun t => pcOf inst s t = 2

end GoZero.C06.Multi
