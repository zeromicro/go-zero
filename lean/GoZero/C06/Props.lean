/-
C06 — property theorems (statements, short proofs from the lemmas on the store, Store.lean … Histories.lean, non-vacuity examples).

Model: GoZero/C06/Model.lean (cacheCluster dispatch + cacheNode + cleaner + CachedConn over SEVERAL Redis stores
— one per cache node, a slot is (node, key) — with ms TTLs and an abstract database; per-command cache faults
`m : List Bool` (reads / sets: in issue order; DelCtx: one mask per node), per-operation database fault `dbf`,
jitter draw `j/1000`).
All theorems quantify over *every* history `ops : List Op` (reads, Exec writes, deletes, explicit sets, raw
writes, clock advances, cleaner ticks with any set of nodes down, with every placement of faults) and every
configuration `c`: expiries, node-type or cluster-type Redis, and EVERY dispatch function `c.place : CKey → Nat`
(any number of nodes, any assignment of keys to nodes; one node = a constant function).
-/
import GoZero.C06.Histories
import GoZero.C06.Refine
namespace GoZero.C06

/-- **Invariant** (unconditional, all histories, all fault placements): an entry that was loaded from the
database and whose key's database view has not been changed since holds exactly what the database holds —
the row, the primary key, or the placeholder iff the row is absent. -/
theorem coherence_invariant (c : Cfg) (ops : List Op) : Coh (run c St.init ops) :=
  run_eq_runI c _ ops ▸ runI_coh _ _

/-- `Coh` spelled out for the multi-node store: on EVERY node `n`, a `loaded` entry of key `k` holds the
database's view of `k`. -/
theorem coherence_invariant_per_node (c : Cfg) (ops : List Op) (n : Nat) (k : CKey) (e : Entry)
    (he : (run c St.init ops).cache (n, k) = some e) (hl : e.origin = .loaded) :
    e.val = dbView (run c St.init ops) k :=
  coherence_invariant c ops (n, k) e he hl

/-- **dispatch invariant** (all histories): an entry of key `k` is only ever found on node `c.place k` — the
cluster never leaves a copy of a key on a node it will not invalidate. -/
theorem entries_on_their_node (c : Cfg) (ops : List Op) : Placed c (run c St.init ops) :=
  run_eq_runI c _ ops ▸ runI_placed (cs := fun _ => c) (fun _ => rfl) _

/-
FULL STATEMENT of the property's first clause (NOT provable — refuted by `stale_read_while_delete_pending`):

  theorem coherent_reads (c : Cfg) (ops : List Op) (hp : Proviso c St.init ops) (pk j : Nat) (m : List Bool)
      (hf : failAt m 0 = false) :
      (takeP c (run c St.init ops) pk j m false).2.res = Spec.expected (run c St.init ops) (.p pk)

What is missing: when the DEL issued by `ExecCtx` fails (cache outage placed on that command), `DelCtx` only
arms a retry in the cleaner (1 s, then 5 s, 1 min, 5 min, 1 h) and returns nil; until a retry succeeds — or
for the rest of the entry's TTL if all five retries fail — the old entry is served.  The `_partial` theorems
carve out that case (the index version more generously: any stale entry in the store).
-/

/-- **coherent_reads_partial** (Take / QueryRow).  In every history that respects the property's proviso
(every Exec names the keys whose database view it changes; no explicit set, nothing written into Redis
directly), a read whose GET and database call do not fail returns exactly what the database holds — the row
or not-found — *unless* the entry it finds survived a failed DEL of an Exec, in which case a retry of a DEL of that
key on that node is still pending in the cleaner, or the cleaner has given up on some task (`gaveUp` counts
all of them; it is not recorded which). -/
theorem coherent_reads_partial (c : Cfg) (ops : List Op) (hp : Proviso c St.init ops)
    (pk j : Nat) (m : List Bool) (hf : failAt m 0 = false) :
    (takeP c (run c St.init ops) pk j m false).2.res = Spec.expected (run c St.init ops) (.p pk)
    ∨ ∃ e, (run c St.init ops).cache (c.slot (.p pk)) = some e ∧ e.origin = .stale
           ∧ (Pending (run c St.init ops) (c.slot (.p pk)) ∨ 0 < (run c St.init ops).gaveUp) := by
  rw [run_eq_runI]
  exact takeP_coherent_or_stale c (runI_coh _ _) (runI_prov _ _)
    (runI_noBehind (cs := fun _ => c) (fun _ => rfl) _ _ (entries_init _) (entries_init _) ((proviso_iff c _ ops).mp hp))
    pk j m hf

/-- **coherent_reads_partial, index path** (QueryRowIndex): the read returns what the database holds unless SOME
entry of the store (not only the two this read consults) survived a failed DEL of an Exec. -/
theorem coherent_index_reads_partial (c : Cfg) (ops : List Op) (hp : Proviso c St.init ops)
    (a j : Nat) (m : List Bool) (hm : ∀ i, failAt m i = false) :
    (qindex c (run c St.init ops) a j m false).2.res = Spec.expected (run c St.init ops) (.x a)
    ∨ ∃ k e, (run c St.init ops).cache k = some e ∧ e.origin = .stale
             ∧ (Pending (run c St.init ops) k ∨ 0 < (run c St.init ops).gaveUp) := by
  rw [run_eq_runI]
  exact qindex_coherent_or_stale c (runI_coh _ _) (runI_prov _ _)
    (runI_noBehind (cs := fun _ => c) (fun _ => rfl) _ _ (entries_init _) (entries_init _) ((proviso_iff c _ ops).mp hp))
    a j m hm

/-- Without the carve-out the clause is false (witness, replayed on the real code by the harness' first
section): row 1 is cached, `Exec` updates it while the DEL fails, the next read still returns the old row. -/
theorem stale_read_while_delete_pending :
    let c : Cfg := { exp := 20000, nf := 3000 }
    let ops : List Op := [.exec [.p 1, .x 1] (.put 1 10 1) [] false, .take 1 500 [] false,
                          .exec [.p 1, .x 1] (.put 1 11 1) [[true]] false]
    Proviso c St.init ops
    ∧ (takeP c (run c St.init ops) 1 500 [] false).2.res = .val (.row 1 10 1)
    ∧ Spec.expected (run c St.init ops) (.p 1) = .val (.row 1 11 1) := by
  refine ⟨⟨?_, trivial, ?_, trivial⟩, by decide, by decide⟩
  · exact wellKeyed_put fun b _ => by simp [St.init]
  · exact wellKeyed_put fun b hb => by
      show (if b = 1 then some 1 else none) ≠ some 1
      simp [hb]

/-- every stale entry is accounted for: a retry covering it is pending, or the cleaner has given up on some task
(all histories). -/
theorem stale_entries_have_pending_retry (c : Cfg) (ops : List Op) : Prov (run c St.init ops) :=
  run_eq_runI c _ ops ▸ runI_prov _ _

/-- the retry schedule: 1 s, 5 s, 1 min, 5 min, 1 h, then the cleaner gives up. -/
theorem nextDelay_chain : nextDelay 1 = some 5 ∧ nextDelay 5 = some 60 ∧ nextDelay 60 = some 300
    ∧ nextDelay 300 = some 3600 ∧ nextDelay 3600 = none := by decide

/-- a cached row or not-found marker is served without touching the database (and without touching the
cache), in any state. -/
theorem served_from_cache (c : Cfg) (s : St) (pk j : Nat) (e : Entry) (m : List Bool) (dbf : Bool)
    (he : s.cache (c.slot (.p pk)) = some e) (hl : e.val = .ph ∨ parses (.p pk) e.val = true) (hf : failAt m 0 = false) :
    (takeP c s pk j m dbf).2.q = 0 ∧ (takeP c s pk j m dbf).1 = s
    ∧ (takeP c s pk j m dbf).2.res = (if e.val = .ph then .notfound else .val e.val) := by
  rw [takeP_served c j dbf he hl hf]; exact ⟨rfl, rfl, rfl⟩

/-- index path: cached not-found marker. -/
theorem served_from_cache_index_placeholder (c : Cfg) (s : St) (a j : Nat) (e : Entry) (m : List Bool) (dbf : Bool)
    (he : s.cache (c.slot (.x a)) = some e) (hv : e.val = .ph) (hf : failAt m 0 = false) :
    (qindex c s a j m dbf).2.q = 0 ∧ (qindex c s a j m dbf).1 = s ∧ (qindex c s a j m dbf).2.res = .notfound := by
  unfold qindex
  rw [getCache_live he (Or.inl hv) hf]
  simp [hv]

/-- index path: cached index entry and cached primary entry. -/
theorem served_from_cache_index (c : Cfg) (s : St) (a n j : Nat) (e e' : Entry) (m : List Bool) (dbf : Bool)
    (he : s.cache (c.slot (.x a)) = some e) (hv : e.val = .pk n)
    (he' : s.cache (c.slot (.p n)) = some e') (hl : e'.val = .ph ∨ parses (.p n) e'.val = true)
    (hf : failAt m 0 = false) (hf' : failAt m 1 = false) :
    (qindex c s a j m dbf).2.q = 0 ∧ (qindex c s a j m dbf).1 = s
    ∧ (qindex c s a j m dbf).2.res = (if e'.val = .ph then .notfound else .val e'.val) := by
  have hp : parses (.x a) e.val = true := by simp [hv, parses]
  have hf2 : failAt (m.drop 1) 0 = false := by rw [failAt_drop]; exact hf'
  unfold qindex
  rw [getCache_live he (Or.inr hp) hf]
  simp only [hv]
  simp only [show (CVal.pk n = CVal.ph) = False from by simp, if_false, List.length_cons, List.length_nil]
  rw [takeP_served c j dbf he' hl hf2]
  exact ⟨rfl, rfl, rfl⟩

/-- database errors are returned and never cached: an operation that returns the database error made its one
database call, and its cache is the old cache with entries only removed (`Shrinks`; the GET may have dropped an
unparsable entry). -/
theorem db_errors_not_cached (c : Cfg) (s : St) (pk a j : Nat) (m : List Bool) (dbf : Bool) :
    ((takeP c s pk j m dbf).2.res = .dberr →
        dbf = true ∧ (takeP c s pk j m dbf).2.q = 1 ∧ Shrinks s (takeP c s pk j m dbf).1)
    ∧ ((qindex c s a j m dbf).2.res = .dberr →
        dbf = true ∧ (qindex c s a j m dbf).2.q = 1 ∧ Shrinks s (qindex c s a j m dbf).1) :=
  ⟨takeP_dberr c s pk j m dbf, qindex_dberr c s a j m dbf⟩

/-- a failing database call on a miss is what is returned (nothing else masks it). -/
theorem db_error_returned (c : Cfg) (s : St) (pk j : Nat) (m : List Bool)
    (hmiss : s.cache (c.slot (.p pk)) = none) (hf : failAt m 0 = false) :
    (takeP c s pk j m true).2.res = .dberr ∧ (takeP c s pk j m true).1 = s := by
  unfold Cfg.slot at hmiss
  unfold takeP getCache; simp [hf, hmiss]

/-- a failing cache store (other than a miss) is reported without querying the database, state untouched
(the one command issued is the GET on the key's node: a node that is down fails the reads of ITS keys only). -/
theorem cache_failure_fails_fast (c : Cfg) (s : St) (pk a j : Nat) (m : List Bool) (dbf : Bool)
    (h : failAt m 0 = true) :
    takeP c s pk j m dbf = (s, { res := .cacheerr, q := 0, cmds := [⟨.get, c.place (.p pk), [.p pk], true⟩] })
    ∧ qindex c s a j m dbf = (s, { res := .cacheerr, q := 0, cmds := [⟨.get, c.place (.x a), [.x a], true⟩] }) :=
  ⟨takeP_failfast c s pk j m dbf h, qindex_failfast c s a j m dbf h⟩

/-- the TTL written for a base expiry `e` (ms) and any jitter draw lies in `[⌈0.95e⌉, ⌈1.05e⌉]` seconds and
is at least one second: never a persistent key (go-redis sends a plain SET only for 0 seconds). -/
theorem ttl_finite_and_in_range (e j : Nat) (hj : j ≤ 1000) (he : 0 < e) :
    Spec.ttlLo e ≤ ttlSec e j ∧ ttlSec e j ≤ Spec.ttlHi e ∧ 1 ≤ ttlSec e j := by
  exact ttlSec_in_range e j hj he

/-- the configured expiries are positive after `newOptions` (defaults 7 days / 1 minute). -/
theorem configured_expiries_positive (o : Options) :
    0 < (Cfg.ofOptions o).exp ∧ 0 < (Cfg.ofOptions o).nf :=
  newOptionsMs_pos _ _

/-- the millisecond model is the exact nanosecond arithmetic restricted to whole milliseconds. -/
theorem ttlSecNs_whole_ms (ms j : Nat) : ttlSecNs (ms * 1000000) j = ttlSec ms j := by
  unfold ttlSecNs ttlSec
  rw [← Nat.mul_assoc]
  generalize (10500 - j) * ms = y
  omega

/-- for every expiry of at least 2 ns and every draw the bare rounding `int(math.Ceil(d.Seconds()))` gives at least
one second … -/
theorem ttlSecNs_pos (e j : Nat) (hj : j ≤ 1000) (he : 2 ≤ e) : 1 ≤ ttlSecNs e j := by
  have h : 9500 * 2 ≤ (10500 - j) * e := Nat.mul_le_mul (by omega) he
  unfold ttlSecNs
  generalize (10500 - j) * e = x at h
  omega

/-- … but **DEFECT (witness)**: with `WithExpiry(1)` / `WithNotFoundExpiry(1)` — one nanosecond — and a draw above
1/2 the jittered duration truncates to 0 ns, `int(math.Ceil(0))` is 0, and `SetexCtx(…, 0)` / `SetnxExCtx(…, 0)`
store the row / the not-found marker WITHOUT a TTL (`ttl = 0` is the model's persistent key).  `ttlSecNs` is the bare
rounding `int(math.Ceil(d.Seconds()))` of the code without fixes/C06-ttl-at-least-one-second.patch, on which this was
reproduced (fixes/C06-ttl-at-least-one-second_demo_test.go: about 1 in 4 rows, 1 in 2 markers); /repo rounds through
`ttlSeconds`, the model's `ttlSecondsFixed` (the next two theorems; which form the source has: `Tie.tie_ttlSecondsForms`). -/
theorem one_nanosecond_expiry_writes_a_persistent_key :
    (∀ j, 500 < j → j ≤ 1000 → ttlSecNs 1 j = 0)
    ∧ (setex St.init (0, .p 1) (.row 1 1 1) (ttlSecNs 1 1000) .explicit false).cache (0, .p 1)
        = some ⟨.row 1 1 1, 0, .explicit⟩
    ∧ (setnx St.init (0, .p 1) (ttlSecNs 1 1000) false).cache (0, .p 1) = some ⟨.ph, 0, .loaded⟩
    ∧ (expire (setnx St.init (0, .p 1) (ttlSecNs 1 1000) false).cache 1000000000000) (0, .p 1) = some ⟨.ph, 0, .loaded⟩ := by
  refine ⟨fun j h1 h2 => ?_, by decide, by decide, by decide⟩
  unfold ttlSecNs
  omega

/-- the rounding of `ttlSeconds` is at least one second for EVERY expiry and draw, 1 ns included … -/
theorem ttl_fixed_at_least_one_second (e j : Nat) : 1 ≤ ttlSecondsFixed e j := by
  unfold ttlSecondsFixed; split <;> omega

/-- … and changes nothing for any expiry of 2 ns or more: with `ttlSecNs_whole_ms`, on whole milliseconds `ms ≥ 1` the code's
`ttlSecondsFixed (ms * 10^6) j` is the `ttlSec ms j` the operations of the model write. -/
theorem ttl_fix_changes_nothing_above_1ns (e j : Nat) (hj : j ≤ 1000) (he : 2 ≤ e) :
    ttlSecondsFixed e j = ttlSecNs e j := by
  have := ttlSecNs_pos e j hj he
  unfold ttlSecondsFixed; split <;> omega

/-- `cacheNode` builds its `Unstable` with `expiryDeviation = 0.05 = 1/20` (`Tie.tie_deviation`, `tie_newNodeFacts`): the
general jitter `aroundNs` specialises to the factor `(10500 − j)/10000` the TTL model uses. -/
theorem aroundNs_cache (base j : Nat) (hj : j ≤ 1000) : aroundNs 1 20 base j = (10500 - j) * base / 10000 := by
  unfold aroundNs
  rw [show (20 + 1) * 1000 - 2 * 1 * j = 2 * (10500 - j) by omega, Nat.mul_assoc, show 20 * 1000 = 2 * 10000 by rfl,
    Nat.mul_div_mul_left _ _ (by decide)]

/-- the TTL model is built on it: seconds = ⌈AroundDuration(e) / 1 s⌉. -/
theorem ttlSecNs_is_ceil_of_around (e j : Nat) (hj : j ≤ 1000) :
    ttlSecNs e j = (aroundNs 1 20 e j + 999999999) / 1000000000 := by
  rw [aroundNs_cache e j hj]; rfl

/-- **AroundDuration stays within the deviation** — for EVERY deviation `p/qd ≤ 1` (`NewUnstable` clamps to [0, 1]:
`Tie.tie_newUnstableClamp`), every base duration (ns) and every draw `j/1000 ∈ [0, 1]`:
`⌊base·(1 − dev)⌋ ≤ AroundDuration(base) ≤ ⌊base·(1 + dev)⌋`. -/
theorem around_duration_within_deviation (p qd base j : Nat) (_hq : 0 < qd) (hp : p ≤ qd) (hj : j ≤ 1000) :
    base * (qd - p) / qd ≤ aroundNs p qd base j ∧ aroundNs p qd base j ≤ base * (qd + p) / qd := by
  have hpj : 2 * p * j ≤ 2 * p * 1000 := Nat.mul_le_mul_left _ hj
  have hlo : (qd - p) * 1000 ≤ (qd + p) * 1000 - 2 * p * j := by omega
  -- each bound is `x * 1000 * base / (qd * 1000)`, the shape of `aroundNs`, for its own `x`
  have key : ∀ x, base * x / qd = x * 1000 * base / (qd * 1000) := fun x => by
    rw [Nat.mul_right_comm, Nat.mul_comm x, Nat.mul_div_mul_right _ _ (by decide)]
  unfold aroundNs
  rw [key, key]
  exact ⟨Nat.div_le_div_right (Nat.mul_le_mul_right _ hlo),
    Nat.div_le_div_right (Nat.mul_le_mul_right _ (Nat.sub_le _ _))⟩

/-- **never 0 from one second up**: for a base of at least one second the jittered duration is at least 0.95 s, the
seconds handed to Redis are at least 1 for every draw, and the floor of `ttlSeconds` (fix 9858e85) is not even needed. -/
theorem around_never_zero_from_one_second (base j : Nat) (hj : j ≤ 1000) (hb : 1000000000 ≤ base) :
    950000000 ≤ aroundNs 1 20 base j ∧ 1 ≤ ttlSecNs base j ∧ ttlSecondsFixed base j = ttlSecNs base j := by
  refine ⟨?_, ttlSecNs_pos base j hj (by omega), ttl_fix_changes_nothing_above_1ns base j hj (by omega)⟩
  rw [aroundNs_cache base j hj]
  have h : 9500 * 1000000000 ≤ (10500 - j) * base := Nat.mul_le_mul (by omega) hb
  generalize (10500 - j) * base = x at h
  omega

/-- the bounds are attained and non-trivial: draw 0 gives +5 %, draw 1 gives −5 %, deviation 0 is the identity,
deviation 1 (the clamp's upper end) ranges over [0, 2·base]. -/
example : aroundNs 1 20 1000000000 0 = 1050000000 ∧ aroundNs 1 20 1000000000 1000 = 950000000
    ∧ aroundNs 0 1 12345 777 = 12345 ∧ aroundNs 1 1 1000 0 = 2000 ∧ aroundNs 1 1 1000 1000 = 0
    ∧ aroundNs 1 20 1 501 = 0 ∧ ttlSecondsFixed 1 501 = 1 := by decide

/-- `newOptions` spelled out: an option that is not given, zero or negative falls back to the default (7 days /
1 minute); a positive one is taken as it is.  (The function itself is tied to the translated source:
`Tie.tie_newOptionsTail`, `tie_newOptionsHead`.) -/
theorem newOptions_defaults (o : Options) :
    (newOptions o).1 = (match o.expiry with
                        | some e => if e ≤ 0 then 7 * 24 * 3600 * 1000 else e.toNat
                        | none => 7 * 24 * 3600 * 1000)
    ∧ (newOptions o).2 = (match o.notFound with
                          | some n => if n ≤ 0 then 60 * 1000 else n.toNat
                          | none => 60 * 1000) := by
  unfold newOptions newOptionsMs defaultExpiryMs defaultNotFoundExpiryMs
  cases o.expiry <;> cases o.notFound <;> simp

/-- **for every Options value** (option given or not; zero, negative, sub-second, huge) and every jitter draw,
the TTL written for a row (`Set`, the load path) and the TTL written for the not-found marker are both within
the property's ±5 % of the effective expiry, rounded up to seconds, and at least one second — never the `0`
that go-redis turns into a persistent key. -/
theorem ttl_finite_for_every_options (o : Options) (j : Nat) (hj : j ≤ 1000) :
    (Spec.ttlLo (Cfg.ofOptions o).exp ≤ ttlSec (Cfg.ofOptions o).exp j ∧ ttlSec (Cfg.ofOptions o).exp j ≤ Spec.ttlHi (Cfg.ofOptions o).exp
      ∧ 1 ≤ ttlSec (Cfg.ofOptions o).exp j)
    ∧ (Spec.ttlLo (Cfg.ofOptions o).nf ≤ ttlSec (Cfg.ofOptions o).nf j ∧ ttlSec (Cfg.ofOptions o).nf j ≤ Spec.ttlHi (Cfg.ofOptions o).nf
      ∧ 1 ≤ ttlSec (Cfg.ofOptions o).nf j) :=
  ⟨ttl_finite_and_in_range _ j hj (configured_expiries_positive o).1, ttl_finite_and_in_range _ j hj (configured_expiries_positive o).2⟩

/-- **never a persistent key** — for every Options value, every topology (Redis type, dispatch function) and
every history of operations with every placement of faults: every entry in every node's Redis carries a TTL
(`ttl = 0` is the model's persistent key: what `SetexCtx(…, 0)` / `SetnxExCtx(…, 0)` leave behind). -/
theorem no_persistent_key (o : Options) (cl : Bool) (pl : CKey → Nat) (ops : List Op) (hl : ∀ op ∈ ops, OpLegal op) :
    ∀ k e, (run { Cfg.ofOptions o with cluster := cl, place := pl } St.init ops).cache k = some e → 0 < e.ttl :=
  run_eq_runI _ _ ops ▸ runI_finite (fun _ => { Cfg.ofOptions o with cluster := cl, place := pl }) (fun _ => configured_expiries_positive o)
    (ops.map fun op => (0, op)) fun iop h => by
      obtain ⟨op, ho, rfl⟩ := List.mem_map.mp h
      exact hl op ho

/-- the not-found path: a miss on an absent row writes the marker `*` with `SET NX EX` and the jittered
NOT-FOUND expiry (not the row expiry), on the key's node, and returns not-found after one database call. -/
theorem notfound_placeholder_ttl (c : Cfg) (s : St) (pk j : Nat)
    (hmiss : s.cache (c.slot (.p pk)) = none) (hr : dbRow s pk = none) :
    (takeP c s pk j [] false).1.cache (c.slot (.p pk)) = some ⟨.ph, ttlSec c.nf j * 1000, .loaded⟩
    ∧ (takeP c s pk j [] false).2.res = .notfound ∧ (takeP c s pk j [] false).2.q = 1
    ∧ (takeP c s pk j [] false).2.cmds = [⟨.get, c.place (.p pk), [.p pk], false⟩, ⟨.setnx, c.place (.p pk), [.p pk], false⟩] := by
  unfold Cfg.slot at hmiss
  unfold takeP getCache setnx
  simp [failAt, hmiss, hr, upd, Cfg.slot]

/-- the same on the index path (`QueryRowIndex` → `TakeWithExpireCtx`): the marker goes under the INDEX key. -/
theorem notfound_placeholder_ttl_index (c : Cfg) (s : St) (a j : Nat)
    (hmiss : s.cache (c.slot (.x a)) = none) (hr : dbIndex s a = none) :
    (qindex c s a j [] false).1.cache (c.slot (.x a)) = some ⟨.ph, ttlSec c.nf j * 1000, .loaded⟩
    ∧ (qindex c s a j [] false).2.res = .notfound ∧ (qindex c s a j [] false).2.q = 1 := by
  unfold Cfg.slot at hmiss
  unfold qindex getCache setnx
  simp [failAt, hmiss, hr, upd, Cfg.slot]

/-- **a not-found marker never replaces a row** (NX semantics of `setCacheWithNotFound`).  Primitive level: `SET
key "*" NX EX ttl` on an occupied slot changes nothing, whatever occupies it. -/
theorem marker_setnx_keeps_occupied_slot (s : St) (k : Slot) (e : Entry) (he : s.cache k = some e) (t : Nat) (f : Bool) :
    setnx s k t f = s := by
  unfold setnx
  split
  · rfl
  · rw [he]

/-- Operation level (`Take` / `QueryRow`, and the second Take of the index path): an entry that is not the
marker is never turned into the marker by a Take when it parses for its key (it is served from the cache) or
when the DEL of the unparsable entry failed — the case in which the load path reaches `SET NX` with the slot
still occupied (the database says not-found, the junk entry stays; a found row overwrites it with `SET`). -/
theorem marker_never_replaces_an_entry (c : Cfg) (s : St) (pk j : Nat) (m : List Bool) (dbf : Bool) (k : Slot) (e : Entry)
    (he : s.cache k = some e) (hrow : e.val ≠ .ph) (hkeep : parses k.2 e.val = true ∨ failAt m 1 = true) :
    ∀ e', (takeP c s pk j m dbf).1.cache k = some e' → e'.val ≠ .ph := by
  intro e' h
  rcases (takeP_wrote c s pk j m dbf).cache k with h1 | h1 | ⟨e1, h1, rfl, ⟨_, hfree, rfl⟩ | ⟨r, hr, rfl⟩⟩
  · rw [h1, he] at h; cases h; exact hrow
  · rw [h1] at h; cases h
  · -- the marker goes into a free slot only, and the GET left the entry where it was
    have := (getCache_keeps (n := c.place (.p pk)) he hkeep).symm.trans hfree
    cases this
  · rw [h1] at h; cases h; exact dbRow_ne_ph hr

/-- the same for the index path (`QueryRowIndex`): the marker never replaces an entry under the index key. -/
theorem marker_never_replaces_an_index_entry (c : Cfg) (s : St) (a j : Nat) (m : List Bool) (dbf : Bool) (e : Entry)
    (he : s.cache (c.slot (.x a)) = some e) (hrow : e.val ≠ .ph)
    (hkeep : parses (.x a) e.val = true ∨ failAt m 1 = true) :
    ∀ e', (qindex c s a j m dbf).1.cache (c.slot (.x a)) = some e' → e'.val ≠ .ph := by
  intro e' h
  have he' : _ = some e := getCache_keeps (n := c.place (.x a)) he hkeep
  rcases (qindex_wrote c s a j m dbf).cache (c.slot (.x a)) with h1 | h1 | ⟨e1, h1, hw⟩
  · rw [h1, he] at h; cases h; exact hrow
  · rw [h1] at h; cases h
  · rw [h1] at h; cases h
    rcases hw with ⟨_, _, hfree, _⟩ | ⟨r, _, ⟨hk, _⟩ | ⟨_, rfl⟩⟩ | ⟨n, m', hk, _⟩
    · -- the marker goes into a free slot only, and the GET left the entry where it was
      cases he'.symm.trans hfree
    · simp [Cfg.slot] at hk
    · simp
    · simp [Cfg.slot] at hk

/-- non-vacuity of the NX case: junk under `p1` whose DEL fails, the row is absent: the Take returns not-found,
issues GET, DEL (failed), SET NX — and the junk is still there; with the DEL succeeding the marker is written. -/
example :
    let c : Cfg := { exp := 20000, nf := 3000 }
    let s := run c St.init [.raw (.p 1) (.junk 3) 5000]
    (takeP c s 1 500 [false, true] false).1.cache (0, .p 1) = some ⟨.junk 3, 5000, .explicit⟩
    ∧ (takeP c s 1 500 [false, true] false).2.res = .notfound
    ∧ (takeP c s 1 500 [false, true] false).2.cmds.map (·.cmd) = [.get, .del, .setnx]
    ∧ (takeP c s 1 500 [] false).1.cache (0, .p 1) = some ⟨.ph, 3000, .loaded⟩ := by
  refine ⟨by decide, by decide, by decide, by decide⟩

/-- what a Take writes: only under its own key, a `loaded` entry, the placeholder with the jittered not-found
expiry or the row with the jittered expiry. -/
theorem take_writes_ttl (c : Cfg) (s : St) (pk j : Nat) (m : List Bool) (dbf : Bool) (k : Slot) :
    (takeP c s pk j m dbf).1.cache k = s.cache k ∨ (takeP c s pk j m dbf).1.cache k = none ∨
    (k = c.slot (.p pk) ∧ ((takeP c s pk j m dbf).1.cache k = some ⟨.ph, ttlSec c.nf j * 1000, .loaded⟩ ∨
                  ∃ r, dbRow s pk = some r ∧ (takeP c s pk j m dbf).1.cache k = some ⟨r, ttlSec c.exp j * 1000, .loaded⟩)) := by
  rcases (takeP_wrote c s pk j m dbf).cache k with h | h | ⟨e, he, hk, ⟨_, _, rfl⟩ | ⟨r, hr, rfl⟩⟩
  · exact Or.inl h
  · exact Or.inr (Or.inl h)
  · exact Or.inr (Or.inr ⟨hk, Or.inl he⟩)
  · exact Or.inr (Or.inr ⟨hk, Or.inr ⟨r, hr, he⟩⟩)

/-- explicit sets: `SetCache` uses the jittered configured expiry; `SetCacheWithExpire` uses ⌈expire⌉ seconds
for a positive expire and falls back to the jittered configured expiry for a non-positive one (fix a6278b9):
in every case at least one second when the configured expiry is positive. -/
theorem set_ttl (c : Cfg) (s : St) (k : CKey) (v : CVal) (e : Option Int) (j : Nat) (hj : j ≤ 1000)
    (hc : 0 < c.exp) :
    ∃ t, 1 ≤ t ∧ (setOp c s k v e j []).1.cache (c.slot k) = some ⟨v, t * 1000, .explicit⟩
      ∧ (match e with
         | some ms => if ms ≤ 0 then t = ttlSec c.exp j else t = ceilSec ms.toNat
         | none => t = ttlSec c.exp j) := by
  unfold setOp setex
  simp only [failAt, List.getD, List.getElem?_nil, Option.getD_none, Bool.false_eq_true, if_false, upd, if_true]
  cases e with
  | none => exact ⟨_, ttlSec_pos _ _ hj hc, rfl, rfl⟩
  | some ms =>
    by_cases h : ms ≤ 0
    · simp only [h, if_true]; exact ⟨_, ttlSec_pos _ _ hj hc, rfl, rfl⟩
    · simp only [h, if_false]
      exact ⟨_, ceilSec_pos _ (by omega), rfl, rfl⟩

/-- index path on a double miss without faults: the primary entry is written with the index entry's TTL plus
5 s, so it outlives the index entry. -/
theorem index_primary_outlives_index (c : Cfg) (s : St) (a j : Nat) (r : Nat × CVal)
    (hmiss : s.cache (c.slot (.x a)) = none) (hr : dbIndex s a = some r) :
    (qindex c s a j [] false).1.cache (c.slot (.x a)) = some ⟨.pk r.1, ttlSec c.exp j * 1000, .loaded⟩
    ∧ (qindex c s a j [] false).1.cache (c.slot (.p r.1)) = some ⟨r.2, (ttlSec c.exp j + 5) * 1000, .loaded⟩
    ∧ (qindex c s a j [] false).2.res = .val r.2 := by
  unfold Cfg.slot at hmiss
  unfold qindex getCache setex
  simp [failAt, hmiss, hr, upd, safeGapSec, Cfg.slot]

/-- **at most one database query per key is in flight**, for any number of concurrent readers and every
schedule: in the interleaving model of `doTake`'s load inside `barrier.DoEx` (Flight.lean; createCall /
makeCall / DoEx tied by `tie_createCallShape` / `tie_makeCallShape` / `tie_doExShape` / `tie_doExFacts`, the load
being wholly inside the barrier by `tie_doTakeShape` / `tie_doTakeFacts`), two goroutines executing the database
query are the same goroutine. -/
theorem single_loader_per_key {α : Type} (q : Nat → α) (s : Flight.Cfg α) (h : Flight.Reachable q s) (t u : Nat)
    (ht : s.pc t = 2) (hu : s.pc u = 2) : t = u := by
  have hi := Flight.inv_reachable h
  have h1 := hi t (Or.inr ht)
  have h2 := hi u (Or.inr hu)
  rw [h1] at h2
  exact Option.some.inj h2

/-- **every concurrent reader receives that query's result**: a reader that has returned from `DoEx` — whether
it ran the query itself or waited on another reader's call — holds exactly the answer `q id` of the one query
run by the call `id` it created or joined, and that call is finished.  Any number of goroutines, every schedule,
every answer of the database (row, not-found, error). -/
theorem readers_receive_the_query_result {α : Type} (q : Nat → α) (s : Flight.Cfg α) (h : Flight.Reachable q s)
    (t : Nat) (ht : s.pc t = 4) :
    s.got t = some (q (s.joined t)) ∧ s.joined t < s.gen ∧ s.callVal (s.joined t) = some (q (s.joined t)) := by
  have hi := Flight.inv2_reachable h
  have := hi.ret t ht
  exact ⟨this.2, this.1, hi.done _ this.1⟩

/-- … hence all readers of one flight receive the same result. -/
theorem concurrent_readers_share_result {α : Type} (q : Nat → α) (s : Flight.Cfg α) (h : Flight.Reachable q s)
    (t u : Nat) (ht : s.pc t = 4) (hu : s.pc u = 4) (hj : s.joined t = s.joined u) : s.got t = s.got u := by
  rw [(readers_receive_the_query_result q s h t ht).1, (readers_receive_the_query_result q s h u hu).1, hj]

/-- one database query per flight: the number of queries started is the number of finished calls, plus one
while the current call's leader is inside its query — so `n` readers that share flights cost one query per
flight, never one per reader. -/
theorem one_query_per_flight {α : Type} (q : Nat → α) (s : Flight.Cfg α) (h : Flight.Reachable q s) :
    s.queries ≤ s.gen + 1 ∧ (s.flight = none → s.queries = s.gen) := by
  have hi := Flight.inv2_reachable h
  have hc := hi.count
  constructor
  · cases hf : s.flight with
    | none => rw [hf] at hc; simp at hc; omega
    | some l => rw [hf] at hc; simp at hc; split at hc <;> omega
  · intro hf; rw [hf] at hc; simpa using hc

/-- non-vacuity: a schedule in which goroutine 0 is querying while goroutine 1 waits on its call … -/
example : ∃ s, Flight.Reachable (fun g => g + 100) s ∧ s.pc 0 = 2 ∧ s.pc 1 = 3 := by
  refine ⟨_, .step 1 (.step 0 (.step 0 .init rfl) rfl) rfl, rfl, rfl⟩

/-- … and its continuation: both have returned with the answer of call 0 (one query), a late third reader
starts call 1 and gets that call's answer. -/
example : ∃ s, Flight.Reachable (fun g => g + 100) s ∧ s.pc 0 = 4 ∧ s.pc 1 = 4 ∧ s.pc 2 = 4
    ∧ s.got 0 = some 100 ∧ s.got 1 = some 100 ∧ s.got 2 = some 101 ∧ s.queries = 2 ∧ s.gen = 2 := by
  refine ⟨_, .step 2 (.step 2 (.step 2 (.step 1 (.step 0 (.step 1 (.step 0 (.step 0 .init rfl) rfl) rfl) rfl) rfl) rfl) rfl) rfl,
    rfl, rfl, rfl, rfl, rfl, rfl, rfl, rfl⟩

/-- **refinement of the concurrent readers to the sequential store model.**  `Conc.cstep` is the flight group of
`Flight.lean` with the oracle replaced by the store: the function the leader of call `g` runs inside `DoEx` is
`takeP` on the shared store with that call's environment `env g` (jitter, cache faults, database fault).  For
any number of reader goroutines and every schedule, every reachable state is explained by a SEQUENTIAL history
of `gen` Takes (`Conc.seqRun`): the store is the store after them, the database was called as often as they
call it, every reader that has returned holds the result of sequential Take number `joined t` (< `gen`), and at
most one goroutine is inside the load. -/
theorem conc_refines_seq (c : Cfg) (pk : Nat) (env : Nat → Conc.In) (s0 : St) (x : Conc.CSt)
    (h : Conc.CReach c pk env s0 x) :
    x.store = Conc.seqRun c pk env s0 x.fl.gen
    ∧ x.dbq = Conc.seqQ c pk env s0 x.fl.gen
    ∧ (∀ t, x.fl.pc t = 4 → x.fl.joined t < x.fl.gen ∧ x.fl.got t = some (Conc.seqRes c pk env s0 (x.fl.joined t)))
    ∧ (∀ t u, x.fl.pc t = 2 → x.fl.pc u = 2 → t = u) := by
  have hs := Conc.sim_reachable h
  refine ⟨hs.store, hs.dbq, fun t ht => ?_, fun t u ht hu => single_loader_per_key _ _ hs.fl t u ht hu⟩
  have := readers_receive_the_query_result _ _ hs.fl t ht
  exact ⟨this.2.1, this.1⟩

/-- **k concurrent readers of an uncached key = one loading Take + cache hits.**  Without faults, whatever the
schedule and the number of readers and however many flights they form: every reader that has returned received
what the database holds (row or not-found), the database was queried at most once — exactly once as soon as a
flight has finished — and the store is the store after a SINGLE sequential `takeP`. -/
theorem concurrent_readers_one_load (c : Cfg) (pk : Nat) (env : Nat → Conc.In) (s0 : St) (x : Conc.CSt)
    (h : Conc.CReach c pk env s0 x) (hf : Conc.FaultFree env) (hmiss : s0.cache (c.slot (.p pk)) = none) :
    (∀ t, x.fl.pc t = 4 → x.fl.got t = some (Spec.expected s0 (.p pk)))
    ∧ x.dbq ≤ 1
    ∧ (0 < x.fl.gen → x.dbq = 1 ∧ x.store = (takeP c s0 pk (env 0).j [] false).1) := by
  obtain ⟨hst, hq, hret, _⟩ := conc_refines_seq c pk env s0 x h
  have hfirst := Conc.first_take_loads c pk env s0 hf hmiss
  have hlater := Conc.later_takes_hit c pk env s0 hf hmiss
  refine ⟨fun t ht => ?_, ?_, fun hg => ?_⟩
  · rw [(hret t ht).2, (hlater _).2.1, hfirst.2.1]
  · cases hgen : x.fl.gen with
    | zero => rw [hq, hgen]; simp [Conc.seqQ]
    | succ g => rw [hq, hgen, (hlater g).2.2]; exact Nat.le_refl 1
  · obtain ⟨g, hgen⟩ : ∃ g, x.fl.gen = g + 1 := ⟨x.fl.gen - 1, by omega⟩
    refine ⟨by rw [hq, hgen, (hlater g).2.2], ?_⟩
    rw [hst, hgen, (hlater g).1]
    simp only [Conc.seqRun, Conc.seqTake, (hf 0).1, (hf 0).2]

/-- non-vacuity: three readers of the uncached, absent row 7 — goroutine 0 leads, 1 joins, both return; a late
third reader forms a second flight and is served from the cache: one database call, two flights, every reader
holds not-found, the store holds the marker written once. -/
example :
    let c : Cfg := { exp := 20000, nf := 3000 }
    ∃ x, Conc.CReach c 7 (fun _ => {}) St.init x ∧ x.fl.pc 0 = 4 ∧ x.fl.pc 1 = 4 ∧ x.fl.pc 2 = 4
      ∧ x.fl.gen = 2 ∧ x.dbq = 1 ∧ x.fl.got 2 = some .notfound
      ∧ x.store.cache (0, .p 7) = some ⟨.ph, 3000, .loaded⟩ := by
  refine ⟨_, .step 2 (.step 2 (.step 2 (.step 1 (.step 0 (.step 1 (.step 0 (.step 0 .init rfl) rfl) rfl) rfl) rfl) rfl) rfl) rfl,
    rfl, rfl, rfl, rfl, rfl, rfl, ?_⟩
  decide

/-- **`Cache.DelCtx` covers every key it is given** — `cacheCluster.DelCtx` (grouping by node) over
`cacheNode.DelCtx` (one DEL for the group, or — cluster-type Redis, more than one key — one DEL per key): after
the call the key's slot on its node is empty, or a retry of a DEL of that key on that node is pending in the
cleaner.  For every dispatch function (any number of nodes), both Redis types, every list of keys (duplicates
included) and every outcome of every DEL; in particular a failed DEL of one key never keeps the keys after it
from being deleted or scheduled. -/
theorem del_covers_every_key (c : Cfg) (s : St) (ks : List CKey) (m : List (List Bool)) (k : CKey) (hk : k ∈ ks) :
    (delOp c s ks m).1.cache (c.slot k) = none ∨ Pending (delOp c s ks m).1 (c.slot k) :=
  (delOp_covers c s ks m hk).imp_right And.right

/-- … in whatever order the groups are processed (Go ranges over the `nodes` map in random order): for every
list `ns` of nodes that contains the key's node. -/
theorem del_covers_every_key_any_order (c : Cfg) (s : St) (ks : List CKey) (m : List (List Bool)) (ns : List Nat)
    (k : CKey) (hk : k ∈ ks) (hn : c.place k ∈ ns) :
    (clusterDel c ks m ns s).1.cache (c.slot k) = none ∨ Pending (clusterDel c ks m ns s).1 (c.slot k) :=
  (clusterDel_covers c ks m hk ns hn s).imp_right And.right

/-- the same for `ExecCtx` whose database write succeeded. -/
theorem exec_covers_every_key (c : Cfg) (s : St) (ks : List CKey) (w : Write) (m : List (List Bool)) (k : CKey)
    (hk : k ∈ ks) :
    (execOp c s ks w m false).1.cache (c.slot k) = none ∨ Pending (execOp c s ks w m false).1 (c.slot k) := by
  unfold execOp
  simp only [Bool.false_eq_true, if_false]
  exact (delOp_covers c _ ks m hk).imp_right And.right

/-- without a failing DEL every named key is gone. -/
theorem del_without_fault_removes_every_key (c : Cfg) (s : St) (ks : List CKey) (m : List (List Bool))
    (hm : ∀ n i, failAt (m.getD n []) i = false) (k : CKey) (hk : k ∈ ks) :
    (delOp c s ks m).1.cache (c.slot k) = none :=
  (delOp_covers c s ks m hk).resolve_right fun ⟨⟨n, i, h⟩, _⟩ => by rw [hm n i] at h; cases h

/-- DelCtx never fails and never writes: same database, entries only removed, tasks only appended. -/
theorem del_only_removes (c : Cfg) (s : St) (ks : List CKey) (m : List (List Bool)) :
    (delOp c s ks m).2.res = .ok ∧ DelStep s (delOp c s ks m).1 :=
  ⟨rfl, delOp_step c s ks m⟩

/-- the per-key loop issues exactly one DEL per key, in order, each with its own outcome. -/
theorem delLoop_one_del_per_key (s : St) (n : Nat) (ks : List CKey) (m : List Bool) :
    (delLoop s n ks m).2.map (fun r => (r.cmd, r.node, r.keys)) = ks.map fun k => (Cmd.del, n, [k]) := by
  induction ks generalizing s m with
  | nil => rfl
  | cons k ks ih => simp only [delLoop, List.map_cons]; rw [ih]

/-- the `case 1` shortcut of `cacheCluster.DelCtx` (a single key goes straight to its node) is what the
general path does for a single key. -/
theorem delOp_single_key (c : Cfg) (s : St) (k : CKey) (m : List (List Bool)) :
    delOp c s [k] m =
      (delOne s (c.place k) [k] (failAt (m.getD (c.place k) []) 0),
       { res := .ok, cmds := [⟨.del, c.place k, [k], failAt (m.getD (c.place k) []) 0⟩] }) := by
  simp [delOp, nodesOf, clusterDel, nodeDel]

/-- a retry that is due on a node that is up deletes its keys. -/
theorem retry_deletes_when_node_up (s : St) (down : List Bool) (t : Task) (ht : t ∈ s.tasks) (hd : t.rem ≤ 1)
    (hu : downOf down t.node = false) (k : CKey) (hk : k ∈ t.keys) :
    (tick s down).1.cache (t.node, k) = none := by
  simp [tick, delKeys, mem_dueSlots ht hd hu hk]

/-- a retry that is due on a node that is down is re-armed with the next delay of the schedule (same node,
same keys). -/
theorem retry_rearmed_when_node_down (s : St) (down : List Bool) (t : Task) (ht : t ∈ s.tasks) (hd : t.rem ≤ 1)
    (hdn : downOf down t.node = true) (d : Nat) (hn : nextDelay t.delay = some d) :
    ⟨t.node, t.keys, d, d⟩ ∈ (tick s down).1.tasks := by
  simp only [tick]
  refine List.mem_filterMap.mpr ⟨t, ht, ?_⟩
  simp [tickTask, show ¬ t.rem > 1 by omega, hdn, hn]

/-- non-vacuity, two nodes (`p1` on node 0, `x1` on node 1), cluster-type Redis: node 1 is down during the
Exec — the DEL of `p1` on node 0 succeeds, the DEL of `x1` fails and is retried; while node 1 stays down the
retry is re-armed, when it is up again the entry goes. -/
example :
    let c : Cfg := { exp := 20000, nf := 3000, cluster := true, place := fun k => match k with | .x _ => 1 | .p _ => 0 }
    let ops : List Op := [.exec [.p 1, .x 1] (.put 1 10 1) [] false, .qindex 1 500 [] false,
                          .exec [.p 1, .x 1] (.put 1 11 1) [[], [true]] false]
    (run c St.init ops).cache (0, .p 1) = none
    ∧ (run c St.init ops).cache (1, .x 1) = some ⟨.pk 1, 20000, .loaded⟩
    ∧ (run c St.init ops).tasks = [⟨1, [.x 1], 1, 1⟩]
    ∧ (run c St.init (ops ++ [.tick [false, true]])).tasks = [⟨1, [.x 1], 5, 5⟩]
    ∧ (run c St.init (ops ++ [.tick [false, true]] ++ List.replicate 5 (.tick []))).cache (1, .x 1) = none := by
  refine ⟨by decide, by decide, by decide, by decide, by decide⟩

/-- non-vacuity, one cluster-type node, three keys, the DEL of the FIRST key fails: the other two are still
deleted (per-key loop), only the first is retried. -/
example :
    let c : Cfg := { exp := 20000, nf := 3000, cluster := true }
    let s := run c St.init [.set (.p 1) (.row 1 1 1) none 500 [], .set (.p 2) (.row 2 2 2) none 500 [],
                            .set (.x 1) (.pk 1) none 500 [], .del [.p 1, .p 2, .x 1] [[true, false, false]]]
    s.cache (0, .p 1) ≠ none ∧ s.cache (0, .p 2) = none ∧ s.cache (0, .x 1) = none ∧ s.tasks = [⟨0, [.p 1], 1, 1⟩] := by
  refine ⟨by decide, by decide, by decide, by decide⟩

/-- the proviso is satisfiable by a history with a write, reads, a failed DEL and cleaner ticks, and the
carve-out of `coherent_reads_partial` really occurs there (second disjunct), then disappears after the retry. -/
example :
    let c : Cfg := { exp := 20000, nf := 3000 }
    let ops : List Op := [.exec [.p 1, .x 1] (.put 1 10 1) [] false, .take 1 500 [] false,
                          .exec [.p 1] (.put 1 11 1) [[true]] false]
    (run c St.init ops).cache (0, .p 1) = some ⟨.row 1 10 1, 20000, .stale⟩
    ∧ (run c St.init ops).tasks = [⟨0, [.p 1], 1, 1⟩]
    ∧ (run c St.init (ops ++ [.tick []])).cache (0, .p 1) = none
    ∧ (takeP c (run c St.init (ops ++ [.tick []])) 1 0 [] false).2.res = .val (.row 1 11 1) := by
  refine ⟨by decide, by decide, by decide, by decide⟩

/-- hypotheses of `served_from_cache` / `cache_failure_fails_fast` on a concrete state. -/
example : (takeP { exp := 20000, nf := 3000 } (run { exp := 20000, nf := 3000 } St.init [.take 7 0 [] false]) 7 0 [] false).2
    = { res := .notfound, q := 0, cmds := [⟨.get, 0, [.p 7], false⟩] } := by decide

example : (run { exp := 20000, nf := 3000 } St.init [.take 7 0 [] false]).cache (0, .p 7) = some ⟨.ph, 4000, .loaded⟩ := by decide

/-- option values at the sanity checks' boundary and beyond: 0 and −1 ms fall back to the defaults, 1 ms is kept
(TTL 1 s for every draw), 999 ms / 1000 ms / 1001 ms give 1 s or 2 s, a year gives a year ± 5 %. -/
example : newOptions {} = (604800000, 60000) ∧ newOptions { expiry := some 0, notFound := some 0 } = (604800000, 60000)
    ∧ newOptions { expiry := some (-1), notFound := some (-60000) } = (604800000, 60000)
    ∧ newOptions { expiry := some 1, notFound := some 999 } = (1, 999)
    ∧ ttlSec 1 0 = 1 ∧ ttlSec 1 1000 = 1 ∧ ttlSec 999 0 = 2 ∧ ttlSec 999 1000 = 1 ∧ ttlSec 1000 500 = 1 ∧ ttlSec 1000 499 = 2
    ∧ ttlSec 60000 0 = 63 ∧ ttlSec 60000 1000 = 57 ∧ ttlSec 31536000001 1000 = 29959201 := by decide

/-- `no_persistent_key` is not vacuous: with `WithNotFoundExpiry(0)` a read of an absent row leaves the marker
with the default not-found TTL; had `newOptions` kept the 0 (`{ nf := 0 }`), the marker would be persistent. -/
example :
    (run (Cfg.ofOptions { notFound := some 0 }) St.init [.take 7 500 [] false]).cache (0, .p 7) = some ⟨.ph, 60000, .loaded⟩
    ∧ (run { exp := 20000, nf := 0 } St.init [.take 7 500 [] false]).cache (0, .p 7) = some ⟨.ph, 0, .loaded⟩
    ∧ (run { exp := 20000, nf := 0 } St.init [.take 7 500 [] false, .ft 1000000000]).cache (0, .p 7) = some ⟨.ph, 0, .loaded⟩ := by
  refine ⟨by decide, by decide, by decide⟩

example : ttlSec 20000 0 = 21 ∧ ttlSec 20000 1000 = 19 ∧ ttlSec 20000 500 = 20 ∧ ttlSec 1 1000 = 1
    ∧ Spec.ttlLo 20000 = 19 ∧ Spec.ttlHi 20000 = 21 := by decide

/-- two failed retries (after 1 s and after 5 s more): the task is armed for 60 s, nothing has been given up yet. -/
example :
    let c : Cfg := { exp := 20000, nf := 3000 }
    let s := run c St.init ([.exec [.p 1] (.put 1 10 1) [] false, .take 1 500 [] false,
                             .exec [.p 1] (.rm 1) [[true]] false, .tick [true]]
                            ++ List.replicate 5 (.tick [true]))
    s.tasks = [⟨0, [.p 1], 60, 60⟩] ∧ s.gaveUp = 0 := by decide

end GoZero.C06
