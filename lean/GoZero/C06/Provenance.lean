/-
C06 — where entries come from and where they sit.
  Prov      a `stale` entry (failed DEL after a database write) has a retry pending in the cleaner, or the
            cleaner has given up on some task (after 1 s + 5 s + 1 min + 5 min + 1 h of failed retries)
  Covered   DelCtx leaves every key it is given deleted, or with a retry of its DEL pending
  Placed    an entry of a key sits on the node the dispatcher assigns to the key
  NoBehind  if nothing is written behind the cache's back and every Exec names the keys whose database view
            it changes, every entry is `loaded` or `stale`
-/
import GoZero.C06.Store
namespace GoZero.C06

/-- a retry of a DEL covering slot `k` (a DEL of its key, on its node) sits in the cleaner's table. -/
def Pending (s : St) (k : Slot) : Prop := ∃ t ∈ s.tasks, t.node = k.1 ∧ k.2 ∈ t.keys

def Prov (s : St) : Prop :=
  ∀ (k : Slot) e, s.cache k = some e → e.origin = .stale → Pending s k ∨ 0 < s.gaveUp

def NoBehind (s : St) : Prop := Entries (fun _ e => e.origin = .loaded ∨ e.origin = .stale) s

/-- **dispatch invariant** of the multi-node store: an entry of a key sits on the node the dispatcher assigns
to the key, never on another node. -/
def Placed (c : Cfg) (s : St) : Prop :=
  ∀ (k : Slot) e, s.cache k = some e → k.1 = c.place k.2

theorem prov_of_wrote {W : Slot → Entry → Prop} {s s' : St} (hp : Prov s) (h : Wrote W s s')
    (hw : ∀ k e, W k e → e.origin ≠ .stale) : Prov s' := by
  intro k e hk hs
  rcases h.entry hk with h0 | h0
  · simpa only [Pending, h.tasks, h.gave] using hp k e h0 hs
  · exact absurd hs (hw k e h0)

theorem pending_of_delStep {s s' : St} (h : DelStep s s') {k : Slot} (hp : Pending s k) : Pending s' k := by
  obtain ⟨l, hl⟩ := h.tasks
  obtain ⟨t, ht, hk⟩ := hp
  exact ⟨t, by rw [hl]; exact List.mem_append_left _ ht, hk⟩

/-- a DelCtx layer keeps `Prov`: it removes entries and appends tasks. -/
theorem prov_of_delStep {s s' : St} (hp : Prov s) (h : DelStep s s') : Prov s' := by
  intro k e hk hs
  rcases hp k e (h.shr.entry hk) hs with hpd | hg
  · exact Or.inl (pending_of_delStep h hpd)
  · exact Or.inr (by rw [h.gave]; exact hg)

/-- the slot is empty, or one of the DELs failed (`F`) and a retry of a DEL covering the slot is pending. -/
def Covered (F : Prop) (s : St) (k : Slot) : Prop := s.cache k = none ∨ (F ∧ Pending s k)

theorem Covered.mono {F F' : Prop} {s : St} {k : Slot} (h : F → F') : Covered F s k → Covered F' s k :=
  Or.imp_right (And.imp_left h)

theorem covered_of_delStep {F : Prop} {s s' : St} (h : DelStep s s') {k : Slot} (hc : Covered F s k) : Covered F s' k := by
  rcases hc with hc | ⟨hf, hc⟩
  · exact Or.inl ((h.shr k).elim (·.trans hc) id)
  · exact Or.inr ⟨hf, pending_of_delStep h hc⟩

theorem delOne_covers (s : St) (n : Nat) (ks : List CKey) (f : Bool) {k : CKey} (hk : k ∈ ks) :
    Covered (f = true) (delOne s n ks f) (n, k) := by
  unfold delOne
  split
  · rename_i hf
    exact Or.inr ⟨hf, ⟨n, ks, 1, 1⟩, List.mem_append_right _ (List.mem_singleton.mpr rfl), rfl, hk⟩
  · left
    have : (n, k) ∈ ks.map fun k => (n, k) := List.mem_map.mpr ⟨k, hk, rfl⟩
    simp [delKeys, this]

/-- the per-key loop covers EVERY key of the list, whatever the outcome of the DELs before it (this is what a
`break` after the first failure would falsify). -/
theorem delLoop_covers (n : Nat) (ks : List CKey) {k : CKey} (hk : k ∈ ks) :
    ∀ (s : St) (m : List Bool), Covered (∃ i, failAt m i = true) (delLoop s n ks m).1 (n, k) := by
  induction ks with
  | nil => cases hk
  | cons k0 ks ih =>
    intro s m
    simp only [delLoop]
    rcases List.mem_cons.mp hk with rfl | h
    · exact covered_of_delStep (delLoop_step n ks _ _)
        ((delOne_covers s n [k] _ (List.mem_singleton.mpr rfl)).mono fun h => ⟨0, failAt_head m ▸ h⟩)
    · exact (ih h _ _).mono fun ⟨i, hi⟩ => ⟨i + 1, failAt_tail m i ▸ hi⟩

theorem nodeDel_covers (cl : Bool) (s : St) (n : Nat) (ks : List CKey) (m : List Bool) {k : CKey} (hk : k ∈ ks) :
    Covered (∃ i, failAt m i = true) (nodeDel cl s n ks m).1 (n, k) := by
  unfold nodeDel
  split
  · rename_i h; subst h; cases hk
  · split
    · exact delLoop_covers n ks hk s m
    · exact (delOne_covers s n ks _ hk).mono fun h => ⟨0, h⟩

theorem clusterDel_covers (c : Cfg) (ks : List CKey) (masks : List (List Bool)) {k : CKey} (hk : k ∈ ks)
    (ns : List Nat) (hn : c.place k ∈ ns) :
    ∀ s : St, Covered (∃ n i, failAt (masks.getD n []) i = true) (clusterDel c ks masks ns s).1 (c.slot k) := by
  induction ns with
  | nil => cases hn
  | cons n ns ih =>
    intro s
    simp only [clusterDel]
    by_cases h : c.place k = n
    · refine covered_of_delStep (clusterDel_step c ks masks ns _) ?_
      have hk' : k ∈ ks.filter fun k => c.place k = n := by simp [List.mem_filter, hk, h]
      have := (nodeDel_covers c.cluster s n _ (masks.getD n []) hk').mono
        (F' := ∃ n i, failAt (masks.getD n []) i = true) fun ⟨i, hi⟩ => ⟨n, i, hi⟩
      simpa [Cfg.slot, h] using this
    · rcases List.mem_cons.mp hn with h' | h'
      · exact absurd h' h
      · exact ih h' _

theorem mem_nodesOf (c : Cfg) {k : CKey} {ks : List CKey} (hk : k ∈ ks) : c.place k ∈ nodesOf c ks := by
  induction ks with
  | nil => cases hk
  | cons k0 ks ih =>
    simp only [nodesOf]
    rcases List.mem_cons.mp hk with rfl | h
    · split
      · assumption
      · exact List.mem_cons_self
    · split
      · exact ih h
      · exact List.mem_cons_of_mem _ (ih h)

/-- **`Cache.DelCtx` covers every key it is given**: after the call the key's slot is empty or — only if one of the
DELs failed — a retry of a DEL of that key on that node is pending; for every number of nodes, node-type and
cluster-type Redis, every placement of the keys and every outcome of every DEL. -/
theorem delOp_covers (c : Cfg) (s : St) (ks : List CKey) (m : List (List Bool)) {k : CKey} (hk : k ∈ ks) :
    Covered (∃ n i, failAt (m.getD n []) i = true) (delOp c s ks m).1 (c.slot k) :=
  clusterDel_covers c ks m hk _ (mem_nodesOf c hk) s

/-- Exec: an entry that becomes `stale` is under a key named by the Exec, on that key's node; the DelCtx that
follows covers it: the entry is gone or a retry of its DEL is pending. -/
theorem execOp_prov (c : Cfg) {s : St} (hp : Prov s) (ks : List CKey) (w : Write) (m : List (List Bool)) (dbf : Bool) :
    Prov (execOp c s ks w m dbf).1 := by
  unfold execOp
  split
  · exact hp
  · have ht := applyWrite_tasks s w
    simp only []
    generalize hs2 : ({ applyWrite s w with cache := markChanged c s (applyWrite s w) ks } : St) = s2
    have hst := delOp_step c s2 ks m
    intro k e hk hs
    have hk2 : markChanged c s (applyWrite s w) ks k = some e := by have := hst.shr.entry hk; rwa [← hs2] at this
    obtain ⟨e0, he0, _, _, ⟨h, _⟩ | ⟨_, _, h⟩⟩ := markChanged_spec hk2
    · rcases hp k e0 he0 (h ▸ hs) with hpd | hg
      · left
        have : Pending s2 k := by
          obtain ⟨t, htm, hkt⟩ := hpd
          exact ⟨t, by rw [← hs2]; simpa [ht.1] using htm, hkt⟩
        exact pending_of_delStep hst this
      · right
        rw [hst.gave, ← hs2]
        simpa [ht.2] using hg
    · by_cases hin : k.2 ∈ ks ∧ c.place k.2 = k.1
      · have hcov := delOp_covers c s2 ks m hin.1
        have hsl : c.slot k.2 = k := by
          cases k; simp only [Cfg.slot] at hin ⊢; rw [hin.2]
        rw [hsl] at hcov
        rcases hcov with hn | ⟨_, hpd⟩
        · rw [hk] at hn; cases hn
        · exact Or.inl hpd
      · rw [hs] at h; simp [hin] at h

theorem tickTask_keys {dn : Nat → Bool} {t t' : Task} (h : tickTask dn t = some t') :
    t'.keys = t.keys ∧ t'.node = t.node := by
  unfold tickTask at h
  repeat' split at h
  all_goals simp at h
  all_goals (subst h; exact ⟨rfl, rfl⟩)

/-- a task leaves the table when it ran on a node that is up, or ran for the last time on one that is down. -/
theorem tickTask_none {dn : Nat → Bool} {t : Task} (h : tickTask dn t = none) :
    t.rem ≤ 1 ∧ (dn t.node = false ∨ (dn t.node = true ∧ (nextDelay t.delay).isNone = true)) := by
  unfold tickTask at h
  split at h
  · cases h
  · refine ⟨by omega, ?_⟩
    split at h
    · rename_i hd
      split at h
      · cases h
      · rename_i hn; exact Or.inr ⟨hd, by simp [hn]⟩
    · rename_i hd; exact Or.inl (by simpa using hd)

theorem tick_prov {s : St} (hp : Prov s) (down : List Bool) : Prov (tick s down).1 := by
  unfold tick
  intro k e hk hs
  simp only [delKeys] at hk ⊢
  by_cases hin : k ∈ dueSlots (downOf down) s.tasks
  · simp [hin] at hk
  · simp only [hin, if_false] at hk
    rcases hp k e hk hs with ⟨t, ht, htn, hkt⟩ | h
    · cases htt : tickTask (downOf down) t with
      | some t' =>
        left
        refine ⟨t', List.mem_filterMap.mpr ⟨t, ht, htt⟩, ?_, ?_⟩
        · rw [(tickTask_keys htt).2]; exact htn
        · rw [(tickTask_keys htt).1]; exact hkt
      | none =>
        obtain ⟨hdue, hup | ⟨hd, hn⟩⟩ := tickTask_none htt
        · -- the node is up: the slot would have been deleted at this tick
          have := mem_dueSlots ht hdue hup hkt
          rw [htn] at this
          exact absurd this hin
        · -- the node is down and the schedule is exhausted: the cleaner gives up
          right
          have : t ∈ (s.tasks.filter (·.rem ≤ 1)).filter
              (fun t => downOf down t.node && (nextDelay t.delay).isNone) := by
            simp [List.mem_filter, ht, hdue, hd, hn]
          have := List.length_pos_of_mem this
          omega
    · right; omega

theorem step_prov (c : Cfg) {s : St} (hp : Prov s) (op : Op) : Prov (step c s op).1 := by
  cases op with
  | take pk j m dbf => exact prov_of_wrote hp (takeP_loads c s pk j m dbf) fun _ _ h hs => by rw [h.origin] at hs; cases hs
  | qindex a j m dbf => exact prov_of_wrote hp (qindex_loads c s a j m dbf) fun _ _ h hs => by rw [h.origin] at hs; cases hs
  | get k m => exact prov_of_wrote hp (getOp_wrote (W := fun _ _ => False) c s k m) fun _ _ h => h.elim
  | exec ks w m dbf => exact execOp_prov c hp ks w m dbf
  | del ks m => exact prov_of_delStep hp (delOp_step c s ks m)
  | set k v e j m => exact prov_of_wrote hp (setOp_wrote c s k v e j m) fun _ _ h hs => by rw [h.2] at hs; cases hs
  | raw k v t => exact prov_of_wrote hp (raw_wrote c s k v t) fun _ _ h hs => by rw [h.2] at hs; cases hs
  | ft ms =>
    intro k e hk hs
    obtain ⟨e0, he0, _, ho, _⟩ := expire_entry hk
    exact hp k e0 he0 (ho ▸ hs)
  | tick down => exact tick_prov hp down

/-- "every database write goes through Exec with that key": the Exec names every cache key whose database view
the write changes. -/
def WellKeyed (s : St) (ks : List CKey) (w : Write) : Prop :=
  ∀ k, dbView (applyWrite s w) k ≠ dbView s k → k ∈ ks

/-- a write of row `pk` with index column `a` names its two keys, provided no OTHER index value points to `pk`
(then the only views that change are those of `p pk` and `x a`). -/
theorem wellKeyed_put {s : St} {pk v a : Nat} (h : ∀ b, b ≠ a → s.idx b ≠ some pk) :
    WellKeyed s [.p pk, .x a] (.put pk v a) := by
  intro k hne
  cases k with
  | p n =>
    by_cases hn : n = pk
    · subst hn; simp
    · exfalso; apply hne; simp [dbView, dbRow, applyWrite, hn]
  | x b =>
    by_cases hb : b = a
    · subst hb; simp
    · exfalso; apply hne
      have hi : (applyWrite s (.put pk v a)).idx b = s.idx b := by
        simp only [applyWrite, hb, if_false, clearIdx]
        cases s.rows pk <;> simp [h b hb]
      simp only [dbView, dbIndex, hi]
      cases hp : s.idx b with
      | none => rfl
      | some p =>
        have : p ≠ pk := fun e => h b hb (e ▸ hp)
        simp [applyWrite, this]

/-- the proviso of the property for one operation in state `s`. -/
def OpOk (s : St) : Op → Prop
  | .exec ks w _ _ => WellKeyed s ks w
  | .set .. => False          -- explicit cache set: "written behind its back"
  | .raw .. => False
  | _ => True

/-- stated for the common dispatch `pl` of several instances; `Placed c` is the case `pl = c.place`. -/
theorem step_placed {c : Cfg} {pl : CKey → Nat} (hc : c.place = pl) {s : St} (hp : Entries (fun k _ => k.1 = pl k.2) s)
    (op : Op) : Entries (fun k _ => k.1 = pl k.2) (step c s op).1 := by
  subst hc
  cases op with
  | take pk j m dbf => exact entries_of_wrote hp (takeP_loads c s pk j m dbf) fun _ _ h => h.node
  | qindex a j m dbf => exact entries_of_wrote hp (qindex_loads c s a j m dbf) fun _ _ h => h.node
  | get k m => exact entries_of_wrote hp (getOp_wrote (W := fun _ _ => False) c s k m) fun _ _ h => h.elim
  | exec ks w m dbf =>
    intro k e hk
    obtain ⟨e0, he0, _⟩ := execOp_entry hk
    exact hp k e0 he0
  | del ks m => exact entries_of_shrinks hp (delOp_step c s ks m).shr
  | set k v e j m => exact entries_of_wrote hp (setOp_wrote c s k v e j m) fun _ _ h => by rw [h.1]; rfl
  | raw k v t => exact entries_of_wrote hp (raw_wrote c s k v t) fun _ _ h => by rw [h.1]; rfl
  | ft ms =>
    intro k e hk
    obtain ⟨e0, he0, _⟩ := expire_entry hk
    exact hp k e0 he0
  | tick down => exact entries_of_shrinks hp (tick_shrinks s down)

theorem step_noBehind (c : Cfg) {pl : CKey → Nat} (hc : c.place = pl) {s : St} (hp : NoBehind s)
    (hpl : Entries (fun k _ => k.1 = pl k.2) s) (op : Op) (hok : OpOk s op) : NoBehind (step c s op).1 := by
  subst hc
  cases op with
  | take pk j m dbf => exact entries_of_wrote hp (takeP_loads c s pk j m dbf) fun _ _ h => Or.inl h.origin
  | qindex a j m dbf => exact entries_of_wrote hp (qindex_loads c s a j m dbf) fun _ _ h => Or.inl h.origin
  | get k m => exact entries_of_wrote hp (getOp_wrote (W := fun _ _ => False) c s k m) fun _ _ h => h.elim
  | exec ks w m dbf =>
    intro k e hk
    obtain ⟨e0, he0, _, _, h | ⟨_, hne, h⟩⟩ := execOp_entry hk
    · rw [h]; exact hp k e0 he0
    · -- the view of the key changed: the Exec names it, and the entry sits on the key's node
      rw [if_pos ⟨hok k.2 hne, (hpl k e0 he0).symm⟩] at h
      exact Or.inr h
  | del ks m => exact entries_of_shrinks hp (delOp_step c s ks m).shr
  | set k v e j m => exact absurd hok id
  | raw k v t => exact absurd hok id
  | ft ms =>
    intro k e hk
    obtain ⟨e0, he0, _, ho, _⟩ := expire_entry hk
    rw [ho]; exact hp k e0 he0
  | tick down => exact entries_of_shrinks hp (tick_shrinks s down)

def Proviso (c : Cfg) : St → List Op → Prop
  | _, [] => True
  | s, op :: ops => OpOk s op ∧ Proviso c (step c s op).1 ops

end GoZero.C06
