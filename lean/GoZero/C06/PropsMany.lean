/-
C06 — ONE theorem about concurrent readers of many keys on many nodes (ManyKeys.lean): the coherence
invariant of the store and the single-loader clause together, for any number of goroutines, any assignment of
keys / instances (each with its own cache.Options) / faults / jitter draws to goroutines, every dispatch function
and Redis type, and EVERY schedule, started after any sequential history `pre` of operations through any instances.
-/
import GoZero.C06.ManyKeys
import GoZero.C06.PropsInstances
namespace GoZero.C06.Many

/-- every reachable state of the concurrent system
  (1) has the store of a SEQUENTIAL history: `pre` followed by one Take per finished flight (`x.hist`);
  (2) hence satisfies the coherence invariant on every node (a loaded entry whose key's view did not change
      equals the database);
  (3) every reader that returned holds the result of a sequential Take OF ITS OWN KEY somewhere in that history
      (which of them is not said), never another key's;
  (4) at most one goroutine per key is inside the load (GET … database query … SET). -/
theorem concurrent_readers_of_many_keys_on_many_nodes (cs : Nat → Cfg) (inst key : Nat → Nat) (env : Nat → In)
    (pre : List (Nat × Op)) (x : MSt) (h : MReach cs inst key env (runI cs St.init pre) x) :
    x.store = runI cs St.init (pre ++ x.hist)
    ∧ Coh x.store
    ∧ (∀ t, x.fl.pc t = 4 → ∃ v, x.fl.got t = some v ∧ Expl cs (runI cs St.init pre) x.hist (key t) v)
    ∧ (∀ t u, x.fl.pc t = 2 → x.fl.pc u = 2 → key t = key u → t = u) := by
  have i := minv_reachable h
  have hst : x.store = runI cs St.init (pre ++ x.hist) := by rw [runI_append]; exact i.store
  refine ⟨hst, ?_, ?_, ?_⟩
  · rw [hst]; exact coherence_invariant_instances cs (pre ++ x.hist)
  · exact fun t ht => i.fl.got ht
  · exact fun t u ht hu hk => i.fl.one_leader_per_key ht hu hk

/-- … in particular a reader's result is what the model's `takeP` returns on a store of the sequential history:
every theorem about sequential Takes (served_from_cache, db_errors_not_cached, cache_failure_fails_fast,
coherent_reads_partial_instances, ttl …) applies to it. -/
theorem concurrent_result_is_a_sequential_take (cs : Nat → Cfg) (inst key : Nat → Nat) (env : Nat → In)
    (pre : List (Nat × Op)) (x : MSt) (h : MReach cs inst key env (runI cs St.init pre) x) (t : Nat) (ht : x.fl.pc t = 4) :
    ∃ (h1 : List (Nat × Op)) (i j : Nat) (m : List Bool) (d : Bool) (v : Res), x.fl.got t = some v ∧
      v = (takeP (cs i) (runI cs St.init (pre ++ h1)) (key t) j m d).2.res := by
  obtain ⟨v, hv, h1, _, i, j, m, d, _, he⟩ := (concurrent_readers_of_many_keys_on_many_nodes cs inst key env pre x h).2.2.1 t ht
  exact ⟨h1, i, j, m, d, v, hv, by rw [he, runI_append]; rfl⟩

/-- executable schedule runner (non-vacuity). -/
def mrun (cs : Nat → Cfg) (inst key : Nat → Nat) (env : Nat → In) : MSt → List Nat → Option MSt
  | x, [] => some x
  | x, t :: ts => match mstep cs inst key env x t with
    | some x' => mrun cs inst key env x' ts
    | none => none

theorem mrun_reachable {cs : Nat → Cfg} {inst key : Nat → Nat} {env : Nat → In} {s0 : St} {x x' : MSt}
    (h : MReach cs inst key env s0 x) (ts : List Nat) (hr : mrun cs inst key env x ts = some x') : MReach cs inst key env s0 x' := by
  induction ts generalizing x with
  | nil => simp [mrun] at hr; subst hr; exact h
  | cons t ts ih =>
    simp only [mrun] at hr
    split at hr
    · rename_i x1 h1; exact ih (.step t h h1) hr
    · cases hr

/-- non-vacuity: two keys on two nodes, three goroutines (0 and 1 read key 0, 2 reads key 1), goroutine 1 joins the
flight of 0; all return. -/
example : ∃ x, MReach (fun _ => { exp := 20000, nf := 3000, place := fun k => if k = .p 1 then 1 else 0 })
      (fun _ => 0) (fun t => if t = 2 then 1 else 0) (fun _ => {}) St.init x
    ∧ x.fl.pc 0 = 4 ∧ x.fl.pc 1 = 4 ∧ x.fl.pc 2 = 4 ∧ x.hist.length = 2 := by
  have hw : ((mrun (fun _ => { exp := 20000, nf := 3000, place := fun k => if k = .p 1 then 1 else 0 })
      (fun _ => 0) (fun t => if t = 2 then 1 else 0) (fun _ => {}) ⟨St.init, Calls.St.init, []⟩ [0, 1, 2, 0, 2, 2, 0, 1]).map
        fun x => (x.fl.pc 0, x.fl.pc 1, x.fl.pc 2, x.hist.length)) = some (4, 4, 4, 2) := by decide
  obtain ⟨x, hr, hw⟩ := Option.map_eq_some_iff.mp hw
  simp only [Prod.mk.injEq] at hw
  exact ⟨x, mrun_reachable .init _ hr, hw⟩

end GoZero.C06.Many
