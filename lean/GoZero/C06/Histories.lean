/-
C06 — histories.  `runI cs` runs a history in which every operation goes through one of several instances over the
same servers (`cs i` = the configuration of instance `i`); `run c` is the history of a single instance
(`run_eq_runI`).  The invariants of the store hold along every history: each is stated for `runI`, and a single
instance is the special case.
-/
import GoZero.C06.Provenance
import GoZero.C06.Reads
import GoZero.C06.Ttl
namespace GoZero.C06

/-- a history over several instances: operation `op` goes through instance `i` (configuration `cs i`). -/
def runI (cs : Nat → Cfg) (s : St) : List (Nat × Op) → St
  | [] => s
  | iop :: ops => runI cs (step (cs iop.1) s iop.2).1 ops

/-- all instances are built over the same servers: they dispatch every key alike. -/
def SameServers (cs : Nat → Cfg) (pl : CKey → Nat) : Prop := ∀ i, (cs i).place = pl

def ProvisoI (cs : Nat → Cfg) : St → List (Nat × Op) → Prop
  | _, [] => True
  | s, iop :: ops => OpOk s iop.2 ∧ ProvisoI cs (step (cs iop.1) s iop.2).1 ops

theorem run_eq_runI (c : Cfg) (s : St) (ops : List Op) :
    run c s ops = runI (fun _ => c) s (ops.map fun op => (0, op)) := by
  induction ops generalizing s with
  | nil => rfl
  | cons op ops ih => exact ih _

theorem proviso_iff (c : Cfg) (s : St) (ops : List Op) :
    Proviso c s ops ↔ ProvisoI (fun _ => c) s (ops.map fun op => (0, op)) := by
  induction ops generalizing s with
  | nil => exact Iff.rfl
  | cons op ops ih => exact and_congr Iff.rfl (ih _)

/-- what every operation admitted by `L` preserves, through whichever instance, holds along every history of such
operations. -/
theorem runI_induction {P : St → Prop} {L : Op → Prop} (cs : Nat → Cfg)
    (hstep : ∀ i s op, L op → P s → P (step (cs i) s op).1) :
    ∀ (ops : List (Nat × Op)) (s : St), (∀ iop ∈ ops, L iop.2) → P s → P (runI cs s ops)
  | [], _, _, h => h
  | iop :: ops, s, hl, h =>
    runI_induction cs hstep ops _ (fun x hx => hl x (List.mem_cons_of_mem _ hx))
      (hstep iop.1 s iop.2 (hl iop List.mem_cons_self) h)

theorem runI_coh (cs : Nat → Cfg) (ops : List (Nat × Op)) : Coh (runI cs St.init ops) :=
  runI_induction (P := Coh) (L := fun _ => True) cs (fun i _ op _ h => step_coh (cs i) h op) ops _ (fun _ _ => trivial) init_coh

theorem runI_prov (cs : Nat → Cfg) (ops : List (Nat × Op)) : Prov (runI cs St.init ops) :=
  runI_induction (P := Prov) (L := fun _ => True) cs (fun i _ op _ h => step_prov (cs i) h op) ops _ (fun _ _ => trivial)
    fun k e hk => by simp [St.init] at hk

theorem runI_placed {cs : Nat → Cfg} {pl : CKey → Nat} (hs : SameServers cs pl) (ops : List (Nat × Op)) :
    Entries (fun k _ => k.1 = pl k.2) (runI cs St.init ops) :=
  runI_induction (P := Entries fun k _ => k.1 = pl k.2) (L := fun _ => True) cs (fun i _ op _ h => step_placed (hs i) h op) ops _ (fun _ _ => trivial)
    (entries_init _)

theorem runI_finite (cs : Nat → Cfg) (hc : ∀ i, 0 < (cs i).exp ∧ 0 < (cs i).nf) (ops : List (Nat × Op))
    (hl : ∀ iop ∈ ops, OpLegal iop.2) : Finite (runI cs St.init ops) :=
  runI_induction (P := Finite) cs (fun i _ op hl h => step_finite (cs i) (hc i) h op hl) ops _ hl (entries_init _)

theorem runI_noBehind {cs : Nat → Cfg} {pl : CKey → Nat} (hs : SameServers cs pl) (ops : List (Nat × Op)) :
    ∀ s, NoBehind s → Entries (fun k _ => k.1 = pl k.2) s → ProvisoI cs s ops → NoBehind (runI cs s ops) := by
  induction ops with
  | nil => exact fun s h _ _ => h
  | cons iop ops ih =>
    intro s h hpl hp
    exact ih _ (step_noBehind (cs iop.1) (hs iop.1) h hpl iop.2 hp.1) (step_placed (hs iop.1) hpl iop.2) hp.2

/-- in a state reached under the proviso, a Take whose GET and database call do not fail returns what the database
holds, unless the entry it finds survived a failed DEL of an Exec: then a retry of that DEL is pending or was given up. -/
theorem takeP_coherent_or_stale (c : Cfg) {s : St} (hc : Coh s) (hp : Prov s) (hn : NoBehind s) (pk j : Nat)
    (m : List Bool) (hf : failAt m 0 = false) :
    (takeP c s pk j m false).2.res = Spec.expected s (.p pk)
    ∨ ∃ e, s.cache (c.slot (.p pk)) = some e ∧ e.origin = .stale ∧ (Pending s (c.slot (.p pk)) ∨ 0 < s.gaveUp) := by
  by_cases hs : ∃ e, s.cache (c.slot (.p pk)) = some e ∧ e.origin = .stale
  · obtain ⟨e, he, ho⟩ := hs
    exact Or.inr ⟨e, he, ho, hp _ e he ho⟩
  · exact Or.inl (takeP_coherent c hc pk j m
      (fun e he => (hn _ e he).resolve_right fun h => hs ⟨e, he, h⟩) hf)

/-- index path: the carve-out is wider than for a Take — SOME entry of the store is stale, not necessarily one of the two
this read consults. -/
theorem qindex_coherent_or_stale (c : Cfg) {s : St} (hc : Coh s) (hp : Prov s) (hn : NoBehind s) (a j : Nat)
    (m : List Bool) (hm : ∀ i, failAt m i = false) :
    (qindex c s a j m false).2.res = Spec.expected s (.x a)
    ∨ ∃ k e, s.cache k = some e ∧ e.origin = .stale ∧ (Pending s k ∨ 0 < s.gaveUp) := by
  by_cases hs : ∃ k e, s.cache k = some e ∧ e.origin = .stale
  · obtain ⟨k, e, he, ho⟩ := hs
    exact Or.inr ⟨k, e, he, ho, hp _ e he ho⟩
  · exact Or.inl (qindex_coherent c hc a j m
      (fun e he => (hn _ e he).resolve_right fun h => hs ⟨_, e, he, h⟩)
      (fun _ _ e' _ _ he' => (hn _ e' he').resolve_right fun h => hs ⟨_, e', he', h⟩) hm)

end GoZero.C06
