/-
C06 — the CALL OBJECTS of a flight group (core/syncx/singleflight.go), for SEVERAL keys at once.

`Flight.lean` numbers the calls of one key (`gen`) and so assumes what `createCall` does with `c = new(call)`:
every flight has a call object of its own that nobody else ever writes.  This file makes the object explicit:

  g.calls            `calls : key → Option ref`
  *call              `heap ref = { val, pending }`  (`c.val, c.err` and the WaitGroup counter) + ghost fields:
                     the key / flight number / leader the object was last registered for
  new(call)          `Alloc.fresh`: a reference that was never handed out (`next`)
  a pooled object    `Alloc.pooled`: the object most recently released by a finished flight, if any (what a
                     `sync.Pool` per P hands back) — NOT what the code does; kept to state what goes wrong

  pc 0  createCall under g.lock: a call is registered for my key → remember it in `c`, wait (pc 3);
        else allocate `c`, `c.wg.Add(1)`, `g.calls[key] = c` (leader, pc 1)
  pc 1  leader inside fn: the database query starts                                              (pc 2)
  pc 2  fn returns `q key flight`; makeCall: `c.val, c.err = …`; deferred `delete(g.calls, key)`, `c.wg.Done()`
        (pooled: the object goes back to the pool); DoEx returns `c.val`                        (pc 4)
  pc 3  follower: `c.wg.Wait()` returns once the counter of THE OBJECT IT HOLDS is zero; DoEx returns `c.val`
        read from that object                                                                    (pc 4)
`key t` is the key goroutine `t` reads (a goroutine that reads two keys one after the other is two `t`s);
`q k f` is the environment: what the database answers to the query of flight number `f` for key `k`.
-/
namespace GoZero.C06.Calls

inductive Alloc where
  | fresh
  | pooled
  deriving DecidableEq, Repr

structure Call (α : Type) where
  val     : Option α := none
  pending : Bool := false
  key     : Nat := 0      -- ghost: the key the object was last registered for
  flight  : Nat := 0      -- ghost: the number of that flight
  leader  : Nat := 0      -- ghost: the goroutine that registered it

structure St (α : Type) where
  pc      : Nat → Nat
  calls   : Nat → Option Nat
  heap    : Nat → Call α
  next    : Nat
  pool    : List Nat
  flights : Nat
  ref     : Nat → Nat
  got     : Nat → Option α
  queries : Nat → Nat

def upd {β : Type} (f : Nat → β) (t : Nat) (v : β) : Nat → β := fun u => if u = t then v else f u

def St.init {α : Type} : St α :=
  { pc := fun _ => 0, calls := fun _ => none, heap := fun _ => {}, next := 0, pool := [], flights := 0,
    ref := fun _ => 0, got := fun _ => none, queries := fun _ => 0 }

variable {α : Type}

/-- the object `createCall` registers. -/
def pickRef (a : Alloc) (s : St α) : Nat :=
  match a with
  | .fresh => s.next
  | .pooled => match s.pool with
    | r :: _ => r
    | [] => s.next

def restPool (a : Alloc) (s : St α) : List Nat :=
  match a with
  | .fresh => s.pool
  | .pooled => s.pool.tail

def release (a : Alloc) (s : St α) (r : Nat) : List Nat :=
  match a with
  | .fresh => s.pool
  | .pooled => r :: s.pool

def step (a : Alloc) (key : Nat → Nat) (q : Nat → Nat → α) (s : St α) (t : Nat) : Option (St α) :=
  match s.pc t with
  | 0 => match s.calls (key t) with
    | some r => some { s with pc := upd s.pc t 3, ref := upd s.ref t r }
    | none =>
      some { s with pc := upd s.pc t 1, ref := upd s.ref t (pickRef a s),
                    calls := upd s.calls (key t) (some (pickRef a s)),
                    heap := upd s.heap (pickRef a s) { val := none, pending := true, key := key t, flight := s.flights, leader := t },
                    next := if pickRef a s = s.next then s.next + 1 else s.next,
                    pool := restPool a s, flights := s.flights + 1 }
  | 1 => some { s with pc := upd s.pc t 2, queries := upd s.queries (key t) (s.queries (key t) + 1) }
  | 2 => some { s with pc := upd s.pc t 4, calls := upd s.calls (key t) none,
                       heap := upd s.heap (s.ref t) { s.heap (s.ref t) with val := some (q (key t) (s.heap (s.ref t)).flight), pending := false },
                       pool := release a s (s.ref t),
                       got := upd s.got t (some (q (key t) (s.heap (s.ref t)).flight)) }
  | 3 => if (s.heap (s.ref t)).pending then none
         else some { s with pc := upd s.pc t 4, got := upd s.got t (s.heap (s.ref t)).val }
  | _ => none

inductive Reachable (a : Alloc) (key : Nat → Nat) (q : Nat → Nat → α) : St α → Prop
  | init : Reachable a key q St.init
  | step {s s' : St α} (t : Nat) : Reachable a key q s → step a key q s t = some s' → Reachable a key q s'

/-- run a schedule (executable; used by the witness). -/
def run (a : Alloc) (key : Nat → Nat) (q : Nat → Nat → α) : St α → List Nat → Option (St α)
  | s, [] => some s
  | s, t :: ts => match step a key q s t with
    | some s' => run a key q s' ts
    | none => none

theorem run_reachable {a : Alloc} {key : Nat → Nat} {q : Nat → Nat → α} {s s' : St α} (h : Reachable a key q s)
    (ts : List Nat) (hr : run a key q s ts = some s') : Reachable a key q s' := by
  induction ts generalizing s with
  | nil => simp [run] at hr; subst hr; exact h
  | cons t ts ih =>
    simp only [run] at hr
    split at hr
    · rename_i s1 h1; exact ih (.step t h h1) hr
    · cases hr

/-! ### a query function that does not return (it PANICS, or calls runtime.Goexit)

`fn` of goroutine `t` does not return iff `abort t`.  What the code does then (makeCall, `c.val, c.err = fn()`
is never executed, the deferred function runs): `delete(g.calls, key)`, `c.wg.Done()` — the object keeps
`c.val = nil, c.err = nil`.  The leader's panic (or Goexit) travels on up its own stack (pc 5).  A follower
parked on that object returns `(nil, false, nil)` from DoEx; back in `cacheNode.doTake` `err == nil`, `fresh ==
false`, so it reaches `jsonx.Unmarshal(val.([]byte), v)` and the type assertion on a nil interface PANICS in the
follower with an interface-conversion runtime error (pc 6) — not with the leader's panic value, and also when the
leader merely called Goexit. -/
def stepA (abort : Nat → Bool) (key : Nat → Nat) (q : Nat → Nat → α) (s : St α) (t : Nat) : Option (St α) :=
  match s.pc t with
  | 0 => match s.calls (key t) with
    | some r => some { s with pc := upd s.pc t 3, ref := upd s.ref t r }
    | none =>
      some { s with pc := upd s.pc t 1, ref := upd s.ref t s.next,
                    calls := upd s.calls (key t) (some s.next),
                    heap := upd s.heap s.next { val := none, pending := true, key := key t, flight := s.flights, leader := t },
                    next := s.next + 1, flights := s.flights + 1 }
  | 1 => some { s with pc := upd s.pc t 2, queries := upd s.queries (key t) (s.queries (key t) + 1) }
  | 2 =>
    if abort t then
      some { s with pc := upd s.pc t 5, calls := upd s.calls (key t) none,
                    heap := upd s.heap (s.ref t) { s.heap (s.ref t) with pending := false } }
    else
      some { s with pc := upd s.pc t 4, calls := upd s.calls (key t) none,
                    heap := upd s.heap (s.ref t) { s.heap (s.ref t) with val := some (q (key t) (s.heap (s.ref t)).flight), pending := false },
                    got := upd s.got t (some (q (key t) (s.heap (s.ref t)).flight)) }
  | 3 =>
    if (s.heap (s.ref t)).pending then none
    else if (s.heap (s.ref t)).val.isNone then some { s with pc := upd s.pc t 6 }   -- val.([]byte) on nil: panic
    else some { s with pc := upd s.pc t 4, got := upd s.got t (s.heap (s.ref t)).val }
  | _ => none

inductive ReachableA (abort : Nat → Bool) (key : Nat → Nat) (q : Nat → Nat → α) : St α → Prop
  | init : ReachableA abort key q St.init
  | step {s s' : St α} (t : Nat) : ReachableA abort key q s → stepA abort key q s t = some s' → ReachableA abort key q s'

def runA (abort : Nat → Bool) (key : Nat → Nat) (q : Nat → Nat → α) : St α → List Nat → Option (St α)
  | s, [] => some s
  | s, t :: ts => match stepA abort key q s t with
    | some s' => runA abort key q s' ts
    | none => none

/-
FULL STATEMENT for aborting leaders (NOT proven; only its single transitions and witness schedules are):
  for every state reachable by `stepA`: the call-object invariant of `InvObj` holds, a finished object holds EITHER the
  answer of its flight's query OR nothing (its leader aborted); whoever returned (pc 4) holds an answer of a query of
  its key; a leader that aborted is at pc 5, a follower that ran into the nil value at pc 6, and neither holds a result.
Proven below: `aborting_leader_releases_the_key`, `follower_of_an_aborted_flight_panics`; in PropsCalls.lean the
schedules `aborting_leader_witness`, `returning_leader_same_schedule`.
No theorem relates `stepA` to `step` / `stepV` either: with `abort = fun _ => false` it differs from `step .fresh` only in
the nil test at pc 3 — seen by inspection, not proved.
-/

/-- the leader whose fn does not return: the call is removed from the map and the object released with
`c.val = nil` (the deferred function of makeCall), the leader itself leaves by its panic / Goexit. -/
theorem aborting_leader_releases_the_key (abort : Nat → Bool) (key : Nat → Nat) (q : Nat → Nat → α) (s : St α) (t : Nat)
    (hpc : s.pc t = 2) (ha : abort t = true) :
    ∃ s', stepA abort key q s t = some s' ∧ s'.calls (key t) = none ∧ (s'.heap (s.ref t)).pending = false
      ∧ (s'.heap (s.ref t)).val = (s.heap (s.ref t)).val ∧ s'.pc t = 5 ∧ s'.got t = s.got t := by
  refine ⟨_, by unfold stepA; rw [hpc]; simp only [ha, if_true]; rfl, ?_⟩
  simp [upd]

/-- a follower parked on an object that was released WITHOUT a value runs into doTake's `val.([]byte)` on a nil
interface: it panics (pc 6) — it neither returns a value nor the leader's panic value. -/
theorem follower_of_an_aborted_flight_panics (abort : Nat → Bool) (key : Nat → Nat) (q : Nat → Nat → α) (s : St α) (t : Nat)
    (hpc : s.pc t = 3) (hd : (s.heap (s.ref t)).pending = false) (hv : (s.heap (s.ref t)).val = none) :
    ∃ s', stepA abort key q s t = some s' ∧ s'.pc t = 6 ∧ s'.got t = s.got t ∧ s'.calls = s.calls := by
  refine ⟨_, by unfold stepA; rw [hpc]; simp only [hd, hv]; rfl, ?_⟩
  simp [upd]

/-! ### the flight group with the published value supplied from OUTSIDE (for the composition with the
store model, ManyKeys.lean): `stepV v` is `step .fresh` with `v` in place of the oracle's answer (`step_fresh`).
The invariant `InvObj G` is proved for `stepV`, for an arbitrary predicate `G key flight value` on what is published;
its two uses are `InvG` (a predicate on key and value: the store composition) and `Inv` (the oracle: `v = q k f`). -/
def stepV (key : Nat → Nat) (v : α) (s : St α) (t : Nat) : Option (St α) :=
  match s.pc t with
  | 0 => match s.calls (key t) with
    | some r => some { s with pc := upd s.pc t 3, ref := upd s.ref t r }
    | none =>
      some { s with pc := upd s.pc t 1, ref := upd s.ref t s.next,
                    calls := upd s.calls (key t) (some s.next),
                    heap := upd s.heap s.next { val := none, pending := true, key := key t, flight := s.flights, leader := t },
                    next := s.next + 1, flights := s.flights + 1 }
  | 1 => some { s with pc := upd s.pc t 2, queries := upd s.queries (key t) (s.queries (key t) + 1) }
  | 2 => some { s with pc := upd s.pc t 4, calls := upd s.calls (key t) none,
                       heap := upd s.heap (s.ref t) { s.heap (s.ref t) with val := some v, pending := false },
                       got := upd s.got t (some v) }
  | 3 => if (s.heap (s.ref t)).pending then none
         else some { s with pc := upd s.pc t 4, got := upd s.got t (s.heap (s.ref t)).val }
  | _ => none

/-- The invariant of `new(call)`, with what a flight publishes left open: `G k f v` says that `v` is an admissible
result of flight number `f` of key `k`.  A registered object belongs to the flight of its key and is still pending
(`reg`), its leader is inside fn holding it (`own`, `lead`); a follower holds an object that was registered for ITS
key; a finished object holds an admissible result of its flight; whoever returned holds a finished object of its key
and what that object holds. -/
structure InvObj (key : Nat → Nat) (G : Nat → Nat → α → Prop) (s : St α) : Prop where
  reg    : ∀ k r, s.calls k = some r → r < s.next ∧ (s.heap r).key = k ∧ (s.heap r).pending = true
  own    : ∀ k r, s.calls k = some r →
             (s.pc (s.heap r).leader = 1 ∨ s.pc (s.heap r).leader = 2) ∧ s.ref (s.heap r).leader = r ∧ key (s.heap r).leader = k
  lead   : ∀ t, (s.pc t = 1 ∨ s.pc t = 2) → s.calls (key t) = some (s.ref t) ∧ (s.heap (s.ref t)).leader = t
  wait   : ∀ t, s.pc t = 3 → s.ref t < s.next ∧ (s.heap (s.ref t)).key = key t
  done   : ∀ r, r < s.next → (s.heap r).pending = false →
             ∃ v, (s.heap r).val = some v ∧ G (s.heap r).key (s.heap r).flight v
  ret    : ∀ t, s.pc t = 4 → s.ref t < s.next ∧ (s.heap (s.ref t)).key = key t ∧ (s.heap (s.ref t)).pending = false ∧
             s.got t = (s.heap (s.ref t)).val

theorem invObj_init (key : Nat → Nat) (G : Nat → Nat → α → Prop) : InvObj key G (St.init : St α) := by
  refine ⟨?_, ?_, ?_, ?_, ?_, ?_⟩ <;> simp [St.init]

theorem invObj_mono {key : Nat → Nat} {G G' : Nat → Nat → α → Prop} {s : St α} (hm : ∀ k f v, G k f v → G' k f v)
    (h : InvObj key G s) : InvObj key G' s :=
  ⟨h.reg, h.own, h.lead, h.wait, fun r hr hp => (h.done r hr hp).imp fun _ hv => ⟨hv.1, hm _ _ _ hv.2⟩, h.ret⟩

theorem InvObj.got {key : Nat → Nat} {G : Nat → Nat → α → Prop} {s : St α} (h : InvObj key G s) {t : Nat}
    (ht : s.pc t = 4) : ∃ v, s.got t = some v ∧ G (key t) (s.heap (s.ref t)).flight v := by
  obtain ⟨hr, hk, hp, hg⟩ := h.ret t ht
  obtain ⟨v, hv, hG⟩ := h.done _ hr hp
  exact ⟨v, hg.trans hv, hk ▸ hG⟩

/-- two leaders inside the query of one key are one goroutine: both own the object registered for the key. -/
theorem InvObj.one_leader_per_key {key : Nat → Nat} {G : Nat → Nat → α → Prop} {s : St α} (h : InvObj key G s) {t u : Nat}
    (ht : s.pc t = 2) (hu : s.pc u = 2) (hk : key t = key u) : t = u := by
  have a := h.lead t (Or.inr ht)
  have b := h.lead u (Or.inr hu)
  rw [hk, b.1] at a
  rw [← a.2, ← b.2, Option.some.inj a.1]

/-- What one step of goroutine `t` does to everybody else: the other goroutines keep pc, object and result; no object is
freed; an allocated object keeps the key and leader it was registered for, and is written only by the leader leaving fn, which
writes the object it holds; the map changes at `t`'s key only, when `t` registers there or leaves fn. -/
theorem stepV_effect {key : Nat → Nat} {v : α} {s s' : St α} {t : Nat} (hs : stepV key v s t = some s') :
    (∀ u, u ≠ t → s'.pc u = s.pc u ∧ s'.ref u = s.ref u ∧ s'.got u = s.got u) ∧ s.next ≤ s'.next ∧
    (∀ r, r < s.next → (s'.heap r).key = (s.heap r).key ∧ (s'.heap r).leader = (s.heap r).leader ∧
      (s'.heap r = s.heap r ∨ s.pc t = 2 ∧ r = s.ref t)) ∧
    (∀ k, s'.calls k = s.calls k ∨ k = key t ∧ (s.pc t = 0 ∧ s.calls k = none ∨ s.pc t = 2)) := by
  unfold stepV at hs
  split at hs <;> (try split at hs) <;> cases hs <;> simp_all [upd] <;> grind

/-- The clauses of a goroutine that does not move survive every step: what they say of its object are facts that no step
changes (the object is allocated; its key and leader; a finished object is frozen), and the call of its key is
unregistered only by its own leader. -/
theorem InvObj.others {key : Nat → Nat} {G : Nat → Nat → α → Prop} {v : α} {s s' : St α} {t u : Nat} (h : InvObj key G s)
    (hs : stepV key v s t = some s') (hut : u ≠ t) :
    ((s'.pc u = 1 ∨ s'.pc u = 2) → s'.calls (key u) = some (s'.ref u) ∧ (s'.heap (s'.ref u)).leader = u) ∧
    (s'.pc u = 3 → s'.ref u < s'.next ∧ (s'.heap (s'.ref u)).key = key u) ∧
    (s'.pc u = 4 → s'.ref u < s'.next ∧ (s'.heap (s'.ref u)).key = key u ∧ (s'.heap (s'.ref u)).pending = false ∧
      s'.got u = (s'.heap (s'.ref u)).val) := by
  obtain ⟨hf, hn, hh, hc⟩ := stepV_effect hs
  rw [(hf u hut).1, (hf u hut).2.1, (hf u hut).2.2]
  refine ⟨fun hu => ?_, fun hu => ?_, fun hu => ?_⟩
  · obtain ⟨a, b⟩ := h.lead u hu
    refine ⟨?_, (hh _ (h.reg _ _ a).1).2.1.trans b⟩
    rcases hc (key u) with e | ⟨e, ⟨_, e'⟩ | e'⟩
    · exact e.trans a
    · rw [e'] at a; cases a
    · have c := h.lead t (Or.inr e')
      rw [← e, a] at c
      exact absurd (b.symm.trans ((congrArg (fun r => (s.heap r).leader) (Option.some.inj c.1)).trans c.2)) hut
  · obtain ⟨a, b⟩ := h.wait u hu
    exact ⟨Nat.lt_of_lt_of_le a hn, (hh _ a).1.trans b⟩
  · obtain ⟨a, b, c, d⟩ := h.ret u hu
    rcases (hh _ a).2.2 with e | ⟨e, e'⟩
    · rw [e]; exact ⟨Nat.lt_of_lt_of_le a hn, b, c, d⟩
    · have := (h.reg _ _ (h.lead t (Or.inr e)).1).2.2
      rw [← e', c] at this; cases this

/-- The call registered for a key other than `t`'s stays as it is: its object is not the one `t` writes (that one is
registered for `t`'s key) and its leader is not `t`. -/
theorem InvObj.otherKeys {key : Nat → Nat} {G : Nat → Nat → α → Prop} {v : α} {s s' : St α} {t k r : Nat} (h : InvObj key G s)
    (hs : stepV key v s t = some s') (hkt : k ≠ key t) (hk : s'.calls k = some r) :
    (r < s'.next ∧ (s'.heap r).key = k ∧ (s'.heap r).pending = true) ∧
    (s'.pc (s'.heap r).leader = 1 ∨ s'.pc (s'.heap r).leader = 2) ∧ s'.ref (s'.heap r).leader = r ∧ key (s'.heap r).leader = k := by
  obtain ⟨hf, hn, hh, hc⟩ := stepV_effect hs
  rw [(hc k).resolve_right fun x => hkt x.1] at hk
  obtain ⟨a, b, c⟩ := h.reg k r hk
  obtain ⟨d, e, f⟩ := h.own k r hk
  have hl : (s.heap r).leader ≠ t := fun x => hkt (by rw [← f, x])
  rw [(hh r a).2.1, (hf _ hl).1, (hf _ hl).2.1]
  refine ⟨⟨Nat.lt_of_lt_of_le a hn, (hh r a).1.trans b, ?_⟩, d, e, f⟩
  rcases (hh r a).2.2 with x | ⟨x, y⟩
  · rw [x]; exact c
  · have z := h.lead t (Or.inr x)
    rw [← y] at z
    exact absurd ((h.reg _ _ z.1).2.1.symm.trans b) (Ne.symm hkt)

/-- Everybody and every key but `t`'s are carried by `others` / `otherKeys`; left per transition: the call of `t`'s key,
`t` in its new place, the finished objects. -/
theorem invObj_step {key : Nat → Nat} {G : Nat → Nat → α → Prop} {v : α} {s s' : St α} {t : Nat} (h : InvObj key G s)
    (hv : s.pc t = 2 → G (key t) (s.heap (s.ref t)).flight v) (hs : stepV key v s t = some s') : InvObj key G s' := by
  have ho := fun u (hut : u ≠ t) => h.others hs hut
  have hk := fun k r (hkt : k ≠ key t) => h.otherKeys (k := k) (r := r) hs hkt
  suffices ht : (∀ r, s'.calls (key t) = some r → (r < s'.next ∧ (s'.heap r).key = key t ∧ (s'.heap r).pending = true) ∧
        (s'.pc (s'.heap r).leader = 1 ∨ s'.pc (s'.heap r).leader = 2) ∧ s'.ref (s'.heap r).leader = r ∧ key (s'.heap r).leader = key t) ∧
      (((s'.pc t = 1 ∨ s'.pc t = 2) → s'.calls (key t) = some (s'.ref t) ∧ (s'.heap (s'.ref t)).leader = t) ∧
      (s'.pc t = 3 → s'.ref t < s'.next ∧ (s'.heap (s'.ref t)).key = key t) ∧
      (s'.pc t = 4 → s'.ref t < s'.next ∧ (s'.heap (s'.ref t)).key = key t ∧ (s'.heap (s'.ref t)).pending = false ∧
        s'.got t = (s'.heap (s'.ref t)).val)) ∧
      (∀ r, r < s'.next → (s'.heap r).pending = false → ∃ v, (s'.heap r).val = some v ∧ G (s'.heap r).key (s'.heap r).flight v) by
    have hr : ∀ k r, s'.calls k = some r → _ := fun k r hkr =>
      if e : k = key t then by subst e; exact ht.1 r hkr else hk k r e hkr
    have hu : ∀ u, _ := fun u => if e : u = t then e ▸ ht.2.1 else ho u e
    exact ⟨fun k r x => (hr k r x).1, fun k r x => (hr k r x).2, fun u => (hu u).1, fun u => (hu u).2.1, ht.2.2, fun u => (hu u).2.2⟩
  clear ho hk
  unfold stepV at hs
  split at hs
  · rename_i hpc
    split at hs
    · rename_i r hc
      cases hs
      have a := h.reg _ _ hc
      have b := h.own _ _ hc
      have : (s.heap r).leader ≠ t := fun e => by rw [e] at b; omega
      exact ⟨by simp [upd, hc, this, a, b], by simp [upd, a], h.done⟩
    · rename_i hc
      cases hs
      refine ⟨by simp [upd], by simp [upd], fun r hr hp => ?_⟩
      have : r ≠ s.next := fun e => by simp [upd, e] at hp
      simp only [upd, if_neg this] at hp ⊢
      exact h.done r (by simp at hr; omega) hp
  · rename_i hpc
    cases hs
    have a := h.lead t (Or.inl hpc)
    have b := h.reg _ _ a.1
    exact ⟨by simp [upd, a, b], by simp [upd, a], h.done⟩
  · rename_i hpc
    cases hs
    have a := h.lead t (Or.inr hpc)
    have b := h.reg _ _ a.1
    refine ⟨by simp [upd], by simp [upd, b], fun r hr hp => ?_⟩
    by_cases e : r = s.ref t
    · subst e; simp only [upd, if_true]; exact ⟨v, rfl, b.2.1 ▸ hv hpc⟩
    · simp only [upd, if_neg e] at hp ⊢; exact h.done r hr hp
  · rename_i hpc
    split at hs
    · cases hs
    · rename_i hnp
      cases hs
      have a := h.wait t hpc
      refine ⟨fun r hr => ?_, by simpa [upd, a] using hnp, h.done⟩
      have b := h.reg _ _ hr
      have c := h.own _ _ hr
      have : (s.heap r).leader ≠ t := fun e => by rw [e] at c; omega
      simp [upd, this, b, c]
  · cases hs

theorem step_fresh (key : Nat → Nat) (q : Nat → Nat → α) (s : St α) (t : Nat) :
    step .fresh key q s t = stepV key (q (key t) (s.heap (s.ref t)).flight) s t := by
  unfold step stepV
  simp [pickRef, restPool, release]

/-! ### `InvG` and `Inv`: `InvObj` for the two predicates the development uses — `InvG` for a predicate on key and value (the
store composition, ManyKeys.lean), `Inv` for the oracle (a flight publishes `q k f`) — each with its clauses written out for its
own predicate: what holds of a registered call, a leader, a follower, a finished object and a returned reader.  They are the
statements about the call objects that the C06 entry of MANIFEST.json points at in this file; a proof may as well reach the
clauses of `InvObj` itself, since `InvG` and `Inv` unfold to it. -/

/-- `o` is a published value that satisfies `G` for key `k`. -/
def GO (G : Nat → α → Prop) (k : Nat) (o : Option α) : Prop :=
  match o with
  | some v => G k v
  | none => False

def InvG (key : Nat → Nat) (G : Nat → α → Prop) (s : St α) : Prop := InvObj key (fun k _ v => G k v) s

theorem InvG.reg {key : Nat → Nat} {G : Nat → α → Prop} {s : St α} (self : InvG key G s) :
    ∀ k r, s.calls k = some r → r < s.next ∧ (s.heap r).key = k ∧ (s.heap r).pending = true ∧
      (s.pc (s.heap r).leader = 1 ∨ s.pc (s.heap r).leader = 2) ∧ s.ref (s.heap r).leader = r ∧ key (s.heap r).leader = k :=
  fun k r hk => ⟨(InvObj.reg self k r hk).1, (InvObj.reg self k r hk).2.1, (InvObj.reg self k r hk).2.2, InvObj.own self k r hk⟩

theorem InvG.lead {key : Nat → Nat} {G : Nat → α → Prop} {s : St α} (self : InvG key G s) :
    ∀ t, (s.pc t = 1 ∨ s.pc t = 2) → s.calls (key t) = some (s.ref t) ∧ (s.heap (s.ref t)).leader = t :=
  InvObj.lead self

theorem InvG.wait {key : Nat → Nat} {G : Nat → α → Prop} {s : St α} (self : InvG key G s) :
    ∀ t, s.pc t = 3 → s.ref t < s.next ∧ (s.heap (s.ref t)).key = key t :=
  InvObj.wait self

theorem InvG.done {key : Nat → Nat} {G : Nat → α → Prop} {s : St α} (self : InvG key G s) :
    ∀ r, r < s.next → (s.heap r).pending = false → GO G (s.heap r).key (s.heap r).val := fun r hr hp => by
  obtain ⟨v, hv, hG⟩ := InvObj.done self r hr hp
  rw [hv]; exact hG

theorem InvG.ret {key : Nat → Nat} {G : Nat → α → Prop} {s : St α} (self : InvG key G s) :
    ∀ t, s.pc t = 4 → GO G (key t) (s.got t) := fun t ht => by
  obtain ⟨v, hv, hG⟩ := InvObj.got self ht
  rw [hv]; exact hG

theorem invG_init (key : Nat → Nat) (G : Nat → α → Prop) : InvG key G (St.init : St α) :=
  invObj_init key _

theorem invG_mono {key : Nat → Nat} {G G' : Nat → α → Prop} {s : St α} (hm : ∀ k v, G k v → G' k v) (h : InvG key G s) :
    InvG key G' s :=
  invObj_mono (fun k _ v => hm k v) h

theorem invG_step {key : Nat → Nat} {G : Nat → α → Prop} {v : α} {s s' : St α} {t : Nat} (h : InvG key G s)
    (hv : s.pc t = 2 → G (key t) v) (hs : stepV key v s t = some s') : InvG key G s' :=
  invObj_step h hv hs

def Inv (key : Nat → Nat) (q : Nat → Nat → α) (s : St α) : Prop := InvObj key (fun k f v => v = q k f) s

theorem Inv.reg {key : Nat → Nat} {q : Nat → Nat → α} {s : St α} (self : Inv key q s) :
    ∀ k r, s.calls k = some r → r < s.next ∧ (s.heap r).key = k ∧ (s.heap r).pending = true ∧
      (s.pc (s.heap r).leader = 1 ∨ s.pc (s.heap r).leader = 2) ∧ s.ref (s.heap r).leader = r ∧ key (s.heap r).leader = k :=
  fun k r hk => ⟨(InvObj.reg self k r hk).1, (InvObj.reg self k r hk).2.1, (InvObj.reg self k r hk).2.2, InvObj.own self k r hk⟩

theorem Inv.lead {key : Nat → Nat} {q : Nat → Nat → α} {s : St α} (self : Inv key q s) :
    ∀ t, (s.pc t = 1 ∨ s.pc t = 2) → s.calls (key t) = some (s.ref t) ∧ (s.heap (s.ref t)).leader = t :=
  InvObj.lead self

theorem Inv.wait {key : Nat → Nat} {q : Nat → Nat → α} {s : St α} (self : Inv key q s) :
    ∀ t, s.pc t = 3 → s.ref t < s.next ∧ (s.heap (s.ref t)).key = key t :=
  InvObj.wait self

theorem Inv.done {key : Nat → Nat} {q : Nat → Nat → α} {s : St α} (self : Inv key q s) :
    ∀ r, r < s.next → (s.heap r).pending = false → (s.heap r).val = some (q (s.heap r).key (s.heap r).flight) :=
  fun r hr hp => by
    obtain ⟨v, hv, rfl⟩ := InvObj.done self r hr hp
    exact hv

theorem Inv.ret {key : Nat → Nat} {q : Nat → Nat → α} {s : St α} (self : Inv key q s) :
    ∀ t, s.pc t = 4 → s.ref t < s.next ∧ (s.heap (s.ref t)).key = key t ∧ (s.heap (s.ref t)).pending = false ∧
      s.got t = some (q (key t) (s.heap (s.ref t)).flight) := fun t ht => by
  obtain ⟨hr, hk, hp, _⟩ := InvObj.ret self t ht
  obtain ⟨v, hv, rfl⟩ := InvObj.got self ht
  exact ⟨hr, hk, hp, hv⟩

theorem inv_reachable {key : Nat → Nat} {q : Nat → Nat → α} {s : St α} (h : Reachable .fresh key q s) : Inv key q s := by
  induction h with
  | init => exact invObj_init key _
  | step t _ hs ih => exact invObj_step ih (fun _ => rfl) (step_fresh key q _ t ▸ hs)

/-- a step that is not the leader's last one does not look at the supplied value. -/
theorem stepV_congr (key : Nat → Nat) (v v' : α) (s : St α) (t : Nat) (h : s.pc t ≠ 2) : stepV key v s t = stepV key v' s t := by
  unfold stepV
  split <;> first | rfl | (rename_i hpc; exact absurd hpc h)

/-- how the source obtains the call object, as classified by the extractor (`Extracted.C06.createCallAlloc`). -/
def allocOfSource : List String → Option Alloc
  | ["fresh"] => some .fresh
  | _ => none

/-! ### the witness schedule: what a recycled call object does

goroutines 0 and 1 read key 0, goroutine 2 reads key 1.  0 registers the call of key 0, 1 joins it, 0 runs its
query and finishes (the object is released), 2 registers the call of key 1 — with `pooled` it is handed the
object 1 is still parked on —, runs its query and finishes, and only now 1 is scheduled: it reads `c.val` of the
object it holds. -/
def wKey (t : Nat) : Nat := if t = 2 then 1 else 0
def wQ (k f : Nat) : Nat × Nat := (k, f)
def wSched : List Nat := [0, 1, 0, 0, 2, 2, 2, 1]

end GoZero.C06.Calls
