/-
C06 — the CALLER'S CONTEXT of a Ctx entry point and the work the entry point leaves behind.

  cacheNode.DelCtx(ctx, keys…)     a failed DEL arms a retry: asyncRetryDelCache(keys…) → AddCleanTask(func{ c.rds.Del(keys…) })
  redis.Redis.Del(keys…)           = DelCtx(context.Background(), keys…)
The retry runs on the cleaner's wheel 1 s / 5 s / 1 min / 5 min / 1 h later — long after the writer's request is over.
`Fate` is what becomes of the writer's context, `RetryCtx` which context the retry's DEL is issued with (read from
the source by the extractor: Tie.tie_retryDelCtx).  A Redis command issued with a dead context fails in the
client without reaching the server.
-/
namespace GoZero.C06.Ctx

/-- the writer's context. `deadlineAfter k`: alive during the first `k` cleaner ticks after the call returned. -/
inductive Fate where
  | background
  | cancelledBefore
  | cancelledAfter
  | deadlineAfter (k : Nat)
  deriving DecidableEq, Repr

/-- is the context alive during cleaner tick number `tick` (1-based) after the call returned? -/
def Fate.aliveAt : Fate → Nat → Bool
  | .background, _ => true
  | .cancelledBefore, _ => false
  | .cancelledAfter, _ => false
  | .deadlineAfter k, tick => tick ≤ k

/-- the context the retry's DEL is issued with. -/
inductive RetryCtx where
  | background    -- `c.rds.Del(keys…)` / `DelCtx(context.Background(), …)`
  | captured      -- the ctx of the DelCtx call that armed the retry
  deriving DecidableEq, Repr

/-- does the retry's DEL fail at tick `tick`, given whether its node is down? -/
def retryFails (src : RetryCtx) (f : Fate) (tick : Nat) (down : Bool) : Bool :=
  down || (match src with
    | .background => false
    | .captured => !f.aliveAt tick)

/-- classification of the source (`Extracted.C06.retryDelCtx`): what the retry closure of asyncRetryDelCache
calls on `c.rds`, and with which context. -/
def retrySourceOf : List String → Option RetryCtx
  | ["background"] => some .background
  | _ => none

/-- with a background context the outcome of a retry depends on the node alone. -/
theorem retryFails_background (f : Fate) (tick : Nat) (down : Bool) : retryFails .background f tick down = down := by
  simp [retryFails]

/-- the per-node failure function a tick of the store model runs with, when the task of node `n` was armed by a
writer whose context met fate `fate n` and `age n` ticks have passed. -/
def effDown (src : RetryCtx) (fate : Nat → Fate) (age : Nat → Nat) (down : Nat → Bool) : Nat → Bool :=
  fun n => retryFails src (fate n) (age n) (down n)

theorem effDown_background (fate : Nat → Fate) (age : Nat → Nat) (down : Nat → Bool) :
    effDown .background fate age down = down := by
  funext n; simp [effDown, retryFails]

end GoZero.C06.Ctx
