/-
C06 — the coherence invariant and its preservation by every operation.
-/
import GoZero.C06.Store
namespace GoZero.C06

/-- **Coherence invariant**: an entry whose ghost origin is `loaded` holds exactly what the database holds
for its key (row / primary key / placeholder iff absent). -/
def Coh (s : St) : Prop :=
  ∀ (k : Slot) e, s.cache k = some e → e.origin = .loaded → e.val = dbView s k.2

theorem coh_of_shrinks {s s' : St} (hc : Coh s) (hd : SameDb s s') (hs : Shrinks s s') : Coh s' := by
  intro k e hk ho
  rw [dbView_of_sameDb hd]
  exact hc k e (hs.entry hk) ho

theorem coh_of_wrote {W : Slot → Entry → Prop} {s s' : St} (hc : Coh s) (h : Wrote W s s')
    (hw : ∀ k e, W k e → e.origin = .loaded → e.val = dbView s k.2) : Coh s' := by
  intro k e hk ho
  rw [dbView_of_sameDb h.db]
  rcases h.entry hk with h0 | h0
  · exact hc k e h0 ho
  · exact hw k e h0 ho

/-- after a database write the entries whose key's view changed are no longer `loaded`. -/
theorem markChanged_coh (c : Cfg) {s : St} (hc : Coh s) (w : Write) (ks : List CKey) :
    Coh { applyWrite s w with cache := markChanged c s (applyWrite s w) ks } := by
  intro k e hk ho
  show e.val = dbView (applyWrite s w) k.2
  obtain ⟨e0, he0, hv, _, ⟨ho', hview⟩ | ⟨_, _, ho'⟩⟩ := markChanged_spec hk
  · rw [hv, hview (ho' ▸ ho)]; exact hc k e0 he0 (ho' ▸ ho)
  · rw [ho'] at ho; split at ho <;> cases ho

theorem step_coh (c : Cfg) {s : St} (hc : Coh s) (op : Op) : Coh (step c s op).1 := by
  cases op with
  | take pk j m dbf => exact coh_of_wrote hc (takeP_loads c s pk j m dbf) fun _ _ h _ => h.val
  | qindex a j m dbf => exact coh_of_wrote hc (qindex_loads c s a j m dbf) fun _ _ h _ => h.val
  | get k m => exact coh_of_wrote hc (getOp_wrote (W := fun _ _ => False) c s k m) fun _ _ h => h.elim
  | exec ks w m dbf =>
    simp only [step, execOp]
    split
    · exact hc
    · exact coh_of_shrinks (markChanged_coh c hc w ks) (delOp_step c _ ks m).db (delOp_step c _ ks m).shr
  | del ks m => exact coh_of_shrinks hc (delOp_step c s ks m).db (delOp_step c s ks m).shr
  | set k v e j m => exact coh_of_wrote hc (setOp_wrote c s k v e j m) fun _ _ h ho => by rw [h.2] at ho; cases ho
  | raw k v t => exact coh_of_wrote hc (raw_wrote c s k v t) fun _ _ h ho => by rw [h.2] at ho; cases ho
  | ft ms =>
    intro k e hk ho
    obtain ⟨e0, he0, hv, ho', _⟩ := expire_entry hk
    exact hv ▸ hc k e0 he0 (ho' ▸ ho)
  | tick down => exact coh_of_shrinks hc ⟨rfl, rfl⟩ (tick_shrinks s down)

theorem init_coh : Coh St.init := by
  intro k e hk; simp [St.init] at hk

end GoZero.C06
