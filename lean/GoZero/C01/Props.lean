/-
C01 — the property theorems, clause by clause, with non-vacuity examples where a hypothesis could be empty; short
consequences of the lemmas of Accept, Window, Run and Conc.  The section on histories through the call sites brings its own
definitions (`SOp`, `siteRun`).
-/
import GoZero.C01.Conc
import GoZero.C01.Sites
namespace GoZero.C01

/-! ## admission law -/

/-- **A call is rejected only when, among the calls in the window the breaker looks at, the non-accepted ones
exceed 5 plus 10 % of the accepted ones** — for every breaker state whatsoever (hence every reachable one, after
any history and any interleaving of atomic window operations), every time and every draw.
`overThreshold h` is `10·(total − accepts) > 50 + accepts`. -/
theorem reject_only_if_over_threshold (b : Breaker) (now : Nat) (u : Rat)
    (h : (b.accept now u).1 = .reject) : overThreshold (b.history now) :=
  dropNum_pos_over _ ((accept_reject_iff b now u).mp h).1

/-- the threshold is sharp at the protection margin: 5 failures are never enough, whatever the draw -/
example (u : Rat) : ((((List.replicate 5 Mark.fail).foldl (fun b m => b.mark 7 m) (Breaker.init 7)).accept 7 u).1 = .pass) := by
  have h : (((List.replicate 5 Mark.fail).foldl (fun b m => b.mark 7 m) (Breaker.init 7)).history 7) = ⟨0, 5, 1, 0⟩ := by decide
  rw [accept_pass_iff, h, dropNum_pos_iff_of_no_accepts _ rfl]
  simp

/-- "non-accepted = failures plus rejections": in every bucket the breaker writes, `Sum = Success + Failure + Drop`,
so `total − accepts` of the law above is the number of failed plus dropped calls. -/
theorem bucket_add_balanced (b : Bucket) (m : Mark) (h : b.sum = b.succ + b.fail + b.drop) :
    (b.add m).sum = (b.add m).succ + (b.add m).fail + (b.add m).drop := by
  cases m <;> simp [Bucket.add, Bucket.addCode, Mark.code] <;> omega

/-! ## exact accounting (decision table over entry points × outcomes × verdicts) -/

/-- rejected: the request does not run, the fallback (if any) runs exactly once and its result is returned,
otherwise ErrServiceUnavailable is returned; exactly one drop is recorded. -/
theorem accounting_rejected (e : Entry) (o : Outcome) :
    rejectedOk e (CallObs.ofEvents (doReqEvents .reject e o)) = true := by
  cases e with | mk f c => cases f <;> cases c <;> cases o <;> decide

/-- admitted: the request runs exactly once, no fallback, its error is returned unchanged, exactly one mark:
success iff the acceptability predicate holds; a panic is a failure and is re-raised. -/
theorem accounting_admitted (e : Entry) (o : Outcome) :
    admittedOk e o (CallObs.ofEvents (doReqEvents .pass e o)) = true := by
  cases e with | mk f c => cases f <;> cases c <;> cases o <;> decide

/-- program order of an admitted call: request, then the (deferred) mark, then the return / the re-raised panic. -/
theorem accounting_order (e : Entry) (o : Outcome) :
    doReqEvents .pass e o =
      if o = .panic then [.ranReq, .mark .fail, .repanicked]
      else [.ranReq, .mark (if acceptable e.custom o then .succ else .fail), .returned o.ret] := by
  cases o <;> simp [doReqEvents]

/-- `…Ctx` with a done context: context error, nothing runs, nothing is recorded. -/
theorem accounting_ctx_done : ctxDoneOk (CallObs.ofEvents ctxDoneEvents) = true := by decide

/-- `Allow`: a rejection records exactly one drop, an admission records nothing until the promise is resolved. -/
theorem accounting_allow :
    marksOf (allowEvents .reject) = [.drop] ∧ marksOf (allowEvents .pass) = [] := by decide

/-- `admitMark` is the mark of the sequential decision table -/
theorem admitMark_table (e : Entry) (o : Outcome) : marksOf (doReqEvents .pass e o) = [admitMark e o] := by
  cases e with | mk f c => cases f <;> cases c <;> cases o <;> decide

theorem marksOf_doReqEvents_reject (e : Entry) (o : Outcome) : marksOf (doReqEvents .reject e o) = [.drop] := by
  cases e with | mk f c => cases f <;> rfl

/-- the window after a `Do*` call is the window before it plus exactly the marks of the event list, added at `now`;
`lastPass` moves only on a throttled admission. -/
theorem doReq_state (b : Breaker) (now : Nat) (u : Rat) (e : Entry) (o : Outcome) :
    (b.doReq now u e o).2.rw = (marksOf (b.doReq now u e o).1).foldl (fun w m => w.add now m) b.rw
    ∧ (b.doReq now u e o).2.lastPass = if (b.pathOf now u).setsLastPass then now else b.lastPass := by
  rw [show (b.doReq now u e o).2 = _ from accept_applyMarks b now u _]
  exact ⟨rfl, rfl⟩

/-! ## sustained total failure -/

/-- `(n-5)/(n+1) = 1 - 6/(n+1)`: under total failure all but a `6/(n+1)` fraction of the draws reject -/
theorem total_failure_ratio (n : Nat) : totalFailureRatio n = 1 - 6 / ((n + 1 : Nat) : Rat) := by
  unfold totalFailureRatio
  have hc := Rat.mul_inv_cancel _ (show ((n + 1 : Nat) : Rat) ≠ 0 by exact_mod_cast Nat.succ_ne_zero n)
  rw [Rat.div_def, Rat.div_def]
  push_cast at hc ⊢
  grind

/-- If the window shows total failure (nothing accepted, more than 5 calls) then every call that is not the
forced probe and whose draw is below `(n-5)/(n+1) = 1 − 6/(n+1)` is rejected. -/
theorem total_failure_rejects (b : Breaker) (now : Nat) (u : Rat)
    (ha : (b.history now).accepts = 0) (hn : 5 < (b.history now).total)
    (hprobe : ¬ (b.lastPass > 0 ∧ now - b.lastPass > forcePassNs))
    (hu : u < totalFailureRatio (b.history now).total) :
    (b.accept now u).1 = .reject := by
  refine (accept_reject_iff b now u).mpr ⟨(dropNum_pos_iff_of_no_accepts _ ha).mpr hn, ?_, hprobe⟩
  rw [dropRatio1_total_failure _ ha (summarize_wb _ ha)]
  exact hu

/-- non-vacuity of `total_failure_rejects`: after 12 failing calls recorded within one instant the window shows
accepts = 0, total = 12, and a call with draw 1/2 < 7/13 is rejected -/
example : (((List.replicate 12 Mark.fail).foldl (fun b m => b.mark 9 m) (Breaker.init 9)).accept 9 (1/2)).1 = .reject := by
  have hh : (((List.replicate 12 Mark.fail).foldl (fun b m => b.mark 9 m) (Breaker.init 9)).history 9) = ⟨0, 12, 1, 0⟩ := by decide
  have hl : ((List.replicate 12 Mark.fail).foldl (fun b m => b.mark 9 m) (Breaker.init 9)).lastPass = 0 := by decide
  apply total_failure_rejects
  · rw [hh]
  · rw [hh]; decide
  · rw [hl]; simp
  · rw [hh]
    unfold totalFailureRatio
    push_cast
    grind

/-! ## guaranteed probing -/

/-- state form: whatever the window and the draw, a call arriving more than 1 s after `lastPass` is admitted. -/
theorem probe_after_one_second_state (b : Breaker) (now : Nat) (u : Rat)
    (hp : 0 < b.lastPass) (hgap : b.lastPass + 1000000000 < now) : (b.accept now u).1 = .pass :=
  (accept_pass_iff b now u).mpr fun h => h.2.2 ⟨hp, by unfold forcePassNs; omega⟩

/-- **history form.** After any finite history of calls and time gaps on a breaker created at `t0 > 0`
(`timex.Now()` is positive), if the last admission made while throttling happened at `t` and the next call
arrives more than 1 s later, it is admitted, whatever the draw and the window. -/
theorem probe_after_one_second (t0 : Nat) (ht0 : 0 < t0) (ops : List Op) (t dt : Nat) (u : Rat)
    (hlast : ((Sys.init t0).run ops).lastThrottled = some t)
    (hgap : t + 1000000000 < ((Sys.init t0).run ops).now + dt) :
    ((((Sys.init t0).run ops).b).accept (((Sys.init t0).run ops).now + dt) u).1 = .pass := by
  obtain ⟨_, h2, h3⟩ := Sys.good_run t0 ops
  have := h3 t hlast
  apply probe_after_one_second_state
  · rw [h2, hlast]; simp; omega
  · rw [h2, hlast]; simpa using hgap

/-- `lastPass` is exactly the time of the last throttled admission (0 = none yet), in every reachable state.  (The ghost
`lastThrottled` moves when the path through `accept` sets `lastPass`, which is exactly on an admission made while
throttling: `acceptPath_setsLastPass`.) -/
theorem lastPass_is_last_throttled_admission (t0 : Nat) (ops : List Op) :
    ((Sys.init t0).run ops).b.lastPass = (((Sys.init t0).run ops).lastThrottled).getD 0 :=
  (Sys.good_run t0 ops).2.1

/-- non-vacuity: six failures recorded at t0 = 5, then a failing call with draw 1/2 ≥ 1/7: it is admitted on the
throttled path, so the ghost (and `lastPass`) become 5, and the hypothesis of `probe_after_one_second` is met. -/
example : ((Sys.init 5).run (List.replicate 6 (Op.resolve .fail) ++ [Op.call (1/2) ⟨false, false⟩ .errU])).lastThrottled = some 5 := by
  -- plain `decide` cannot unfold the arithmetic of `Rat`; the kernel can
  decide +kernel

/-! ## "the calls recorded in the preceding 10 s window" -/

/-- **Any rolling window is a view of its log** — for EVERY size `n ≥ 1` and interval `d ≥ 1` (the code of
core/collection/rollingwindow.go is generic; nothing here uses the breaker's 40 × 250 ms).  After any finite
history of `Add`s and time gaps on `NewRollingWindow(…, n, d)` created at `t0`, at any time `now` not before the
last event, the buckets `Reduce` visits are, oldest first, exactly the aggregates of all values ever added whose
time falls into the aligned bucket number `idx(now) − (n−1) + i` (`idx(t) = ⌊(t − t0)/d⌋`): nothing older is
counted, nothing inside is missing, and the `span` youngest (still empty) buckets are skipped. -/
theorem rolling_window_is_log (n d : Nat) (hn : 1 ≤ n) (hd : 1 ≤ d) (t0 : Nat) (ops : List WOp) (now : Nat)
    (hnow : ((WSys.init n d t0).run ops).now ≤ now) :
    ((WSys.init n d t0).run ops).w.visible now =
      (List.range (n - ((WSys.init n d t0).run ops).w.span now)).map fun i =>
        Lget (logBucketD d t0 ((WSys.init n d t0).run ops).log) (bucketIdxD d t0 now) (n - 1 - i) :=
  visible_of_inv (WSys.inv_run n d hn hd t0 ops) now hnow

/-- non-vacuity on an extreme geometry: a window of ONE bucket of 7 ns; a value added at t0+6 is visible until
t0+6 (same bucket) and gone at t0+7 -/
example : (((WSys.init 1 7 3).run [.tick 6, .add .fail]).w.visible 9).map (·.sum) = [1]
    ∧ (((WSys.init 1 7 3).run [.tick 6, .add .fail]).w.visible 10) = [] := by decide

/-- non-vacuity: 3 buckets of 5 ns, adds at t0, t0+5, t0+14; at t0+14 all three buckets are visible, oldest first -/
example : (((WSys.init 3 5 100).run [.add .succ, .tick 5, .add .fail, .add .fail, .tick 9, .add .drop]).w.visible 114).map
    (fun b => (b.sum, b.succ, b.fail, b.drop)) = [(1, 1, 0, 0), (2, 0, 2, 0), (1, 0, 0, 1)] := by decide

/-- **The window the breaker decides on is the log of the calls of the preceding 40 aligned 250 ms buckets**
(corollary of the generic refinement, instantiated at n = 40, d = 250 ms).
After any finite history (any entry points, outcomes, draws, gaps from 0 to several windows), at any time
`now` not before the last event, the buckets `history()` reduces over are, oldest first, exactly the aggregates
of all marks ever recorded whose time falls into the aligned bucket number `idx(now) − 39 + i`
(`idx(t) = ⌊(t − t0)/250ms⌋`); older calls are not counted, none inside is missing.  (`Lget L c a` is the
log bucket number `c − a`, empty before the creation of the breaker; the `span` youngest buckets are empty
because nothing was recorded since `lastTime`, and are skipped.) -/
theorem window_is_log (t0 : Nat) (ops : List Op) (now : Nat) (hnow : ((Sys.init t0).run ops).now ≤ now) :
    ((Sys.init t0).run ops).b.rw.visible now =
      (List.range (40 - ((Sys.init t0).run ops).b.rw.span now)).map fun i =>
        Lget (logBucket t0 ((Sys.init t0).run ops).log) (bucketIdx t0 now) (39 - i) :=
  visible_of_inv (Sys.winInv_run t0 ops) now hnow

/-- the totals the admission law is stated on are sums over those log buckets -/
theorem history_totals (b : Breaker) (now : Nat) :
    (b.history now).total = (sumBuckets (b.rw.visible now)).sum ∧
    (b.history now).accepts = (sumBuckets (b.rw.visible now)).succ :=
  summarize_sums _

/-- every log bucket satisfies `Sum = Success + Failure + Drop`: "non-accepted" is failures plus rejections -/
theorem logBucket_balanced (t0 : Nat) (log : List (Nat × Mark)) (j : Nat) :
    (logBucket t0 log j).sum = (logBucket t0 log j).succ + (logBucket t0 log j).fail + (logBucket t0 log j).drop := by
  unfold logBucket at *
  induction log with
  | nil => rfl
  | cons e rest ih =>
    simp only [logBucketD]
    split
    · exact bucket_add_balanced _ _ ih
    · exact ih

/-- non-vacuity: three failures at t0 = 5, 10 s − 1 ns later they are still visible, 1 ns later they are gone -/
example : ((((Sys.init 5).run (List.replicate 3 (Op.resolve .fail))).b.history (5 + 9999999999)).total = 3
    ∧ (((Sys.init 5).run (List.replicate 3 (Op.resolve .fail))).b.history (5 + 10000000000)).total = 0) := by decide

/-- **admission law on the log itself**: after any finite history of calls and gaps, a call (at any later time, with
any draw) is rejected only if, among the calls RECORDED IN THE LOG for the aligned 250 ms buckets `idx(now) − 39 … idx(now) − span`,
the non-accepted ones exceed 5 + 10 % of the accepted ones.  The `span` youngest of the 40 buckets ending now are left out of
the sum as in `window_is_log`; the log has nothing in them (`Rep.future`), which the statement does not say.
(Composition of `reject_only_if_over_threshold`, `history_totals` and `window_is_log`.) -/
theorem admission_law_on_log (t0 : Nat) (ops : List Op) (dt : Nat) (u : Rat)
    (h : (((Sys.init t0).run ops).b.accept (((Sys.init t0).run ops).now + dt) u).1 = .reject) :
    let now := ((Sys.init t0).run ops).now + dt
    let L := (List.range (40 - ((Sys.init t0).run ops).b.rw.span now)).map fun i =>
      Lget (logBucket t0 ((Sys.init t0).run ops).log) (bucketIdx t0 now) (39 - i)
    10 * (((sumBuckets L).sum : Int) - ((sumBuckets L).succ : Int)) > 50 + ((sumBuckets L).succ : Int) := by
  intro now L
  have h1 := reject_only_if_over_threshold _ _ _ h
  unfold overThreshold at h1
  rw [(history_totals _ _).1, (history_totals _ _).2, window_is_log t0 ops now (by omega)] at h1
  exact h1

/-! ## every concurrent interleaving of `Do*` calls (any number of goroutines, any schedule, clock ticks anywhere) -/

/-- a call that ends in a rejection took a snapshot of the window on which the non-accepted calls exceed
5 + 10 % of the accepted ones, and it was not due for the forced probe when it read `lastPass` and the clock. -/
theorem conc_reject_only_if_over_threshold (env : Env) (t0 : Nat) (c : Cfg) (h : Reach env t0 c) (t : Nat)
    (hv : c.verdict t = some .reject) :
    overThreshold (c.snap t) ∧ ¬ (c.lp t > 0 ∧ c.tnow t - c.lp t > forcePassNs) :=
  (tinv_reach env t0 c h t).2.1 hv

/-- under any schedule a finished call has recorded exactly one mark: a drop iff it was rejected, otherwise
success / failure by the acceptability predicate (panic = failure); an unfinished one has recorded nothing. -/
theorem conc_accounting (env : Env) (t0 : Nat) (c : Cfg) (h : Reach env t0 c) (t : Nat) :
    (c.pc t = 8 → (c.verdict t = some .reject ∧ c.marks t = [.drop]) ∨
                  (c.verdict t = some .pass ∧ c.marks t = [admitMark (env.entry t) (env.outcome t)]))
    ∧ (c.pc t < 8 → c.marks t = []) := by
  obtain ⟨_, _, _, _, _, h6, h7, h8, hdone⟩ := tinv_reach env t0 c h t
  refine ⟨hdone, fun hlt => ?_⟩
  rcases (by omega : c.pc t < 6 ∨ c.pc t = 6 ∨ c.pc t = 7) with a | a | a
  · exact (h6 a).1
  · exact (h7 a).1
  · exact (h8 a).1

/-- under any schedule the window still is the log, exactly as in `window_is_log` -/
theorem conc_window_is_log (env : Env) (t0 : Nat) (c : Cfg) (h : Reach env t0 c) (now : Nat) (hnow : c.clock ≤ now) :
    c.rw.visible now =
      (List.range (40 - c.rw.span now)).map fun i => Lget (logBucket t0 c.log) (bucketIdx t0 now) (39 - i) :=
  visible_of_inv (wininv_reach env t0 c h) now hnow

/-- non-vacuity: two goroutines interleave — thread 0 takes its snapshot, 7 ns pass, thread 1 takes its own -/
example : ∃ c, Reach ⟨fun _ => 0, fun _ => ⟨false, false⟩, fun _ => .errU⟩ 3 c ∧ c.pc 0 = 1 ∧ c.pc 1 = 1 ∧ c.clock = 10 :=
  ⟨_, Reach.step _ _ 1 (Reach.tick _ 7 (Reach.step _ _ 0 Reach.init rfl)) rfl, rfl, rfl, rfl⟩

/-! ## the call sites that wrap the breaker -/

/-- zrpc/internal/codes/accept.go as a table: exactly DeadlineExceeded(4), ResourceExhausted(8), Unimplemented(12),
Internal(13), Unavailable(14), DataLoss(15) count against the callee; every other code (in particular OK, Canceled,
Unknown, InvalidArgument, NotFound, AlreadyExists, PermissionDenied, Unauthenticated …) is acceptable. -/
theorem codeAcceptable_table (c : Nat) :
    codeAcceptable c = false ↔ c = 4 ∨ c = 8 ∨ c = 12 ∨ c = 13 ∨ c = 14 ∨ c = 15 := by
  simp only [codeAcceptable, cDeadlineExceeded, cInternal, cUnavailable, cDataLoss, cUnimplemented, cResourceExhausted]
  by_cases h : c = 4 ∨ c = 13 ∨ c = 14 ∨ c = 15 ∨ c = 12 ∨ c = 8
  · simp only [h, decide_true, Bool.not_true, true_iff]; omega
  · simp only [h, decide_false, Bool.not_false, Bool.true_eq_false, false_iff]; omega

/-- all eight sites have ONE admitted row (`rest` included: it never turns a panic into a failure, and its `admitRet` is `.same`) -/
theorem siteEvents_pass (s : Site) (q : SiteReq) :
    siteEvents s .pass q =
      [.ranReq, .mark (if s ≠ .rest ∧ q.panics then .fail else if s.pred q then .succ else .fail),
        if q.panics then .repanicked else .returned (s.admitRet q)] := by
  cases s <;> cases hp : q.panics <;> simp [siteEvents, hp, Site.admitRet]

/-- **Every site, every request: exactly one of Accept / Reject per admitted request, chosen by the site's predicate;
exactly one drop and no execution per rejected request.**  `rest`: Accept iff the recorded status is < 500 (whether or
not the handler panics: the deferred function resolves the promise exactly once and the panic propagates); the
`doReq` sites: Accept iff the site's predicate holds of the request's error, a panic is a Reject and is re-raised. -/
theorem site_exactly_one (s : Site) (q : SiteReq) :
    (smarksOf (siteEvents s .reject q) = [.drop] ∧ (siteEvents s .reject q).count .ranReq = 0
      ∧ (siteEvents s .reject q).getLast? = some (.returned s.rejectRet))
    ∧ (smarksOf (siteEvents s .pass q) = [if s ≠ .rest ∧ q.panics then .fail else if s.pred q then .succ else .fail]
      ∧ (siteEvents s .pass q).count .ranReq = 1
      ∧ (siteEvents s .pass q).getLast? = some (if q.panics then .repanicked else .returned (s.admitRet q))) := by
  refine ⟨⟨rfl, rfl, rfl⟩, ?_⟩
  rw [siteEvents_pass]
  cases q.panics <;> simp [smarksOf]

theorem pred_nil (s : Site) (hs : s ≠ .rest) (q : SiteReq) (h : q.err = .none) : s.pred q = true := by
  cases s <;> first
    | exact absurd rfl hs
    | simp [Site.pred, h, ErrClass.grpcCode, codeAcceptable, sqlAcceptable, dbAcceptable, cDeadlineExceeded, cInternal,
        cUnavailable, cDataLoss, cUnimplemented, cResourceExhausted]

/-- a site request records what a `Do*` call with outcome `o` records, as soon as the two admitted marks agree -/
theorem site_marks_of_mark (s : Site) (v : Verdict) (q : SiteReq) (e : Entry) (o : Outcome)
    (h : (if s ≠ .rest ∧ q.panics then Mark.fail else if s.pred q then .succ else .fail) = admitMark e o) :
    smarksOf (siteEvents s v q) = marksOf (doReqEvents v e o) := by
  cases v
  · rw [(site_exactly_one s q).2.1, admitMark_table, h]
  · rw [(site_exactly_one s q).1.1, marksOf_doReqEvents_reject]

/-- the `doReq` sites are instances of the generic decision table (`accounting_admitted` / `accounting_rejected`):
what they record is what `DoWithAcceptable` records for the outcome `ok / acceptable error / other error / panic`
the site's predicate assigns to the request. -/
theorem site_refines_doReq (s : Site) (hs : s ≠ .rest) (v : Verdict) (q : SiteReq) :
    smarksOf (siteEvents s v q) = marksOf (doReqEvents v ⟨false, true⟩ (s.outcome q)) := by
  apply site_marks_of_mark
  unfold admitMark Site.outcome
  by_cases hp : q.panics = true
  · simp [hs, hp]
  · by_cases hn : q.err = .none
    · simp [hp, hn, pred_nil s hs q hn, acceptable]
    · by_cases hq : s.pred q = true <;> simp [hp, hn, hq, acceptable]

/-- `context.DeadlineExceeded` and a nested open breaker count as failures at both server interceptors although their
gRPC code (Unknown) is acceptable — `serverSideAcceptable` tests for them before it looks at the code; the client
interceptor, which only looks at the code, accepts both -/
theorem server_rejects_deadline_and_open_breaker (q : SiteReq) (h : q.err = .ctxDeadline ∨ q.err = .brkOpen) :
    Site.zrpcServerUnary.pred q = false ∧ Site.zrpcServerStream.pred q = false ∧ Site.zrpcClient.pred q = true := by
  rcases h with h | h <;> simp [Site.pred, h, ErrClass.grpcCode, codeAcceptable, cUnknown, cDeadlineExceeded, cInternal,
    cUnavailable, cDataLoss, cUnimplemented, cResourceExhausted]

/-- non-vacuity: a 499 is an Accept, a 500 a Reject, and a rejected request writes 503 without running the handler -/
example : siteEvents .rest .pass { code := 499 } = [.ranReq, .mark .succ, .returned .same]
    ∧ siteEvents .rest .pass { code := 500 } = [.ranReq, .mark .fail, .returned .same]
    ∧ siteEvents .rest .reject { code := 200 } = [.mark .drop, .returned .http503] := by decide

/-! ## one breaker per name (breakers.go) -/

theorem Registry.find_set_self (r : Registry) (name : String) (b : Breaker) : (r.set name b).find name = some b := by
  induction r with
  | nil => simp [Registry.set, Registry.find]
  | cons p rest ih =>
    obtain ⟨n, b0⟩ := p
    by_cases h : n = name <;> simp [Registry.set, Registry.find, h, ih]

theorem Registry.find_set_other (r : Registry) (name other : String) (b : Breaker) (h : other ≠ name) :
    (r.set name b).find other = r.find other := by
  induction r with
  | nil => simp [Registry.set, Registry.find, h.symm]
  | cons p rest ih =>
    -- is the head entry the one that is set, is it the one that is looked up (never both)
    by_cases h1 : p.1 = name <;> by_cases h2 : p.1 = other <;> simp_all [Registry.set, Registry.find]

/-- **calls under one name never touch the breaker of another name**, and they act on the breaker that
`GetBreaker(name)` hands out (created at first use, the same one ever after). -/
theorem named_isolation (r : Registry) (name other : String) (now : Nat) (f : Breaker → Breaker) (h : other ≠ name) :
    (r.with name now f).find other = r.find other
    ∧ (r.with name now f).find name = some (f (r.get name now).1)
    ∧ (∀ b, r.find name = some b → (r.get name now).1 = b) := by
  refine ⟨?_, Registry.find_set_self _ _ _, ?_⟩
  · unfold Registry.with
    rw [Registry.find_set_other _ _ _ _ h]
    unfold Registry.get
    cases hf : r.find name with
    | some b => rfl
    | none => exact Registry.find_set_other _ _ _ _ h
  · intro b hb
    simp [Registry.get, hb]

/-! ## decision tables of the sites' predicates over the error classes -/

/-- orm.go `isScanFailed`: exactly nil and (anything that `errors.Is`) `context.DeadlineExceeded` are not scan failures -/
theorem isScanFailed_table (e : ErrClass) : isScanFailed e = false ↔ e = .none ∨ e = .ctxDeadline := by
  cases e <;> simp [isScanFailed]

theorem foldl_withAcceptable (ps : List (ErrClass → Bool)) (acc : Option (ErrClass → Bool)) (e : ErrClass) :
    optEval (ps.foldl withAcceptable acc) e = (optEval acc e || ps.any (· e)) := by
  induction ps generalizing acc with
  | nil => simp
  | cons p ps ih =>
    rw [List.foldl_cons, ih]
    cases acc <;> simp [withAcceptable, optEval, Bool.or_assoc]

/-- **any number of `WithAcceptable` options**, installed in any order by the constructor loop: the connection accepts
what at least one of them accepts (each closure chains onto the connection's own previous predicate, nothing is lost or
shared) -/
theorem installOptions_any (ps : List (ErrClass → Bool)) (e : ErrClass) :
    optEval (installOptions ps) e = ps.any (· e) := by
  unfold installOptions
  rw [foldl_withAcceptable]
  simp [optEval]

theorem dbAcceptable_iff (a : Option (ErrClass → Bool)) (e : ErrClass) :
    dbAcceptable a e = true ↔
      e = .none ∨ e = .sqlNoRows ∨ e = .sqlTxDone ∨ e = .ctxCanceled ∨ e = .sqlAcceptable ∨ optEval a e = true := by
  simp only [dbAcceptable, ← or_assoc, Bool.if_true_left, Bool.or_eq_true, decide_eq_true_eq]

/-- `db.acceptable` as a table: nil, sql.ErrNoRows, sql.ErrTxDone, context.Canceled, an acceptableError, or an error one
of the installed options accepts — nothing else (in particular not context.DeadlineExceeded, not a nested open breaker) -/
theorem sqlAcceptable_table (q : SiteReq) :
    sqlAcceptable q = true ↔
      q.err = .none ∨ q.err = .sqlNoRows ∨ q.err = .sqlTxDone ∨ q.err = .ctxCanceled ∨ q.err = .sqlAcceptable
      ∨ ∃ i, i < q.userAccepts ∧ q.err = .custom i := by
  rw [sqlAcceptable, dbAcceptable_iff, installOptions_any]
  simp [userOptions, customOption, List.any_map, List.any_eq_true, List.mem_range]

/-- **decision table of `queryRows` (connection and prepared statement)** over where the error comes from × its class:
an admitted query is recorded as a FAILURE exactly when (a) the query went through and the scanner hit the context
deadline — `isScanFailed` excludes it, and `db.acceptable` does not accept it — or (b) the query itself (connection
provider / driver) failed with an error `db.acceptable` rejects.  Every other scan error (no rows, a conversion error, a
cancelled context, anything else) is the caller's problem and counts as success. -/
theorem sqlx_query_table (q : SiteReq) :
    Site.sqlxQuery.pred q = false ↔
      (q.fromScan = true ∧ q.err = .ctxDeadline) ∨ (q.fromScan = false ∧ sqlAcceptable q = false) := by
  simp only [Site.pred, scanFailedVar, scanFailedAfter]
  cases hf : q.fromScan
  · simp
  · -- scan stage: the predicate is `isScanFailed q.err || db.acceptable`.  "Not a scan failure" means nil or the
    -- deadline (`isScanFailed_table`); of these nil is acceptable and the deadline is not (`sqlAcceptable_table`)
    have hT := sqlAcceptable_table q
    cases hi : isScanFailed q.err
    · rcases (isScanFailed_table _).mp hi with h | h
      · simp [h, hT.mpr (.inl h)]
      · simp [h, Bool.eq_false_iff.mpr fun hs => by simpa [h] using hT.mp hs]
    · have : q.err ≠ .ctxDeadline := fun h => by simp [h, isScanFailed] at hi
      simp [this]

/-- non-vacuity: the scan-stage deadline is a failure, the scan-stage "no rows" / other error a success, the
query-stage other error a failure -/
example : Site.sqlxQuery.pred { err := .ctxDeadline, fromScan := true } = false
    ∧ Site.sqlxQuery.pred { err := .other, fromScan := true } = true
    ∧ Site.sqlxQuery.pred { err := .sqlNoRows, fromScan := true } = true
    ∧ Site.sqlxQuery.pred { err := .other, fromScan := false } = false
    ∧ Site.sqlx.pred { err := .custom 1, userAccepts := 2 } = true
    ∧ Site.sqlx.pred { err := .custom 1, userAccepts := 1 } = false := by decide

/-- redis hooks: exactly nil, redis.Nil and context.Canceled are successes -/
theorem redis_table (q : SiteReq) :
    Site.redisProcess.pred q = true ↔ q.err = .none ∨ q.err = .redisNil ∨ q.err = .ctxCanceled := by
  simp [Site.pred]

/-- zrpc server (unary and stream): a failure exactly for context.DeadlineExceeded, a nested open breaker, or a status
error with one of the six codes; zrpc client: exactly the six codes -/
theorem zrpc_table (q : SiteReq) :
    (Site.zrpcServerUnary.pred q = false ↔
      q.err = .ctxDeadline ∨ q.err = .brkOpen ∨ ∃ c, q.err = .grpc c ∧ (c = 4 ∨ c = 8 ∨ c = 12 ∨ c = 13 ∨ c = 14 ∨ c = 15))
    ∧ Site.zrpcServerStream.pred q = Site.zrpcServerUnary.pred q
    ∧ (Site.zrpcClient.pred q = false ↔ ∃ c, q.err = .grpc c ∧ (c = 4 ∨ c = 8 ∨ c = 12 ∨ c = 13 ∨ c = 14 ∨ c = 15)) := by
  have hU : codeAcceptable cUnknown = true := by decide
  have h0 : codeAcceptable 0 = true := by decide
  refine ⟨?_, rfl, ?_⟩
  all_goals cases he : q.err <;> simp [Site.pred, he, ErrClass.grpcCode, hU, h0, codeAcceptable_table]

/-! ## end to end: call site → wrapper → `accept()` → window -/

theorem site_rw (b : Breaker) (now : Nat) (u : Rat) (s : Site) (q : SiteReq) :
    (b.site now u s q).2.rw = (smarksOf (siteEvents s (b.accept now u).1 q)).foldl (fun w m => w.add now m) b.rw :=
  congrArg Breaker.rw (accept_applyMarks b now u _)

/-- **one request at any site, end to end**, for every breaker state, time, draw, site and request:
rejected ⇒ the window the breaker looked at was over the threshold, the wrapped request did not run, the site answered
with its rejection value, and exactly one drop went into the window at `now`;
admitted ⇒ the wrapped request ran exactly once and exactly one mark went into the window at `now`: success iff the
site's predicate holds (a panic is a failure at the `doReq` sites and is re-raised). -/
theorem site_end_to_end (b : Breaker) (now : Nat) (u : Rat) (s : Site) (q : SiteReq) :
    ((b.accept now u).1 = .reject →
        overThreshold (b.history now) ∧ (b.site now u s q).1 = [.mark .drop, .returned s.rejectRet]
        ∧ (b.site now u s q).2.rw = b.rw.add now .drop)
    ∧ ((b.accept now u).1 = .pass →
        (b.site now u s q).1.count .ranReq = 1
        ∧ (b.site now u s q).1.getLast? = some (if q.panics then .repanicked else .returned (s.admitRet q))
        ∧ (b.site now u s q).2.rw =
            b.rw.add now (if s ≠ .rest ∧ q.panics then .fail else if s.pred q then .succ else .fail)) := by
  rw [site_rw]
  unfold Breaker.site
  dsimp only
  constructor <;> intro h <;> rw [h]
  · exact ⟨reject_only_if_over_threshold b now u h, rfl, rfl⟩
  · obtain ⟨h1, h2, h3⟩ := (site_exactly_one s q).2
    exact ⟨h2, h3, by rw [h1]; rfl⟩

/-- non-vacuity: a fresh breaker admits (draw irrelevant) a sqlx query whose scanner hits the deadline and records
a failure -/
example : (((Breaker.init 7).site 7 (1/2) .sqlxQuery { err := .ctxDeadline, fromScan := true }).2.rw
    = (Breaker.init 7).rw.add 7 .fail) := by
  decide +kernel

/-! ## histories of requests through the call sites (the whole configuration space of the wrappers)

The history theorems above are stated over `Op`, direct calls of the breaker.  A request through ANY call site drives the
breaker exactly like one direct call whose outcome is chosen by the site's predicate (`site_state_as_call`), so every
history that mixes site requests, direct calls, promises and time gaps is simulated step by step by an `Op` history and
inherits the admission law on the log and guaranteed probing. -/

/-- the direct call a site request amounts to for the breaker: a success iff the request is resolved as Accept.  This is
the map the history theorems use (every site, entry `⟨false, false⟩`); `Site.outcome` of Sites.lean is the finer one
(panic / ok / acceptable / other error, `doReq` sites only) that `site_refines_doReq` alone is stated on. -/
def Site.asOutcome (s : Site) (q : SiteReq) : Outcome :=
  if (if s ≠ .rest ∧ q.panics then Mark.fail else if s.pred q then .succ else .fail) = .succ then .ok else .errU

theorem site_marks_as_call (s : Site) (v : Verdict) (q : SiteReq) :
    smarksOf (siteEvents s v q) = marksOf (doReqEvents v ⟨false, false⟩ (s.asOutcome q)) := by
  apply site_marks_of_mark
  unfold Site.asOutcome
  -- the recorded mark is `.succ` or `.fail`; `asOutcome` answers `.ok` resp. `.errU`, whose marks are just those
  generalize hm : (if s ≠ .rest ∧ q.panics then Mark.fail else if s.pred q then .succ else .fail) = m
  have : m = .succ ∨ m = .fail := by subst hm; split <;> (try split) <;> simp
  rcases this with rfl | rfl <;> rfl

/-- **one site request = one direct call, for the breaker's state** (window and lastPass), at every state, time and draw -/
theorem site_state_as_call (b : Breaker) (now : Nat) (u : Rat) (s : Site) (q : SiteReq) :
    (b.site now u s q).2 = (b.doReq now u ⟨false, false⟩ (s.asOutcome q)).2 := by
  unfold Breaker.site Breaker.doReq
  simp only [site_marks_as_call]

/-- histories over the call sites: time gaps, requests through any site, and anything an `Op` history can do -/
inductive SOp
  | tick (dt : Nat)
  | site (u : Rat) (s : Site) (q : SiteReq)
  | direct (op : Op)

/-- the `Op` that simulates a step -/
def SOp.toOp : SOp → Op
  | .tick dt => .tick dt
  | .site u s q => .call u ⟨false, false⟩ (s.asOutcome q)
  | .direct op => op

/-- the real semantics of a step: a site request goes through `Breaker.site` (wrapper, `accept()`, the site's table) -/
def siteStep (st : Breaker × Nat) : SOp → Breaker × Nat
  | .tick dt => (st.1, st.2 + dt)
  | .site u s q => ((st.1.site st.2 u s q).2, st.2)
  | .direct op => (((⟨st.1, st.2, none, []⟩ : Sys).step op).b, ((⟨st.1, st.2, none, []⟩ : Sys).step op).now)

def siteRun (t0 : Nat) (ops : List SOp) : Breaker × Nat := ops.foldl siteStep (Breaker.init t0, t0)

/-- **every history over the call sites is simulated, step by step, by a history of direct calls** -/
theorem site_history_simulates (t0 : Nat) (ops : List SOp) :
    siteRun t0 ops = (((Sys.init t0).run (ops.map SOp.toOp)).b, ((Sys.init t0).run (ops.map SOp.toOp)).now) := by
  unfold siteRun Sys.run
  rw [List.foldl_map]
  refine List.foldl_rel (r := fun (st : Breaker × Nat) (sy : Sys) => st = (sy.b, sy.now)) rfl fun op _ st sy h => ?_
  subst h
  cases op with
  | tick dt => rfl
  | site u s q => simp [siteStep, SOp.toOp, Sys.step, Sys.afterAccept, site_state_as_call]
  | direct op => cases op <;> simp [siteStep, SOp.toOp, Sys.step, Sys.afterAccept]

/-- **admission law on the log, for histories through the call sites**: after ANY finite history of requests through
any mix of sites (every request class, returning or unwinding, any option set), direct calls, promises and time gaps,
a request arriving `dt` later is rejected only if, among the calls recorded in the log for the aligned 250 ms buckets
`idx(now) − 39 … idx(now) − span` (as in `admission_law_on_log`), the non-accepted ones exceed 5 + 10 % of the accepted ones. -/
theorem site_admission_law_on_log (t0 : Nat) (ops : List SOp) (dt : Nat) (u : Rat)
    (h : ((siteRun t0 ops).1.accept ((siteRun t0 ops).2 + dt) u).1 = .reject) :
    let sy := (Sys.init t0).run (ops.map SOp.toOp)
    let now := sy.now + dt
    let L := (List.range (40 - sy.b.rw.span now)).map fun i => Lget (logBucket t0 sy.log) (bucketIdx t0 now) (39 - i)
    10 * (((sumBuckets L).sum : Int) - ((sumBuckets L).succ : Int)) > 50 + ((sumBuckets L).succ : Int) := by
  rw [site_history_simulates] at h
  exact admission_law_on_log t0 (ops.map SOp.toOp) dt u h

/-- **guaranteed probing, for histories through the call sites**; `siteRun` carries no ghost, so `hlast` speaks of the ghost
of the simulating history of direct calls -/
theorem site_probe_after_one_second (t0 : Nat) (ht0 : 0 < t0) (ops : List SOp) (t dt : Nat) (u : Rat)
    (hlast : ((Sys.init t0).run (ops.map SOp.toOp)).lastThrottled = some t)
    (hgap : t + 1000000000 < (siteRun t0 ops).2 + dt) :
    ((siteRun t0 ops).1.accept ((siteRun t0 ops).2 + dt) u).1 = .pass := by
  rw [site_history_simulates] at hgap ⊢
  exact probe_after_one_second t0 ht0 (ops.map SOp.toOp) t dt u hlast hgap

/-- non-vacuity: what some site requests amount to — a 500 at rest is a failing call, a panicking handler that had
written 499 a successful one, gRPC Unavailable at the zrpc client a failing one, a scan-stage deadline in sqlx a failing
one, a scan-stage conversion error a successful one -/
example : Site.asOutcome .rest { code := 500 } = .errU ∧ Site.asOutcome .rest { code := 499, panics := true } = .ok
    ∧ Site.asOutcome .zrpcClient { err := .grpc 14 } = .errU
    ∧ Site.asOutcome .sqlxQuery { err := .ctxDeadline, fromScan := true } = .errU
    ∧ Site.asOutcome .sqlxQuery { err := .other, fromScan := true } = .ok := by decide

/-- non-vacuity of the rejection hypothesis: twelve rejected promises within one instant, then a request through any
site with draw 1/2 < 7/13 is rejected (the simulating history is the same twelve marks) -/
example : ((siteRun 9 (List.replicate 12 (SOp.direct (.resolve .fail)))).1.accept 9 (1/2)).1 = .reject := by
  decide +kernel

/-! ## float policy: where a float64 evaluation of `accept()` can differ from the exact one -/

/-- **the numerator of the drop ratio lies on the grid of hundredths**: `100 · dropNum` is the integer
`100·(total − 5) − (150 − failingBuckets)·accepts` (at most 40 failing buckets: the window has 40) -/
theorem dropNum_grid (h : WinRes) (hfb : h.failingBuckets ≤ 40) :
    dropNum h = (((100 * ((h.total : Int) - 5) - (150 - (h.failingBuckets : Int)) * (h.accepts : Int)) : Int) : Rat) / 100 := by
  unfold dropNum
  rw [weight_eq_of_le _ hfb]
  push_cast
  grind

/-- **float policy, as a theorem about the decision**: the numerator is either exactly 0 or at least 1/100 away from 0,
so ANY evaluation `x` of it whose absolute error is below 1/100 takes the same `dropRatio <= 0` decision as the exact
one, except when the exact numerator is 0 (`hne`; the documented boundary, where the driver accepts either outcome).
That float64 stays within 1/100 — its error after four operations is below 2^-50·(total + 1.5·accepts), i.e. below
1/100 for every window with fewer than 2^40 calls — is a paper argument and not part of the statement. -/
theorem free_decision_robust (h : WinRes) (hfb : h.failingBuckets ≤ 40) (x : Rat)
    (hne : dropNum h ≠ 0) (hclose : x - dropNum h < 1 / 100 ∧ dropNum h - x < 1 / 100) :
    (x ≤ 0 ↔ dropNum h ≤ 0) := by
  rw [dropNum_grid h hfb] at hne hclose ⊢
  generalize (100 * ((h.total : Int) - 5) - (150 - (h.failingBuckets : Int)) * (h.accepts : Int)) = k at *
  -- a nonzero integer is at least 1 away from 0, so `k/100` is at least 1/100 away from 0, and `x` is nearer to it than that
  have hk : ((k : Int) : Rat) ≤ ((-1 : Int) : Rat) ∨ ((1 : Int) : Rat) ≤ ((k : Int) : Rat) := by
    rcases Int.lt_trichotomy k 0 with h | h | h
    · exact .inl (by exact_mod_cast (by omega : k ≤ -1))
    · subst h; exact absurd (by grind) hne
    · exact .inr (by exact_mod_cast (by omega : 1 ≤ k))
  grind

/-- non-vacuity: one success and seven calls: the numerator is exactly 1/2 (50 hundredths), far from the boundary -/
example : dropNum ⟨1, 7, 0, 0⟩ = (((50 : Int) : Int) : Rat) / 100 := by
  rw [dropNum_grid _ (by decide)]; rfl

end GoZero.C01
