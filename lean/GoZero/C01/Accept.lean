/-
C01 — facts about `accept()` and the operations around it: the rational arithmetic of the weight and the drop ratio,
the history reducer, the verdict as one equivalence, and the state of the breaker after `accept` followed by marks.
-/
import GoZero.C01.Spec
namespace GoZero.C01

theorem rat_div_mul_cancel (a b : Rat) (hb : b ≠ 0) : a / b * b = a := Rat.div_mul_cancel hb

theorem rat_lt_div_iff (x a b : Rat) (hb : 0 < b) : x < a / b ↔ x * b < a := Rat.lt_div_iff hb

theorem weight_ge (fb : Nat) : (11 : Rat) / 10 ≤ weight fb := by
  unfold weight kMin
  split
  · exact Rat.le_refl
  · next h => exact Rat.not_lt.mp h

theorem rawWeight_eq (fb : Nat) : rawWeight fb = (((150 - (fb : Int)) : Int) : Rat) / 100 := by
  unfold rawWeight kMax kMin
  push_cast
  grind

/-- with at most 40 failing buckets the floor `kMin` (Go: `minK`) is not undercut: `150 − fb ≥ 110` -/
theorem weight_eq_of_le (fb : Nat) (h : fb ≤ 40) : weight fb = (((150 - (fb : Int)) : Int) : Rat) / 100 := by
  have hc : ((fb : Nat) : Rat) ≤ 40 := by exact_mod_cast h
  unfold weight
  rw [rawWeight_eq, if_neg]
  unfold kMin
  push_cast
  grind

theorem dropRatio0_pos_iff (h : WinRes) : 0 < dropRatio0 h ↔ 0 < dropNum h := by
  unfold dropRatio0
  rw [Rat.div_def]
  exact Rat.mul_pos_iff_of_pos_right (Rat.inv_pos.mpr (by exact_mod_cast (by omega : (0 : Int) < h.total + 1)))

/-- the admission law: a positive drop numerator means the non-accepted calls exceed 5 + 10 % of the accepted. -/
theorem dropNum_pos_over (h : WinRes) (hp : 0 < dropNum h) : overThreshold h := by
  unfold dropNum at hp
  have ha : (0 : Rat) ≤ (((h.accepts : Nat) : Int) : Rat) := by exact_mod_cast Int.natCast_nonneg _
  -- the weight is at least 11/10, so already `11/10 · accepts < total − 5`; then clear the denominator
  have hm := Rat.mul_le_mul_of_nonneg_right (weight_ge h.failingBuckets) ha
  have h3 : ((11 * ((h.accepts : Nat) : Int) : Int) : Rat) < ((10 * (((h.total : Nat) : Int) - 5) : Int) : Rat) := by
    push_cast at hp hm ⊢; grind
  have := Rat.intCast_lt_intCast.mp h3
  unfold overThreshold
  omega

theorem dropNum_no_accepts (h : WinRes) (ha : h.accepts = 0) : dropNum h = ((((h.total : Nat) : Int) - 5 : Int) : Rat) := by
  unfold dropNum
  rw [ha]
  simp [Rat.mul_zero]
  grind

theorem dropNum_pos_iff_of_no_accepts (h : WinRes) (ha : h.accepts = 0) : 0 < dropNum h ↔ 5 < h.total := by
  rw [dropNum_no_accepts h ha, ← Rat.intCast_zero, Rat.intCast_lt_intCast]
  omega

theorem dropRatio1_total_failure (h : WinRes) (ha : h.accepts = 0) (hw : h.workingBuckets = 0) :
    dropRatio1 h = totalFailureRatio h.total := by
  unfold dropRatio1 dropRatio0 totalFailureRatio
  rw [dropNum_no_accepts h ha, hw]
  have e : ((((40 : Int) - ((0 : Nat) : Int) : Int) : Rat) / ((40 : Int) : Rat)) = 1 := by
    rw [Rat.div_def]; exact Rat.mul_inv_cancel _ (by decide)
  rw [e, Rat.mul_one]
  congr 1

/-- a bucket counts as working only if it has a success, and a success makes `accepts` positive: with `accepts = 0` no bucket is
working, so total failure needs no hypothesis on `workingBuckets` -/
theorem summarize_wb (bs : List Bucket) (h : (summarize bs).accepts = 0) : (summarize bs).workingBuckets = 0 := by
  refine List.foldlRecOn (motive := fun r : WinRes => r.accepts = 0 → r.workingBuckets = 0) bs reduceStep
    (fun _ => rfl) (fun r hr b _ h => ?_) h
  simp only [reduceStep] at h ⊢
  split <;> simp_all

theorem summarize_sums (bs : List Bucket) :
    (summarize bs).total = (sumBuckets bs).sum ∧ (summarize bs).accepts = (sumBuckets bs).succ :=
  List.foldl_rel (r := fun (x : WinRes) (a : Bucket) => x.total = a.sum ∧ x.accepts = a.succ)
    ⟨rfl, rfl⟩ fun (b : Bucket) _ x a h =>
      ⟨by show x.total + b.sum = a.sum + b.sum; omega, by show x.accepts + b.succ = a.succ + b.succ; omega⟩

theorem acceptPath_reject_iff (lp now : Nat) (thr less : Bool) :
    (acceptPath lp now thr less).verdict = .reject ↔
      thr = true ∧ less = true ∧ ¬ (lp > 0 ∧ now - lp > forcePassNs) := by
  unfold acceptPath
  by_cases hf : lp > 0 ∧ now - lp > forcePassNs <;> cases thr <;> cases less <;> simp [Path.verdict, hf]

/-- `lastPass` is set exactly on an admission made while throttling (the forced probe and the drawn pass) -/
theorem acceptPath_setsLastPass (lp now : Nat) (thr less : Bool) :
    (acceptPath lp now thr less).setsLastPass = true ↔ thr = true ∧ (acceptPath lp now thr less).verdict = .pass := by
  unfold acceptPath
  by_cases hf : lp > 0 ∧ now - lp > forcePassNs <;> cases thr <;> cases less <;>
    simp [Path.setsLastPass, Path.verdict, hf]

theorem accept_fst (b : Breaker) (now : Nat) (u : Rat) : (b.accept now u).1 = (b.pathOf now u).verdict := rfl

/-- **the verdict of `accept`, exactly**: the admission law, guaranteed probing and the behaviour under total failure
are all read off this equivalence -/
theorem accept_reject_iff (b : Breaker) (now : Nat) (u : Rat) :
    (b.accept now u).1 = .reject ↔
      0 < dropNum (b.history now) ∧ u < dropRatio1 (b.history now)
        ∧ ¬ (b.lastPass > 0 ∧ now - b.lastPass > forcePassNs) := by
  rw [accept_fst, Breaker.pathOf, acceptPath_reject_iff, decide_eq_true_eq, decide_eq_true_eq, dropRatio0_pos_iff]

theorem accept_pass_iff (b : Breaker) (now : Nat) (u : Rat) :
    (b.accept now u).1 = .pass ↔
      ¬ (0 < dropNum (b.history now) ∧ u < dropRatio1 (b.history now)
        ∧ ¬ (b.lastPass > 0 ∧ now - b.lastPass > forcePassNs)) := by
  rw [← accept_reject_iff]
  cases (b.accept now u).1 <;> simp

/-- the one mark an admitted `Do*` call records (`admitMark_table`); the schedules of Conc.lean record the same -/
def admitMark (e : Entry) (o : Outcome) : Mark :=
  if o = .panic then .fail else if acceptable e.custom o then .succ else .fail

theorem applyPath_eq (b : Breaker) (now : Nat) (p : Path) :
    b.applyPath now p = { b with lastPass := if p.setsLastPass then now else b.lastPass } := by
  unfold Breaker.applyPath; split <;> rfl

theorem applyMarks_eq (b : Breaker) (now : Nat) (ms : List Mark) :
    b.applyMarks now ms = { b with rw := ms.foldl (fun w m => w.add now m) b.rw } :=
  List.foldl_rel (r := fun (b' : Breaker) (w' : RW) => b' = { b with rw := w' }) rfl fun _ _ _ _ h => h ▸ rfl

/-- every `Do*` / `Allow` / site request is `accept` followed by marks: the window gets the marks, `lastPass` is what the
path through `accept` decides -/
theorem accept_applyMarks (b : Breaker) (now : Nat) (u : Rat) (ms : List Mark) :
    (b.accept now u).2.applyMarks now ms =
      ⟨ms.foldl (fun w m => w.add now m) b.rw, if (b.pathOf now u).setsLastPass then now else b.lastPass⟩ := by
  rw [applyMarks_eq, show (b.accept now u).2 = _ from applyPath_eq b now _]

end GoZero.C01
