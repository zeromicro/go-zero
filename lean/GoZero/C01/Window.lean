/-
C01 — the rolling window is a view of the call log, for every `NewRollingWindow(…, n, d)` without `IgnoreCurrentBucket`
(`newGoogleBreaker` builds n = 40, d = 250 ms).  `Rep` is `Ring.Rep` of Base/RollingWindow.lean (which says what its
parameters mean and does the ring and grid arithmetic) at the fields of an `RW`; `WinInvG` makes it an invariant of a
window running beside a ghost log of everything added, for all histories of `Add`s and gaps on a bare window (`WSys`).
-/
import GoZero.C01.Spec
import GoZero.Base.RollingWindow
namespace GoZero.C01
open Ring (reset record)

def Lget (L : Nat → Bucket) (cur a : Nat) : Bucket := if a ≤ cur then L (cur - a) else {}

structure Rep (n d : Nat) (w : RW) (t0 cur : Nat) (L : Nat → Bucket) : Prop where
  npos : 0 < n
  dpos : 0 < d
  size : w.size = n
  iv : w.interval = d
  len : w.buckets.length = n
  off : w.offset < n
  lt : w.lastTime = t0 + cur * d
  cells : ∀ a, a < n → w.buckets.getD ((w.offset + n - a) % n) {} = Lget L cur a
  future : ∀ j, cur < j → L j = {}

/-- the fields in another order: `cells` and `Lget` are `Ring.cell` and `Ring.Lget` unfolded (as `w.span now` is
`Ring.span w.size w.interval w.lastTime now`), so every component passes as it is -/
theorem rep_iff {n d : Nat} {w : RW} {t0 cur : Nat} {L : Nat → Bucket} :
    Rep n d w t0 cur L ↔ w.size = n ∧ w.interval = d ∧ Ring.Rep {} n d w.offset w.lastTime w.buckets t0 cur L :=
  ⟨fun ⟨a, b, c, d, e, f, g, h, i⟩ => ⟨c, d, a, b, e, f, g, h, i⟩, fun ⟨c, d, a, b, e, f, g, h, i⟩ => ⟨a, b, c, d, e, f, g, h, i⟩⟩

theorem rep_init (n d : Nat) (hn : 0 < n) (hd : 0 < d) (t0 : Nat) : Rep n d (RW.init n d t0) t0 0 (fun _ => {}) :=
  rep_iff.2 ⟨rfl, rfl, Ring.Rep.init hn hd t0⟩

/-- the loop peeled at its last iteration -/
theorem resetFrom_succ (n : Nat) (bs : List Bucket) (start k : Nat) :
    resetFrom n bs start (k + 1) = (resetFrom n bs start k).set ((start + k) % n) {} := by
  induction k generalizing bs start with
  | zero => rfl
  | succ k ih =>
    show resetFrom n (bs.set (start % n) {}) (start + 1) (k + 1) = _
    rw [ih, Nat.add_assoc, Nat.add_comm 1 k]
    rfl

theorem resetFrom_eq (n : Nat) (bs : List Bucket) (o s : Nat) : resetFrom n bs (o + 1) s = reset {} n o s bs := by
  induction s with
  | zero => rfl
  | succ s ih => rw [resetFrom_succ, ih, Nat.add_right_comm]; rfl

theorem updateOffset_rep {n d : Nat} {w : RW} {t0 cur : Nat} {L : Nat → Bucket} (h : Rep n d w t0 cur L) (now : Nat)
    (hm : w.lastTime ≤ now) : Rep n d (w.updateOffset now) t0 (cur + (now - w.lastTime) / d) L := by
  obtain ⟨rfl, rfl, g⟩ := rep_iff.1 h
  unfold RW.updateOffset
  split
  · next hz => exact rep_iff.2 ⟨rfl, rfl, g.stay hz⟩
  · have u := g.update hm
    rw [← resetFrom_eq] at u
    exact rep_iff.2 ⟨rfl, rfl, u⟩

theorem updateOffset_lastTime_le (w : RW) (now : Nat) (hm : w.lastTime ≤ now) : (w.updateOffset now).lastTime ≤ now := by
  unfold RW.updateOffset
  split
  · exact hm
  · exact Nat.sub_le _ _

theorem add_rep {n d : Nat} {w : RW} {t0 cur : Nat} {L : Nat → Bucket} (h : Rep n d w t0 cur L) (now : Nat) (m : Mark)
    (hm : w.lastTime ≤ now) :
    Rep n d (w.add now m) t0 (cur + (now - w.lastTime) / d)
      (record L (cur + (now - w.lastTime) / d) (·.add m)) := by
  obtain ⟨rfl, rfl, g⟩ := rep_iff.1 (updateOffset_rep h now hm)
  exact rep_iff.2 ⟨rfl, rfl, g.modify _⟩

/-- **The visible window is the log of the preceding `n` aligned buckets.**  At any time `now`, with
`c = cur + ⌊(now − lastTime)/d⌋` the index of the current bucket, `Reduce` visits, oldest first, the log
contents of the indices `c−(n−1), …, cur` (the indices `cur+1 … c` are still empty and are skipped; if `n·d` or
more has passed nothing is visited). -/
theorem visible_spec {n d : Nat} {w : RW} {t0 cur : Nat} {L : Nat → Bucket} (h : Rep n d w t0 cur L) (now : Nat) :
    w.visible now =
      (List.range (n - w.span now)).map fun i => Lget L (cur + (now - w.lastTime) / d) (n - 1 - i) := by
  obtain ⟨rfl, rfl, g⟩ := rep_iff.1 h
  exact List.map_congr_left fun i hi => g.visible now (Nat.add_lt_of_lt_sub (List.mem_range.1 hi))

/-- what the calls logged so far put into the aligned bucket number `j` (bucket `j` covers
`[t0 + j·d, t0 + (j+1)·d)`, `t0` = creation time of the window) -/
def logBucketD (d t0 : Nat) : List (Nat × Mark) → Nat → Bucket
  | [], _ => {}
  | e :: rest, j => if bucketIdxD d t0 e.1 = j then (logBucketD d t0 rest j).add e.2 else logBucketD d t0 rest j

/-- the breaker's instance: 250 ms buckets -/
def logBucket (t0 : Nat) : List (Nat × Mark) → Nat → Bucket := logBucketD intervalNs t0

theorem logBucketD_cons (d t0 : Nat) (t : Nat) (m : Mark) (log : List (Nat × Mark)) :
    logBucketD d t0 ((t, m) :: log) = record (logBucketD d t0 log) (bucketIdxD d t0 t) (·.add m) := by
  funext j
  simp only [logBucketD, record, eq_comm (a := j)]

/-- the window represents what the log stamped so far says, and neither its `lastTime` nor its creation lies ahead of
the clock -/
def WinInvG (n d t0 : Nat) (w : RW) (now : Nat) (log : List (Nat × Mark)) : Prop :=
  ∃ cur, Rep n d w t0 cur (logBucketD d t0 log) ∧ w.lastTime ≤ now ∧ t0 ≤ now

theorem winInvG_init (n d : Nat) (hn : 0 < n) (hd : 0 < d) (t0 : Nat) : WinInvG n d t0 (RW.init n d t0) t0 [] :=
  ⟨0, rep_init n d hn hd t0, Nat.le_refl _, Nat.le_refl _⟩

theorem WinInvG.mono {n d t0 : Nat} {w : RW} {now : Nat} {log : List (Nat × Mark)} (h : WinInvG n d t0 w now log)
    {now' : Nat} (hle : now ≤ now') : WinInvG n d t0 w now' log := by
  obtain ⟨cur, hr, hl, ht⟩ := h
  exact ⟨cur, hr, Nat.le_trans hl hle, Nat.le_trans ht hle⟩

theorem add_inv {n d t0 : Nat} {w : RW} {now : Nat} {log : List (Nat × Mark)} (m : Mark)
    (h : WinInvG n d t0 w now log) : WinInvG n d t0 (w.add now m) now ((now, m) :: log) := by
  obtain ⟨cur, hr, hl, ht⟩ := h
  refine ⟨cur + (now - w.lastTime) / d, ?_, updateOffset_lastTime_le w now hl, ht⟩
  rw [logBucketD_cons, bucketIdxD, Ring.idx_eq hr.dpos hr.lt hl]
  exact add_rep hr now m hl

theorem foldl_add_inv {n d t0 now : Nat} (ms : List Mark) {w : RW} {log : List (Nat × Mark)}
    (h : WinInvG n d t0 w now log) :
    WinInvG n d t0 (ms.foldl (fun w m => w.add now m) w) now ((ms.map fun m => (now, m)).reverse ++ log) := by
  induction ms generalizing w log with
  | nil => exact h
  | cons m ms ih =>
    simpa using ih (add_inv m h)

theorem visible_of_inv {n d t0 : Nat} {w : RW} {tnow : Nat} {log : List (Nat × Mark)}
    (h : WinInvG n d t0 w tnow log) (now : Nat) (hnow : tnow ≤ now) :
    w.visible now =
      (List.range (n - w.span now)).map fun i => Lget (logBucketD d t0 log) (bucketIdxD d t0 now) (n - 1 - i) := by
  obtain ⟨cur, hr, hl, ht⟩ := h
  rw [visible_spec hr now, bucketIdxD, Ring.idx_eq hr.dpos hr.lt (Nat.le_trans hl hnow)]

inductive WOp
  | tick (dt : Nat)       -- time passes
  | add (m : Mark)        -- `Add(v)` at the current time

structure WSys where
  w : RW
  now : Nat
  log : List (Nat × Mark)   -- ghost: every `Add` with its time, newest first

def WSys.init (n d t0 : Nat) : WSys := { w := RW.init n d t0, now := t0, log := [] }

def WSys.step (s : WSys) : WOp → WSys
  | .tick dt => { s with now := s.now + dt }
  | .add m => { s with w := s.w.add s.now m, log := (s.now, m) :: s.log }

def WSys.run (s : WSys) (ops : List WOp) : WSys := ops.foldl WSys.step s

theorem WSys.inv_run (n d : Nat) (hn : 0 < n) (hd : 0 < d) (t0 : Nat) (ops : List WOp) :
    WinInvG n d t0 ((WSys.init n d t0).run ops).w ((WSys.init n d t0).run ops).now ((WSys.init n d t0).run ops).log := by
  refine List.foldlRecOn (motive := fun s : WSys => WinInvG n d t0 s.w s.now s.log) ops WSys.step
    (winInvG_init n d hn hd t0) fun s h op _ => ?_
  cases op with
  | tick dt => exact h.mono (Nat.le_add_right _ _)
  | add m => exact add_inv m h

end GoZero.C01
