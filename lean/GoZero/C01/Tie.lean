/-
C01 — Tie: what the extractor reads from the sources (core/breaker/*.go, core/collection/rollingwindow.go,
core/mathx/proba.go; the call sites rest/handler/breakerhandler.go, the zrpc interceptors with zrpc/internal/codes/accept.go,
core/stores/redis/breakerhook.go, core/stores/sqlx) equals what the model says: constants and statement skeletons
literally; arithmetic, predicates and the effect programs as functions, for all inputs.
-/
import GoZero.C01.Prog
namespace GoZero.C01.Tie
open GoZero.C01
open GoZero.Extracted.C01

theorem extraction_clean : extractionErrors = [] := rfl

/-! ### constants, with the property's literal numbers -/

theorem tie_window : window = 10000000000 ∧ (windowNs : Int) = window := by decide
theorem tie_buckets : buckets = 40 ∧ (nBuckets : Int) = buckets := by decide
theorem tie_bucketDuration : (intervalNs : Int) = Int.tdiv window buckets ∧ intervalNs = 250000000 := by decide
theorem tie_forcePass : forcePassDuration = 1000000000 ∧ (forcePassNs : Int) = forcePassDuration := by decide
theorem tie_k : k = 3 / 2 ∧ kMax = k := ⟨rfl, rfl⟩
theorem tie_minK : minK = 11 / 10 ∧ kMin = minK := ⟨rfl, rfl⟩
theorem tie_protection : protection = 5 ∧ (GoZero.C01.protection : Int) = protection := by decide
theorem tie_codes : codeSuccess = Mark.succ.code ∧ codeFail = Mark.fail.code ∧ codeDrop = Mark.drop.code := by decide

/-- `bucketDuration := time.Duration(int64(window) / int64(buckets))`, `NewRollingWindow(…, buckets, bucketDuration)`,
field `k: k`. -/
theorem tie_newGoogleBreaker :
    newGoogleBreakerStmts.take 2 =
      ["bucketDuration := time.Duration(int64(window) / int64(buckets))",
       "st := collection.NewRollingWindow[int64, *bucket](func() *bucket { return new(bucket) }, buckets, bucketDuration)"]
    ∧ newGoogleBreakerFields = ["stat: st", "k: k", "proba: mathx.NewProba()", "lastPass: syncx.NewAtomicDuration()"] := ⟨rfl, rfl⟩

/-! ### the arithmetic of `accept()`, translated statement by statement -/

/-- the Go expression for `dropRatio` (first assignment), composed from the translated statements -/
def goDropRatio0 (accepts total fb wb : Int) : Rat :=
  let w := accept_w_1 k 0 0 0 accepts total fb wb
  let wa := accept_weightedAccepts_1 k w 0 0 accepts total fb wb
  accept_dropRatio_1 k w wa 0 accepts total fb wb

def goDropRatio1 (accepts total fb wb : Int) : Rat :=
  accept_dropRatio_2 k 0 0 (goDropRatio0 accepts total fb wb) accepts total fb wb

theorem tie_dropRatio0 (h : WinRes) :
    dropRatio0 h = goDropRatio0 h.accepts h.total h.failingBuckets h.workingBuckets := rfl

theorem tie_dropRatio1 (h : WinRes) :
    dropRatio1 h = goDropRatio1 h.accepts h.total h.failingBuckets h.workingBuckets := rfl

/-- comparison directions and order of the three tests of `accept()`; `TrueOnProba` is `Float64() < proba`. -/
theorem tie_acceptConds :
    acceptConds = ["dropRatio <= 0", "lastPass > 0 && timex.Since(lastPass) > forcePassDuration",
                   "b.proba.TrueOnProba(dropRatio)"]
    ∧ trueOnProbaStmts = ["truth = p.r.Float64() < proba", "return"] := ⟨rfl, rfl⟩

/-- skeleton of `accept()` that `acceptPath` / `Path.setsLastPass` mirror: free pass returns
before `lastPass` is read; both throttled admissions store `timex.Now()` into `lastPass`; the drop returns
without touching it. -/
theorem tie_acceptShape : acceptShape =
    ["call b.history", "call mathx.AtLeast", "if dropRatio <= 0 {", "return", "}",
     "call b.lastPass.Load", "if lastPass > 0 && timex.Since(lastPass) > forcePassDuration {",
     "call timex.Now", "call b.lastPass.Set", "return", "}",
     "if b.proba.TrueOnProba(dropRatio) {", "return", "}",
     "call timex.Now", "call b.lastPass.Set", "return"] := rfl

/-! ### the history reducer -/

/-- last value assigned to `key` by an effect list, else the old value -/
def eff (l : List (String × Int)) (key : String) (old : Int) : Int :=
  match l.reverse.find? (·.1 = key) with
  | some p => p.2
  | none => old

theorem tie_historyStep (r : WinRes) (b : Bucket) :
    let l := historyStep r.accepts b.succ r.total b.sum b.fail r.failingBuckets r.workingBuckets
    eff l "result.accepts" r.accepts = (reduceStep r b).accepts ∧
    eff l "result.total" r.total = (reduceStep r b).total ∧
    eff l "result.failingBuckets" r.failingBuckets = (reduceStep r b).failingBuckets ∧
    eff l "result.workingBuckets" r.workingBuckets = (reduceStep r b).workingBuckets := by
  simp only [historyStep, reduceStep]
  by_cases hf : b.fail = 0 <;> by_cases hs : b.succ = 0
  all_goals
    simp [hf, hs, eff, Nat.pos_of_ne_zero]

/-! ### statement skeletons and call lists: bucket.go, googlebreaker.go, breaker.go, rollingwindow.go, the call sites -/

theorem tie_bucketAdd : bucketAddShape =
    ["switch v {", "case fail:", "call b.fail", "case drop:", "call b.drop", "default:", "call b.succeed", "}"]
    ∧ bucketFailShape = ["store b.Sum", "store b.Failure"]
    ∧ bucketDropShape = ["store b.Sum", "store b.Drop"]
    ∧ bucketSucceedShape = ["store b.Sum", "store b.Success"]
    ∧ bucketResetShape = ["store b.Sum", "store b.Success", "store b.Failure", "store b.Drop"] := ⟨rfl, rfl, rfl, rfl, rfl⟩

theorem tie_marks :
    markDropCalls = ["b.stat.Add(drop)"] ∧ markFailureCalls = ["b.stat.Add(fail)"]
    ∧ markSuccessCalls = ["b.stat.Add(success)"]
    ∧ promiseAcceptCalls = ["p.b.markSuccess()"] ∧ promiseRejectCalls = ["p.b.markFailure()"] := ⟨rfl, rfl, rfl, rfl, rfl⟩

/-- `doReq`: reject → markDrop, then fallback(err) if present; admit → deferred mark (success iff `succ`),
`req()` once, `succ` set only if `acceptable(err)` — as a statement skeleton; that running it yields the table
`doReqEvents` is `tie_progDoReq`. -/
theorem tie_doReqShape : doReqShape =
    ["call b.accept", "if err != nil {", "call b.markDrop", "if fallback != nil {", "call fallback", "return", "}",
     "return", "}",
     "defer{", "func{", "if succ {", "call b.markSuccess", "}", "else{", "call b.markFailure", "}", "}", "call func", "}",
     "call req", "if acceptable(err) {", "}", "return"] := rfl

theorem tie_allowShape : allowShape =
    ["call b.accept", "if err != nil {", "call b.markDrop", "return", "}", "return"] := rfl

/-- which fallback / acceptability predicate each public entry point hands to `doReq` (`Entry`). -/
theorem tie_entryPoints :
    callsDo = ["cb.throttle.doReq(req, nil, defaultAcceptable)"]
    ∧ callsDoWithAcceptable = ["cb.throttle.doReq(req, nil, acceptable)"]
    ∧ callsDoWithFallback = ["cb.throttle.doReq(req, fallback, defaultAcceptable)"]
    ∧ callsDoWithFallbackAcceptable = ["cb.throttle.doReq(req, fallback, acceptable)"]
    ∧ callsAllow = ["cb.throttle.allow()"]
    ∧ defaultAcceptableStmts = ["return err == nil"] := ⟨rfl, rfl, rfl, rfl, rfl, rfl⟩

def ctxShape (inner : String) : List String :=
  ["select{", "case recv ctx.Done(); call ctx.Done:", "call ctx.Err", "return", "default:", "call " ++ inner, "return", "}"]

/-- every `…Ctx` variant: done context → `ctx.Err()` without reaching the breaker; else the plain variant. -/
theorem tie_ctxVariants :
    shapeDoCtx = ctxShape "cb.Do" ∧ shapeDoWithAcceptableCtx = ctxShape "cb.DoWithAcceptable"
    ∧ shapeDoWithFallbackCtx = ctxShape "cb.DoWithFallback"
    ∧ shapeDoWithFallbackAcceptableCtx = ctxShape "cb.DoWithFallbackAcceptable"
    ∧ shapeAllowCtx = ctxShape "cb.Allow" := ⟨rfl, rfl, rfl, rfl, rfl⟩

/-- statement skeletons of the logging wrappers: each contains one call of the inner throttle / promise and returns
what `logError` returns (what these bodies compute is tied by `tie_loggedDoReq`, `tie_loggedAllow`,
`tie_promiseWithReason`). -/
theorem tie_wrappers :
    loggedAllowShape = ["call lt.internalThrottle.allow", "call lt.logError", "return"]
    ∧ loggedDoReqShape = ["func{", "call acceptable", "if !accept && err != nil {", "call err.Error", "call lt.errWin.add", "}",
                          "return", "}", "call lt.internalThrottle.doReq", "call lt.logError", "return"]
    ∧ logErrorStmts = ["if errors.Is(err, ErrServiceUnavailable)", "return err"]
    ∧ promiseWithReasonAcceptShape = ["call p.promise.Accept"]
    ∧ promiseWithReasonRejectShape = ["call p.errWin.add", "call p.promise.Reject"]
    ∧ newBreakerStmts.drop 2 = ["b.throttle = newLoggedThrottle(b.name, newGoogleBreaker())", "return &b"] := ⟨rfl, rfl, rfl, rfl, rfl, rfl⟩

/-- Go's `span()` (truncating division on `time.Duration`) is the model's `RW.span` while the clock is monotone. -/
theorem tie_rwSpan (w : RW) (now : Nat) (hm : w.lastTime ≤ now) :
    rwSpan w.lastTime now w.interval w.size = (w.span now : Nat) := by
  unfold rwSpan RW.span since
  rw [← Int.natCast_sub hm, Int.tdiv_eq_ediv_of_nonneg (Int.natCast_nonneg _), ← Int.natCast_ediv]
  generalize (now - w.lastTime) / w.interval = o
  simp only [Int.natCast_nonneg, decide_true, Bool.true_and, Int.ofNat_lt, decide_eq_true_eq]
  split <;> rfl

/-- the two stores at the end of `updateOffset` -/
theorem tie_rwUpdateOffsetTail (w : RW) (now : Nat) (hm : w.lastTime ≤ now) :
    rwUpdateOffsetTail w.offset (w.span now) w.size now w.lastTime w.interval =
      [("offset", (((w.updateOffset' now).offset : Nat) : Int)), ("lastTime", (((w.updateOffset' now).lastTime : Nat) : Int))] := by
  unfold rwUpdateOffsetTail RW.updateOffset' clockNow
  dsimp only
  have hle : (now - w.lastTime) % w.interval ≤ now := Nat.le_trans (Nat.mod_le _ _) (Nat.sub_le _ _)
  rw [← Int.natCast_sub hm, ← Int.natCast_add, Int.tmod_eq_emod_of_nonneg (Int.natCast_nonneg _),
    Int.tmod_eq_emod_of_nonneg (Int.natCast_nonneg _), ← Int.natCast_emod, ← Int.natCast_emod, ← Int.natCast_sub hle]

theorem tie_rwUpdateOffset :
    rwUpdateOffsetStmts = ["span := rw.span()", "if span <= 0", "return", "offset := rw.offset",
      "for i := 0; i < span; i++", "i := 0", "i++", "rw.offset = (offset + span) % rw.size", "now := timex.Now()",
      "rw.lastTime = now - (now-rw.lastTime)%rw.interval"]
    ∧ rwUpdateOffsetCalls = ["rw.span()", "rw.win.resetBucket((offset + i + 1) % rw.size)", "timex.Now()"]
    ∧ winResetCalls = ["w.buckets[offset%w.size].Reset()"] := ⟨rfl, rfl, rfl⟩

/-- `Reduce`: `diff = size - span` buckets starting at `(offset + span + 1) % size`, visited in index order. -/
theorem tie_rwReduce :
    rwReduceStmts = ["span := rw.span()", "if span == 0 && rw.ignoreCurrent", "diff = rw.size - 1", "diff = rw.size - span",
      "if diff > 0", "offset := (rw.offset + span + 1) % rw.size"]
    ∧ rwReduceCalls = ["rw.lock.RLock()", "rw.lock.RUnlock()", "rw.span()", "rw.win.reduce(offset, diff, fn)"]
    ∧ winReduceStmts = ["for i := 0; i < count; i++", "i := 0", "i++"]
    ∧ winReduceCalls = ["fn(w.buckets[(start+i)%w.size])"] := ⟨rfl, rfl, rfl, rfl⟩

/-- `Add`: under the write lock, `updateOffset()` then `win.add(rw.offset, v)`. -/
theorem tie_rwAdd :
    rwAddCalls = ["rw.lock.Lock()", "rw.lock.Unlock()", "rw.updateOffset()", "rw.win.add(rw.offset, v)"]
    ∧ winAddCalls = ["w.buckets[offset%w.size].Add(v)"]
    ∧ rwAddShape = ["call rw.lock.Lock", "defer{", "call rw.lock.Unlock", "}", "call rw.updateOffset", "call rw.win.add"] := ⟨rfl, rfl, rfl⟩

/-- a fresh window starts at `timex.Now()` with offset 0 -/
theorem tie_newRollingWindow : newRollingWindowStmts =
    ["if size < 1",
     "w := &RollingWindow[T, B]{ size: size, win: newWindow[T, B](newBucket, size), interval: interval, lastTime: timex.Now(), }",
     "return w"] := rfl

/-- rest: `Allow`; rejected → drop metric, `WriteHeader`, return without calling `next`; admitted → the deferred
function resolves the promise exactly once, Accept iff `cw.Code < http.StatusInternalServerError`, and `next` runs
after the defer is installed (so the promise is resolved on a panic as well) — as a statement skeleton; that running
the handler yields `siteEvents .rest` is `tie_progRestHandler`. -/
theorem tie_restBreakerHandler : restBreakerHandlerShape =
    ["call breaker.WithName", "call breaker.NewBreaker", "func{", "func{", "call brk.Allow", "if err != nil {",
     "call metrics.AddDrop", "call r.Context", "call httpx.GetRemoteAddr", "call r.UserAgent", "call logc.Errorf",
     "call w.WriteHeader", "return", "}",
     "call response.NewWithCodeResponseWriter",
     "defer{", "func{", "if cw.Code < http.StatusInternalServerError {", "call promise.Accept", "}",
     "else{", "call http.StatusText", "call promise.Reject", "}", "}", "call func", "}",
     "call next.ServeHTTP", "}", "call http.HandlerFunc", "return", "}", "return"] := rfl

/-- zrpc/internal/codes/accept.go: the six unacceptable codes (`codeAcceptable`; their numbers 4, 13, 14, 15, 12, 8
are exercised one by one through the real function by the harness). -/
theorem tie_codesAcceptable : codesAcceptableSwitch =
    ["switch status.Code(err)",
     "case codes.DeadlineExceeded, codes.Internal, codes.Unavailable, codes.DataLoss, codes.Unimplemented, codes.ResourceExhausted: return false",
     "default: return true"] := rfl

/-- zrpc client: one breaker per `target/method`, `DoWithAcceptableCtx` with `codes.Acceptable`, the invoker's error is
handed back as is. -/
theorem tie_zrpcClient : zrpcClientStmts =
    ["breakerName := path.Join(cc.Target(), method)",
     "return breaker.DoWithAcceptableCtx(ctx, breakerName, func() error { return invoker(ctx, method, req, reply, cc, opts...) }, codes.Acceptable)",
     "return invoker(ctx, method, req, reply, cc, opts...)"] := rfl

/-- zrpc server: breaker per `info.FullMethod`; unary uses the Ctx variant, stream the plain one; both hand
`serverSideAcceptable` over and pass the result through `convertError`. -/
theorem tie_zrpcServer :
    zrpcServerUnaryStmts =
      ["breakerName := info.FullMethod",
       "err = breaker.DoWithAcceptableCtx(ctx, breakerName, func() error { var err error resp, err = handler(ctx, req) return err }, serverSideAcceptable)",
       "resp, err = handler(ctx, req)", "return err", "return resp, convertError(err)"]
    ∧ zrpcServerStreamStmts =
      ["breakerName := info.FullMethod",
       "err := breaker.DoWithAcceptable(breakerName, func() error { return handler(svr, stream) }, serverSideAcceptable)",
       "return handler(svr, stream)", "return convertError(err)"]
    ∧ serverSideAcceptableStmts =
      ["if errorx.In(err, context.DeadlineExceeded, breaker.ErrServiceUnavailable)", "return false", "return codes.Acceptable(err)"]
    ∧ convertErrorStmts =
      ["if err == nil", "return nil", "if errors.Is(err, breaker.ErrServiceUnavailable)",
       "return status.Error(gcodes.Unavailable, err.Error())", "return err"] := ⟨rfl, rfl, rfl, rfl⟩

/-- redis: `blpop` goes around the breaker, everything else (and every pipeline) through `DoWithAcceptableCtx` with
`acceptable` = nil | redis.Nil | context.Canceled. -/
theorem tie_redisHook :
    redisProcessHookShape = ["func{", "call cmd.Name", "if ok {", "call next", "return", "}", "func{", "call next", "return", "}",
                             "call h.brk.DoWithAcceptableCtx", "return", "}", "return"]
    ∧ redisPipelineHookShape = ["func{", "func{", "call next", "return", "}", "call h.brk.DoWithAcceptableCtx", "return", "}", "return"]
    ∧ redisProcessHookBreaker = ["h.brk.DoWithAcceptableCtx(…, acceptable)"]
    ∧ redisPipelineHookBreaker = ["h.brk.DoWithAcceptableCtx(…, acceptable)"]
    ∧ redisIgnoreCmds = ["\"blpop\""]
    ∧ redisAcceptableStmts = ["return err == nil || errorx.In(err, red.Nil, context.Canceled)"] := ⟨rfl, rfl, rfl, rfl, rfl, rfl⟩

/-- sqlx: `db.acceptable` (`sqlAcceptable`) and which predicate each wrapped operation hands to the breaker
(`queryRows`: `scanFailed || db.acceptable(err)`, with `isScanFailed` = non-nil and not DeadlineExceeded). -/
theorem tie_sqlx :
    sqlxAcceptableStmts =
      ["if err == nil || errorx.In(err, sql.ErrNoRows, sql.ErrTxDone, context.Canceled)", "return true",
       "if errors.As(err, &e)", "return true", "if db.accept == nil", "return false", "return db.accept(err)"]
    ∧ sqlxExecCtxBreaker = ["db.brk.DoWithAcceptableCtx(…, db.acceptable)"]
    ∧ sqlxPrepareCtxBreaker = ["db.brk.DoWithAcceptableCtx(…, db.acceptable)"]
    ∧ sqlxTransactCtxBreaker = ["db.brk.DoWithAcceptableCtx(…, db.acceptable)"]
    ∧ sqlxQueryRowsBreaker = ["db.brk.DoWithAcceptableCtx(…, func(err error) bool { return scanFailed || db.acceptable(err) })"]
    ∧ sqlxIsScanFailedStmts = ["return err != nil && !errors.Is(err, context.DeadlineExceeded)"] := ⟨rfl, rfl, rfl, rfl, rfl, rfl⟩

/-! ### semantic tie: the predicates and decisions of the call sites, of `accept()` and of `updateOffset`, translated to Lean
functions; at the end the skeletons of breakers.go

The extractor turns every Go predicate over an error into a function of `isNil`, `is` (errors.Is / errorx.In),
`as` (errors.As), `call` (another predicate applied to the same error), `nilv` (`x == nil` of a field), `bv` (a bool
variable) and `code` (`status.Code(err) == C`).  Instantiated with the model's meaning of the error classes they are
equal to the model's predicates for ALL errors. -/

def noS : String → Bool := fun _ => false

/-- orm.go `isScanFailed`: `err != nil && !errors.Is(err, context.DeadlineExceeded)`, with `errors.Is` read as `ErrClass.is` -/
theorem tie_predIsScanFailed (e : ErrClass) :
    predIsScanFailed (e = .none) e.is e.as noS noS noS noS = isScanFailed e := by
  cases e <;> simp [predIsScanFailed, isScanFailed, ErrClass.is]

/-- the scanner wrappers of `commonSqlConn.queryRows` and `statement.queryRows`: `scanFailed` (declared `var scanFailed
bool`, i.e. false) becomes true iff `isScanFailed` holds of what the scanner returned, and is assigned nowhere else -/
theorem tie_scanFailedAssignment (prev : Bool) (e : ErrClass) :
    assignQueryRowsScanFailed (e = .none) e.is e.as (fun n => n = "isScanFailed" && isScanFailed e) noS
        (fun n => n = "scanFailed" && prev) noS = scanFailedAfter prev e
    ∧ assignStmtQueryRowsScanFailed (e = .none) e.is e.as (fun n => n = "isScanFailed" && isScanFailed e) noS
        (fun n => n = "scanFailed" && prev) noS = scanFailedAfter prev e
    ∧ sqlxQueryRowsVars = ["var scanFailed bool"] ∧ sqlxStmtQueryRowsVars = ["var scanFailed bool"] := by
  refine ⟨?_, ?_, rfl, rfl⟩ <;>
    simp [assignQueryRowsScanFailed, assignStmtQueryRowsScanFailed, scanFailedAfter]

/-- `commonSqlConn.acceptable`, for every value of the field `accept` -/
theorem tie_predDbAcceptable (acc : Option (ErrClass → Bool)) (e : ErrClass) :
    predDbAcceptable (e = .none) e.is e.as (fun n => n = "db.accept" && (match acc with | some f => f e | none => false))
        (fun n => n = "db.accept" && acc.isNone) noS noS = dbAcceptable acc e := by
  cases acc <;> cases e <;> simp [predDbAcceptable, dbAcceptable, optEval, ErrClass.is, ErrClass.as]

/-- the predicates the sqlx operations hand to the breaker: `queryRows` (connection and statement):
`scanFailed || <db.acceptable>`; `statement.ExecCtx`: `s.accept(err)`; and `PrepareCtx` builds the statement with the
connection's own breaker and `db.acceptable` -/
theorem tie_sqlxPreds (q : SiteReq) :
    predQueryRows (q.err = .none) q.err.is q.err.as (fun n => n = "db.acceptable" && sqlAcceptable q) noS
        (fun n => n = "scanFailed" && scanFailedVar q) noS = Site.sqlxQuery.pred q
    ∧ predStmtQueryRows (q.err = .none) q.err.is q.err.as (fun n => n = "s.accept" && sqlAcceptable q) noS
        (fun n => n = "scanFailed" && scanFailedVar q) noS = Site.sqlxQuery.pred q
    ∧ predStmtExec (q.err = .none) q.err.is q.err.as (fun n => n = "s.accept" && sqlAcceptable q) noS noS noS = Site.sqlx.pred q
    ∧ sqlxPrepareStatementFields = ["query: query", "stmt: st", "brk: db.brk", "accept: db.acceptable"]
    ∧ sqlxStmtExecBreaker = ["s.brk.DoWithAcceptableCtx(…, func(err error) bool { return s.accept(err) })"]
    ∧ sqlxStmtQueryRowsBreaker = ["s.brk.DoWithAcceptableCtx(…, func(err error) bool { return scanFailed || s.accept(err) })"] := by
  refine ⟨?_, ?_, ?_, rfl, rfl, rfl⟩ <;> simp [predQueryRows, predStmtQueryRows, predStmtExec, Site.pred]

/-- `WithAcceptable`: first option stored as is, later ones chained as `pre(err) || acceptable(err)` over the
connection's previous predicate (`withAcceptable`) -/
theorem tie_withAcceptable (pre p : ErrClass → Bool) (e : ErrClass) :
    (match withAcceptable (some pre) p with
      | some f => f e | none => false) =
      predWithAcceptableChain (e = .none) e.is e.as (fun n => if n = "pre" then pre e else n = "acceptable" && p e) noS noS noS
    ∧ (match withAcceptable none p with | some f => f e | none => false) = p e
    ∧ sqlxWithAcceptableStmts.drop 1 = ["if conn.accept == nil", "conn.accept = acceptable", "pre := conn.accept",
        "conn.accept = func(err error) bool { return pre(err) || acceptable(err) }", "return pre(err) || acceptable(err)"] := by
  refine ⟨?_, rfl, rfl⟩
  simp [withAcceptable, predWithAcceptableChain]

/-- redis `acceptable` (`err == nil || errorx.In(err, red.Nil, context.Canceled)`) is the predicate of the single-command hook;
the pipeline hook has the same one (second conjunct) -/
theorem tie_predRedisAcceptable (e : ErrClass) :
    predRedisAcceptable (e = .none) e.is e.as noS noS noS noS = Site.redisProcess.pred { err := e }
    ∧ Site.redisPipeline.pred { err := e } = Site.redisProcess.pred { err := e } := by
  refine ⟨?_, rfl⟩
  cases e <;> simp [predRedisAcceptable, Site.pred, ErrClass.is]

/-- zrpc/internal/codes `Acceptable`: for every code number -/
theorem tie_predCodesAcceptable (c : Nat) :
    predCodesAcceptable false noS noS noS noS noS (fun n => codeOfName n = some c) = codeAcceptable c := by
  -- the six code numbers are written out with `show`: unfolding `cInternal` … under `decide` leaves an instance that
  -- still mentions the constant, and `simp` cannot match it
  show _ = !decide (c = 4 ∨ c = 13 ∨ c = 14 ∨ c = 15 ∨ c = 12 ∨ c = 8)
  simp [predCodesAcceptable, codeOfName, Bool.and_assoc, @eq_comm Nat _ c]

/-- `serverSideAcceptable`, with its call of `codes.Acceptable` instantiated by the model's `codeAcceptable` at the error's gRPC
code; the stream interceptor has the same predicate (second conjunct) -/
theorem tie_predServerSideAcceptable (e : ErrClass) :
    predServerSideAcceptable (e = .none) e.is e.as (fun n => n = "codes.Acceptable" && codeAcceptable e.grpcCode) noS noS noS
      = Site.zrpcServerUnary.pred { err := e }
    ∧ Site.zrpcServerStream.pred { err := e } = Site.zrpcServerUnary.pred { err := e } := by
  refine ⟨?_, rfl⟩
  cases e <;> simp [predServerSideAcceptable, Site.pred, ErrClass.is]

/-- `defaultAcceptable` (`err == nil`): the request result `ok` is the only nil error, a typed nil is not -/
theorem tie_predDefaultAcceptable (o : Outcome) :
    predDefaultAcceptable (o = .ok) noS noS noS noS noS noS = acceptable false o := by
  cases o <;> simp [predDefaultAcceptable, acceptable]

/-- rest: Accept iff `cw.Code < http.StatusInternalServerError` (= 500; the harness drives it with 499 and 500) -/
theorem tie_restAcceptCond (code : Nat) :
    restAcceptCond code 500 = Site.rest.pred { code := code } := by
  simp [restAcceptCond, Site.pred]
  constructor <;> intro h <;> omega

/-- the path through `accept()` from the three decisions as Booleans -/
def pathOfBools (throttled forced drawLess : Bool) : Path :=
  if !throttled then .free else if forced then .forced else if drawLess then .drawnDrop else .drawnPass

theorem acceptPath_eq_pathOfBools (lastPass now : Nat) (throttled drawLess : Bool) :
    acceptPath lastPass now throttled drawLess
      = pathOfBools throttled (decide (lastPass > 0 ∧ now - lastPass > forcePassNs)) drawLess := by
  unfold acceptPath pathOfBools
  cases throttled <;> cases drawLess <;> by_cases h : lastPass > 0 ∧ now - lastPass > forcePassNs <;> simp [h]

/-- the three decisions of `accept()` and the comparison of `TrueOnProba`, as translated, compose to `acceptPath`
(comparison operators, constants and the order of the tests), for all values -/
theorem tie_acceptPath (lastPass now : Nat) (dr0 dr1 u : Rat) :
    acceptPath lastPass now (decide (0 < dr0)) (decide (u < dr1)) =
      if acceptCondFree dr0 then .free
      else if acceptCondForced lastPass (since lastPass now) then .forced
      else if trueOnProbaCond u dr1 then .drawnDrop else .drawnPass := by
  -- the three translated conditions are the model's three tests; then both sides are the cascade `pathOfBools`,
  -- the form `tie_progAccept` is stated on
  have h1 : acceptCondFree dr0 = !decide (0 < dr0) := by simp only [acceptCondFree, ← Rat.not_lt, decide_not]
  have h2 : acceptCondForced lastPass (since lastPass now) = decide (lastPass > 0 ∧ now - lastPass > forcePassNs) := by
    unfold acceptCondForced since forcePassDuration forcePassNs
    rw [← Bool.decide_and]
    exact decide_eq_decide.mpr (by omega)
  rw [acceptPath_eq_pathOfBools, h1, h2]
  rfl

/-- `updateOffset` returns early iff `span <= 0` (`RW.updateOffset`: iff the model's span is 0) -/
theorem tie_rwUpdateOffsetSkip (w : RW) (now : Nat) :
    rwUpdateOffsetSkip (w.span now) = decide (w.span now = 0) := by
  simp [rwUpdateOffsetSkip]

/-- breakers.go: `GetBreaker` looks the name up, creates `NewBreaker(WithName(name))` only when absent and stores it
under that very name (`Registry.get`); every package-level `Do*` forwards to the method of the same name of
`GetBreaker(name)` with its arguments unchanged (`Registry.with`). -/
theorem tie_breakers :
    getBreakerStmts = ["b, ok := breakers[name]", "if ok", "return b", "b, ok = breakers[name]", "if !ok",
                       "b = NewBreaker(WithName(name))", "breakers[name] = b", "return b"]
    ∧ getBreakerShape = ["call lock.RLock", "call lock.RUnlock", "if ok {", "return", "}", "call lock.Lock", "if !ok {",
                         "call WithName", "call NewBreaker", "mapset breakers", "}", "call lock.Unlock", "return"]
    ∧ breakersLookupStmts = ["return execute(GetBreaker(name))"]
    ∧ breakersDoStmts.getLast? = some "return b.Do(req)"
    ∧ breakersDoCtxStmts.getLast? = some "return b.DoCtx(ctx, req)"
    ∧ breakersDoWithAcceptableStmts.getLast? = some "return b.DoWithAcceptable(req, acceptable)"
    ∧ breakersDoWithAcceptableCtxStmts.getLast? = some "return b.DoWithAcceptableCtx(ctx, req, acceptable)"
    ∧ breakersDoWithFallbackStmts.getLast? = some "return b.DoWithFallback(req, fallback)"
    ∧ breakersDoWithFallbackCtxStmts.getLast? = some "return b.DoWithFallbackCtx(ctx, req, fallback)"
    ∧ breakersDoWithFallbackAcceptableStmts.getLast? = some "return b.DoWithFallbackAcceptable(req, fallback, acceptable)"
    ∧ breakersDoWithFallbackAcceptableCtxStmts.getLast? = some "return b.DoWithFallbackAcceptableCtx(ctx, req, fallback, acceptable)"
    ∧ (breakersDoStmts ++ breakersDoCtxStmts ++ breakersDoWithAcceptableStmts ++ breakersDoWithAcceptableCtxStmts
        ++ breakersDoWithFallbackStmts ++ breakersDoWithFallbackCtxStmts ++ breakersDoWithFallbackAcceptableStmts
        ++ breakersDoWithFallbackAcceptableCtxStmts).length = 16 := ⟨rfl, rfl, rfl, rfl, rfl, rfl, rfl, rfl, rfl, rfl, rfl, rfl⟩

/-! ### bucket.go, semantically -/

/-- the four counters of a model bucket as the Go fields (Sum, Success, Failure, Drop) -/
def fieldsOf (b : Bucket) : Int × Int × Int × Int := ((b.sum : Int), (b.succ : Int), (b.fail : Int), (b.drop : Int))

/-- **`bucket.Add(v)` for every bucket and EVERY code `v`** (not only the three iota codes: anything else counts as
a success, as in the `default:` clause): the translated switch and field updates of bucket.go equal `Bucket.addCode`. -/
theorem tie_bucketAddSem (b : Bucket) (v : Int) :
    bucketAddSem v b.sum b.succ b.fail b.drop = fieldsOf (b.addCode v) := by
  unfold bucketAddSem bucketFailSem bucketDropSem bucketSucceedSem codeFail codeDrop Bucket.addCode fieldsOf
  by_cases h1 : v = 1
  · simp [h1]
  · by_cases h2 : v = 2
    · simp [h2]
    · simp [h1, h2]

/-- the three markers: `Bucket.add m` is `bucket.Add` of the mark's iota code -/
theorem tie_bucketMarks (b : Bucket) (m : Mark) :
    bucketAddSem m.code b.sum b.succ b.fail b.drop = fieldsOf (b.add m) := tie_bucketAddSem b m.code

/-- `bucket.Reset()` zeroes all four counters whatever they held (`resetFrom` stores the empty bucket) -/
theorem tie_bucketResetSem (s a f d : Int) : bucketResetSem s a f d = fieldsOf {} := by
  simp [bucketResetSem, fieldsOf]

/-! ### typed effect programs: the ORDER of effects, derived from the source and run by `Prog.run`

`progDoReq`, `progAllow`, `progRestHandler` are typed token lists the extractor derives from /repo (calls with
targets and arguments, assignments, `if`/`else`/`defer` blocks, returns).  `Prog.run` executes them with a defer stack
(deferred bodies run on return, at the end of the body and when the request unwinds).  The theorems say that the
extracted program computes the model's decision table for ALL inputs, so the order of accept / markDrop / fallback /
defer / request / mark / return is part of what is tied. -/

/-! A statement over a finite type is a finite conjunction.  The tables `tie_progDoReq`, `tie_progRestHandler_table`,
`tie_loggedDoReq`, `tie_loggedAllow` are turned into that conjunction by the `forall_*` lemmas below and evaluated as ONE
closed proposition: their rows share most of the work (every comparison of a token with the interpreter's keywords),
and a single evaluation by the kernel does that work once. -/

theorem forall_verdict {p : Verdict → Prop} : (∀ v, p v) ↔ p .pass ∧ p .reject :=
  ⟨fun h => ⟨h _, h _⟩, fun h v => by cases v <;> simp [h]⟩

theorem forall_outcome {p : Outcome → Prop} :
    (∀ o, p o) ↔ p .ok ∧ p .errA ∧ p .errU ∧ p .brk ∧ p .wbrk ∧ p .panic ∧ p .tnil :=
  ⟨fun h => ⟨h _, h _, h _, h _, h _, h _, h _⟩, fun h o => by cases o <;> simp [h]⟩

theorem forall_entry {p : Entry → Prop} : (∀ e, p e) ↔ ∀ f c, p ⟨f, c⟩ :=
  ⟨fun h _ _ => h _, fun h e => h e.1 e.2⟩

theorem forall_val {p : Prog.Val → Prop} : (∀ v, p v) ↔ p .nil ∧ p .unavailable ∧ p .req :=
  ⟨fun h => ⟨h _, h _, h _⟩, fun h v => by cases v <;> simp [h]⟩

/-- `googleBreaker.doReq`, every verdict x entry point x outcome of the request: the extracted program yields
`doReqEvents` (rejected: markDrop, then the fallback with the rejection error, else the error itself; admitted: the
deferred marker is installed BEFORE the request runs, the request runs once, `succ` is set iff `acceptable(err)`,
the marker fires on return and on unwinding alike, the request's error is returned). -/
theorem tie_progDoReq (v : Verdict) (e : Entry) (o : Outcome) :
    Prog.runDoReq progAccept progDoReq v e o = some (doReqEvents v e o) := by
  revert v e o
  simp only [forall_verdict, forall_entry, forall_outcome]
  decide +kernel

/-- **`accept()` as extracted, for every value of its three decisions**: the verdict, WHERE `lastPass` is set (exactly
once on the forced probe and on the drawn admission, never on a free pass and never on a rejection) and whether a draw
is consumed (exactly on the two drawn paths) are those of the model's `Path` — the order of the tests included. -/
theorem tie_progAccept (throttled forced drawLess : Bool) :
    Prog.runAccept progAccept throttled forced drawLess
      = some ((pathOfBools throttled forced drawLess).verdict,
              (if (pathOfBools throttled forced drawLess).setsLastPass then 1 else 0),
              (if (pathOfBools throttled forced drawLess).draws then 1 else 0)) := by
  decide +kernel +revert

/-- `accept()` itself records nothing, on any path: no marker call occurs in its body -/
theorem tie_acceptRecordsNothing : Prog.marksIn progAccept = [] := by decide

/-- `googleBreaker.allow`: rejected → markDrop and `(nil, err)`; admitted → a promise, nothing recorded yet. -/
theorem tie_progAllow (v : Verdict) : Prog.runAllow progAccept progAllow v = some (allowEvents v) := by
  cases v <;> decide

/-- the decision table of the rest handler over (verdict, does `next` unwind, value of the deferred condition) -/
def restTable (v : Verdict) (unwinds accept : Bool) : List SEv :=
  match v with
  | .reject => [.mark .drop, .returned .http503]
  | .pass => [.ranReq, .mark (if accept then .succ else .fail), if unwinds then .repanicked else .returned .same]

theorem tie_progRestHandler_table (v : Verdict) (unwinds accept : Bool) :
    Prog.runRest progAccept progRestHandler v unwinds accept = some (restTable v unwinds accept) := by
  revert v unwinds accept
  simp only [forall_verdict]
  decide +kernel

/-- **`BreakerHandler`'s handler closure, every verdict and every request**: running the extracted program with the
extracted comparison `cw.Code < http.StatusInternalServerError` applied to the code the next handler wrote yields
`siteEvents .rest`: rejected → 503 written, `next` not served; admitted → the deferred resolver is installed before
`next` is served WITH THE WRAPPER, and resolves the promise exactly once — on return and on unwinding. -/
theorem tie_progRestHandler (v : Verdict) (q : SiteReq) :
    Prog.runRest progAccept progRestHandler v q.panics (restAcceptCond q.code 500) = some (siteEvents .rest v q) := by
  rw [tie_progRestHandler_table]
  have hc : restAcceptCond q.code 500 = Site.rest.pred q := by
    rw [tie_restAcceptCond]; simp [Site.pred]
  rw [hc]
  cases v <;> simp [restTable, siteEvents, Site.rejectRet]

/-! ### which predicate reaches `doReq` from every call site (typed forwards, followed in Lean)

Every `Do*` method of `circuitBreaker`, every package-level `Do*` of breakers.go and the breaker call of every site are
extracted as typed forwards (`Fwd`: parameter names, method called, argument list).  `reachCb` / `reachPkg` follow a
call down to `doReq(req, fallback, acceptable)` substituting actual arguments for parameters, so the predicate that
REACHES the window accounting is computed from the source — an entry point that drops it (`DoCtx` instead of
`DoWithAcceptableCtx`), forwards the wrong parameter, or a Ctx variant that forwards to the wrong plain variant
changes the result. -/

def substArg (params actuals : List String) (a : String) : String :=
  match (params.zip actuals).find? (fun p => p.1 = a) with
  | some p => p.2
  | none => a

def cbTable (m : String) : Option Fwd :=
  if m = "Do" then some fwdCbDo else if m = "DoCtx" then some fwdCbDoCtx
  else if m = "DoWithAcceptable" then some fwdCbDoWithAcceptable
  else if m = "DoWithAcceptableCtx" then some fwdCbDoWithAcceptableCtx
  else if m = "DoWithFallback" then some fwdCbDoWithFallback
  else if m = "DoWithFallbackCtx" then some fwdCbDoWithFallbackCtx
  else if m = "DoWithFallbackAcceptable" then some fwdCbDoWithFallbackAcceptable
  else if m = "DoWithFallbackAcceptableCtx" then some fwdCbDoWithFallbackAcceptableCtx
  else none

def pkgTable (m : String) : Option Fwd :=
  if m = "Do" then some fwdPkgDo else if m = "DoCtx" then some fwdPkgDoCtx
  else if m = "DoWithAcceptable" then some fwdPkgDoWithAcceptable
  else if m = "DoWithAcceptableCtx" then some fwdPkgDoWithAcceptableCtx
  else if m = "DoWithFallback" then some fwdPkgDoWithFallback
  else if m = "DoWithFallbackCtx" then some fwdPkgDoWithFallbackCtx
  else if m = "DoWithFallbackAcceptable" then some fwdPkgDoWithFallbackAcceptable
  else if m = "DoWithFallbackAcceptableCtx" then some fwdPkgDoWithFallbackAcceptableCtx
  else none

/-- follow a method of `circuitBreaker` down to `doReq`: its actual `(req, fallback, acceptable)` -/
def reachCb : Nat → String → List String → Option (List String)
  | 0, _, _ => none
  | n + 1, m, actuals =>
    if m = "doReq" then some actuals else
    match cbTable m with
    | none => none
    | some f =>
      if f.params.length ≠ actuals.length then none
      else reachCb n f.method (f.args.map (substArg f.params actuals))

/-- a package-level `breaker.Do*(…, name, …)`: one hop to the method of the named breaker, then `reachCb` -/
def reachPkg (m : String) (actuals : List String) : Option (List String) :=
  match pkgTable m with
  | none => none
  | some f =>
    if f.params.length ≠ actuals.length then none
    else reachCb 4 f.method (f.args.map (substArg f.params actuals))

/-- **all sixteen entry points** (8 methods, 8 package-level functions; placeholders R = request, F = fallback,
A = predicate, N = name): the request always arrives as the request; the fallback / predicate arrive iff the entry point
has such a parameter, else `nil` / `defaultAcceptable` -/
theorem tie_entryReach :
    reachCb 4 "Do" ["R"] = some ["R", "nil", "defaultAcceptable"]
    ∧ reachCb 4 "DoCtx" ["ctx", "R"] = some ["R", "nil", "defaultAcceptable"]
    ∧ reachCb 4 "DoWithAcceptable" ["R", "A"] = some ["R", "nil", "A"]
    ∧ reachCb 4 "DoWithAcceptableCtx" ["ctx", "R", "A"] = some ["R", "nil", "A"]
    ∧ reachCb 4 "DoWithFallback" ["R", "F"] = some ["R", "F", "defaultAcceptable"]
    ∧ reachCb 4 "DoWithFallbackCtx" ["ctx", "R", "F"] = some ["R", "F", "defaultAcceptable"]
    ∧ reachCb 4 "DoWithFallbackAcceptable" ["R", "F", "A"] = some ["R", "F", "A"]
    ∧ reachCb 4 "DoWithFallbackAcceptableCtx" ["ctx", "R", "F", "A"] = some ["R", "F", "A"]
    ∧ reachPkg "Do" ["N", "R"] = some ["R", "nil", "defaultAcceptable"]
    ∧ reachPkg "DoCtx" ["ctx", "N", "R"] = some ["R", "nil", "defaultAcceptable"]
    ∧ reachPkg "DoWithAcceptable" ["N", "R", "A"] = some ["R", "nil", "A"]
    ∧ reachPkg "DoWithAcceptableCtx" ["ctx", "N", "R", "A"] = some ["R", "nil", "A"]
    ∧ reachPkg "DoWithFallback" ["N", "R", "F"] = some ["R", "F", "defaultAcceptable"]
    ∧ reachPkg "DoWithFallbackCtx" ["ctx", "N", "R", "F"] = some ["R", "F", "defaultAcceptable"]
    ∧ reachPkg "DoWithFallbackAcceptable" ["N", "R", "F", "A"] = some ["R", "F", "A"]
    ∧ reachPkg "DoWithFallbackAcceptableCtx" ["ctx", "N", "R", "F", "A"] = some ["R", "F", "A"] := by decide +kernel

/-- **every call site**: the wrapped request closure reaches `doReq` as the request, no fallback, and the predicate
is the site's own: redis `acceptable` (single commands AND pipelines), `codes.Acceptable` at the zrpc client,
`serverSideAcceptable` at both zrpc server interceptors, `db.acceptable` at sqlx Exec / Prepare / Transact, the closure
(`scanFailed || db.acceptable(err)` resp. `s.accept(err)`, tied by `tie_sqlxPreds`) at the sqlx query / statement sites -/
theorem tie_siteReach :
    reachCb 4 siteCallRedisProcess.method siteCallRedisProcess.args = some ["<closure>", "nil", "acceptable"]
    ∧ reachCb 4 siteCallRedisPipeline.method siteCallRedisPipeline.args = some ["<closure>", "nil", "acceptable"]
    ∧ reachPkg siteCallZrpcClient.method siteCallZrpcClient.args = some ["<closure>", "nil", "codes.Acceptable"]
    ∧ reachPkg siteCallZrpcServerUnary.method siteCallZrpcServerUnary.args = some ["<closure>", "nil", "serverSideAcceptable"]
    ∧ reachPkg siteCallZrpcServerStream.method siteCallZrpcServerStream.args = some ["<closure>", "nil", "serverSideAcceptable"]
    ∧ reachCb 4 siteCallSqlExec.method siteCallSqlExec.args = some ["<closure>", "nil", "db.acceptable"]
    ∧ reachCb 4 siteCallSqlPrepare.method siteCallSqlPrepare.args = some ["<closure>", "nil", "db.acceptable"]
    ∧ reachCb 4 siteCallSqlTransact.method siteCallSqlTransact.args = some ["<closure>", "nil", "db.acceptable"]
    ∧ reachCb 4 siteCallSqlQueryRows.method siteCallSqlQueryRows.args = some ["<closure>", "nil", "<closure>"]
    ∧ reachCb 4 siteCallStmtExec.method siteCallStmtExec.args = some ["<closure>", "nil", "<closure>"]
    ∧ reachCb 4 siteCallStmtQueryRows.method siteCallStmtQueryRows.args = some ["<closure>", "nil", "<closure>"] := by decide +kernel

/-- the named predicates of the sites, as translated from their sources, over the error classes -/
def predByName (n : String) : Option (ErrClass → Bool) :=
  if n = "acceptable" then some fun e => predRedisAcceptable (e = .none) e.is e.as noS noS noS noS
  else if n = "defaultAcceptable" then some fun e => predDefaultAcceptable (e = .none) noS noS noS noS noS noS
  else if n = "codes.Acceptable" then
    some fun e => predCodesAcceptable false noS noS noS noS noS (fun c => codeOfName c = some e.grpcCode)
  else if n = "serverSideAcceptable" then
    some fun e => predServerSideAcceptable (e = .none) e.is e.as (fun c => c = "codes.Acceptable" && codeAcceptable e.grpcCode) noS noS noS
  else none

/-- what a site records for an error of class `e`: follow the site's call to `doReq`, take the predicate that arrives,
evaluate its translation -/
def sitePredVia (reach : Option (List String)) (e : ErrClass) : Option Bool :=
  match reach with
  | some [_, fb, p] => if fb = "nil" then (predByName p).map (· e) else none
  | _ => none

/-- **redis hooks, zrpc client, zrpc server — call site → entry point → `doReq` → predicate, for every error class**:
the predicate that reaches the accounting, evaluated as translated from its source, is `Site.pred`. -/
theorem tie_sitePredReaches (e : ErrClass) :
    sitePredVia (reachCb 4 siteCallRedisProcess.method siteCallRedisProcess.args) e = some (Site.redisProcess.pred { err := e })
    ∧ sitePredVia (reachCb 4 siteCallRedisPipeline.method siteCallRedisPipeline.args) e = some (Site.redisPipeline.pred { err := e })
    ∧ sitePredVia (reachPkg siteCallZrpcClient.method siteCallZrpcClient.args) e = some (Site.zrpcClient.pred { err := e })
    ∧ sitePredVia (reachPkg siteCallZrpcServerUnary.method siteCallZrpcServerUnary.args) e = some (Site.zrpcServerUnary.pred { err := e })
    ∧ sitePredVia (reachPkg siteCallZrpcServerStream.method siteCallZrpcServerStream.args) e = some (Site.zrpcServerStream.pred { err := e }) := by
  obtain ⟨h1, h2, h3, h4, h5, _⟩ := tie_siteReach
  rw [h1, h2, h3, h4, h5]
  simp [sitePredVia, predByName, (tie_predRedisAcceptable e).1, (tie_predServerSideAcceptable e).1,
    tie_predCodesAcceptable e.grpcCode, Site.pred]

/-! ### meta-properties of the interpreter (`Prog.run`): what remains trusted is the token translation

The interpreter is hand-written; these theorems are about it for ALL programs / states, not about one program. -/

section ProgMeta
open GoZero.C01.Prog

theorem emit_defers (s : St) (e : PEv) : (s.emit e).defers = s.defers := rfl
theorem stick_defers (s : St) : s.stick.defers = s.defers := rfl

theorem foldl_emit_defers (ms : List Mark) (s : St) :
    (ms.foldl (fun s m => s.emit (.mark m)) s).defers = s.defers :=
  List.foldlRecOn (motive := fun s' : St => s'.defers = s.defers) ms _ rfl fun _ h _ _ => h

theorem callSem_defers (env : Env) (s : St) (lhs : List String) (f : String) (args : List String) :
    (callSem env s lhs f args).defers = s.defers := by
  unfold callSem
  simp only [apply_ite St.defers]
  simp [emit_defers, stick_defers, foldl_emit_defers]

/-- consuming a draw leaves the defer stack alone -/
theorem draw_defers (s : St) (c : String) :
    (if c = "b.proba.TrueOnProba(dropRatio)" then { s with draws := s.draws + 1 } else s).defers = s.defers := by
  split <;> rfl

/-- `exec` never drops, reorders or duplicates a registered deferred body: it only pushes new ones on top.
By induction along the branches of `exec`: every branch either stops in a state with the stack it found, or continues
(`ih`) from a state with that stack or, at `defer {`, with one more body on it.  (`caseN` counts the branches of
`Prog.exec` in the order of its source; the numbers below move with any edit of it.) -/
theorem exec_defers_suffix (env : Env) (n : Nat) (toks : List Tok) (s : St) :
    ∃ l, (exec env n toks s).defers = l ++ s.defers := by
  fun_induction exec env n toks s
  -- a call: `callSem` keeps the stack
  case case4 ih => simpa only [callSem_defers] using ih
  -- `if`, its condition true / false / unknown: the state may have consumed a draw
  case case11 s _ c _ _ ih | case12 s _ c _ _ ih =>
    rw [← draw_defers s c]
    exact ih
  case case13 s _ c _ _ => exact ⟨[], (draw_defers s c).symm ▸ rfl⟩
  -- `defer {`: the body is pushed
  case case16 _ r _ _ ih =>
    obtain ⟨l, hl⟩ := ih
    exact ⟨l ++ [takeBlock 0 r], by simp [hl]⟩
  -- every other branch: `ih` as it stands, or a stop
  all_goals first | assumption | exact ⟨[], rfl⟩

/-- **a deferred marker runs exactly once and leaves the way the function ended untouched — whatever that way is**:
a plain return, falling off the end, or unwinding (the one ending that stands for a panic with any value and for
`runtime.Goexit`) -/
theorem runDefer_marker (env : Env) (s : St) (en : Option Ending) (f : String) (m : Mark)
    (hs : s.stuck = false)
    (hf : (f = "b.markFailure" ∧ m = .fail) ∨ (f = "b.markSuccess" ∧ m = .succ) ∨ (f = "b.markDrop" ∧ m = .drop)) :
    runDefer env { s with ending := en } [.call [] f []]
      = { s with evs := s.evs ++ [.mark m], ending := en, defers := [] } := by
  rcases hf with ⟨rfl, rfl⟩ | ⟨rfl, rfl⟩ | ⟨rfl, rfl⟩ <;>
    simp [runDefer, exec, callSem, St.emit, hs]

/-- the function as a whole, by definition: the body runs, then `runDefer` visits the deferred bodies still registered,
one visit per list element, newest first.  What a visit does is `runDefer_marker` (for a body that is one marker call);
that the body never drops or duplicates a registered one is `exec_defers_suffix`.  The three are not composed into one
statement about `run`. -/
theorem run_unfold (env : Prog.Env) (prog : List Tok) (s0 : Prog.St) :
    Prog.run env prog s0
      = (Prog.exec env (prog.length + 1) prog s0).defers.foldl (Prog.runDefer env)
          { Prog.exec env (prog.length + 1) prog s0 with defers := [] } := rfl

end ProgMeta

/-! ### the logging wrappers, and every verdict recorded exactly once -/

/-- **`loggedThrottle.doReq` is `logError ∘ googleBreaker.doReq`** with `req` and `fallback` forwarded unchanged and a
closure in the predicate's place that answers exactly what `acceptable` answers for every request result (its only
extra is a line in the error window); and `logError` returns its argument unchanged — the breaker's own rejection, the
request's own `ErrServiceUnavailable` (bare or wrapped), any other error, nil — and records nothing.  So
`doReqEvents` IS the behaviour through the wrapper (`Outcome.brk/wbrk`: the request's own error comes back by identity,
the fallback is not run by the logging layer). -/
theorem tie_loggedDoReq :
    loggedDoReqOuter = "lt.logError" ∧ loggedDoReqInner = "lt.internalThrottle.doReq"
    ∧ loggedDoReqArgs = ["req", "fallback", "<closure>"]
    ∧ (∀ (custom : Bool) (o : Outcome), Prog.runClosure loggedDoReqClosure custom o = some (acceptable custom o))
    ∧ (∀ (errv : Prog.Val) (o : Outcome), Prog.runLogError progLogError errv o = some errv) := by
  simp only [forall_outcome, forall_val]
  decide +kernel

/-- `loggedThrottle.allow`: the inner `allow()` once (its drop on a rejection, nothing else), the promise wrapped, the
error through `logError` (identity, above) -/
theorem tie_loggedAllow (v : Verdict) :
    Prog.runWrapper progAccept progLoggedAllow v
      = some (marksOf (allowEvents v), ["promiseWithReason{ promise: promise, errWin: lt.errWin, }", "lt.logError(err)"]) := by
  revert v
  simp only [forall_verdict]
  decide +kernel

/-- `promiseWithReason.Accept / Reject`: exactly one resolution of the inner promise each (Accept → success,
Reject → failure; the reason only goes to the error window) -/
theorem tie_promiseWithReason :
    Prog.runWrapper progAccept progPromiseAccept .pass = some ([.succ], [])
    ∧ Prog.runWrapper progAccept progPromiseReject .pass = some ([.fail], []) := by decide

/-- **every rejection is recorded exactly once, at every entry point, by the code as extracted**: running the
extracted `accept` + `doReq` (all four `Do*` entry points, every request outcome), `accept` + `allow` (`Allow`), and
`accept` + `allow` + the rest handler on a rejecting verdict records exactly one drop — not zero (a caller that
forgets `markDrop`) and not two (`accept()` marking on its own as well as its caller). -/
theorem tie_rejection_recorded_once (e : Entry) (o : Outcome) (unwinds accept : Bool) :
    (Prog.runDoReq progAccept progDoReq .reject e o).map marksOf = some [.drop]
    ∧ (Prog.runAllow progAccept progAllow .reject).map marksOf = some [.drop]
    ∧ (Prog.runRest progAccept progRestHandler .reject unwinds accept).map smarksOf = some [.drop] := by
  rw [tie_progDoReq, tie_progAllow, tie_progRestHandler_table]
  rcases e with ⟨hf, cu⟩
  cases hf <;> simp [doReqEvents, allowEvents, restTable, marksOf, smarksOf]

/-- and an admission records nothing before the request / the promise is resolved: exactly one success-or-failure
mark per admitted `Do*` call, none for an admitted `Allow` -/
theorem tie_admission_recorded_once (e : Entry) (o : Outcome) :
    (Prog.runDoReq progAccept progDoReq .pass e o).map (fun evs => (marksOf evs).length) = some 1
    ∧ (Prog.runAllow progAccept progAllow .pass).map marksOf = some [] := by
  rw [tie_progDoReq, tie_progAllow]
  rcases e with ⟨hf, cu⟩
  cases o <;> simp [doReqEvents, allowEvents, marksOf]

end GoZero.C01.Tie
