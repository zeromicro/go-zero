/-
C01 — histories: finite sequences of calls (any entry point, outcome, draw) and time gaps, with the two ghosts the
property talks about: the time of the last admission made while throttling and the log of everything recorded.  Every
history keeps `lastPass` equal to that ghost (`Sys.Good`) and the window a view of that log (`WinInv`).
A `call` decides and records its mark at ONE clock value.  A request that takes time is an `allow` followed, after `tick`s,
by the `resolve` of its promise — for the breaker's state that is what `doReq` does when `req()` returns — or a thread of
Conc.lean, where the clock may move between the decision and the mark.
-/
import GoZero.C01.Accept
import GoZero.C01.Window
namespace GoZero.C01

inductive Op
  | tick (dt : Nat)                                   -- time passes
  | call (u : Rat) (e : Entry) (o : Outcome)          -- Do / DoWithAcceptable / DoWithFallback / DoWithFallbackAcceptable (+Ctx, live)
  | allow (u : Rat)                                   -- Allow / AllowCtx (live)
  | resolve (m : Mark)                                -- a promise handed out earlier is resolved now (Accept = succ, Reject = fail)
  | ctxDone                                           -- any …Ctx entry point with a context that is already done

structure Sys where
  b : Breaker
  now : Nat
  lastThrottled : Option Nat      -- ghost: time of the last admission made on the throttled path
  log : List (Nat × Mark)         -- ghost: every mark recorded so far with the time of recording (newest first)
  deriving Repr

def Sys.init (t0 : Nat) : Sys := { b := Breaker.init t0, now := t0, lastThrottled := none, log := [] }

/-- the state after a `call` / `allow` with events `evs` and resulting breaker `b'`: the ghost time moves iff the path through
`accept` sets `lastPass`, the marks of `evs` go on the log at `s.now` -/
def Sys.afterAccept (s : Sys) (u : Rat) (evs : List Ev) (b' : Breaker) : Sys :=
  { s with b := b'
           lastThrottled := if (s.b.pathOf s.now u).setsLastPass then some s.now else s.lastThrottled
           log := ((marksOf evs).map fun m => (s.now, m)).reverse ++ s.log }

def Sys.step (s : Sys) : Op → Sys
  | .tick dt => { s with now := s.now + dt }
  | .call u e o => s.afterAccept u (s.b.doReq s.now u e o).1 (s.b.doReq s.now u e o).2
  | .allow u => s.afterAccept u (s.b.allow s.now u).1 (s.b.allow s.now u).2
  | .resolve m => { s with b := s.b.mark s.now m, log := (s.now, m) :: s.log }
  | .ctxDone => s

def Sys.run (s : Sys) (ops : List Op) : Sys := ops.foldl Sys.step s

/-- the invariant tying `lastPass` to the ghost; the ghost is a clock value, so it is not before `t0`.  `lastPass = 0` is
how the code says "no throttled admission yet" (`getD 0`), so a ghost `some 0` would read as none: hence `0 < t0`
(`timex.Now()` is positive) in `probe_after_one_second`. -/
def Sys.Good (t0 : Nat) (s : Sys) : Prop :=
  t0 ≤ s.now ∧ s.b.lastPass = s.lastThrottled.getD 0 ∧ ∀ t, s.lastThrottled = some t → t0 ≤ t

theorem Sys.good_afterAccept (t0 : Nat) (s : Sys) (h : s.Good t0) (u : Rat) (evs : List Ev) :
    (s.afterAccept u evs ((s.b.accept s.now u).2.applyMarks s.now (marksOf evs))).Good t0 := by
  obtain ⟨h1, h2, h3⟩ := h
  refine ⟨h1, ?_, ?_⟩
  · simp only [Sys.afterAccept, accept_applyMarks]
    split <;> simp_all
  · intro t ht
    simp only [Sys.afterAccept] at ht
    split at ht
    · exact Option.some.inj ht ▸ h1
    · exact h3 t ht

theorem Sys.good_run (t0 : Nat) (ops : List Op) : ((Sys.init t0).run ops).Good t0 := by
  refine List.foldlRecOn ops Sys.step (by simp [Sys.Good, Sys.init, Breaker.init]) fun s h op _ => ?_
  cases op with
  | tick dt => exact ⟨Nat.le_trans h.1 (Nat.le_add_right _ _), h.2⟩
  | call u e o => exact Sys.good_afterAccept t0 s h u _
  | allow u => exact Sys.good_afterAccept t0 s h u _
  | resolve m => exact h
  | ctxDone => exact h

theorem Sys.run_append (s : Sys) (a b : List Op) : s.run (a ++ b) = (s.run a).run b := by
  simp [Sys.run, List.foldl_append]

/-- a call made while throttling whose draw is not below the ratio is a throttled admission -/
theorem Sys.step_call_throttled (s : Sys) (u : Rat) (e : Entry) (o : Outcome)
    (h0 : 0 < dropRatio0 (s.b.history s.now)) (h1 : ¬ u < dropRatio1 (s.b.history s.now)) :
    (s.step (.call u e o)).lastThrottled = some s.now := by
  show (if (s.b.pathOf s.now u).setsLastPass then some s.now else s.lastThrottled) = some s.now
  rw [if_pos]
  exact (acceptPath_setsLastPass _ _ _ _).mpr ⟨decide_eq_true h0, (accept_pass_iff s.b s.now u).mpr fun h => h1 h.2.1⟩

/-! ### the breaker's window (n = 40, d = 250 ms): `accept` leaves it alone, every mark is one `Add` -/

def WinInv (t0 : Nat) (b : Breaker) (now : Nat) (log : List (Nat × Mark)) : Prop :=
  WinInvG nBuckets intervalNs t0 b.rw now log

theorem Sys.winInv_afterAccept (t0 : Nat) (s : Sys) (h : WinInv t0 s.b s.now s.log) (u : Rat) (evs : List Ev) :
    WinInv t0 ((s.b.accept s.now u).2.applyMarks s.now (marksOf evs)) s.now
      (((marksOf evs).map fun m => (s.now, m)).reverse ++ s.log) := by
  rw [accept_applyMarks]
  exact foldl_add_inv _ h

theorem Sys.winInv_run (t0 : Nat) (ops : List Op) :
    WinInv t0 ((Sys.init t0).run ops).b ((Sys.init t0).run ops).now ((Sys.init t0).run ops).log := by
  refine List.foldlRecOn (motive := fun s : Sys => WinInv t0 s.b s.now s.log) ops Sys.step
    (winInvG_init nBuckets intervalNs (by decide) (by decide) t0) fun s h op _ => ?_
  cases op with
  | tick dt => exact h.mono (Nat.le_add_right _ _)
  | call u e o => exact Sys.winInv_afterAccept t0 s h u _
  | allow u => exact Sys.winInv_afterAccept t0 s h u _
  | resolve m => exact add_inv m h
  | ctxDone => exact h

end GoZero.C01
