/-
C01 — schedules: any number of goroutines execute `Do*` calls concurrently on one breaker, in a small-step model
(`stepT`) at the granularity of the synchronised operations of `accept()` / `doReq()`.  The clock only moves forward
(`tick`); thread ids are natural numbers, and `Reach` closes over every choice of the next thread, i.e. every schedule.
One thread id is ONE call (pc 0 → 8, then no step): a goroutine that calls several times is several ids.  Only `Do*` calls
are scheduled (no `Allow` / promise, no call sites).  `stepT` is written by hand after `accept()` / `doReq()`; no theorem ties
it to `acceptPath` / `Breaker.doReq` or to the extracted programs: it is trusted like Model.lean, and exercised by the
concurrent phases of the harness.
-/
import GoZero.C01.Run
namespace GoZero.C01

structure Env where
  u : Nat → Rat                -- the draw each call would get
  entry : Nat → Entry
  outcome : Nat → Outcome

structure Cfg where
  rw : RW
  lastPass : Nat
  clock : Nat
  log : List (Nat × Mark)          -- ghost: everything recorded, with its time
  pc : Nat → Nat
  snap : Nat → WinRes
  lp : Nat → Nat
  tnow : Nat → Nat
  verdict : Nat → Option Verdict
  marks : Nat → List Mark          -- ghost: what each call recorded

def upd {α : Type} (f : Nat → α) (t : Nat) (v : α) : Nat → α := fun i => if i = t then v else f i

def Cfg.init (t0 : Nat) : Cfg :=
  { rw := RW.init nBuckets intervalNs t0, lastPass := 0, clock := t0, log := [],
    pc := fun _ => 0, snap := fun _ => {}, lp := fun _ => 0, tnow := fun _ => 0, verdict := fun _ => none,
    marks := fun _ => [] }

def forcedBy (lp tnow : Nat) : Prop := lp > 0 ∧ tnow - lp > forcePassNs

instance (lp tnow : Nat) : Decidable (forcedBy lp tnow) := by unfold forcedBy; exact inferInstance

/-
  pc 0  history():   Reduce under the window's RLock — one atomic snapshot at the current clock
  pc 1  `dropRatio <= 0` on the snapshot (thread-local), else `lastPass.Load()` (atomic)
  pc 2  `timex.Since(lastPass)` — reads the clock
  pc 3  forced pass: `lastPass.Set(timex.Now())`
  pc 4  `proba.TrueOnProba(dropRatio)` (mutex-protected draw)
  pc 5  drawn pass: `lastPass.Set(timex.Now())`
  pc 6  admitted: request runs (no shared state), deferred mark: `stat.Add` under the window's Lock — atomic
  pc 7  rejected: `markDrop` — atomic
  pc 8  done
-/
def stepT (env : Env) (c : Cfg) (t : Nat) : Option Cfg :=
  match c.pc t with
  | 0 => some { c with snap := upd c.snap t (summarize (c.rw.visible c.clock)), pc := upd c.pc t 1 }
  | 1 =>
    if 0 < dropRatio0 (c.snap t) then some { c with lp := upd c.lp t c.lastPass, pc := upd c.pc t 2 }
    else some { c with verdict := upd c.verdict t (some .pass), pc := upd c.pc t 6 }
  | 2 => some { c with tnow := upd c.tnow t c.clock, pc := upd c.pc t (if forcedBy (c.lp t) c.clock then 3 else 4) }
  | 3 => some { c with lastPass := c.clock, verdict := upd c.verdict t (some .pass), pc := upd c.pc t 6 }
  | 4 =>
    if env.u t < dropRatio1 (c.snap t) then some { c with verdict := upd c.verdict t (some .reject), pc := upd c.pc t 7 }
    else some { c with pc := upd c.pc t 5 }
  | 5 => some { c with lastPass := c.clock, verdict := upd c.verdict t (some .pass), pc := upd c.pc t 6 }
  | 6 => some { c with rw := c.rw.add c.clock (admitMark (env.entry t) (env.outcome t))
                       log := (c.clock, admitMark (env.entry t) (env.outcome t)) :: c.log
                       marks := upd c.marks t [admitMark (env.entry t) (env.outcome t)], pc := upd c.pc t 8 }
  | 7 => some { c with rw := c.rw.add c.clock .drop, log := (c.clock, .drop) :: c.log
                       marks := upd c.marks t [.drop], pc := upd c.pc t 8 }
  | _ => none

inductive Reach (env : Env) (t0 : Nat) : Cfg → Prop
  | init : Reach env t0 (Cfg.init t0)
  | tick (c : Cfg) (dt : Nat) : Reach env t0 c → Reach env t0 { c with clock := c.clock + dt }
  | step (c c' : Cfg) (t : Nat) : Reach env t0 c → stepT env c t = some c' → Reach env t0 c'

/-- per-thread invariant: what is known at each program counter, and the law for a rejecting verdict -/
def TInv (env : Env) (c : Cfg) (t : Nat) : Prop :=
  (c.pc t ≤ 8) ∧
  (c.verdict t = some .reject → overThreshold (c.snap t) ∧ ¬ forcedBy (c.lp t) (c.tnow t)) ∧
  ((c.pc t = 2 ∨ c.pc t = 3 ∨ c.pc t = 4 ∨ c.pc t = 5) → 0 < dropRatio0 (c.snap t)) ∧
  (c.pc t = 4 → ¬ forcedBy (c.lp t) (c.tnow t)) ∧
  (c.pc t = 3 → forcedBy (c.lp t) (c.tnow t)) ∧
  (c.pc t < 6 → c.marks t = [] ∧ c.verdict t = none) ∧
  (c.pc t = 6 → c.marks t = [] ∧ c.verdict t = some .pass) ∧
  (c.pc t = 7 → c.marks t = [] ∧ c.verdict t = some .reject) ∧
  (c.pc t = 8 → (c.verdict t = some .reject ∧ c.marks t = [.drop]) ∨
                (c.verdict t = some .pass ∧ c.marks t = [admitMark (env.entry t) (env.outcome t)]))

/-- a step of thread `t` leaves the registers of every other thread alone, and `TInv` reads nothing else -/
theorem tinv_frame (env : Env) (c c' : Cfg) (t u : Nat) (hs : stepT env c t = some c') (hne : u ≠ t) :
    TInv env c' u ↔ TInv env c u := by
  unfold stepT at hs
  split at hs <;> (try split at hs) <;> simp only [Option.some.injEq, reduceCtorEq] at hs <;> subst hs <;>
    simp only [TInv, upd, hne, if_false]

theorem tinv_step (env : Env) (c c' : Cfg) (t u : Nat) (hu : TInv env c u) (hs : stepT env c t = some c') :
    TInv env c' u := by
  by_cases hut : u = t
  · subst hut
    unfold TInv at hu ⊢
    unfold stepT at hs
    split at hs <;> (try split at hs) <;> simp only [Option.some.injEq, reduceCtorEq] at hs <;> subst hs <;> simp_all [upd]
    -- the one step that produces a rejecting verdict (pc 4, draw below the ratio): the snapshot is throttled
    exact dropNum_pos_over _ ((dropRatio0_pos_iff _).mp (by simp_all))
  · exact (tinv_frame env c c' t u hs hut).mpr hu

theorem tinv_reach (env : Env) (t0 : Nat) (c : Cfg) (h : Reach env t0 c) : ∀ u, TInv env c u := by
  induction h with
  | init => exact fun u => by simp [TInv, Cfg.init]
  | tick c dt _ ih => exact ih
  | step c c' t _ hs ih => exact fun u => tinv_step env c c' t u (ih u) hs

/-- only the two atomic `Add` steps (pc 6, pc 7) touch the window -/
theorem wininv_reach (env : Env) (t0 : Nat) (c : Cfg) (h : Reach env t0 c) :
    WinInv t0 ⟨c.rw, c.lastPass⟩ c.clock c.log := by
  induction h with
  | init => exact winInvG_init nBuckets intervalNs (by decide) (by decide) t0
  | tick c dt _ ih => exact ih.mono (Nat.le_add_right _ _)
  | step c c' t _ hs ih =>
    unfold stepT at hs
    split at hs <;> (try split at hs) <;> simp only [Option.some.injEq, reduceCtorEq] at hs <;> subst hs
    all_goals first
      | exact ih
      | exact add_inv _ ih

end GoZero.C01
