/-
String literals under evaluation (core Lean only).  To the kernel a literal `"abc"` is `String.ofList ['a', 'b', 'c']`, but a
`String` is an array of UTF-8 bytes: a function applied to a literal (`toList`, `startsWith`, …) first encodes the characters
and then decodes the bytes again, at a price per character far above what the models cost that are evaluated on the characters.
The test vectors and the source texts of the ties are stated over literals; the two devices here take the literal apart by a
rewrite, which unifies it with `String.ofList ?l` and evaluates nothing, so that the `decide` after them runs the model and not
the codec.
-/
namespace GoZero

/-- Every `"…".toList` of the goal becomes the list of its characters (`simp only` does not fire on a literal, and
`String.reduceToList` is only definitional: the kernel would still decode). -/
macro "lit_chars" : tactic => `(tactic| repeat rw [String.toList_ofList])

/-- A prefix test of two literals on their characters, used as `with_reducible exact startsWith_lit rfl rfl (by decide)`.  The
literals come in as equations closed by `rfl` under `with_reducible`: with `String.ofList` unfoldable the elaborator compares
bytes, and in the conclusion the pattern instance of `startsWith` would decode `p` once more. -/
theorem startsWith_lit {s p : String} {l q : List Char} {b : Bool} (hs : s = String.ofList l) (hp : p = String.ofList q)
    (h : q.isPrefixOf l = b) : s.startsWith p = b := by
  rw [hs, hp, ← h, Bool.eq_iff_iff, String.startsWith_string_iff, String.toList_ofList, String.toList_ofList,
    List.isPrefixOf_iff_prefix]

end GoZero
