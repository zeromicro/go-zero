/-
`RollingWindow[T, B]` of core/collection/rollingwindow.go for an arbitrary bucket type `β` with empty bucket `e` (what
`newBucket()` returns and `Reset()` restores): a ring of `n = size` buckets under an `offset`, on a time grid of step
`d = interval`.
  * `cell e n off bs a`  the bucket `a` places behind `offset` on the ring `win.buckets` (its age in intervals);
  * `reset e n off s bs` the loop of `updateOffset`: `for i := 0; i < span; i++ { win.resetBucket((offset+i+1) % size) }`;
  * `span n d lt now`    `span()` at a time `now` not before `lt = lastTime`: whole intervals passed, capped at `size`;
  * `Lget e L cur a`     a log `L : interval index → contents` read `a` intervals before interval `cur` (empty before the
                         first interval);
  * `record L j f`       the log after an `Add` in interval `j`, for `f` the bucket's own `Add(v)`.
`Rep e n d o lt bs t0 cur L` says what the ring holds: `lastTime` is the start of interval `cur` of the grid that begins
at the creation time `t0`, the bucket of age `a` is entry `cur - a` of `L`, and `L` is empty after `cur`.  `Rep.update`
(`Rep.stay` on the early return) is `updateOffset`, `Rep.modify` is the write of `Add` (`win.add(offset, v)`), and
`Rep.visible` is the walk of `Reduce`, which starts at `(offset + span + 1) % size`.  Nothing here looks inside a bucket.
The three models of the window (C01: the breaker's buckets of marks; C02: the shedder's sum/count buckets; C16: buckets as
the lists of the values added) are instances: each shows that its own reset loop is `reset` and reads `L` off its own log.
-/
namespace GoZero.Ring

variable {β : Type} (e : β)

/-- the bucket of age `a` -/
def cell (n off : Nat) (bs : List β) (a : Nat) : β := bs.getD ((off + n - a) % n) e

/-- `for i := 0; i < s; i++ { resetBucket((off+i+1) % n) }` -/
def reset (n off : Nat) : Nat → List β → List β
  | 0, bs => bs
  | s + 1, bs => (reset n off s bs).set ((off + s + 1) % n) e

/-- `span()` for a clock that has not gone back -/
def span (n d lt now : Nat) : Nat := if (now - lt) / d < n then (now - lt) / d else n

def Lget (L : Nat → β) (cur a : Nat) : β := if a ≤ cur then L (cur - a) else e

def record (L : Nat → β) (j : Nat) (f : β → β) : Nat → β := fun i => if i = j then f (L i) else L i

/-! ### the ring -/

/-- the current bucket (age 0) is cell `f % n`, and no other age below `n` shares it: the positions differ by `n - a` -/
theorem pos_zero {n f a : Nat} (ha : a < n) : f % n = (f + n - a) % n ↔ a = 0 := by
  refine ⟨fun h => ?_, fun h => by simp [h]⟩
  have h1 := Nat.sub_mod_eq_zero_of_mod_eq h.symm
  rw [show f + n - a - f = n - a by omega] at h1
  by_cases h0 : a = 0
  · exact h0
  · rw [Nat.mod_eq_of_lt (by omega)] at h1
    omega

theorem cell_mod {n a : Nat} (off : Nat) (bs : List β) (ha : a ≤ n) : cell e n (off % n) bs a = cell e n off bs a := by
  unfold cell
  rw [Nat.add_sub_assoc ha, Nat.add_sub_assoc ha, Nat.mod_add_mod]

/-- no bound on `q` or `p` is needed: the default of `getD` is the empty bucket as well -/
theorem getD_set_empty (l : List β) (q p : Nat) : (l.set q e).getD p e = if q = p then e else l.getD p e := by
  simp only [List.getD_eq_getElem?_getD, List.getElem?_set]
  split
  · split <;> rfl
  · rfl

theorem getD_modify (l : List β) (f : β → β) (q p : Nat) (hp : p < l.length) :
    (l.modify q f).getD p e = if q = p then f (l.getD p e) else l.getD p e := by
  simp only [List.getD_eq_getElem?_getD, List.getElem?_modify, List.getElem?_eq_getElem hp, Option.map_eq_map,
    Option.map_some, Option.getD_some]

theorem length_reset (n off s : Nat) (bs : List β) : (reset e n off s bs).length = bs.length := by
  induction s with
  | zero => rfl
  | succ s ih => rw [reset, List.length_set, ih]

/-- after `s` resets and `s` steps of the offset every bucket is `s` older, and the `s` youngest are empty: the loop
ends on the cell of age 0, and before that it has done the same for `s - 1` -/
theorem cell_reset {n a : Nat} (off s : Nat) (bs : List β) (ha : a < n) :
    cell e n (off + s) (reset e n off s bs) a = if a < s then e else cell e n off bs (a - s) := by
  induction s generalizing a with
  | zero => rfl
  | succ s ih =>
    rw [cell, reset, getD_set_empty, show off + (s + 1) + n - a = off + s + 1 + n - a from rfl]
    simp only [pos_zero ha]
    split
    · next h0 => rw [h0, if_pos (Nat.succ_pos s)]
    · rw [show off + s + 1 + n - a = off + s + n - (a - 1) by omega]
      refine (ih (a := a - 1) (by omega)).trans ?_
      simp only [show a - 1 < s ↔ a < s + 1 by omega, show a - 1 - s = a - (s + 1) by omega]

theorem cell_modify {n off a : Nat} (bs : List β) (f : β → β) (hlen : bs.length = n) (ha : a < n) :
    cell e n off (bs.modify (off % n) f) a = if a = 0 then f (cell e n off bs a) else cell e n off bs a := by
  unfold cell
  rw [getD_modify e _ _ _ _ (by rw [hlen]; exact Nat.mod_lt _ (by omega))]
  simp only [pos_zero ha]

/-! ### the time grid -/

theorem span_facts (n d lt now : Nat) :
    span n d lt now ≤ n ∧ span n d lt now ≤ (now - lt) / d ∧ (span n d lt now < n → span n d lt now = (now - lt) / d) := by
  unfold span
  split <;> omega

/-- the interval that contains `now`, counted from an aligned `lt` -/
theorem idx_eq {d t0 cur lt now : Nat} (hd : 0 < d) (hlt : lt = t0 + cur * d) (hle : lt ≤ now) :
    (now - t0) / d = cur + (now - lt) / d := by
  have e : now - t0 = (now - lt) + cur * d := by omega
  rw [e, Nat.add_mul_div_right _ _ hd, Nat.add_comm]

/-- `lastTime` is realigned to the start of the interval that contains `now` -/
theorem realign {d lt now : Nat} (h : lt ≤ now) : now - (now - lt) % d = lt + (now - lt) / d * d := by
  have h1 := Nat.div_add_mod (now - lt) d
  rw [Nat.mul_comm] at h1
  omega

theorem Lget_shift (L : Nat → β) (cur : Nat) {o a : Nat} (h : o ≤ a) : Lget e L cur (a - o) = Lget e L (cur + o) a := by
  unfold Lget
  by_cases hc : a - o ≤ cur
  · rw [if_pos hc, if_pos (by omega)]; congr 1; omega
  · rw [if_neg hc, if_neg (by omega)]

theorem Lget_record (L : Nat → β) (c : Nat) (f : β → β) (a : Nat) :
    Lget e (record L c f) c a = if a = 0 then f (Lget e L c a) else Lget e L c a := by
  unfold Lget record
  by_cases ha : a = 0
  · subst ha; simp
  · rw [if_neg ha]
    split
    · rw [if_neg (by omega)]
    · rfl

/-! ### the ring as a view of the log -/

structure Rep (n d o lt : Nat) (bs : List β) (t0 cur : Nat) (L : Nat → β) : Prop where
  npos : 0 < n
  dpos : 0 < d
  len : bs.length = n
  off : o < n
  lt : lt = t0 + cur * d
  cells : ∀ a, a < n → cell e n o bs a = Lget e L cur a
  future : ∀ j, cur < j → L j = e

variable {e} {n d o lt : Nat} {bs : List β} {t0 cur : Nat} {L : Nat → β}

theorem Rep.init (hn : 0 < n) (hd : 0 < d) (t0 : Nat) : Rep e n d 0 t0 (List.replicate n e) t0 0 fun _ => e := by
  refine ⟨hn, hd, List.length_replicate, hn, by simp, fun a _ => ?_, fun _ _ => rfl⟩
  simp only [cell, List.getD_eq_getElem?_getD, List.getElem?_replicate, Lget, ite_self]
  split <;> rfl

/-- what lies ahead of the newest interval is empty -/
theorem Rep.young (h : Rep e n d o lt bs t0 cur L) {k a : Nat} (ha : a < k) : Lget e L (cur + k) a = e := by
  unfold Lget
  rw [if_pos (by omega)]
  exact h.future _ (by omega)

theorem Rep.idx (h : Rep e n d o lt bs t0 cur L) {now : Nat} (hm : lt ≤ now) : (now - t0) / d = cur + (now - lt) / d :=
  idx_eq h.dpos h.lt hm

/-- `updateOffset` moves the representation forward in time without changing the log -/
theorem Rep.update (h : Rep e n d o lt bs t0 cur L) {now : Nat} (hm : lt ≤ now) :
    Rep e n d ((o + span n d lt now) % n) (now - (now - lt) % d) (reset e n o (span n d lt now) bs) t0
      (cur + (now - lt) / d) L := by
  obtain ⟨hsn, hle, hso⟩ := span_facts n d lt now
  have hn := h.npos
  refine { h with len := (length_reset ..).trans h.len, off := Nat.mod_lt _ hn, cells := fun a ha => ?_,
                  lt := by rw [realign hm, h.lt, Nat.add_mul, Nat.add_assoc],
                  future := fun j hj => h.future j (Nat.lt_of_le_of_lt (Nat.le_add_right ..) hj) }
  generalize (now - lt) / d = k at hle hso ⊢
  generalize span n d lt now = s at hsn hle hso ⊢
  rw [cell_mod e _ _ (by omega), cell_reset e _ _ _ ha]
  split
  · exact (h.young (by omega)).symm
  · -- an age the loop does not reach is below `n`, so the span is not capped
    obtain rfl := hso (by omega)
    rw [h.cells _ (by omega), Lget_shift e L cur (by omega)]

/-- with span 0 `updateOffset` returns at once -/
theorem Rep.stay (h : Rep e n d o lt bs t0 cur L) {now : Nat} (hs : span n d lt now = 0) :
    Rep e n d o lt bs t0 (cur + (now - lt) / d) L := by
  rw [← (span_facts n d lt now).2.2 (hs ▸ h.npos), hs]
  exact h

/-- `Add` writes to the bucket of age 0 -/
theorem Rep.modify (h : Rep e n d o lt bs t0 cur L) (f : β → β) :
    Rep e n d o lt (bs.modify (o % n) f) t0 cur (record L cur f) := by
  refine { h with len := by simp [h.len], cells := fun a ha => ?_, future := fun j hj => ?_ }
  · rw [cell_modify e _ _ h.len ha, h.cells a ha, Lget_record]
  · rw [record, if_neg (by omega), h.future j hj]

/-- `Reduce` at `now` walks, oldest first, the cells after the `span` youngest: the log's intervals
`c - (n - 1), c - (n - 2), …` for `c` the interval of `now` -/
theorem Rep.visible (h : Rep e n d o lt bs t0 cur L) (now : Nat) {i : Nat} (hi : i + span n d lt now < n) :
    bs.getD ((o + span n d lt now + 1 + i) % n) e = Lget e L (cur + (now - lt) / d) (n - 1 - i) := by
  rw [← (span_facts n d lt now).2.2 (by omega)]
  generalize span n d lt now = s at hi
  rw [← Lget_shift e L cur (a := n - 1 - i) (by omega), ← h.cells _ (by omega), cell]
  congr 2
  omega

end GoZero.Ring
