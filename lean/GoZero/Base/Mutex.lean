/-
The discipline of a mutex in an interleaving model whose goroutines are numbered by `Nat`: one step of goroutine `t` leaves
the mutex alone, takes it when free, or releases it as the holder, and nobody else moves.  Then "who is inside the critical
section holds the mutex" and "who holds it is inside" survive the step (`mutex_kept`, `mutex_held`); core Lean only.
-/
namespace GoZero

section Mutex
variable {holds holds' : Nat → Prop} {m m' : Option Nat} {t : Nat}
  (hm : (m' = m ∧ (holds' t ↔ holds t)) ∨ (m = none ∧ m' = some t ∧ holds' t) ∨ (holds t ∧ ¬ holds' t ∧ m' = none))
  (ho : ∀ u, u ≠ t → (holds' u ↔ holds u))
include hm ho

/-- The three disjuncts of `hm` in order: `t` leaves the mutex and its own standing alone, takes the free mutex and enters, leaves
and releases it.  The instances read `hm` and `ho` off their step lemma (C07: the fields `lock` / `rw` and `other` of each
system's `Writes`; C13: the lock clause of `Conc.step_frame`). -/
theorem mutex_kept (h : ∀ v, holds v → m = some v) : ∀ v, holds' v → m' = some v := by
  intro v hv
  by_cases hvt : v = t
  · subst hvt
    rcases hm with ⟨e, hi⟩ | ⟨_, e, _⟩ | ⟨_, hn, _⟩
    · rw [e]; exact h v (hi.1 hv)
    · exact e
    · exact absurd hv hn
  · have hl := h v ((ho v hvt).1 hv)
    rcases hm with ⟨e, _⟩ | ⟨e, _⟩ | ⟨e, _⟩
    · rw [e, hl]
    · rw [e] at hl; cases hl
    · rw [h t e] at hl; cases hl; exact absurd rfl hvt

/-- `hm`, `ho` as in `mutex_kept`. -/
theorem mutex_held (h : ∀ v, m = some v → holds v) : ∀ v, m' = some v → holds' v := by
  intro v hv
  rcases hm with ⟨e, hi⟩ | ⟨_, e, ht⟩ | ⟨_, _, e⟩ <;> rw [e] at hv
  · by_cases hvt : v = t
    · subst hvt; exact hi.2 (h v hv)
    · exact (ho v hvt).2 (h v hv)
  · cases hv; exact ht
  · cases hv

end Mutex

end GoZero
