/-
C13 — driver: replays an implementation trace through the model (correspondence) and the spec (monitor).

Sections `excl=<0/1>` (subscriber through the real registry; resolver harness adds `pub=`/`updates=`):
  put <k> <v> | del <k> | batch p:<k>:<v> d:<k> … | reload <k>:<v> … | reloadc <k>:<v> … | connreload <k>:<v> … |
  reloadmid p:<k>:<v> d:<k> … / <k>:<v> …   (obs dead=1: cluster.reload did not return)
  cancel | closech | join | joinmid p:<k>:<v> d:<k> …        (after a join the observation adds late=<ids> lmap=<k:v,…>)
  => log=<+k:v,-k,…> vals=<v:[k.k];…> map=<k:v,…> values=<ids> notified=<n> last=<ids|none> [pub=<ids> updates=<n>]
Sections `h=kube`:
  add <ip>… | del <ip>… | update <oldVersion> <newVersion> <ip>… | set <ip>…   => eps=<ids> updates=<n> pub=<ids|none>
-/
import GoZero.Base.Trace
import GoZero.C13.Spec
import GoZero.C13.Multi
namespace GoZero.C13

open GoZero

def parsePair (s : String) : Option (Nat × Nat) :=
  match s.splitOn ":" with
  | [a, b] => do pure ((← a.toNat?), (← b.toNat?))
  | _ => none

def parsePairs (ts : List String) : Option (List (Nat × Nat)) := ts.mapM parsePair

def parseNats (ts : List String) : Option (List Nat) := ts.mapM (·.toNat?)

def splitComma (s : String) : List String := if s = "" then [] else s.splitOn ","

def parseBatchTok (s : String) : Option Ev :=
  match s.splitOn ":" with
  | ["p", k, v] => do pure (.put (← k.toNat?) (← v.toNat?))
  | ["d", k] => do pure (.del (← k.toNat?))
  | _ => none

/-- listener log `+k:v,-k,…` -/
def parseLogTok (s : String) : Option LEv :=
  match s.toList with
  | '+' :: cs => (parsePair (String.ofList cs)).map fun p => .add p.1 p.2
  | '-' :: cs => (String.ofList cs).toNat?.map .del
  | _ => none

def showL : LEv → String
  | .add k v => s!"+{k}:{v}"
  | .del k => s!"-{k}"

def showLog (l : List LEv) : String := ",".intercalate (l.map showL)

def insertByFst {β : Type} (x : Nat × β) : List (Nat × β) → List (Nat × β)
  | [] => [x]
  | y :: ys => if x.1 ≤ y.1 then x :: y :: ys else y :: insertByFst x ys

def sortByFst {β : Type} (l : List (Nat × β)) : List (Nat × β) := l.foldr insertByFst []

def showNats (l : List Nat) (sep : String := ",") : String := sep.intercalate (l.map toString)

def showVals (m : Map (List Nat)) : String :=
  ";".intercalate ((sortByFst m).map fun p => s!"{p.1}:[{showNats p.2 "."}]")

def showMapping (m : Map Nat) : String :=
  ",".intercalate ((sortByFst m).map fun p => s!"{p.1}:{p.2}")

def sameSet (a b : List (Nat × Nat)) : Bool :=
  a.length == b.length && a.all (b.contains ·) && b.all (a.contains ·)

def sameSetN (a b : List Nat) : Bool :=
  a.length == b.length && a.all (b.contains ·) && b.all (a.contains ·)

structure St where
  excl  : Bool
  cl    : Cluster
  reg   : Map Nat := []           -- spec registry
  cnt   : Map Nat := []           -- spec: counting registrations (exclusive)
  prev  : String := ""            -- implementation's Values() after the previous line
  pub   : Option String := none   -- resolver: last published
  dead  : Bool := false
  late  : Option Container := none -- model of a subscriber that joined the watch later (ordinary)
  tag   : String := ""            -- multi-key sections: ` service=<i>` (appended to the monitor messages)

def coverPut (st : St) (k v : Nat) : String :=
  match st.reg.get k with
  | none => if st.reg.any (·.2 = v) then "put-new-key-shared-value" else "put-new-key"
  | some v0 =>
    if v0 = v then "put-replayed"
    else if st.reg.any (·.2 = v) then "put-update-in-place-to-shared-value" else "put-update-in-place"

def coverDel (st : St) (k : Nat) : String :=
  match st.reg.get k with
  | none => "del-absent"
  | some v => if (st.reg.filter (·.2 = v)).length > 1 then "del-one-of-shared-value" else "del-last-of-value"

def runSubLine (st : St) (r : Report) (sec : Nat) (l : Line) : St × Report := Id.run do
  let mut r := r
  let obs := l.obs
  if (kv? obs "dead").isSome then
    -- cluster.reload did not return: it holds the cluster lock and waits for the watch goroutine, which needs the lock
    if st.dead then return (st, r.addCover "line-after-deadlock")
    return ({ st with dead := true }, r.violation sec l.idx s!"reload-deadlocks-while-a-watch-response-is-handled op=[{joinSp l.op}] (the view is never updated again)")
  if (kv? obs "loadstuck").isSome then
    -- every Get after the one that timed out ran on an expired context: load can never finish, the watch never comes back
    return ({ st with dead := true }, r.violation sec l.idx s!"reload-never-installed-the-snapshot-although-a-Get-with-a-live-context-would-have-succeeded op=[{joinSp l.op}] values=[{kvStr obs "values" "?"}] (every retry of load ran on the expired context of the first attempt; the view stays at the old snapshot){st.tag}")
  let some logS := kv? obs "log" | return (st, r.mismatch sec l.idx "obs-without-log" (joinSp obs))
  let some log := (splitComma logS).mapM parseLogTok | return (st, r.mismatch sec l.idx "bad-log" logS)
  -- the registry events of this line
  let evs? : Option (List Ev) :=
    match l.op with
    | ["put", k, v] => do pure [.put (← k.toNat?) (← v.toNat?)]
    | ["del", k] => do pure [.del (← k.toNat?)]
    | "batch" :: ts | "joinmid" :: ts => ts.mapM parseBatchTok
    | ["join"] => some []
    | "reloadmid" :: ts => do
      -- the response is handled completely, then the reload (the fixed reload waits without holding the lock)
      let batch ← (ts.takeWhile (· ≠ "/")).mapM parseBatchTok
      let kvs ← parsePairs ((ts.dropWhile (· ≠ "/")).drop 1)
      let n := batch.length
      let adds := (log.drop n).filterMap fun | .add k v => some (k, v) | _ => none
      let rems := (log.drop n).filterMap fun | .del k => some k | _ => none
      pure (batch ++ [.reload kvs adds rems])
    | "reloadgap" :: ts => do
      -- the snapshot is loaded, then the events of the gap are replayed by the watch that starts at rev + 1
      let kvs ← parsePairs (ts.takeWhile (· ≠ "/"))
      let gap ← ((ts.dropWhile (· ≠ "/")).drop 1).mapM parseBatchTok
      let pre := log.take (log.length - gap.length)
      let adds := pre.filterMap fun | .add k v => some (k, v) | _ => none
      let rems := pre.filterMap fun | .del k => some k | _ => none
      pure (Ev.reload kvs adds rems :: gap)
    | "reloadg" :: _ :: ts | "reloadt" :: _ :: ts | "reload" :: ts | "reloadc" :: ts | "connreload" :: ts => do
      let kvs ← parsePairs ts
      -- the orders Go ranged over its maps in are read off the listener log: adds, then removes
      let adds := log.filterMap fun | .add k v => some (k, v) | _ => none
      let rems := log.filterMap fun | .del k => some k | _ => none
      pure [.reload kvs adds rems]
    | ["cancel"] | ["closech"] | ["idle"] => some []
    | _ => none
  let some evs := evs? | return (st, r.mismatch sec l.idx "bad-op" (joinSp l.op))
  r := { r with ops := r.ops + 1 }
  -- coverage + validity of the observed orders
  let mut curVals := st.cl.values
  for ev in evs do
    let stv := curVals
    curVals := stepValues curVals ev
    match ev with
    | .put k v => r := r.addCover (coverPut st k v)
    | .del k => r := r.addCover (coverDel st k)
    | .reload kvs adds rems =>
      let new := ofKVs kvs
      let ca := calcAdds stv new
      let cr := (calcRemoves Fix.fixed stv new).map (·.1)
      r := r.addCover "reload"
      if new.length ≠ kvs.length then r := r.addCover "reload-snapshot-repeats-a-key"
      if ca.any (fun p => (stv.get p.1).isSome) then r := r.addCover "reload-key-changed-value"
      if ca.any (fun p => (stv.get p.1).isNone) then r := r.addCover "reload-new-key"
      if !cr.isEmpty then r := r.addCover "reload-key-gone"
      if ca.isEmpty && cr.isEmpty then r := r.addCover "reload-nothing-changed"
      if ca.length ≥ 2 then r := r.addCover "reload-several-adds"
      if new.isEmpty then r := r.addCover "reload-empty-snapshot"
      if stv.isEmpty then r := r.addCover "reload-into-empty-view"
      if !(sameSet adds ca) then
        r := r.mismatch sec l.idx s!"adds={showMapping ca}" s!"adds={showMapping adds}"
      if !(sameSetN rems cr) then
        r := r.mismatch sec l.idx s!"removes={showNats cr}" s!"removes={showNats rems}"
  if evs.isEmpty then r := r.addCover (joinSp l.op)
  if (l.op.head? == some "batch") then r := r.addCover "batch"
  if (l.op.head? == some "connreload") then r := r.addCover "reload-after-connection-state-change"
  if (l.op.head? == some "joinmid") then r := r.addCover "joinmid"
  if (l.op.head? == some "reloadg") then r := r.addCover "load-retries-after-a-failed-Get"
  if (l.op.head? == some "reloadt") then r := r.addCover "load-retries-with-a-fresh-deadline-after-a-Get-that-timed-out"
  if (l.op.head? == some "reloadgap") then
    r := r.addCover "events-between-snapshot-and-new-watch"
    if (evs.drop 1).any (fun ev => match ev with | .del k => ((stepValues st.cl.values (evs.headD (.del 0))).get k).isSome | _ => true) then
      r := r.addCover "gap-event-changes-the-registry"
  if (l.op.head? == some "reloadmid") then r := r.addCover "reload-while-a-response-is-handled"
  -- the listener events must be exactly what handleWatchEvents / handleChanges emit, in that order
  let expectLog := evs.flatMap emit
  if showLog expectLog ≠ logS then r := r.mismatch sec l.idx s!"log={showLog expectLog}" s!"log={logS}"
  -- model
  let cl' := evs.foldl (step Fix.fixed) st.cl
  let (cont', mview) := getValues cl'.cont
  let cl' := { cl' with cont := cont' }
  let notedModel := cl'.cont.notified - st.cl.cont.notified
  let implVals := kvStr obs "vals" "?"
  let implMap := kvStr obs "map" "?"
  let implValues := kvStr obs "values" "?"
  let implNoted := kvStr obs "notified" "?"
  let implLast := kvStr obs "last" "?"
  if showVals cl'.cont.values ≠ implVals then r := r.mismatch sec l.idx s!"vals={showVals cl'.cont.values}" s!"vals={implVals}"
  if showMapping cl'.cont.mapping ≠ implMap then r := r.mismatch sec l.idx s!"map={showMapping cl'.cont.mapping}" s!"map={implMap}"
  if showNats (Spec.canonSet mview) ≠ implValues ∨ mview.length ≠ (Spec.canonSet mview).length then
    r := r.mismatch sec l.idx s!"values={showNats (Spec.canonSet mview)}" s!"values={implValues}"
  if toString notedModel ≠ implNoted then r := r.mismatch sec l.idx s!"notified={notedModel}" s!"notified={implNoted}"
  -- spec / monitor, evaluated on the implementation's own observation
  let reg' := evs.foldl Spec.apply st.reg
  let cnt' := expectLog.foldl Spec.exApplyL st.cnt
  let want := showNats (Spec.viewList (if st.excl then cnt' else reg'))
  if want ≠ implValues then
    r := r.violation sec l.idx s!"view-differs-from-registry spec=[{want}] impl=[{implValues}] excl={st.excl} op=[{joinSp l.op}] registry=[{showMapping reg'}]{st.tag}"
  if st.excl then
    r := r.addCover "exclusive-line"
    if cnt'.length < reg'.length then r := r.addCover "exclusive-displaced-key-present"
  -- listeners: called after every change, and the last call sees the final view
  if implValues ≠ st.prev ∧ (implNoted = "0" ∨ implNoted.contains '/') then
    r := r.violation sec l.idx s!"view-changed-without-notifying-every-listener before=[{st.prev}] after=[{implValues}] notified={implNoted}{st.tag}"
  if implLast ≠ "none" ∧ implLast ≠ implValues then
    r := r.violation sec l.idx s!"listener-saw-stale-view last=[{implLast}] values=[{implValues}]{st.tag}"
  if implValues ≠ st.prev then r := r.addCover "view-changed" else r := r.addCover "view-unchanged"
  -- resolver harness: what was published
  let mut pub := st.pub
  match kv? obs "pub" with
  | none => pure ()
  | some p =>
    r := r.addCover "resolver-line"
    match kv? obs "shared" with
    | some "1" =>
      r := r.violation sec l.idx s!"resolver-shuffles-the-shared-snapshot: subset() permutes the slice Values() returned (the cached snapshot every caller gets) in place; concurrent update() calls / readers race on it (values=[{implValues}])"
    | some _ => r := r.addCover "resolver-subset-works-on-a-copy"
    | none => pure ()
    let ups := kvStr obs "updates" "?"
    let some pubL := parseNats (splitComma p) | return (st, r.mismatch sec l.idx "bad-pub" p)
    let some valL := parseNats (splitComma implValues) | return (st, r.mismatch sec l.idx "bad-values" implValues)
    -- one UpdateState per listener notification
    if ups ≠ implNoted then r := r.mismatch sec l.idx s!"updates={implNoted}" s!"updates={ups}"
    if implNoted ≠ "0" ∨ pub.isNone then
      -- published now: all values when at most 32, otherwise 32 distinct ones of them
      let okSubset := pubL.all (valL.contains ·) && (Spec.canonSet pubL).length == pubL.length
      let okSize := pubL.length == min valL.length subsetSize
      if valL.length ≤ subsetSize then r := r.addCover "publish-all" else r := r.addCover "publish-32-subset"
      if !(okSubset && okSize) then
        r := r.violation sec l.idx s!"resolver-published-wrong-addresses pub=[{p}] values=[{implValues}]"
    else if some p ≠ pub then
      r := r.violation sec l.idx s!"resolver-published-without-notification pub=[{p}] before=[{pub.getD ""}]"
    pub := some p
  -- a subscriber that joined the existing watch later: Registry.Monitor replays the current values (any order
  -- of the map: the ordinary subscriber's mapping does not depend on it); afterwards it is one of the listeners.
  -- `joinmid`: the join happens while the response is being handled; the (fixed) code makes the joiner wait.
  let isJoin := l.op.head? == some "join" || l.op.head? == some "joinmid"
  let late' : Option Container :=
    if isJoin then some ((sortByFst cl'.values).foldl (onAdd Fix.fixed) (Container.new false))
    else st.late.map fun c => expectLog.foldl (applyL Fix.fixed) c
  match late' with
  | none => if (kv? obs "late").isSome then r := r.mismatch sec l.idx "late=<absent>" "late=<present>"
  | some lc =>
    r := r.addCover "late-joiner-line"
    if isJoin && !reg'.isEmpty then r := r.addCover "join-into-nonempty-registry"
    if l.op.head? == some "joinmid" && (evs.drop 1).any (fun ev => match ev with | .del k => (st.reg.get k).isSome | _ => true) then
      r := r.addCover "joinmid-effective-event-after-the-join-point"
    let implLate := kvStr obs "late" "?"
    let implLmap := kvStr obs "lmap" "?"
    let lview := (getValues lc).2
    if showNats (Spec.canonSet lview) ≠ implLate then r := r.mismatch sec l.idx s!"late={showNats (Spec.canonSet lview)}" s!"late={implLate}"
    if showMapping lc.mapping ≠ implLmap then r := r.mismatch sec l.idx s!"lmap={showMapping lc.mapping}" s!"lmap={implLmap}"
    let wantLate := showNats (Spec.viewList reg')
    if wantLate ≠ implLate then
      r := r.violation sec l.idx s!"late-joiner-differs-from-registry spec=[{wantLate}] impl=[{implLate}] op=[{joinSp l.op}] registry=[{showMapping reg'}]"
  let st' : St := { st with cl := cl', reg := reg', cnt := cnt', prev := implValues, pub := pub, late := late' }
  return (st', r)

/-! kube -/

def parseKEv : List String → Option KEv
  | "add" :: ts => (parseNats ts).map .add
  | "del" :: ts => (parseNats ts).map .del
  | "update" :: o :: n :: ts => do pure (.update (o == n) (← parseNats ts))   -- resource versions: opaque strings, only equality counts
  | "set" :: ts => (parseNats ts).map .set
  | _ => none

/-- spec for the endpoints handler: the current addresses of the watched Endpoints object -/
def kubeSpec (cur : List Nat) : KEv → List Nat
  | .add ips => Spec.canonSet (cur ++ ips)
  | .del ips => Spec.canonSet (cur.filter (fun x => !ips.contains x))
  | .update same ips => if same then cur else Spec.canonSet ips
  | .set ips => Spec.canonSet ips

/-- the class of an OnUpdate's (old, new) resource versions (`-` = empty) -/
def kubeVersionClass (o n : String) : String :=
  if o = "-" ∨ n = "-" then (if o = n then "kube-version-both-empty" else "kube-version-empty-vs-nonempty")
  else match o.toNat?, n.toNat? with
    | some a, some b =>
      if a = b then "kube-version-equal-resync"
      else if b < a then (if decide (n > o) then "kube-version-decreasing-but-greater-as-string" else "kube-version-decreasing")
      else if n.length > o.length then "kube-version-gains-a-digit"
      else if decide (n < o) then "kube-version-increasing-but-smaller-as-string"
      else "kube-version-increasing"
    | _, _ => if o = n then "kube-version-non-numeric-equal" else "kube-version-non-numeric-different"

def runKubeSection (r : Report) (s : Section) : Report := Id.run do
  let mut r := r
  let mut h : Kube := {}
  let mut cur : List Nat := []
  for l in s.lines do
    match parseKEv l.op with
    | none => r := r.mismatch s.idx l.idx "bad-op" (joinSp l.op)
    | some ev =>
      r := { r with ops := r.ops + 1 }
      let h' := h.step ev
      let cur' := kubeSpec cur ev
      let mEps := showNats (Spec.canonSet h'.endpoints)
      let mPub := match h'.published with | none => "none" | some p => showNats (Spec.canonSet p)
      let mUps := toString (h'.updates - h.updates)
      let iEps := kvStr l.obs "eps" "?"
      let iPub := kvStr l.obs "pub" "?"
      let iUps := kvStr l.obs "updates" "?"
      r := r.addCover ("kube-" ++ (l.op.headD "?") ++ (if h'.updates > h.updates then "-notify" else "-quiet"))
      match l.op with
      | "update" :: o :: n :: _ => r := r.addCover (kubeVersionClass o n)
      | _ => pure ()
      if mEps ≠ iEps then r := r.mismatch s.idx l.idx s!"eps={mEps}" s!"eps={iEps}"
      if mPub ≠ iPub then r := r.mismatch s.idx l.idx s!"pub={mPub}" s!"pub={iPub}"
      if mUps ≠ iUps then r := r.mismatch s.idx l.idx s!"updates={mUps}" s!"updates={iUps}"
      -- monitor: what is published is exactly the current endpoint addresses
      let want := showNats cur'
      let implPub := if iPub = "none" then "" else iPub
      if implPub ≠ want then
        r := r.violation s.idx l.idx s!"kube-published-differs-from-endpoints spec=[{want}] pub=[{iPub}] op=[{joinSp l.op}]"
      h := h'
      cur := cur'
  return r

/-! concurrent sections (`h=conc`): `par <readers> <a-events> <b-events>
  => wa=<s:e,…> wb=<s:e,…> reads=<s:e:v.v|…> values=<ids> races=<n>` -/

def parseLEvs (s : String) : Option (List LEv) :=
  if s = "-" then some [] else
  (s.splitOn ",").mapM fun t => (parseBatchTok t).bind fun
    | .put k v => some (.add k v)
    | .del k => some (.del k)
    | _ => none

def parseRead (s : String) : Option (Nat × Nat × List Nat) :=
  match s.splitOn ":" with
  | [a, b, v] => do
    let vs ← if v = "" then some [] else (v.splitOn ".").mapM (·.toNat?)
    pure ((← a.toNat?), (← b.toNat?), vs)
  | _ => none

def concApply (excl : Bool) (m : Map Nat) (ls : List LEv) : Map Nat :=
  ls.foldl (if excl then Spec.exApplyL else Spec.applyL) m

def runConcSection (r : Report) (s : Section) : Report := Id.run do
  let excl := kvNat s.cfg "excl" 0 = 1
  let mut r := r
  let mut m : Map Nat := []
  for l in s.lines do
    let parsed : Option (List LEv × List LEv × List (Nat × Nat) × List (Nat × Nat) × List (Nat × Nat × List Nat)) := do
      match l.op with
      | ["par", _, a, b] =>
        let ea ← parseLEvs a
        let eb ← parseLEvs b
        let wa ← (splitComma (kvStr l.obs "wa" "")).mapM parsePair
        let wb ← (splitComma (kvStr l.obs "wb" "")).mapM parsePair
        let rs := kvStr l.obs "reads" ""
        let reads ← (if rs = "" then [] else rs.splitOn "|").mapM parseRead
        pure (ea, eb, wa, wb, reads)
      | _ => none
    match parsed with
    | none =>
      if (kvStr l.obs "reads" "").contains 'd' then
        r := r.violation s.idx l.idx s!"read-returned-a-value-twice reads=[{kvStr l.obs "reads" ""}]"
      else r := r.mismatch s.idx l.idx "bad-conc-line" (joinSp (l.op ++ ["=>"] ++ l.obs))
    | some (ea, eb, wa, wb, reads) =>
      r := { r with ops := r.ops + 1 }
      r := r.addCover (if excl then "conc-line-exclusive" else "conc-line")
      if wa.length ≠ ea.length ∨ wb.length ≠ eb.length then
        r := r.mismatch s.idx l.idx s!"writes={ea.length}+{eb.length}" s!"writes={wa.length}+{wb.length}"
      for (rs, re, vs) in reads do
        -- `reader_linearizable`: the read returns the view after a prefix of each writer's events that contains
        -- every event completed before the read started and no event started after it returned
        let loA := (wa.filter fun w => w.2 < rs).length
        let hiA := (wa.filter fun w => w.1 < re).length
        let loB := (wb.filter fun w => w.2 < rs).length
        let hiB := (wb.filter fun w => w.1 < re).length
        let got := showNats (Spec.canonSet vs)
        let ok := (List.range (hiA - loA + 1)).any fun i => (List.range (hiB - loB + 1)).any fun j =>
          showNats (Spec.viewList (concApply excl (concApply excl m (ea.take (loA + i))) (eb.take (loB + j)))) == got
        if hiA > loA ∨ hiB > loB then r := r.addCover "conc-read-overlaps-a-write" else r := r.addCover "conc-read-between-writes"
        if (Spec.canonSet vs).length ≠ vs.length then
          r := r.violation s.idx l.idx s!"read-returned-a-value-twice read=[{rs}:{re}:{showNats vs}]"
        if !ok then
          r := r.violation s.idx l.idx s!"read-not-linearizable read=[{rs}:{re}] returned=[{got}] allowed: the view after {loA}..{hiA} of A's and {loB}..{hiB} of B's events"
      m := concApply excl (concApply excl m ea) eb
      let want := showNats (Spec.viewList m)
      let implValues := kvStr l.obs "values" "?"
      if want ≠ implValues then
        r := r.violation s.idx l.idx s!"view-differs-from-registry spec=[{want}] impl=[{implValues}] excl={decide (excl = true)} op=[{joinSp l.op}] (concurrent writers)"
      if kvStr l.obs "panics" "0" ≠ "0" then
        r := r.violation s.idx l.idx s!"concurrent-read-panicked panics={kvStr l.obs "panics" "?"} op=[{joinSp l.op}]"
      let races := kvStr l.obs "races" "?"
      if races ≠ "0" then
        r := r.violation s.idx l.idx s!"data-race-detected races={races} op=[{joinSp l.op}]"
  return r

/-! resolver Build sections (`h=build`): several resolvers on one service key, registry events injected at the
points of `discovBuilder.Build`:
  snap <k>:<v>… | build <id> plain | build <id> first|after p:<k>:<v> d:<k>… | close <id> | put … | del … | batch … |
  reload … | reloadc … | connreload … | cancel | closech
  => p<id>=<published ids> v<id>=<Values() ids> u<id>=<UpdateState calls> …   (one triple per live resolver) -/

structure BSt where
  reg   : Map Nat := []
  live  : List Nat := []
  built : Bool := false

def runBuildLine (st : BSt) (r : Report) (sec : Nat) (l : Line) : BSt × Report := Id.run do
  let mut r := r
  -- the registry events of the line, the resolver that is built / closed
  let parsed : Option (List Ev × Option Nat × Option Nat) :=
    match l.op with
    | "snap" :: ts => if st.built then none else do pure ([.reload (← parsePairs ts) [] []], none, none)
    | ["build", id, "plain"] => do pure ([], some (← id.toNat?), none)
    | "build" :: id :: "first" :: ts | "build" :: id :: "after" :: ts => do pure ((← ts.mapM parseBatchTok), some (← id.toNat?), none)
    | ["close", id] => do pure ([], none, some (← id.toNat?))
    | ["put", k, v] => do pure ([.put (← k.toNat?) (← v.toNat?)], none, none)
    | ["del", k] => do pure ([.del (← k.toNat?)], none, none)
    | "batch" :: ts => do pure ((← ts.mapM parseBatchTok), none, none)
    | "reload" :: ts | "reloadc" :: ts | "connreload" :: ts => do pure ([.reload (← parsePairs ts) [] []], none, none)
    | ["cancel"] | ["closech"] => some ([], none, none)
    | _ => none
  let some (evs, bld, cls) := parsed | return (st, r.mismatch sec l.idx "bad-op" (joinSp l.op))
  if (l.op.head? != some "snap") && !st.built && bld.isNone then return (st, r.mismatch sec l.idx "op-before-the-first-build" (joinSp l.op))
  r := { r with ops := r.ops + 1 }
  let reg' := evs.foldl Spec.apply st.reg
  let mut live := st.live
  match bld with
  | some id =>
    if live.contains id then return (st, r.mismatch sec l.idx "resolver-built-twice" (joinSp l.op))
    r := r.addCover (if st.built then "build-joins-the-existing-watch" else "build-creates-the-watch")
    r := r.addCover s!"build-{l.op.getD 2 "?"}"
    if !st.built && !st.reg.isEmpty then r := r.addCover "build-loads-a-nonempty-registry"
    if l.op.getD 2 "" = "first" then
      if Spec.viewList reg' ≠ Spec.viewList st.reg then r := r.addCover "event-during-first-publication-changes-the-addresses"
      else r := r.addCover "event-during-first-publication-keeps-the-addresses"
    live := live ++ [id]
    if live.length ≥ 2 then r := r.addCover "several-resolvers-on-one-key"
  | none => pure ()
  match cls with
  | some id =>
    if !(live.contains id) then return (st, r.mismatch sec l.idx "close-of-an-unknown-resolver" (joinSp l.op))
    live := live.filter (· ≠ id)
    r := r.addCover "resolver-closed"
  | none => pure ()
  if bld.isNone && cls.isNone then r := r.addCover s!"build-section-{l.op.headD "?"}"
  let want := Spec.viewList reg'
  let wantS := showNats want
  for id in live do
    let some pS := kv? l.obs s!"p{id}" | r := r.mismatch sec l.idx s!"p{id}=<present>" "absent"
    let some vS := kv? l.obs s!"v{id}" | r := r.mismatch sec l.idx s!"v{id}=<present>" "absent"
    let ups := kvStr l.obs s!"u{id}" "?"
    let some pubL := parseNats (splitComma pS) | r := r.mismatch sec l.idx "bad-pub" pS
    let some valL := parseNats (splitComma vS) | r := r.mismatch sec l.idx "bad-values" vS
    -- the subscriber behind the resolver shows the registry
    if vS ≠ wantS then
      r := r.violation sec l.idx s!"view-differs-from-registry spec=[{wantS}] impl=[{vS}] excl=false op=[{joinSp l.op}] registry=[{showMapping reg'}] (resolver {id})"
    -- at quiescence the last UpdateState carries Values(): all of them up to 32, otherwise 32 distinct ones of them
    let okSubset := pubL.all (valL.contains ·) && (Spec.canonSet pubL).length == pubL.length
    let okSize := pubL.length == min valL.length subsetSize
    if valL.length ≤ subsetSize then r := r.addCover "publish-all" else r := r.addCover "publish-32-subset"
    if !(okSubset && okSize) || (kv? l.obs s!"dup{id}").isSome then
      r := r.violation sec l.idx s!"resolver-published-differs-from-values-at-quiescence resolver={id} pub=[{pS}] values=[{vS}] registry=[{showMapping reg'}] op=[{joinSp l.op}]"
    -- Build publishes at least once; an event that changes the addresses is followed by an UpdateState
    if bld == some id && ups = "0" then
      r := r.violation sec l.idx s!"build-did-not-publish resolver={id} op=[{joinSp l.op}]"
    if bld != some id && want ≠ Spec.viewList st.reg && ups = "0" then
      r := r.violation sec l.idx s!"addresses-changed-without-UpdateState resolver={id} before=[{showNats (Spec.viewList st.reg)}] after=[{wantS}] op=[{joinSp l.op}]"
  if live.isEmpty && (kv? l.obs "none").isNone then r := r.mismatch sec l.idx "none=1" (joinSp l.obs)
  return ({ reg := reg', live := live, built := st.built || bld.isSome }, r)

def runBuildSection (r : Report) (s : Section) : Report := Id.run do
  let mut st : BSt := {}
  let mut r := r
  for l in s.lines do
    let (st', r') := runBuildLine st r s.idx l
    st := st'
    r := r'
  return r

/-! publisher sections (`h=pub excl=<0/1>`): real Publishers on the fake etcd's lease store, a real Subscriber
  sub | pub <p> <id> <v> | pubx <p> <id> <v> | pause <p>… | resume <p>… | stop <p> | kaclose <p>… | rl | join
  => store=<key:value:lease,…> xstore=<…> leases=<p:lease:fullKeyId,…> [timeout=1] + the subscriber observation -/

structure PEnt where
  p       : Nat
  pub     : Pub
  sibling : Bool
  running : Bool

structure PSt where
  sub        : St
  subscribed : Bool := false
  pubs       : List PEnt := []
  store      : Store := []
  xstore     : Store := []

def showStore (s : Store) : String := ",".intercalate ((sortByFst s).map fun e => s!"{e.1}:{e.2.1}:{e.2.2}")

def parseLease (s : String) : Option (Nat × Nat × String) :=
  match s.splitOn ":" with
  | [p, l, k] => do pure ((← p.toNat?), (← l.toNat?), k)
  | _ => none

def PSt.setPub (st : PSt) (e : PEnt) : PSt := { st with pubs := st.pubs.filter (·.p ≠ e.p) ++ [e] }

/-- `register` of one publisher with the lease etcd granted; the events the watch of OUR service key gets -/
def PSt.doRegister (st : PSt) (e : PEnt) (lease : Nat) : PSt × List Ev :=
  let pub' := e.pub.register lease
  let st' := st.setPub { e with pub := pub', running := true }
  if e.sibling then ({ st' with xstore := storePut st'.xstore pub' }, [])
  else ({ st' with store := storePut st'.store pub' }, registerEvents pub')

def PSt.doRevoke (st : PSt) (e : PEnt) : PSt × List Ev :=
  let st' := st.setPub { e with running := false }
  if e.sibling then ({ st' with xstore := storeRevoke st'.xstore e.pub.lease }, [])
  else ({ st' with store := storeRevoke st'.store e.pub.lease }, revokeEvents st'.store e.pub.lease)

/-- the attempts of one operation (`doKeepAlive`, or the single attempt of `KeepAlive`) with the outcomes etcd gave -/
def PSt.doAttempts (st : PSt) (e : PEnt) (as : List Attempt) : PSt × List Ev :=
  let base := if e.sibling then st.xstore else st.store
  let res := doKeepAlive true e.pub base as
  let st' := st.setPub { e with pub := res.1, running := res.2.2 }
  if e.sibling then ({ st' with xstore := res.2.1 }, [])
  else ({ st' with store := res.2.1 }, attemptEvents e.pub as)

/-- `!<kind>:<n>` -/
def parseFault (t : String) : Option (String × Nat) :=
  match (String.ofList (t.toList.drop 1)).splitOn ":" with
  | [k, n] => if ["grant", "put", "ka", "revoke"].contains k then n.toNat?.map fun n => (k, n) else none
  | _ => none

def evTok : Ev → String
  | .put k v => s!"p:{k}:{v}"
  | .del k => s!"d:{k}"
  | .reload _ _ _ => "?"

def levToEv : LEv → Ev
  | .add k v => .put k v
  | .del k => .del k

/-- the keys of `vals=<v:[k.k];…>` in the order they are listed -/
def keysOfVals (s : String) : List Nat :=
  (if s = "" then [] else s.splitOn ";").flatMap fun ent =>
    match ent.splitOn ":" with
    | [_, ks] => ((ks.replace "[" "").replace "]" "").splitOn "." |>.filterMap (·.toNat?)
    | _ => []

def runPubLine (st0 : PSt) (r0 : Report) (sec : Nat) (l0 : Line) : PSt × Report := Id.run do
  let mut r := r0
  let mut st := st0
  if (kv? l0.obs "dead").isSome then return (st0, r.addCover "line-after-a-publisher-gave-up")
  -- fault injection: `!<kind>:<n>` as the last token of the operation
  let faultTok := (l0.op.getLast?).filter (·.startsWith "!")
  let fault := faultTok.bind parseFault
  if faultTok.isSome && fault.isNone then return (st0, r.mismatch sec l0.idx "bad-fault" (joinSp l0.op))
  let l : Line := if faultTok.isSome then { l0 with op := l0.op.dropLast } else l0
  let leases := (splitComma (kvStr l.obs "leases" "")).filterMap parseLease
  let leaseOf (p : Nat) : Option Nat := (leases.find? (·.1 = p)).map (·.2.1)
  let mut evs : List Ev := []
  let mut bad := false
  let kind := l.op.headD "?"
  match fault with
  | some (fk, fn) =>
    r := r.addCover s!"fault-{fk}-during-{kind}"
    if fn ≥ 2 then r := r.addCover "fault-several-failed-attempts-in-a-row"
    let okKind := if fk == "revoke" then (kind == "pause" || kind == "stop") else (kind == "pub" || kind == "resume" || kind == "kaclose")
    if !okKind || (kind ≠ "pub" && l.op.length ≠ 2) then bad := true
  | none => pure ()
  if (kv? l.obs "gaveup").isSome then
    r := r.violation sec l.idx s!"publisher-gave-up-re-registering-after-a-failed-attempt op=[{joinSp l0.op}] store=[{kvStr l.obs "store" "?"}] (every armed failure happened, no further attempt followed: doKeepAlive must try again at every tick until it succeeds)"
  match l.op with
  | ["sub"] | ["rl"] | ["join"] => if fault.isSome then bad := true
  | ["expire"] =>
    -- the leases of the publishers whose keep-alive goroutine runs are renewed, every other lease expires
    let alive := (st.pubs.filter (·.running)).map (·.pub.lease)
    let gone := (sortByFst (st.store.filter fun e => !alive.contains e.2.2)).map (·.1)
    evs := gone.map .del
    if !gone.isEmpty then r := r.addCover "lease-expiry-removes-an-orphan-key" else r := r.addCover "lease-expiry-nothing-to-remove"
    st := { st with store := storeExpire st.store alive, xstore := storeExpire st.xstore alive }
  | "pub" :: args | "pubx" :: args =>
    let k := kind
    match args with
    | [p, id, v] =>
     match p.toNat?, id.toNat?, v.toNat? with
     | some p, some id, some v =>
      match leaseOf p, st.pubs.find? (·.p = p) with
      | some lease, none =>
        let e0 : PEnt := { p := p, pub := { id := id, value := v }, sibling := k == "pubx", running := false }
        match fault with
        | none =>
          let (st', e') := st.doRegister e0 lease
          st := st'
          evs := evs ++ e'
          if (kv? l.obs "err").isSome then
            r := r.violation sec l.idx s!"KeepAlive-failed-although-no-etcd-call-failed op=[{joinSp l0.op}] (the service is not registered)"
        | some (fk, _) =>
          -- KeepAlive(): one attempt, the error is returned, no keep-alive goroutine
          let a : Attempt := if fk == "grant" then .grantErr else if fk == "put" then .putErr lease else .kaErr lease
          let (st', e') := st.doAttempts e0 [a]
          st := st'
          evs := evs ++ e'
          if (kv? l.obs "err").isNone then r := r.mismatch sec l.idx "KeepAlive()=error" "err=<absent>"
          r := r.addCover "KeepAlive-returns-the-error"
        r := r.addCover (if id > 0 then "publisher-with-fixed-id" else "publisher-keyed-by-lease")
        if k == "pubx" then r := r.addCover "publisher-of-the-sibling-service"
        if !st0.subscribed then r := r.addCover "publisher-registered-before-the-subscriber"
      | _, _ => bad := true
     | _, _, _ => bad := true
    | _ => bad := true
  | k :: ps =>
    if !(["pause", "resume", "stop", "kaclose"].contains k) || ps.isEmpty then bad := true
    for t in ps do
      match t.toNat?.bind fun p => st.pubs.find? (·.p = p) with
      | none => bad := true
      | some e =>
        if k == "pause" || k == "stop" || k == "kaclose" then
          if fault.isSome && k != "kaclose" then
            -- the revocation failed (only logged): the key stays in etcd until its lease expires
            st := st.setPub { e with running := false }
            if e.running then r := r.addCover "revoke-failed-key-left-to-the-lease-ttl"
          else if k == "kaclose" || e.running then
            let (st', e') := st.doRevoke e
            st := st'
            evs := evs ++ e'
          if k == "stop" && !e.running then r := r.addCover "stop-of-a-paused-publisher"
        if k == "resume" || k == "kaclose" then
          match leaseOf e.p, st.pubs.find? (·.p = e.p) with
          | some lease, some e1 =>
            match fault with
            | none =>
              let (st', e') := st.doRegister e1 lease
              st := st'
              evs := evs ++ e'
            | some (fk, fn) =>
              let fg := if fk == "grant" then fn else 0
              let fp := if fk == "put" then fn else 0
              let fka := if fk == "ka" then fn else 0
              let (st', e') := st.doAttempts e1 (attemptsFor fg fp fka (lease - fp - fka))
              st := st'
              evs := evs ++ e'
              r := r.addCover "re-registration-succeeds-after-failed-attempts"
            if e.pub.id > 0 then r := r.addCover "fixed-id-publisher-registers-again-under-the-same-key"
            else r := r.addCover "lease-keyed-publisher-registers-again-under-a-new-key"
          | _, _ => bad := true
    if ps.length > 1 then r := r.addCover s!"{k}-of-several-publishers"
  | [] => bad := true
  if bad then return (st0, r.mismatch sec l.idx "bad-op" (joinSp (l0.op ++ ["=>"] ++ l.obs)))
  r := r.addCover s!"pub-{kind}"
  -- the publishers' bookkeeping: p.lease / p.fullKey, and what etcd holds
  for e in st.pubs do
    match leases.find? (·.1 = e.p) with
    | some (_, lease, key) =>
      if lease ≠ e.pub.lease ∨ key ≠ toString e.pub.fullKey then
        r := r.mismatch sec l.idx s!"publisher {e.p}: lease={e.pub.lease} fullKey={e.pub.fullKey}" s!"lease={lease} fullKey={key}"
    | none => r := r.mismatch sec l.idx s!"publisher {e.p}" "absent"
  if showStore st.store ≠ kvStr l.obs "store" "?" then r := r.mismatch sec l.idx s!"store={showStore st.store}" s!"store={kvStr l.obs "store" "?"}"
  if showStore st.xstore ≠ kvStr l.obs "xstore" "?" then r := r.mismatch sec l.idx s!"xstore={showStore st.xstore}" s!"xstore={kvStr l.obs "xstore" "?"}"
  if (kv? l.obs "timeout").isSome then
    r := r.violation sec l.idx s!"publisher-did-not-register-or-revoke op=[{joinSp l0.op}] store=[{kvStr l.obs "store" "?"}]"
  if (st.pubs.filter fun e => !e.sibling && e.running).length ≥ 2 then r := r.addCover "several-live-publishers"
  if (st.pubs.any fun e => e.sibling && e.running) then r := r.addCover "sibling-service-registered"
  if !st.subscribed && kind ≠ "sub" then
    if (kv? l.obs "values").isSome then r := r.mismatch sec l.idx "values=<absent>" "values=<present>"
    return (st, r)
  if (kv? l.obs "values").isNone then return (st, r.mismatch sec l.idx "values=<present>" "values=<absent>")
  -- the subscriber side: the same model, monitor and correspondence as in the subscriber harness
  let kvsOf (s : Store) : List String := (sortByFst s).map fun e => s!"{e.1}:{e.2.1}"
  let line : Line :=
    match kind with
    | "sub" =>
      -- NewSubscriber loads the store; the order in which handleChanges ranged over the snapshot is read off vals=
      let kvs := (sortByFst st.store).map fun e => (e.1, e.2.1)
      let order := keysOfVals (kvStr l.obs "vals" "")
      let adds := kvs.filter (fun kv => !order.contains kv.1) ++ order.filterMap (fun k => kvs.find? (·.1 = k))
      { l with op := "reload" :: kvsOf st.store,
               obs := [s!"log={showLog (adds.map fun kv => LEv.add kv.1 kv.2)}", s!"notified={adds.length}"]
                        ++ l.obs.filter (fun t => !(t.startsWith "log=") && !(t.startsWith "notified=")) }
    | "rl" => { l with op := "reload" :: kvsOf st.store }
    | "join" => l
    | _ =>
      -- several publishers act concurrently in one operation: etcd's order of their puts / revokes is observed
      let obsEvs := ((splitComma (kvStr l.obs "log" "")).filterMap parseLogTok).map levToEv
      let use := if l.op.length > 2 && obsEvs.length == evs.length && evs.all (fun e => obsEvs.any (evTok · == evTok e)) then obsEvs else evs
      if use.isEmpty then { l with op := ["idle"] } else { l with op := "batch" :: use.map evTok }
  if kind == "sub" && !st.store.isEmpty then r := r.addCover "subscriber-loads-registered-publishers"
  let (sub', r') := runSubLine st.sub r sec line
  r := r'
  -- the property at the publisher level: Values() is the set of values of the live publishers of this service —
  -- unless a failed call left a key behind that nobody renews (it lives until its lease expires: `expire`)
  let alive := (st.pubs.filter (·.running)).map (·.pub.lease)
  let orphans := st.store.filter fun e => !alive.contains e.2.2
  if !orphans.isEmpty then r := r.addCover "orphan-key-awaiting-lease-expiry"
  if !st.sub.excl && orphans.isEmpty then
    let want := showNats (Spec.canonSet ((st.pubs.filter fun e => !e.sibling && e.running).map (·.pub.value)))
    let implValues := kvStr l.obs "values" "?"
    if want ≠ implValues then
      r := r.violation sec l.idx s!"view-differs-from-live-publishers spec=[{want}] impl=[{implValues}] op=[{joinSp l0.op}] store=[{kvStr l.obs "store" "?"}]"
  return ({ st with sub := sub', subscribed := true }, r)

def runPubSection (r : Report) (s : Section) : Report := Id.run do
  let excl := kvNat s.cfg "excl" 0 = 1
  let mut st : PSt := { sub := { excl := excl, cl := { cont := Container.new excl } } }
  let mut r := r
  for l in s.lines do
    let (st', r') := runPubLine st r s.idx l
    st := st'
    r := r'
  return r

/-! multi-key sections (`h=multi n=<n> excl=<bits> exact=<0/1>`): several watched keys on ONE cluster
  put <s> <k> <v> | del <s> <k> | batch <s> … | reloadc <s> <k>:<v>… | connreload <k>:<v>… / <k>:<v>… / … |
  close <s> | reopen <s> <k>:<v>…
  => <s>.log= <s>.vals= <s>.map= <s>.values= <s>.notified= <s>.last=  [x.values=] [rewatched=<s,…>] [lost=1]
Every service is the model / spec / monitor of the single-key sections (`runSubLine`); a reconnect (`connreload`) is a
reload of EVERY watched key (`MEv.reconnect`, theorem `multi_view_equals_registry`). -/

structure MSt where
  svcs : List (Nat × St) := []      -- the open services

/-- the tokens `<i>.k=v` of service `i`, prefix stripped -/
def svcObs (obs : List String) (i : Nat) : List String :=
  obs.filterMap fun t => if t.startsWith s!"{i}." then some (String.ofList (t.toList.drop (s!"{i}.".length))) else none

def splitSlash : List String → List (List String)
  | [] => [[]]
  | t :: ts =>
    match splitSlash ts with
    | [] => [[t]]
    | p :: ps => if t = "/" then [] :: p :: ps else (t :: p) :: ps

def runMultiSection (r : Report) (s : Section) : Report := Id.run do
  let n := kvNat s.cfg "n" 2
  let bits := (kvStr s.cfg "excl" "").toList
  let exact := kvNat s.cfg "exact" 0 = 1
  let mk (i : Nat) : St :=
    let excl := bits.getD i '0' == '1'
    { excl := excl, cl := { cont := Container.new excl }, tag := s!" service={i} of {n} on one cluster" }
  let mut st : MSt := { svcs := (List.range n).map fun i => (i, mk i) }
  let mut r := r
  let mut dead := false
  for l in s.lines do
    if dead then
      r := r.addCover "line-after-deadlock"
      continue
    if (kv? l.obs "dead").isSome then
      dead := true
      r := r.violation s.idx l.idx s!"reload-deadlocks-while-a-watch-response-is-handled op=[{joinSp l.op}] (several watched keys)"
      continue
    -- the operation as seen by every service
    let parsed : Option (String × Option Nat × (Nat → List String)) :=
      match l.op with
      | ["put", sv, k, v] => sv.toNat?.map fun t => ("put", some t, fun i => if i = t then ["put", k, v] else ["idle"])
      | ["del", sv, k] => sv.toNat?.map fun t => ("del", some t, fun i => if i = t then ["del", k] else ["idle"])
      | "batch" :: sv :: ts => sv.toNat?.map fun t => ("batch", some t, fun i => if i = t then "batch" :: ts else ["idle"])
      | "reloadc" :: sv :: ts => sv.toNat?.map fun t => ("reloadc", some t, fun i => if i = t then "reloadc" :: ts else ["idle"])
      | "connreload" :: ts =>
        let parts := splitSlash ts
        if parts.length = n then some ("connreload", none, fun i => "connreload" :: parts.getD i []) else none
      | ["close", sv] => sv.toNat?.map fun t => ("close", some t, fun _ => ["idle"])
      | "reopen" :: sv :: ts => sv.toNat?.map fun t => ("reopen", some t, fun i => if i = t then "reload" :: ts else ["idle"])
      | _ => none
    let some (kind, target, opOf) := parsed | r := r.mismatch s.idx l.idx "bad-op" (joinSp l.op)
    let isOpen (i : Nat) : Bool := st.svcs.any (·.1 = i)
    match target with
    | some t =>
      if t ≥ n ∨ (kind = "reopen" ∧ isOpen t) ∨ (kind ≠ "reopen" ∧ !isOpen t) then
        r := r.mismatch s.idx l.idx "bad-op" (joinSp (l.op ++ ["=>"] ++ l.obs))
        continue
    | none => pure ()
    r := r.addCover s!"multi-{kind}"
    if kind = "close" then
      st := { svcs := st.svcs.filter (·.1 ≠ target.getD n) }
      r := r.addCover "multi-last-listener-of-a-key-leaves"
    if kind = "reopen" then
      st := { svcs := sortByFst (st.svcs ++ [(target.getD 0, mk (target.getD 0))]) }
      r := r.addCover "multi-new-watch-on-a-key-that-was-unmonitored"
    if st.svcs.length ≥ 2 then r := r.addCover "multi-several-keys-watched" else r := r.addCover "multi-one-key-left"
    if (kv? l.obs "lost").isSome then r := r.addCover "multi-event-for-a-key-nobody-watches-any-more"
    -- a reconnect must load and watch every watched key again
    if kind = "connreload" then
      let rew := splitComma (kvStr l.obs "rewatched" "")
      let missing := (st.svcs.map fun p => toString p.1).filter (fun t => !rew.contains t) ++ (if exact && !rew.contains "x" then ["x"] else [])
      if st.svcs.length ≥ 2 then r := r.addCover "multi-reconnect-with-several-keys"
      if !missing.isEmpty then
        r := r.violation s.idx l.idx s!"reconnect-did-not-reload-and-rewatch-every-key missing=[{",".intercalate missing}] rewatched=[{kvStr l.obs "rewatched" ""}] op=[{joinSp l.op}] (later events of these keys are never delivered)"
    let mut svcs' : List (Nat × St) := []
    for (i, sti) in st.svcs do
      let obsI := svcObs l.obs i
      let opI := opOf i
      let line : Line :=
        if kind = "reopen" ∧ target = some i then
          -- the new subscriber loaded the snapshot inside NewSubscriber: the order handleChanges ranged in is read off vals=
          let kvs := (parsePairs (opI.drop 1)).getD []
          let new := ofKVs kvs
          let order := keysOfVals (kvStr obsI "vals" "")
          let adds := new.filter (fun kv => !order.contains kv.1) ++ order.filterMap (fun k => new.find? (·.1 = k))
          { l with op := opI, obs := [s!"log={showLog (adds.map fun kv => LEv.add kv.1 kv.2)}", s!"notified={adds.length}"]
                          ++ obsI.filter (fun t => !(t.startsWith "log=") && !(t.startsWith "notified=")) }
        else { l with op := opI, obs := obsI }
      let (sti', r') := runSubLine sti r s.idx line
      r := r'
      svcs' := svcs' ++ [(i, sti')]
    st := { svcs := svcs' }
    -- the exact-match subscriber (WithExactMatch on key 0 of service 0): the value of that key, if registered
    if exact then
      match st.svcs.find? (·.1 = 0) with
      | some (_, st0) =>
        let want := match st0.reg.get 0 with | some v => toString v | none => ""
        let impl := kvStr l.obs "x.values" "?"
        r := r.addCover (if want = "" then "exact-key-absent" else "exact-key-registered")
        if want ≠ impl then
          r := r.violation s.idx l.idx s!"exact-match-view-differs-from-registry spec=[{want}] impl=[{impl}] op=[{joinSp l.op}] registry=[{showMapping st0.reg}]"
      | none => pure ()
    else if (kv? l.obs "x.values").isSome then r := r.mismatch s.idx l.idx "x.values=<absent>" "x.values=<present>"
  return r

/-! listener sections (`h=lsn n=<n>`): n subscribers on one watcher; a subscriber is closed during a delivery
  put <k> <v> | del <k> | batch … | closein <i> <j> events… | closegate <i> <j> events… | close <i>
  => <s>.values=<ids> <s>.n=<callbacks>     for every subscriber open after the operation -/
def runLsnSection (r : Report) (s : Section) : Report := Id.run do
  let n := kvNat s.cfg "n" 3
  let mut r := r
  let mut reg : Map Nat := []
  let mut live : List Nat := List.range n
  for l in s.lines do
    let parsed : Option (List Ev × Option (Nat × Nat)) :=
      match l.op with
      | ["put", k, v] => do pure ([.put (← k.toNat?) (← v.toNat?)], none)
      | ["del", k] => do pure ([.del (← k.toNat?)], none)
      | "batch" :: ts => do pure ((← ts.mapM parseBatchTok), none)
      | "closein" :: i :: j :: ts | "closegate" :: i :: j :: ts => do pure ((← ts.mapM parseBatchTok), some ((← i.toNat?), (← j.toNat?)))
      | ["close", i] => do pure ([], some ((← i.toNat?), (← i.toNat?)))
      | _ => none
    let some (evs, cl) := parsed | r := r.mismatch s.idx l.idx "bad-op" (joinSp l.op)
    match cl with
    | some (i, j) =>
      if !(live.contains i) || !(live.contains j) then
        r := r.mismatch s.idx l.idx "bad-op" (joinSp (l.op ++ ["=>"] ++ l.obs))
        continue
      if l.op.head? != some "close" then
        let pi := (live.takeWhile (· ≠ i)).length
        let pj := (live.takeWhile (· ≠ j)).length
        r := r.addCover (if pi < pj then "close-during-delivery-of-an-earlier-listener" else if pi = pj then "close-during-delivery-of-itself" else "close-during-delivery-of-a-later-listener")
        r := r.addCover s!"lsn-{l.op.headD "?"}"
      live := live.filter (· ≠ i)
    | none => pure ()
    r := { r with ops := r.ops + 1 }
    r := r.addCover s!"lsn-listeners-{live.length}"
    reg := evs.foldl Spec.apply reg
    let want := showNats (Spec.viewList reg)
    for i in live do
      let vals := kvStr l.obs s!"{i}.values" "?"
      let cnt := kvStr l.obs s!"{i}.n" "?"
      -- every remaining listener is told every event exactly once, and shows the registry
      if cnt ≠ toString evs.length then
        r := r.violation s.idx l.idx s!"listener-not-notified-exactly-once-per-event subscriber={i} callbacks={cnt} events={evs.length} op=[{joinSp l.op}] (a subscriber on the same key was closed during the delivery)"
      if vals ≠ want then
        r := r.violation s.idx l.idx s!"view-differs-from-registry spec=[{want}] impl=[{vals}] excl=false op=[{joinSp l.op}] registry=[{showMapping reg}] subscriber={i} of {n} on one watcher"
  return r

def runSection (r : Report) (s : Section) : Report := Id.run do
  if kvStr s.cfg "h" "" = "pub" then return runPubSection r s
  if kvStr s.cfg "h" "" = "kube" then return runKubeSection r s
  if kvStr s.cfg "h" "" = "conc" then return runConcSection r s
  if kvStr s.cfg "h" "" = "build" then return runBuildSection r s
  if kvStr s.cfg "h" "" = "multi" then return runMultiSection r s
  if kvStr s.cfg "h" "" = "lsn" then return runLsnSection r s
  let excl := kvNat s.cfg "excl" 0 = 1
  let mut st : St := { excl := excl, cl := { cont := Container.new excl } }
  let mut r := r
  for l in s.lines do
    let (st', r') := runSubLine st r s.idx l
    st := st'
    r := r'
  return r

def driver (secs : List Section) : Report := secs.foldl runSection {}

end GoZero.C13
