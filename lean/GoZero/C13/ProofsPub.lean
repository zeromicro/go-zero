/-
C13 — histories that end in a registration or in deletions (what a publisher's register / revoke add to a history),
and etcd's lease store.
-/
import GoZero.C13.ProofsCluster
namespace GoZero.C13
open Spec

theorem validHist_append (fx : Fix) (evs : List Ev) (ev : Ev) (m : Map Nat) :
    ValidHist fx m (evs ++ [ev]) ↔ ValidHist fx m evs ∧ ValidEv fx (evs.foldl stepValues m) ev := by
  induction evs generalizing m with
  | nil => simp [ValidHist]
  | cons e t ih => simp [ValidHist, ih, and_assoc]

theorem validHist_append_dels (fx : Fix) (evs : List Ev) (ks : List Nat) (m : Map Nat) :
    ValidHist fx m (evs ++ ks.map .del) ↔ ValidHist fx m evs := by
  induction ks generalizing evs with
  | nil => simp
  | cons k t ih =>
    have : evs ++ (k :: t).map Ev.del = (evs ++ [.del k]) ++ t.map .del := by simp
    rw [this, ih, validHist_append]
    simp [ValidEv]

theorem regrun_append_dels (evs : List Ev) (ks : List Nat) (k : Nat) :
    Reg.run (evs ++ ks.map .del) k = if k ∈ ks then none else Reg.run evs k := by
  unfold Reg.run
  rw [List.foldl_append, List.foldl_map]
  exact foldl_del_get ks _ k

theorem validHist_register (evs : List Ev) (hv : ValidHist Fix.fixed [] evs) (p : Pub) :
    ValidHist Fix.fixed [] (evs ++ registerEvents p) :=
  (validHist_append _ evs _ []).mpr ⟨hv, trivial⟩

theorem regrun_register (evs : List Ev) (p : Pub) (k : Nat) :
    Reg.run (evs ++ registerEvents p) k = if k = p.fullKey then some p.value else Reg.run evs k := by
  simp [Reg.run, registerEvents, List.foldl_append, Reg.apply, Reg.put]

theorem mem_revokedKeys (s : Store) (lease k : Nat) :
    k ∈ revokedKeys s lease ↔ ∃ v, (k, (v, lease)) ∈ s := by
  simp only [revokedKeys, List.mem_map, List.mem_filter, decide_eq_true_eq]
  grind

theorem mem_storeRevoke (s : Store) (lease : Nat) (e : Nat × Nat × Nat) :
    e ∈ storeRevoke s lease ↔ e ∈ s ∧ e.2.2 ≠ lease := by
  unfold storeRevoke
  simp [List.mem_filter]

end GoZero.C13
