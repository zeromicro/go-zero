/-
C13 — invariant of the interleaving model of the container (Conc.lean).  The per-thread clauses of `Inv` are read as one
assertion per program point (`At`): a step of thread `t` establishes `t`'s next assertion.  The others keep theirs: a
mover outside the lock moves nothing shared (`step_outside`), and when the mover holds the lock the others are outside
it, where what a thread knows only needs the log and the snapshot index to grow (`At.mono`, `step_inside`).
-/
import GoZero.C13.Conc
import GoZero.C13.ProofsCluster
import GoZero.Base.Mutex
namespace GoZero.C13.Conc
open GoZero.C13

theorem contAt_append (excl : Bool) (log : List LEv) (e : LEv) (n : Nat) (h : n ≤ log.length) :
    contAt excl (log ++ [e]) n = contAt excl log n := by
  unfold contAt
  rw [List.take_append_of_le_length h]

theorem keysAt_append (excl : Bool) (log : List LEv) (e : LEv) (n : Nat) (h : n ≤ log.length) :
    keysAt excl (log ++ [e]) n = keysAt excl log n := by
  unfold keysAt; rw [contAt_append excl log e n h]

theorem contAt_full (excl : Bool) (log : List LEv) :
    contAt excl log log.length = log.foldl (applyL Fix.fixed) (Container.new excl) := by
  unfold contAt; rw [List.take_length]

theorem contAt_snoc (excl : Bool) (log : List LEv) (e : LEv) :
    contAt excl (log ++ [e]) (log.length + 1) = applyL Fix.fixed (contAt excl log log.length) e := by
  simp [contAt, List.take_of_length_le]

def holds (p : PC) : Bool :=
  match p with
  | .wDirty | .wMut | .wUnlock | .rBuild | .rStore | .rClear | .rUnlock => true
  | _ => false

def reading (p : PC) : Bool :=
  match p with
  | .rCheck | .rLoad | .rLock | .rBuild | .rStore | .rClear | .rUnlock | .rDone => true
  | _ => false

structure Inv (excl : Bool) (s : St) : Prop where
  cont : s.cont = contAt excl s.log s.log.length
  snapLe : s.snapIdx ≤ s.log.length
  snapIs : s.snap = keysAt excl s.log s.snapIdx
  clean : s.dirty = false → s.snapIdx = s.log.length
  lockIff : ∀ t, s.lock = some t ↔ holds (s.pc t) = true
  wdirty : ∀ t, (s.pc t = .wMut ∨ s.pc t = .wUnlock) → s.dirty = true
  built : ∀ t, (s.pc t = .rStore ∨ s.pc t = .rClear ∨ s.pc t = .rUnlock) →
            s.idx t = s.log.length ∧ s.vals t = keysAt excl s.log (s.idx t)
  stored : ∀ t, (s.pc t = .rClear ∨ s.pc t = .rUnlock) → s.snapIdx = s.log.length
  fast : ∀ t, s.pc t = .rLoad → s.start t ≤ s.snapIdx
  startLe : ∀ t, reading (s.pc t) = true → s.startDone t ≤ s.start t ∧ s.start t ≤ s.log.length
  doneLe : s.done ≤ s.log.length
  doneLt : ∀ t, s.pc t = .wUnlock → s.done < s.log.length
  result : ∀ t, s.pc t = .rDone → s.start t ≤ s.idx t ∧ s.idx t ≤ s.log.length ∧ s.ret t = keysAt excl s.log (s.idx t)

theorem inv_init (excl : Bool) : Inv excl (init excl) := by
  constructor <;> simp [init, contAt, keysAt, holds, reading, Container.new, Map.keys]

@[simp] theorem upd_self {α : Type} (f : Nat → α) (i : Nat) (x : α) : upd f i x i = x := if_pos rfl

theorem upd_of_ne {α : Type} (f : Nat → α) (x : α) {i j : Nat} (h : j ≠ i) : upd f i x j = f j := if_neg h

theorem step_frame {s s' : St} {t : Nat} {ch : Choice} (hs : step s t ch = some s') :
    (∀ u, u ≠ t → s'.pc u = s.pc u ∧ s'.vals u = s.vals u ∧ s'.ret u = s.ret u ∧ s'.idx u = s.idx u
      ∧ s'.start u = s.start u ∧ s'.startDone u = s.startDone u)
    ∧ (s'.log = s.log ∨ ∃ e, s'.log = s.log ++ [e])
    ∧ (holds (s.pc t) = false → s'.cont = s.cont ∧ s'.snap = s.snap ∧ s'.dirty = s.dirty ∧ s'.log = s.log
        ∧ s'.done = s.done ∧ s'.snapIdx = s.snapIdx)
    ∧ ((s'.lock = s.lock ∧ (holds (s'.pc t) = true ↔ holds (s.pc t) = true))
      ∨ (s.lock = none ∧ s'.lock = some t ∧ holds (s'.pc t) = true)
      ∨ (holds (s.pc t) = true ∧ ¬ holds (s'.pc t) = true ∧ s'.lock = none)) := by
  unfold step at hs
  split at hs
  all_goals (try split at hs)
  all_goals (try (simp at hs; done))
  all_goals simp only [Option.some.injEq] at hs
  all_goals subst hs
  all_goals exact ⟨fun u hu => by simp [upd_of_ne _ _ hu], by simp, by simp [holds, *], by simp_all [holds]⟩

theorem mutex_of_inv (excl : Bool) (s : St) (h : Inv excl s) (t u : Nat)
    (ht : holds (s.pc t) = true) (hu : holds (s.pc u) = true) : t = u := by
  have a := (h.lockIff t).mpr ht
  have b := (h.lockIff u).mpr hu
  rw [a] at b
  exact Option.some.inj b

/-- the clauses of `Inv` about one thread, with the thread's pc as a parameter: what thread `u` has established when it
stands at `p` -/
def At (excl : Bool) (s : St) (u : Nat) (p : PC) : Prop :=
  ((p = .wMut ∨ p = .wUnlock) → s.dirty = true)
  ∧ ((p = .rStore ∨ p = .rClear ∨ p = .rUnlock) → s.idx u = s.log.length ∧ s.vals u = keysAt excl s.log (s.idx u))
  ∧ ((p = .rClear ∨ p = .rUnlock) → s.snapIdx = s.log.length)
  ∧ (p = .rLoad → s.start u ≤ s.snapIdx)
  ∧ (reading p = true → s.startDone u ≤ s.start u ∧ s.start u ≤ s.log.length)
  ∧ (p = .wUnlock → s.done < s.log.length)
  ∧ (p = .rDone → s.start u ≤ s.idx u ∧ s.idx u ≤ s.log.length ∧ s.ret u = keysAt excl s.log (s.idx u))

theorem Inv.at {excl : Bool} {s : St} (h : Inv excl s) (u : Nat) : At excl s u (s.pc u) :=
  ⟨h.wdirty u, h.built u, h.stored u, h.fast u, h.startLe u, h.doneLt u, h.result u⟩

theorem Inv.of_at {excl : Bool} {s : St} (cont : s.cont = contAt excl s.log s.log.length)
    (snapLe : s.snapIdx ≤ s.log.length) (snapIs : s.snap = keysAt excl s.log s.snapIdx)
    (clean : s.dirty = false → s.snapIdx = s.log.length) (doneLe : s.done ≤ s.log.length)
    (lockIff : ∀ t, s.lock = some t ↔ holds (s.pc t) = true) (hat : ∀ u, At excl s u (s.pc u)) : Inv excl s :=
  ⟨cont, snapLe, snapIs, clean, lockIff, fun u => (hat u).1, fun u => (hat u).2.1, fun u => (hat u).2.2.1,
    fun u => (hat u).2.2.2.1, fun u => (hat u).2.2.2.2.1, doneLe, fun u => (hat u).2.2.2.2.2.1,
    fun u => (hat u).2.2.2.2.2.2⟩

/-- what a thread outside the lock knows (`fast`, `startLe`, `result`) speaks of a prefix of the log and a lower bound of
the snapshot index: it survives whatever the lock holder does -/
theorem At.mono {excl : Bool} {s s' : St} {u : Nat} {p : PC} (h : At excl s u p) (hp : holds p = false)
    (hr : s'.vals u = s.vals u ∧ s'.ret u = s.ret u ∧ s'.idx u = s.idx u ∧ s'.start u = s.start u
      ∧ s'.startDone u = s.startDone u)
    (hlog : s'.log = s.log ∨ ∃ e, s'.log = s.log ++ [e]) (hsi : s.snapIdx ≤ s'.snapIdx) : At excl s' u p := by
  obtain ⟨_, hr, hi, ha, hb⟩ := hr
  have hlen : s.log.length ≤ s'.log.length := by rcases hlog with e | ⟨e, he⟩ <;> simp [*]
  have hk : ∀ n, n ≤ s.log.length → keysAt excl s'.log n = keysAt excl s.log n := by
    rcases hlog with e | ⟨e, he⟩
    · rw [e]; exact fun _ _ => rfl
    · rw [he]; exact keysAt_append excl s.log e
  obtain ⟨_, _, _, h4, h5, _, h7⟩ := h
  refine ⟨fun q => ?_, fun q => ?_, fun q => ?_, fun q => ?_, fun q => ?_, fun q => ?_, fun q => ?_⟩
  · rcases q with rfl | rfl <;> cases hp
  · rcases q with rfl | rfl | rfl <;> cases hp
  · rcases q with rfl | rfl <;> cases hp
  · rw [ha]; exact Nat.le_trans (h4 q) hsi
  · rw [ha, hb]; exact ⟨(h5 q).1, Nat.le_trans (h5 q).2 hlen⟩
  · subst q; cases hp
  · obtain ⟨x, y, z⟩ := h7 q
    rw [ha, hi, hr]; exact ⟨x, Nat.le_trans y hlen, z.trans (hk _ y).symm⟩

section step
variable {excl : Bool} {s s' : St} (h : Inv excl s) {t : Nat} {ch : Choice} (hs : step s t ch = some s')
include h hs

/-- the lock clause after any step, by the mutex discipline (`mutex_held`, `mutex_kept` of Base/Mutex.lean) -/
theorem Inv.lockIff_step (u : Nat) : s'.lock = some u ↔ holds (s'.pc u) = true :=
  have hm := (step_frame hs).2.2.2
  have ho : ∀ v, v ≠ t → (holds (s'.pc v) = true ↔ holds (s.pc v) = true) := fun v hv => by rw [((step_frame hs).1 v hv).1]
  ⟨mutex_held hm ho (fun v => (h.lockIff v).1) u, mutex_kept hm ho (fun v => (h.lockIff v).2) u⟩

/-- a step outside the lock: nothing shared moves, so the global clauses and the others' assertions are untouched; `t` owes
its next assertion only -/
theorem Inv.step_outside (ht : holds (s.pc t) = false)
    (own : At excl s' t (s'.pc t)) : Inv excl s' := by
  obtain ⟨fr, _, hout, _⟩ := step_frame hs
  obtain ⟨hc, hn, hd, hg, hdn, hx⟩ := hout ht
  refine .of_at (by rw [hc, hg]; exact h.cont) (by rw [hx, hg]; exact h.snapLe) (by rw [hn, hg, hx]; exact h.snapIs)
    (by rw [hd, hx, hg]; exact h.clean) (by rw [hdn, hg]; exact h.doneLe) (h.lockIff_step hs) fun u => ?_
  by_cases hu : u = t
  · exact hu ▸ own
  · -- nothing `At` reads has moved: the others' assertions are the same statements
    obtain ⟨hpc, hv, hr, hi, ha, hb⟩ := fr u hu
    simpa only [At, hpc, hv, hr, hi, ha, hb, hd, hg, hdn, hx] using h.at u

/-- a step under the lock: `t` owes the global clauses as well, and that the snapshot index does not go back; the others
are outside the lock (`mutex_of_inv`) -/
theorem Inv.step_inside (ht : holds (s.pc t) = true) (cont : s'.cont = contAt excl s'.log s'.log.length)
    (snapLe : s'.snapIdx ≤ s'.log.length) (snapIs : s'.snap = keysAt excl s'.log s'.snapIdx)
    (clean : s'.dirty = false → s'.snapIdx = s'.log.length) (doneLe : s'.done ≤ s'.log.length)
    (hsi : s.snapIdx ≤ s'.snapIdx)
    (own : At excl s' t (s'.pc t)) : Inv excl s' :=
  have ⟨fr, hlog, _⟩ := step_frame hs
  .of_at cont snapLe snapIs clean doneLe (h.lockIff_step hs) fun u =>
    if hu : u = t then hu ▸ own
    else (fr u hu).1 ▸ (h.at u).mono (Bool.eq_false_iff.mpr fun hp => hu (mutex_of_inv excl s h u t hp ht)) (fr u hu).2 hlog hsi

end step

attribute [local simp] At reading

theorem inv_step (excl : Bool) (s s' : St) (t : Nat) (ch : Choice) (h : Inv excl s) (hs : step s t ch = some s') :
    Inv excl s' := by
  have outside := h.step_outside hs
  have inside := h.step_inside hs
  have hst := h.at t
  -- one case per pc (two where `step` branches): `hst` becomes what `t` knows there, `s'` the state `step` returns
  cases hp : s.pc t
  all_goals simp only [step, hp] at hs
  all_goals rw [hp] at hst outside inside
  all_goals simp at hst
  all_goals try split at hs
  all_goals simp only [Option.some.injEq, reduceCtorEq] at hs
  all_goals subst hs
  -- idle, `h_1`: a write starts; `h_2`: a read starts and notes `done` and the length of the log
  case h_1 => exact outside rfl (by simp)
  case h_2 => exact outside rfl (by simp [h.doneLe])
  case wLock.isTrue => exact outside rfl (by simp)
  case wDirty =>
    exact inside rfl h.cont h.snapLe h.snapIs (nomatch ·) h.doneLe (Nat.le_refl _) (by simp)
  case wMut =>
    -- the mutation and its log entry happen in the same step, so `cont` stays the fold of the log
    have hlen : (s.log ++ [s.ev t]).length = s.log.length + 1 := by simp
    refine inside rfl ?_ (Nat.le_trans h.snapLe (by simp))
      ((keysAt_append excl s.log _ _ h.snapLe).symm ▸ h.snapIs) (fun hd => nomatch hst.symm.trans hd)
      (Nat.le_trans h.doneLe (by simp)) (Nat.le_refl _) ?_
    · show applyL Fix.fixed s.cont (s.ev t) = _
      rw [hlen, contAt_snoc, ← h.cont]
    · simpa [hst] using Nat.lt_succ_of_le h.doneLe
  case wUnlock =>
    exact inside rfl h.cont h.snapLe h.snapIs h.clean (h.doneLt t hp) (Nat.le_refl _) (by simp)
  case rCheck.isTrue => exact outside rfl (by simp [hst])
  case rCheck.isFalse =>
    -- clean: the snapshot index is the length of the log, which the start of the read does not exceed
    exact outside rfl (by simp [hst, h.clean (Bool.eq_false_iff.mpr ‹_›)])
  case rLoad => exact outside rfl (by simp [hst, h.snapLe, ← h.snapIs])
  case rLock.isTrue => exact outside rfl (by simp [hst])
  case rBuild =>
    exact inside rfl h.cont h.snapLe h.snapIs h.clean h.doneLe (Nat.le_refl _)
      (by simp [hst, keysAt, ← h.cont])
  case rStore =>
    -- the list was built from the whole log, under the lock held since
    obtain ⟨hi, hv⟩ := h.built t (.inl hp)
    exact inside rfl h.cont (Nat.le_of_eq hi) hv (fun _ => hi) h.doneLe (hi ▸ h.snapLe) (by simp [hst])
  case rClear =>
    exact inside rfl h.cont h.snapLe h.snapIs (fun _ => h.stored t (.inl hp)) h.doneLe (Nat.le_refl _)
      (by simp [hst])
  case rUnlock =>
    exact inside rfl h.cont h.snapLe h.snapIs h.clean h.doneLe (Nat.le_refl _) (by simp [hst])
  case rDone => exact outside rfl (by simp)

theorem inv_exec (excl : Bool) (sched : Sched) (s : St) (h : Inv excl s) : Inv excl (exec s sched) := by
  induction sched generalizing s with
  | nil => exact h
  | cons a rest ih =>
    obtain ⟨t, ch⟩ := a
    unfold exec
    cases hs : step s t ch with
    | none => exact ih s h
    | some s' => exact ih s' (inv_step excl s s' t ch h hs)

theorem keysAt_spec (excl : Bool) (log : List LEv) (n : Nat) :
    (∀ v, v ∈ keysAt excl log n ↔ ∃ k, ((log.take n).foldl (Spec.Reg.applyL excl) Spec.Reg.empty) k = some v)
    ∧ (keysAt excl log n).Nodup := by
  have h := listener_refines (log.take n) (excl := excl) (c := Container.new excl) (cnt := Spec.Reg.empty)
    ⟨inv_new excl, rfl, fun _ => rfl, rfl, rfl⟩
  exact ⟨fun v => (mem_values_keys _ h.inv v).trans (exists_congr fun k => by rw [h.mapping k]), h.inv.nodupV⟩

end GoZero.C13.Conc
