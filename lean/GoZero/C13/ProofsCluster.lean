/-
C13 — the subscriber as a whole: listener-level refinement, the reload diff, notifications.
-/
import GoZero.C13.ProofsContainer
import GoZero.C13.ProofsMonitor
namespace GoZero.C13
open Map Spec

/-- coherent cache: a clean snapshot is the current value list -/
def Coh (c : Container) : Prop := c.dirty = false → c.snapshot = Map.keys c.values

theorem applyL_refines {excl : Bool} {cnt : Reg} {n : Nat} {c : Container} (h : Holds excl cnt n c) (l : LEv) :
    Holds excl (Reg.applyL excl cnt l) (n + 1) (applyL Fix.fixed c l) := by
  have bump : ∀ {r : Reg} {c' : Container}, Holds excl r n c' → Holds excl r (n + 1) (notifyChange c') := fun h' =>
    ⟨⟨h'.inv.nonempty, h'.inv.attach, h'.inv.excl1, h'.inv.nodupV⟩, h'.kind, h'.mapping, congrArg (· + 1) h'.notified,
      h'.dirty⟩
  cases l with
  | add k v => exact bump (addKv_holds h k v)
  | del k => exact bump (removeKey_holds h k)

theorem listener_refines (ls : List LEv) {excl : Bool} {cnt : Reg} {n : Nat} {c : Container} (h : Holds excl cnt n c) :
    Holds excl (ls.foldl (Reg.applyL excl) cnt) (n + ls.length) (ls.foldl (applyL Fix.fixed) c) := by
  induction ls generalizing c cnt n with
  | nil => exact h
  | cons l t ih => exact Nat.add_right_comm n 1 t.length ▸ ih (applyL_refines h l)

/-- what lets the theorems allow ANY order of `adds`, repetitions included: every add agrees with `new`, so it does not
matter which add of a key comes last; a key that no add mentions keeps `r k`, and `hr` asks that to be `new k` already -/
theorem foldl_put_eq (new : Reg) (adds : List (Nat × Nat)) (h : ∀ kv ∈ adds, new kv.1 = some kv.2) (r : Reg) (k : Nat)
    (hr : (∀ v, (k, v) ∉ adds) → r k = new k) :
    (adds.foldl (fun r kv => Reg.applyL false r (.add kv.1 kv.2)) r) k = new k := by
  induction adds generalizing r with
  | nil => exact hr (by simp)
  | cons a t ih =>
    refine ih (fun kv hkv => h kv (List.mem_cons_of_mem _ hkv)) (Reg.put r a.1 a.2) fun hn => ?_
    by_cases hka : k = a.1
    · simp [Reg.put, hka, h a List.mem_cons_self]
    · refine Eq.trans (by simp [Reg.put, hka]) (hr fun v hv => ?_)
      rcases List.mem_cons.mp hv with e | e
      · exact hka (by rw [← e])
      · exact hn v e

theorem foldl_del_get (rems : List Nat) (r : Reg) (k : Nat) :
    (rems.foldl Reg.del r) k = if k ∈ rems then none else r k := by
  induction rems generalizing r with
  | nil => simp
  | cons a t ih => rw [List.foldl_cons, ih]; grind [Reg.del]

theorem ofKVs_spec (kvs : List (Nat × Nat)) : Rep (ofKVs kvs) (Reg.ofSnapshot kvs) :=
  List.foldl_rel (r := Rep) .empty fun kv _ _ _ h => h.set kv.1 kv.2


theorem foldl_emit_reload (excl : Bool) (kvs adds : List (Nat × Nat)) (rems : List Nat) (r : Reg) :
    (emit (.reload kvs adds rems)).foldl (Reg.applyL excl) r
      = rems.foldl Reg.del (adds.foldl (fun r kv => Reg.applyL excl r (.add kv.1 kv.2)) r) := by
  unfold emit
  rw [List.foldl_append, List.foldl_map, List.foldl_map]
  rfl

/-- the `adds` / `rems` of a valid reload are, as sets, the pairs of the snapshot that are new or changed and the old keys
the snapshot lacks (`ValidEv` only fixes them up to order) -/
theorem reload_orders (old : Map Nat) (hold : (Map.keys old).Nodup) (kvs adds : List (Nat × Nat)) (rems : List Nat)
    (hv : ValidEv Fix.fixed old (.reload kvs adds rems)) :
    (∀ k v, (k, v) ∈ adds ↔ (ofKVs kvs).get k = some v ∧ old.get k ≠ some v)
    ∧ (∀ k, k ∈ rems ↔ old.get k ≠ none ∧ (ofKVs kvs).get k = none) := by
  obtain ⟨ha, hrm⟩ := hv
  refine ⟨fun k v => ?_, fun k => ?_⟩
  · rw [ha, calcAdds, List.mem_filter, mem_iff_get _ (ofKVs_spec kvs).nodup]; simp
  · rw [hrm]
    simp only [calcRemoves, Fix.fixed, if_true, List.mem_map, List.mem_filter, decide_eq_true_eq]
    constructor
    · rintro ⟨p, ⟨hp, hn⟩, rfl⟩
      exact ⟨by rw [(mem_iff_get _ hold _ _).mp hp]; simp, hn⟩
    · rintro ⟨ho, hn⟩
      cases hg : old.get k with
      | none => exact absurd hg ho
      | some v => exact ⟨(k, v), ⟨(mem_iff_get _ hold k v).mpr hg, hn⟩, rfl⟩

/-- applying `calculateChanges`' additions and then its removals, in whatever order Go ranged over the two maps, turns
the old registry into the snapshot -/
theorem reload_diff_exact {old : Map Nat} {r : Reg} (h : Rep old r) (kvs adds : List (Nat × Nat))
    (rems : List Nat) (hv : ValidEv Fix.fixed old (.reload kvs adds rems)) (k : Nat) :
    ((Ev.reload kvs adds rems |> emit).foldl (Reg.applyL false) r) k = Reg.ofSnapshot kvs k := by
  obtain ⟨hadd, hrem⟩ := reload_orders old h.nodup kvs adds rems hv
  rw [foldl_emit_reload, foldl_del_get, ← (ofKVs_spec kvs).get k]
  by_cases hk : k ∈ rems
  · rw [if_pos hk]; exact ((hrem k).mp hk).2.symm
  · rw [if_neg hk]
    refine foldl_put_eq (fun k => (ofKVs kvs).get k) adds (fun kv h => ((hadd _ _).mp h).1) r k fun hex => ?_
    -- announced neither as added nor as removed: the old entry is the new one
    rw [← h.get k]
    cases hn : (ofKVs kvs).get k with
    | some v => simpa [hn] using mt (hadd k v).mpr (hex v)
    | none => simpa [hn] using mt (hrem k).mpr hk

theorem Rep.step {m : Map Nat} {r : Reg} (h : Rep m r) (ev : Ev) : Rep (stepValues m ev) (Reg.apply r ev) := by
  cases ev with
  | put a v => exact h.set a v
  | del a => exact h.erase a
  | reload kvs _ _ => exact ofKVs_spec kvs

theorem Rep.foldl {m : Map Nat} {r : Reg} (h : Rep m r) (evs : List Ev) :
    Rep (evs.foldl stepValues m) (evs.foldl Reg.apply r) :=
  List.foldl_rel h fun ev _ _ _ h => h.step ev

theorem emit_exact {m : Map Nat} {r : Reg} (h : Rep m r) (ev : Ev) (hv : ValidEv Fix.fixed m ev) (k : Nat) :
    ((emit ev).foldl (Reg.applyL false) r) k = (Reg.apply r ev) k := by
  cases ev with
  | put a v => simp [emit, Reg.applyL, Reg.apply]
  | del a => simp [emit, Reg.applyL, Reg.apply]
  | reload kvs adds rems => exact reload_diff_exact h kvs adds rems hv k

/-- `values` and `cont` of a cluster never read each other: a history is a fold of `stepValues` over the registry's copy
beside a fold of `applyL` over the container, along the listener stream -/
theorem foldl_step (fx : Fix) (evs : List Ev) (cl : Cluster) :
    evs.foldl (step fx) cl
      = { values := evs.foldl stepValues cl.values, cont := (evs.flatMap emit).foldl (applyL fx) cl.cont } := by
  induction evs generalizing cl with
  | nil => rfl
  | cons ev t ih => rw [List.foldl_cons, ih, List.flatMap_cons, List.foldl_append]; rfl

theorem run_rep (excl : Bool) (evs : List Ev) : Rep (run Fix.fixed excl evs).values (Reg.run evs) := by
  rw [run, foldl_step]; exact Rep.empty.foldl evs

theorem run_cont (excl : Bool) (evs : List Ev) :
    Holds excl ((evs.flatMap emit).foldl (Reg.applyL excl) Reg.empty) (evs.flatMap emit).length
      (run Fix.fixed excl evs).cont := by
  have := listener_refines (evs.flatMap emit) (excl := excl) (cnt := Reg.empty) (n := 0) (c := Container.new excl)
    ⟨inv_new excl, rfl, fun _ => rfl, rfl, rfl⟩
  rw [run, foldl_step]
  rwa [Nat.zero_add] at this

/-- the refinement fact of the ordinary subscriber: the listener stream of a valid history folds to the registry -/
theorem stream_exact (evs : List Ev) {m : Map Nat} {r : Reg} (h : Rep m r) (hv : ValidHist Fix.fixed m evs) (k : Nat) :
    ((evs.flatMap emit).foldl (Reg.applyL false) r) k = (evs.foldl Reg.apply r) k := by
  induction evs generalizing m r with
  | nil => rfl
  | cons ev t ih =>
    simp only [List.flatMap_cons, List.foldl_append, List.foldl_cons]
    obtain ⟨hv1, hv2⟩ := hv
    rw [show (emit ev).foldl (Reg.applyL false) r = Reg.apply r ev from funext (emit_exact h ev hv1)]
    exact ih (h.step ev) hv2

theorem run_unfold (excl : Bool) (evs : List Ev) :
    let cl := run Fix.fixed excl evs
    Inv cl.cont ∧ cl.cont.exclusive = excl ∧ (Map.keys cl.values).Nodup
    ∧ (∀ k, cl.values.get k = Reg.run evs k)
    ∧ (∀ k, cl.cont.mapping.get k = ((evs.flatMap emit).foldl (Reg.applyL excl) Reg.empty) k)
    ∧ cl.cont.notified = (evs.flatMap emit).length
    ∧ Coh cl.cont :=
  have h := run_cont excl evs
  ⟨h.inv, h.kind, (run_rep excl evs).nodup, (run_rep excl evs).get, h.mapping, h.notified, fun hd => nomatch h.dirty.symm.trans hd⟩

theorem run_holds (evs : List Ev) (hv : ValidHist Fix.fixed [] evs) :
    Holds false (Reg.run evs) (evs.flatMap emit).length (run Fix.fixed false evs).cont :=
  (funext (stream_exact evs .empty hv) : _ = Reg.run evs) ▸ run_cont false evs

theorem view_shows {excl : Bool} {r : Reg} {n : Nat} {c : Container} (h : Holds excl r n c) :
    (∀ v, v ∈ view c ↔ r.Shows v) ∧ (view c).Nodup := by
  obtain rfl : (fun k => c.mapping.get k) = r := funext h.mapping
  have hv : view c = Map.keys c.values := by simp [view, getValues, h.dirty]
  rw [hv]
  exact ⟨mem_values_keys c h.inv, h.inv.nodupV⟩

end GoZero.C13
