/-
C13 — invariant of the interleaving model of discovBuilder.Build against the watch goroutine (BuildConc.lean).
-/
import GoZero.C13.BuildConc
namespace GoZero.C13.BuildConc

/-- invariant of the code's order with serialised update() calls -/
def Inv (s : St) : Prop :=
  (1 ≤ s.pc → s.listener = true) ∧ (s.pc = 2 → s.bvals = s.view ∨ s.wneeds = true)
  ∧ (s.pc = 3 → s.pub = some s.view ∨ s.wneeds = true)

theorem inv_step (s : St) (a : Act) (h : Inv s) : Inv (step .listenerFirst true s a) := by
  obtain ⟨h1, h2, h3⟩ := h
  cases a with
  | build =>
    simp only [step, buildStep]
    split <;> simp_all [Inv]
  | apply v =>
    simp only [step, Inv]
    refine ⟨h1, fun hp => ?_, fun hp => ?_⟩
    · right; simp [h1 (by omega)]
    · right; simp [h1 (by omega)]
  | wUpdate =>
    simp only [step]
    split
    · rename_i hc
      simp only [inUpdate, Bool.true_and, Bool.and_eq_true, Bool.not_eq_true', beq_eq_false_iff_ne, ne_eq] at hc
      refine ⟨h1, fun hp => absurd hp hc.2, fun _ => Or.inl rfl⟩
    · exact ⟨h1, h2, h3⟩

theorem inv_exec (acts : List Act) (s : St) (h : Inv s) : Inv (exec .listenerFirst true s acts) :=
  List.foldlRecOn acts _ h fun s h a _ => inv_step s a h

end GoZero.C13.BuildConc
