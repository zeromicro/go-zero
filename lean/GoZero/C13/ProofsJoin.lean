/-
C13 — a listener joining late.  (1) The invariant of cluster.join / handleWatchEvents under the notifyLock
(ConcJoin.lean): a step re-establishes the clauses it touches and hands the others on; a joiner's step sees the other
joiners only through `Inv.joiner`.  (2) Sequentially: the replay of the current values makes a fresh subscriber's
container stand for the registry, and it goes on standing for it.
-/
import GoZero.C13.ConcJoin
import GoZero.C13.ProofsCluster
namespace GoZero.C13.ConcJoin
open GoZero.C13 GoZero.C13.Spec

/-- The crux is `sync` / `pending`: the watch goroutine applies an event to `values` one step before it delivers it to
the views, so a joined view equals `values` except during that step, when it is exactly the pending event behind.
The other clauses say who holds the notifyLock at which pc (`idleFree` … `jfree`), that `listeners` is what the joiners'
pcs say (`lsn`, `joinedL`), and that what was read or copied under the lock is still current (`cur`, `copied`). -/
structure Inv (s : St) : Prop where
  idleFree : s.wpc = .idle → s.nlock ≠ .watch
  busy : s.wpc ≠ .idle → s.nlock = .watch
  jhold : ∀ l, (s.jpc l = .append ∨ s.jpc l = .read ∨ s.jpc l = .replay) → s.nlock = .joiner l
  jfree : ∀ l, s.nlock = .joiner l → (s.jpc l = .append ∨ s.jpc l = .read ∨ s.jpc l = .replay)
  lsn : ∀ l, s.listeners l = true → (s.jpc l = .read ∨ s.jpc l = .replay ∨ s.jpc l = .joined)
  cur : ∀ l, s.jpc l = .replay → s.jcur l = s.values
  copied : (s.wpc = .loop ∨ ∃ e, s.wpc = .deliver e) → s.wls = s.listeners
  sync : ∀ l, s.jpc l = .joined → (∀ e, s.wpc ≠ .deliver e) → s.view l = s.values
  pending : ∀ l e, s.jpc l = .joined → s.wpc = .deliver e → Reg.applyL false (s.view l) e = s.values
  joinedL : ∀ l, (s.jpc l = .read ∨ s.jpc l = .replay ∨ s.jpc l = .joined) → s.listeners l = true

@[simp] theorem upd_self {α : Type} (f : Nat → α) (i : Nat) (x : α) : upd f i x i = x := if_pos rfl

theorem upd_of_ne {α : Type} (f : Nat → α) (x : α) {i j : Nat} (h : j ≠ i) : upd f i x j = f j := if_neg h

/-- the clauses of `Inv` about one joiner -/
abbrev Inv.Joiner (s : St) (l : Nat) : Prop :=
  ((s.jpc l = .append ∨ s.jpc l = .read ∨ s.jpc l = .replay) → s.nlock = .joiner l)
  ∧ (s.nlock = .joiner l → (s.jpc l = .append ∨ s.jpc l = .read ∨ s.jpc l = .replay))
  ∧ (s.listeners l = true → (s.jpc l = .read ∨ s.jpc l = .replay ∨ s.jpc l = .joined))
  ∧ (s.jpc l = .replay → s.jcur l = s.values)
  ∧ (s.jpc l = .joined → (∀ e, s.wpc ≠ .deliver e) → s.view l = s.values)
  ∧ (∀ e, s.jpc l = .joined → s.wpc = .deliver e → Reg.applyL false (s.view l) e = s.values)
  ∧ ((s.jpc l = .read ∨ s.jpc l = .replay ∨ s.jpc l = .joined) → s.listeners l = true)

theorem Inv.joiner {s : St} (h : Inv s) (l : Nat) : Inv.Joiner s l :=
  ⟨h.jhold l, h.jfree l, h.lsn l, h.cur l, h.sync l, h.pending l, h.joinedL l⟩

theorem Inv.of_joiners {s : St} (idleFree : s.wpc = .idle → s.nlock ≠ .watch) (busy : s.wpc ≠ .idle → s.nlock = .watch)
    (copied : (s.wpc = .loop ∨ ∃ e, s.wpc = .deliver e) → s.wls = s.listeners) (hj : ∀ l, Inv.Joiner s l) : Inv s :=
  ⟨idleFree, busy, fun l => (hj l).1, fun l => (hj l).2.1, fun l => (hj l).2.2.1, fun l => (hj l).2.2.2.1, copied,
    fun l => (hj l).2.2.2.2.1, fun l => (hj l).2.2.2.2.2.1, fun l => (hj l).2.2.2.2.2.2⟩

/-- the watch goroutine handles a response under the notifyLock: no joiner is inside cluster.join meanwhile -/
theorem watch_step (s s' : St) (b : List LEv) (h : Inv s) (hs : step true s (.watch b) = some s') : Inv s' := by
  cases hw : s.wpc <;> simp only [step, hw, if_true] at hs
  case idle =>
    split at hs <;> simp only [Option.some.injEq, reduceCtorEq] at hs
    next hf =>
    subst hs
    exact { h with
      idleFree := (nomatch ·), busy := fun _ => rfl, jhold := fun l hl => (nomatch hf.symm.trans (h.jhold l hl))
      jfree := fun l hl => (nomatch hl), copied := (nomatch ·), pending := fun l e _ hd => (nomatch hd)
      sync := fun l hj _ => h.sync l hj fun e he => (nomatch hw.symm.trans he) }
  all_goals have hb : s.nlock = .watch := h.busy (by simp [hw])
  case copy =>
    simp only [Option.some.injEq] at hs; subst hs
    exact { h with
      idleFree := (nomatch ·), busy := fun _ => hb, copied := fun _ => rfl, pending := fun l e _ hd => (nomatch hd)
      sync := fun l hj _ => h.sync l hj fun e he => (nomatch hw.symm.trans he) }
  case loop =>
    have hsync := fun l hj => h.sync l hj fun e he => (nomatch hw.symm.trans he)
    split at hs <;> (simp only [Option.some.injEq] at hs; subst hs)
    · exact { h with
        idleFree := fun _ => (nomatch ·), busy := fun hne => absurd rfl hne
        jhold := fun l hl => (nomatch hb.symm.trans (h.jhold l hl)), jfree := fun l hl => (nomatch hl)
        copied := (nomatch ·), sync := fun l hj _ => hsync l hj, pending := fun l e _ hd => (nomatch hd) }
    next e rest _ =>
      -- the event is applied to `values` now and to the views in the next step: `pending`
      exact { h with
        idleFree := (nomatch ·), busy := fun _ => hb, copied := fun _ => h.copied (.inl hw)
        cur := fun l hl => (nomatch hb.symm.trans (h.jhold l (.inr (.inr hl))))
        sync := fun l _ hne => absurd rfl (hne e)
        pending := fun l e' hj hd => by cases hd; exact congrArg (Reg.applyL false · e) (hsync l hj) }
  case deliver e =>
    simp only [Option.some.injEq] at hs; subst hs
    have hc := h.copied (.inr ⟨e, hw⟩)
    -- a joined listener is in the list that was copied, so the pending event reaches its view
    exact { h with
      idleFree := (nomatch ·), busy := fun _ => hb, copied := fun _ => hc, pending := fun l e _ hd => (nomatch hd)
      sync := fun l hj _ => by
        show (if s.wls l then _ else _) = _
        rw [hc, h.joinedL l (.inr (.inr hj)), if_pos rfl]; exact h.pending l e hj hw }

/-- a joiner moves through cluster.join under the notifyLock: the watch goroutine is idle meanwhile, the other joiners
keep their clauses -/
theorem join_step (s s' : St) (l : Nat) (h : Inv s) (hs : step true s (.join l) = some s') : Inv s' := by
  cases hp : s.jpc l <;> simp only [step, hp, if_true, reduceCtorEq] at hs
  case out =>
    split at hs <;> simp only [Option.some.injEq, reduceCtorEq] at hs
    next hf =>
    subst hs
    have hw : s.wpc = .idle := Decidable.byContradiction fun hne => nomatch hf.symm.trans (h.busy hne)
    refine .of_joiners (fun _ => (nomatch ·)) (fun hne => absurd hw hne) h.copied fun l' => ?_
    by_cases e : l' = l
    · subst e
      have hnl : s.listeners l' = false := Bool.eq_false_iff.mpr fun hl => by simpa [hp] using h.lsn _ hl
      simpa [Inv.Joiner] using hnl
    · have := h.joiner l'
      simp only [Inv.Joiner, upd_of_ne _ _ e, hf] at this ⊢
      grind
  all_goals simp only [Option.some.injEq] at hs; subst hs
  all_goals have hn : s.nlock = .joiner l := h.jhold l (by simp [hp])
  all_goals have hw : s.wpc = .idle := Decidable.byContradiction fun hne => nomatch hn.symm.trans (h.busy hne)
  case append =>
    refine .of_joiners h.idleFree h.busy (by simp [hw]) fun l' => ?_
    by_cases e : l' = l
    · subst e; simpa [Inv.Joiner] using hn
    · simpa only [Inv.Joiner, upd_of_ne _ _ e] using h.joiner l'
  case read =>
    refine .of_joiners h.idleFree h.busy h.copied fun l' => ?_
    by_cases e : l' = l
    · subst e; simpa [Inv.Joiner, hn] using h.joinedL l' (.inl hp)
    · simpa only [Inv.Joiner, upd_of_ne _ _ e] using h.joiner l'
  case replay =>
    refine .of_joiners (fun _ => (nomatch ·)) (fun hne => absurd hw hne) h.copied fun l' => ?_
    by_cases e : l' = l
    -- the replayed values are the current ones: nothing was delivered since they were read
    · subst e; simp [Inv.Joiner, hw, h.cur l' hp, h.joinedL l' (.inr (.inl hp))]
    · have := h.joiner l'
      simp only [Inv.Joiner, upd_of_ne _ _ e, hn] at this ⊢
      grind

theorem inv_step (s s' : St) (a : Act) (h : Inv s) (hs : step true s a = some s') : Inv s' := by
  cases a with
  | watch b => exact watch_step s s' b h hs
  | join l => exact join_step s s' l h hs

theorem inv_init : Inv {} := by
  constructor <;> simp

theorem inv_exec (acts : List Act) (s : St) (h : Inv s) : Inv (exec true s acts) := by
  induction acts generalizing s with
  | nil => exact h
  | cons a rest ih =>
    unfold exec
    cases hs : step true s a with
    | none => exact ih s h
    | some s' => exact ih s' (inv_step s s' a h hs)

end GoZero.C13.ConcJoin

namespace GoZero.C13
open Map Spec

/-- `Registry.Monitor` on an existing watch, sequentially: the new listener's container after the replay of
`getCurrent` (in the order `order` Go ranged over `watcher.values`) and the listener events of the later history -/
def runLate (excl : Bool) (order : List (Nat × Nat)) (later : List Ev) : Container :=
  (later.flatMap emit).foldl (applyL Fix.fixed) (order.foldl (onAdd Fix.fixed) (Container.new excl))

/-- `order` is an order of the map `cur` -/
def ValidJoin (cur : Map Nat) (order : List (Nat × Nat)) : Prop := ∀ kv, kv ∈ order ↔ kv ∈ cur

theorem late_join_holds (before later : List Ev) (order : List (Nat × Nat))
    (hj : ValidJoin (run Fix.fixed false before).values order)
    (hv2 : ValidHist Fix.fixed (run Fix.fixed false before).values later) :
    ∃ n, Holds false (Reg.run (before ++ later)) n (runLate false order later) := by
  have hrep := run_rep false before
  have horder : ∀ k v, (k, v) ∈ order ↔ Reg.run before k = some v := fun k v =>
    (hj (k, v)).trans ((mem_iff_get _ hrep.nodup k v).trans (by rw [hrep.get]))
  have h0 := listener_refines (order.map (fun kv => LEv.add kv.1 kv.2)) (excl := false)
    (c := Container.new false) (cnt := Reg.empty) ⟨inv_new false, rfl, fun _ => rfl, rfl, rfl⟩
  -- after the replay the new listener holds the registry
  have m1 : (order.map (fun kv => LEv.add kv.1 kv.2)).foldl (Reg.applyL false) Reg.empty = Reg.run before := by
    funext k
    rw [List.foldl_map]
    refine foldl_put_eq (Reg.run before) order (fun kv hkv => (horder _ _).mp hkv) Reg.empty k fun hex => ?_
    cases hr : Reg.run before k with
    | none => rfl
    | some v => exact absurd ((horder k v).mpr hr) (hex v)
  rw [m1] at h0
  have h1 := listener_refines (later.flatMap emit) h0
  rw [funext (stream_exact later hrep hv2), List.foldl_map] at h1
  exact ⟨_, by unfold Reg.run runLate; rw [List.foldl_append]; exact h1⟩

end GoZero.C13
