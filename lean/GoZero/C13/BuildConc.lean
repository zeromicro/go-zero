/-
C13 — interleaving model of `discovBuilder.Build` (zrpc/resolver/internal/discovbuilder.go) against the watch
goroutine that delivers registry events to the subscriber (core Lean only).

  Build:   sub := NewSubscriber(…)            (before the model starts: `view` is what the subscriber shows)
           sub.AddListener(update)             step `addListener`
           update():  vals := sub.Values()     step `bRead`
                      cc.UpdateState(vals)     step `bPublish`
  watch:   container.OnAdd / OnDelete          step `apply v`   (Values() is `v` from now on), then notifyChange:
           every registered listener runs: update(): Values(), UpdateState   step `wUpdate`

`Order.listenerFirst` is the code (AddListener, then update()); `Order.updateFirst` is the order of the seeded
change C13-5.  `atomic = true`: update() calls are serialised (a mutex around Values() + UpdateState —
fixes/C13-resolver-update-serialized.patch, the code); `atomic = false`: the code before it, the watch goroutine's update() may
run between Build's Values() and Build's UpdateState.  UpdateState calls are ordered by gRPC in the order they are entered.
-/
namespace GoZero.C13.BuildConc

inductive Order where
  | listenerFirst
  | updateFirst
  deriving DecidableEq, Repr

inductive Act where
  | build                 -- the next step of Build's goroutine
  | apply (v : List Nat)  -- the watch goroutine applies an event: Values() is `v` afterwards
  | wUpdate               -- the watch goroutine's pending notification runs update()
  deriving DecidableEq, Repr

structure St where
  view     : List Nat := []            -- what sub.Values() returns
  listener : Bool := false             -- update is registered
  pub      : Option (List Nat) := none -- the last UpdateState
  pc       : Nat := 0                  -- Build: 0,1,2 = the three steps, 3 = returned
  bvals    : List Nat := []            -- Build's update(): the slice it read
  wneeds   : Bool := false             -- a change was applied after which the listener has not run yet
  deriving DecidableEq, Repr

/-- Build's three steps in program order -/
def buildStep (o : Order) (s : St) : St :=
  match o, s.pc with
  | .listenerFirst, 0 => { s with listener := true, pc := 1 }
  | .listenerFirst, 1 => { s with bvals := s.view, pc := 2 }
  | .listenerFirst, 2 => { s with pub := some s.bvals, pc := 3 }
  | .updateFirst, 0 => { s with bvals := s.view, pc := 1 }
  | .updateFirst, 1 => { s with pub := some s.bvals, pc := 2 }
  | .updateFirst, 2 => { s with listener := true, pc := 3 }
  | _, _ => s

/-- Build is between its `Values()` and its `UpdateState` -/
def inUpdate (o : Order) (s : St) : Bool :=
  match o with
  | .listenerFirst => s.pc == 2
  | .updateFirst => s.pc == 1

def step (o : Order) (atomic : Bool) (s : St) : Act → St
  | .build => buildStep o s
  | .apply v => { s with view := v, wneeds := s.wneeds || s.listener }
  | .wUpdate =>
    if s.wneeds && !(atomic && inUpdate o s) then { s with pub := some s.view, wneeds := false } else s

def exec (o : Order) (atomic : Bool) (s : St) (acts : List Act) : St := acts.foldl (step o atomic) s

/-- nothing is in flight: Build returned and every applied change was followed by the listener's update() -/
abbrev Quiescent (s : St) : Prop := s.pc = 3 ∧ s.wneeds = false

end GoZero.C13.BuildConc
