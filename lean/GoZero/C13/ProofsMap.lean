/-
C13 — helper lemmas about the association-list model of Go maps.
-/
import GoZero.C13.Model
namespace GoZero.C13.Map
variable {β : Type}

@[simp] theorem get_nil (k : Nat) : get ([] : Map β) k = none := rfl

theorem get_cons (p : Nat × β) (t : Map β) (k : Nat) :
    get (p :: t) k = if p.1 = k then some p.2 else get t k := rfl

theorem get_erase (m : Map β) (k k' : Nat) :
    (erase m k).get k' = if k' = k then none else m.get k' := by
  induction m with
  | nil => simp [erase]
  | cons p t ih => unfold erase at ih ⊢; grind [get_cons]

theorem get_append_single (m : Map β) (k : Nat) (v : β) (k' : Nat) :
    get (m ++ [(k, v)]) k' = match get m k' with
      | some x => some x
      | none => if k = k' then some v else none := by
  induction m with
  | nil => simp [get_cons]
  | cons p t ih => grind [get_cons]

theorem get_set (m : Map β) (k : Nat) (v : β) (k' : Nat) :
    (set m k v).get k' = if k' = k then some v else m.get k' := by
  rw [set, get_append_single, get_erase]; grind

theorem mem_set (m : Map β) (k : Nat) (v : β) (e : Nat × β) : e ∈ set m k v ↔ (e ∈ m ∧ e.1 ≠ k) ∨ e = (k, v) := by
  simp [set, erase, List.mem_filter]

theorem mem_keys_iff (m : Map β) (k : Nat) : k ∈ keys m ↔ get m k ≠ none := by
  induction m with
  | nil => simp [keys]
  | cons p t ih => unfold keys at ih ⊢; grind [get_cons]

theorem keys_erase (m : Map β) (k : Nat) : keys (erase m k) = (keys m).filter (· ≠ k) := by
  unfold keys erase
  rw [List.filter_map]
  rfl

theorem nodup_keys_filter (m : Map β) (f : Nat × β → Bool) (h : (keys m).Nodup) : (keys (m.filter f)).Nodup :=
  h.sublist (List.filter_sublist.map _)

theorem nodup_keys_erase (m : Map β) (k : Nat) (h : (keys m).Nodup) : (keys (erase m k)).Nodup :=
  nodup_keys_filter m _ h

theorem nodup_keys_set (m : Map β) (k : Nat) (v : β) (h : (keys m).Nodup) : (keys (set m k v)).Nodup := by
  have h2 : k ∉ keys (erase m k) := by rw [mem_keys_iff, get_erase]; simp
  have h1 := nodup_keys_erase m k h
  unfold set keys at *
  rw [List.map_append, List.nodup_append]
  exact ⟨h1, by simp, by grind⟩

theorem mem_iff_get (m : Map β) (h : (keys m).Nodup) (k : Nat) (v : β) :
    (k, v) ∈ m ↔ get m k = some v := by
  induction m with
  | nil => simp
  | cons p t ih =>
    unfold keys at h ih
    grind [get_cons]
end GoZero.C13.Map
