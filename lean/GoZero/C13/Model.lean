/-
C13 — executable model of the service-discovery view (core Lean only).

  core/discov/subscriber.go          container: addKv / doRemoveKey / removeKey / getValues / notifyChange
  core/discov/internal/registry.go   cluster: handleWatchEvents (PUT / DELETE), handleChanges + calculateChanges
  zrpc/resolver/internal/subset.go   subset(values, 32)            (discovbuilder.go: update())
  zrpc/resolver/internal/kube/eventhandler.go   EventHandler OnAdd / OnDelete / OnUpdate / Update

Keys and values are natural numbers (the harness maps them to etcd-style strings).  A Go `map` is an
association list with pairwise distinct keys; Go's iteration order is *not* modelled by the list order:
wherever the real code ranges over a map, the order is an explicit input (observed by the harness) and
the theorems quantify over it.

The model follows the code *with* the two C13 fixes (fixes/C13-*.patch); the pinned behaviour is kept as
`Fix.pinned` so that the defect stays a machine-checked witness (Props.lean).
-/
namespace GoZero.C13

/-- a Go map with `Nat` keys -/
abbrev Map (β : Type) := List (Nat × β)

namespace Map
variable {β : Type}

def get : Map β → Nat → Option β
  | [], _ => none
  | p :: t, k => if p.1 = k then some p.2 else get t k

/-- `delete(m, k)` -/
def erase (m : Map β) (k : Nat) : Map β := m.filter (fun p => p.1 ≠ k)

/-- `m[k] = v` -/
def set (m : Map β) (k : Nat) (v : β) : Map β := erase m k ++ [(k, v)]

def keys (m : Map β) : List Nat := m.map (·.1)

end Map

/-- which of the two repairs are present (`pinned` = the code as it was at the pinned commit) -/
structure Fix where
  /-- `addKv` detaches the key from its previous value first (`c.doRemoveKey(key)`) -/
  detach : Bool
  /-- `calculateChanges` reports a key whose value changed in `add` only -/
  removeGoneOnly : Bool
  deriving DecidableEq, Repr

def Fix.fixed : Fix := ⟨true, true⟩
def Fix.pinned : Fix := ⟨false, false⟩

/-! ### container (core/discov/subscriber.go) -/

structure Container where
  exclusive : Bool
  values    : Map (List Nat) := []     -- value ↦ keys registered with it, in arrival order
  mapping   : Map Nat := []            -- key ↦ value
  dirty     : Bool := true
  snapshot  : List Nat := []
  /-- number of `notifyChange` rounds (each calls every listener once) -/
  notified  : Nat := 0
  deriving Repr, DecidableEq

def Container.new (exclusive : Bool) : Container := { exclusive := exclusive }

/-- `doRemoveKey` -/
def doRemoveKey (c : Container) (key : Nat) : Container :=
  match c.mapping.get key with
  | none => c
  | some server =>
    let remain := ((c.values.get server).getD []).filter (· ≠ key)
    { c with
      mapping := c.mapping.erase key
      values := if remain.isEmpty then c.values.erase server else c.values.set server remain }

/-- `for _, each := range keys { c.doRemoveKey(each) }` in `addKv`.  `keys` is the slice `c.values[value]`
and `doRemoveKey` filters that very backing array in place (`remain := keys[:0]`), so the loop reads cell `i`
of the *current* array `arr`, not of a copy. -/
def exclLoopAux (value : Nat) (c : Container) (arr : List Nat) : List Nat → Container
  | [] => c
  | i :: is =>
    let each := arr.getD i 0
    let arr' :=
      match c.mapping.get each with
      | some server =>
        if server = value then
          let remain := ((c.values.get server).getD []).filter (· ≠ each)
          remain ++ arr.drop remain.length
        else arr
      | none => arr
    exclLoopAux value (doRemoveKey c each) arr' is

def exclLoop (value : Nat) (c : Container) (keys : List Nat) : Container :=
  exclLoopAux value c keys (List.range keys.length)

/-- `addKv` (the returned `previous, early` are unused by the callers and not modelled) -/
def addKv (fx : Fix) (c : Container) (key value : Nat) : Container :=
  let c0 := { c with dirty := true }
  let c1 := if fx.detach then doRemoveKey c0 key else c0
  let keys := (c1.values.get value).getD []
  let c2 := if c1.exclusive && !keys.isEmpty then exclLoop value c1 keys else c1
  { c2 with
    values := c2.values.set value ((c2.values.get value).getD [] ++ [key])
    mapping := c2.mapping.set key value }

/-- `removeKey` -/
def removeKey (c : Container) (key : Nat) : Container :=
  doRemoveKey { c with dirty := true } key

def notifyChange (c : Container) : Container := { c with notified := c.notified + 1 }

/-- `OnAdd` -/
def onAdd (fx : Fix) (c : Container) (kv : Nat × Nat) : Container := notifyChange (addKv fx c kv.1 kv.2)

/-- `OnDelete` (the value carried by the event is ignored by the code) -/
def onDelete (c : Container) (key : Nat) : Container := notifyChange (removeKey c key)

/-- `getValues`: the cached snapshot unless dirty -/
def getValues (c : Container) : Container × List Nat :=
  if !c.dirty then (c, c.snapshot)
  else
    let vals := c.values.keys
    ({ c with snapshot := vals, dirty := false }, vals)

/-- what `Values()` returns now -/
def view (c : Container) : List Nat := (getValues c).2

/-! ### cluster (core/discov/internal/registry.go): one watch key, one listener -/

/-- a listener-level event -/
inductive LEv where
  | add (k v : Nat)
  | del (k : Nat)
  deriving DecidableEq, Repr

def applyL (fx : Fix) (c : Container) : LEv → Container
  | .add k v => onAdd fx c (k, v)
  | .del k => onDelete c k

structure Cluster where
  values : Map Nat := []        -- watchValue.values: the registry's copy of etcd's state for the watch
  cont   : Container
  deriving Repr

/-- `newVals` of `handleChanges`: later entries win -/
def ofKVs (kvs : List (Nat × Nat)) : Map Nat := kvs.foldl (fun m kv => m.set kv.1 kv.2) []

/-- `calculateChanges`, the `add` result as a *set* (the code ranges over `newVals`, a map) -/
def calcAdds (old new : Map Nat) : List (Nat × Nat) := new.filter (fun p => old.get p.1 ≠ some p.2)

/-- `calculateChanges`, the `remove` result as a set (the code ranges over `oldVals`) -/
def calcRemoves (fx : Fix) (old new : Map Nat) : List (Nat × Nat) :=
  if fx.removeGoneOnly then old.filter (fun p => new.get p.1 = none)
  else old.filter (fun p => new.get p.1 ≠ some p.2)

/-- registry-level events.  `reload` = `load` → `handleChanges(kvs)` after a reconnect or a compaction; `adds`
and `rems` are the orders in which Go happened to range over the two maps (inputs, see `ValidEv`). -/
inductive Ev where
  | put (k v : Nat)
  | del (k : Nat)
  | reload (kvs : List (Nat × Nat)) (adds : List (Nat × Nat)) (rems : List Nat)
  deriving Repr

/-- listener events delivered for one registry event: `handleWatchEvents` / `handleChanges` (adds, then removes) -/
def emit : Ev → List LEv
  | .put k v => [.add k v]
  | .del k => [.del k]
  | .reload _ adds rems => adds.map (fun kv => .add kv.1 kv.2) ++ rems.map .del

def stepValues (m : Map Nat) : Ev → Map Nat
  | .put k v => m.set k v
  | .del k => m.erase k
  | .reload kvs _ _ => ofKVs kvs

def step (fx : Fix) (cl : Cluster) (ev : Ev) : Cluster :=
  { values := stepValues cl.values ev, cont := (emit ev).foldl (applyL fx) cl.cont }

def run (fx : Fix) (excl : Bool) (evs : List Ev) : Cluster :=
  evs.foldl (step fx) { cont := Container.new excl }

/-- the iteration orders of a `reload` are orders of what `calculateChanges` computes (as sets; any
order, the theorems do not even need the absence of repetitions) -/
def ValidEv (fx : Fix) (old : Map Nat) : Ev → Prop
  | .reload kvs adds rems =>
    (∀ kv, kv ∈ adds ↔ kv ∈ calcAdds old (ofKVs kvs)) ∧
    (∀ k, k ∈ rems ↔ k ∈ (calcRemoves fx old (ofKVs kvs)).map (·.1))
  | _ => True

/-- every reload of the history carries valid orders (w.r.t. the registry state it meets) -/
def ValidHist (fx : Fix) : Map Nat → List Ev → Prop
  | _, [] => True
  | m, ev :: evs => ValidEv fx m ev ∧ ValidHist fx (stepValues m ev) evs

/-! ### publisher (core/discov/publisher.go) and etcd's lease store -/

/-- the id suffix of the full key, `register`:
`if p.id > 0 { p.fullKey = makeEtcdKey(p.key, p.id) } else { p.fullKey = makeEtcdKey(p.key, int64(lease)) }` -/
def pubKeyId (id lease : Nat) : Nat := if id > 0 then id else lease

structure Pub where
  id      : Nat            -- `WithId` (0: none)
  value   : Nat
  lease   : Nat := 0       -- p.lease (0 = clientv3.NoLease)
  fullKey : Nat := 0       -- the id suffix of p.fullKey
  deriving Repr, DecidableEq

/-- etcd under the service key: id suffix of the full key ↦ (value, lease) -/
abbrev Store := Map (Nat × Nat)

/-- `register` (the lease is what etcd's Grant returned): `Put(p.fullKey, p.value, WithLease(lease))`, `p.lease = lease` -/
def Pub.register (p : Pub) (lease : Nat) : Pub := { p with lease := lease, fullKey := pubKeyId p.id lease }

def storePut (s : Store) (p : Pub) : Store := s.set p.fullKey (p.value, p.lease)

/-- `revoke`: `Revoke(p.lease)` — etcd deletes every key attached to the lease -/
def storeRevoke (s : Store) (lease : Nat) : Store := s.filter (fun e => e.2.2 ≠ lease)

/-- the keys etcd deletes (a DELETE watch event each) -/
def revokedKeys (s : Store) (lease : Nat) : List Nat := (s.filter (fun e => e.2.2 = lease)).map (·.1)

/-- what the watchers of the service key are told -/
def registerEvents (p : Pub) : List Ev := [.put p.fullKey p.value]
def revokeEvents (s : Store) (lease : Nat) : List Ev := (revokedKeys s lease).map .del

/-! ### resolver (zrpc/resolver/internal: discovbuilder.go update(), subset.go) -/

def subsetSize : Nat := 32

/-- `subset(set, sub)`: shuffle, then the first `sub` entries.  `shuffled` is the shuffled slice (observed). -/
def subset (shuffled : List Nat) (sub : Nat) : List Nat :=
  if shuffled.length ≤ sub then shuffled else shuffled.take sub

/-! ### kube EventHandler (zrpc/resolver/internal/kube/eventhandler.go) -/

structure Kube where
  endpoints : List Nat := []            -- the set h.endpoints (no repetitions)
  /-- last list handed to `update` (`none`: never called) -/
  published : Option (List Nat) := none
  updates   : Nat := 0
  deriving Repr, DecidableEq

inductive KEv where
  | add (ips : List Nat)                 -- OnAdd(endpoints)
  | del (ips : List Nat)                 -- OnDelete(endpoints)
  | update (sameVersion : Bool) (ips : List Nat)   -- OnUpdate(old, new): ignored when the resource versions are equal
  | set (ips : List Nat)                 -- Update(endpoints)
  deriving Repr

def Kube.notify (h : Kube) : Kube := { h with published := some h.endpoints, updates := h.updates + 1 }

def insertNew (l : List Nat) (x : Nat) : List Nat := if x ∈ l then l else l ++ [x]

/-- `diff(o, n)`: sizes differ, or some element of `o` is missing from `n` -/
def kdiff (o n : List Nat) : Bool := o.length != n.length || o.any (fun x => !n.contains x)

def Kube.setAll (h : Kube) (ips : List Nat) : Kube :=
  let n := ips.foldl insertNew []
  let h' := { h with endpoints := n }
  if kdiff h.endpoints n then h'.notify else h'

def Kube.step (h : Kube) : KEv → Kube
  | .add ips =>
    let n := ips.foldl insertNew h.endpoints
    let h' := { h with endpoints := n }
    if ips.any (fun x => !h.endpoints.contains x) then h'.notify else h'
  | .del ips =>
    let n := h.endpoints.filter (fun x => !ips.contains x)
    let h' := { h with endpoints := n }
    if ips.any (fun x => h.endpoints.contains x) then h'.notify else h'
  | .update same ips => if same then h else h.setAll ips
  | .set ips => h.setAll ips

end GoZero.C13
