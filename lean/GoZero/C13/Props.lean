/-
C13 — property theorems and non-vacuity examples; the lemmas they rest on are in the Proofs* modules.

Model = core/discov/subscriber.go (container) + core/discov/internal/registry.go (handleWatchEvents,
handleChanges, calculateChanges) *with* fixes/C13-rekeyed-registration.patch; `Fix.pinned` = the code before it.
A history is any list of `put k v` (new key / update in place / replay), `del k`, `reload snapshot` events over any
keys and values; `ValidHist` only says that the two orders carried by a reload are orders of the two sets that
`calculateChanges` computes — i.e. the theorems hold for *every* order in which Go may range over its maps.
-/
import GoZero.C13.ProofsCluster
import GoZero.C13.ProofsExcl
import GoZero.C13.ProofsKube
import GoZero.C13.ProofsMonitor
import GoZero.C13.ProofsConc
import GoZero.C13.ProofsJoin
import GoZero.C13.ProofsPub
import GoZero.C13.ProofsBuild
import GoZero.C13.ProofsMulti
import GoZero.C13.ProofsLife
namespace GoZero.C13
open Spec

/-- the subscriber's key ↦ value table *is* the registry (ordinary subscriber), and so is the cluster's copy -/
theorem mapping_is_registry (evs : List Ev) (hv : ValidHist Fix.fixed [] evs) (k : Nat) :
    (run Fix.fixed false evs).cont.mapping.get k = Reg.run evs k
    ∧ (run Fix.fixed false evs).values.get k = Reg.run evs k :=
  ⟨(run_holds evs hv).mapping k, (run_rep false evs).get k⟩

/-- **C13, main theorem (ordinary subscriber).**  After any history of registry events — keys put, updated in
place to a new value, replayed, deleted, full reload snapshots — and for every order in which Go ranges over
its maps, `Values()` is exactly the set of values of the keys currently registered, each value once. -/
theorem view_equals_registry (evs : List Ev) (hv : ValidHist Fix.fixed [] evs) :
    (∀ v, v ∈ view (run Fix.fixed false evs).cont ↔ (Reg.run evs).Shows v)
    ∧ (view (run Fix.fixed false evs).cont).Nodup :=
  view_shows (run_holds evs hv)

/-- **Exclusive subscriber.**  `Values()` is exactly the set of values of the *counting* registrations (the most
recently registered key of each value), each value once — for every history and every map order.  `Reg.counting` is
the fold of the same listener stream the container consumes; what ties it to the registry is `counting_sound`. -/
theorem exclusive_view_equals_counting (evs : List Ev) :
    (∀ v, v ∈ view (run Fix.fixed true evs).cont ↔ (Reg.counting evs).Shows v)
    ∧ (view (run Fix.fixed true evs).cont).Nodup :=
  view_shows (run_cont true evs)

/-- the counting registrations are live registrations (no address is shown that nobody registers) and at most one
key counts per value; that a key which has just been registered counts is `counting_latest`. -/
theorem counting_sound (evs : List Ev) (hv : ValidHist Fix.fixed [] evs) :
    (∀ k v, Reg.counting evs k = some v → Reg.run evs k = some v)
    ∧ (∀ k₁ k₂ v, Reg.counting evs k₁ = some v → Reg.counting evs k₂ = some v → k₁ = k₂) :=
  -- the ordinary subscriber's registrations after the same listener events are the registry (`stream_exact`)
  ⟨fun k v h => (stream_exact evs .empty hv k).symm.trans
      (List.foldl_rel (r := RSub) (fun _ _ h => h) (fun l _ _ _ h => rsub_applyL h l) k v h),
    rinj_foldl _ _ fun _ _ _ h => nomatch h⟩

theorem counting_latest (evs : List Ev) (k v : Nat) :
    Reg.counting (evs ++ [.put k v]) k = some v := by
  simp [Reg.counting, List.flatMap_append, List.foldl_append, emit, Reg.applyL, Reg.exPut]

/-- exclusive view ⊆ registry values -/
theorem exclusive_view_sound (evs : List Ev) (hv : ValidHist Fix.fixed [] evs) (v : Nat) :
    v ∈ view (run Fix.fixed true evs).cont → (Reg.run evs).Shows v := by
  intro h
  obtain ⟨k, hk⟩ := ((exclusive_view_equals_counting evs).1 v).mp h
  exact ⟨k, (counting_sound evs hv).1 k v hk⟩

/-- **Listeners.**  One notification round per listener-level event (OnAdd / OnDelete): the count of rounds is the
count of events delivered.  That a change of `Values()` notifies is `view_change_is_notified`; that the round comes
after the change is `notified_after_change`. -/
theorem listeners_notified_each_change (excl : Bool) (evs : List Ev) :
    (run Fix.fixed excl evs).cont.notified = (evs.flatMap emit).length := (run_cont excl evs).notified

theorem view_change_is_notified (excl : Bool) (evs : List Ev) (ev : Ev) :
    view (run Fix.fixed excl (evs ++ [ev])).cont ≠ view (run Fix.fixed excl evs).cont →
      (run Fix.fixed excl evs).cont.notified < (run Fix.fixed excl (evs ++ [ev])).cont.notified := by
  intro hne
  rw [listeners_notified_each_change, listeners_notified_each_change, List.flatMap_append, List.length_append]
  have : emit ev ≠ [] := by
    intro he
    apply hne
    simp only [run, List.foldl_append, List.foldl_cons, List.foldl_nil, step, he]
  have : 0 < (emit ev).length := List.length_pos_iff.mpr this
  simpa using this

/-- `OnAdd` / `OnDelete` are the change followed by `notifyChange` (Tie `tie_onAddShape` / `tie_onDeleteShape`), and
`notifyChange` does not alter what `Values()` returns: a resolver reading `Values()` inside its callback reads the state
of `view_equals_registry`.  (The model's `notifyChange` only counts the round; the callbacks themselves are not modelled
here: BuildConc.lean has the resolver's.) -/
theorem notified_after_change (c : Container) (k v : Nat) :
    applyL Fix.fixed c (.add k v) = notifyChange (addKv Fix.fixed c k v)
    ∧ applyL Fix.fixed c (.del k) = notifyChange (removeKey c k)
    ∧ ∀ c', view (notifyChange c') = view c' :=
  ⟨rfl, rfl, fun c' => by cases hd : c'.dirty <;> simp [view, getValues, notifyChange, hd]⟩

/-- **Resolver.**  `subset(values, 32)`: with at most 32 values the resolver publishes all of them; with more,
32 distinct ones of them. -/
theorem resolver_publishes_all_when_small (vals shuffled : List Nat) (hp : shuffled.Perm vals) (hn : vals.Nodup) :
    (vals.length ≤ 32 → ∀ v, v ∈ subset shuffled subsetSize ↔ v ∈ vals)
    ∧ (32 < vals.length → (subset shuffled subsetSize).length = 32)
    ∧ (∀ v, v ∈ subset shuffled subsetSize → v ∈ vals)
    ∧ (subset shuffled subsetSize).Nodup := by
  have hl : shuffled.length = vals.length := hp.length_eq
  have hnd : shuffled.Nodup := hp.nodup_iff.mpr hn
  unfold subset subsetSize
  split
  · exact ⟨fun _ v => hp.mem_iff, fun h => by omega, fun v hv => hp.mem_iff.mp hv, hnd⟩
  · exact ⟨fun h => by omega, fun _ => by rw [List.length_take]; omega,
      fun v hv => hp.mem_iff.mp (List.mem_of_mem_take hv), hnd.sublist (List.take_sublist _ _)⟩

/-- **Kubernetes endpoints handler.**  After any sequence of OnAdd / OnDelete / OnUpdate / Update events the
handler's set is the current address set, and what it last published is that set (nothing published yet only
while the set is still empty). -/
theorem kube_publishes_current (evs : List KEv) :
    let h := evs.foldl Kube.step {}
    (∀ x, x ∈ h.endpoints ↔ x ∈ evs.foldl kubeSet [])
    ∧ (match h.published with
       | none => h.endpoints = []
       | some p => ∀ x, x ∈ p ↔ x ∈ h.endpoints) :=
  have := kinv_foldl evs {} [] ⟨by simp, by simp, by simp⟩
  ⟨this.same, this.pub⟩

/-- the executable registry the driver's monitor evaluates on the implementation's trace (association lists) is
the abstract registry of the theorems above, and its value list is what `Shows` describes. -/
theorem monitor_registry_is_spec (evs : List Ev) :
    (∀ k, (registry evs).get k = Reg.run evs k)
    ∧ (∀ v, v ∈ viewList (registry evs) ↔ (Reg.run evs).Shows v) := by
  -- `Spec.apply` is `stepValues` written out again
  have h : Rep (registry evs) (Reg.run evs) := Rep.empty.foldl evs
  exact ⟨h.get, mem_viewList h⟩

/-- the same for the exclusive subscriber: the association-list copy of the counting registrations that the
monitor evaluates is the function `Reg.counting` of `exclusive_view_equals_counting`. -/
theorem monitor_counting_is_spec (evs : List Ev) :
    (∀ k, (counting evs).get k = Reg.counting evs k)
    ∧ (∀ v, v ∈ viewList (counting evs) ↔ (Reg.counting evs).Shows v) := by
  have h := counting_monitor_refines (evs.flatMap emit) Rep.empty
  exact ⟨h.get, mem_viewList h⟩

/-- **Linearizability of `getValues` w.r.t. `addKv` / `removeKey`**, any number of threads, every schedule.
A read that has returned (`rDone`) returned the value list of the container after the first `idx` events of the
log (the events in the order their mutation was applied under the lock), where `idx` lies between the length of
the log when the read started and its length now — so the list is the exact view at some moment inside the
read, it contains every event that had been applied when the read started (`start ≤ idx`; at least as many as writes
had completed, `startDone ≤ start`), and it is never a snapshot older than that.  The list is the spec's view after
these events.  (That the completed writes are the FIRST `done` entries of the log holds because the lock serialises the
writers; it is not a clause of `Conc.Inv`.) -/
theorem reader_linearizable (excl : Bool) (sched : Conc.Sched) (t : Nat) :
    let s := Conc.exec (Conc.init excl) sched
    s.pc t = .rDone →
      s.startDone t ≤ s.start t ∧ s.start t ≤ s.idx t ∧ s.idx t ≤ s.log.length
      ∧ s.ret t = Conc.keysAt excl s.log (s.idx t)
      ∧ (∀ v, v ∈ s.ret t ↔ ∃ k, ((s.log.take (s.idx t)).foldl (Reg.applyL excl) Reg.empty) k = some v)
      ∧ (s.ret t).Nodup := by
  intro s hp
  have hi : Conc.Inv excl s := Conc.inv_exec excl sched _ (Conc.inv_init excl)
  obtain ⟨h1, h2, h3⟩ := hi.result t hp
  have h4 := hi.startLe t (by rw [hp]; rfl)
  obtain ⟨k1, k2⟩ := Conc.keysAt_spec excl s.log (s.idx t)
  exact ⟨h4.1, h1, h2, h3, by rw [h3]; exact k1, by rw [h3]; exact k2⟩

/-- completed writes are in the log; the lock is exclusive; one step appends at most one event (so every
intermediate length — every linearization point — is passed through). -/
theorem container_lock_discipline (excl : Bool) (sched : Conc.Sched) :
    let s := Conc.exec (Conc.init excl) sched
    s.done ≤ s.log.length
    ∧ (∀ t u, Conc.holds (s.pc t) = true → Conc.holds (s.pc u) = true → t = u)
    ∧ (s.dirty = false → s.snap = Conc.keysAt excl s.log s.log.length)
    ∧ (∀ t ch s', Conc.step s t ch = some s' → s'.log = s.log ∨ ∃ e, s'.log = s.log ++ [e]) := by
  intro s
  have hi : Conc.Inv excl s := Conc.inv_exec excl sched _ (Conc.inv_init excl)
  refine ⟨hi.doneLe, fun t u => Conc.mutex_of_inv excl s hi t u, fun hd => ?_, fun _ _ _ hs => (Conc.step_frame hs).2.1⟩
  rw [hi.snapIs, hi.clean hd]

/-- **A listener that joins an existing watch** (Registry.Monitor replays `getCurrent` to it, in whatever order
Go ranges over the map) shows the registry, and keeps showing it after every later history. -/
theorem late_join_view_equals_registry (before later : List Ev) (order : List (Nat × Nat))
    (hj : ValidJoin (run Fix.fixed false before).values order)
    (hv : ValidHist Fix.fixed (run Fix.fixed false before).values later) :
    (∀ v, v ∈ view (runLate false order later) ↔ (Reg.run (before ++ later)).Shows v)
    ∧ (view (runLate false order later)).Nodup :=
  (late_join_holds before later order hj hv).elim fun _ h => view_shows h

/-- **Events lost while a watch is re-established are repaired by the reload.**  Whatever the subscriber was
told before (`seen`: any valid history — events may have been lost, so it need not be the truth), once a reload
(cluster.reload after a connection-state change, or the compaction path) delivers a snapshot that is the true
registry (`Reg.ofSnapshot kvs = Reg.run truth`), the view is the true registry, also after every later history. -/
theorem reload_repairs_lost_events (truth seen later : List Ev) (kvs adds : List (Nat × Nat)) (rems : List Nat)
    (hsnap : Reg.ofSnapshot kvs = Reg.run truth)
    (hv : ValidHist Fix.fixed [] (seen ++ [.reload kvs adds rems] ++ later)) :
    ∀ v, v ∈ view (run Fix.fixed false (seen ++ [.reload kvs adds rems] ++ later)).cont
      ↔ (Reg.run (truth ++ later)).Shows v := by
  intro v
  rw [(view_equals_registry _ hv).1 v]
  have : Reg.run (seen ++ [.reload kvs adds rems] ++ later) = Reg.run (truth ++ later) := by
    unfold Reg.run
    rw [List.foldl_append, List.foldl_append, List.foldl_append]
    simp only [List.foldl_cons, List.foldl_nil, Reg.apply]
    rw [hsnap]; rfl
  rw [this]

/-- **Joining while a watch response is being handled** (interleaving model ConcJoin, code with
fixes/C13-registry-join-and-reload.patch): under every schedule of the watch goroutine and any number of joining
goroutines, whenever no watch response is in the middle of a delivery every joined listener holds exactly the
registry's copy `watcher.values`. -/
theorem late_join_atomic (acts : List ConcJoin.Act) (l : Nat) :
    let s := ConcJoin.exec true {} acts
    s.jpc l = .joined → (∀ e, s.wpc ≠ .deliver e) → s.view l = s.values := by
  intro s
  exact (ConcJoin.inv_exec acts _ ConcJoin.inv_init).sync l

/-- **Which key a publisher puts.**  `register` with the lease etcd granted: the full key is the service key with
the id suffix `p.id` when an id was given (`WithId`, `p.id > 0`), else the lease; the value is put under that key,
attached to that lease, every other key of the store is untouched, and the watchers are told exactly this PUT. -/
theorem publisher_registers_key_with_id_suffix (p : Pub) (lease : Nat) (s : Store) :
    let p' := p.register lease
    (p'.fullKey = if p.id > 0 then p.id else lease) ∧ p'.lease = lease ∧ p'.value = p.value ∧ p'.id = p.id
    ∧ (storePut s p').get p'.fullKey = some (p.value, lease)
    ∧ (∀ k, k ≠ p'.fullKey → (storePut s p').get k = s.get k)
    ∧ registerEvents p' = [.put p'.fullKey p.value] := by
  refine ⟨rfl, rfl, rfl, rfl, ?_, fun k hk => ?_, rfl⟩
  · simp [storePut, Map.get_set, Pub.register]
  · simp [storePut, Map.get_set, hk]

/-- **A registration is seen** (call site → etcd → handleWatchEvents → container → Values()): after any history of
registry events, once a publisher has registered, an ordinary subscriber's `Values()` contains the publisher's
value, and the registry holds it under the publisher's full key. -/
theorem published_value_is_seen (evs : List Ev) (hv : ValidHist Fix.fixed [] evs) (p : Pub) (lease : Nat) :
    let p' := p.register lease
    p.value ∈ view (run Fix.fixed false (evs ++ registerEvents p')).cont
    ∧ Reg.run (evs ++ registerEvents p') p'.fullKey = some p.value := by
  intro p'
  have hr : Reg.run (evs ++ registerEvents p') p'.fullKey = some p.value := by rw [regrun_register, if_pos rfl]; rfl
  exact ⟨((view_equals_registry _ (validHist_register evs hv p')).1 p.value).mpr ⟨_, hr⟩, hr⟩

/-- **Revocation** (`Pause`, `Stop`, a closed keep-alive channel): etcd deletes exactly the keys attached to the
lease, one DELETE event each, and keeps every other key. -/
theorem revoke_deletes_exactly_the_lease (s : Store) (lease : Nat) :
    (∀ e, e ∈ storeRevoke s lease ↔ e ∈ s ∧ e.2.2 ≠ lease)
    ∧ (∀ k, k ∈ revokedKeys s lease ↔ ∃ v, (k, (v, lease)) ∈ s)
    ∧ revokeEvents s lease = (revokedKeys s lease).map .del :=
  ⟨mem_storeRevoke s lease, mem_revokedKeys s lease, rfl⟩

/-- **A revocation is seen**: after the DELETE events of the revoked keys an ordinary subscriber shows a value
exactly when a key that was not revoked still carries it (so the value of a publisher that stopped disappears
unless another live publisher registered the same value). -/
theorem revoked_value_disappears (evs : List Ev) (hv : ValidHist Fix.fixed [] evs) (ks : List Nat) (v : Nat) :
    v ∈ view (run Fix.fixed false (evs ++ ks.map .del)).cont ↔ ∃ k, k ∉ ks ∧ Reg.run evs k = some v := by
  rw [(view_equals_registry _ ((validHist_append_dels _ evs ks []).mpr hv)).1 v]
  simp only [Reg.Shows, regrun_append_dels]
  grind

/-
The full-history statement for ONE publisher is `publisher_full_history` below (every operation sequence, every
etcd call free to fail).  What is not a theorem: several publishers at once (pairwise distinct fixed ids that differ
from every lease) together with the subscriber's view over the whole history — the harness checks it on the real code as
`view-differs-from-live-publishers`.  `publisher_cycle_partial` composes one registration / one revocation after an arbitrary
history with `view_equals_registry`.
-/
theorem publisher_cycle_partial (evs : List Ev) (hv : ValidHist Fix.fixed [] evs) (p : Pub) (lease : Nat)
    (hother : ∀ k, Reg.run evs k ≠ some p.value) :
    let p' := p.register lease
    p.value ∈ view (run Fix.fixed false (evs ++ registerEvents p')).cont
    ∧ p.value ∉ view (run Fix.fixed false ((evs ++ registerEvents p') ++ [p'.fullKey].map .del)).cont := by
  intro p'
  refine ⟨(published_value_is_seen evs hv p lease).1, fun h => ?_⟩
  obtain ⟨k, hk, hr⟩ := (revoked_value_disappears _ (validHist_register evs hv p') [p'.fullKey] p.value).mp h
  rw [regrun_register, if_neg (by simpa using hk)] at hr
  exact hother k hr

/-- **The whole life of a publisher.**  For EVERY
sequence of KeepAlive / Pause / Resume / Stop / loss of the keep-alive stream / lease expiry, with every etcd call of
every attempt free to fail (Grant, Put, KeepAlive, Revoke; any number of failed attempts inside doKeepAlive), and
leases granted once each:
* whenever the publisher runs (registered, not paused, not stopped) etcd holds its value under its full key
  `<key>/<id or lease>`, attached to its CURRENT lease;
* at quiescence — once the leases nobody renews have expired — etcd holds a key of the publisher IF AND ONLY IF it
  runs, and then exactly that one key, value and lease (nothing a failed KeepAlive / Revoke left behind survives). -/
theorem publisher_full_history (id v next : Nat) (ops : List POp) :
    let st := PLife.run { pub := { id := id, value := v }, next := next } ops
    (st.running = true → st.store.get st.pub.fullKey = some (v, st.pub.lease) ∧ st.pub.fullKey = pubKeyId id st.pub.lease)
    ∧ (∀ k x l, (st.step .expire).store.get k = some (x, l)
        ↔ st.running = true ∧ k = st.pub.fullKey ∧ x = v ∧ l = st.pub.lease) := by
  intro st
  have h0 : PInv id v { pub := { id := id, value := v }, next := next } :=
    ⟨by simp [Map.keys], by simp, ⟨rfl, rfl⟩, by simp⟩
  have h : PInv id v st := run_inv id v ops _ h0
  have h' : PInv id v (st.step .expire) := step_inv id v st .expire h
  refine ⟨fun hr => ?_, fun k x l => ?_⟩
  · obtain ⟨b, c, _⟩ := h.live hr
    refine ⟨?_, b⟩
    have := (Map.mem_iff_get _ h.nodup st.pub.fullKey (st.pub.value, st.pub.lease)).mp c
    rw [h.idv.2] at this
    exact this
  · have hs : (st.step .expire).store = storeExpire st.store (if st.running then [st.pub.lease] else []) := rfl
    rw [← Map.mem_iff_get _ h'.nodup, hs, storeExpire, List.mem_filter]
    cases hr : st.running with
    | false => simp
    | true =>
      obtain ⟨_, c, d⟩ := h.live hr
      simp only [Pub.entry, h.idv.2] at c d
      constructor
      · rintro ⟨hm1, hm2⟩
        simpa using d _ hm1 (by simpa using hm2)
      · rintro ⟨_, rfl, rfl, rfl⟩
        exact ⟨c, by simp⟩

/-- **The resolver publishes the subscriber's addresses at quiescence** — for the code's order (AddListener, then the
first update()) with serialised update() calls, under every schedule of Build's steps, event deliveries and listener
runs: once Build has returned and every delivered change was followed by the listener's update(), the last
`UpdateState` carried exactly what `Values()` returns. -/
theorem build_publishes_view_at_quiescence (v0 : List Nat) (acts : List BuildConc.Act) :
    let s := BuildConc.exec .listenerFirst true { view := v0 } acts
    BuildConc.Quiescent s → s.pub = some s.view := by
  intro s hq
  have hi : BuildConc.Inv s := BuildConc.inv_exec acts _ ⟨by simp, by simp, by simp⟩
  rcases hi.2.2 hq.1 with h | h
  · exact h
  · rw [hq.2] at h; cases h

/-- what the resolver published is what the registry holds (composition with `view_equals_registry`): if the
subscriber's `Values()` is the value list of the history's registry (a hypothesis here), the last UpdateState at
quiescence carries it.  `subset` is not part of this statement: see `resolver_publishes_all_when_small`. -/
theorem build_publishes_registry_at_quiescence (evs : List Ev) (hv : ValidHist Fix.fixed [] evs) (v0 : List Nat)
    (acts : List BuildConc.Act) :
    let s := BuildConc.exec .listenerFirst true { view := v0 } acts
    BuildConc.Quiescent s → s.view = view (run Fix.fixed false evs).cont →
      ∃ p, s.pub = some p ∧ ∀ v, v ∈ p ↔ (Reg.run evs).Shows v := by
  intro s hq hview
  refine ⟨s.view, build_publishes_view_at_quiescence v0 acts hq, fun v => ?_⟩
  rw [hview]
  exact (view_equals_registry evs hv).1 v

/-- **Witness (order of the seeded change C13-5: first update(), then AddListener).**  An event applied between
Build's UpdateState and AddListener reaches no listener: at quiescence the resolver still publishes the empty
list while Values() is [7]. -/
theorem update_before_listener_loses_event :
    let s := BuildConc.exec .updateFirst true {} [.build, .build, .apply [7], .build]
    BuildConc.Quiescent s ∧ s.pub = some [] ∧ s.view = [7] := by decide

/-- **Defect witness (update() not serialised: the code before fixes/C13-resolver-update-serialized.patch).**  Build's update() has read `Values()` = [];
the watch goroutine applies an event ([7]), runs the listener — update() reads [7] and publishes it — and only then
Build's `UpdateState([])` is entered: at quiescence the resolver publishes [] while Values() is [7], until the next
registry event.  With serialised update() calls the same schedule ends with [7] published. -/
theorem unserialized_update_publishes_stale :
    (let s := BuildConc.exec .listenerFirst false {} [.build, .build, .apply [7], .wUpdate, .build]
     BuildConc.Quiescent s ∧ s.pub = some [] ∧ s.view = [7])
    ∧ (let s := BuildConc.exec .listenerFirst true {} [.build, .build, .apply [7], .wUpdate, .build, .wUpdate]
       BuildConc.Quiescent s ∧ s.pub = some [7] ∧ s.view = [7]) := by decide

/-- `k` registered with `v1`, then updated in place to `v2`: the pinned `addKv` still shows `v1`. -/
theorem pinned_update_in_place_keeps_old_value :
    canonSet (view (run Fix.pinned false [.put 1 1, .put 1 2]).cont) = [1, 2]
    ∧ viewList (registry [.put 1 1, .put 1 2]) = [2] := by decide

/-- a reload in which `k` changed its value: pinned `calculateChanges` reports `(k, v2)` as added and `(k, v1)`
as removed, `handleChanges` applies the removal last, and the view loses `k`'s new value as well
(view `[1]`, registry `{1 ↦ 2}`). -/
theorem pinned_reload_drops_changed_key :
    ValidHist Fix.pinned [] [.reload [(1, 1)] [(1, 1)] [], .reload [(1, 2)] [(1, 2)] [1]]
    ∧ canonSet (view (run Fix.pinned false [.reload [(1, 1)] [(1, 1)] [], .reload [(1, 2)] [(1, 2)] [1]]).cont) = [1]
    ∧ viewList (registry [.reload [(1, 1)] [(1, 1)] [], .reload [(1, 2)] [(1, 2)] [1]]) = [2] := by
  refine ⟨?_, by decide, by decide⟩
  simp only [ValidHist, ValidEv, and_true]
  refine ⟨⟨?_, ?_⟩, ⟨?_, ?_⟩⟩ <;> intro x <;> simp [calcAdds, calcRemoves, ofKVs, Map.set, Map.erase, Map.get, Fix.pinned, stepValues]

/-- with only the `addKv` half of the fix the reload still loses the key: both halves are needed. -/
theorem half_fix_is_not_enough :
    canonSet (view (run ⟨true, false⟩ false [.reload [(1, 1)] [(1, 1)] [], .reload [(1, 2)] [(1, 2)] [1]]).cont) = [] := by
  decide

/-- **Defect (late join).**  Without the notifyLock (`fx = false`, the code before
fixes/C13-registry-join-and-reload.patch): key 1 is registered with value 5; the response [put 0 ↦ 7, delete 1] is being
handled (listeners copied, first event applied and delivered) when listener 9 joins: it is told {0 ↦ 7, 1 ↦ 5};
the delete of key 1 is then delivered to the copied listeners only.  Listener 9 shows value 5 for ever, the
registry does not hold it.  Replayed on the real code by the `joinmid` operation of the harness. -/
theorem pinned_late_join_loses_event :
    let s := ConcJoin.exec false {}
      [.watch [.add 1 5], .watch [], .watch [], .watch [], .watch [],            -- key 1 ↦ 5 handled completely
       .watch [.add 0 7, .del 1], .watch [], .watch [], .watch [],               -- copy; put 0 applied and delivered
       .join 9, .join 9, .join 9, .join 9,                                       -- listener 9 joins
       .watch [], .watch [], .watch []]                                          -- delete 1 applied and delivered
    s.wpc = .idle ∧ s.jpc 9 = .joined ∧ s.view 9 1 = some 5 ∧ s.values 1 = none ∧ s.values 0 = some 7 := by
  decide

/-- the same schedule with the fix: the joiner waits for the response to be finished -/
example :
    let s := ConcJoin.exec true {}
      [.watch [.add 1 5], .watch [], .watch [], .watch [], .watch [],
       .watch [.add 0 7, .del 1], .watch [], .watch [], .watch [],
       .join 9, .join 9, .join 9, .join 9,
       .watch [], .watch [], .watch [], .join 9, .join 9, .join 9, .join 9]
    s.jpc 9 = .joined ∧ s.view 9 1 = none ∧ s.view 9 0 = some 7 := by decide

/-- **Defect (shared snapshot shuffled in place; repaired by fixes/C13-subset-copies-snapshot.patch).**  `subset`
shuffled the slice `Values()` returned — the cached snapshot that every other caller of `Values()` gets as well.  A reader that has read the first cell of
[10, 20, 30] when the shuffle swaps cells 0 and 2 reads [10, 20, 10]: value 30 is missing, 10 is there twice;
two goroutines swapping at the same time (Build's first update() and the watch goroutine's) leave [30, 10, 10]
in the cache: value 20 is lost for every later reader until the next registry event. -/
theorem shared_snapshot_shuffle_corrupts :
    Conc.readAcrossSwap [10, 20, 30] 1 0 2 = [10, 20, 10]
    ∧ Conc.racingSwaps [10, 20, 30] 0 1 0 2 = [30, 10, 10] := by decide

/-- the start state of a cluster whose keys are all watched by ordinary (`excl s = false`) / exclusive subscribers -/
def MState.start (excl : Nat → Bool) : MState := fun s => { cont := Container.new (excl s) }

/-- **Several watched keys, one cluster.**  For every history of watch responses / compaction reloads on any of the
keys and reconnects (`cluster.reload`: every watched key is loaded again, in any order), every ordinary subscriber shows
exactly the registry of ITS key — the registry that the key's own events and the reconnect snapshots of its key
describe; what happens to the other keys has no influence. -/
theorem multi_view_equals_registry (excl : Nat → Bool) (evs : List MEv) (s : Nat) (hm : MValid evs) (hs : excl s = false)
    (hv : ValidHist Fix.fixed [] (proj s evs)) :
    (∀ v, v ∈ view (mrun Fix.fixed true (MState.start excl) evs s).cont ↔ (Reg.run (proj s evs)).Shows v)
    ∧ (view (mrun Fix.fixed true (MState.start excl) evs s).cont).Nodup := by
  rw [mrun_fresh _ false evs s hm (by simp [MState.start, hs])]
  exact view_equals_registry _ hv

/-- the same for an exclusive subscriber on one of the keys -/
theorem multi_exclusive_view_equals_counting (excl : Nat → Bool) (evs : List MEv) (s : Nat) (hm : MValid evs) (hs : excl s = true) :
    ∀ v, v ∈ view (mrun Fix.fixed true (MState.start excl) evs s).cont ↔ (Reg.counting (proj s evs)).Shows v := by
  rw [mrun_fresh _ true evs s hm (by simp [MState.start, hs])]
  exact (exclusive_view_equals_counting _).1

/-- **Witness (the loop of seeded C13-8: the closure uses the shared range variable).**  Keys 0 and 1 are watched;
key 0 holds 1 ↦ 5, key 1 holds 2 ↦ 6.  While the connection is down key 0's registration disappears.  After the
reconnect only the last key of the list is loaded: key 0's subscriber still shows 5, its registry is empty. -/
theorem shared_loop_variable_reloads_only_the_last_key :
    let snap : Nat → Ev := fun k => if k = 0 then .reload [] [] [1] else .reload [(2, 6)] [] []
    let evs : List MEv := [.on 0 (.put 1 5), .on 1 (.put 2 6), .reconnect [0, 1] snap]
    view (mrun Fix.fixed false (MState.start fun _ => false) evs 0).cont = [5]
    ∧ viewList (registry (proj 0 evs)) = []
    ∧ view (mrun Fix.fixed true (MState.start fun _ => false) evs 0).cont = [] := by decide

/-- **Re-registration is retried until it succeeds** (doKeepAlive: `break` leaves the `select`, the ticker loop goes on —
Tie `tie_doKeepAliveRetries`).  Whatever attempts fail first (Grant, Put or KeepAlive errors, any number, any mix), at
the first successful attempt the publisher is registered again under the lease of THAT attempt, a keep-alive
goroutine runs again, etcd holds its value under its full key, and an ordinary subscriber shows the value. -/
theorem reregistration_retries_until_success (p : Pub) (s : Store) (fails rest : List Attempt) (l : Nat)
    (hf : ∀ a, a ∈ fails → a.isOk = false) (evs : List Ev) (hv : ValidHist Fix.fixed [] evs) :
    let r := doKeepAlive true p s (fails ++ .ok l :: rest)
    r.2.2 = true ∧ r.1.lease = l ∧ r.1.fullKey = pubKeyId p.id l ∧ r.1.value = p.value
    ∧ r.2.1.get r.1.fullKey = some (p.value, l)
    ∧ p.value ∈ view (run Fix.fixed false (evs ++ registerEvents r.1)).cont := by
  obtain ⟨p0, s0, h, hid, hval⟩ := doKeepAlive_fails_then_ok p s fails l rest hf
  intro r
  have hr : r = (p0.register l, storePut s0 (p0.register l), true) := h
  have hseen := (published_value_is_seen evs hv p0 l).1
  rw [hr]
  refine ⟨rfl, rfl, ?_, ?_, ?_, ?_⟩
  · simp [Pub.register, hid]
  · simp [Pub.register, hval]
  · simp [storePut, Map.get_set, Pub.register, hval]
  · rw [← hval]; exact hseen

/-- the attempt list the driver builds for armed faults always ends in a registration -/
theorem armed_faults_end_registered (p : Pub) (s : Store) (fg fp fk next : Nat) :
    (doKeepAlive true p s (attemptsFor fg fp fk next)).2.2 = true
    ∧ (doKeepAlive true p s (attemptsFor fg fp fk next)).1.lease = next + fp + fk := by
  have hf : ∀ a, a ∈ List.replicate fg Attempt.grantErr ++ (List.range fp).map (fun i => Attempt.putErr (next + i))
      ++ (List.range fk).map (fun i => Attempt.kaErr (next + fp + i)) → a.isOk = false := by
    intro a ha
    simp only [List.mem_append, List.mem_replicate, List.mem_map] at ha
    rcases ha with (⟨_, rfl⟩ | ⟨_, _, rfl⟩) | ⟨_, _, rfl⟩ <;> rfl
  have := reregistration_retries_until_success p s _ [] (next + fp + fk) hf [] trivial
  unfold attemptsFor
  exact ⟨this.1, this.2.1⟩

/-- **Witness (the loop of seeded C13-7: `break` leaves the `for`).**  One failed attempt ends the loop: the publisher
stays unregistered although the next attempt would have succeeded. -/
theorem single_failure_ends_a_loop_without_retry :
    (doKeepAlive false { id := 3, value := 40 } [] [.grantErr, .ok 105]).2.2 = false
    ∧ (doKeepAlive false { id := 3, value := 40 } [] [.grantErr, .ok 105]).2.1 = []
    ∧ (doKeepAlive true { id := 3, value := 40 } [] [.grantErr, .ok 105]).2.1 = [(3, (40, 105))] := by decide

/-- what the failed attempts leave behind: a KeepAlive error leaves the key of that attempt in etcd (nobody renews
it: it lives until the lease's TTL), Grant and Put errors leave nothing; that `storeExpire` with the live leases
removes exactly these orphans is the second half of `publisher_full_history` -/
theorem failed_attempt_effects (p : Pub) (s : Store) (l : Nat) :
    (p.attempt s .grantErr).2 = s ∧ (p.attempt s (.putErr l)).2 = s
    ∧ (p.attempt s (.kaErr l)).2 = storePut s (p.register l)
    ∧ (p.attempt s .grantErr).1.lease = 0 ∧ (p.attempt s (.putErr l)).1.lease = l := ⟨rfl, rfl, rfl, rfl, rfl⟩

/-- **Closing one subscriber leaves the others alone.**  When listener `i` is unmonitored (Subscriber.Close), every
other listener `j` of the same watcher holds, after any later deliveries, exactly the container it would hold had `i`
stayed — hence the same `Values()`. -/
theorem unmonitor_leaves_the_others_unchanged (ls : Listeners) (i j : Nat) (h : j ≠ i) (evs : List LEv) :
    ((ls.unmonitor i).deliver Fix.fixed evs).get j = (ls.deliver Fix.fixed evs).get j
    ∧ ((ls.unmonitor i).deliver Fix.fixed evs).get i = none := by
  simp only [Listeners.get_deliver, Listeners.get_unmonitor, if_neg h, if_pos, Option.map_none, and_self]

/-- **A reopened key shows the registry.**  After the last listener left, the watcher is deleted; a new subscriber on
the key starts from a fresh container (whatever the cluster held for the key before, and whatever the other keys
hold): after its first load and any later history of the cluster it shows the registry of its key. -/
theorem reopened_key_shows_registry (m : MState) (evs : List MEv) (s : Nat) (hm : MValid evs)
    (hv : ValidHist Fix.fixed [] (proj s evs)) :
    ∀ v, v ∈ view (mrun Fix.fixed true (upd m s { cont := Container.new false }) evs s).cont
      ↔ (Reg.run (proj s evs)).Shows v := by
  rw [mrun_fresh _ false evs s hm (by simp [upd])]
  exact (view_equals_registry _ hv).1

/-- **`load` installs the snapshot of the first successful Get** (the `break` leaves the retry loop only after a Get
without error: Tie `tie_loadRetries`; the cool-down sleeps in between), however many Gets fail first — and the
subscriber then shows that snapshot's registry.  Witness: a loop that ends at the first error installs nothing. -/
theorem load_installs_the_first_successful_snapshot (fails rest : List (Option (List (Nat × Nat))))
    (kvs adds : List (Nat × Nat)) (rems : List Nat) (hf : ∀ r ∈ fails, r = none)
    (hv : ValidHist Fix.fixed [] [.reload kvs adds rems]) :
    loadLoop (fails ++ some kvs :: rest) = some kvs
    ∧ (∀ v, v ∈ view (run Fix.fixed false [.reload kvs adds rems]).cont ↔ (Reg.ofSnapshot kvs).Shows v)
    ∧ loadLoopNoRetry (none :: some kvs :: rest) = none := by
  refine ⟨loadLoop_installs_first_success fails kvs rest hf, fun v => ?_, rfl⟩
  rw [(view_equals_registry _ hv).1 v]
  rfl

/-- **Watch revisions.**  After a load that returned revision `rev` (the log's length at that moment) the watch asks
for `rev + 1` (`watchFrom`: Tie `tie_watchArgs`): it is told exactly the events after the snapshot — none twice, none
skipped.  Witnesses for the two off-by-one variants: `WithRev(rev)` replays the last event of the snapshot again,
`WithRev(rev + 2)` skips the first event after it. -/
theorem watch_resumes_right_after_the_snapshot (before after : List Ev) (h : before ≠ []) :
    replayFrom (before ++ after) (watchFrom before.length) = after
    ∧ replayFrom ([Ev.put 1 5] ++ [Ev.del 1]) 1 = [.put 1 5, .del 1]
    ∧ replayFrom ([Ev.put 1 5] ++ [Ev.del 1, .put 2 6]) 3 = [.put 2 6] := by
  refine ⟨?_, rfl, rfl⟩
  have hl : before.length ≠ 0 := by simpa using h
  simp [replayFrom, watchFrom, hl]

/-- **Every attempt of `load` has a deadline of its own** (Tie `tie_loadFreshDeadline`: the WithTimeout call and its
cancel are inside the retry loop).  However long the earlier Gets hung and however much time the loop has spent, the
first Get that etcd answers within RequestTimeout installs its snapshot (`loadCtx`; the retry loop without time is
`loadLoop`, `load_installs_the_first_successful_snapshot`).  Witness (one deadline for the whole loop, seeded C13-9): after a first Get that timed out every later
attempt fails at once, although etcd would answer immediately. -/
theorem load_gives_every_attempt_a_fresh_deadline (timeout cool elapsed : Nat) (slow rest : List GetTry) (g : GetTry)
    (hs : ∀ x ∈ slow, timeout < x.dur) (hg : g.dur ≤ timeout) :
    loadCtx true timeout cool elapsed (slow ++ g :: rest) = some g.kvs
    ∧ loadCtx false 3 1 0 [⟨5, [(1, 1)]⟩, ⟨0, [(1, 2)]⟩, ⟨0, [(1, 2)]⟩, ⟨0, [(1, 2)]⟩] = none
    ∧ loadCtx true 3 1 0 [⟨5, [(1, 1)]⟩, ⟨0, [(1, 2)]⟩] = some [(1, 2)] := by
  refine ⟨?_, by decide, by decide⟩
  induction slow generalizing elapsed with
  | nil => simp [loadCtx, hg]
  | cons x t ih =>
    have hx : ¬ (x.dur ≤ timeout) := Nat.not_le.mpr (hs x (by simp))
    simp only [List.cons_append, loadCtx, if_true, Nat.zero_add, hx, if_false]
    exact ih _ (fun y hy => hs y (by simp [hy]))

/-- **Closing a subscriber during a delivery changes nothing for the others.**  The delivery loops range over a
snapshot of the listener list taken at the start of the response (Tie `tie_deliveryListenersAreCopies`); in the model
that is `calledForEvent true ls j i = ls` by definition, whatever `i` and `j`, so the first conjunct only says that a
duplicate-free snapshot calls every listener once (with `unmonitor_leaves_the_others_unchanged`: and leaves it the
container it would hold had nobody closed).  Witness (seeded C13-10: the loop ranges over the watcher's own array): with
listeners [1, 2, 3], listener 1 closing itself makes the loop skip 2 and call 3 twice. -/
theorem close_during_delivery_leaves_the_others_notified_once (ls : List Nat) (hn : ls.Nodup) (j i x : Nat) (hx : x ∈ ls) :
    (calledForEvent true ls j i).count x = 1
    ∧ calledForEvent false [1, 2, 3] 0 0 = [1, 3, 3]
    ∧ calledForEvent false [1, 2, 3, 4] 2 1 = [1, 2, 3, 4]
    ∧ calledForEvent false [1, 2, 3, 4] 1 1 = [1, 2, 4, 4] := by
  refine ⟨?_, by decide, by decide, by decide⟩
  simp only [calledForEvent, if_true]
  rw [hn.count, if_pos hx]

/-- a valid history with update in place, a shared value, a replayed put, and a reload that changes one key,
drops one and adds one (adds delivered in the "unlucky" order) -/
def sampleHist : List Ev :=
  [.put 1 10, .put 2 10, .put 1 20, .put 1 20, .del 7,
   .reload [(1, 30), (3, 10)] [(3, 10), (1, 30)] [2]]

example : ValidHist Fix.fixed [] sampleHist := by
  simp only [sampleHist, ValidHist, ValidEv, and_true, true_and]
  constructor <;> intro x <;>
    simp [calcAdds, calcRemoves, ofKVs, Map.set, Map.erase, Map.get, Fix.fixed, stepValues]
  exact Or.comm

example : canonSet (view (run Fix.fixed false sampleHist).cont) = [10, 30] := by decide
example : canonSet (view (run Fix.pinned false sampleHist).cont) ≠ [10, 30] := by decide
example : canonSet (view (run Fix.fixed true sampleHist).cont) = [10, 30] := by decide

/-- exclusive: the displaced key's deletion does not remove the value; the counting key's deletion does, although
the displaced key is still registered -/
example : canonSet (view (run Fix.fixed true [.put 1 10, .put 2 10, .del 1]).cont) = [10] := by decide
example : canonSet (view (run Fix.fixed true [.put 1 10, .put 2 10, .del 2]).cont) = [] := by decide

example : (subset (List.range 40) subsetSize).length = 32 := by decide

example : (([.add [1, 2], .update false [2, 3], .del [3], .update true [9]] : List KEv).foldl Kube.step {}).published
    = some [2] := by decide

/-- concurrency, non-vacuity: thread 0 registers key 1 ↦ 10 completely; thread 1 starts a read (dirty: slow
path) and is overtaken by thread 2's write of 2 ↦ 20 before it takes the lock; thread 3 reads on the fast path -/
def sampleSched : Conc.Sched :=
  [(0, .write (.add 1 10)), (0, .read), (0, .read), (0, .read), (0, .read),
   (1, .read), (1, .read),
   (2, .write (.add 2 20)), (2, .read), (2, .read), (2, .read), (2, .read),
   (1, .read), (1, .read), (1, .read), (1, .read), (1, .read),
   (3, .read), (3, .read), (3, .read)]

example : let s := Conc.exec (Conc.init false) sampleSched
    s.pc 1 = .rDone ∧ s.start 1 = 1 ∧ s.idx 1 = 2 ∧ s.ret 1 = [10, 20]
    ∧ s.pc 3 = .rDone ∧ s.start 3 = 2 ∧ s.idx 3 = 2 ∧ s.ret 3 = [10, 20] ∧ s.dirty = false := by decide

/-- late join, non-vacuity: after `sampleHist` the registry is {1 ↦ 30, 3 ↦ 10}; a listener joins (replay in the
order 3, 1), then key 3 moves to value 30 and key 1 is deleted -/
example : ValidJoin (run Fix.fixed false sampleHist).values [(3, 10), (1, 30)] := by
  intro kv; simp [sampleHist, run, step, stepValues, ofKVs, Map.set, Map.erase]
  exact Or.comm

example : canonSet (view (runLate false [(3, 10), (1, 30)] [.put 3 30, .del 1])) = [30] := by decide

/-- publisher, non-vacuity: a publisher without id (lease 105) and one with id 6 register after `sampleHist`; the first
is paused (its lease is revoked) -/
example : (({ id := 0, value := 40 } : Pub).register 105).fullKey = 105
    ∧ (({ id := 6, value := 40 } : Pub).register 105).fullKey = 6 := by decide

example : canonSet (view (run Fix.fixed false (sampleHist ++ registerEvents (({ id := 0, value := 40 } : Pub).register 105))).cont)
    = [10, 30, 40] := by decide

example : revokedKeys [(6, (40, 104)), (105, (40, 105)), (8, (20, 106))] 105 = [105]
    ∧ storeRevoke [(6, (40, 104)), (105, (40, 105)), (8, (20, 106))] 105 = [(6, (40, 104)), (8, (20, 106))] := by decide

example : Reg.run sampleHist (({ id := 0, value := 40 } : Pub).register 105).fullKey = none := by decide

/-- Build, non-vacuity: a quiescent run with two events, one of them during Build's update() -/
example : let s := BuildConc.exec .listenerFirst true { view := [1] } [.apply [1, 2], .build, .build, .apply [2], .build, .wUpdate]
    BuildConc.Quiescent s ∧ s.pub = some [2] := by decide

/-- several keys, non-vacuity: a valid history over keys 0 and 1 with a reconnect that loads both -/
example : MValid [.on 0 (.put 1 5), .on 1 (.put 2 6), .reconnect [1, 0] (fun k => if k = 0 then .reload [] [] [1] else .reload [(2, 6)] [] [])] := by
  simp [MValid]

example : proj 0 [.on 0 (.put 1 5), .on 1 (.put 2 6), .reconnect [1, 0] (fun k => if k = 0 then .reload [] [] [1] else .reload [(2, 6)] [] [])]
    = [.put 1 5, .reload [] [] [1]] := by simp [proj]

/-- a publisher's life, non-vacuity: KeepAlive; the stream is lost and the first re-registration fails at KeepAlive
(its key 11 stays behind), the second succeeds (lease 12); Pause with a failing Revoke (key 12 stays); expiry removes
both leftovers; Resume after a failed Grant registers under lease 14 -/
example : (PLife.run { pub := { id := 0, value := 40 }, next := 10 }
    [.keepAlive .ok, .kaLoss true [.kaErr, .ok], .pause false]).store = [(11, (40, 11)), (12, (40, 12))] := by decide
example : ((PLife.run { pub := { id := 0, value := 40 }, next := 10 }
    [.keepAlive .ok, .kaLoss true [.kaErr, .ok], .pause false]).step .expire).store = [] := by decide
example : (PLife.run { pub := { id := 0, value := 40 }, next := 10 }
    [.keepAlive .ok, .kaLoss true [.kaErr, .ok], .pause false, .expire, .resume [.grantErr, .ok]]).store = [(14, (40, 14))] := by decide

/-- re-registration, non-vacuity: Grant fails, Put fails (lease 104), KeepAlive fails (lease 105: the key 105 stays
behind for a publisher without id), then success with lease 106 -/
example : doKeepAlive true { id := 0, value := 40 } [] [.grantErr, .putErr 104, .kaErr 105, .ok 106]
    = ({ id := 0, value := 40, lease := 106, fullKey := 106 }, [(105, (40, 105)), (106, (40, 106))], true) := by decide

example : attemptsFor 1 1 1 104 = [.grantErr, .putErr 104, .kaErr 105, .ok 106] := by decide

example : storeExpire [(105, (40, 105)), (106, (40, 106))] [106] = [(106, (40, 106))] := by decide

/-- listeners, non-vacuity: listeners 1, 2, 3 on one watcher; 2 closes; a put and a delete are delivered -/
example : ((Listeners.deliver Fix.fixed (Listeners.unmonitor [(1, Container.new false), (2, Container.new true), (3, Container.new false)] 2)
    [.add 7 70, .add 8 80, .del 7]).get 3).map view = some [80] := by decide

example : loadLoop [none, none, some [(1, 5)], none] = some [(1, 5)] := by decide

example : replayFrom [.put 1 5, .del 1, .put 2 6] (watchFrom 2) = [.put 2 6] := rfl

end GoZero.C13
