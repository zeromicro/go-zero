/-
C13 — the invariant of a publisher's whole life (Multi.lean: PLife): whatever etcd calls fail, a running publisher's
key is in the store under its current lease and is the only one with that lease; every lease in the store was granted
before the next one to be granted.
-/
import GoZero.C13.Multi
import GoZero.C13.ProofsMap
namespace GoZero.C13

/-- the entry a publisher holds in etcd -/
def Pub.entry (p : Pub) : Nat × Nat × Nat := (p.fullKey, (p.value, p.lease))

theorem attempt_inv (k : AKind) (p : Pub) (s : Store) (n : Nat) (hn : (Map.keys s).Nodup) (hb : ∀ e ∈ s, e.2.2 < n) :
    (Map.keys (p.attempt s (k.toAttempt n)).2).Nodup ∧ (∀ e ∈ (p.attempt s (k.toAttempt n)).2, e.2.2 < n + 1)
    ∧ (p.attempt s (k.toAttempt n)).1.id = p.id ∧ (p.attempt s (k.toAttempt n)).1.value = p.value := by
  have hb' : ∀ e ∈ s, e.2.2 < n + 1 := fun e he => Nat.lt_succ_of_lt (hb e he)
  have hput : ∀ e ∈ storePut s (p.register n), e.2.2 < n + 1 := by
    intro e he
    rcases (Map.mem_set _ _ _ e).mp he with ⟨h, _⟩ | rfl
    · exact hb' e h
    · simp [Pub.register]
  cases k
  -- a failed Grant or Put leaves the store alone; a Put that went through has written the entry, whatever follows
  case grantErr | putErr => exact ⟨hn, hb', rfl, rfl⟩
  case kaErr | ok => exact ⟨Map.nodup_keys_set _ _ _ hn, hput, rfl, rfl⟩

/-- a publisher's life: distinct keys, leases below the next one to be granted, and while the publisher runs its
entry is in the store and is the only one with its lease -/
structure PInv (id v : Nat) (st : PLife) : Prop where
  nodup : (Map.keys st.store).Nodup
  bound : ∀ e ∈ st.store, e.2.2 < st.next
  idv   : st.pub.id = id ∧ st.pub.value = v
  live  : st.running = true → st.pub.fullKey = pubKeyId id st.pub.lease ∧ st.pub.entry ∈ st.store
            ∧ ∀ e ∈ st.store, e.2.2 = st.pub.lease → e = st.pub.entry

theorem reregister_inv (id v : Nat) (st : PLife) (s : Store) (as : List AKind) (hid : st.pub.id = id ∧ st.pub.value = v)
    (hn : (Map.keys s).Nodup) (hb : ∀ e ∈ s, e.2.2 < st.next) : PInv id v (st.reregister s as) := by
  induction as generalizing st s with
  | nil => exact ⟨hn, hb, hid, (nomatch ·)⟩
  | cons k ks ih =>
    obtain ⟨a1, a2, a3, a4⟩ := attempt_inv k st.pub s st.next hn hb
    have hid' := And.intro (a3.trans hid.1) (a4.trans hid.2)
    have hrec := ih { st with pub := (st.pub.attempt s (k.toAttempt st.next)).1, next := st.next + 1 } _ hid' a1 a2
    unfold PLife.reregister at hrec ⊢
    simp only [attemptsOf, doKeepAlive, if_true, List.length_cons]
    split
    next hok =>
      -- success: the key just put carries the newest lease, every other one an older lease
      have hk : k = .ok := by cases k <;> simp [AKind.toAttempt, Attempt.isOk] at hok ⊢
      subst hk
      refine ⟨a1, fun e he => Nat.lt_of_lt_of_le (a2 e he) (Nat.add_le_add_left (Nat.le_add_left 1 _) _), hid',
        fun _ => ⟨hid.1 ▸ rfl, ?_, ?_⟩⟩
      · exact (Map.mem_set _ _ _ _).mpr (Or.inr rfl)
      · intro e he hl
        rcases (Map.mem_set _ _ _ e).mp he with ⟨h, _⟩ | rfl
        · have := hb e h
          simp [Pub.attempt, AKind.toAttempt, Pub.register] at hl
          omega
        · rfl
    next =>
      rw [show st.next + (ks.length + 1) = st.next + 1 + ks.length by omega]
      exact hrec

theorem revoke_sublist (st : PLife) (ok : Bool) : (st.revoke ok).Sublist st.store := by
  unfold PLife.revoke
  split
  · exact List.filter_sublist
  · exact List.Sublist.refl _

theorem step_inv (id v : Nat) (st : PLife) (op : POp) (h : PInv id v st) : PInv id v (st.step op) := by
  cases op <;> simp only [PLife.step]
  case keepAlive | resume =>
    split
    · exact h
    · exact reregister_inv id v st st.store _ h.idv h.nodup h.bound
  case pause ok | stop ok =>
    split
    · exact ⟨h.nodup.sublist ((revoke_sublist st ok).map _), fun e he => h.bound e ((revoke_sublist st ok).subset he),
        h.idv, fun hr => by simp at hr⟩
    · exact h
  case kaLoss ok as =>
    split
    · exact reregister_inv id v { st with running := false } (st.revoke ok) as h.idv
        (h.nodup.sublist ((revoke_sublist st ok).map _)) (fun e he => h.bound e ((revoke_sublist st ok).subset he))
    · exact h
  case expire =>
    refine ⟨Map.nodup_keys_filter _ _ h.nodup, fun e he => h.bound e (List.mem_filter.mp he).1, h.idv, fun hr => ?_⟩
    obtain ⟨b, c, d⟩ := h.live hr
    have hr' : st.running = true := hr
    refine ⟨b, ?_, fun e he hl => d e (List.mem_filter.mp he).1 hl⟩
    simp only [storeExpire, hr', if_true]
    exact List.mem_filter.mpr ⟨c, by simp [Pub.entry]⟩

theorem run_inv (id v : Nat) (ops : List POp) (st : PLife) (h : PInv id v st) : PInv id v (st.run ops) :=
  List.foldlRecOn ops _ h fun st h op _ => step_inv id v st op h

end GoZero.C13
