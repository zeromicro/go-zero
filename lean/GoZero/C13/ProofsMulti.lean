/-
C13 — lemmas for Multi.lean: a cluster with several watched keys behaves, for every key, like the single-key
cluster run on the key's projection of the history; the re-registration loop and `load` reach their first successful
attempt; what `Listeners.get` finds after a delivery and after an `Unmonitor`.
-/
import GoZero.C13.Multi
namespace GoZero.C13

theorem reconnectAll_get (fx : Fix) (keys : List Nat) (snap : Nat → Ev) (m : MState) (s : Nat) (hn : keys.Nodup) :
    reconnectAll fx m keys snap s = if s ∈ keys then step fx (m s) (snap s) else m s := by
  unfold reconnectAll
  induction keys generalizing m with
  | nil => simp
  | cons k ks ih =>
    rw [List.foldl_cons, ih _ (List.nodup_cons.mp hn).2]
    grind [upd]

theorem mrun_proj (fx : Fix) (evs : List MEv) (init : MState) (s : Nat) (hv : MValid evs) :
    mrun fx true init evs s = (proj s evs).foldl (step fx) (init s) := by
  unfold mrun
  induction evs generalizing init with
  | nil => rfl
  | cons e rest ih =>
    cases e with
    | on t ev => rw [List.foldl_cons, ih _ hv]; simp only [proj, mstep, upd]; grind
    | reconnect keys snap =>
      rw [List.foldl_cons, ih _ hv.2]
      simp only [mstep, if_true, proj, reconnectAll_get fx keys snap init s hv.1]
      grind

theorem mrun_fresh (m : MState) (excl : Bool) (evs : List MEv) (s : Nat) (hv : MValid evs)
    (h0 : m s = { cont := Container.new excl }) : mrun Fix.fixed true m evs s = run Fix.fixed excl (proj s evs) := by
  rw [mrun_proj _ evs m s hv, h0]; rfl

theorem doKeepAlive_fails_then_ok (p : Pub) (s : Store) (fails : List Attempt) (l : Nat) (rest : List Attempt)
    (hf : ∀ a, a ∈ fails → a.isOk = false) :
    ∃ (p0 : Pub) (s0 : Store), doKeepAlive true p s (fails ++ .ok l :: rest) = (p0.register l, storePut s0 (p0.register l), true)
      ∧ p0.id = p.id ∧ p0.value = p.value := by
  induction fails generalizing p s with
  | nil => exact ⟨p, s, by simp [doKeepAlive, Attempt.isOk, Pub.attempt], rfl, rfl⟩
  | cons a as ih =>
    have ha : a.isOk = false := hf a (by simp)
    obtain ⟨p0, s0, h1, h2, h3⟩ := ih (p.attempt s a).1 (p.attempt s a).2 (fun b hb => hf b (by simp [hb]))
    refine ⟨p0, s0, ?_, ?_, ?_⟩
    · simp only [List.cons_append, doKeepAlive, ha]
      simpa using h1
    · rw [h2]; cases a <;> simp [Pub.attempt, Pub.register]
    · rw [h3]; cases a <;> simp [Pub.attempt, Pub.register]

theorem doKeepAlive_noretry_gives_up (p : Pub) (s : Store) (a : Attempt) (rest : List Attempt) (ha : a.isOk = false) :
    (doKeepAlive false p s (a :: rest)).2.2 = false := by
  simp [doKeepAlive, ha]


theorem Listeners.get_deliver (fx : Fix) (ls : Listeners) (evs : List LEv) (j : Nat) :
    (ls.deliver fx evs).get j = (ls.get j).map (evs.foldl (applyL fx)) := by
  unfold Listeners.deliver Listeners.get
  rw [List.find?_map, Option.map_map, Option.map_map]
  rfl

theorem Listeners.get_unmonitor (ls : Listeners) (i j : Nat) :
    (ls.unmonitor i).get j = if j = i then none else ls.get j := by
  unfold Listeners.unmonitor Listeners.get
  rw [List.find?_filter]
  split
  next h => subst h; simp
  next h => congr 2; funext p; by_cases hp : p.1 = j <;> simp [hp, h]

theorem loadLoop_installs_first_success (fails : List (Option (List (Nat × Nat)))) (kvs : List (Nat × Nat))
    (rest : List (Option (List (Nat × Nat)))) (hf : ∀ r ∈ fails, r = none) :
    loadLoop (fails ++ some kvs :: rest) = some kvs := by
  induction fails with
  | nil => rfl
  | cons a t ih =>
    have : a = none := hf a (by simp)
    subst this
    simpa [loadLoop] using ih (fun r hr => hf r (by simp [hr]))

end GoZero.C13
