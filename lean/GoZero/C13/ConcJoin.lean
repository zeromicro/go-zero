/-
C13 — interleaving model of a listener joining an existing watch (Registry.Monitor → cluster.join)
while the watch goroutine handles a watch response (cluster.handleWatchEvents).  Core Lean only.

  core/discov/internal/registry.go
    cluster.join:       [fixed: c.notifyLock.Lock()]                          jLock
                        watcher.listeners = append(watcher.listeners, l)      jAppend
                        kvs := c.getCurrent(wkey)                             jRead
                        for kv in kvs { l.OnAdd(kv) }  [fixed: Unlock]        jReplay     (l is fresh: its registrations become kvs)
    handleWatchEvents:  [fixed: c.notifyLock.Lock()]                          wStart
                        listeners := copy of watcher.listeners                wCopy
                        for ev in events {
                          watcher.values[k] = v / delete(watcher.values, k)   wMutate
                          for l in listeners { l.OnAdd / l.OnDelete }         wDeliver
                        }              [fixed: c.notifyLock.Unlock()]

`fx = false` is the code before fixes/C13-registry-join-and-reload.patch (no notifyLock): a listener that joins after
`wCopy` is not told the remaining events of the response, and those applied after its `jRead` are in neither
its replay nor its deliveries.  Registrations are functions key ↦ value (`Spec.Reg`); listeners are ordinary
subscribers (their registrations are their `container.mapping`, Props.mapping_is_registry).
-/
import GoZero.C13.Spec
namespace GoZero.C13.ConcJoin
open GoZero.C13 GoZero.C13.Spec

inductive Holder where
  | free | watch | joiner (l : Nat)
  deriving DecidableEq, Repr

inductive WPC where
  | idle | copy | loop | deliver (e : LEv)
  deriving DecidableEq, Repr

inductive JPC where
  | out | append | read | replay | joined
  deriving DecidableEq, Repr

def upd {α : Type} (f : Nat → α) (i : Nat) (x : α) : Nat → α := fun j => if j = i then x else f j

structure St where
  nlock     : Holder := .free
  values    : Reg := Reg.empty                 -- watcher.values
  listeners : Nat → Bool := fun _ => false     -- watcher.listeners (as a set of listener ids)
  view      : Nat → Reg := fun _ => Reg.empty  -- the registrations each listener holds
  wpc       : WPC := .idle
  wls       : Nat → Bool := fun _ => false     -- handleWatchEvents' copy of the listeners
  batch     : List LEv := []                   -- events of the response still to handle
  jpc       : Nat → JPC := fun _ => .out
  jcur      : Nat → Reg := fun _ => Reg.empty  -- what getCurrent returned to the joiner

inductive Act where
  | watch (batch : List LEv)    -- the watch goroutine moves (the batch is consulted when it is idle: a new response)
  | join (l : Nat)              -- the goroutine in Monitor(…, l) moves

def step (fx : Bool) (s : St) : Act → Option St
  | .watch b =>
    match s.wpc with
    | .idle =>
      if fx then (if s.nlock = .free then some { s with nlock := .watch, wpc := .copy, batch := b } else none)
      else some { s with wpc := .copy, batch := b }
    | .copy => some { s with wls := s.listeners, wpc := .loop }
    | .loop =>
      match s.batch with
      | [] => some { s with wpc := .idle, nlock := if fx then .free else s.nlock }
      | e :: rest => some { s with values := Reg.applyL false s.values e, batch := rest, wpc := .deliver e }
    | .deliver e =>
      some { s with view := fun l => if s.wls l then Reg.applyL false (s.view l) e else s.view l, wpc := .loop }
  | .join l =>
    match s.jpc l with
    | .out =>
      if fx then (if s.nlock = .free then some { s with nlock := .joiner l, jpc := upd s.jpc l .append } else none)
      else some { s with jpc := upd s.jpc l .append }
    | .append => some { s with listeners := upd s.listeners l true, jpc := upd s.jpc l .read }
    | .read => some { s with jcur := upd s.jcur l s.values, jpc := upd s.jpc l .replay }
    | .replay => some { s with view := upd s.view l (s.jcur l), jpc := upd s.jpc l .joined,
                               nlock := if fx then .free else s.nlock }
    | .joined => none

def exec (fx : Bool) (s : St) : List Act → St
  | [] => s
  | a :: rest => exec fx ((step fx s a).getD s) rest

end GoZero.C13.ConcJoin
