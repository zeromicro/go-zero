/-
C13 — the Kubernetes endpoints handler (kube EventHandler): its set is the current address set, and what it last
published is that set.
-/
import GoZero.C13.Spec
namespace GoZero.C13
open Spec

theorem mem_insertNew (l : List Nat) (a x : Nat) : x ∈ insertNew l a ↔ x ∈ l ∨ x = a := by
  unfold insertNew; split <;> simp <;> grind

theorem nodup_insertNew (l : List Nat) (a : Nat) (h : l.Nodup) : (insertNew l a).Nodup := by
  unfold insertNew; split
  · exact h
  · exact List.nodup_append.mpr ⟨h, by simp, by grind⟩

theorem mem_foldl_insertNew (ips l : List Nat) (x : Nat) :
    x ∈ ips.foldl insertNew l ↔ x ∈ l ∨ x ∈ ips := by
  induction ips generalizing l with
  | nil => simp
  | cons a t ih => rw [List.foldl_cons, ih, mem_insertNew, List.mem_cons, or_assoc]

theorem nodup_foldl_insertNew (ips l : List Nat) (h : l.Nodup) : (ips.foldl insertNew l).Nodup := by
  induction ips generalizing l with
  | nil => exact h
  | cons a t ih => exact ih _ (nodup_insertNew l a h)

theorem foldl_insertNew_same (ips l : List Nat) (h : ∀ x ∈ ips, x ∈ l) : ips.foldl insertNew l = l := by
  induction ips with
  | nil => rfl
  | cons a t ih =>
    rw [List.foldl_cons, show insertNew l a = l from if_pos (h a List.mem_cons_self)]
    exact ih fun x hx => h x (List.mem_cons_of_mem _ hx)

theorem subset_of_length_le {l1 l2 : List Nat} (h1 : l1.Nodup) (hs : ∀ x ∈ l1, x ∈ l2)
    (hl : l2.length ≤ l1.length) : ∀ x ∈ l2, x ∈ l1 := by
  intro x hx
  apply Decidable.byContradiction
  intro hn
  -- pigeonhole: otherwise `x :: l1` is duplicate-free inside `l2`, and longer
  have := (List.nodup_cons.mpr ⟨hn, h1⟩).length_le_of_subset (List.cons_subset.mpr ⟨hx, hs⟩)
  exact Nat.not_succ_le_self _ (Nat.le_trans this hl)

structure KInv (h : Kube) (cur : List Nat) : Prop where
  nodup : h.endpoints.Nodup
  same : ∀ x, x ∈ h.endpoints ↔ x ∈ cur
  pub : match h.published with
        | none => h.endpoints = []
        | some p => ∀ x, x ∈ p ↔ x ∈ h.endpoints

/-- every handler installs a new set and calls `update` exactly when it found a difference: enough that the set
has the same members as the old one when it found none -/
theorem KInv.replace {h : Kube} {cur : List Nat} (hi : KInv h cur) {n : List Nat} (cur' : List Nat) (b : Bool)
    (hn : n.Nodup) (hm : ∀ x, x ∈ n ↔ x ∈ cur') (hq : b = false → ∀ x, x ∈ n ↔ x ∈ h.endpoints) :
    KInv (if b then ({ h with endpoints := n } : Kube).notify else { h with endpoints := n }) cur' := by
  cases b
  · refine ⟨hn, hm, ?_⟩
    have hp := hi.pub
    have hq := hq rfl
    show match h.published with
      | none => n = []
      | some p => ∀ x, x ∈ p ↔ x ∈ n
    split
    next hpub =>
      rw [hpub] at hp
      exact List.eq_nil_iff_forall_not_mem.mpr fun x hx => by rw [hq, hp] at hx; cases hx
    next p hpub =>
      rw [hpub] at hp
      exact fun x => (hp x).trans (hq x).symm
  · exact ⟨hn, hm, fun x => Iff.rfl⟩

theorem kinv_setAll (h : Kube) (cur ips : List Nat) (hi : KInv h cur) : KInv (h.setAll ips) ips := by
  have hn : (ips.foldl insertNew []).Nodup := nodup_foldl_insertNew ips [] List.nodup_nil
  refine hi.replace ips (kdiff h.endpoints (ips.foldl insertNew [])) hn (fun x => by rw [mem_foldl_insertNew]; simp) ?_
  -- no difference reported: same size and the old set inside the new one, so they are the same set
  intro hd x
  simp [kdiff] at hd
  exact ⟨subset_of_length_le hi.nodup hd.2 (by omega) x, hd.2 x⟩

theorem kinv_step (h : Kube) (cur : List Nat) (hi : KInv h cur) (ev : KEv) :
    KInv (h.step ev) (kubeSet cur ev) := by
  cases ev with
  | add ips =>
    refine hi.replace (cur ++ ips) (ips.any fun x => !h.endpoints.contains x)
      (nodup_foldl_insertNew ips h.endpoints hi.nodup)
      (fun x => by rw [mem_foldl_insertNew, List.mem_append, hi.same]) ?_
    intro hc
    rw [foldl_insertNew_same ips h.endpoints (by simpa using hc)]
    exact fun x => Iff.rfl
  | del ips =>
    refine hi.replace (cur.filter fun x => !ips.contains x) (ips.any fun x => h.endpoints.contains x)
      (hi.nodup.sublist List.filter_sublist) (fun x => by simp only [List.mem_filter, hi.same]) ?_
    intro hc
    rw [List.filter_eq_self.mpr fun x hx => by simp at hc ⊢; exact fun hxi => hc x hxi hx]
    exact fun x => Iff.rfl
  | update same ips =>
    cases same
    · exact kinv_setAll h cur ips hi
    · exact hi
  | set ips => exact kinv_setAll h cur ips hi

theorem kinv_foldl (evs : List KEv) (h : Kube) (cur : List Nat) (hi : KInv h cur) :
    KInv (evs.foldl Kube.step h) (evs.foldl kubeSet cur) :=
  List.foldl_rel (r := KInv) hi fun ev _ _ _ hi => kinv_step _ _ hi ev

end GoZero.C13
