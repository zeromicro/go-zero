/-
C13 — exclusive subscriber: one key counts per value, and the counting registrations are among those an ordinary
subscriber holds after the same listener events.
-/
import GoZero.C13.Spec
namespace GoZero.C13
open Spec

def RInj (r : Reg) : Prop := ∀ k₁ k₂ v, r k₁ = some v → r k₂ = some v → k₁ = k₂

theorem rinj_applyL (r : Reg) (h : RInj r) (l : LEv) : RInj (Reg.applyL true r l) := by
  intro k1 k2 w h1 h2
  cases l <;> simp only [Reg.applyL, if_true, Reg.exPut, Reg.del] at h1 h2 <;> grind [RInj]

theorem rinj_foldl (ls : List LEv) (r : Reg) (h : RInj r) : RInj (ls.foldl (Reg.applyL true) r) :=
  List.foldlRecOn ls _ h fun r h l _ => rinj_applyL r h l

def RSub (c r : Reg) : Prop := ∀ k v, c k = some v → r k = some v

/-- a registration displaces keys only in the exclusive subscriber; everything else is the same update in both -/
theorem rsub_applyL {c r : Reg} (h : RSub c r) (l : LEv) : RSub (Reg.applyL true c l) (Reg.applyL false r l) := by
  intro k v
  have := h k v
  cases l <;> simp [Reg.applyL, Reg.exPut, Reg.put, Reg.del] <;> grind

end GoZero.C13
