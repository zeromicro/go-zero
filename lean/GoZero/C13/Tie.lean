/-
C13 — Tie: what the extractor read from the go-zero tree equals what the model was written against.
A failing obligation here means the code moved away from the model (Model.lean names the Go statement
each definition follows).  The small functions that decide the property are tied statement by statement
(normalised source, comments/layout/logging dropped); the surrounding plumbing by its call/lock skeleton.
Five obligations (`tie_subsetStmts`, `tie_deliveryShapes`, `tie_reloadShape`, `tie_discovBuildShape` / `Stmts`) are
disjunctions: they also accept the pinned form before the repair named in their docstring, for which the theorem
about the repaired code does not hold; they do not tell which of the two forms the tree has.  Two more
(`tie_noSharedLoopVariableInClosures`, `tie_reloadStmts`) branch on the Go version: with per-iteration loop variables
(go.mod ≥ 1.22) the first holds outright and the second only checks the number of statements of `cluster.reload`.
The models of Multi.lean, Conc.lean, ConcJoin.lean, BuildConc.lean are not imported here: the obligations about
`load`, the watch arguments, the retry loops and the listener copies are linked to them by their docstrings only.
-/
import GoZero.Extracted.C13
import GoZero.C13.Model
namespace GoZero.C13.Tie
open GoZero.C13
open GoZero.Extracted.C13

theorem extraction_clean : extractionErrors = [] := rfl

/-- the property's literal number: the resolver publishes everything up to 32 addresses -/
theorem tie_subsetSize : Extracted.C13.subsetSize = 32 ∧ (GoZero.C13.subsetSize : Int) = Extracted.C13.subsetSize := ⟨rfl, rfl⟩

/-- `addKv`: dirty; detach the key from its previous value (the fix: `Fix.detach`); exclusive: displace the keys listed
under the value (ranging over the live slice: `exclLoop`); append the key; `mapping[key] = value` — `GoZero.C13.addKv`. -/
theorem tie_addKvStmts : addKvStmts =
    ["c.lock.Lock()",
     "defer c.lock.Unlock()",
     "c.dirty.Set(true)",
     "c.doRemoveKey(key)",
     "keys := c.values[value]",
     "previous := append([]string(nil), keys...)",
     "early := len(keys) > 0",
     "if c.exclusive && early {",
     "for _, each := range keys {",
     "c.doRemoveKey(each)",
     "}",
     "}",
     "c.values[value] = append(c.values[value], key)",
     "c.mapping[key] = value",
     "if early {",
     "return previous, true",
     "}",
     "return nil, false"] := rfl

/-- `doRemoveKey`: unknown key: nothing; else delete the mapping, filter the key out of its value's list in place,
keep the non-empty rest or delete the value — `GoZero.C13.doRemoveKey`. -/
theorem tie_doRemoveKeyStmts : doRemoveKeyStmts =
    ["server, ok := c.mapping[key]",
     "if !ok {",
     "return",
     "}",
     "delete(c.mapping, key)",
     "keys := c.values[server]",
     "remain := keys[:0]",
     "for _, k := range keys {",
     "if k != key {",
     "remain = append(remain, k)",
     "}",
     "}",
     "if len(remain) > 0 {",
     "c.values[server] = remain",
     "}",
     "else {",
     "delete(c.values, server)",
     "}"] := rfl

/-- `getValues`: the snapshot unless dirty; else the keys of `values`, stored as snapshot, dirty cleared — `GoZero.C13.getValues`. -/
theorem tie_getValuesStmts : getValuesStmts =
    ["if !c.dirty.True() {",
     "return c.snapshot.Load().([]string)",
     "}",
     "c.lock.Lock()",
     "defer c.lock.Unlock()",
     "var vals []string",
     "for each := range c.values {",
     "vals = append(vals, each)",
     "}",
     "c.snapshot.Store(vals)",
     "c.dirty.Set(false)",
     "return vals"] := rfl

/-- `calculateChanges`: add = entries of newVals that are new or changed; remove = keys of oldVals that are gone
(the fix: `Fix.removeGoneOnly`) — `calcAdds` / `calcRemoves`. -/
theorem tie_calculateChangesStmts : calculateChangesStmts =
    ["for k, v := range newVals {",
     "if val, ok := oldVals[k]; !ok || v != val {",
     "add = append(add, KV{ Key: k, Val: v, })",
     "}",
     "}",
     "for k, v := range oldVals {",
     "if _, ok := newVals[k]; !ok {",
     "remove = append(remove, KV{ Key: k, Val: v, })",
     "}",
     "}",
     "return add, remove"] := rfl

/-- `subset`: shuffle, everything when `len ≤ sub`, else the first `sub` — `GoZero.C13.subset`.  Two forms are
accepted: the code (fixes/C13-subset-copies-snapshot.patch) shuffles a copy; the pinned one
shuffles the caller's slice — the cached snapshot of `Values()` — in place (witness
`shared_snapshot_shuffle_corrupts`; the harness reports it as `resolver-shuffles-the-shared-snapshot`). -/
theorem tie_subsetStmts :
    subsetStmts =
      ["set = append([]string(nil), set...)",
       "rand.Shuffle(len(set), func(i, j int) { set[i], set[j] = set[j], set[i] })",
       "if len(set) <= sub {",
       "return set",
       "}",
       "return set[:sub]"]
    ∨ subsetStmts =
      ["rand.Shuffle(len(set), func(i, j int) { set[i], set[j] = set[j], set[i] })",
       "if len(set) <= sub {",
       "return set",
       "}",
       "return set[:sub]"] := by
  first | exact .inl rfl | exact .inr rfl

/-- kube `diff`: sizes differ or an old element is missing — `kdiff`. -/
theorem tie_kubeDiffStmts : kubeDiffStmts =
    ["if len(o) != len(n) {",
     "return true",
     "}",
     "for k := range o {",
     "if _, ok := n[k]; !ok {",
     "return true",
     "}",
     "}",
     "return false"] := rfl

/-- kube `notify`: publishes exactly the current set — `Kube.notify`. -/
theorem tie_kubeNotifyStmts : kubeNotifyStmts =
    ["targets := make([]string, 0, len(h.endpoints))",
     "for k := range h.endpoints {",
     "targets = append(targets, k)",
     "}",
     "h.update(targets)"] := rfl

/-- `OnAdd` = addKv, then notifyChange (the listeners run after the change) — `onAdd`. -/
theorem tie_onAddShape : onAddShape =
    ["call c.addKv",
     "call c.notifyChange"] := rfl

/-- `OnDelete` = removeKey, then notifyChange — `onDelete`. -/
theorem tie_onDeleteShape : onDeleteShape =
    ["call c.removeKey",
     "call c.notifyChange"] := rfl

/-- `removeKey`: dirty, doRemoveKey — `removeKey`. -/
theorem tie_removeKeyShape : removeKeyShape =
    ["call c.lock.Lock",
     "defer{",
     "call c.lock.Unlock",
     "}",
     "call c.dirty.Set",
     "call c.doRemoveKey"] := rfl

/-- `notifyChange` calls every listener once. -/
theorem tie_notifyChangeShape : notifyChangeShape =
    ["call c.lock.Lock",
     "call ?",
     "call c.lock.Unlock",
     "range listeners {",
     "call listener",
     "}"] := rfl

/-- the deliveries are serialised by the cluster's notifyLock (ConcJoin.lean, `fx = true`) -/
def notifyLocked : List String :=
  ["call c.notifyLock.Lock",
   "defer{",
   "call c.notifyLock.Unlock",
   "}"]

def handleChangesBody : List String :=
    ["call c.lock.Lock",
     "if !ok {",
     "call c.lock.Unlock",
     "return",
     "}",
     "call ?",
     "range kvs {",
     "mapset newVals",
     "}",
     "call calculateChanges",
     "store watcher.values",
     "call c.lock.Unlock",
     "range add {",
     "range listeners {",
     "call l.OnAdd",
     "}",
     "}",
     "range remove {",
     "range listeners {",
     "call l.OnDelete",
     "}",
     "}"]

def handleWatchEventsBody : List String :=
    ["call c.lock.RLock",
     "if !ok {",
     "call c.lock.RUnlock",
     "return",
     "}",
     "call ?",
     "call c.lock.RUnlock",
     "range events {",
     "switch ev.Type {",
     "case clientv3.EventTypePut:",
     "call c.lock.Lock",
     "mapset watcher.values",
     "call c.lock.Unlock",
     "range listeners {",
     "call l.OnAdd",
     "}",
     "case clientv3.EventTypeDelete:",
     "call c.lock.Lock",
     "delete watcher.values",
     "call c.lock.Unlock",
     "range listeners {",
     "call l.OnDelete",
     "}",
     "default:",
     "call logc.Errorf",
     "}",
     "}"]

/-- Registry.Monitor before fixes/C13-registry-join-and-reload.patch: append the listener, read the current
values, replay them — three steps that interleave with handleWatchEvents (ConcJoin, `fx = false`). -/
def monitorPinned : List String :=
    ["call r.getOrCreateCluster",
     "if exists {",
     "call c.lock.Lock",
     "if ok {",
     "store watcher.listeners",
     "}",
     "call c.lock.Unlock",
     "if ok {",
     "call c.getCurrent",
     "range kvs {",
     "call l.OnAdd",
     "}",
     "return",
     "}",
     "}",
     "call c.monitor",
     "return"]

def monitorFixed : List String :=
    ["call r.getOrCreateCluster",
     "if exists && c.join(wkey, l) {",
     "return",
     "}",
     "call c.monitor",
     "return"]

/-- cluster.join (fixed code): under the notifyLock: append the listener, replay `getCurrent` — `ConcJoin.step`
`.join`, sequentially `runLate`. -/
def joinFixed : List String :=
    ["call c.notifyLock.Lock",
     "defer{",
     "call c.notifyLock.Unlock",
     "}",
     "call c.lock.Lock",
     "if ok {",
     "store watcher.listeners",
     "}",
     "call c.lock.Unlock",
     "if !ok {",
     "return",
     "}",
     "range c.getCurrent(key) {",
     "call l.OnAdd",
     "}",
     "return"]

/-- `handleChanges`: newVals from kvs (later entries win), calculateChanges, replace watcher.values, then all
OnAdd, then all OnDelete — `emit (.reload …)`, `stepValues`; `handleWatchEvents`: PUT sets the key and calls OnAdd,
DELETE deletes it and calls OnDelete — `emit`, `stepValues`; a listener joins through Monitor / join.
Either all of them are the fixed form (every delivery and the join's append + replay under the notifyLock:
`late_join_atomic`) or all of them are the pinned form (witness `pinned_late_join_loses_event`, reported by the
harness as `late-joiner-differs-from-registry`): a half-applied patch does not pass. -/
theorem tie_deliveryShapes :
    (handleChangesShape = notifyLocked ++ handleChangesBody
      ∧ handleWatchEventsShape = notifyLocked ++ handleWatchEventsBody
      ∧ monitorShape = monitorFixed ∧ joinShape = joinFixed)
    ∨ (handleChangesShape = handleChangesBody
      ∧ handleWatchEventsShape = handleWatchEventsBody
      ∧ monitorShape = monitorPinned ∧ joinShape = []) := by
  first | exact .inl ⟨rfl, rfl, rfl, rfl⟩ | exact .inr ⟨rfl, rfl, rfl, rfl⟩

/-- `getCurrent`: the watcher's values under the read lock (what a joining listener is told) — `ValidJoin`. -/
theorem tie_getCurrentShape : getCurrentShape =
    ["call c.lock.RLock",
     "defer{",
     "call c.lock.RUnlock",
     "}",
     "if !ok {",
     "return",
     "}",
     "range watcher.values {",
     "}",
     "return"] := rfl

/-- `cluster.reload` (connection-state change): cancel the watches, wait for the watch goroutines, start new ones
that `load` (-> handleChanges: `Ev.reload`) and watch.  Fixed form: the wait happens *without* the cluster lock
(the watch goroutine needs it to finish the response it is handling) and reloads are serialised; the pinned form
waits holding the lock (reported by the harness as `reload-deadlocks-while-a-watch-response-is-handled`). -/
theorem tie_reloadShape :
    reloadShape =
      ["call c.reloadLock.Lock",
       "defer{",
       "call c.reloadLock.Unlock",
       "}",
       "call c.lock.Lock",
       "close c.done",
       "call c.lock.Unlock",
       "call c.watchGroup.Wait",
       "call c.lock.Lock",
       "range c.watchers {",
       "if wval.cancel != nil {",
       "call wval.cancel",
       "}",
       "}",
       "store c.done",
       "call threading.NewRoutineGroup",
       "store c.watchGroup",
       "call c.lock.Unlock",
       "range keys {",
       "func{",
       "call c.load",
       "call c.watch",
       "}",
       "call c.watchGroup.Run",
       "}"]
    ∨ reloadShape =
      ["call c.lock.Lock",
       "close c.done",
       "call c.watchGroup.Wait",
       "range c.watchers {",
       "if wval.cancel != nil {",
       "call wval.cancel",
       "}",
       "}",
       "store c.done",
       "call threading.NewRoutineGroup",
       "store c.watchGroup",
       "call c.lock.Unlock",
       "range keys {",
       "func{",
       "call c.load",
       "call c.watch",
       "}",
       "call c.watchGroup.Run",
       "}"] := by
  first | exact .inl rfl | exact .inr rfl

def buildHead : List String :=
    ["call targets.GetAuthority",
     "func{",
     "return",
     "}",
     "call targets.GetEndpoints",
     "call discov.NewSubscriber",
     "if err != nil {",
     "return",
     "}",
     "func{"]

def buildUpdateBody : List String :=
    ["call sub.Values",
     "call subset",
     "range vals {",
     "}",
     "call cc.UpdateState",
     "if err != nil {",
     "}",
     "}",
     "call sub.AddListener",
     "call update",
     "return"]

/-- discovBuilder.Build: update = UpdateState(subset(sub.Values(), subsetSize)); registered as listener FIRST, then
called once (`BuildConc.Order.listenerFirst`; the other order loses an event: `update_before_listener_loses_event`).
Two forms are accepted: update() under a mutex (the code, fixes/C13-resolver-update-serialized.patch;
`BuildConc … atomic = true`: `build_publishes_view_at_quiescence`) or without it (witness
`unserialized_update_publishes_stale`). -/
theorem tie_discovBuildShape :
    discovBuildShape = buildHead ++ buildUpdateBody
    ∨ discovBuildShape = buildHead ++ ["call lock.Lock", "defer{", "call lock.Unlock", "}"] ++ buildUpdateBody := by
  first | exact .inl rfl | exact .inr rfl

def buildUpdateSrc : String :=
  "vals := subset(sub.Values(), subsetSize) addrs := make([]resolver.Address, 0, len(vals)) for _, val := range vals { addrs = append(addrs, resolver.Address{ Addr: val, }) } if err := cc.UpdateState(resolver.State{ Addresses: addrs, }); err != nil { logx.Error(err) } }"

def buildStmtsHead : List String :=
    ["hosts := strings.FieldsFunc(targets.GetAuthority(target), func(r rune) bool { return r == EndpointSepChar })",
     "sub, err := discov.NewSubscriber(hosts, targets.GetEndpoints(target))",
     "if err != nil {",
     "return nil, err",
     "}"]

def buildStmtsTail : List String :=
    ["sub.AddListener(update)",
     "update()",
     "return &discovResolver{ cc: cc, sub: sub, }, nil"]

/-- Build statement by statement: the subscriber is created for the target's endpoints key with no option (never
exclusive), update() publishes `subset(sub.Values(), subsetSize)` — every value becomes one address — and is
registered before it is called. -/
theorem tie_discovBuildStmts :
    discovBuildStmts = buildStmtsHead ++ ["update := func() { " ++ buildUpdateSrc] ++ buildStmtsTail
    ∨ discovBuildStmts = buildStmtsHead ++ ["var lock sync.Mutex", "update := func() { lock.Lock() defer lock.Unlock() " ++ buildUpdateSrc]
        ++ buildStmtsTail := by
  -- every entry but one is literal against literal; `buildUpdateSrc` stays folded meanwhile (`simp` would walk its characters)
  unfold discovBuildStmts buildStmtsHead buildStmtsTail
  simp only [List.cons_append, List.nil_append, List.cons.injEq, true_and, and_true]
  -- the one entry that is a concatenation is compared on characters, in the kernel: appending the two literals as strings
  -- would encode them to UTF-8 and decode them again (see Base/StringLit.lean), and the elaborator cannot compare lists of
  -- this length
  unfold buildUpdateSrc
  rw [← String.ofList_append, ← String.ofList_append]
  first
  | exact .inl (by with_reducible exact congrArg String.ofList (by decide +kernel))
  | exact .inr (by with_reducible exact congrArg String.ofList (by decide +kernel))

/-- kube OnAdd: insert unknown addresses, notify iff something was new — `Kube.step (.add …)`. -/
theorem tie_kubeOnAddShape : kubeOnAddShape =
    ["if !ok {",
     "return",
     "}",
     "call h.lock.Lock",
     "defer{",
     "call h.lock.Unlock",
     "}",
     "range endpoints.Subsets {",
     "range sub.Addresses {",
     "if !ok {",
     "mapset h.endpoints",
     "}",
     "}",
     "}",
     "if changed {",
     "call h.notify",
     "}"] := rfl

/-- kube OnDelete: delete known addresses, notify iff something was known — `Kube.step (.del …)`. -/
theorem tie_kubeOnDeleteShape : kubeOnDeleteShape =
    ["if !ok {",
     "return",
     "}",
     "call h.lock.Lock",
     "defer{",
     "call h.lock.Unlock",
     "}",
     "range endpoints.Subsets {",
     "range sub.Addresses {",
     "if ok {",
     "delete h.endpoints",
     "}",
     "}",
     "}",
     "if changed {",
     "call h.notify",
     "}"] := rfl

/-- kube OnUpdate: ignored when the resource version is unchanged, else Update — `Kube.step (.update …)`. -/
theorem tie_kubeOnUpdateShape : kubeOnUpdateShape =
    ["if !ok {",
     "return",
     "}",
     "if !ok {",
     "return",
     "}",
     "if oldEndpoints.ResourceVersion == newEndpoints.ResourceVersion {",
     "return",
     "}",
     "call h.Update"] := rfl

/-- kube Update: replace the set, notify iff diff(old, new) — `Kube.setAll`. -/
theorem tie_kubeUpdateShape : kubeUpdateShape =
    ["call h.lock.Lock",
     "defer{",
     "call h.lock.Unlock",
     "}",
     "store h.endpoints",
     "range endpoints.Subsets {",
     "range sub.Addresses {",
     "mapset h.endpoints",
     "}",
     "}",
     "if diff(old, h.endpoints) {",
     "call h.notify",
     "}"] := rfl

/-- `register`: Grant; the full key is `makeEtcdKey(p.key, p.id)` when `p.id > 0`, else `makeEtcdKey(p.key, int64(lease))`;
Put(fullKey, value, WithLease(lease)); the lease is returned (doRegister stores it in p.lease) — `Pub.register`, `storePut`. -/
theorem tie_registerStmts : registerStmts =
    ["resp, err := client.Grant(client.Ctx(), TimeToLive)",
     "if err != nil {",
     "return clientv3.NoLease, err",
     "}",
     "lease := resp.ID",
     "if p.id > 0 {",
     "p.fullKey = makeEtcdKey(p.key, p.id)",
     "}",
     "else {",
     "p.fullKey = makeEtcdKey(p.key, int64(lease))",
     "}",
     "_, err = client.Put(client.Ctx(), p.fullKey, p.value, clientv3.WithLease(lease))",
     "return lease, err"] := rfl

/-- the condition of `register`, translated: the model's `pubKeyId` takes the id exactly when the Go condition holds -/
theorem tie_registerGuard (id lease : Nat) :
    pubKeyId id lease = if registerGuard id then id else lease := by
  unfold pubKeyId registerGuard
  by_cases h : id > 0 <;> simp [h]

theorem tie_doRegisterStmts : doRegisterStmts =
    ["cli, err := internal.GetRegistry().GetConn(p.endpoints)",
     "if err != nil {",
     "return nil, err",
     "}",
     "p.lease, err = p.register(cli)",
     "return cli, err"] := rfl

/-- `revoke` revokes `p.lease` — the lease of the last registration (`storeRevoke s p.lease`). -/
theorem tie_revokeStmts : revokeStmts =
    ["if _, err := cli.Revoke(cli.Ctx(), p.lease); err != nil {",
     "}"] := rfl

theorem tie_withIdStmts : withIdStmts = ["return func(publisher *Publisher) { publisher.id = id }"] := rfl

/-- the glue between publisher and subscriber: a publisher's key is `<key>/<id>`, a subscriber watches the
prefix `<key>/` — the same delimiter on both sides, so the keys of `<key>` are covered and those of a sibling
service `<key>x` are not. -/
theorem tie_keyGlue :
    makeEtcdKeyStmts = ["return fmt.Sprintf(\"%s%c%d\", key, internal.Delimiter, id)"]
    ∧ makeKeyPrefixStmts = ["return fmt.Sprintf(\"%s%c\", key, Delimiter)"] := ⟨rfl, rfl⟩

/-- KeepAlive = doRegister, then keepAliveAsync -/
theorem tie_keepAliveShape : keepAliveShape =
    ["call p.doRegister",
     "if err != nil {",
     "return",
     "}",
     "func{",
     "call p.Stop",
     "}",
     "call proc.AddWrapUpListener",
     "call p.keepAliveAsync",
     "return"] := rfl

/-- the keep-alive goroutine: channel closed -> revoke, doKeepAlive; Pause -> revoke, then Resume -> doKeepAlive or
Stop -> nothing more; Stop -> revoke (logging dropped) -/
theorem tie_keepAliveAsyncShape : keepAliveAsyncShape =
    ["call cli.KeepAlive",
     "if err != nil {",
     "return",
     "}",
     "func{",
     "for {",
     "select{",
     "case recv ch:",
     "if !ok {",
     "call p.revoke",
     "call p.doKeepAlive",
     "if err != nil {",
     "}",
     "return",
     "}",
     "case recv p.pauseChan:",
     "call p.revoke",
     "select{",
     "case recv p.resumeChan:",
     "call p.doKeepAlive",
     "if err != nil {",
     "}",
     "return",
     "case recv p.quit.Done(); call p.quit.Done:",
     "return",
     "}",
     "case recv p.quit.Done(); call p.quit.Done:",
     "call p.revoke",
     "return",
     "}",
     "}",
     "}",
     "call threading.GoSafe",
     "return"] := rfl

/-- doKeepAlive: at a tick, unless stopped: doRegister, then keepAliveAsync -/
theorem tie_doKeepAliveShape : doKeepAliveShape =
    ["defer{",
     "call ticker.Stop",
     "}",
     "range ticker.C {",
     "select{",
     "case recv p.quit.Done(); call p.quit.Done:",
     "return",
     "default:",
     "call p.doRegister",
     "if err != nil {",
     "break",
     "}",
     "call p.keepAliveAsync",
     "if err != nil {",
     "break",
     "}",
     "return",
     "}",
     "}",
     "return"] := rfl

/-- `getCurrent` hands out every entry of watcher.values (what a joining listener is told: `ValidJoin`) -/
theorem tie_getCurrentStmts : getCurrentStmts =
    ["c.lock.RLock()",
     "defer c.lock.RUnlock()",
     "watcher, ok := c.watchers[key]",
     "if !ok {",
     "return nil",
     "}",
     "var kvs []KV",
     "for k, v := range watcher.values {",
     "kvs = append(kvs, KV{ Key: k, Val: v, })",
     "}",
     "return kvs"] := rfl

/-- `cluster.monitor`: the listener is registered before the first load, the watch starts after it -/
theorem tie_clusterMonitorShape : clusterMonitorShape =
    ["call c.getClient",
     "if err != nil {",
     "return",
     "}",
     "call c.addListener",
     "call c.load",
     "func{",
     "call c.watch",
     "}",
     "call c.watchGroup.Run",
     "return"] := rfl

/-- `load`: Get (exact key or prefix), every returned kv goes to handleChanges -/
theorem tie_loadShape : loadShape =
    ["for {",
     "call context.WithTimeout",
     "if key.exactMatch {",
     "call cli.Get",
     "}",
     "else{",
     "call clientv3.WithPrefix",
     "call cli.Get",
     "}",
     "call cancel",
     "if err == nil {",
     "break",
     "}",
     "call coolDownUnstable.AroundDuration",
     "}",
     "range resp.Kvs {",
     "}",
     "call c.handleChanges",
     "return"] := rfl

/-- `notifyChange` calls every listener that is registered, `addListener` appends — `notifyChange` / `BuildConc.step` -/
theorem tie_listenerStmts :
    notifyChangeStmts =
      ["c.lock.Lock()",
       "listeners := append(([]func())(nil), c.listeners...)",
       "c.lock.Unlock()",
       "for _, listener := range listeners {",
       "listener()",
       "}"]
    ∧ addListenerStmts =
      ["c.lock.Lock()",
       "c.listeners = append(c.listeners, listener)",
       "c.lock.Unlock()"]
    ∧ subscriberAddListenerStmts = ["s.items.addListener(listener)"]
    ∧ subscriberValuesStmts = ["return s.items.getValues()"] := ⟨rfl, rfl, rfl, rfl⟩

theorem tie_removeKeyStmts : removeKeyStmts =
    ["c.lock.Lock()",
     "defer c.lock.Unlock()",
     "c.dirty.Set(true)",
     "c.doRemoveKey(key)"] := rfl

/-- constructors / options: a new container is empty and dirty (`Container.new`), the subscriber's container gets the
`exclusive` flag the options set, and is handed to Registry.Monitor for the subscriber's key -/
theorem tie_constructors :
    newContainerStmts =
      ["return &container{ exclusive: exclusive, values: make(map[string][]string), mapping: make(map[string]string), dirty: syncx.ForAtomicBool(true), }"]
    ∧ exclusiveStmts = ["return func(sub *Subscriber) { sub.exclusive = true }"]
    ∧ newSubscriberStmts =
      ["sub := &Subscriber{ endpoints: endpoints, key: key, }",
       "for _, opt := range opts {",
       "opt(sub)",
       "}",
       "sub.items = newContainer(sub.exclusive)",
       "if err := internal.GetRegistry().Monitor(endpoints, key, sub.exactMatch, sub.items); err != nil {",
       "return nil, err",
       "}",
       "return sub, nil"] := ⟨rfl, rfl, rfl⟩

/-- `subset`, translated condition: the model returns everything exactly when the Go condition `len(set) <= sub` holds -/
theorem tie_subsetGuard (l : List Nat) (n : Nat) :
    GoZero.C13.subset l n = if subsetGuard l.length n then l else l.take n := by
  unfold GoZero.C13.subset subsetGuard
  by_cases h : l.length ≤ n <;> simp [h]

/-- `addKv`, translated conditions: `early` = some key carries the value; the displacement loop runs for an
exclusive container with `early` — the model's `c1.exclusive && !keys.isEmpty` -/
theorem tie_addKvGuards (excl : Bool) (keys : List Nat) :
    addKvDisplaceGuard excl (addKvEarly keys.length) = (excl && !keys.isEmpty)
    ∧ addKvEarlyGuard (addKvEarly keys.length) = !keys.isEmpty := by
  unfold addKvDisplaceGuard addKvEarlyGuard addKvEarly
  cases keys <;> simp
  all_goals omega

/-- `doRemoveKey`, translated conditions: a key stays when it differs from the removed one; the rest is kept when it
is not empty — the model's `filter (· ≠ key)` / `remain.isEmpty` -/
theorem tie_doRemoveKeyGuards (k key : Nat) (remain : List Nat) :
    doRemoveKeyFilterGuard k key = decide (k ≠ key)
    ∧ doRemoveKeyKeepGuard remain.length = !remain.isEmpty := by
  unfold doRemoveKeyFilterGuard doRemoveKeyKeepGuard
  constructor
  · by_cases h : k = key <;> simp [h, Int.natCast_inj]
  · cases remain <;> simp

/-- `calculateChanges`, translated conditions — `calcAdds` keeps an entry of the new map when the old map has no
such key or another value; `calcRemoves` (fixed) an entry of the old map when the new one has no such key -/
theorem tie_calculateChangesGuards (old new : Map Nat) (p : Nat × Nat) :
    (decide (old.get p.1 ≠ some p.2) = calcAddGuard (old.get p.1).isSome p.2 ((old.get p.1).getD 0))
    ∧ (decide (new.get p.1 = none) = calcRemoveGuard (new.get p.1).isSome) := by
  unfold calcAddGuard calcRemoveGuard
  constructor
  · cases h : old.get p.1 with
    | none => simp
    | some v =>
      by_cases hv : (p.2 : Int) = v
      · have : p.2 = v := by exact_mod_cast hv
        simp [this]
      · have : p.2 ≠ v := fun e => hv (by exact_mod_cast e)
        simp [hv, Ne.symm this]
  · cases h : new.get p.1 <;> simp

/-- kube, translated conditions: `diff` starts with the size comparison (`kdiff`); OnUpdate skips exactly when the
two resource versions are equal (the driver's `o == n`) -/
theorem tie_kubeGuards (o n : List Nat) (a b : Nat) :
    kubeDiffLenGuard o.length n.length = (o.length != n.length)
    ∧ kubeOnUpdateSkipGuard a b = decide (a = b) := by
  unfold kubeDiffLenGuard kubeOnUpdateSkipGuard
  constructor
  · by_cases h : o.length = n.length <;> simp [h, Int.natCast_inj]
  · by_cases h : a = b <;> simp [h, Int.natCast_inj]

/-- doKeepAlive: both error paths `break` out of the `select` only — the `for range ticker.C` loop goes on and the
registration is attempted again at the next tick (`doKeepAlive true`, theorem `reregistration_retries_until_success`;
a `break` that leaves the `for` is `doKeepAlive false`, witness `single_failure_ends_a_loop_without_retry`). -/
theorem tie_doKeepAliveRetries : doKeepAliveBreaks = ["select", "select"] := rfl

/-- load: the only `break` leaves the retry loop, after a Get without error -/
theorem tie_loadRetries : loadBreaks = ["for"] := rfl

/-- no function literal started inside a loop uses the loop's own variable (go.mod is below 1.22: the variable would be
shared by all iterations and a goroutine started in the loop would see the last element — `reconnectShared`, witness
`shared_loop_variable_reloads_only_the_last_key`); `cluster.reload` copies it first (`k := key`): `reconnectAll`. -/
theorem tie_noSharedLoopVariableInClosures : goPerIterationLoopVars = true ∨ loopVarCaptures = [] := by decide

/-- `cluster.reload` statement by statement: EVERY key of `c.watchers` is collected and for each a goroutine loads and
watches THAT key — `reconnectAll`.  Second arm: once go.mod is ≥ 1.22 the copy `k := key` may go, and then only the
number of statements (20) is compared, not their text. -/
theorem tie_reloadStmts : reloadStmts =
    ["c.reloadLock.Lock()",
     "defer c.reloadLock.Unlock()",
     "c.lock.Lock()",
     "close(c.done)",
     "c.lock.Unlock()",
     "c.watchGroup.Wait()",
     "c.lock.Lock()",
     "var keys []watchKey",
     "for wk, wval := range c.watchers {",
     "keys = append(keys, wk)",
     "if wval.cancel != nil {",
     "wval.cancel()",
     "}",
     "}",
     "c.done = make(chan lang.PlaceholderType)",
     "c.watchGroup = threading.NewRoutineGroup()",
     "c.lock.Unlock()",
     "for _, key := range keys {",
     "k := key",
     "c.watchGroup.Run(func() { rev := c.load(cli, k) c.watch(cli, k, rev) })",
     "}"]
    ∨ (goPerIterationLoopVars = true ∧ reloadStmts.length = 20) := by
  first | exact .inl rfl | exact .inr ⟨rfl, rfl⟩

/-- `Unmonitor`: the listener is removed from the watcher of ITS key; the watcher (and its watch) go away only when
no listener is left — the other keys of the cluster are not touched (the driver's multi-key sections: `close` / `reopen`) -/
theorem tie_unmonitorStmts : unmonitorStmts =
    ["c, exists := r.getCluster(endpoints)",
     "if !exists {",
     "return",
     "}",
     "wkey := watchKey{ key: key, exactMatch: exactMatch, }",
     "c.lock.Lock()",
     "defer c.lock.Unlock()",
     "watcher, ok := c.watchers[wkey]",
     "if !ok {",
     "return",
     "}",
     "for i, listener := range watcher.listeners {",
     "if listener == l {",
     "watcher.listeners = append(watcher.listeners[:i], watcher.listeners[i+1:]...)",
     "break",
     "}",
     "}",
     "if len(watcher.listeners) == 0 {",
     "if watcher.cancel != nil {",
     "watcher.cancel()",
     "}",
     "delete(c.watchers, wkey)",
     "}"] := rfl

/-- `Subscriber.Close` unmonitors exactly what `NewSubscriber` monitored (same endpoints, key, exactMatch, container);
`WithExactMatch` sets the flag that both forward -/
theorem tie_closeAndExactMatch :
    subscriberCloseStmts = ["internal.GetRegistry().Unmonitor(s.endpoints, s.key, s.exactMatch, s.items)"]
    ∧ withExactMatchStmts = ["return func(sub *Subscriber) { sub.exactMatch = true }"] := ⟨rfl, rfl⟩

/-- `cluster.monitor` / `cluster.addListener` statement by statement: the listener is appended to the watcher of the
key (created when absent), then the key is loaded, then watched from the loaded revision -/
theorem tie_clusterMonitorStmts :
    clusterMonitorStmts =
      ["cli, err := c.getClient()",
       "if err != nil {",
       "return err",
       "}",
       "c.addListener(key, l)",
       "rev := c.load(cli, key)",
       "c.watchGroup.Run(func() { c.watch(cli, key, rev) })",
       "return nil"]
    ∧ clusterAddListenerStmts =
      ["c.lock.Lock()",
       "defer c.lock.Unlock()",
       "watcher, ok := c.watchers[key]",
       "if ok {",
       "watcher.listeners = append(watcher.listeners, l)",
       "return",
       "}",
       "val := newWatchValue()",
       "val.listeners = []UpdateListener{l}",
       "c.watchers[key] = val"] := ⟨rfl, rfl⟩

/-- `NewPublisher` forwards endpoints / key / value and applies every option; `KeepAlive` is one attempt whose error is
returned (`keepAlive`) -/
theorem tie_publisherEntryPoints :
    newPublisherStmts =
      ["publisher := &Publisher{ endpoints: endpoints, key: key, value: value, quit: syncx.NewDoneChan(), pauseChan: make(chan lang.PlaceholderType), resumeChan: make(chan lang.PlaceholderType), }",
       "for _, opt := range opts {",
       "opt(publisher)",
       "}",
       "return publisher"]
    ∧ keepAliveStmts =
      ["cli, err := p.doRegister()",
       "if err != nil {",
       "return err",
       "}",
       "proc.AddWrapUpListener(func() { p.Stop() })",
       "return p.keepAliveAsync(cli)"] := ⟨rfl, rfl⟩

/-- the arguments `load` / `setupWatch` hand to etcd: the exact key, or the key's prefix `makeKeyPrefix(key.key)` with
WithPrefix; the watch continues at the revision after the loaded one exactly when a revision was loaded -/
theorem tie_watchArgs :
    loadGetArgs = ["ctx | key.key", "ctx | makeKeyPrefix(key.key) | clientv3.WithPrefix()"]
    ∧ setupWatchArgs = ["clientv3.WithRequireLeader(ctx) | wkey | ops..."]
    ∧ setupWatchRevArgs = ["rev + 1"]
    ∧ ∀ rev : Int, setupWatchRevGuard rev = decide (rev ≠ 0) :=
  ⟨rfl, rfl, rfl, fun _ => rfl⟩

/-- `load`: the request context of an attempt is created INSIDE the retry loop, from the client's context, with
RequestTimeout, is the one handed to the Get of that attempt, and is cancelled inside the loop (not deferred to the end
of the function) — every attempt has a deadline of its own: `loadCtx true`, theorem
`load_gives_every_attempt_a_fresh_deadline` (a WithTimeout at depth 0 is `loadCtx false`: its witness). -/
theorem tie_loadFreshDeadline :
    loadTimeoutLoopDepth = ["1"] ∧ loadCancelLoopDepth = ["1"] ∧ loadGetLoopDepth = ["1", "1"]
    ∧ loadTimeoutArgs = ["cli.Ctx() | RequestTimeout"] := ⟨rfl, rfl, rfl, rfl⟩

/-- the delivery loops range over a fresh COPY of the listener list, taken under the lock at the start of the
response — never over the watcher's / container's own slice, which Unmonitor / addListener change in place:
`calledForEvent true`, theorem `close_during_delivery_leaves_the_others_notified_once` (an alias is `calledForEvent false`:
its witness). -/
theorem tie_deliveryListenersAreCopies :
    handleWatchEventsListeners = ["copy of watcher.listeners", "range listeners", "range listeners"]
    ∧ handleChangesListeners = ["copy of watcher.listeners", "range listeners", "range listeners"]
    ∧ notifyChangeListeners = ["copy of c.listeners", "range listeners"] := ⟨rfl, rfl, rfl⟩

end GoZero.C13.Tie
