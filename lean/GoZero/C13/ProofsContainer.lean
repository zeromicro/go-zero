/-
C13 — the container (core/discov/subscriber.go, with the fix): its invariant, and the effect of addKv / removeKey on the
registrations it stands for.
-/
import GoZero.C13.ProofsMap
import GoZero.C13.Spec
namespace GoZero.C13
open Map Spec

def keysOf (c : Container) (v : Nat) : List Nat := (c.values.get v).getD []

structure Inv (c : Container) : Prop where
  nonempty : ∀ v, c.values.get v ≠ some []
  /-- `values` is exactly the inverse of `mapping` -/
  attach : ∀ v k, k ∈ keysOf c v ↔ c.mapping.get k = some v
  /-- what makes the displacement loop of `addKv` a single `doRemoveKey` (`displace_holds`) -/
  excl1 : c.exclusive = true → ∀ v, (keysOf c v).length ≤ 1
  nodupV : (Map.keys c.values).Nodup

theorem inv_new (e : Bool) : Inv (Container.new e) :=
  ⟨by intro v; simp [Container.new], by intro v k; simp [keysOf, Container.new],
   by intro _ v; simp [keysOf, Container.new], by simp [Container.new, Map.keys]⟩

/-- the container `c` (of kind `excl`, consistent) stands for the counted registrations `cnt` after `n` notification
rounds.  Its dirty flag is up, and stays up: no step of `run` keeps the container that `getValues` returns (`view` takes
the second component only), so the flag never goes down and `view c` is always `Map.keys c.values` -/
structure Holds (excl : Bool) (cnt : Reg) (n : Nat) (c : Container) : Prop where
  inv : Inv c
  kind : c.exclusive = excl
  mapping : ∀ k, c.mapping.get k = cnt k
  notified : c.notified = n
  dirty : c.dirty = true

theorem values_update (vs : Map (List Nat)) (server : Nat) (remain : List Nat) (v : Nat) :
    ((if remain.isEmpty then vs.erase server else vs.set server remain).get v).getD []
      = if v = server then remain else (vs.get v).getD [] := by
  split <;> simp [get_erase, get_set] <;> grind

theorem values_update_nonempty (vs : Map (List Nat)) (h : ∀ v, vs.get v ≠ some []) (server : Nat)
    (remain : List Nat) (v : Nat) :
    (if remain.isEmpty then vs.erase server else vs.set server remain).get v ≠ some [] := by
  split <;> simp [get_erase, get_set] <;> grind

theorem doRemoveKey_none (c : Container) (key : Nat) (h : c.mapping.get key = none) :
    doRemoveKey c key = c := by
  unfold doRemoveKey; rw [h]

theorem doRemoveKey_some (c : Container) (key server : Nat) (h : c.mapping.get key = some server) :
    doRemoveKey c key =
      { c with
        mapping := c.mapping.erase key
        values := if ((keysOf c server).filter (· ≠ key)).isEmpty then c.values.erase server
                  else c.values.set server ((keysOf c server).filter (· ≠ key)) } := by
  unfold doRemoveKey keysOf; rw [h]

theorem filter_keysOf (c : Container) (hi : Inv c) (key v : Nat) (h : c.mapping.get key ≠ some v) :
    (keysOf c v).filter (· ≠ key) = keysOf c v := by
  rw [List.filter_eq_self]
  intro a ha
  simp only [ne_eq, decide_eq_true_eq]
  rintro rfl
  exact h ((hi.attach v a).mp ha)

theorem exclLoop_single (value : Nat) (c : Container) (a : Nat) :
    exclLoop value c [a] = doRemoveKey c a := rfl

section
variable {e : Bool} {cnt : Reg} {n : Nat} {c : Container} (h : Holds e cnt n c)
include h

/-- `doRemoveKey` is `Reg.del` on the registrations; the key lists afterwards are the old ones without `key` (what
`displace_holds` needs to see the list of `v` empty) -/
theorem doRemoveKey_holds (key : Nat) :
    Holds e (cnt.del key) n (doRemoveKey c key)
    ∧ ∀ v, keysOf (doRemoveKey c key) v = (keysOf c v).filter (· ≠ key) := by
  have hi := h.inv
  have hdel : ∀ k', (if k' = key then none else c.mapping.get k') = cnt.del key k' := fun k' => by rw [h.mapping]; rfl
  cases hm : c.mapping.get key with
  | none =>
    rw [doRemoveKey_none c key hm]
    refine ⟨⟨hi, h.kind, fun k' => ?_, h.notified, h.dirty⟩, fun v => (filter_keysOf c hi key v (by simp [hm])).symm⟩
    rw [← hdel]; split <;> simp [*]
  | some server =>
    have hk : ∀ v, keysOf (doRemoveKey c key) v = (keysOf c v).filter (· ≠ key) := by
      intro v
      rw [doRemoveKey_some c key server hm]
      show (Map.get _ v).getD [] = _
      rw [values_update]
      split
      · simp [*]
      · exact (filter_keysOf c hi key v (by simpa [hm, eq_comm] using ‹¬v = server›)).symm
    rw [doRemoveKey_some c key server hm] at hk ⊢
    have hmm : ∀ k', (c.mapping.erase key).get k' = if k' = key then none else c.mapping.get k' :=
      fun k' => get_erase _ _ _
    refine ⟨⟨⟨?_, ?_, ?_, ?_⟩, h.kind, fun k' => (hmm k').trans (hdel k'), h.notified, h.dirty⟩, hk⟩
    · intro v; exact values_update_nonempty _ hi.nonempty _ _ _
    · intro v k
      rw [hk v]
      show _ ↔ (c.mapping.erase key).get k = some v
      rw [hmm k, List.mem_filter, hi.attach v k]
      by_cases h : k = key <;> simp [h]
    · intro he v
      rw [hk v]
      exact Nat.le_trans (List.length_filter_le _ _) (hi.excl1 he v)
    · show (Map.keys (if _ then _ else _)).Nodup
      split
      · exact nodup_keys_erase _ _ hi.nodupV
      · exact nodup_keys_set _ _ _ hi.nodupV

/-- the last two statements of `addKv` -/
theorem attach_holds (k v : Nat) (hk : cnt k = none) (he : e = true → keysOf c v = []) :
    Holds e (cnt.put k v) n { c with values := c.values.set v (keysOf c v ++ [k]), mapping := c.mapping.set k v } := by
  have hi := h.inv
  have hk' : c.mapping.get k = none := (h.mapping k).trans hk
  refine ⟨⟨fun w => ?_, fun w k' => ?_, fun hex w => ?_, nodup_keys_set _ _ _ hi.nodupV⟩, h.kind, fun k' => ?_,
    h.notified, h.dirty⟩
  · show (c.values.set v _).get w ≠ some []
    rw [get_set]; split
    · simp
    · exact hi.nonempty w
  · have := hi.attach w k'
    show k' ∈ ((c.values.set v _).get w).getD [] ↔ (c.mapping.set k v).get k' = some w
    rw [get_set, get_set]
    unfold keysOf at this ⊢
    grind
  · have := hi.excl1 hex w
    have := he (h.kind ▸ hex)
    show (((c.values.set v _).get w).getD []).length ≤ 1
    rw [get_set]
    unfold keysOf at *
    grind
  · show (c.mapping.set k v).get k' = _
    rw [get_set, h.mapping]; rfl

/-- the displacement loop of `addKv`: by `excl1` it meets at most one key, so it is a single `doRemoveKey` and the
in-place aliasing of the ranged slice that `exclLoopAux` models never comes into play -/
theorem displace_holds (v : Nat) :
    let c2 := if c.exclusive && !(keysOf c v).isEmpty then exclLoop v c (keysOf c v) else c
    Holds e (fun k' => if e = true ∧ cnt k' = some v then none else cnt k') n c2 ∧ (e = true → keysOf c2 v = []) := by
  have hi := h.inv
  have hat := hi.attach v
  split
  next hcond =>
    simp only [Bool.and_eq_true, Bool.not_eq_true', List.isEmpty_eq_false_iff] at hcond
    have hlen := hi.excl1 hcond.1 v
    obtain ⟨a, ha⟩ := List.length_eq_one_iff.mp (Nat.le_antisymm hlen (List.length_pos_iff.mpr hcond.2))
    rw [ha, exclLoop_single]
    obtain ⟨h2, hk2⟩ := doRemoveKey_holds h a
    refine ⟨⟨h2.inv, h2.kind, fun k' => ?_, h2.notified, h2.dirty⟩, fun _ => by rw [hk2, ha]; simp⟩
    -- the displaced key `a` was the only one carrying `v`
    have := hat k'
    have hm := h.mapping k'
    have he : e = true := h.kind ▸ hcond.1
    rw [ha, List.mem_singleton] at this
    rw [h2.mapping]
    simp only [Reg.del]
    grind
  next hcond =>
    have hempty : e = true → keysOf c v = [] := fun hex => by simpa [h.kind, hex] using hcond
    refine ⟨⟨hi, h.kind, fun k' => ?_, h.notified, h.dirty⟩, hempty⟩
    have := hat k'
    have hm := h.mapping k'
    grind

/-- `addKv` in its three stages: detach (`doRemoveKey_holds`), displace (`displace_holds`), attach (`attach_holds`) -/
theorem addKv_holds (k v : Nat) : Holds e (Reg.applyL e cnt (.add k v)) n (addKv Fix.fixed c k v) := by
  have h0 : Holds e cnt n { c with dirty := true } :=
    ⟨⟨h.inv.nonempty, h.inv.attach, h.inv.excl1, h.inv.nodupV⟩, h.kind, h.mapping, h.notified, rfl⟩
  obtain ⟨h2, hv2⟩ := displace_holds (doRemoveKey_holds h0 k).1 v
  have h3 := attach_holds h2 k v (by simp [Reg.del]) hv2
  have hf : Reg.put (fun k' => if e = true ∧ Reg.del cnt k k' = some v then none else Reg.del cnt k k') k v
      = Reg.applyL e cnt (.add k v) := by
    funext k'
    cases e <;> simp [Reg.applyL, Reg.put, Reg.exPut, Reg.del] <;> grind
  rw [← hf]
  exact h3

theorem removeKey_holds (k : Nat) : Holds e (cnt.del k) n (removeKey c k) :=
  (doRemoveKey_holds (c := { c with dirty := true })
    ⟨⟨h.inv.nonempty, h.inv.attach, h.inv.excl1, h.inv.nodupV⟩, h.kind, h.mapping, h.notified, rfl⟩ k).1

end

/-- what `Values()` shows is determined by `mapping`: the values that some key carries -/
theorem mem_values_keys (c : Container) (hi : Inv c) (v : Nat) :
    v ∈ Map.keys c.values ↔ ∃ k, c.mapping.get k = some v := by
  rw [mem_keys_iff]
  constructor
  · intro h
    cases hv : c.values.get v with
    | none => exact absurd hv h
    | some ks =>
      cases ks with
      | nil => exact absurd hv (hi.nonempty v)
      | cons a t =>
        refine ⟨a, (hi.attach v a).mp ?_⟩
        simp [keysOf, hv]
  · rintro ⟨k, hk⟩
    have := (hi.attach v k).mpr hk
    intro hn
    simp [keysOf, hn] at this

end GoZero.C13
