/-
C13 — what the driver's monitor evaluates (association lists: `viewList`, `canonSet`, `Spec.counting`) against the
function specs `Reg.run` / `Reg.counting` the theorems are stated in.
-/
import GoZero.C13.ProofsMap
import GoZero.C13.Spec
namespace GoZero.C13
open Map Spec

/-- the association list `m` represents the function `r` -/
structure Rep (m : Map Nat) (r : Reg) : Prop where
  nodup : (keys m).Nodup
  get : ∀ k, m.get k = r k

theorem Rep.empty : Rep [] Reg.empty := ⟨List.nodup_nil, fun _ => rfl⟩

theorem Rep.set {m : Map Nat} {r : Reg} (h : Rep m r) (k v : Nat) : Rep (m.set k v) (r.put k v) :=
  ⟨nodup_keys_set _ _ _ h.nodup, fun k' => by rw [get_set, h.get]; rfl⟩

theorem Rep.erase {m : Map Nat} {r : Reg} (h : Rep m r) (k : Nat) : Rep (m.erase k) (r.del k) :=
  ⟨nodup_keys_erase _ _ h.nodup, fun k' => by rw [get_erase, h.get]; rfl⟩

theorem mem_insertSortedNat (x y : Nat) (l : List Nat) : y ∈ insertSortedNat x l ↔ y = x ∨ y ∈ l := by
  induction l with
  | nil => simp [insertSortedNat]
  | cons a t ih => grind [insertSortedNat]

theorem mem_canonSet (l : List Nat) (y : Nat) : y ∈ canonSet l ↔ y ∈ l := by
  induction l with
  | nil => simp [canonSet]
  | cons a t ih =>
    unfold canonSet at ih ⊢
    simp only [List.foldr_cons, mem_insertSortedNat, ih, List.mem_cons]

theorem mem_viewList {m : Map Nat} {r : Reg} (h : Rep m r) (v : Nat) : v ∈ viewList m ↔ r.Shows v := by
  unfold viewList Reg.Shows
  rw [mem_canonSet, List.mem_map]
  constructor
  · rintro ⟨p, hp, rfl⟩
    exact ⟨p.1, by rw [← h.get]; exact (Map.mem_iff_get _ h.nodup p.1 p.2).mp hp⟩
  · rintro ⟨k, hk⟩
    exact ⟨(k, v), (Map.mem_iff_get _ h.nodup k v).mpr (by rw [h.get]; exact hk), rfl⟩

theorem get_filter_val (m : Map Nat) (h : (keys m).Nodup) (v k : Nat) :
    Map.get (List.filter (fun p : Nat × Nat => decide (p.2 ≠ v)) m) k = if Map.get m k = some v then none else Map.get m k := by
  induction m with
  | nil => simp
  | cons p t ih =>
    have hk : p.1 ∉ keys t ∧ (keys t).Nodup := by unfold keys at h ⊢; simpa using h
    have := mem_keys_iff t p.1
    grind [get_cons]

theorem exApplyL_refines {m : Map Nat} {r : Reg} (h : Rep m r) (l : LEv) :
    Rep (exApplyL m l) (Reg.applyL true r l) := by
  cases l with
  | add k v =>
    -- `exPut` is `put` after the other keys of `v` are dropped
    exact Rep.set ⟨nodup_keys_filter m _ h.nodup, fun k' => by rw [get_filter_val m h.nodup, h.get]⟩ k v
  | del k => exact h.erase k

theorem counting_monitor_refines (ls : List LEv) {m : Map Nat} {r : Reg} (h : Rep m r) :
    Rep (ls.foldl exApplyL m) (ls.foldl (Reg.applyL true) r) :=
  List.foldl_rel h fun l _ _ _ h => exApplyL_refines h l

end GoZero.C13
