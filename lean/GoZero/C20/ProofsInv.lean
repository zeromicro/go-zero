/-
C20 — inversion of the parser model: every AST the model parser builds is well-formed (`parse ts = some a → WF a`).
One theorem per parser function, each by case analysis along the function's own branches (`fun_cases`,
`fun_induction`): a branch either returns `none`, or returns the node built from the results of the calls it made,
whose well-formedness is the tested condition and the theorems of the functions called.
`apply_assumption; assumption` is the induction hypothesis of `fun_induction` (it has no name) applied to the
recursive call's equation.
-/
import GoZero.C20.WellFormed
namespace GoZero.C20

macro "splits" h:ident : tactic => `(tactic| repeat' (split at $h:ident))

theorem parseDT_notStruct {f : Nat} {p : Tok} {r : List Tok} {d : DT} {r' : List Tok}
    (h : parseDT f (p :: r) = some (d, r')) (hp : p.k = .IDENT ∨ p.k = .LBRACK ∨ p.k = .ANY ∨ p.k = .MUL) :
    notStruct d := by
  generalize hts : p :: r = ts at h
  revert h
  fun_cases parseDT f ts <;> intro h <;> splits h <;> cases h <;> first | trivial | (cases hts; simp_all)

theorem parseNames_inv (f : Nat) (ts : List Tok) (ns : List String) (r : List Tok) :
    parseNames f ts = some (ns, r) → ∀ m ∈ ns, isKw m = false := by
  -- strong induction: the fuel stays a variable for `fun_cases`, which finds `f = f' + 1` where the parser calls itself
  induction f using Nat.strongRecOn generalizing ts ns r with | _ f ih => ?_
  fun_cases parseNames f ts <;> intro h <;> cases h
  · exact List.forall_mem_cons.2 ⟨Bool.eq_false_iff.2 ‹_›, ih _ (Nat.lt_succ_self _) _ _ _ ‹_›⟩
  · simp

theorem parseDT_inv : ∀ f : Nat,
    (∀ ts d r, parseDT f ts = some (d, r) → wfDT d) ∧
    (∀ ts fs r, parseFields f ts = some (fs, r) → wfFields fs)
  := fun f => by
    -- strong induction, as in `parseNames_inv`: `fun_cases` wants the fuel as a variable
    induction f using Nat.strongRecOn with | _ f ih => ?_
    have ihD := fun g hg => (ih g hg).1
    have ihF := fun g hg => (ih g hg).2
    refine ⟨?_, ?_⟩ <;> intro ts x r
    · fun_cases parseDT f ts <;> intro h <;> splits h <;> cases h <;> simp only [wfDT]
      · assumption                                                                                  -- any
      · exact ihF _ (Nat.lt_succ_self _) _ _ _ ‹_›                                                  -- { … }
      · exact ⟨ihD _ (Nat.lt_succ_self _) _ _ _ ‹_›, ihD _ (Nat.lt_succ_self _) _ _ _ ‹_›⟩          -- map[K]V
      · exact ⟨‹_›, ‹_›, Bool.eq_false_iff.2 ‹_›⟩                                                   -- a type name
      · exact ihD _ (Nat.lt_succ_self _) _ _ _ ‹_›                                                  -- []T
      · exact ihD _ (Nat.lt_succ_self _) _ _ _ ‹_›                                                  -- [n]T
      · exact ihD _ (Nat.lt_succ_self _) _ _ _ ‹_›                                                  -- [...]T
      · assumption                                                                                  -- interface{}
      all_goals exact ⟨ihD _ (Nat.lt_succ_self _) _ _ _ ‹_›, parseDT_notStruct ‹_› ‹_›⟩             -- *T
    · fun_cases parseFields f ts <;> intro h <;> cases h <;> simp only [wfFields]
      · exact ⟨anonOk_ptr_name _, ihF _ (Nat.lt_succ_self _) _ _ _ ‹_›⟩                             -- *T  (embedded)
      · exact ⟨anonOk_name _ (Bool.eq_false_iff.2 ‹_›), ihF _ (Nat.lt_succ_self _) _ _ _ ‹_›⟩       -- T   (embedded)
      -- a, b T
      · exact ⟨Bool.eq_false_iff.2 ‹_›, parseNames_inv _ _ _ _ ‹_›, ihD _ (Nat.lt_succ_self _) _ _ _ ‹_›,
          ihF _ (Nat.lt_succ_self _) _ _ _ ‹_›⟩

theorem parseTExpr_inv (f : Nat) (ts : List Tok) (e : TExpr) (r : List Tok) :
    parseTExpr f ts = some (e, r) → wfTExpr e := by
  fun_cases parseTExpr f ts <;> intro h <;> splits h <;> cases h <;>
    exact ⟨Bool.eq_false_iff.2 ‹_›, (parseDT_inv f).1 _ _ _ ‹_›⟩

theorem parseTExprs_inv (f : Nat) (ts : List Tok) (es : List TExpr) (r : List Tok) :
    parseTExprs f ts = some (es, r) → ∀ e ∈ es, wfTExpr e := by
  fun_induction parseTExprs f ts generalizing es r <;> intro h <;> cases h
  · simp
  · exact List.forall_mem_cons.2 ⟨parseTExpr_inv _ _ _ _ ‹_›, by apply_assumption; assumption⟩

theorem parseKVs_inv (f : Nat) (ts : List Tok) (kvs : List KV) (r : List Tok) :
    parseKVs f ts = some (kvs, r) → ∀ kv ∈ kvs, wfKV kv := by
  fun_induction parseKVs f ts generalizing kvs r <;> intro h <;> splits h <;> cases h
  · simp
  all_goals exact List.forall_mem_cons.2 ⟨‹_ ∨ _›, by apply_assumption; assumption⟩

theorem parseSepIdents_nonempty (sep : K) (f : Nat) (t : Tok) (r : List Tok) (xs : List String) (r' : List Tok)
    (h : parseSepIdents sep f (t :: r) = some (xs, r')) (ht : t.k = sep) : xs ≠ [] := by
  generalize hts : t :: r = ts at h
  revert h
  fun_cases parseSepIdents sep f ts <;> intro h <;> cases h <;> cases hts
  · simp
  · contradiction

theorem parseSVal_inv (f : Nat) (ts : List Tok) (v : SVal) (r : List Tok) :
    parseSVal f ts = some (v, r) → wfSVal v := by
  fun_cases parseSVal f ts <;> intro h <;> splits h <;> cases h <;>
    first | trivial | exact parseSepIdents_nonempty _ _ _ _ _ _ ‹_› (by rfl) | simp [wfSVal]

theorem parseSKVs_inv (f : Nat) (ts : List Tok) (kvs : List SKV) (r : List Tok) :
    parseSKVs f ts = some (kvs, r) → ∀ kv ∈ kvs, wfSVal kv.val := by
  fun_induction parseSKVs f ts generalizing kvs r <;> intro h <;> splits h <;> cases h
  · simp
  all_goals exact List.forall_mem_cons.2 ⟨parseSVal_inv _ _ _ _ ‹_›, by apply_assumption; assumption⟩

theorem stopsPath_returns {t : Tok} (h : t.s = "returns") : stopsPath t = true := by
  simp [stopsPath, h]

theorem parseSegTail_inv (f : Nat) (ts : List Tok) (tl : List (Bool × String)) (r : List Tok) :
    parseSegTail f ts = some (tl, r) → ∀ x ∈ tl, x.1 = false → x.2 ≠ "returns" := by
  fun_induction parseSegTail f ts generalizing tl r <;> intro h <;> splits h <;> cases h
  · simp
  · simp
  · exact List.forall_mem_cons.2 ⟨by simp, by apply_assumption; assumption⟩
  · exact List.forall_mem_cons.2
      ⟨fun _ e => ‹¬(_ ∨ _)› (.inr (stopsPath_returns e)), by apply_assumption; assumption⟩

theorem parseSegs_inv (f : Nat) (ts : List Tok) (ss : List Seg) (tr : Bool) (r : List Tok) :
    parseSegs f ts = some (ss, tr, r) → ∀ s ∈ ss, wfSeg s := by
  fun_induction parseSegs f ts generalizing ss tr r <;> intro h
  -- the two calls of the local function `go` are left as a bare `Decidable.rec`: put the `if` back for `split`
  all_goals try (change (if _ = K.IDENT ∨ _ = K.INT then _ else none) = _ at h; splits h)
  all_goals cases h
  · simp
  · simp
  · exact List.forall_mem_cons.2
      ⟨⟨‹_›, by simp, parseSegTail_inv _ _ _ _ ‹_›⟩, by apply_assumption; assumption⟩
  · exact List.forall_mem_cons.2
      ⟨⟨‹_›, fun _ e => ‹¬stopsPath _ = true› (stopsPath_returns e), parseSegTail_inv _ _ _ _ ‹_›⟩,
        by apply_assumption; assumption⟩

theorem parsePath_inv (f : Nat) (ts : List Tok) (p : Path) (r : List Tok) :
    parsePath f ts = some (p, r) → wfPath p := by
  fun_cases parsePath f ts <;> intro h <;> cases h
  refine ⟨parseSegs_inv _ _ _ _ _ ‹_›, ?_⟩
  rename_i ss tr _ _
  cases ss <;> simp_all

theorem parseDoc_inv (f : Nat) (ts : List Tok) (d : Doc) (r : List Tok) : parseDoc f ts = some (d, r) → wfDoc d := by
  fun_cases parseDoc f ts <;> intro h <;> cases h <;> first | trivial | exact parseKVs_inv _ _ _ _ ‹_›

theorem parseItems_inv (f : Nat) (ts : List Tok) (its : List Item) (r : List Tok) :
    parseItems f ts = some (its, r) → ∀ i ∈ its, wfItem i := by
  fun_induction parseItems f ts generalizing its r <;> intro h <;> splits h <;> cases h
  · simp
  all_goals exact List.forall_mem_cons.2 ⟨⟨parseDoc_inv _ _ _ _ ‹_›, ‹_›, parsePath_inv _ _ _ _ ‹_›⟩,
    by apply_assumption; assumption⟩

theorem parseServiceBody_inv (f : Nat) (at_ : Option (List SKV)) (ts : List Tok) (s : Stmt) (r : List Tok)
    (hat : ∀ kvs, at_ = some kvs → ∀ kv ∈ kvs, wfSVal kv.val) :
    parseServiceBody f at_ ts = some (s, r) → wfStmt s := by
  fun_cases parseServiceBody f at_ ts <;> intro h <;> cases h
  exact ⟨hat, parseItems_inv _ _ _ _ ‹_›⟩

theorem parseStmt_inv (f : Nat) (ts : List Tok) (s : Stmt) (r : List Tok) :
    parseStmt f ts = some (s, r) → wfStmt s := by
  fun_cases parseStmt f ts <;> intro h <;> splits h <;> try cases h
  -- the branches of `parseStmt` that return a statement, in its order
  · trivial                                              -- syntax
  · exact parseKVs_inv _ _ _ _ ‹_›                       -- info
  · exact parseServiceBody_inv _ _ _ _ _ (by simp) h     -- service
  · exact parseTExprs_inv _ _ _ _ ‹_›                    -- type ( … )
  · exact parseTExpr_inv _ _ _ _ ‹_›                     -- type T …
  · exact parseTExpr_inv _ _ _ _ ‹_›
  · trivial                                              -- import ( … )
  · trivial                                              -- import "…"
  -- @server ( … ) service
  · exact parseServiceBody_inv _ _ _ _ _ (by rintro _ ⟨⟩; exact parseSKVs_inv _ _ _ _ ‹_›) h

theorem parseStmts_inv (f : Nat) (ts : List Tok) (a : Api) : parseStmts f ts = some a → ∀ s ∈ a, wfStmt s := by
  fun_induction parseStmts f ts generalizing a <;> intro h <;> cases h
  · simp
  · exact List.forall_mem_cons.2 ⟨parseStmt_inv _ _ _ _ ‹_›, by apply_assumption; assumption⟩

theorem parse_inv (ts : List Tok) (a : Api) (h : parse ts = some a) : ∀ s ∈ a, wfStmt s :=
  parseStmts_inv _ _ _ h

end GoZero.C20
