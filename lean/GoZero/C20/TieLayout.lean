/-
C20 — Tie: `ast.(*AST).Format` and the delegating entry points `format.File` / `format.Source`.
  * the two bounds conditions of the look-ahead behind an import literal are TRANSLATED from ast.go to Lean functions
    over Int and proven equal to the guards of the model (`Layout.real`) for all arguments: a changed comparison
    operator, operand or constant (`idx < len(a.Stmts)-1`, `next <= len(a.Stmts)`) breaks the obligation;
  * `next := idx + 1`, translated;
  * the decision table of `switch e.(type)` (dynamic type -> number of NewLine calls) equals the model's `after` for
    every statement kind but the import literal, for all guards, lists and indices; the import literal is the
    look-ahead case, tied by the conditions above;
  * the calls of format.File and format.Source, with their forwarded argument lists and the fate of each error, equal
    what `Layout.fileFormat` / the `fmt` pipeline of the model were written against.
-/
import GoZero.Extracted.C20
import GoZero.C20.Layout
namespace GoZero.C20.Tie
open GoZero.C20 GoZero.C20.Layout

/-- `for next < len(a.Stmts) && …`: the translated condition is the model's loop guard, for all arguments -/
theorem tie_af_loopGuard (next len idx : Nat) :
    Extracted.C20.af_loopGuard next len idx = real.loop next len idx := by
  simp only [Extracted.C20.af_loopGuard, real]
  apply decide_eq_decide.mpr; omega

/-- `if next < len(a.Stmts) { … a.Stmts[next] …`: the translated condition is the model's look guard, for all arguments -/
theorem tie_af_lookGuard (next len idx : Nat) :
    Extracted.C20.af_lookGuard next len idx = real.look next len idx := by
  simp only [Extracted.C20.af_lookGuard, real]
  apply decide_eq_decide.mpr; omega

/-- `next := idx + 1` -/
theorem tie_af_nextInit (idx : Nat) : Extracted.C20.af_nextInit idx = ((idx + 1 : Nat) : Int) := by
  simp [Extracted.C20.af_nextInit]

/-- the rest of the look-ahead: the loop skips statements whose Format() is empty, one at a time; the statement found
is tested for being an import literal, otherwise one more NewLine -/
theorem tie_af_look :
    (Extracted.C20.af_loopRest, Extracted.C20.af_lookTarget) =
      ("a.Stmts[next].Format() == NilIndent { { next++ } }",
       "{ _, ok := a.Stmts[next].(*ImportLiteralStmt) if !ok { fw.NewLine() } }") := by rfl

/-- the loop body around the switch: drop statements without text, write the statement, one NewLine -/
theorem tie_af_prologue :
    Extracted.C20.af_prologue = ["if e.Format() == NilIndent { continue }", "fw.Write(withNode(e))", "fw.NewLine()"] := by rfl

/-- Go type name of a statement kind -/
def goType : SK → String
  | .syntaxS => "SyntaxStmt" | .info => "InfoStmt" | .importLit => "ImportLiteralStmt"
  | .importGroup => "ImportGroupStmt" | .typeLit => "TypeLiteralStmt" | .typeGroup => "TypeGroupStmt"
  | .service => "ServiceStmt" | .comment => "CommentStmt"

/-- the decision table of `switch e.(type)` is the model's `after`: for every kind but the import literal the number
of NewLine calls of its case, for all guards / lists / indices; the import literal is the look-ahead case; every case
of the switch is a statement kind of the model -/
theorem tie_af_cases :
    (∀ (k : SK) (g : Guards) (ss : List St) (idx : Nat), k ≠ .importLit →
      Extracted.C20.af_cases.lookup (goType k) = some (toString (after g ss idx k).length) ∧
      ∀ e ∈ after g ss idx k, e = Ev.nl) ∧
    Extracted.C20.af_cases.lookup (goType .importLit) = some "look" ∧
    Extracted.C20.af_cases.map (·.1) = [SK.syntaxS, .importGroup, .importLit, .info, .service, .typeGroup, .typeLit, .comment].map goType := by
  refine ⟨?_, by decide, by decide⟩
  intro k g ss idx hk
  cases k <;> first | exact absurd rfl hk | (constructor <;> simp [after, goType, Extracted.C20.af_cases, List.lookup] <;> decide)

/-- format.File: read the file, format what was read into a fresh buffer, write the buffer's bytes to the SAME file;
the errors of ReadFile and Source end the function before the write, the error of WriteFile is returned -/
theorem tie_calls_File :
    Extracted.C20.calls_File =
      [("os.ReadFile", ["filename"], "return-err"),
       ("bytes.NewBuffer", ["nil"], "ignored"),
       ("Source", ["data", "buffer"], "return-err"),
       ("os.WriteFile", ["filename", "buffer.Bytes()", "0666"], "returned"),
       ("buffer.Bytes", [], "returned")] := by rfl

/-- when the read and Source succeed, the effects of the model's `fileFormat` are the effectful calls of File, in its
order -/
theorem tie_calls_File_effects (src : String → SrcRes) (fs : FS) (name data out : String)
    (hr : fs.read name = some data) (hs : src data = .ok out) :
    ((fileFormat src fs name).2.2.map fun e => match e with
      | .read _ => "os.ReadFile" | .source _ => "Source" | .write _ _ => "os.WriteFile") =
    (Extracted.C20.calls_File.filter fun c => c.2.2 ≠ "ignored" ∧ c.1 ≠ "buffer.Bytes").map (·.1) := by
  have hc : (Extracted.C20.calls_File.filter fun c => c.2.2 ≠ "ignored" ∧ c.1 ≠ "buffer.Bytes").map (·.1) =
      ["os.ReadFile", "Source", "os.WriteFile"] := by decide
  rw [hc]
  unfold fileFormat
  simp only [hr, hs]
  split <;> rfl

/-- format.Source: scanner check, parser over the SAME source, Parse, CheckErrors ends the function before Format,
Format writes to the caller's writer -/
theorem tie_calls_Source :
    Extracted.C20.calls_Source =
      [("scanner.NewScanner", ["\"\"", "source"], "return-err"),
       ("parser.New", ["\"\"", "source"], "ignored"),
       ("p.Parse", [], "ignored"),
       ("p.CheckErrors", [], "return-err"),
       ("result.Format", ["w"], "ignored")] ∨
    Extracted.C20.calls_Source =
      [("parser.New", ["\"\"", "source"], "ignored"),
       ("p.Parse", [], "ignored"),
       ("p.CheckErrors", [], "return-err"),
       ("result.Format", ["w"], "ignored")] := by
  first | exact Or.inl rfl | exact Or.inr rfl

/-! ### the package-level tables are constants (what the model's `httpMethods` / `keywords` assume) -/

/-- the only place where a package-level slice itself (not a copy) is handed to a callee: the route's http method -/
theorem tie_spreadSites :
    Extracted.C20.spreadSites = [("Parser.parseRouteStmt", "p.advanceIfPeekTokenIs(token.HttpMethods...)")] := by rfl

/-- NO function of parser / scanner / token / format / ast writes through a slice or variadic parameter (or a local alias
of one: `x := p[:0]; append(x, …)`, `p[i] = v`, copy, sort): whatever a spread site hands down stays as it was, so
token.HttpMethods is the same table for every call and every instance -/
theorem tie_no_param_writes : Extracted.C20.paramWrites = [] := by rfl

/-- the two facts side by side: there is no write through a parameter that a spread site could reach
(`tie_no_param_writes` again), and token.HttpMethods is the table of the model's `isMethod` (`tie_httpMethods` again) -/
theorem tie_tables_constant :
    (∀ site ∈ Extracted.C20.spreadSites, ∀ w ∈ Extracted.C20.paramWrites, False) ∧
    Extracted.C20.httpMethods = GoZero.C20.httpMethods := by
  refine ⟨?_, by rfl⟩
  intro _ _ w hw
  rw [tie_no_param_writes] at hw
  cases hw

end GoZero.C20.Tie
