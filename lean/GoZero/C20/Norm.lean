/-
C20 — what the formatter drops (`norm`): a statement is kept unchanged or, for a service, with normalised items
(`normStmt_some`), and a second pass keeps it (`normStmt_idem`).
-/
import GoZero.C20.Model
namespace GoZero.C20

theorem normBody_idem (b : Body) : normBody (normBody b) = normBody b := by
  cases b <;> rfl

theorem normDoc_idem (d : Doc) : normDoc (normDoc d) = normDoc d := by
  cases d with
  | none => rfl
  | lit s => by_cases h : isZero s = true <;> simp [normDoc, h]
  | group kvs => by_cases h : kvsEmpty kvs = true <;> simp [normDoc, h]

theorem normItem_idem (i : Item) : normItem (normItem i) = normItem i := by
  simp [normItem, normDoc_idem, normBody_idem]

theorem normStmt_some {s t : Stmt} (h : normStmt s = some t) :
    t = s ∨ ∃ a n api its, s = .service a n api its ∧
      t = .service (a.bind fun kvs => if skvsEmpty kvs then none else some kvs) n api (its.map normItem) := by
  cases s <;> simp only [normStmt] at h
  case service a n api its => cases h; cases a <;> exact .inr ⟨_, _, _, _, rfl, rfl⟩
  all_goals first | (cases h; exact .inl rfl) | (split at h <;> cases h; exact .inl rfl)

theorem normStmt_idem (s t : Stmt) (h : normStmt s = some t) : normStmt t = some t := by
  rcases normStmt_some h with rfl | ⟨a, n, api, its, rfl, rfl⟩
  · exact h
  · rcases a with _ | kvs
    · simp [normStmt, normItem_idem]
    · by_cases e : skvsEmpty kvs = true <;> simp [normStmt, e, normItem_idem]

end GoZero.C20
