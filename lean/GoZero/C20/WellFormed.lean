/-
C20 — well-formed ASTs: what the parser can produce (identifiers that are no Go keywords, `STRING`/`RAW` values, HTTP
methods, path segments that are not the word `returns`, …), one predicate per node type up to `wfStmt`; and the sizes
`szX`, the fuel the parser functions need to read a printed node back. The round-trip theorems take both as premises;
`parse_wf` shows that every AST of the parser model is well-formed. `parseDT` tests the text `any` before the kind of the
token: hence `t ≠ "any"` in `wfDT (.iface t)` and `wfDT (.base t)`.
-/
import GoZero.C20.Model
namespace GoZero.C20

mutual
  def szDT : DT → Nat
    | .base _ => 1
    | .any _ => 1
    | .iface _ => 1
    | .ptr d => szDT d + 1
    | .slice d => szDT d + 1
    | .arr _ d => szDT d + 1
    | .map k v => szDT k + szDT v + 1
    | .struct fs => szFields fs + 1
  def szFields : Fields → Nat
    | .nil => 1
    | .cons ns ty _ rest => szDT ty + szFields rest + ns.length + 1
end

def notStruct : DT → Prop
  | .struct _ => False
  | _ => True

theorem notStruct_iff (d : DT) : notStruct d ↔ ∀ fs, d ≠ .struct fs := by
  cases d <;> simp [notStruct]

/-- type of an anonymous (embedded) field -/
def anonOk : DT → Prop
  | .base t => t ≠ "any" ∧ isKw t = false
  | .any t => t = "any"
  | .ptr (.base t) => t ≠ "any"
  | .ptr (.any t) => t = "any"
  | _ => False

theorem anonOk_name (n : String) (h : isKw n = false) : anonOk (if n = "any" then .any n else .base n) := by
  split <;> simp [anonOk, *]

theorem anonOk_ptr_name (n : String) : anonOk (.ptr (if n = "any" then .any n else .base n)) := by
  split <;> simp [anonOk, *]

mutual
  def wfDT : DT → Prop
    | .base t => t ≠ "any" ∧ t ≠ "map" ∧ isKw t = false
    | .any t => t = "any"
    | .iface t => t ≠ "any"
    | .ptr d => wfDT d ∧ notStruct d
    | .slice d => wfDT d
    | .arr _ d => wfDT d
    | .map k v => wfDT k ∧ wfDT v
    | .struct fs => wfFields fs
  def wfFields : Fields → Prop
    | .nil => True
    | .cons [] ty _ rest => anonOk ty ∧ wfFields rest
    | .cons (n :: ns) ty _ rest => isKw n = false ∧ (∀ m ∈ ns, isKw m = false) ∧ wfDT ty ∧ wfFields rest
end

def wfTExpr (e : TExpr) : Prop := isKw e.name = false ∧ wfDT e.ty

def szTExprs : List TExpr → Nat
  | [] => 1
  | e :: r => szDT e.ty + szTExprs r + 1

def wfKV (kv : KV) : Prop := kv.vk = .STRING ∨ kv.vk = .RAW

def wfSeg (s : Seg) : Prop :=
  (s.hk = .IDENT ∨ s.hk = .INT) ∧ (s.colon = false → s.head ≠ "returns") ∧ ∀ x ∈ s.tail, x.1 = false → x.2 ≠ "returns"

def szSegs : List Seg → Nat
  | [] => 1
  | s :: r => s.tail.length + szSegs r + 2

def wfPath (p : Path) : Prop := (∀ s ∈ p.segs, wfSeg s) ∧ (p.segs ≠ [] ∨ p.trail = true)

def wfBody : Body → Prop
  | _ => True

def wfDoc : Doc → Prop
  | .group kvs => ∀ kv ∈ kvs, wfKV kv
  | _ => True

theorem wfDoc_group (kvs : List KV) : wfDoc (.group kvs) ↔ ∀ kv ∈ kvs, wfKV kv := by simp [wfDoc]

def szDoc : Doc → Nat
  | .group kvs => kvs.length + 1
  | _ => 0

def wfItem (i : Item) : Prop := wfDoc i.doc ∧ isMethod i.method = true ∧ wfPath i.path

def szItems : List Item → Nat
  | [] => 1
  | i :: r => szDoc i.doc + szSegs i.path.segs + szItems r + 1

def wfSVal : SVal → Prop
  | .lit k _ => k = .DURATION ∨ k = .INT ∨ k = .STRING
  | .commas _ r => r ≠ []
  | .dashes _ r => r ≠ []
  | _ => True

theorem wfSVal_lit (k : K) (s : String) : wfSVal (.lit k s) ↔ k = .DURATION ∨ k = .INT ∨ k = .STRING := by
  simp [wfSVal]

def szSVal : SVal → Nat
  | .lit _ _ => 0
  | .commas _ r => r.length + 1
  | .dashes _ r => r.length + 1
  | .slashed _ _ ss => ss.length + 1
  | .ident _ ss => ss.length + 1

def szSKVs : List SKV → Nat
  | [] => 1
  | kv :: r => szSVal kv.val + szSKVs r + 1

def szStmt : Stmt → Nat
  | .syntaxS _ => 1
  | .info kvs => kvs.length + 2
  | .importLit _ => 1
  | .importGroup vs => vs.length + 2
  | .typeLit e => szDT e.ty + 1
  | .typeGroup es => szTExprs es + 1
  | .service none _ _ its => szItems its + 1
  | .service (some kvs) _ _ its => szSKVs kvs + szItems its + 1

/-- well-formed statement: what the parser can produce -/
def wfStmt : Stmt → Prop
  | .syntaxS _ => True
  | .info kvs => ∀ kv ∈ kvs, wfKV kv
  | .importLit _ => True
  | .importGroup _ => True
  | .typeLit e => wfTExpr e
  | .typeGroup es => ∀ e ∈ es, wfTExpr e
  | .service at_ _ _ its => (∀ kvs, at_ = some kvs → ∀ kv ∈ kvs, wfSVal kv.val) ∧ (∀ i ∈ its, wfItem i)

theorem wfStmt_service (a : Option (List SKV)) (n : String) (api : Bool) (its : List Item) :
    wfStmt (.service a n api its) ↔ (∀ kvs, a = some kvs → ∀ kv ∈ kvs, wfSVal kv.val) ∧ ∀ i ∈ its, wfItem i := by
  simp [wfStmt]

def szApi : Api → Nat
  | [] => 0
  | s :: r => szStmt s + szApi r + 1

/-- a well-formed program: every statement is something the parser can produce (`wfStmt`: identifiers that are not
Go keywords, `STRING`/`RAW` values, HTTP methods, path segments that are not the word `returns`, ...) -/
def WF (a : Api) : Prop := ∀ s ∈ a, wfStmt s

end GoZero.C20
