/-
C20 — lemmas about the scanner model (Scan.lean): every function of the duration family returns a rest no longer than
its input, `NextToken` makes progress, the steps of `NextToken` behind the read-back of single tokens, and whole token
streams are read back as written. The property-level statements are in PropsScan.lean.
-/
import GoZero.C20.Scan
namespace GoZero.C20.Scan

def DRes.len : DRes → Nat
  | .dur r => r.length
  | .ill r => r.length

theorem DRes.len_eq (r : List Char) : (DRes.dur r).len = r.length ∧ (DRes.ill r).len = r.length := ⟨rfl, rfl⟩

theorem skipDigits_len (cs : List Char) : (skipDigits cs).length ≤ cs.length :=
  (List.dropWhile_sublist _).length_le

theorem tail_len (cs : List Char) : cs.tail.length ≤ cs.length := by simp

/-! The duration family: each function reads runes (`tail`), skips digits and hands over to the next one; along every
branch (`fun_cases`) the rest is what is left of these, so the bound is arithmetic over the bounds of the callees. -/

theorem scanNano_len (cs : List Char) : (scanNano cs).len ≤ cs.length := by
  have := tail_len cs
  have := tail_len cs.tail
  fun_cases scanNano cs <;> (try simp +zetaDelta only [DRes.len_eq]) <;> omega

theorem scanMicro_len (cs : List Char) : (scanMicro cs).len ≤ cs.length := by
  have := tail_len cs
  have := tail_len cs.tail
  have := skipDigits_len cs.tail.tail
  have := scanNano_len (skipDigits cs.tail.tail)
  fun_cases scanMicro cs <;> (try simp +zetaDelta only [DRes.len_eq]) <;> omega

theorem scanMilli_len (cs : List Char) : (scanMilli cs).len ≤ cs.length := by
  have := tail_len cs
  have := skipDigits_len cs.tail
  have := scanNano_len (skipDigits cs.tail)
  have := scanMicro_len (skipDigits cs.tail)
  fun_cases scanMilli cs <;> (try simp +zetaDelta only [DRes.len_eq]) <;> omega

theorem milliAfterM_len (cs : List Char) : (milliAfterM cs).len ≤ cs.length := by
  have := tail_len cs
  have := scanMilli_len cs.tail
  fun_cases milliAfterM cs <;> (try simp +zetaDelta only [DRes.len_eq]) <;> omega

theorem scanSecond_len (cs : List Char) : (scanSecond cs).len ≤ cs.length := by
  have := tail_len cs
  have := skipDigits_len cs.tail
  have := scanNano_len (skipDigits cs.tail)
  have := scanMicro_len (skipDigits cs.tail)
  have := milliAfterM_len (skipDigits cs.tail)
  fun_cases scanSecond cs <;> (try simp +zetaDelta only [DRes.len_eq]) <;> omega

theorem scanMinute_len (cs : List Char) : (scanMinute cs).len ≤ cs.length := by
  have := skipDigits_len cs
  have := scanNano_len (skipDigits cs)
  have := scanMicro_len (skipDigits cs)
  have := milliAfterM_len (skipDigits cs)
  have := scanSecond_len (skipDigits cs)
  fun_cases scanMinute cs <;> (try simp +zetaDelta only [DRes.len_eq]) <;> omega

theorem scanMilliOrMinute_len (cs : List Char) : (scanMilliOrMinute cs).len ≤ cs.length := by
  have := tail_len cs
  have := scanMinute_len cs.tail
  have := scanMilli_len cs.tail
  fun_cases scanMilliOrMinute cs <;> (try simp +zetaDelta only [DRes.len_eq]) <;> omega

theorem scanHour_len (cs : List Char) : (scanHour cs).len ≤ cs.length := by
  have := tail_len cs
  have := skipDigits_len cs.tail
  have := scanNano_len (skipDigits cs.tail)
  have := scanMicro_len (skipDigits cs.tail)
  have := scanMilliOrMinute_len (skipDigits cs.tail)
  have := scanSecond_len (skipDigits cs.tail)
  fun_cases scanHour cs <;> (try simp +zetaDelta only [DRes.len_eq]) <;> omega

theorem scanDuration_len (cs : List Char) : (scanDuration cs).len ≤ cs.length := by
  have := scanNano_len cs
  have := scanMicro_len cs
  have := scanMilliOrMinute_len cs
  have := scanSecond_len cs
  have := scanHour_len cs
  fun_cases scanDuration cs <;> (try simp +zetaDelta only [DRes.len_eq]) <;> omega

/-- `res`, as a result of `NextToken` on `cs`, has read something if it is a token — or it is the ILLEGAL `@` that
`scanAt` returns, without reading it, for an `@` in front of the end (or of a NUL rune). -/
def Progress (cs : List Char) (res : Res) : Prop :=
  ∀ k t rest, res = .tok k t rest →
    rest.length < cs.length ∨ (k = .tok .ILLEGAL ∧ rest = cs ∧ (cur cs).toNat = 64 ∧ isNul (peek cs) = true)

theorem Progress.of_lt {cs rest : List Char} {k : RK} {t : List Char} (h : rest.length < cs.length) :
    Progress cs (.tok k t rest) := by
  rintro _ _ _ ⟨⟩; exact .inl h

theorem Progress.err (cs : List Char) : Progress cs .err := nofun

theorem exists_cons {cs : List Char} (h : ¬isNul (cur cs) = true) : ∃ c r, cs = c :: r := by
  cases cs with
  | nil => exact absurd rfl h
  | cons c r => exact ⟨c, r, rfl⟩

theorem dropWhile_cons_lt {p : Char → Bool} {c : Char} (r : List Char) (h : p c = true) :
    ((c :: r).dropWhile p).length < (c :: r).length := by
  rw [List.dropWhile_cons_of_pos h]
  exact Nat.lt_succ_of_le (List.dropWhile_sublist p).length_le

theorem docBody_len (b : Bool) (cs rest : List Char) : docBody b cs = some rest → rest.length < cs.length + 1 := by
  fun_induction docBody b cs <;> intro h <;> (first | cases h | (have := ‹_ → _› h)) <;> simp <;> omega

theorem strBody_len (d : Char) (cs rest : List Char) : strBody d cs = some rest → rest.length < cs.length + 1 := by
  fun_induction strBody d cs <;> intro h <;> (first | cases h | (have := ‹_ → _› h)) <;> simp <;> omega

theorem scanNumber_progress (c : Char) (r : List Char) (hd : isDigit c = true) :
    Progress (c :: r) (scanNumber (c :: r)) := by
  have h1 : (skipDigits (c :: r)).length < (c :: r).length := dropWhile_cons_lt r hd
  have h2 := scanDuration_len (skipDigits (c :: r))
  fun_cases scanNumber (c :: r)
  · rw [‹scanDuration _ = _›, (DRes.len_eq _).1] at h2; exact .of_lt (by omega)
  · rw [‹scanDuration _ = _›, (DRes.len_eq _).2] at h2; exact .of_lt (Nat.lt_of_le_of_lt (tail_len _) (by omega))
  · exact .of_lt h1

theorem scanIdent_progress (c : Char) (r : List Char) (hd : isIdL c = true) :
    Progress (c :: r) (scanIdent (c :: r)) := by
  have hl : ((c :: r).dropWhile fun c => isIdL c || isDigit c).length < (c :: r).length :=
    dropWhile_cons_lt r (by simp [hd])
  fun_cases scanIdent (c :: r) <;> refine .of_lt ?_ <;> simp +zetaDelta only [List.length_drop] <;> omega

theorem scanAt_progress (c : Char) (r : List Char) (hd : (c.toNat == 64) = true) :
    Progress (c :: r) (scanAt (c :: r)) := by
  have hl : (r.dropWhile isLetter).length ≤ r.length := (List.dropWhile_sublist _).length_le
  fun_cases scanAt (c :: r)
  · rintro _ _ _ ⟨⟩; exact .inr ⟨rfl, rfl, by simpa [cur] using hd, ‹_›⟩
  · exact .err _
  · exact .of_lt (Nat.lt_succ_of_le hl)
  · exact .of_lt (Nat.lt_succ_of_le hl)
  · exact .of_lt (Nat.lt_succ_of_le hl)
  · exact .err _

theorem lineComment_lt (c : Char) (r : List Char) (h0 : ¬isNul c = true) (h : (c.toNat == 47) = true) :
    (lineComment (c :: r)).2.length < (c :: r).length := by
  simp only [lineComment]
  exact dropWhile_cons_lt r (by simp_all)

theorem next_progress (cs : List Char) : Progress cs (next cs) := by
  fun_cases next cs
  all_goals try obtain ⟨c, r, rfl⟩ := exists_cons ‹_›
  · nofun                                         -- the end
  · exact .of_lt (Nat.lt_succ_self _)             -- a NUL rune inside: ILLEGAL
  · exact .of_lt (lineComment_lt c r ‹_› ‹_›)     -- `//`
  · have := docBody_len _ _ _ ‹_›                 -- `/* … */`
    exact .of_lt (by simp at this ⊢; omega)
  · exact .err _                                  -- `/*` never closed
  · exact .of_lt (Nat.lt_succ_self _)             -- `/`
  · exact .of_lt (Nat.lt_succ_self _)             -- `.`
  · exact .of_lt (by simp +zetaDelta; omega)      -- `..`: the second dot
  · exact .of_lt (by simp; omega)                 -- `...`
  · exact scanAt_progress c r ‹_›                 -- `@`
  · exact .of_lt (strBody_len _ _ _ ‹_›)          -- string, raw string
  · exact .err _                                  -- never closed
  · exact .of_lt (Nat.lt_succ_self _)             -- single-rune tokens
  · exact scanIdent_progress c r ‹_›
  · exact scanNumber_progress c r ‹_›
  · exact .of_lt (Nat.lt_succ_self _)             -- any other rune: ILLEGAL

def stopsAt (p : Char → Bool) (r : List Char) : Prop := ∀ c r', r = c :: r' → p c = false

theorem takeWhile_app (p : Char → Bool) (w r : List Char) (hw : ∀ c ∈ w, p c = true) (hr : stopsAt p r) :
    (w ++ r).takeWhile p = w ∧ (w ++ r).dropWhile p = r := by
  induction w with
  | nil => cases r with
    | nil => simp
    | cons c r' => simp [hr c r' rfl]
  | cons a w ih => simp_all

def identChar (c : Char) : Bool := isIdL c || isDigit c

theorem cur_cons (c : Char) (r : List Char) : cur (c :: r) = c := rfl

theorem consumed_app (w r : List Char) : consumed (w ++ r) r = w := by
  simp [consumed]

/-- a letter, `_` or digit reaches the default case of `NextToken`'s switch: identifier, number or ILLEGAL -/
theorem next_identChar (c : Char) (r : List Char) (h : identChar c = true) :
    next (c :: r) = if isIdL c then scanIdent (c :: r) else if isDigit c then scanNumber (c :: r) else illegal (c :: r) := by
  have hs : single c = none := by
    simp only [identChar, isIdL, isLetter, isDigit, Bool.or_eq_true, Bool.and_eq_true, decide_eq_true_eq, beq_iff_eq] at h
    unfold single; split <;> first | rfl | (exfalso; omega)
  have hn : ∀ n, n < 48 ∨ n = 64 ∨ n = 96 → (c.toNat == n) = false := by
    simp only [identChar, isIdL, isLetter, isDigit, Bool.or_eq_true, Bool.and_eq_true, decide_eq_true_eq, beq_iff_eq] at h
    intro n hn; simp; omega
  simp [next, cur_cons, isNul, hn, hs]
  rfl

theorem digit_not_idL {c : Char} (h : isDigit c = true) : isIdL c = false := by
  simp only [isDigit, Bool.and_eq_true, decide_eq_true_eq] at h
  simp [isIdL, isLetter]; omega

theorem skipDigits_app (ds r : List Char) (hds : ∀ x ∈ ds, isDigit x = true) (hr : stopsAt isDigit r) :
    skipDigits (ds ++ r) = r :=
  (takeWhile_app isDigit ds r hds hr).2

theorem scanDuration_unit (u r : List Char)
    (hu : u = ['s'] ∨ u = ['h'] ∨ u = ['m', 's'] ∨ u = ['n', 's'] ∨ u = [Char.ofNat 181, 's'] ∨
          (u = ['m'] ∧ (cur r).toNat ≠ 115))
    (hf : isDigit (cur r) = false) :
    scanDuration (u ++ r) = .dur r ∧ isDurStart (cur (u ++ r)) = true ∧ stopsAt isDigit (u ++ r) := by
  rcases hu with rfl | rfl | rfl | rfl | rfl | ⟨rfl, hm⟩ <;>
    refine ⟨?_, by simp only [List.cons_append, cur_cons]; decide, fun c r' e => by cases e; decide⟩ <;>
    simp [scanDuration, scanSecond, scanHour, scanMilliOrMinute, scanMilli, scanNano, scanMicro, cur_cons, *]

theorem strBody_app (d : Char) : ∀ (w r : List Char), (∀ x ∈ w, x ≠ d ∧ isNul x = false) → strBody d (w ++ d :: r) = some r
  | [], r, _ => by simp [strBody]
  | a :: w, r, h => by
    have ha := h a (by simp)
    have ih := strBody_app d w r (fun x hx => h x (by simp [hx]))
    simp [strBody, ha.1, ha.2, ih]

theorem scanLoop_step (f l : Nat) (sep : Char) (k : RK) (w rest : List Char) (acc : List RTok)
    (hs : isWS sep = true) (hw : ∃ c w', w = c :: w' ∧ isWS c = false) (hn : next (w ++ rest) = .tok k w rest) :
    scanLoop (f + 1) l (sep :: (w ++ rest)) acc =
      scanLoop f (l + if sep.toNat == 10 then 1 else 0) rest
        ({ k := k, text := w, line := l + if sep.toNat == 10 then 1 else 0 } :: acc) := by
  obtain ⟨c, w', rfl, hc⟩ := hw
  have hsk : skipWS (sep :: (c :: w' ++ rest)) = ((if sep.toNat == 10 then 1 else 0), c :: w' ++ rest) := by
    simp [skipWS, hs, hc]
  have hl : rest.length < (c :: w' ++ rest).length := by simp; omega
  simp only [scanLoop, hsk, hn, hl, ite_true]

def sepOk (r : List Char) : Prop := r = [] ∨ ∃ r', r = ' ' :: r'

/-- `w` is read as the token `(k, w)` in front of a blank or the end -/
def Reads (k : RK) (w : List Char) : Prop :=
  (∃ c w', w = c :: w' ∧ isWS c = false) ∧ ∀ r, sepOk r → next (w ++ r) = .tok k w r

def render : List (RK × List Char) → List Char
  | [] => []
  | t :: ts => ' ' :: (t.2 ++ render ts)

theorem render_sepOk (ts : List (RK × List Char)) : sepOk (render ts) := by
  cases ts with
  | nil => exact Or.inl rfl
  | cons t ts => exact Or.inr ⟨_, rfl⟩

theorem scanLoop_render : ∀ (ts : List (RK × List Char)) (f : Nat) (acc : List RTok),
    (∀ t ∈ ts, Reads t.1 t.2) → (render ts).length + 1 ≤ f →
    scanLoop f 1 (render ts) acc = .ok (acc.reverse ++ ts.map fun t => { k := t.1, text := t.2, line := 1 })
  | [], f + 1, acc, _, _ => by simp [render, scanLoop, skipWS, next, cur, isNul]
  | (k, w) :: ts, f + 1, acc, h, hf => by
    have hr := h (k, w) (by simp)
    have e : (1 + if (' '.toNat == 10) = true then 1 else 0 : Nat) = 1 := rfl
    rw [render, scanLoop_step f 1 ' ' k w _ acc (by decide) hr.1 (hr.2 _ (render_sepOk ts)), e,
      scanLoop_render ts f _ (fun t ht => h t (by simp [ht])) (by simp [render] at hf ⊢; omega)]
    simp

/-- a raw token as the formatter writes it: starts a new line?, kind, text -/
structure WTok where
  nl : Bool
  k  : K
  w  : List Char

def sepOk2 (r : List Char) : Prop := r = [] ∨ (∃ r', r = ' ' :: r') ∨ (∃ r', r = '\n' :: r')

/-- `w` is read as the token `(k, w)` in front of a blank, a line feed or the end -/
def Reads2 (k : K) (w : List Char) : Prop :=
  (∃ c w', w = c :: w' ∧ isWS c = false) ∧ ∀ r, sepOk2 r → next (w ++ r) = .tok (.tok k) w r

/-- the text: every token behind a blank, or behind a line feed if it starts a line -/
def layout : List WTok → List Char
  | [] => []
  | t :: ts => (if t.nl then '\n' else ' ') :: (t.w ++ layout ts)

theorem layout_sepOk2 (ts : List WTok) : sepOk2 (layout ts) := by
  cases ts with
  | nil => exact Or.inl rfl
  | cons t ts =>
    cases h : t.nl
    · exact Or.inr (Or.inl ⟨t.w ++ layout ts, by simp [layout, h]⟩)
    · exact Or.inr (Or.inr ⟨t.w ++ layout ts, by simp [layout, h]⟩)

/-- the raw tokens with the lines the scanner gives them -/
def withLines : Nat → List WTok → List RTok
  | _, [] => []
  | l, t :: ts => { k := .tok t.k, text := t.w, line := l + (if t.nl then 1 else 0) } :: withLines (l + (if t.nl then 1 else 0)) ts

theorem scanLoop_layout : ∀ (ts : List WTok) (f l : Nat) (acc : List RTok),
    (∀ t ∈ ts, Reads2 t.k t.w) → (layout ts).length + 1 ≤ f →
    scanLoop f l (layout ts) acc = .ok (acc.reverse ++ withLines l ts)
  | [], f + 1, l, acc, _, _ => by simp [layout, scanLoop, skipWS, next, cur, isNul, withLines]
  | t :: ts, f + 1, l, acc, h, hf => by
    have hr := h t (by simp)
    have e : (if (if t.nl then '\n' else ' ').toNat == 10 then 1 else 0 : Nat) = if t.nl then 1 else 0 := by
      cases t.nl <;> rfl
    rw [layout, scanLoop_step f l _ _ t.w _ acc (by cases t.nl <;> decide) hr.1 (hr.2 _ (layout_sepOk2 ts)), e,
      scanLoop_layout ts f _ _ (fun t' ht => h t' (by simp [ht])) (by simp [layout] at hf ⊢; omega)]
    simp [withLines]

def toTok (t : WTok) : Tok := { k := t.k, s := String.ofList t.w, nl := t.nl, cm := false }

theorem noCm (l x : Nat) (ts : List WTok) :
    (match withLines l ts with
      | n :: _ => (n.k == RK.comment || n.k == RK.document) && n.line == x
      | [] => false) = false := by
  cases ts <;> simp [withLines]

theorem toToks_withLines : ∀ (ts : List WTok) (l : Nat), toToks l (withLines l ts) = ts.map toTok
  | [], _ => rfl
  | t :: ts, l => by
    have ih := toToks_withLines ts (l + if t.nl then 1 else 0)
    cases hnl : t.nl <;> simp_all [withLines, toToks, toTok] <;> exact noCm ..

end GoZero.C20.Scan
