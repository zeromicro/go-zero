/-
C20 — token-level model of goctl's `.api` parser and formatter
(tools/goctl/pkg/parser/api/{parser/parser.go, ast/*.go}).

* `Tok`     : what the parser sees of a scanner token: kind, text, whether it starts on a later line than the
              previous token (`nl`, the only use the parser makes of positions: `parseElemExpr`), and whether a
              comment follows it on its own line (`cm`, only used by `parsePathExpr`).
* `Api`     : the AST (token texts only; comments are layout).
* `parse`   : the recursive-descent parser, function by function as in parser.go (`none` = an error is reported).
* `norm`    : what the `Format` methods drop (statements without content, empty `()` bodies).
* `print`   : the token stream the `Format` methods write (one statement / field / route per line).
Core Lean only.
-/
namespace GoZero.C20

inductive K
  | ILLEGAL | IDENT | INT | DURATION | STRING | RAW | SUB | MUL | QUO | ASSIGN
  | LPAREN | LBRACK | LBRACE | COMMA | DOT | RPAREN | RBRACE | RBRACK | SEMICOLON | COLON | ELLIPSIS
  | AT_DOC | AT_HANDLER | AT_SERVER | ANY | OTHER
  deriving DecidableEq, Repr, Inhabited

structure Tok where
  k  : K
  s  : String
  nl : Bool := false
  cm : Bool := false
  deriving DecidableEq, Repr, Inhabited

/-- token.go `keywords` (the Go keywords; `LookupKeyword`). -/
def keywords : List String :=
  ["break", "case", "chan", "const", "continue", "default", "defer", "else", "fallthrough", "for",
   "func", "go", "goto", "if", "import", "interface", "map", "package", "range", "return",
   "select", "struct", "switch", "type", "var"]

def isKw (s : String) : Bool := keywords.contains s

/-- token.go `HttpMethods`. -/
def httpMethods : List String := ["get", "head", "post", "put", "patch", "delete", "connect", "options", "trace"]

def isMethod (s : String) : Bool := httpMethods.contains s

/-! ### AST -/

mutual
  inductive DT
    | base (t : String)
    | any (t : String)
    | iface (t : String)
    | ptr (d : DT)
    | slice (d : DT)
    | arr (len : Option String) (d : DT)      -- `none` = `[...]`
    | map (k v : DT)
    | struct (fs : Fields)
  inductive Fields
    | nil
    | cons (names : List String) (ty : DT) (tag : Option String) (rest : Fields)
end

structure KV where
  key : String
  vk  : K            -- STRING or RAW
  val : String
  deriving DecidableEq, Repr

/-- one `/`-segment of a route path: `[:]head(-ident | ident)*` -/
structure Seg where
  colon : Bool
  hk    : K          -- IDENT or INT
  head  : String
  tail  : List (Bool × String)     -- (preceded by `-`, ident)
  deriving DecidableEq, Repr

structure Path where
  segs  : List Seg
  trail : Bool       -- a final `/`
  deriving DecidableEq, Repr

inductive Body
  | absent
  | empty
  | expr (arr star : Bool) (v : String)
  deriving DecidableEq, Repr

/-- value of an `@server` key -/
inductive SVal
  | lit (k : K) (s : String)                                         -- DURATION / INT / STRING
  | commas (a : String) (rest : List String)                         -- a,b,c   (rest ≠ [])
  | dashes (a : String) (rest : List String)                         -- a-b-c   (rest ≠ [])
  | slashed (a : String) (b : Option String) (segs : List (String × Option String))   -- /a[-b](/c[-d])*
  | ident (a : String) (segs : List (String × Option String))        -- a(/c[-d])*
  deriving DecidableEq, Repr

structure SKV where
  key : String
  val : SVal
  deriving DecidableEq, Repr

inductive Doc
  | none
  | lit (s : String)
  | group (kvs : List KV)
  deriving DecidableEq, Repr

structure Item where
  doc     : Doc
  handler : String
  method  : String
  path    : Path
  req     : Body
  resp    : Body
  deriving DecidableEq, Repr

structure TExpr where
  name   : String
  assign : Bool
  ty     : DT

inductive Stmt
  | syntaxS (v : String)
  | info (kvs : List KV)
  | importLit (v : String)
  | importGroup (vs : List String)
  | typeLit (e : TExpr)
  | typeGroup (es : List TExpr)
  | service (atServer : Option (List SKV)) (name : String) (api : Bool) (items : List Item)

abbrev Api := List Stmt

/-! ### Parser (parser.go). Every function takes the not yet consumed tokens (head = `peekTok`). -/

def stopsPath (t : Tok) : Bool :=
  t.k == .LPAREN || t.s == "returns" || t.k == .AT_DOC || t.k == .AT_HANDLER || t.k == .SEMICOLON || t.k == .RBRACE

/-- end of `parseElemExpr`: `notExpectPeekToken(RAW_STRING, MUL, IDENT, RBRACE)` and the optional tag -/
def fieldTail : List Tok → Option (Option String × List Tok)
  | [] => none
  | q :: r =>
    if q.k = .RAW then some (some q.s, r)
    else if q.k = .MUL ∨ q.k = .IDENT ∨ q.k = .RBRACE then some (none, q :: r)
    else none

/-- `p.peekTok.Line() > identNode.Token.Line() || p.peekTokenIs(token.RAW_STRING)`: the identifier is an embedded field -/
def anonNext : List Tok → Bool
  | [] => false
  | p :: _ => p.nl || p.k == .RAW

/-- `notExpectPeekToken(COMMA, IDENT, LBRACK, ANY, MUL, LBRACE)` after a field name -/
def namedNext : List Tok → Bool
  | [] => false
  | p :: _ => p.k == .COMMA || p.k == .IDENT || p.k == .LBRACK || p.k == .ANY || p.k == .MUL || p.k == .LBRACE

mutual
  /-- `parseDataType` -/
  def parseDT : Nat → List Tok → Option (DT × List Tok)
    | 0, _ => none
    | _, [] => none
    | f + 1, t :: r =>
      if t.s = "any" then some (.any t.s, r)
      else match t.k with
        | .LBRACE =>
          match parseFields f r with
          | some (fs, { k := .RBRACE, .. } :: r') => some (.struct fs, r')
          | _ => none
        | .IDENT =>
          if t.s = "map" then
            match r with
            | { k := .LBRACK, .. } :: r1 =>
              match parseDT f r1 with
              | some (kd, { k := .RBRACK, .. } :: r2) =>
                match parseDT f r2 with
                | some (vd, r3) => some (.map kd vd, r3)
                | none => none
              | _ => none
            | _ => none
          else if isKw t.s then none
          else some (.base t.s, r)
        | .LBRACK =>
          match r with
          | { k := .RBRACK, .. } :: r1 =>
            match parseDT f r1 with
            | some (d, r2) => some (.slice d, r2)
            | none => none
          | { k := .INT, s := n, .. } :: { k := .RBRACK, .. } :: r1 =>
            match parseDT f r1 with
            | some (d, r2) => some (.arr (some n) d, r2)
            | none => none
          | { k := .ELLIPSIS, .. } :: { k := .RBRACK, .. } :: r1 =>
            match parseDT f r1 with
            | some (d, r2) => some (.arr none d, r2)
            | none => none
          | _ => none
        | .ANY => some (.iface t.s, r)
        | .MUL =>
          match r with
          | p :: _ =>
            if p.k = .IDENT ∨ p.k = .LBRACK ∨ p.k = .ANY ∨ p.k = .MUL then
              match parseDT f r with
              | some (d, r1) => some (.ptr d, r1)
              | none => none
            else none
          | [] => none
        | _ => none
  /-- `parseElemExprList` + `parseElemExpr`: stops in front of the closing `}`. -/
  def parseFields : Nat → List Tok → Option (Fields × List Tok)
    | 0, _ => none
    | _, [] => none
    | f + 1, t :: r =>
      if t.k = .RBRACE then some (.nil, t :: r)
      else if t.k = .MUL then
        -- anonymous pointer field
        match r with
        | { k := .IDENT, s := n, .. } :: r1 =>
          match fieldTail r1 with
          | some (tag, r2) =>
            match parseFields f r2 with
            | some (rest, r3) => some (.cons [] (.ptr (if n = "any" then .any n else .base n)) tag rest, r3)
            | none => none
          | none => none
        | _ => none
      else if t.k = .IDENT then
        if isKw t.s then none
        else if anonNext r then
          -- anonymous field
          match fieldTail r with
          | some (tag, r2) =>
            match parseFields f r2 with
            | some (rest, r3) => some (.cons [] (if t.s = "any" then .any t.s else .base t.s) tag rest, r3)
            | none => none
          | none => none
        else if namedNext r then
          match parseNames f r with
          | some (more, r1) =>
            match parseDT f r1 with
            | some (ty, r2) =>
              match fieldTail r2 with
              | some (tag, r3) =>
                match parseFields f r3 with
                | some (rest, r4) => some (.cons (t.s :: more) ty tag rest, r4)
                | none => none
              | none => none
            | none => none
          | none => none
        else none
      else none
  /-- the `for p.peekTokenIs(token.COMMA)` loop of `parseElemExpr` -/
  def parseNames : Nat → List Tok → Option (List String × List Tok)
    | 0, _ => none
    | f + 1, { k := .COMMA, .. } :: { k := .IDENT, s := n, .. } :: r =>
      if isKw n then none
      else match parseNames f r with
        | some (ns, r') => some (n :: ns, r')
        | none => none
    | _ + 1, { k := .COMMA, .. } :: _ => none
    | _ + 1, ts => some ([], ts)
end

/-- `parseTypeExpr` -/
def parseTExpr (f : Nat) : List Tok → Option (TExpr × List Tok)
  | { k := .IDENT, s := n, .. } :: r =>
    if isKw n then none
    else match r with
      | { k := .ASSIGN, .. } :: r1 =>
        match parseDT f r1 with
        | some (d, r2) => some ({ name := n, assign := true, ty := d }, r2)
        | none => none
      | _ =>
        match parseDT f r with
        | some (d, r2) => some ({ name := n, assign := false, ty := d }, r2)
        | none => none
  | _ => none

/-- `parseTypeExprList`: stops in front of `)`. -/
def parseTExprs : Nat → List Tok → Option (List TExpr × List Tok)
  | 0, _ => none
  | _, [] => none
  | f + 1, t :: r =>
    if t.k = .RPAREN then some ([], t :: r)
    else if t.k = .IDENT then
      match parseTExpr (f + 1) (t :: r) with
      | some (e, r1) =>
        match parseTExprs f r1 with
        | some (es, r2) => some (e :: es, r2)
        | none => none
      | none => none
    else none

/-- `parseKVExpression` loop of info / @doc groups: stops in front of `)`. -/
def parseKVs : Nat → List Tok → Option (List KV × List Tok)
  | 0, _ => none
  | _, [] => none
  | f + 1, t :: r =>
    if t.k = .RPAREN then some ([], t :: r)
    else match t :: r with
      | { k := .IDENT, s := key, .. } :: { k := .COLON, .. } :: v :: r1 =>
        if v.k = .STRING ∨ v.k = .RAW then
          match r1 with
          | q :: _ =>
            if q.k = .RPAREN ∨ q.k = .IDENT then
              match parseKVs f r1 with
              | some (kvs, r2) => some ({ key := key, vk := v.k, val := v.s } :: kvs, r2)
              | none => none
            else none
          | [] => none
        else none
      | _ => none

/-- import group values: stops in front of `)`. -/
def parseImports : Nat → List Tok → Option (List String × List Tok)
  | 0, _ => none
  | _, [] => none
  | f + 1, t :: r =>
    if t.k = .RPAREN then some ([], t :: r)
    else if t.k = .STRING then
      match r with
      | q :: _ =>
        if q.k = .RPAREN ∨ q.k = .STRING then
          match parseImports f r with
          | some (vs, r1) => some (t.s :: vs, r1)
          | none => none
        else none
      | [] => none
    else none

/-- `(/ IDENT [- IDENT])*` of `parseAtServerKVExpression` -/
def parseSlashSegs : Nat → List Tok → Option (List (String × Option String) × List Tok)
  | 0, _ => none
  | f + 1, { k := .QUO, .. } :: { k := .IDENT, s := a, .. } :: { k := .SUB, .. } :: { k := .IDENT, s := b, .. } :: r =>
    match parseSlashSegs f r with
    | some (ss, r') => some ((a, some b) :: ss, r')
    | none => none
  | _ + 1, { k := .QUO, .. } :: { k := .IDENT, .. } :: { k := .SUB, .. } :: _ => none
  | f + 1, { k := .QUO, .. } :: { k := .IDENT, s := a, .. } :: r =>
    match parseSlashSegs f r with
    | some (ss, r') => some ((a, none) :: ss, r')
    | none => none
  | _ + 1, { k := .QUO, .. } :: _ => none
  | _ + 1, ts => some ([], ts)

/-- `(sep IDENT)*` for sep = COMMA / SUB -/
def parseSepIdents (sep : K) : Nat → List Tok → Option (List String × List Tok)
  | 0, _ => none
  | f + 1, t :: r =>
    if t.k = sep then
      match r with
      | { k := .IDENT, s := a, .. } :: r1 =>
        match parseSepIdents sep f r1 with
        | some (xs, r2) => some (a :: xs, r2)
        | none => none
      | _ => none
    else some ([], t :: r)
  | _ + 1, [] => some ([], [])

/-- value part of `parseAtServerKVExpression` -/
def parseSVal (f : Nat) : List Tok → Option (SVal × List Tok)
  | [] => none
  | t :: r =>
    match t.k with
    | .QUO =>
      match r with
      | { k := .IDENT, s := a, .. } :: { k := .SUB, .. } :: { k := .IDENT, s := b, .. } :: r1 =>
        match parseSlashSegs f r1 with
        | some (ss, r2) => some (.slashed a (some b) ss, r2)
        | none => none
      | { k := .IDENT, .. } :: { k := .SUB, .. } :: _ => none
      | { k := .IDENT, s := a, .. } :: r1 =>
        match parseSlashSegs f r1 with
        | some (ss, r2) => some (.slashed a none ss, r2)
        | none => none
      | _ => none
    | .DURATION => some (.lit .DURATION t.s, r)
    | .INT => some (.lit .INT t.s, r)
    | .STRING => some (.lit .STRING t.s, r)
    | .IDENT =>
      match r with
      | { k := .COMMA, .. } :: _ =>
        match parseSepIdents .COMMA f r with
        | some (xs, r1) => some (.commas t.s xs, r1)
        | none => none
      | { k := .SUB, .. } :: _ =>
        match parseSepIdents .SUB f r with
        | some (xs, r1) => some (.dashes t.s xs, r1)
        | none => none
      | _ =>
        match parseSlashSegs f r with
        | some (ss, r1) => some (.ident t.s ss, r1)
        | none => none
    | _ => none

/-- key/value loop of `parseAtServerStmt`: stops in front of `)`. -/
def parseSKVs : Nat → List Tok → Option (List SKV × List Tok)
  | 0, _ => none
  | _, [] => none
  | f + 1, t :: r =>
    if t.k = .RPAREN then some ([], t :: r)
    else match t :: r with
      | { k := .IDENT, s := key, .. } :: { k := .COLON, .. } :: r1 =>
        match parseSVal f r1 with
        | some (v, r2) =>
          match r2 with
          | q :: _ =>
            if q.k = .RPAREN ∨ q.k = .IDENT then
              match parseSKVs f r2 with
              | some (kvs, r3) => some ({ key := key, val := v } :: kvs, r3)
              | none => none
            else none
          | [] => none
        | none => none
      | _ => none

/-- the loop of `parsePathItem` after the first IDENT/INT -/
def parseSegTail : Nat → List Tok → Option (List (Bool × String) × List Tok)
  | 0, _ => none
  | _ + 1, [] => some ([], [])
  | f + 1, t :: r =>
    if t.k = .QUO ∨ stopsPath t then some ([], t :: r)
    else if t.k = .SUB then
      match r with
      | { k := .IDENT, s := a, .. } :: r1 =>
        match parseSegTail f r1 with
        | some (xs, r2) => some ((true, a) :: xs, r2)
        | none => none
      | _ => none
    else if t.k = .IDENT then
      match parseSegTail f r with
      | some (xs, r2) => some ((false, t.s) :: xs, r2)
      | none => none
    else none

/-- `parsePathExpr` (with the empty-path check): segments until a token that ends the path. -/
def parseSegs : Nat → List Tok → Option (List Seg × Bool × List Tok)
  | 0, _ => none
  | _, [] => none
  | f + 1, t :: r =>
    if stopsPath t then some ([], false, t :: r)
    else if t.k = .QUO then
      match r with
      | [] => none
      | p :: r1 =>
        if stopsPath p then some ([], true, p :: r1)
        else if t.cm then none
        else
          let go (colon : Bool) (h : Tok) (rest : List Tok) : Option (List Seg × Bool × List Tok) :=
            if h.k = .IDENT ∨ h.k = .INT then
              match parseSegTail f rest with
              | some (tl, r2) =>
                match r2 with
                | q :: _ =>
                  if q.k = .QUO ∨ stopsPath q then
                    match parseSegs f r2 with
                    | some (ss, tr, r3) => some ({ colon := colon, hk := h.k, head := h.s, tail := tl } :: ss, tr, r3)
                    | none => none
                  else none
                | [] => none
              | none => none
            else none
          if p.k = .COLON then
            match r1 with
            | h :: r2 => go true h r2
            | [] => none
          else go false p r1
    else none

def parsePath (f : Nat) (ts : List Tok) : Option (Path × List Tok) :=
  match parseSegs f ts with
  | some (ss, tr, r) => if ss.isEmpty && !tr then none else some ({ segs := ss, trail := tr }, r)
  | none => none

/-- `parseBodyStmt` (peek is `(`) -/
def parseBody : List Tok → Option (Body × List Tok)
  | { k := .LPAREN, .. } :: { k := .RPAREN, .. } :: r => some (.empty, r)
  | { k := .LPAREN, .. } :: { k := .LBRACK, .. } :: { k := .RBRACK, .. } :: { k := .MUL, .. } :: { k := .IDENT, s := v, .. } :: { k := .RPAREN, .. } :: r =>
    some (.expr true true v, r)
  | { k := .LPAREN, .. } :: { k := .LBRACK, .. } :: { k := .RBRACK, .. } :: { k := .IDENT, s := v, .. } :: { k := .RPAREN, .. } :: r =>
    some (.expr true false v, r)
  | { k := .LPAREN, .. } :: { k := .MUL, .. } :: { k := .IDENT, s := v, .. } :: { k := .RPAREN, .. } :: r =>
    some (.expr false true v, r)
  | { k := .LPAREN, .. } :: { k := .IDENT, s := v, .. } :: { k := .RPAREN, .. } :: r =>
    some (.expr false false v, r)
  | _ => none

def endsRoute (t : Tok) : Bool := t.k == .AT_DOC || t.k == .AT_HANDLER || t.k == .RBRACE

/-- the part of `parseRouteStmt` after the path -/
def parseRouteTail : List Tok → Option (Body × Body × List Tok)
  | [] => none
  | t :: r =>
    if endsRoute t then some (.absent, .absent, t :: r)
    else if t.k = .SEMICOLON then some (.absent, .absent, r)
    else if t.s = "returns" ∨ t.k = .LPAREN then
      let reqR : Option (Body × List Tok) :=
        if t.k = .LPAREN then parseBody (t :: r) else some (.absent, t :: r)
      match reqR with
      | none => none
      | some (req, r1) =>
        match r1 with
        | [] => none
        | u :: r2 =>
          if u.s = "returns" then
            match parseBody r2 with
            | some (resp, r3) =>
              match r3 with
              | { k := .SEMICOLON, .. } :: r4 => some (req, resp, r4)
              | _ => some (req, resp, r3)
            | none => none
          else if endsRoute u then some (req, .absent, r1)
          else if u.k = .SEMICOLON then some (req, .absent, r2)
          else none
    else none

/-- optional `@doc` of `parseServiceItemStmt` -/
def parseDoc (f : Nat) : List Tok → Option (Doc × List Tok)
  | { k := .AT_DOC, .. } :: { k := .STRING, s := v, .. } :: r => some (.lit v, r)
  | { k := .AT_DOC, .. } :: { k := .LPAREN, .. } :: r =>
    match parseKVs f r with
    | some (kvs, { k := .RPAREN, .. } :: r1) => some (.group kvs, r1)
    | _ => none
  | { k := .AT_DOC, .. } :: _ => none
  | ts => some (.none, ts)

/-- `parseServiceItemsStmt`: stops in front of `}`. -/
def parseItems : Nat → List Tok → Option (List Item × List Tok)
  | 0, _ => none
  | _, [] => none
  | f + 1, t :: r =>
    if t.k = .RBRACE then some ([], t :: r)
    else match parseDoc f (t :: r) with
      | none => none
      | some (doc, r1) =>
        match r1 with
        | { k := .AT_HANDLER, .. } :: { k := .IDENT, s := h, .. } :: m :: r2 =>
          if isMethod m.s then
            match parsePath f r2 with
            | some (p, r3) =>
              match parseRouteTail r3 with
              | some (req, resp, r4) =>
                match r4 with
                | q :: _ =>
                  if endsRoute q then
                    match parseItems f r4 with
                    | some (its, r5) =>
                      some ({ doc := doc, handler := h, method := m.s, path := p, req := req, resp := resp } :: its, r5)
                    | none => none
                  else none
                | [] => none
              | none => none
            | none => none
          else none
        | _ => none

/-- `parseService` after the optional `@server (...)`: peek is `service`. -/
def parseServiceBody (f : Nat) (at_ : Option (List SKV)) : List Tok → Option (Stmt × List Tok)
  | sv :: { k := .IDENT, s := n, .. } :: r =>
    if sv.s = "service" then
      let nameR : Option (Bool × List Tok) :=
        match r with
        | { k := .SUB, .. } :: a :: r1 => if a.s = "api" then some (true, r1) else none
        | { k := .SUB, .. } :: [] => none
        | _ => some (false, r)
      match nameR with
      | some (api, { k := .LBRACE, .. } :: r1) =>
        match parseItems f r1 with
        | some (its, { k := .RBRACE, .. } :: r2) => some (.service at_ n api its, r2)
        | _ => none
      | _ => none
    else none
  | _ => none

/-- `parseStmt` -/
def parseStmt (f : Nat) : List Tok → Option (Stmt × List Tok)
  | [] => none
  | t :: r =>
    match t.k with
    | .IDENT =>
      if t.s = "syntax" then
        match r with
        | { k := .ASSIGN, .. } :: { k := .STRING, s := v, .. } :: r1 => some (.syntaxS v, r1)
        | _ => none
      else if t.s = "info" then
        match r with
        | { k := .LPAREN, .. } :: r1 =>
          match parseKVs f r1 with
          | some (kvs, { k := .RPAREN, .. } :: r2) => some (.info kvs, r2)
          | _ => none
        | _ => none
      else if t.s = "service" then parseServiceBody f none (t :: r)
      else if t.s = "type" then
        match r with
        | { k := .LPAREN, .. } :: r1 =>
          match parseTExprs f r1 with
          | some (es, { k := .RPAREN, .. } :: r2) => some (.typeGroup es, r2)
          | _ => none
        | { k := .IDENT, .. } :: _ =>
          match parseTExpr f r with
          | some (e, r1) => some (.typeLit e, r1)
          | none => none
        | _ => none
      else if t.s = "import" then
        match r with
        | { k := .LPAREN, .. } :: r1 =>
          match parseImports f r1 with
          | some (vs, { k := .RPAREN, .. } :: r2) => some (.importGroup vs, r2)
          | _ => none
        | { k := .STRING, s := v, .. } :: r1 => some (.importLit v, r1)
        | _ => none
      else none
    | .AT_SERVER =>
      match r with
      | { k := .LPAREN, .. } :: r1 =>
        match parseSKVs f r1 with
        | some (kvs, { k := .RPAREN, .. } :: r2) => parseServiceBody f (some kvs) r2
        | _ => none
      | _ => none
    | _ => none

def parseStmts : Nat → List Tok → Option Api
  | _, [] => some []
  | 0, _ => none
  | f + 1, ts =>
    match parseStmt (f + 1) ts with
    | some (s, r) =>
      match parseStmts f r with
      | some ss => some (s :: ss)
      | none => none
    | none => none

/-- `Parser.Parse` + `CheckErrors`: `none` iff an error is reported. The fuel only bounds the recursion depth of the
model functions (the real parser has none); twice the number of tokens is enough for every program the printer
writes (`szApi_le_len` / `parseStmts_print` in RoundTripStmt.lean) and is validated for all other inputs by the correspondence. -/
def parse (ts : List Tok) : Option Api := parseStmts (2 * ts.length + 2) ts

/-! ### What `Format` drops (`norm`) -/

def isZero (s : String) : Bool := s == "\"\"" || s == "``"

def kvsEmpty (kvs : List KV) : Bool := kvs.all fun kv => isZero kv.val

def svalText : SVal → String
  | .lit _ s => s
  | .commas a r => a ++ String.join (r.map ("," ++ ·))
  | .dashes a r => a ++ String.join (r.map ("-" ++ ·))
  | .slashed a b ss => "/" ++ a ++ (match b with | some b => "-" ++ b | none => "") ++
      String.join (ss.map fun (c, d) => "/" ++ c ++ (match d with | some d => "-" ++ d | none => ""))
  | .ident a ss => a ++ String.join (ss.map fun (c, d) => "/" ++ c ++ (match d with | some d => "-" ++ d | none => ""))

def skvsEmpty (kvs : List SKV) : Bool := kvs.all fun kv => isZero (svalText kv.val)

def normBody : Body → Body
  | .empty => .absent
  | b => b

def normDoc : Doc → Doc
  | .lit s => if isZero s then .none else .lit s
  | .group kvs => if kvsEmpty kvs then .none else .group kvs
  | .none => .none

def normItem (i : Item) : Item :=
  { i with doc := normDoc i.doc, req := normBody i.req, resp := normBody i.resp }

/-- `none` = the statement formats to the empty string and is skipped by `AST.Format`. -/
def normStmt : Stmt → Option Stmt
  | .syntaxS v => some (.syntaxS v)
  | .info kvs => if kvsEmpty kvs then none else some (.info kvs)
  | .importLit v => if isZero v then none else some (.importLit v)
  | .importGroup vs => if vs.all isZero then none else some (.importGroup vs)
  | .typeLit e => some (.typeLit e)
  | .typeGroup es => if es.isEmpty then none else some (.typeGroup es)
  | .service at_ n api its =>
    let at' := match at_ with
      | some kvs => if skvsEmpty kvs then none else some kvs
      | none => none
    some (.service at' n api (its.map normItem))

def norm (a : Api) : Api := a.filterMap normStmt

/-! ### Printer: the tokens written by the `Format` methods -/

def tk (k : K) (s : String) (nl : Bool := false) : Tok := { k := k, s := s, nl := nl }

def markNl : List Tok → List Tok
  | [] => []
  | t :: r => { t with nl := true } :: r

def printNames : List String → List Tok
  | [] => []
  | n :: ns => tk .COMMA "," :: tk .IDENT n :: printNames ns

mutual
  def printDT : DT → List Tok
    | .base t => [tk .IDENT t]
    | .any t => [tk .IDENT t]
    | .iface t => [tk .ANY t]
    | .ptr d => tk .MUL "*" :: printDT d
    | .slice d => tk .LBRACK "[" :: tk .RBRACK "]" :: printDT d
    | .arr (some n) d => tk .LBRACK "[" :: tk .INT n :: tk .RBRACK "]" :: printDT d
    | .arr none d => tk .LBRACK "[" :: tk .ELLIPSIS "..." :: tk .RBRACK "]" :: printDT d
    | .map k v => tk .IDENT "map" :: tk .LBRACK "[" :: (printDT k ++ tk .RBRACK "]" :: printDT v)
    | .struct .nil => [tk .LBRACE "{", tk .RBRACE "}"]
    | .struct fs => tk .LBRACE "{" :: (printFields fs ++ [tk .RBRACE "}" true])
  def printFields : Fields → List Tok
    | .nil => []
    | .cons [] ty tag rest =>
      markNl (printDT ty) ++ (match tag with | some g => [tk .RAW g] | none => []) ++ printFields rest
    | .cons (n :: ns) ty tag rest =>
      tk .IDENT n true :: (printNames ns ++ printDT ty ++ (match tag with | some g => [tk .RAW g] | none => []) ++ printFields rest)
end

def printTExpr (e : TExpr) : List Tok :=
  tk .IDENT e.name :: ((if e.assign then [tk .ASSIGN "="] else []) ++ printDT e.ty)

def printKVs : List KV → List Tok
  | [] => []
  | kv :: r => tk .IDENT kv.key true :: tk .COLON ":" :: tk kv.vk kv.val :: printKVs r

def printSlashSegs : List (String × Option String) → List Tok
  | [] => []
  | (a, none) :: r => tk .QUO "/" :: tk .IDENT a :: printSlashSegs r
  | (a, some b) :: r => tk .QUO "/" :: tk .IDENT a :: tk .SUB "-" :: tk .IDENT b :: printSlashSegs r

def printSepIdents (k : K) (s : String) : List String → List Tok
  | [] => []
  | a :: r => tk k s :: tk .IDENT a :: printSepIdents k s r

def printSVal : SVal → List Tok
  | .lit k s => [tk k s]
  | .commas a r => tk .IDENT a :: printSepIdents .COMMA "," r
  | .dashes a r => tk .IDENT a :: printSepIdents .SUB "-" r
  | .slashed a none ss => tk .QUO "/" :: tk .IDENT a :: printSlashSegs ss
  | .slashed a (some b) ss => tk .QUO "/" :: tk .IDENT a :: tk .SUB "-" :: tk .IDENT b :: printSlashSegs ss
  | .ident a ss => tk .IDENT a :: printSlashSegs ss

def printSKVs : List SKV → List Tok
  | [] => []
  | kv :: r => tk .IDENT kv.key true :: tk .COLON ":" :: (printSVal kv.val ++ printSKVs r)

def printSegTail : List (Bool × String) → List Tok
  | [] => []
  | (true, a) :: r => tk .SUB "-" :: tk .IDENT a :: printSegTail r
  | (false, a) :: r => tk .IDENT a :: printSegTail r

def printSegs : List Seg → List Tok
  | [] => []
  | s :: r => tk .QUO "/" :: ((if s.colon then [tk .COLON ":"] else []) ++ tk s.hk s.head :: (printSegTail s.tail ++ printSegs r))

def printPath (p : Path) : List Tok := printSegs p.segs ++ (if p.trail then [tk .QUO "/"] else [])

def printBodyExpr : Body → List Tok
  | .absent => []
  | .empty => [tk .LPAREN "(", tk .RPAREN ")"]
  | .expr arr star v =>
    tk .LPAREN "(" :: ((if arr then [tk .LBRACK "[", tk .RBRACK "]"] else []) ++ (if star then [tk .MUL "*"] else []) ++
      [tk .IDENT v, tk .RPAREN ")"])

def printDoc : Doc → List Tok
  | .none => []
  | .lit s => [tk .AT_DOC "@doc" true, tk .STRING s]
  | .group kvs => tk .AT_DOC "@doc" true :: tk .LPAREN "(" :: (printKVs kvs ++ [tk .RPAREN ")" true])

def printItem (i : Item) : List Tok :=
  printDoc i.doc ++ tk .AT_HANDLER "@handler" true :: tk .IDENT i.handler :: tk .IDENT i.method true ::
    (printPath i.path ++ printBodyExpr i.req ++
      (match i.resp with
       | .absent => []
       | b => tk .IDENT "returns" :: printBodyExpr b))

def printItems : List Item → List Tok
  | [] => []
  | i :: r => printItem i ++ printItems r

def printTExprs : List TExpr → List Tok
  | [] => []
  | e :: r => markNl (printTExpr e) ++ printTExprs r

def printImports : List String → List Tok
  | [] => []
  | v :: r => tk .STRING v true :: printImports r

def printStmt : Stmt → List Tok
  | .syntaxS v => [tk .IDENT "syntax" true, tk .ASSIGN "=", tk .STRING v]
  | .info kvs => tk .IDENT "info" true :: tk .LPAREN "(" :: (printKVs kvs ++ [tk .RPAREN ")" true])
  | .importLit v => [tk .IDENT "import" true, tk .STRING v]
  | .importGroup vs => tk .IDENT "import" true :: tk .LPAREN "(" :: (printImports vs ++ [tk .RPAREN ")" true])
  | .typeLit e => tk .IDENT "type" true :: printTExpr e
  | .typeGroup es => tk .IDENT "type" true :: tk .LPAREN "(" :: (printTExprs es ++ [tk .RPAREN ")" true])
  | .service at_ n api its =>
    (match at_ with
     | some kvs => tk .AT_SERVER "@server" true :: tk .LPAREN "(" :: (printSKVs kvs ++ [tk .RPAREN ")" true])
     | none => []) ++
    tk .IDENT "service" true :: tk .IDENT n :: ((if api then [tk .SUB "-", tk .IDENT "api"] else []) ++
      tk .LBRACE "{" :: (printItems its ++ [tk .RBRACE "}" (!its.isEmpty)]))

def print : Api → List Tok
  | [] => []
  | s :: r => printStmt s ++ print r

/-- the formatter at token level: `AST.Format` applied to the parse result -/
def format (a : Api) : List Tok := print (norm a)

end GoZero.C20
