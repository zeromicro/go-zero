/-
C20 — round trip of the type language: `parseX f (printX x ++ rest) = some (x, rest)` for well-formed data types,
struct fields, type expressions and type groups, given fuel for their size; and the bound of the size by the number of
printed tokens.
-/
import GoZero.C20.WellFormed
namespace GoZero.C20

theorem szDT_pos (d : DT) : 1 ≤ szDT d := by cases d <;> simp [szDT]
theorem szFields_pos (fs : Fields) : 1 ≤ szFields fs := by cases fs <;> simp [szFields]

/-- the first token of a printed type, as far as the parser functions test it -/
theorem printDT_head (d : DT) : ∃ q tl, printDT d = q :: tl ∧ q.nl = false ∧ q.k ≠ .RAW ∧ q.k ≠ .COMMA ∧
    (q.k = .IDENT ∨ q.k = .LBRACK ∨ q.k = .ANY ∨ q.k = .MUL ∨ q.k = .LBRACE) ∧ (notStruct d → q.k ≠ .LBRACE) := by
  rcases d with _ | _ | _ | _ | _ | ⟨_ | _, _⟩ | _ | ⟨_ | _⟩ <;>
    exact ⟨_, _, rfl, rfl, nofun, nofun, by simp [tk], nofun⟩

theorem printFields_head (fs : Fields) (c : Tok) (rest : List Tok) (hw : wfFields fs)
    (hc : c.k = .RBRACE ∧ c.nl = true) :
    ∃ q tl, printFields fs ++ c :: rest = q :: tl ∧ q.nl = true ∧ (q.k = .MUL ∨ q.k = .IDENT ∨ q.k = .RBRACE) := by
  match fs, hw with
  | .nil, _ => exact ⟨c, rest, rfl, hc.2, .inr (.inr hc.1)⟩
  | .cons (n :: ns) .., _ => exact ⟨_, _, rfl, rfl, .inr (.inl rfl)⟩
  | .cons [] (.base t) .., _ => exact ⟨_, _, rfl, rfl, .inr (.inl rfl)⟩
  | .cons [] (.any t) .., _ => exact ⟨_, _, rfl, rfl, .inr (.inl rfl)⟩
  | .cons [] (.ptr d) .., _ => exact ⟨_, _, rfl, rfl, .inl rfl⟩

/-- of the four patterns of `parseNames` the last applies: the others want `f + 1 = 0` or a comma -/
theorem parseNames_stop (f : Nat) (q : Tok) (tl : List Tok) (hq : q.k ≠ .COMMA) :
    parseNames (f + 1) (q :: tl) = some ([], q :: tl) := by
  unfold parseNames
  split <;> (try rfl) <;> rename_i h <;> cases h <;> exact absurd rfl hq

theorem parseNames_print (ns : List String) : ∀ (f : Nat) (q : Tok) (tl : List Tok),
    (∀ m ∈ ns, isKw m = false) → ns.length + 1 ≤ f → q.k ≠ .COMMA →
    parseNames f (printNames ns ++ q :: tl) = some (ns, q :: tl) := by
  induction ns with
  | nil => rintro (_ | f) q tl _ hf hq; · simp at hf
           exact parseNames_stop f q tl hq
  | cons n ns ih =>
    rintro (_ | f) q tl hk hf hq; · simp at hf
    have ih' := ih f q tl (fun m hm => hk m (by simp [hm])) (by simp at hf; omega) hq
    simp [parseNames, printNames, tk, hk n (by simp), ih']

def tagToks : Option String → List Tok
  | some g => [tk .RAW g]
  | none => []

theorem fieldTail_print (tag : Option String) (q : Tok) (tl : List Tok)
    (hq : q.k = .MUL ∨ q.k = .IDENT ∨ q.k = .RBRACE) :
    fieldTail (tagToks tag ++ q :: tl) = some (tag, q :: tl) := by
  cases tag with
  | some g => simp [tagToks, fieldTail, tk]
  | none =>
    have h : q.k ≠ .RAW := by rcases hq with h | h | h <;> simp [h]
    simp [tagToks, fieldTail, h, hq]

theorem printFields_cons_nil (ty : DT) (tag : Option String) (rest : Fields) :
    printFields (.cons [] ty tag rest) = markNl (printDT ty) ++ tagToks tag ++ printFields rest := by
  cases tag <;> simp [printFields, tagToks]

theorem printFields_cons_cons (n : String) (ns : List String) (ty : DT) (tag : Option String) (rest : Fields) :
    printFields (.cons (n :: ns) ty tag rest)
      = tk .IDENT n true :: (printNames ns ++ printDT ty ++ tagToks tag ++ printFields rest) := by
  cases tag <;> simp [printFields, tagToks]

/-- The round trip of data types and field lists, by induction on the fuel (the recursion of the parser); the
structure of the type is looked at one level deep, the parts are smaller, so the hypothesis for `f` covers them. -/
theorem parseDT_print_aux (f : Nat) :
    (∀ (d : DT) (rest : List Tok), wfDT d → szDT d ≤ f → parseDT f (printDT d ++ rest) = some (d, rest)) ∧
    (∀ (fs : Fields) (c : Tok) (rest : List Tok), wfFields fs → szFields fs ≤ f → (c.k = .RBRACE ∧ c.nl = true) →
      parseFields f (printFields fs ++ c :: rest) = some (fs, c :: rest)) := by
  induction f with
  | zero =>
    exact ⟨fun d _ _ hf => absurd (szDT_pos d) (by omega), fun fs _ _ _ hf _ => absurd (szFields_pos fs) (by omega)⟩
  | succ f ih =>
    obtain ⟨ihD, ihF⟩ := ih
    refine ⟨fun d rest hw hf => ?_, fun fs c rest hw hf hc => ?_⟩
    · cases d with
      | base t =>
        simp [parseDT, printDT, tk, hw.1, hw.2.1, hw.2.2]
      | any t =>
        subst hw
        simp [parseDT, printDT, tk]
      | iface t =>
        simp only [wfDT] at hw
        simp [parseDT, printDT, tk, hw]
      | ptr d =>
        have ih := ihD d rest hw.1 (by simp [szDT] at hf; omega)
        obtain ⟨q, tl, hq, _, _, _, hk, hns⟩ := printDT_head d
        have hk' : q.k = .IDENT ∨ q.k = .LBRACK ∨ q.k = .ANY ∨ q.k = .MUL := by
          have := hns hw.2
          simp_all
        rw [hq] at ih
        simp only [printDT, List.cons_append, hq] at ih ⊢
        simp [parseDT, tk, hk', ih]
      | slice d =>
        have ih := ihD d rest hw (by simp [szDT] at hf; omega)
        simp [parseDT, printDT, tk, ih]
      | arr n d =>
        have ih := ihD d rest hw (by simp [szDT] at hf; omega)
        cases n <;> simp [parseDT, printDT, tk, ih]
      | map k v =>
        have ihk := ihD k (tk .RBRACK "]" :: (printDT v ++ rest)) hw.1 (by simp [szDT] at hf; omega)
        have ihv := ihD v rest hw.2 (by simp [szDT] at hf; omega)
        simp [parseDT, printDT, tk] at ihk ⊢
        simp [ihk, ihv]
      | struct fs =>
        cases fs with
        | nil =>
          cases f with
          | zero => simp [szDT, szFields] at hf
          | succ f => simp [parseDT, printDT, tk, parseFields]
        | cons ns ty tag r =>
          have ih := ihF _ (tk .RBRACE "}" true) rest hw (by simp [szDT] at hf; omega) ⟨rfl, rfl⟩
          simp [parseDT, printDT, tk] at ih ⊢
          simp [ih]
    · match fs, hw with
      | .nil, _ => simp [parseFields, printFields, hc.1]
      | .cons [] ty tag r, hw =>
        have ih := ihF r c rest hw.2 (by simp [szFields] at hf; omega) hc
        obtain ⟨q, tl, hq, hnl, hk⟩ := printFields_head r c rest hw.2 hc
        have ft := fieldTail_print tag q tl hk
        have hnext : anonNext (tagToks tag ++ q :: tl) = true := by
          cases tag <;> simp [tagToks, anonNext, tk, hnl]
        rw [hq] at ih
        rw [printFields_cons_nil]
        match ty, hw.1 with
        | .base t, hw1 =>
          simp [printDT, markNl, tk, List.append_assoc, hq, parseFields, hw1.1, hw1.2, hnext, ft, ih]
        | .any t, hw1 =>
          subst hw1
          simp [printDT, markNl, tk, List.append_assoc, hq, parseFields, isKw, keywords, hnext, ft, ih]
        | .ptr (.base t), (hw1 : t ≠ "any") =>
          simp [printDT, markNl, tk, List.append_assoc, hq, parseFields, hw1, ft, ih]
        | .ptr (.any t), hw1 =>
          subst hw1
          simp [printDT, markNl, tk, List.append_assoc, hq, parseFields, ft, ih]
      | .cons (n :: ns) ty tag r, hw =>
        obtain ⟨hn, hns, hty, hr⟩ := hw
        have ih := ihF r c rest hr (by simp [szFields] at hf; omega) hc
        obtain ⟨q, tl, hq, hnl, hk⟩ := printFields_head r c rest hr hc
        have ft := fieldTail_print tag q tl hk
        rw [hq] at ih
        have ihd := ihD ty (tagToks tag ++ q :: tl) hty (by simp [szFields] at hf; omega)
        obtain ⟨p, ptl, hp, hpnl, hpraw, hpcomma, hpk, _⟩ := printDT_head ty
        rw [hp] at ihd
        simp only [List.cons_append] at ihd
        have hnames := parseNames_print ns f p (ptl ++ (tagToks tag ++ q :: tl)) hns
          (by simp [szFields] at hf; omega) hpcomma
        rw [printFields_cons_cons]
        simp only [List.cons_append, List.append_assoc, hq, hp]
        have hanon : anonNext (printNames ns ++ p :: (ptl ++ (tagToks tag ++ q :: tl))) = false := by
          cases ns <;> simp [printNames, anonNext, tk, hpnl, hpraw]
        have hnamed : namedNext (printNames ns ++ p :: (ptl ++ (tagToks tag ++ q :: tl))) = true := by
          cases ns with
          | nil =>
            simp only [printNames, List.nil_append, namedNext]
            rcases hpk with h | h | h | h | h <;> simp [h]
          | cons m ms => simp [printNames, namedNext, tk]
        simp [parseFields, tk, hn, hanon, hnamed, hnames, ihd, ft, ih]

theorem parseDT_print (d : DT) (f : Nat) (rest : List Tok) : wfDT d → szDT d ≤ f →
    parseDT f (printDT d ++ rest) = some (d, rest) :=
  (parseDT_print_aux f).1 d rest

theorem parseFields_print (fs : Fields) (f : Nat) (c : Tok) (rest : List Tok) : wfFields fs → szFields fs ≤ f →
    (c.k = .RBRACE ∧ c.nl = true) → parseFields f (printFields fs ++ c :: rest) = some (fs, c :: rest) :=
  (parseDT_print_aux f).2 fs c rest

theorem markNl_printTExpr (e : TExpr) :
    markNl (printTExpr e) = tk .IDENT e.name true :: ((if e.assign then [tk .ASSIGN "="] else []) ++ printDT e.ty) := by
  simp [printTExpr, markNl, tk]

theorem parseTExpr_nl (f : Nat) (ts : List Tok) : parseTExpr f (markNl ts) = parseTExpr f ts := by
  rcases ts with _ | ⟨⟨k, s, nl, cm⟩, r⟩
  · rfl
  · cases k <;> rfl

theorem parseTExpr_print (e : TExpr) (f : Nat) (rest : List Tok) (hw : wfTExpr e) (hf : szDT e.ty ≤ f) :
    parseTExpr f (printTExpr e ++ rest) = some (e, rest) := by
  obtain ⟨n, as, ty⟩ := e
  obtain ⟨hn, hty⟩ := hw
  have ih := parseDT_print ty f rest hty hf
  cases as with
  | true => simp_all [parseTExpr, printTExpr, tk]
  | false =>
    -- without `=` the parser must see that the first token of the type is no `=`
    obtain ⟨⟨k, s, nl, cm⟩, tl, hq, _, _, _, hk, _⟩ := printDT_head ty
    rw [hq] at ih
    rcases hk with h | h | h | h | h <;> cases h <;> simp_all [parseTExpr, printTExpr, tk]

theorem parseTExpr_markNl (e : TExpr) (f : Nat) (rest : List Tok) (hw : wfTExpr e) (hf : szDT e.ty ≤ f) :
    parseTExpr f (markNl (printTExpr e) ++ rest) = some (e, rest) := by
  rw [show markNl (printTExpr e) ++ rest = markNl (printTExpr e ++ rest) from rfl, parseTExpr_nl]
  exact parseTExpr_print e f rest hw hf

theorem printTExprs_head (es : List TExpr) (c : Tok) (rest : List Tok) (hc : c.k = .RPAREN) :
    ∃ q tl, printTExprs es ++ c :: rest = q :: tl ∧ (q.k = .RPAREN ∨ q.k = .IDENT) := by
  cases es with
  | nil => exact ⟨c, rest, rfl, .inl hc⟩
  | cons e r => exact ⟨_, _, rfl, .inr rfl⟩

theorem parseTExprs_print (es : List TExpr) : ∀ (f : Nat) (c : Tok) (rest : List Tok),
    (∀ e ∈ es, wfTExpr e) → szTExprs es ≤ f → c.k = .RPAREN →
    parseTExprs f (printTExprs es ++ c :: rest) = some (es, c :: rest) := by
  induction es with
  | nil =>
    rintro (_ | f) c rest _ hf hc
    · simp [szTExprs] at hf
    simp [parseTExprs, printTExprs, hc]
  | cons e r ih =>
    rintro (_ | f) c rest hw hf hc
    · simp [szTExprs] at hf
    have ih' := ih f c rest (fun x hx => hw x (by simp [hx])) (by simp [szTExprs] at hf; omega) hc
    have h1 := parseTExpr_markNl e (f + 1) (printTExprs r ++ c :: rest) (hw e (by simp))
      (by simp [szTExprs] at hf; omega)
    simp only [printTExprs, markNl_printTExpr, List.cons_append, List.append_assoc] at h1 ⊢
    simp [parseTExprs, tk] at h1 ⊢
    simp [h1, ih']

/-! The fuel `parse` starts with, twice the number of tokens, covers the size of every printed type. -/

theorem markNl_length (l : List Tok) : (markNl l).length = l.length := by
  cases l <;> rfl

theorem printNames_length (ns : List String) : (printNames ns).length = 2 * ns.length := by
  induction ns with
  | nil => rfl
  | cons m ms ih => simp [printNames, ih]; omega

mutual
  theorem szDT_le_len : ∀ d : DT, szDT d + 1 ≤ 2 * (printDT d).length
    | .base _ => by simp [szDT, printDT]
    | .any _ => by simp [szDT, printDT]
    | .iface _ => by simp [szDT, printDT]
    | .ptr d => by have := szDT_le_len d; simp [szDT, printDT]; omega
    | .slice d => by have := szDT_le_len d; simp [szDT, printDT]; omega
    | .arr (some _) d => by have := szDT_le_len d; simp [szDT, printDT]; omega
    | .arr none d => by have := szDT_le_len d; simp [szDT, printDT]; omega
    | .map k v => by
      have := szDT_le_len k; have := szDT_le_len v
      simp [szDT, printDT]; omega
    | .struct .nil => by simp [szDT, szFields, printDT]
    | .struct (.cons ns ty tag r) => by
      have := szFields_le_len (.cons ns ty tag r)
      simp [szDT, printDT] at *; omega
  theorem szFields_le_len : ∀ fs : Fields, szFields fs ≤ 2 * (printFields fs).length + 2
    | .nil => by simp [szFields, printFields]
    | .cons [] ty tag r => by
      have := szDT_le_len ty; have := szFields_le_len r
      rw [printFields_cons_nil]
      simp [szFields, markNl_length]; omega
    | .cons (n :: ns) ty tag r => by
      have := szDT_le_len ty; have := szFields_le_len r
      rw [printFields_cons_cons]
      simp [szFields, printNames_length]; omega
end

theorem szTExprs_le_len (es : List TExpr) : szTExprs es ≤ 2 * (printTExprs es).length + 1 := by
  induction es with
  | nil => simp [szTExprs, printTExprs]
  | cons e r ih =>
    have := szDT_le_len e.ty
    have hl : (printDT e.ty).length + 1 ≤ (printTExpr e).length := by
      simp [printTExpr]
    simp [szTExprs, printTExprs, markNl_length]; omega

end GoZero.C20
