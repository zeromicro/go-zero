/-
C20 — lemmas about the statement-level model of `AST.Format` (Layout.lean).
-/
import GoZero.C20.Layout
import GoZero.C20.Norm
namespace GoZero.C20.Layout

theorem visible_cons (s : St) (r : List St) :
    visible (s :: r) = if s.empty then visible r else s.k :: visible r := by
  cases h : s.empty <;> simp [visible, h]

/-- the look-ahead from the end of `pre` stops without a crash at the first written statement of `r`, or at the end -/
theorem skip_real (r : List St) : ∀ (pre : List St) (idx fuel : Nat), r.length + 1 ≤ fuel →
    ∃ n, skip real (pre ++ r) idx fuel pre.length = (n, false) ∧ ((pre ++ r)[n]?).map (·.k) = (visible r).head? := by
  induction r with
  | nil =>
    intro pre idx fuel hf
    cases fuel with
    | zero => simp at hf
    | succ f => exact ⟨pre.length, by simp [skip, real], by simp [visible]⟩
  | cons t r ih =>
    intro pre idx fuel hf
    cases fuel with
    | zero => simp at hf
    | succ f =>
      have hlt : pre.length < (pre ++ t :: r).length := by simp
      have hget : (pre ++ t :: r)[pre.length]? = some t := by simp
      rw [skip, visible_cons]
      simp only [real, hlt, decide_true, if_true, hget]
      cases he : t.empty with
      | true =>
        obtain ⟨n, h1, h2⟩ := ih (pre ++ [t]) idx f (by simp only [List.length_cons] at hf; omega)
        simp only [real, List.append_assoc, List.singleton_append, List.length_append, List.length_singleton] at h1 h2
        exact ⟨n, h1, h2⟩
      | false => exact ⟨pre.length, rfl, by simp⟩

theorem countNl_loop (g : Guards) (ss : List St) (r : List St) (idx : Nat) : countNl (loop g ss idx r) = 0 := by
  induction r generalizing idx with
  | nil => rfl
  | cons s r ih =>
    unfold loop
    cases h : s.empty
    · simp [countNl]
    · simpa using ih (idx + 1)

/-- what `after` writes behind a statement of kind `k` when the written statements behind it have the kinds `ks` -/
def sepEv : SK → List SK → List Ev
  | .comment, _ => []
  | .importLit, [] => []
  | .importLit, k' :: _ => if k' = .importLit then [] else [.nl]
  | _, _ => [.nl]

theorem specSep_cons (k : SK) (ks : List SK) : specSep (k :: ks) = (1 + (sepEv k ks).length) :: specSep ks := by
  cases k <;> cases ks <;> simp [specSep, sepEv] <;> split <;> rfl

theorem sepEv_nl (k : SK) (ks : List SK) : sepEv k ks = [] ∨ sepEv k ks = [.nl] := by
  cases k <;> cases ks <;> simp [sepEv, Decidable.em]

theorem after_real (pre : List St) (s : St) (r : List St) :
    after real (pre ++ s :: r) pre.length s.k = sepEv s.k (visible r) := by
  cases hk : s.k
  case importLit =>
    obtain ⟨n, hs, hg⟩ := skip_real r (pre ++ [s]) pre.length ((pre ++ s :: r).length + 1) (by simp; omega)
    unfold after
    simp only [List.append_assoc, List.singleton_append, List.length_append, List.length_cons, List.length_nil]
      at hs hg ⊢
    simp only [hs]
    -- `n` is inside the list exactly if something written follows
    cases hv : visible r with
    | nil =>
      have hn : ¬ n < pre.length + (r.length + 1) := by simpa [hv] using hg
      simp [real, sepEv, hn]
    | cons k ks =>
      obtain ⟨t, ht, rfl⟩ : ∃ t, (pre ++ s :: r)[n]? = some t ∧ t.k = k := by simpa [hv] using hg
      obtain ⟨hn, rfl⟩ := List.getElem?_eq_some_iff.1 ht
      have hn : n < pre.length + (r.length + 1) := by simpa using hn
      simp [real, sepEv, hn]
  all_goals rfl

theorem block_spec (i : Nat) (x rest : List Ev) (hx : x = [] ∨ x = [.nl]) (hr : countNl rest = 0) :
    seps (.stmt i :: .nl :: x ++ rest) = (1 + x.length) :: seps rest ∧
    crashes (.stmt i :: .nl :: x ++ rest) = crashes rest ∧
    written (.stmt i :: .nl :: x ++ rest) = i :: written rest := by
  rcases hx with rfl | rfl <;> simp [seps, countNl, crashes, written, hr]

/-- the loop, on the list split at the current index (the written indices are indices of the whole list) -/
theorem loop_spec (r : List St) : ∀ (pre : List St),
    seps (loop real (pre ++ r) pre.length r) = specSep (visible r) ∧
    crashes (loop real (pre ++ r) pre.length r) = false ∧
    written (loop real (pre ++ r) pre.length r) =
      (List.range' pre.length r.length).filter fun i => !((pre ++ r)[i]?.map (·.empty)).getD true := by
  induction r with
  | nil => intro pre; simp [loop, seps, specSep, visible, crashes, written]
  | cons s r ih =>
    intro pre
    have ih' := ih (pre ++ [s])
    simp only [List.append_assoc, List.singleton_append, List.length_append, List.length_singleton] at ih'
    obtain ⟨ih1, ih2, ih3⟩ := ih'
    have hget : (pre ++ s :: r)[pre.length]? = some s := by simp
    unfold loop
    rw [visible_cons, List.length_cons, List.range'_succ, List.filter_cons, hget]
    cases he : s.empty with
    | true => simpa [he] using ⟨ih1, ih2, ih3⟩
    | false =>
      obtain ⟨b1, b2, b3⟩ := block_spec pre.length _ (loop real (pre ++ s :: r) (pre.length + 1) r)
        (sepEv_nl s.k (visible r)) (countNl_loop ..)
      simp only [Bool.false_eq_true, after_real, specSep_cons, List.cons_append, Option.map_some, Option.getD_some,
        he, Bool.not_false, ↓reduceIte] at b1 b2 b3 ⊢
      exact ⟨by rw [b1, ih1], by rw [b2, ih2], by rw [b3, ih3]⟩

theorem kindOf_normStmt (s t : Stmt) (h : normStmt s = some t) : kindOf t = kindOf s := by
  rcases normStmt_some h with rfl | ⟨_, _, _, _, rfl, rfl⟩ <;> rfl

theorem visible_stOf (a : Api) : visible (a.map stOf) = (norm a).map kindOf := by
  induction a with
  | nil => rfl
  | cons s a ih =>
    rw [List.map_cons, visible_cons, ih]
    cases h : normStmt s with
    | none => simp [stOf, h, norm]
    | some t => simp [stOf, h, norm, kindOf_normStmt s t h]

end GoZero.C20.Layout
