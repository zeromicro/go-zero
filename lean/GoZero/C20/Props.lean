/-
C20 — property theorems, token level: the parser reads back what the formatter wrote (`parse_print`; per syntactic class
the `*_roundtrip` theorems), formatting keeps the API description and is idempotent on tokens (`parse_format` with
`norm_idempotent`: `format_correct` and its variants), for every well-formed program (`WF`, decidable: `wfApiB`) and, by
`parse_wf`, for every token stream the parser accepts (`*_parsed`).
Layout inside a statement (comments, alignment, textual idempotence) is tested by the driver, not proven.
-/
import GoZero.C20.Spec
import GoZero.C20.Norm
import GoZero.C20.WfDec
import GoZero.C20.RoundTripStmt
import GoZero.C20.ProofsInv
namespace GoZero.C20

/-- every data type: the parser reads back what the printer wrote, whatever follows -/
theorem datatype_roundtrip (d : DT) (f : Nat) (rest : List Tok) (hw : wfDT d) (hf : szDT d ≤ f) :
    parseDT f (printDT d ++ rest) = some (d, rest) :=
  parseDT_print d f rest hw hf

example : (parseDT 9 (printDT (.map (.base "string") (.slice (.ptr (.base "User")))) ++ [tk .RAW "`json:\"m\"`"])).map
      (fun x => (dumpDT x.1, x.2))
    = some (dumpDT (.map (.base "string") (.slice (.ptr (.base "User")))), [tk .RAW "`json:\"m\"`"]) := by decide

/-- every struct field list, in front of the closing brace on its own line -/
theorem struct_fields_roundtrip (fs : Fields) (f : Nat) (c : Tok) (rest : List Tok) (hw : wfFields fs)
    (hf : szFields fs ≤ f) (hc : c.k = .RBRACE ∧ c.nl = true) :
    parseFields f (printFields fs ++ c :: rest) = some (fs, c :: rest) :=
  parseFields_print fs f c rest hw hf hc

/-- named field, two names + tag, embedded field, embedded pointer, nested struct -/
def sampleFields : Fields :=
  .cons ["Id", "Uid"] (.base "int64") (some "`json:\"id\"`")
    (.cons [] (.base "Base") none
      (.cons [] (.ptr (.base "Meta")) none
        (.cons ["Inner"] (.struct (.cons ["A"] (.any "any") none .nil)) none .nil)))

example : (parseFields 20 (printFields sampleFields ++ [tk .RBRACE "}" true])).map (fun x => (dumpFields x.1, x.2))
    = some (dumpFields sampleFields, [tk .RBRACE "}" true]) := by
  decide +kernel

/-- the layout matters: the same tokens on one line are NOT an embedded field (the parser looks at line breaks) -/
example : (parseFields 20 [tk .IDENT "Base", tk .RBRACE "}"]).isNone = true := by decide

theorem type_expr_roundtrip (e : TExpr) (f : Nat) (rest : List Tok) (hn : isKw e.name = false) (hw : wfDT e.ty)
    (hf : szDT e.ty ≤ f) : parseTExpr f (printTExpr e ++ rest) = some (e, rest) :=
  parseTExpr_print e f rest ⟨hn, hw⟩ hf

/-- `type Name [=] T` as a statement: `parseStmt` reads back the declaration that `printStmt` wrote. -/
theorem type_decl_roundtrip (e : TExpr) (f : Nat) (rest : List Tok) (hn : isKw e.name = false)
    (hw : wfDT e.ty) (hf : szDT e.ty ≤ f) :
    parseStmt f (printStmt (.typeLit e) ++ rest) = some (.typeLit e, rest) :=
  parseStmt_typeLit e f rest ⟨hn, hw⟩ hf

example : (parse (print [.typeLit { name := "User", assign := false, ty := .struct sampleFields }])).map dump
    = some (dump [.typeLit { name := "User", assign := false, ty := .struct sampleFields }]) := by decide +kernel

/-- what the formatter drops is dropped once -/
theorem norm_idempotent (a : Api) : norm (norm a) = norm a := by
  induction a with
  | nil => rfl
  | cons s r ih =>
    unfold norm at *
    cases hs : normStmt s with
    | none => simp [hs, ih]
    | some t => simp [hs, normStmt_idem s t hs, ih]

/-- formatting the formatted AST writes the same tokens (every program, every statement kind) -/
theorem format_idempotent_tokens (a : Api) : format (norm a) = format a := by
  unfold format; rw [norm_idempotent]

/-- the parser reads back the AST whose tokens were printed -/
def RoundTrips (a : Api) : Prop := parse (print a) = some a

/-- a whole program (all statement kinds) on which `RoundTrips (norm a)` is checked by evaluation -/
def sampleApi : Api :=
  [.syntaxS "\"v1\"", .info [{ key := "title", vk := .STRING, val := "\"demo\"" }], .importLit "\"\"",
   .importGroup ["\"a.api\"", "\"b.api\""], .typeGroup [{ name := "Req", assign := false, ty := .struct sampleFields }],
   .service (some [{ key := "prefix", val := .slashed "v1" none [("user", some "api")] }, { key := "timeout", val := .lit .DURATION "3s" }])
     "user" true
     [{ doc := .lit "\"get user\"", handler := "getUser", method := "get",
        path := { segs := [{ colon := false, hk := .IDENT, head := "user", tail := [] }, { colon := true, hk := .IDENT, head := "id", tail := [(true, "x")] }], trail := false },
        req := .expr false false "Req", resp := .expr true true "Resp" },
      { doc := .none, handler := "ping", method := "post", path := { segs := [], trail := true }, req := .empty, resp := .absent }]]

example : (parse (print (norm sampleApi))).map dump = some (dump (norm sampleApi)) := by decide +kernel
example : (norm sampleApi).length + 1 = sampleApi.length := by decide

/-- every statement kind: `parseStmt` reads back the statement `printStmt` wrote, whatever follows
(syntax, info, import, import group, type, type group, service with @server / @doc / @handler / routes) -/
theorem statement_roundtrip (s : Stmt) (f : Nat) (rest : List Tok) (hw : wfStmt s) (hf : szStmt s ≤ f) :
    parseStmt f (printStmt s ++ rest) = some (s, rest) :=
  parseStmt_print s f rest hw hf

/-- route paths (`/a/:id-x/`), in front of any token that ends a path -/
theorem path_roundtrip (p : Path) (f : Nat) (c : Tok) (rest : List Tok) (hw : wfPath p) (hf : szSegs p.segs ≤ f)
    (hc : stopsPath c = true) : parsePath f (printPath p ++ c :: rest) = some (p, c :: rest) :=
  parsePath_print p f c rest hw hf hc

/-- service items: `[@doc] @handler h  METHOD path [(req)] [returns (resp)]`, in front of the closing brace -/
theorem service_items_roundtrip (its : List Item) (f : Nat) (c : Tok) (rest : List Tok) (hw : ∀ i ∈ its, wfItem i)
    (hf : szItems its ≤ f) (hc : c.k = .RBRACE ∧ c.s ≠ "returns") :
    parseItems f (printItems its ++ c :: rest) = some (its, c :: rest) :=
  parseItems_print its f c rest hw hf hc

/-- `@server` values: literals, `a,b`, `a-b`, `/a-b/c`, `a/b` -/
theorem atserver_value_roundtrip (v : SVal) (f : Nat) (c : Tok) (rest : List Tok) (hw : wfSVal v) (hf : szSVal v ≤ f)
    (hc : nextKV c) : parseSVal f (printSVal v ++ c :: rest) = some (v, c :: rest) :=
  parseSVal_print v f c rest hw hf hc

/-- the round trip, full statement language: the parser reads back exactly the AST whose tokens the formatter wrote -/
theorem parse_print (a : Api) (h : WF a) : parse (print a) = some a := by
  unfold parse
  exact parseStmts_print a _ h (by have := szApi_le_len a; omega)

theorem wf_roundTrips (a : Api) (h : WF a) : RoundTrips a := parse_print a h

theorem normDoc_wf (d : Doc) (h : wfDoc d) : wfDoc (normDoc d) := by
  cases d with
  | none => trivial
  | lit s => by_cases e : isZero s = true <;> simp [normDoc, e, wfDoc]
  | group kvs =>
    by_cases e : kvsEmpty kvs = true
    · simp [normDoc, e, wfDoc]
    · simp only [normDoc, e]; exact h

theorem normStmt_wf (s t : Stmt) (h : normStmt s = some t) (hw : wfStmt s) : wfStmt t := by
  rcases normStmt_some h with rfl | ⟨a, n, api, its, rfl, rfl⟩
  · exact hw
  · refine ⟨fun kvs hk => ?_, fun i hi => ?_⟩
    · rcases a with _ | k0
      · cases hk
      · simp only [Option.bind_some] at hk
        split at hk <;> cases hk
        exact hw.1 _ rfl
    · obtain ⟨j, hj, rfl⟩ := List.mem_map.mp hi
      exact ⟨normDoc_wf j.doc (hw.2 j hj).1, (hw.2 j hj).2⟩

/-- what the formatter keeps of a well-formed program is well-formed -/
theorem norm_wf (a : Api) (h : WF a) : WF (norm a) := by
  intro t ht
  obtain ⟨s, hs, hst⟩ := List.mem_filterMap.mp ht
  exact normStmt_wf s t hst (h s hs)

/-- what the formatter writes parses back to the normalised program: the statement behind the `format_*` theorems -/
theorem parse_format (a : Api) (h : WF a) : parse (format a) = some (norm a) :=
  parse_print (norm a) (norm_wf a h)

theorem sameDesc_norm (a : Api) : sameDesc a (norm a) = true := by
  simp [sameDesc, desc, norm_idempotent]

/-- both together, as the property states it: parse ∘ format is defined, keeps the description, and a second
formatting pass writes the same tokens -/
theorem format_correct (a : Api) (h : WF a) :
    ∃ b, parse (format a) = some b ∧ sameDesc a b = true ∧ format b = format a ∧ WF b :=
  ⟨norm a, parse_format a h, sameDesc_norm a, format_idempotent_tokens a, norm_wf a h⟩

/-- formatting preserves the description: for every well-formed program the
formatted tokens parse, to an AST with the same API description -/
theorem format_preserves_description_wf (a : Api) (h : WF a) :
    ∃ b, parse (format a) = some b ∧ sameDesc a b = true :=
  let ⟨b, h1, h2, _⟩ := format_correct a h
  ⟨b, h1, h2⟩

/-- and is a fixpoint: whatever the formatted tokens parse to is formatted to the same tokens again -/
theorem format_fixpoint_wf (a b : Api) (h : WF a) (hb : parse (format a) = some b) : format b = format a := by
  rw [parse_format a h] at hb
  cases hb
  exact format_idempotent_tokens a

/-- the same with the premise as the Boolean check `wfApiB` (by `parse_wfApiB` it holds of every parser output) -/
theorem format_correct_checked (a : Api) (h : wfApiB a = true) :
    ∃ b, parse (format a) = some b ∧ sameDesc a b = true ∧ format b = format a ∧ WF b :=
  format_correct a (wfApiB_sound a h)

/-- the sample program (all statement kinds, @server with a slashed value, paths with `:` and `-`) is well-formed:
the hypotheses of the theorems above are satisfiable by a non-trivial program -/
theorem sampleApi_wf : WF sampleApi := wfApiB_sound _ (by decide +kernel)

example : ∃ b, parse (format sampleApi) = some b ∧ sameDesc sampleApi b = true ∧ format b = format sampleApi ∧ WF b :=
  format_correct sampleApi sampleApi_wf


/-- inversion: every AST the parser model builds is well-formed -/
theorem parse_wf (ts : List Tok) (a : Api) (h : parse ts = some a) : WF a := parse_inv ts a h

/-- the round trip without premise: whatever the parser accepted is read back from the tokens the formatter writes -/
theorem parse_print_parsed (ts : List Tok) (a : Api) (h : parse ts = some a) : parse (print a) = some a :=
  parse_print a (parse_wf ts a h)

/-- the property, for every token stream the parser accepts: the formatted tokens parse, to the same API description,
and a second pass writes the same tokens -/
theorem format_correct_parsed (ts : List Tok) (a : Api) (h : parse ts = some a) :
    ∃ b, parse (format a) = some b ∧ sameDesc a b = true ∧ format b = format a ∧ WF b :=
  format_correct a (parse_wf ts a h)

/-- `wfApiB` (what the driver evaluates) can never fail on an AST of the parser model -/
theorem parse_wfApiB (ts : List Tok) (a : Api) (h : parse ts = some a) : wfApiB a = true :=
  decide_eq_true (parse_wf ts a h)

example : ∃ a, parse (print sampleApi) = some a ∧ WF a :=
  ⟨sampleApi, parse_print sampleApi sampleApi_wf, parse_wf _ _ (parse_print sampleApi sampleApi_wf)⟩

/-- the colon form of a path item may be any identifier, `returns` included (the parser does not test it there) -/
example : wfSeg { colon := true, hk := .IDENT, head := "returns", tail := [] } := by simp [wfSeg]

end GoZero.C20
