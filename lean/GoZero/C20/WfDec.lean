/-
C20 — the well-formedness predicates are decidable; `wfApiB` is the check the driver evaluates on every AST the model
parser produces (by `parse_wfApiB` in Props.lean it cannot fail there).
-/
import GoZero.C20.WellFormed
namespace GoZero.C20

instance (d : DT) : Decidable (notStruct d) := by
  cases d <;> simp only [notStruct] <;> infer_instance

instance (d : DT) : Decidable (anonOk d) := by
  cases d with
  | ptr d => cases d <;> simp only [anonOk] <;> infer_instance
  | _ => simp only [anonOk] <;> infer_instance

mutual
  def decWfDT : (d : DT) → Decidable (wfDT d)
    | .base t => decidable_of_iff (t ≠ "any" ∧ t ≠ "map" ∧ isKw t = false) (by simp [wfDT])
    | .any t => decidable_of_iff (t = "any") (by simp [wfDT])
    | .iface t => decidable_of_iff (t ≠ "any") (by simp [wfDT])
    | .ptr d => have := decWfDT d; decidable_of_iff (wfDT d ∧ notStruct d) (by simp [wfDT])
    | .slice d => have := decWfDT d; decidable_of_iff (wfDT d) (by simp [wfDT])
    | .arr _ d => have := decWfDT d; decidable_of_iff (wfDT d) (by simp [wfDT])
    | .map k v => have := decWfDT k; have := decWfDT v; decidable_of_iff (wfDT k ∧ wfDT v) (by simp [wfDT])
    | .struct fs => have := decWfFields fs; decidable_of_iff (wfFields fs) (by simp [wfDT])
  def decWfFields : (fs : Fields) → Decidable (wfFields fs)
    | .nil => decidable_of_iff True (by simp [wfFields])
    | .cons [] ty _ rest => have := decWfFields rest; decidable_of_iff (anonOk ty ∧ wfFields rest) (by simp [wfFields])
    | .cons (n :: ns) ty _ rest =>
      have := decWfFields rest; have := decWfDT ty
      decidable_of_iff (isKw n = false ∧ (∀ m ∈ ns, isKw m = false) ∧ wfDT ty ∧ wfFields rest) (by simp [wfFields])
end

instance (d : DT) : Decidable (wfDT d) := decWfDT d
instance (e : TExpr) : Decidable (wfTExpr e) := by unfold wfTExpr; infer_instance
instance (kv : KV) : Decidable (wfKV kv) := by unfold wfKV; infer_instance
instance (s : Seg) : Decidable (wfSeg s) := by unfold wfSeg; infer_instance
instance (p : Path) : Decidable (wfPath p) := by unfold wfPath; infer_instance
instance (d : Doc) : Decidable (wfDoc d) := by cases d <;> simp only [wfDoc] <;> infer_instance
instance (i : Item) : Decidable (wfItem i) := by unfold wfItem; infer_instance
instance (v : SVal) : Decidable (wfSVal v) := by cases v <;> simp only [wfSVal] <;> infer_instance

instance (s : Stmt) : Decidable (wfStmt s) := by
  cases s with
  | service at_ n api its =>
    cases at_ with
    | none => exact decidable_of_iff (∀ i ∈ its, wfItem i) (by simp [wfStmt])
    | some kvs => exact decidable_of_iff ((∀ kv ∈ kvs, wfSVal kv.val) ∧ (∀ i ∈ its, wfItem i)) (by simp [wfStmt])
  | _ => simp only [wfStmt] <;> infer_instance

def wfApiB (a : Api) : Bool := decide (∀ s ∈ a, wfStmt s)

theorem wfApiB_sound (a : Api) (h : wfApiB a = true) : ∀ s ∈ a, wfStmt s := of_decide_eq_true h

end GoZero.C20
