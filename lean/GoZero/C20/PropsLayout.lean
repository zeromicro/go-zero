/-
C20 — property theorems about the statement loop of `ast.(*AST).Format` (index arithmetic and look-ahead) and about
`format.File`, by clause of the property:
  * "formatting succeeds" / "rather than crashing", on the path through the look-ahead: `astFormat_never_crashes`,
    `format_layout_never_crashes`; both guards are needed: `guard_needed_witness`, `loop_guard_needed_witness`;
  * "formatting the result again changes nothing", on the blank lines between top-level statements:
    `astFormat_blank_lines`, `astFormat_ignores_dropped`, `layout_spec`, `layout_idempotent`, `textLayout_idempotent`;
  * "the formatted text parses to the same API description": `astFormat_writes_visible`;
  * format.File: the `file_*` theorems;
  * tokens and blank lines together: `format_correct_layout`, `format_correct_layout_parsed`.
-/
import GoZero.C20.ProofsLayout
import GoZero.C20.Props
namespace GoZero.C20.Layout

/-- no index outside `a.Stmts` is ever read, whatever the statement list -/
theorem astFormat_never_crashes (ss : List St) : crashes (astFormat ss) = false := by
  have := (loop_spec ss []).2.1
  simpa [astFormat, astFormatG] using this

example : crashes (astFormat [⟨.importLit, false⟩, ⟨.typeGroup, true⟩, ⟨.info, true⟩]) = false := by decide

/-- the bounds condition `idx < len(a.Stmts)-1` reads `a.Stmts[2]` of a list of two -/
theorem guard_needed_witness :
    astFormatG ⟨real.loop, fun _ len idx => decide (idx + 1 < len)⟩ [⟨.importLit, false⟩, ⟨.typeGroup, true⟩]
      = [.stmt 0, .nl, .oob 2] := by decide

/-- a loop guard that is off by one (`next <= len`) reads behind the end as well -/
theorem loop_guard_needed_witness :
    crashes (astFormatG ⟨fun next len _ => decide (next ≤ len), real.look⟩ [⟨.importLit, false⟩, ⟨.typeGroup, true⟩]) = true := by
  decide

/-- the blank lines are decided by the kinds of the statements that are written, and by nothing else -/
theorem astFormat_blank_lines (ss : List St) : seps (astFormat ss) = specSep (visible ss) := by
  have := (loop_spec ss []).1
  simpa [astFormat, astFormatG] using this

example : seps (astFormat [⟨.syntaxS, false⟩, ⟨.importLit, false⟩, ⟨.importGroup, true⟩, ⟨.importLit, false⟩,
    ⟨.typeGroup, true⟩, ⟨.service, false⟩, ⟨.importLit, false⟩, ⟨.info, true⟩]) = [2, 1, 2, 2, 1] := by decide

/-- exactly the statements with a non-empty text are written, once each, in source order -/
theorem astFormat_writes_visible (ss : List St) :
    written (astFormat ss) = (List.range ss.length).filter fun i => !(ss[i]?.map (·.empty)).getD true := by
  have := (loop_spec ss []).2.2
  simpa [astFormat, astFormatG, List.range_eq_range'] using this

example : written (astFormat [⟨.info, true⟩, ⟨.importLit, false⟩, ⟨.typeGroup, true⟩, ⟨.typeLit, false⟩]) = [1, 3] := by decide

theorem visible_filter (ss : List St) : visible (ss.filter fun s => !s.empty) = visible ss := by
  simp [visible, List.filter_filter]

/-- dropped statements do not influence the layout: the loop writes the same blank lines for the list without them -/
theorem astFormat_ignores_dropped (ss : List St) :
    seps (astFormat ss) = seps (astFormat (ss.filter fun s => !s.empty)) := by
  rw [astFormat_blank_lines, astFormat_blank_lines, visible_filter]

example : seps (astFormat [⟨.importLit, false⟩, ⟨.typeGroup, true⟩, ⟨.importLit, false⟩]) =
    seps (astFormat [⟨.importLit, false⟩, ⟨.importLit, false⟩]) := by decide

/-- the blank lines of a program of the token-level model: decided on `norm a` -/
theorem layout_spec (a : Api) : layoutOf a = specSep ((norm a).map kindOf) := by
  rw [layoutOf, astFormat_blank_lines, visible_stOf]

/-- the second formatting pass (it sees `norm a`) writes the same blank lines -/
theorem layout_idempotent (a : Api) : layoutOf (norm a) = layoutOf a := by
  rw [layout_spec, layout_spec, norm_idempotent]

theorem textLayout_idempotent (a : Api) : textLayout (norm a) = textLayout a := by
  simp [textLayout, layout_idempotent]

example : textLayout [.syntaxS "\"v1\"", .importLit "\"a\"", .importGroup [], .importLit "\"b\"", .typeGroup [],
    .typeLit ⟨"T", false, .base "int"⟩, .info []] = ⟨1, [2, 1, 2], 2⟩ := by decide

/-- the AST.Format model never crashes on the statement list of ANY program of the token-level model -/
theorem format_layout_never_crashes (a : Api) : crashes (astFormat (a.map stOf)) = false :=
  astFormat_never_crashes _

/-- end to end, tokens and blank lines: for every well-formed program, parse ∘ format is defined, keeps the API
description, a second formatting pass writes the same tokens AND the same blank-line layout, and neither pass of
AST.Format's statement loop reads outside `a.Stmts` -/
theorem format_correct_layout (a : Api) (h : WF a) :
    ∃ b, parse (format a) = some b ∧ sameDesc a b = true ∧ format b = format a ∧ WF b ∧
      textLayout b = textLayout a ∧
      crashes (astFormat (a.map stOf)) = false ∧ crashes (astFormat (b.map stOf)) = false :=
  ⟨norm a, parse_format a h, sameDesc_norm a, format_idempotent_tokens a, norm_wf a h, textLayout_idempotent a,
    astFormat_never_crashes _, astFormat_never_crashes _⟩

example : ∃ b, parse (format sampleApi) = some b ∧ textLayout b = textLayout sampleApi :=
  let ⟨b, hb, _, _, _, hl, _⟩ := format_correct_layout sampleApi sampleApi_wf
  ⟨b, hb, hl⟩

/-- the same for every token stream the parser accepts -/
theorem format_correct_layout_parsed (ts : List Tok) (a : Api) (h : parse ts = some a) :
    ∃ b, parse (format a) = some b ∧ sameDesc a b = true ∧ format b = format a ∧ WF b ∧
      textLayout b = textLayout a ∧
      crashes (astFormat (a.map stOf)) = false ∧ crashes (astFormat (b.map stOf)) = false :=
  format_correct_layout a (parse_wf ts a h)

example : ∃ b, parse (format sampleApi) = some b ∧ textLayout b = textLayout sampleApi :=
  let ⟨b, hb, _, _, _, hl, _⟩ := format_correct_layout_parsed _ sampleApi (parse_print sampleApi sampleApi_wf)
  ⟨b, hb, hl⟩

/-- an error (unreadable file, Source error, failed write) leaves every file as it was -/
theorem file_error_keeps_fs (src : String → SrcRes) (fs : FS) (name : String)
    (h : (fileFormat src fs name).2.1 = true) : (fileFormat src fs name).1 = fs := by
  unfold fileFormat at h ⊢
  split <;> try rfl
  split <;> try rfl
  split <;> simp_all

/-- success: the file holds what Source wrote, every other file is untouched -/
theorem file_ok_writes_source (src : String → SrcRes) (fs : FS) (name data out : String)
    (hr : fs.read name = some data) (hs : src data = .ok out) (hw : fs.writable name = true) :
    (fileFormat src fs name).2.1 = false ∧ (fileFormat src fs name).1.read name = some out ∧
    ∀ n, n ≠ name → (fileFormat src fs name).1.read n = fs.read n := by
  simp [fileFormat, hr, hs, hw, FS.write]
  intro n hn; simp [hn]

/-- File succeeds exactly when its three steps do (read, Source, write) -/
theorem file_error_iff (src : String → SrcRes) (fs : FS) (name : String) :
    (fileFormat src fs name).2.1 = false ↔
      ∃ data out, fs.read name = some data ∧ src data = .ok out ∧ fs.writable name = true := by
  unfold fileFormat
  split
  · simp_all
  · split
    · simp_all
    · split <;> simp_all

/-- order of effects: read, then Source on what was read, then (only after a successful Source) the write of its output -/
theorem file_effect_order (src : String → SrcRes) (fs : FS) (name : String) :
    (fileFormat src fs name).2.2 = [.read name] ∨
    (∃ d, fs.read name = some d ∧ src d = .err ∧ (fileFormat src fs name).2.2 = [.read name, .source d]) ∨
    (∃ d out, fs.read name = some d ∧ src d = .ok out ∧
      (fileFormat src fs name).2.2 = [.read name, .source d, .write name out]) := by
  unfold fileFormat
  split
  · left; rfl
  · rename_i d hd
    split
    · right; left; exact ⟨d, hd, by assumption, rfl⟩
    · rename_i out ho
      right; right; refine ⟨d, out, hd, ho, ?_⟩
      split <;> rfl

/-- format.File twice = format.File once, whenever Source is idempotent on its own output -/
theorem file_twice (src : String → SrcRes) (fs : FS) (name : String)
    (hidem : ∀ d out, src d = .ok out → src out = .ok out)
    (h1 : (fileFormat src fs name).2.1 = false) :
    (fileFormat src (fileFormat src fs name).1 name).2.1 = false ∧
    ∀ n, (fileFormat src (fileFormat src fs name).1 name).1.read n = (fileFormat src fs name).1.read n := by
  obtain ⟨d, out, hr, hs, hw⟩ := (file_error_iff src fs name).mp h1
  have e1 : (fileFormat src fs name).1 = fs.write name out := by simp [fileFormat, hr, hs, hw]
  rw [e1]
  have hr2 : (fs.write name out).read name = some out := by simp [FS.write]
  have hw2 : (fs.write name out).writable name = true := by simpa [FS.write] using hw
  have hs2 := hidem d out hs
  constructor
  · simp [fileFormat, hr2, hs2, hw2]
  · intro n
    simp only [fileFormat, hr2, hs2, hw2, if_true]
    by_cases hn : n = name <;> simp [FS.write, hn]

example : (fileFormat (fun s => if s = "bad" then .err else .ok (s ++ "\n")) ⟨fun _ => some "bad", fun _ => true⟩ "a.api").2
    = (true, [.read "a.api", .source "bad"]) := by decide

end GoZero.C20.Layout
