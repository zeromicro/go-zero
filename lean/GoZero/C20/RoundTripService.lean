/-
C20 — round trip of the service language: key/value lists (info, `@doc`), request / response bodies, route paths,
routes, `@doc`, `@handler`, service items, `@server` values and the service statement; and the bounds of their sizes.
-/
import GoZero.C20.RoundTripType
namespace GoZero.C20

theorem printKVs_head (kvs : List KV) (c : Tok) (rest : List Tok) (hc : c.k = .RPAREN) :
    ∃ q tl, printKVs kvs ++ c :: rest = q :: tl ∧ (q.k = .RPAREN ∨ q.k = .IDENT) := by
  cases kvs with
  | nil => exact ⟨c, rest, rfl, .inl hc⟩
  | cons kv r => exact ⟨_, _, rfl, .inr rfl⟩

theorem printKVs_length (kvs : List KV) : (printKVs kvs).length = 3 * kvs.length := by
  induction kvs with
  | nil => rfl
  | cons kv r ih => simp [printKVs, ih]; omega

theorem parseKVs_print (kvs : List KV) : ∀ (f : Nat) (c : Tok) (rest : List Tok),
    (∀ kv ∈ kvs, wfKV kv) → kvs.length + 1 ≤ f → c.k = .RPAREN →
    parseKVs f (printKVs kvs ++ c :: rest) = some (kvs, c :: rest) := by
  induction kvs with
  | nil =>
    rintro (_ | f) c rest _ hf hc
    · simp at hf
    simp [parseKVs, printKVs, hc]
  | cons kv r ih =>
    rintro (_ | f) c rest hw hf hc
    · simp at hf
    have hkv : wfKV kv := hw kv (by simp)
    have ih' := ih f c rest (fun x hx => hw x (by simp [hx])) (by simp at hf; omega) hc
    obtain ⟨q, tl, hq, hk⟩ := printKVs_head r c rest hc
    rw [hq] at ih'
    unfold wfKV at hkv
    simp [parseKVs, printKVs, tk, hq, hkv, hk, ih']

theorem parseBody_printB (b : Body) (hb : b ≠ .absent) (rest : List Tok) :
    parseBody (printBodyExpr b ++ rest) = some (b, rest) := by
  rcases b with _ | _ | ⟨_ | _, _ | _, v⟩ <;> first | exact absurd rfl hb | simp [parseBody, printBodyExpr, tk]

theorem stopsPath_false {t : Tok} (hk : t.k = .SUB ∨ t.k = .QUO ∨ t.k = .COLON ∨ t.k = .IDENT ∨ t.k = .INT)
    (hs : t.s ≠ "returns") : stopsPath t = false := by
  rcases hk with h | h | h | h | h <;> simp [stopsPath, h, hs]

theorem parseSegTail_print (tl : List (Bool × String)) : ∀ (f : Nat) (c : Tok) (rest : List Tok),
    (∀ x ∈ tl, x.1 = false → x.2 ≠ "returns") → tl.length + 1 ≤ f → (c.k = .QUO ∨ stopsPath c = true) →
    parseSegTail f (printSegTail tl ++ c :: rest) = some (tl, c :: rest) := by
  induction tl with
  | nil =>
    rintro (_ | f) c rest _ hf hc
    · simp at hf
    simp [parseSegTail, printSegTail, hc]
  | cons x r ih =>
    rintro (_ | f) c rest hw hf hc
    · simp at hf
    have ih' := ih f c rest (fun y hy => hw y (by simp [hy])) (by simp at hf; omega) hc
    obtain ⟨d, a⟩ := x
    cases d with
    | true =>
      have h1 : stopsPath { k := .SUB, s := "-" } = false := by decide
      simp [parseSegTail, printSegTail, tk, h1, ih']
    | false =>
      have ha : a ≠ "returns" := hw (false, a) (by simp) rfl
      have h1 : stopsPath { k := .IDENT, s := a } = false := stopsPath_false (.inr (.inr (.inr (.inl rfl)))) ha
      simp [parseSegTail, printSegTail, tk, h1, ih']

def trailToks (b : Bool) : List Tok := if b then [tk .QUO "/"] else []

theorem printSegs_head (ss : List Seg) (trail : Bool) (c : Tok) (rest : List Tok) (hc : stopsPath c = true) :
    ∃ q tl, printSegs ss ++ (trailToks trail ++ c :: rest) = q :: tl ∧ (q.k = .QUO ∨ stopsPath q = true) := by
  rcases ss with _ | ⟨s, r⟩
  · cases trail
    · exact ⟨c, rest, rfl, .inr hc⟩
    · exact ⟨_, _, rfl, .inl rfl⟩
  · exact ⟨_, _, rfl, .inl rfl⟩

theorem parseSegs_print (ss : List Seg) : ∀ (f : Nat) (trail : Bool) (c : Tok) (rest : List Tok),
    (∀ s ∈ ss, wfSeg s) → szSegs ss ≤ f → stopsPath c = true →
    parseSegs f (printSegs ss ++ (trailToks trail ++ c :: rest)) = some (ss, trail, c :: rest) := by
  induction ss with
  | nil =>
    rintro (_ | f) trail c rest _ hf hc
    · simp [szSegs] at hf
    cases trail with
    | false => simp [parseSegs, printSegs, trailToks, hc]
    | true =>
      have h1 : stopsPath { k := .QUO, s := "/" } = false := by decide
      simp [parseSegs, printSegs, trailToks, tk, h1, hc]
  | cons s r ih =>
    rintro (_ | f) trail c rest hw hf hc
    · simp [szSegs] at hf
    obtain ⟨hk, hh, ht⟩ := hw s (by simp)
    have ih' := ih f trail c rest (fun y hy => hw y (by simp [hy])) (by simp [szSegs] at hf; omega) hc
    obtain ⟨q, tl, hq, hqk⟩ := printSegs_head r trail c rest hc
    have htail := parseSegTail_print s.tail f q tl ht (by simp [szSegs] at hf; omega) hqk
    rw [hq] at ih'
    have h1 : stopsPath { k := .QUO, s := "/" } = false := by decide
    have h2 : stopsPath { k := .COLON, s := ":" } = false := by decide
    obtain ⟨colon, kd, hd, tail⟩ := s
    simp only at hk hh ht htail
    have hkc : kd ≠ .COLON := by rcases hk with h | h <;> simp [h]
    cases colon with
    | true => simp [parseSegs, printSegs, tk, h1, h2, List.append_assoc, hq, hk, htail, hqk, ih']
    | false =>
      have hhead : stopsPath { k := kd, s := hd } = false :=
        stopsPath_false (hk.elim (fun h => .inr (.inr (.inr (.inl h)))) fun h => .inr (.inr (.inr (.inr h)))) (hh rfl)
      simp [parseSegs, printSegs, tk, h1, hhead, hkc, List.append_assoc, hq, hk, htail, hqk, ih']

theorem printPath_eq (p : Path) (tl : List Tok) : printPath p ++ tl = printSegs p.segs ++ (trailToks p.trail ++ tl) := by
  simp [printPath, trailToks]

theorem parsePath_print (p : Path) (f : Nat) (c : Tok) (rest : List Tok) (hw : wfPath p) (hf : szSegs p.segs ≤ f)
    (hc : stopsPath c = true) : parsePath f (printPath p ++ c :: rest) = some (p, c :: rest) := by
  have h := parseSegs_print p.segs f p.trail c rest hw.1 hf hc
  rw [printPath_eq]
  obtain ⟨segs, trail⟩ := p
  simp only at h hw ⊢
  simp only [parsePath, h]
  rcases hw.2 with h2 | h2
  · cases segs with
    | nil => exact absurd rfl h2
    | cons a b => simp
  · simp only at h2
    simp [h2]

/-- a token that can follow a service item: `@doc`, `@handler` or the closing brace; its text is not `returns`, which
`parseRouteTail` looks for whatever the kind of the token -/
def itemEnd (c : Tok) : Prop := endsRoute c = true ∧ c.s ≠ "returns"

def respToks : Body → List Tok
  | .absent => []
  | b => tk .IDENT "returns" :: printBodyExpr b

theorem itemEnd_facts (c : Tok) (h : itemEnd c) :
    c.k ≠ .SEMICOLON ∧ stopsPath c = true := by
  have h1 : (c.k = .AT_DOC ∨ c.k = .AT_HANDLER) ∨ c.k = .RBRACE := by simpa [endsRoute] using h.1
  rcases h1 with (h1 | h1) | h1 <;> simp [stopsPath, h1]

theorem printBodyExpr_head (b : Body) (hb : b ≠ .absent) (rest : List Tok) :
    ∃ tl, printBodyExpr b ++ rest = tk .LPAREN "(" :: tl := by
  cases b with
  | absent => exact absurd rfl hb
  | empty => exact ⟨_, rfl⟩
  | expr a st v => exact ⟨_, rfl⟩

theorem routeTail_after (resp : Body) (c : Tok) (rest : List Tok) (req : Body) (hsemi : c.k ≠ .SEMICOLON) :
    (match c :: rest with
      | { k := .SEMICOLON, .. } :: r4 => some (req, resp, r4)
      | _ => some (req, resp, c :: rest)) = some (req, resp, c :: rest) := by
  split
  · rename_i h; cases h; exact absurd rfl hsemi
  · rfl

theorem respToks_of_ne {b : Body} (hb : b ≠ .absent) : respToks b = tk .IDENT "returns" :: printBodyExpr b := by
  cases b <;> first | exact absurd rfl hb | rfl

theorem parseRouteTail_print (req resp : Body) (c : Tok) (rest : List Tok) (hc : itemEnd c) :
    parseRouteTail (printBodyExpr req ++ (respToks resp ++ c :: rest)) = some (req, resp, c :: rest) := by
  obtain ⟨hsemi, _⟩ := itemEnd_facts c hc
  obtain ⟨hend, hret⟩ := hc
  have habs : printBodyExpr Body.absent = [] := rfl
  by_cases hreq : req = .absent
  · subst hreq
    rw [habs]
    by_cases hresp : resp = .absent
    · subst hresp
      simp [parseRouteTail, respToks, hend]
    · have hb := parseBody_printB resp hresp (c :: rest)
      rw [respToks_of_ne hresp]
      simp only [List.nil_append, List.cons_append]
      simp only [parseRouteTail, tk, endsRoute]
      simp [hb]
      exact routeTail_after resp c rest .absent hsemi
  · have hb := parseBody_printB req hreq (respToks resp ++ c :: rest)
    obtain ⟨tl, htl⟩ := printBodyExpr_head req hreq (respToks resp ++ c :: rest)
    rw [htl] at hb ⊢
    by_cases hresp : resp = .absent
    · subst hresp
      simp only [respToks, List.nil_append, tk] at hb
      simp only [endsRoute] at hend
      simp [parseRouteTail, tk, endsRoute, hb, hret, hend]
    · have hb2 := parseBody_printB resp hresp (c :: rest)
      rw [respToks_of_ne hresp] at hb
      simp only [List.cons_append, tk] at hb
      simp [parseRouteTail, tk, endsRoute, hb, hb2]
      exact routeTail_after resp c rest req hsemi

theorem parseDoc_print (d : Doc) (f : Nat) (h : Tok) (rest : List Tok) (hw : wfDoc d) (hf : szDoc d ≤ f)
    (hh : h.k = .AT_HANDLER) : parseDoc f (printDoc d ++ h :: rest) = some (d, h :: rest) := by
  cases d with
  | none =>
    obtain ⟨k, s, nl, cm⟩ := h
    simp only at hh
    subst hh
    simp [parseDoc, printDoc]
  | lit s => simp [parseDoc, printDoc, tk]
  | group kvs =>
    have hk := parseKVs_print kvs f (tk .RPAREN ")" true) (h :: rest) hw hf rfl
    simp [parseDoc, printDoc, tk] at hk ⊢
    simp [hk]

theorem printItem_eq (i : Item) (tl : List Tok) :
    printItem i ++ tl = printDoc i.doc ++ (tk .AT_HANDLER "@handler" true :: tk .IDENT i.handler :: tk .IDENT i.method true ::
      (printPath i.path ++ (printBodyExpr i.req ++ (respToks i.resp ++ tl)))) := by
  obtain ⟨doc, handler, method, path, req, resp⟩ := i
  cases resp <;> simp [printItem, respToks]

theorem printItems_head (its : List Item) (c : Tok) (rest : List Tok) (hc : itemEnd c) :
    ∃ q tl, printItems its ++ c :: rest = q :: tl ∧ itemEnd q := by
  rcases its with _ | ⟨⟨_ | s | kvs, h, m, p, req, resp⟩, r⟩
  · exact ⟨c, rest, rfl, hc⟩
  all_goals exact ⟨_, _, rfl, by decide, by decide⟩

theorem routeToks_head (req resp : Body) (q : Tok) (tl : List Tok) (hq : itemEnd q) :
    ∃ c' tl', printBodyExpr req ++ (respToks resp ++ q :: tl) = c' :: tl' ∧ stopsPath c' = true := by
  obtain ⟨_, hs⟩ := itemEnd_facts q hq
  -- the first token is `(`, else `returns`, else `q`
  rcases req with _ | _ | _
  · rcases resp with _ | _ | _
    · exact ⟨q, tl, rfl, hs⟩
    all_goals exact ⟨_, _, rfl, by decide⟩
  all_goals exact ⟨_, _, rfl, by decide⟩

/-- one printed item in front of a token that ends it: the rest is read by the recursive call -/
theorem parseItems_item (i : Item) (f : Nat) (q : Tok) (tl : List Tok) (hw : wfItem i)
    (hf : szDoc i.doc + szSegs i.path.segs ≤ f) (hq : itemEnd q) :
    parseItems (f + 1) (printItem i ++ q :: tl) =
      match parseItems f (q :: tl) with
      | some (its, r) => some (i :: its, r)
      | none => none := by
  obtain ⟨hwd, hwm, hwp⟩ := hw
  obtain ⟨c', tl', hc', hsp⟩ := routeToks_head i.req i.resp q tl hq
  have hpath := parsePath_print i.path f c' tl' hwp (by omega) hsp
  have hrt := parseRouteTail_print i.req i.resp q tl hq
  rw [hc'] at hrt
  have hdoc := parseDoc_print i.doc f (tk .AT_HANDLER "@handler" true)
    (tk .IDENT i.handler :: tk .IDENT i.method true :: (printPath i.path ++ c' :: tl')) hwd (by omega) rfl
  rw [printItem_eq, hc']
  -- the first token is `@doc` or `@handler`, never the closing brace
  obtain ⟨t, tt, ht, hne⟩ : ∃ t tt, printDoc i.doc ++ (tk .AT_HANDLER "@handler" true :: tk .IDENT i.handler ::
      tk .IDENT i.method true :: (printPath i.path ++ c' :: tl')) = t :: tt ∧ t.k ≠ .RBRACE := by
    cases i.doc <;> exact ⟨_, _, rfl, by simp [tk]⟩
  rw [ht] at hdoc ⊢
  simp only [parseItems, hne, if_false, hdoc]
  simp [tk, hwm] at hpath hrt ⊢
  simp [hpath, hrt, hq.1]
  rfl

theorem parseItems_print (its : List Item) : ∀ (f : Nat) (c : Tok) (rest : List Tok),
    (∀ i ∈ its, wfItem i) → szItems its ≤ f → (c.k = .RBRACE ∧ c.s ≠ "returns") →
    parseItems f (printItems its ++ c :: rest) = some (its, c :: rest) := by
  induction its with
  | nil =>
    rintro (_ | f) c rest _ hf hc
    · simp [szItems] at hf
    simp [parseItems, printItems, hc.1]
  | cons i r ih =>
    rintro (_ | f) c rest hw hf hc
    · simp [szItems] at hf
    have ih' := ih f c rest (fun x hx => hw x (by simp [hx])) (by simp [szItems] at hf; omega) hc
    obtain ⟨q, tl, hq, hqe⟩ := printItems_head r c rest ⟨by simp [endsRoute, hc.1], hc.2⟩
    rw [hq] at ih'
    rw [show printItems (i :: r) ++ c :: rest = printItem i ++ (printItems r ++ c :: rest) by simp [printItems], hq,
      parseItems_item i f q tl (hw i (by simp)) (by simp [szItems] at hf; omega) hqe, ih']

theorem parseSepIdents_print (sep : K) (txt : String) (xs : List String) : ∀ (f : Nat) (c : Tok) (rest : List Tok),
    xs.length + 1 ≤ f → c.k ≠ sep →
    parseSepIdents sep f (printSepIdents sep txt xs ++ c :: rest) = some (xs, c :: rest) := by
  induction xs with
  | nil =>
    rintro (_ | f) c rest hf hc
    · simp at hf
    simp [parseSepIdents, printSepIdents, hc]
  | cons a r ih =>
    rintro (_ | f) c rest hf hc
    · simp at hf
    have ih' := ih f c rest (by simp at hf; omega) hc
    simp [parseSepIdents, printSepIdents, tk, ih']

/-- what may follow an `@server` value: the next key or the closing parenthesis -/
def nextKV (c : Tok) : Prop := c.k = .RPAREN ∨ c.k = .IDENT

/-- the token behind a segment is the next `/` or `c`: never the `-` or `,` that would continue the value -/
theorem printSlashSegs_head (ss : List (String × Option String)) (c : Tok) (rest : List Tok) (hc : nextKV c) :
    ∃ q tl, printSlashSegs ss ++ c :: rest = q :: tl ∧ (q.k = .RPAREN ∨ q.k = .IDENT ∨ q.k = .QUO) := by
  rcases ss with _ | ⟨⟨a, _ | b⟩, r⟩
  · exact ⟨c, rest, rfl, hc.elim .inl fun h => .inr (.inl h)⟩
  · exact ⟨_, _, rfl, .inr (.inr rfl)⟩
  · exact ⟨_, _, rfl, .inr (.inr rfl)⟩

theorem parseSlashSegs_print (ss : List (String × Option String)) : ∀ (f : Nat) (c : Tok) (rest : List Tok),
    ss.length + 1 ≤ f → nextKV c →
    parseSlashSegs f (printSlashSegs ss ++ c :: rest) = some (ss, c :: rest) := by
  induction ss with
  | nil =>
    rintro (_ | f) c rest hf hc
    · simp at hf
    obtain ⟨k, s, nl, cm⟩ := c
    rcases hc with h | h <;> simp only at h <;> subst h <;> simp [parseSlashSegs, printSlashSegs]
  | cons x r ih =>
    rintro (_ | f) c rest hf hc
    · simp at hf
    have ih' := ih f c rest (by simp at hf; omega) hc
    obtain ⟨a, b⟩ := x
    cases b with
    | some b => simp [parseSlashSegs, printSlashSegs, tk, ih']
    | none =>
      obtain ⟨⟨k, s, nl, cm⟩, tl, hq, hk⟩ := printSlashSegs_head r c rest hc
      rw [hq] at ih'
      simp only [printSlashSegs, tk, List.cons_append, hq]
      rcases hk with rfl | rfl | rfl <;> simp [parseSlashSegs, ih']

theorem parseSVal_print (v : SVal) (f : Nat) (c : Tok) (rest : List Tok) (hw : wfSVal v) (hf : szSVal v ≤ f)
    (hc : nextKV c) : parseSVal f (printSVal v ++ c :: rest) = some (v, c :: rest) := by
  have ⟨hcomma, hsub⟩ : c.k ≠ .COMMA ∧ c.k ≠ .SUB := by rcases hc with h | h <;> simp [h]
  cases v with
  | lit k s =>
    rcases hw with h | h | h <;> subst h <;> simp [parseSVal, printSVal, tk]
  | commas a r | dashes a r =>
    cases r with
    | nil => exact absurd rfl hw
    | cons x xs =>
      -- `a,b` and `a-b` are read by the same function; each case uses the fact for its separator
      have h1 := parseSepIdents_print .COMMA "," (x :: xs) f c rest hf hcomma
      have h2 := parseSepIdents_print .SUB "-" (x :: xs) f c rest hf hsub
      simp only [printSVal, printSepIdents, tk, List.cons_append] at h1 h2 ⊢
      simp [parseSVal, h1, h2]
  | slashed a b ss =>
    have h := parseSlashSegs_print ss f c rest hf hc
    cases b with
    | some b => simp [parseSVal, printSVal, tk, h]
    | none =>
      obtain ⟨⟨k, s, nl, cm⟩, tl, hq, hk⟩ := printSlashSegs_head ss c rest hc
      rw [hq] at h
      simp only [printSVal, tk, List.cons_append, hq]
      rcases hk with rfl | rfl | rfl <;> simp [parseSVal, h]
  | ident a ss =>
    have h := parseSlashSegs_print ss f c rest hf hc
    obtain ⟨⟨k, s, nl, cm⟩, tl, hq, hk⟩ := printSlashSegs_head ss c rest hc
    rw [hq] at h
    simp only [printSVal, tk, List.cons_append, hq]
    rcases hk with rfl | rfl | rfl <;> simp [parseSVal, h]

theorem printSKVs_head (kvs : List SKV) (c : Tok) (rest : List Tok) (hc : c.k = .RPAREN) :
    ∃ q tl, printSKVs kvs ++ c :: rest = q :: tl ∧ nextKV q := by
  cases kvs with
  | nil => exact ⟨c, rest, rfl, .inl hc⟩
  | cons kv r => exact ⟨_, _, rfl, .inr rfl⟩

theorem parseSKVs_print (kvs : List SKV) : ∀ (f : Nat) (c : Tok) (rest : List Tok),
    (∀ kv ∈ kvs, wfSVal kv.val) → szSKVs kvs ≤ f → c.k = .RPAREN →
    parseSKVs f (printSKVs kvs ++ c :: rest) = some (kvs, c :: rest) := by
  induction kvs with
  | nil =>
    rintro (_ | f) c rest _ hf hc
    · simp [szSKVs] at hf
    simp [parseSKVs, printSKVs, hc]
  | cons kv r ih =>
    rintro (_ | f) c rest hw hf hc
    · simp [szSKVs] at hf
    have ih' := ih f c rest (fun x hx => hw x (by simp [hx])) (by simp [szSKVs] at hf; omega) hc
    obtain ⟨q, tl, hq, hqk⟩ := printSKVs_head r c rest hc
    have hv := parseSVal_print kv.val f q tl (hw kv (by simp)) (by simp [szSKVs] at hf; omega) hqk
    rw [hq] at ih'
    unfold nextKV at hqk
    simp [parseSKVs, printSKVs, tk, List.append_assoc, hq, hv, hqk, ih']

/-- the tokens of a service statement after the optional `@server (...)` -/
def serviceToks (n : String) (api : Bool) (its : List Item) : List Tok :=
  tk .IDENT "service" true :: tk .IDENT n :: ((if api then [tk .SUB "-", tk .IDENT "api"] else []) ++
    tk .LBRACE "{" :: (printItems its ++ [tk .RBRACE "}" (!its.isEmpty)]))

theorem parseServiceBody_print (at_ : Option (List SKV)) (n : String) (api : Bool) (its : List Item) (f : Nat)
    (rest : List Tok) (hw : ∀ i ∈ its, wfItem i) (hf : szItems its ≤ f) :
    parseServiceBody f at_ (serviceToks n api its ++ rest) = some (.service at_ n api its, rest) := by
  have hi := parseItems_print its f (tk .RBRACE "}" (!its.isEmpty)) rest hw hf ⟨rfl, by simp [tk]⟩
  simp only [tk] at hi
  cases api <;> simp [parseServiceBody, serviceToks, tk, hi]

theorem printSegTail_length (tl : List (Bool × String)) : tl.length ≤ (printSegTail tl).length := by
  induction tl with
  | nil => simp [printSegTail]
  | cons x r ih => obtain ⟨d, a⟩ := x; cases d <;> simp [printSegTail] <;> omega

theorem szSegs_le_len (ss : List Seg) : szSegs ss ≤ 2 * (printSegs ss).length + 1 := by
  induction ss with
  | nil => simp [szSegs, printSegs]
  | cons s r ih =>
    have := printSegTail_length s.tail
    cases h : s.colon <;> simp [szSegs, printSegs, h] <;> omega

theorem printSlashSegs_length (ss : List (String × Option String)) : 2 * ss.length ≤ (printSlashSegs ss).length := by
  induction ss with
  | nil => simp [printSlashSegs]
  | cons x r ih => obtain ⟨a, b⟩ := x; cases b <;> simp [printSlashSegs] <;> omega

theorem printSepIdents_length (k : K) (t : String) (xs : List String) : (printSepIdents k t xs).length = 2 * xs.length := by
  induction xs with
  | nil => rfl
  | cons a r ih => simp [printSepIdents, ih]; omega

theorem szSVal_le_len (v : SVal) : szSVal v ≤ (printSVal v).length := by
  cases v with
  | lit k s => simp [szSVal]
  | commas a r => simp [szSVal, printSVal, printSepIdents_length]; omega
  | dashes a r => simp [szSVal, printSVal, printSepIdents_length]; omega
  | slashed a b ss => have := printSlashSegs_length ss; cases b <;> simp [szSVal, printSVal] <;> omega
  | ident a ss => have := printSlashSegs_length ss; simp [szSVal, printSVal]; omega

theorem szSKVs_le_len (kvs : List SKV) : szSKVs kvs ≤ 2 * (printSKVs kvs).length + 1 := by
  induction kvs with
  | nil => simp [szSKVs, printSKVs]
  | cons kv r ih => have := szSVal_le_len kv.val; simp [szSKVs, printSKVs]; omega

theorem szItems_le_len (its : List Item) : szItems its ≤ 2 * (printItems its).length + 1 := by
  induction its with
  | nil => simp [szItems, printItems]
  | cons i r ih =>
    have h1 := szSegs_le_len i.path.segs
    have h2 : (printSegs i.path.segs).length ≤ (printPath i.path).length := by simp [printPath]
    have h3 : szDoc i.doc ≤ (printDoc i.doc).length := by
      cases i.doc <;> simp [szDoc, printDoc, printKVs_length]; omega
    have h4 : (printDoc i.doc).length + 3 + (printPath i.path).length ≤ (printItem i).length := by
      simp [printItem]; omega
    simp [szItems, printItems]; omega

end GoZero.C20
