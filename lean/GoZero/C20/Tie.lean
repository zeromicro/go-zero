/-
C20 — Tie: what the extractor reads from tools/goctl/pkg/parser/api equals what the model was written against.
  * the literal texts and tables the model parser compares token texts with (keywords, HTTP methods, "syntax", …);
  * per parser function: its lookahead skeleton (a changed expected token, a dropped keyword check, a reordered
    branch breaks the obligation of that function);
  * per Format method: its write skeleton (a dropped node in a Write call, a changed zero-string test, a changed
    option breaks it); the scanner's character table; format.Source's pipeline;
  * per ast node type: its comment / position accessors, which Writer.write consults for every line break;
    Writer.write, transfer*TokenNode, TokenNode.Format, Parser.nextToken and the scanner's comment functions in full.
The tables and texts at the top are compared with the model's own tables and with literals; every other theorem but the
`tie_sc_*` block compares an extracted item with its copy in Ref*.lean, by `rfl`; the `tie_sc_*` theorems compare the
TRANSLATED rune predicates, rune tables and duration functions with the model's, for all arguments.
An obligation stated as a disjunction accepts the function before and after a patch of fixes/ (`tie_scannerTable`,
`tie_x_Scanner_NextToken`: C20-scanner-nul-rune.patch; the others: C20-comments-scanner-empty-source.patch) and does not
tell which of the two is in the tree. The scanner model is written against the patched functions (`trimRightBlank` in
`scanLineComment`, the half-closed `*` forgotten at the next rune in `scanDocument`, ILLEGAL for a NUL rune inside the data);
on a tree without the patches only the driver's correspondence notices the difference.
-/
import GoZero.Extracted.C20
import GoZero.C20.Model
import GoZero.C20.Ref
import GoZero.C20.Ref2
import GoZero.C20.Ref3
import GoZero.C20.Scan
namespace GoZero.C20.Tie
open GoZero.C20

theorem extraction_clean : Extracted.C20.extractionErrors = [] := by decide

/-- token.keywords is the model's keyword table -/
theorem tie_keywords : Extracted.C20.keywords = GoZero.C20.keywords := by rfl

/-- token.HttpMethods is the model's method table -/
theorem tie_httpMethods : Extracted.C20.httpMethods = GoZero.C20.httpMethods := by rfl

/-- the texts the parser compares identifiers with are the literals used in `parseStmt`, `parseDT`, `stopsPath`, `parseServiceBody` -/
theorem tie_texts :
    (Extracted.C20.tokSyntax, Extracted.C20.tokInfo, Extracted.C20.tokService, Extracted.C20.tokReturns, Extracted.C20.tokAny,
     Extracted.C20.tokTypeKeyword, Extracted.C20.tokMapKeyword, Extracted.C20.tokImportKeyword, Extracted.C20.idAPI)
    = ("syntax", "info", "service", "returns", "any", "type", "map", "import", "api") := by rfl

theorem tie_writer_consts :
    (Extracted.C20.wNilIndent, Extracted.C20.wWhiteSpace, Extracted.C20.wIndent, Extracted.C20.wNewLine) = ("", " ", "\t", "\n") := by rfl

theorem tie_scannerTable : Extracted.C20.scannerTable = Ref.scannerTable ∨ Extracted.C20.scannerTable = Ref.scannerTable_nulpatched := by
  first | exact Or.inl rfl | exact Or.inr rfl
theorem tie_p_Parse : Extracted.C20.p_Parse = Ref.p_Parse := by rfl
theorem tie_p_parseStmt : Extracted.C20.p_parseStmt = Ref.p_parseStmt := by rfl
theorem tie_p_parseService : Extracted.C20.p_parseService = Ref.p_parseService := by rfl
theorem tie_p_parseServiceItemsStmt : Extracted.C20.p_parseServiceItemsStmt = Ref.p_parseServiceItemsStmt := by rfl
theorem tie_p_parseServiceItemStmt : Extracted.C20.p_parseServiceItemStmt = Ref.p_parseServiceItemStmt := by rfl
theorem tie_p_parseRouteStmt : Extracted.C20.p_parseRouteStmt = Ref.p_parseRouteStmt := by rfl
theorem tie_p_parseBodyStmt : Extracted.C20.p_parseBodyStmt = Ref.p_parseBodyStmt := by rfl
theorem tie_p_parseBodyExpr : Extracted.C20.p_parseBodyExpr = Ref.p_parseBodyExpr := by rfl
theorem tie_p_parsePathExpr : Extracted.C20.p_parsePathExpr = Ref.p_parsePathExpr := by rfl
theorem tie_p_parsePathItem : Extracted.C20.p_parsePathItem = Ref.p_parsePathItem := by rfl
theorem tie_p_parseServiceNameExpr : Extracted.C20.p_parseServiceNameExpr = Ref.p_parseServiceNameExpr := by rfl
theorem tie_p_parseAtDocStmt : Extracted.C20.p_parseAtDocStmt = Ref.p_parseAtDocStmt := by rfl
theorem tie_p_parseAtDocGroupStmt : Extracted.C20.p_parseAtDocGroupStmt = Ref.p_parseAtDocGroupStmt := by rfl
theorem tie_p_parseAtDocLiteralStmt : Extracted.C20.p_parseAtDocLiteralStmt = Ref.p_parseAtDocLiteralStmt := by rfl
theorem tie_p_parseAtHandlerStmt : Extracted.C20.p_parseAtHandlerStmt = Ref.p_parseAtHandlerStmt := by rfl
theorem tie_p_parseAtServerStmt : Extracted.C20.p_parseAtServerStmt = Ref.p_parseAtServerStmt := by rfl
theorem tie_p_parseTypeStmt : Extracted.C20.p_parseTypeStmt = Ref.p_parseTypeStmt := by rfl
theorem tie_p_parseTypeLiteralStmt : Extracted.C20.p_parseTypeLiteralStmt = Ref.p_parseTypeLiteralStmt := by rfl
theorem tie_p_parseTypeGroupStmt : Extracted.C20.p_parseTypeGroupStmt = Ref.p_parseTypeGroupStmt := by rfl
theorem tie_p_parseTypeExprList : Extracted.C20.p_parseTypeExprList = Ref.p_parseTypeExprList := by rfl
theorem tie_p_parseTypeExpr : Extracted.C20.p_parseTypeExpr = Ref.p_parseTypeExpr := by rfl
theorem tie_p_parseDataType : Extracted.C20.p_parseDataType = Ref.p_parseDataType := by rfl
theorem tie_p_parseStructDataType : Extracted.C20.p_parseStructDataType = Ref.p_parseStructDataType := by rfl
theorem tie_p_parseElemExprList : Extracted.C20.p_parseElemExprList = Ref.p_parseElemExprList := by rfl
theorem tie_p_parseElemExpr : Extracted.C20.p_parseElemExpr = Ref.p_parseElemExpr := by rfl
theorem tie_p_parseAnyDataType : Extracted.C20.p_parseAnyDataType = Ref.p_parseAnyDataType := by rfl
theorem tie_p_parsePointerDataType : Extracted.C20.p_parsePointerDataType = Ref.p_parsePointerDataType := by rfl
theorem tie_p_parseInterfaceDataType : Extracted.C20.p_parseInterfaceDataType = Ref.p_parseInterfaceDataType := by rfl
theorem tie_p_parseMapDataType : Extracted.C20.p_parseMapDataType = Ref.p_parseMapDataType := by rfl
theorem tie_p_parseArrayDataType : Extracted.C20.p_parseArrayDataType = Ref.p_parseArrayDataType := by rfl
theorem tie_p_parseSliceDataType : Extracted.C20.p_parseSliceDataType = Ref.p_parseSliceDataType := by rfl
theorem tie_p_parseImportStmt : Extracted.C20.p_parseImportStmt = Ref.p_parseImportStmt := by rfl
theorem tie_p_parseImportLiteralStmt : Extracted.C20.p_parseImportLiteralStmt = Ref.p_parseImportLiteralStmt := by rfl
theorem tie_p_parseImportGroupStmt : Extracted.C20.p_parseImportGroupStmt = Ref.p_parseImportGroupStmt := by rfl
theorem tie_p_parseInfoStmt : Extracted.C20.p_parseInfoStmt = Ref.p_parseInfoStmt := by rfl
theorem tie_p_parseAtServerKVExpression : Extracted.C20.p_parseAtServerKVExpression = Ref.p_parseAtServerKVExpression := by rfl
theorem tie_p_parseKVExpression : Extracted.C20.p_parseKVExpression = Ref.p_parseKVExpression := by rfl
theorem tie_p_parseSyntaxStmt : Extracted.C20.p_parseSyntaxStmt = Ref.p_parseSyntaxStmt := by rfl
theorem tie_p_nextToken : Extracted.C20.p_nextToken = Ref.p_nextToken := by rfl
theorem tie_f_AST : Extracted.C20.f_AST = Ref.f_AST := by rfl
theorem tie_f_TokenNode : Extracted.C20.f_TokenNode = Ref.f_TokenNode := by rfl
theorem tie_f_SyntaxStmt : Extracted.C20.f_SyntaxStmt = Ref.f_SyntaxStmt := by rfl
theorem tie_f_InfoStmt : Extracted.C20.f_InfoStmt = Ref.f_InfoStmt := by rfl
theorem tie_f_ImportLiteralStmt : Extracted.C20.f_ImportLiteralStmt = Ref.f_ImportLiteralStmt := by rfl
theorem tie_f_ImportGroupStmt : Extracted.C20.f_ImportGroupStmt = Ref.f_ImportGroupStmt := by rfl
theorem tie_f_KVExpr : Extracted.C20.f_KVExpr = Ref.f_KVExpr := by rfl
theorem tie_f_TypeLiteralStmt : Extracted.C20.f_TypeLiteralStmt = Ref.f_TypeLiteralStmt := by rfl
theorem tie_f_TypeGroupStmt : Extracted.C20.f_TypeGroupStmt = Ref.f_TypeGroupStmt := by rfl
theorem tie_f_TypeExpr : Extracted.C20.f_TypeExpr = Ref.f_TypeExpr := by rfl
theorem tie_f_ElemExpr : Extracted.C20.f_ElemExpr = Ref.f_ElemExpr := by rfl
theorem tie_f_ArrayDataType : Extracted.C20.f_ArrayDataType = Ref.f_ArrayDataType := by rfl
theorem tie_f_MapDataType : Extracted.C20.f_MapDataType = Ref.f_MapDataType := by rfl
theorem tie_f_PointerDataType : Extracted.C20.f_PointerDataType = Ref.f_PointerDataType := by rfl
theorem tie_f_SliceDataType : Extracted.C20.f_SliceDataType = Ref.f_SliceDataType := by rfl
theorem tie_f_StructDataType : Extracted.C20.f_StructDataType = Ref.f_StructDataType := by rfl
theorem tie_f_AtServerStmt : Extracted.C20.f_AtServerStmt = Ref.f_AtServerStmt := by rfl
theorem tie_f_AtDocLiteralStmt : Extracted.C20.f_AtDocLiteralStmt = Ref.f_AtDocLiteralStmt := by rfl
theorem tie_f_AtDocGroupStmt : Extracted.C20.f_AtDocGroupStmt = Ref.f_AtDocGroupStmt := by rfl
theorem tie_f_ServiceStmt : Extracted.C20.f_ServiceStmt = Ref.f_ServiceStmt ∨ Extracted.C20.f_ServiceStmt = Ref.f_ServiceStmt_patched := by
  first | exact Or.inl rfl | exact Or.inr rfl
theorem tie_f_ServiceNameExpr : Extracted.C20.f_ServiceNameExpr = Ref.f_ServiceNameExpr := by rfl
theorem tie_f_AtHandlerStmt : Extracted.C20.f_AtHandlerStmt = Ref.f_AtHandlerStmt := by rfl
theorem tie_f_ServiceItemStmt : Extracted.C20.f_ServiceItemStmt = Ref.f_ServiceItemStmt := by rfl
theorem tie_f_RouteStmt : Extracted.C20.f_RouteStmt = Ref.f_RouteStmt := by rfl
theorem tie_f_PathExpr : Extracted.C20.f_PathExpr = Ref.f_PathExpr ∨ Extracted.C20.f_PathExpr = Ref.f_PathExpr_patched := by
  first | exact Or.inl rfl | exact Or.inr rfl
theorem tie_f_BodyStmt : Extracted.C20.f_BodyStmt = Ref.f_BodyStmt := by rfl
theorem tie_f_BodyExpr : Extracted.C20.f_BodyExpr = Ref.f_BodyExpr := by rfl
theorem tie_w_write : Extracted.C20.w_write = Ref.w_write ∨ Extracted.C20.w_write = Ref.w_write_patched := by
  first | exact Or.inl rfl | exact Or.inr rfl
theorem tie_w_WriteText : Extracted.C20.w_WriteText = Ref.w_WriteText := by rfl
theorem tie_fmt_Source : Extracted.C20.fmt_Source = Ref.fmt_Source ∨ Extracted.C20.fmt_Source = Ref.fmt_Source_patched := by
  first | exact Or.inl rfl | exact Or.inr rfl

/-! ### every method Writer.write consults, and the comment ownership / comment scanning logic.
`acc_<Type>`: HasHeadCommentGroup / HasLeadingCommentGroup / CommentGroup / End / Pos (+ ContainsStruct, ...) of the node
type, statement by statement (a method that looks at the wrong field - Key instead of Value, Name instead of Tag -
breaks its obligation). `full_<func>`: whole statement list. -/

theorem tie_acc_CommentStmt : Extracted.C20.acc_CommentStmt = Ref.acc_CommentStmt := by rfl
theorem tie_acc_CommentGroup : Extracted.C20.acc_CommentGroup = Ref.acc_CommentGroup := by rfl
theorem tie_acc_AnyDataType : Extracted.C20.acc_AnyDataType = Ref.acc_AnyDataType := by rfl
theorem tie_acc_BaseDataType : Extracted.C20.acc_BaseDataType = Ref.acc_BaseDataType := by rfl
theorem tie_acc_InterfaceDataType : Extracted.C20.acc_InterfaceDataType = Ref.acc_InterfaceDataType := by rfl
theorem tie_acc_TokenNode : Extracted.C20.acc_TokenNode = Ref.acc_TokenNode := by rfl
theorem tie_acc_SyntaxStmt : Extracted.C20.acc_SyntaxStmt = Ref.acc_SyntaxStmt := by rfl
theorem tie_acc_InfoStmt : Extracted.C20.acc_InfoStmt = Ref.acc_InfoStmt := by rfl
theorem tie_acc_ImportLiteralStmt : Extracted.C20.acc_ImportLiteralStmt = Ref.acc_ImportLiteralStmt := by rfl
theorem tie_acc_ImportGroupStmt : Extracted.C20.acc_ImportGroupStmt = Ref.acc_ImportGroupStmt := by rfl
theorem tie_acc_KVExpr : Extracted.C20.acc_KVExpr = Ref.acc_KVExpr := by rfl
theorem tie_acc_TypeLiteralStmt : Extracted.C20.acc_TypeLiteralStmt = Ref.acc_TypeLiteralStmt := by rfl
theorem tie_acc_TypeGroupStmt : Extracted.C20.acc_TypeGroupStmt = Ref.acc_TypeGroupStmt := by rfl
theorem tie_acc_TypeExpr : Extracted.C20.acc_TypeExpr = Ref.acc_TypeExpr := by rfl
theorem tie_acc_ElemExpr : Extracted.C20.acc_ElemExpr = Ref.acc_ElemExpr := by rfl
theorem tie_acc_ArrayDataType : Extracted.C20.acc_ArrayDataType = Ref.acc_ArrayDataType := by rfl
theorem tie_acc_MapDataType : Extracted.C20.acc_MapDataType = Ref.acc_MapDataType := by rfl
theorem tie_acc_PointerDataType : Extracted.C20.acc_PointerDataType = Ref.acc_PointerDataType := by rfl
theorem tie_acc_SliceDataType : Extracted.C20.acc_SliceDataType = Ref.acc_SliceDataType := by rfl
theorem tie_acc_StructDataType : Extracted.C20.acc_StructDataType = Ref.acc_StructDataType := by rfl
theorem tie_acc_AtServerStmt : Extracted.C20.acc_AtServerStmt = Ref.acc_AtServerStmt := by rfl
theorem tie_acc_AtDocLiteralStmt : Extracted.C20.acc_AtDocLiteralStmt = Ref.acc_AtDocLiteralStmt := by rfl
theorem tie_acc_AtDocGroupStmt : Extracted.C20.acc_AtDocGroupStmt = Ref.acc_AtDocGroupStmt := by rfl
theorem tie_acc_ServiceStmt : Extracted.C20.acc_ServiceStmt = Ref.acc_ServiceStmt := by rfl
theorem tie_acc_ServiceNameExpr : Extracted.C20.acc_ServiceNameExpr = Ref.acc_ServiceNameExpr := by rfl
theorem tie_acc_AtHandlerStmt : Extracted.C20.acc_AtHandlerStmt = Ref.acc_AtHandlerStmt := by rfl
theorem tie_acc_ServiceItemStmt : Extracted.C20.acc_ServiceItemStmt = Ref.acc_ServiceItemStmt := by rfl
theorem tie_acc_RouteStmt : Extracted.C20.acc_RouteStmt = Ref.acc_RouteStmt := by rfl
theorem tie_acc_PathExpr : Extracted.C20.acc_PathExpr = Ref.acc_PathExpr := by rfl
theorem tie_acc_BodyStmt : Extracted.C20.acc_BodyStmt = Ref.acc_BodyStmt := by rfl
theorem tie_acc_BodyExpr : Extracted.C20.acc_BodyExpr = Ref.acc_BodyExpr := by rfl
theorem tie_full_AnyDataType_Format : Extracted.C20.full_AnyDataType_Format = Ref.full_AnyDataType_Format := by rfl
theorem tie_full_BaseDataType_Format : Extracted.C20.full_BaseDataType_Format = Ref.full_BaseDataType_Format := by rfl
theorem tie_full_InterfaceDataType_Format : Extracted.C20.full_InterfaceDataType_Format = Ref.full_InterfaceDataType_Format := by rfl
theorem tie_full_CommentStmt_Format : Extracted.C20.full_CommentStmt_Format = Ref.full_CommentStmt_Format := by rfl
theorem tie_full_TokenNode_Format : Extracted.C20.full_TokenNode_Format = Ref.full_TokenNode_Format := by rfl
theorem tie_full_transfer2TokenNode : Extracted.C20.full_transfer2TokenNode = Ref.full_transfer2TokenNode := by rfl
theorem tie_full_transferNilInfixNode : Extracted.C20.full_transferNilInfixNode = Ref.full_transferNilInfixNode := by rfl
theorem tie_full_transferTokenNode : Extracted.C20.full_transferTokenNode = Ref.full_transferTokenNode := by rfl
theorem tie_full_Writer_write : Extracted.C20.full_Writer_write = Ref.full_Writer_write ∨ Extracted.C20.full_Writer_write = Ref.full_Writer_write_patched := by
  first | exact Or.inl rfl | exact Or.inr rfl
theorem tie_full_Writer_Write : Extracted.C20.full_Writer_Write = Ref.full_Writer_Write := by rfl
theorem tie_full_Writer_NewLine : Extracted.C20.full_Writer_NewLine = Ref.full_Writer_NewLine := by rfl
theorem tie_full_ignoreHeadComment : Extracted.C20.full_ignoreHeadComment = Ref.full_ignoreHeadComment := by rfl
theorem tie_full_ignoreLeadingComment : Extracted.C20.full_ignoreLeadingComment = Ref.full_ignoreLeadingComment := by rfl
theorem tie_full_ignoreComment : Extracted.C20.full_ignoreComment = Ref.full_ignoreComment := by rfl
theorem tie_full_withTokenNodePrefix : Extracted.C20.full_withTokenNodePrefix = Ref.full_withTokenNodePrefix := by rfl
theorem tie_full_expectSameLine : Extracted.C20.full_expectSameLine = Ref.full_expectSameLine := by rfl
theorem tie_full_expectIndentInfix : Extracted.C20.full_expectIndentInfix = Ref.full_expectIndentInfix := by rfl
theorem tie_full_NewWriter : Extracted.C20.full_NewWriter = Ref.full_NewWriter := by rfl
theorem tie_full_NewBufferWriter : Extracted.C20.full_NewBufferWriter = Ref.full_NewBufferWriter := by rfl
theorem tie_full_Parser_nextToken : Extracted.C20.full_Parser_nextToken = Ref.full_Parser_nextToken := by rfl
theorem tie_full_Parser_curTokenNode : Extracted.C20.full_Parser_curTokenNode = Ref.full_Parser_curTokenNode := by rfl
theorem tie_full_Parser_getNode : Extracted.C20.full_Parser_getNode = Ref.full_Parser_getNode := by rfl
theorem tie_full_Parser_init : Extracted.C20.full_Parser_init = Ref.full_Parser_init := by rfl
theorem tie_full_Scanner_scanLineComment : Extracted.C20.full_Scanner_scanLineComment = Ref.full_Scanner_scanLineComment ∨ Extracted.C20.full_Scanner_scanLineComment = Ref.full_Scanner_scanLineComment_patched := by
  first | exact Or.inl rfl | exact Or.inr rfl
theorem tie_full_Scanner_scanDocument : Extracted.C20.full_Scanner_scanDocument = Ref.full_Scanner_scanDocument ∨ Extracted.C20.full_Scanner_scanDocument = Ref.full_Scanner_scanDocument_patched := by
  first | exact Or.inl rfl | exact Or.inr rfl
theorem tie_full_Scanner_skipWhiteSpace : Extracted.C20.full_Scanner_skipWhiteSpace = Ref.full_Scanner_skipWhiteSpace := by rfl
theorem tie_full_Scanner_isWhiteSpace : Extracted.C20.full_Scanner_isWhiteSpace = Ref.full_Scanner_isWhiteSpace := by rfl
theorem tie_full_fmt_Source : Extracted.C20.full_fmt_Source = Ref.full_fmt_Source ∨ Extracted.C20.full_fmt_Source = Ref.full_fmt_Source_patched := by
  first | exact Or.inl rfl | exact Or.inr rfl

/-! ### the scanner (model Scan.lean), token.go, format.File, AST.Format.
`x_<func>`: whole statement list, literals verbatim. `sc_<pred>`: the scanner's rune predicates TRANSLATED to Lean and
proven equal to the model's predicates for all runes. `sc_scan<Unit>`: every function of the duration family TRANSLATED
statement by statement (readRune -> tail, the `for isDigit` loop -> dropWhile, `switch s.ch` -> if-chain, the three kinds
of return) and proven equal to the model's function for all inputs. `sc_single`, `sc_durStart`: the rune tables of
NextToken / scanIntOrDuration, proven equal to the model's `single` / `isDurStart` for all runes. -/

theorem tie_x_Scanner_NextToken : Extracted.C20.x_Scanner_NextToken = Ref.x_Scanner_NextToken ∨ Extracted.C20.x_Scanner_NextToken = Ref.x_Scanner_NextToken_patched := by
  first | exact Or.inl rfl | exact Or.inr rfl
theorem tie_x_Scanner_newToken : Extracted.C20.x_Scanner_newToken = Ref.x_Scanner_newToken := by rfl
theorem tie_x_Scanner_readRune : Extracted.C20.x_Scanner_readRune = Ref.x_Scanner_readRune := by rfl
theorem tie_x_Scanner_peekRune : Extracted.C20.x_Scanner_peekRune = Ref.x_Scanner_peekRune := by rfl
theorem tie_x_Scanner_scanString : Extracted.C20.x_Scanner_scanString = Ref.x_Scanner_scanString := by rfl
theorem tie_x_Scanner_scanAt : Extracted.C20.x_Scanner_scanAt = Ref.x_Scanner_scanAt := by rfl
theorem tie_x_Scanner_scanIntOrDuration : Extracted.C20.x_Scanner_scanIntOrDuration = Ref.x_Scanner_scanIntOrDuration := by rfl
theorem tie_x_Scanner_illegalToken : Extracted.C20.x_Scanner_illegalToken = Ref.x_Scanner_illegalToken := by rfl
theorem tie_x_Scanner_scanIdent : Extracted.C20.x_Scanner_scanIdent = Ref.x_Scanner_scanIdent := by rfl
theorem tie_x_Scanner_scanLetterSet : Extracted.C20.x_Scanner_scanLetterSet = Ref.x_Scanner_scanLetterSet := by rfl
theorem tie_x_Scanner_newPosition : Extracted.C20.x_Scanner_newPosition = Ref.x_Scanner_newPosition := by rfl
theorem tie_x_Scanner_positionAt : Extracted.C20.x_Scanner_positionAt = Ref.x_Scanner_positionAt := by rfl
theorem tie_x_Scanner_lineCount : Extracted.C20.x_Scanner_lineCount = Ref.x_Scanner_lineCount := by rfl
theorem tie_x_NewScanner : Extracted.C20.x_NewScanner = Ref.x_NewScanner := by rfl
theorem tie_x_Token_Is : Extracted.C20.x_Token_Is = Ref.x_Token_Is := by rfl
theorem tie_x_Token_IsType : Extracted.C20.x_Token_IsType = Ref.x_Token_IsType := by rfl
theorem tie_x_Token_Line : Extracted.C20.x_Token_Line = Ref.x_Token_Line := by rfl
theorem tie_x_Token_Fork : Extracted.C20.x_Token_Fork = Ref.x_Token_Fork := by rfl
theorem tie_x_Token_Valid : Extracted.C20.x_Token_Valid = Ref.x_Token_Valid := by rfl
theorem tie_x_Token_IsComment : Extracted.C20.x_Token_IsComment = Ref.x_Token_IsComment := by rfl
theorem tie_x_Token_IsDocument : Extracted.C20.x_Token_IsDocument = Ref.x_Token_IsDocument := by rfl
theorem tie_x_LookupKeyword : Extracted.C20.x_LookupKeyword = Ref.x_LookupKeyword := by rfl
theorem tie_x_NewIllegalToken : Extracted.C20.x_NewIllegalToken = Ref.x_NewIllegalToken := by rfl
theorem tie_x_fmt_File : Extracted.C20.x_fmt_File = Ref.x_fmt_File := by rfl
theorem tie_x_AST_Format : Extracted.C20.x_AST_Format = Ref.x_AST_Format := by rfl
theorem tie_x_peekOne : Extracted.C20.x_peekOne = Ref.x_peekOne := by rfl
theorem tie_x_Writer_write : Extracted.C20.x_Writer_write = Ref.x_Writer_write := by rfl
theorem tie_x_Writer_WriteText : Extracted.C20.x_Writer_WriteText = Ref.x_Writer_WriteText := by rfl
theorem tie_x_Writer_Flush : Extracted.C20.x_Writer_Flush = Ref.x_Writer_Flush := by rfl
theorem tie_x_withNode : Extracted.C20.x_withNode = Ref.x_withNode := by rfl
theorem tie_x_Parser_Parse : Extracted.C20.x_Parser_Parse = Ref.x_Parser_Parse := by rfl
theorem tie_x_Parser_CheckErrors : Extracted.C20.x_Parser_CheckErrors = Ref.x_Parser_CheckErrors := by rfl
theorem tie_x_Parser_curTokenIsKeyword : Extracted.C20.x_Parser_curTokenIsKeyword = Ref.x_Parser_curTokenIsKeyword := by rfl
theorem tie_x_Parser_peekTokenIs : Extracted.C20.x_Parser_peekTokenIs = Ref.x_Parser_peekTokenIs := by rfl
theorem tie_x_Parser_expectPeekToken : Extracted.C20.x_Parser_expectPeekToken = Ref.x_Parser_expectPeekToken := by rfl
theorem tie_x_New : Extracted.C20.x_New = Ref.x_New := by rfl

theorem tie_x_Parser_curTokenIs : Extracted.C20.x_Parser_curTokenIs = Ref.x_Parser_curTokenIs := by rfl
theorem tie_x_Parser_curTokenIsNot : Extracted.C20.x_Parser_curTokenIsNot = Ref.x_Parser_curTokenIsNot := by rfl
theorem tie_x_Parser_curTokenIsNotEof : Extracted.C20.x_Parser_curTokenIsNotEof = Ref.x_Parser_curTokenIsNotEof := by rfl
theorem tie_x_Parser_peekTokenIsNot : Extracted.C20.x_Parser_peekTokenIsNot = Ref.x_Parser_peekTokenIsNot := by rfl
theorem tie_x_Parser_advanceIfPeekTokenIs : Extracted.C20.x_Parser_advanceIfPeekTokenIs = Ref.x_Parser_advanceIfPeekTokenIs := by rfl
theorem tie_x_Parser_notExpectPeekToken : Extracted.C20.x_Parser_notExpectPeekToken = Ref.x_Parser_notExpectPeekToken := by rfl
theorem tie_x_Parser_notExpectPeekTokenGotComment : Extracted.C20.x_Parser_notExpectPeekTokenGotComment = Ref.x_Parser_notExpectPeekTokenGotComment := by rfl
theorem tie_x_Parser_expectIdentError : Extracted.C20.x_Parser_expectIdentError = Ref.x_Parser_expectIdentError := by rfl
theorem tie_x_Parser_appendStmt : Extracted.C20.x_Parser_appendStmt = Ref.x_Parser_appendStmt := by rfl
theorem tie_x_Parser_hasNoErrors : Extracted.C20.x_Parser_hasNoErrors = Ref.x_Parser_hasNoErrors := by rfl

theorem tie_x_isNil : Extracted.C20.x_isNil = Ref.x_isNil := by rfl

theorem tie_sc_isDigit (c : Char) : Extracted.C20.sc_isDigit c.toNat = Scan.isDigit c := rfl
theorem tie_sc_isLetter (c : Char) : Extracted.C20.sc_isLetter c.toNat = Scan.isLetter c := rfl
theorem tie_sc_isIdentifierLetter (c : Char) : Extracted.C20.sc_isIdentifierLetter c.toNat = Scan.isIdL c := by
  rw [Bool.eq_iff_iff]; simp [Extracted.C20.sc_isIdentifierLetter, Scan.isIdL, tie_sc_isLetter]
theorem tie_sc_isWhiteSpace (c : Char) : Extracted.C20.sc_isWhiteSpace c.toNat = Scan.isWS c := by
  rw [Bool.eq_iff_iff]; simp [Extracted.C20.sc_isWhiteSpace, Scan.isWS]

/-- the runes `scanIntOrDuration` hands to `scanDuration` are the model's `isDurStart` -/
theorem tie_sc_durStart (c : Char) : (Extracted.C20.sc_durStart.map (·.1)).contains c.toNat = Scan.isDurStart c := by
  rw [Bool.eq_iff_iff]; simp [Extracted.C20.sc_durStart, Scan.isDurStart]; omega

def kname : K → String
  | .SUB => "SUB" | .MUL => "MUL" | .LPAREN => "LPAREN" | .LBRACK => "LBRACK" | .LBRACE => "LBRACE" | .COMMA => "COMMA"
  | .RPAREN => "RPAREN" | .RBRACK => "RBRACK" | .RBRACE => "RBRACE" | .SEMICOLON => "SEMICOLON" | .COLON => "COLON"
  | .ASSIGN => "ASSIGN" | _ => "?"

/-- the single-rune tokens of `NextToken` are the model's `single` -/
theorem tie_sc_single (c : Char) : Extracted.C20.sc_single.lookup c.toNat = (Scan.single c).map kname := by
  unfold Scan.single Extracted.C20.sc_single
  split <;> rename_i h <;> first
    | (simp [List.lookup, kname, h]; done)
    | (have e45 : (c.toNat == 45) = false := by simp; omega
       have e42 : (c.toNat == 42) = false := by simp; omega
       have e40 : (c.toNat == 40) = false := by simp; omega
       have e91 : (c.toNat == 91) = false := by simp; omega
       have e123 : (c.toNat == 123) = false := by simp; omega
       have e44 : (c.toNat == 44) = false := by simp; omega
       have e41 : (c.toNat == 41) = false := by simp; omega
       have e93 : (c.toNat == 93) = false := by simp; omega
       have e125 : (c.toNat == 125) = false := by simp; omega
       have e59 : (c.toNat == 59) = false := by simp; omega
       have e58 : (c.toNat == 58) = false := by simp; omega
       have e61 : (c.toNat == 61) = false := by simp; omega
       simp only [List.lookup, e45, e42, e40, e91, e123, e44, e41, e93, e125, e59, e58, e61, Option.map])

def enc : Scan.DRes → Bool × List Char
  | .dur r => (true, r)
  | .ill r => (false, r)

theorem cur_eq (cs : List Char) : Extracted.C20.sc_cur cs = Scan.cur cs := by cases cs <;> rfl
theorem dig_eq : (fun c : Char => Extracted.C20.sc_isDigit c.toNat) = Scan.isDigit := rfl

theorem enc_eq (r : List Char) : enc (.dur r) = (true, r) ∧ enc (.ill r) = (false, r) := ⟨rfl, rfl⟩

/-! Each translated function is the model's function with `enc` around it: unfold both, replace the translated
callees by the model's (the theorems above it), push `enc` to the leaves of the `if`-tree and turn `!=` with swapped
branches into `==`; the two trees are then the same term. -/

theorem tie_sc_scanNanosecond (cs : List Char) : Extracted.C20.sc_scanNanosecond cs = enc (Scan.scanNano cs) := by
  simp only [Extracted.C20.sc_scanNanosecond, Scan.scanNano, cur_eq, apply_ite enc, enc_eq, bne_iff_ne, beq_iff_eq,
    ite_not]

theorem tie_sc_scanMicrosecond (cs : List Char) : Extracted.C20.sc_scanMicrosecond cs = enc (Scan.scanMicro cs) := by
  simp only [Extracted.C20.sc_scanMicrosecond, Scan.scanMicro, Scan.skipDigits, cur_eq, tie_sc_isDigit,
    tie_sc_scanNanosecond, apply_ite enc, enc_eq, bne_iff_ne, ite_not]

theorem tie_sc_scanMillisecond (cs : List Char) : Extracted.C20.sc_scanMillisecond cs = enc (Scan.scanMilli cs) := by
  simp only [Extracted.C20.sc_scanMillisecond, Scan.scanMilli, Scan.skipDigits, cur_eq, tie_sc_isDigit,
    tie_sc_scanNanosecond, tie_sc_scanMicrosecond, apply_ite enc, enc_eq, beq_iff_eq]

theorem tie_sc_scanSecond (cs : List Char) : Extracted.C20.sc_scanSecond cs = enc (Scan.scanSecond cs) := by
  simp only [Extracted.C20.sc_scanSecond, Scan.scanSecond, Scan.milliAfterM, Scan.skipDigits, cur_eq, tie_sc_isDigit,
    tie_sc_scanNanosecond, tie_sc_scanMicrosecond, tie_sc_scanMillisecond, apply_ite enc, enc_eq, bne_iff_ne,
    beq_iff_eq, ite_not]

theorem tie_sc_scanMinute (cs : List Char) : Extracted.C20.sc_scanMinute cs = enc (Scan.scanMinute cs) := by
  simp only [Extracted.C20.sc_scanMinute, Scan.scanMinute, Scan.milliAfterM, Scan.skipDigits, cur_eq, tie_sc_isDigit,
    tie_sc_scanNanosecond, tie_sc_scanMicrosecond, tie_sc_scanMillisecond, tie_sc_scanSecond, apply_ite enc, enc_eq,
    bne_iff_ne, beq_iff_eq, ite_not]

theorem tie_sc_scanMillisecondOrMinute (cs : List Char) :
    Extracted.C20.sc_scanMillisecondOrMinute cs = enc (Scan.scanMilliOrMinute cs) := by
  simp only [Extracted.C20.sc_scanMillisecondOrMinute, Scan.scanMilliOrMinute, cur_eq, tie_sc_isDigit,
    tie_sc_scanMinute, tie_sc_scanMillisecond, apply_ite enc, enc_eq, bne_iff_ne, ite_not]
  rfl

theorem tie_sc_scanHour (cs : List Char) : Extracted.C20.sc_scanHour cs = enc (Scan.scanHour cs) := by
  simp only [Extracted.C20.sc_scanHour, Scan.scanHour, Scan.skipDigits, cur_eq, tie_sc_isDigit,
    tie_sc_scanNanosecond, tie_sc_scanMicrosecond, tie_sc_scanMillisecondOrMinute, tie_sc_scanSecond, apply_ite enc,
    enc_eq, beq_iff_eq]

/-- the whole duration family: the translated `scanDuration` is the model's, for every input -/
theorem tie_sc_scanDuration (cs : List Char) : Extracted.C20.sc_scanDuration cs = enc (Scan.scanDuration cs) := by
  simp only [Extracted.C20.sc_scanDuration, Scan.scanDuration, cur_eq,
    tie_sc_scanNanosecond, tie_sc_scanMicrosecond, tie_sc_scanMillisecondOrMinute, tie_sc_scanSecond, tie_sc_scanHour,
    apply_ite enc, enc_eq, beq_iff_eq]

end GoZero.C20.Tie
