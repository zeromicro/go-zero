/-
C20 — property theorems about the scanner (character-level model Scan.lean of scanner/scanner.go; the driver compares the
model with the real scanner on every generated source: kinds, texts, line-break and comment flags, comments).

Clause "the scanner ... report[s] errors for invalid sources rather than crashing": the model is a total function (every
rune sequence gives tokens, `err` or - see `at_end_witness` - `stuck`); `scanner_progress`.
Clause "the formatted text parses to the same description", the link between the token-level theorems of Props.lean and
text: a written token is read back as the same token (`ident_reads_back`, `int_reads_back`, `duration_reads_back`,
`string_reads_back`), a written stream as the same stream (`scanner_reads_back_stream`; with line breaks
`scanner_reads_back_layout`), and through scanner, parser and formatter `text_roundtrip`, `text_format_correct`.
  PARTIAL: `Reads2` is a hypothesis about the token texts in the AST (an AST may hold any string as an identifier); it is
  shown here for identifiers (`reads2_ident`) and single-rune tokens (`reads2_single`). The layout is the canonical one,
  not the tabwriter's (alignment, comments: tested by the driver on every program).
Defect witnesses (real code, see props/C20.json): `nul_truncates_witness`, `at_end_witness`.
-/
import GoZero.Base.StringLit
import GoZero.C20.ProofsScan
import GoZero.C20.Props
namespace GoZero.C20.Scan

/-- `interfaceWord` is defined as the `toList` of a literal (Scan.lean), where `lit_chars` does not reach; rewritten with this,
a side goal `c :: w ≠ interfaceWord` is decided on characters -/
theorem interfaceWord_chars : interfaceWord = ['i', 'n', 't', 'e', 'r', 'f', 'a', 'c', 'e'] := String.toList_ofList

/-- progress: every token was read from the input - except the ILLEGAL `@` of an `@` that is the last rune. -/
theorem scanner_progress (cs : List Char) (k : RK) (t rest : List Char) (h : next cs = .tok k t rest) :
    rest.length < cs.length ∨ (k = .tok .ILLEGAL ∧ rest = cs ∧ (cur cs).toNat = 64 ∧ isNul (peek cs) = true) :=
  next_progress cs k t rest h

example : next "@doc x".toList = .tok (.tok .AT_DOC) "@doc".toList " x".toList := by lit_chars; decide
example : next "/* a * / b */ c".toList = .tok .document "/* a * / b */".toList " c".toList := by lit_chars; decide +kernel
example : next "/* never closed".toList = .err := by lit_chars; decide
example : next "\"never closed".toList = .err := by lit_chars; decide
example : next "@docs".toList = .err := by lit_chars; decide
example : next "#x".toList = .tok (.tok .ILLEGAL) ['#'] ['x'] := by lit_chars; decide

/-- an identifier is read back as the IDENT it was written as, whatever non-identifier rune follows
(unless it is the word `interface` in front of `{}`, which is the ANY token) -/
theorem ident_reads_back (c : Char) (w r : List Char) (hc : isIdL c = true) (hw : ∀ x ∈ w, identChar x = true)
    (hr : stopsAt identChar r)
    (hi : ¬(c :: w = interfaceWord ∧ (cur r).toNat = 123 ∧ (peek r).toNat = 125)) :
    next (c :: w ++ r) = .tok (.tok .IDENT) (c :: w) r := by
  have hc' : identChar c = true := by simp [identChar, hc]
  obtain ⟨t1, t2⟩ : List.takeWhile _ (c :: (w ++ r)) = c :: w ∧ List.dropWhile _ (c :: (w ++ r)) = r :=
    takeWhile_app (fun c => isIdL c || isDigit c) (c :: w) r (List.forall_mem_cons.2 ⟨hc', hw⟩) hr
  rw [List.cons_append, next_identChar c _ hc', if_pos hc]
  simp only [scanIdent, t1, t2]
  simp [hi]

example : next "user_Id2-x".toList = .tok (.tok .IDENT) "user_Id2".toList "-x".toList := by lit_chars; decide
example : next "interface{} x".toList = .tok (.tok .ANY) "interface{}".toList " x".toList := by lit_chars; decide +kernel
example : next "interface {}".toList = .tok (.tok .IDENT) "interface".toList " {}".toList := by lit_chars; decide

/-- an integer is read back as the INT it was written as -/
theorem int_reads_back (d : Char) (ds r : List Char) (hd : isDigit d = true) (hds : ∀ x ∈ ds, isDigit x = true)
    (hr : stopsAt isDigit r) (hu : isDurStart (cur r) = false) :
    next (d :: ds ++ r) = .tok (.tok .INT) (d :: ds) r := by
  have tw := skipDigits_app (d :: ds) r (List.forall_mem_cons.2 ⟨hd, hds⟩) hr
  have hc := consumed_app (d :: ds) r
  simp_all [next_identChar d _ (by simp [identChar, hd]), digit_not_idL hd, scanNumber]

example : next "128]byte".toList = .tok (.tok .INT) "128".toList "]byte".toList := by lit_chars; decide

/-- a duration is one token whatever follows it: `<digits><unit>` with unit s, h, ms, ns, µs (or m not followed by `s`)
is read back as one DURATION in front of every rune that is not a digit - `)`, the `/` of a comment, a blank, a line
break, the end; a scanner that wants a blank behind a duration contradicts this theorem. -/
theorem duration_reads_back (d : Char) (ds u r : List Char) (hd : isDigit d = true) (hds : ∀ x ∈ ds, isDigit x = true)
    (hu : u = ['s'] ∨ u = ['h'] ∨ u = ['m', 's'] ∨ u = ['n', 's'] ∨ u = [Char.ofNat 181, 's'] ∨
          (u = ['m'] ∧ (cur r).toNat ≠ 115))
    (hf : isDigit (cur r) = false) :
    next (d :: ds ++ u ++ r) = .tok (.tok .DURATION) (d :: ds ++ u) r := by
  obtain ⟨e1, e2, e3⟩ := scanDuration_unit u r hu hf
  have tw := skipDigits_app (d :: ds) (u ++ r) (List.forall_mem_cons.2 ⟨hd, hds⟩) e3
  have hc := consumed_app (d :: ds ++ u) r
  simp_all [next_identChar d _ (by simp [identChar, hd]), digit_not_idL hd, scanNumber]

example : next "3s)".toList = .tok (.tok .DURATION) "3s".toList [')'] := by lit_chars; decide
example : next "100ms// c".toList = .tok (.tok .DURATION) "100ms".toList "// c".toList := by lit_chars; decide
/-- compound durations in the scanner's order (evaluated, not covered by `duration_reads_back`) -/
example : next "1h2m3s4ms5µs6ns/* c */".toList = .tok (.tok .DURATION) "1h2m3s4ms5µs6ns".toList "/* c */".toList := by lit_chars; decide +kernel
/-- the runes in front of an ILLEGAL rune of a duration are in no token (invalid source: `3n4`) -/
example : next "3n4 x".toList = .tok (.tok .ILLEGAL) ['4'] " x".toList := by lit_chars; decide

/-- a string / raw string literal without its own delimiter inside is read back as written -/
theorem string_reads_back (d : Char) (w r : List Char) (hd : d.toNat = 34 ∨ d.toNat = 96)
    (hw : ∀ x ∈ w, x ≠ d ∧ isNul x = false) :
    next (d :: w ++ d :: r) = .tok (.tok (if d.toNat == 34 then .STRING else .RAW)) (d :: w ++ [d]) r := by
  have hb := strBody_app d w r hw
  have hc : consumed (d :: (w ++ d :: r)) r = d :: (w ++ [d]) := by
    simpa using consumed_app (d :: w ++ [d]) r
  -- with the rune's number known, every test of `NextToken`'s switch in front of the string case is decided
  rcases hd with h | h <;> simp [next, cur_cons, isNul, h, hb, hc]

example : next "`json:\"id\"` // c".toList = .tok (.tok .RAW) "`json:\"id\"`".toList " // c".toList := by lit_chars; decide +kernel
example : next "\"a // b\"x".toList = .tok (.tok .STRING) "\"a // b\"".toList ['x'] := by lit_chars; decide

/-- the scanner reads back a written token stream: tokens (comments included) that are each read back in front of a
blank or the end are read back as a stream - in order, all on line 1, nothing lost, nothing invented -/
theorem scanner_reads_back_stream (ts : List (RK × List Char)) (h : ∀ t ∈ ts, Reads t.1 t.2) :
    scanAll (render ts) = .ok (ts.map fun t => { k := t.1, text := t.2, line := 1 }) := by
  have := scanLoop_render ts ((render ts).length + 1) [] h (Nat.le_refl _)
  simpa [scanAll] using this

theorem Reads2.reads {k : K} {w : List Char} (h : Reads2 k w) : Reads (.tok k) w :=
  ⟨h.1, fun r hr => h.2 r (hr.elim .inl fun e => .inr (.inl e))⟩

/-- `h1` … `h5`: `c` is none of the runes `NextToken`'s switch tests before the single-rune table: NUL, `/` (47), `.` (46),
`@` (64), `"` (34), backquote (96) -/
theorem reads2_single (c : Char) (k : K) (hs : single c = some k)
    (h1 : isNul c = false) (h2 : (c.toNat == 47) = false) (h3 : (c.toNat == 46) = false) (h4 : (c.toNat == 64) = false)
    (h5 : (c.toNat == 34 || c.toNat == 96) = false) (hw : isWS c = false) : Reads2 k [c] := by
  refine ⟨⟨c, [], rfl, hw⟩, ?_⟩
  intro r _
  simp [next, cur_cons, h1, h2, h3, h4, h5, hs]

theorem reads2_ident (c : Char) (w : List Char) (hc : isIdL c = true) (hw : ∀ x ∈ w, identChar x = true)
    (hi : c :: w ≠ interfaceWord) : Reads2 .IDENT (c :: w) := by
  refine ⟨⟨c, w, rfl, ?_⟩, ?_⟩
  · simp only [isIdL, isLetter, Bool.or_eq_true, Bool.and_eq_true, decide_eq_true_eq, beq_iff_eq] at hc
    simp [isWS]; omega
  · intro r hr
    apply ident_reads_back c w r hc hw
    · intro x r' e
      rcases hr with rfl | ⟨r'', rfl⟩ | ⟨r'', rfl⟩
      · cases e
      · cases e; decide
      · cases e; decide
    · intro h; exact hi h.1

/-- the hypothesis `Reads` is what the single-token theorems give: here for an identifier -/
theorem reads_ident (c : Char) (w : List Char) (hc : isIdL c = true) (hw : ∀ x ∈ w, identChar x = true)
    (hi : c :: w ≠ interfaceWord) : Reads (.tok .IDENT) (c :: w) :=
  (reads2_ident c w hc hw hi).reads

example : scanAll (render [(.tok .IDENT, "type".toList), (.tok .IDENT, "User".toList)])
    = .ok [⟨.tok .IDENT, "type".toList, 1⟩, ⟨.tok .IDENT, "User".toList, 1⟩] := by
  lit_chars
  refine scanner_reads_back_stream _ fun t ht => ?_
  simp at ht
  rcases ht with rfl | rfl <;>
    exact reads_ident _ _ (by decide) (by decide) (by rw [interfaceWord_chars]; decide)

/-- lines are counted where white space is skipped, comments are tokens of their own -/
example : scanAll "a // c\n/* x */ b".toList
    = .ok [⟨.tok .IDENT, ['a'], 1⟩, ⟨.comment, "// c".toList, 1⟩, ⟨.document, "/* x */".toList, 2⟩, ⟨.tok .IDENT, ['b'], 2⟩] := by
  lit_chars; decide +kernel

/-- the formatted text is read back as the tokens that were written, line-break flags included:
a token stream whose first token starts a line and whose tokens are each read back in front of a blank / a line feed /
the end (`Reads2`), laid out with one blank or one line feed in front of every token, scans to exactly that stream -/
theorem scanner_reads_back_layout (t : WTok) (ts : List WTok) (h : ∀ u ∈ t :: ts, Reads2 u.k u.w) (h1 : t.nl = true) :
    ∃ rs, scanAll (layout (t :: ts)) = .ok rs ∧ toToks 0 rs = (t :: ts).map toTok := by
  have hs := scanLoop_layout (t :: ts) ((layout (t :: ts)).length + 1) 1 [] h (Nat.le_refl _)
  refine ⟨withLines 1 (t :: ts), by simpa [scanAll] using hs, ?_⟩
  have ih := toToks_withLines ts 2
  simp only [withLines, h1, toToks, List.map_cons, toTok]
  simp [ih]
  exact noCm ..

/-- end to end, text level (scanner -> parser): the text laid out from the tokens `print a` of a well-formed program -
one blank or one line feed in front of every token - scans and parses back to exactly `a`, provided every printed
token is lexically what its kind says (`Reads2`: `reads2_ident` for identifiers, `reads2_single` for single-rune tokens). -/
theorem text_roundtrip (a : Api) (hw : WF a) (t : WTok) (ts : List WTok) (hp : print a = (t :: ts).map toTok)
    (h : ∀ u ∈ t :: ts, Reads2 u.k u.w) (h1 : t.nl = true) :
    ∃ rs, scanAll (layout (t :: ts)) = .ok rs ∧ parse (toToks 0 rs) = some a := by
  obtain ⟨rs, h2, h3⟩ := scanner_reads_back_layout t ts h h1
  exact ⟨rs, h2, by rw [h3, ← hp]; exact parse_print a hw⟩

/-- end to end, text level (scanner -> parser -> formatter), the property's second and third clause: the text of the
formatted program scans and parses, to a program with the same API description, and formatting that writes the same
tokens again. -/
theorem text_format_correct (a : Api) (hw : WF a) (t : WTok) (ts : List WTok) (hp : format a = (t :: ts).map toTok)
    (h : ∀ u ∈ t :: ts, Reads2 u.k u.w) (h1 : t.nl = true) :
    ∃ rs b, scanAll (layout (t :: ts)) = .ok rs ∧ parse (toToks 0 rs) = some b ∧ sameDesc a b = true ∧
      format b = format a := by
  obtain ⟨rs, h2, h3⟩ := scanner_reads_back_layout t ts h h1
  obtain ⟨b, hb, hd, hf, _⟩ := format_correct a hw
  exact ⟨rs, b, h2, by rw [h3, ← hp]; exact hb, hd, hf⟩

def sampleText : List WTok :=
  [⟨true, .IDENT, "type".toList⟩, ⟨false, .IDENT, "Empty".toList⟩, ⟨false, .LBRACE, ['{']⟩, ⟨false, .RBRACE, ['}']⟩]

def sampleProg : Api := [.typeLit { name := "Empty", assign := false, ty := .struct .nil }]

theorem sampleText_reads : ∀ u ∈ sampleText, Reads2 u.k u.w := by
  unfold sampleText
  lit_chars
  intro u hu
  simp at hu
  rcases hu with rfl | rfl | rfl | rfl
  · exact reads2_ident _ _ (by decide) (by decide) (by rw [interfaceWord_chars]; decide)
  · exact reads2_ident _ _ (by decide) (by decide) (by rw [interfaceWord_chars]; decide)
  · exact reads2_single '{' .LBRACE (by decide) (by decide) (by decide) (by decide) (by decide) (by decide) (by decide)
  · exact reads2_single '}' .RBRACE (by decide) (by decide) (by decide) (by decide) (by decide) (by decide) (by decide)

example : ∃ rs, scanAll "\ntype Empty { }".toList = .ok rs ∧ parse (toToks 0 rs) = some sampleProg := by
  lit_chars
  exact text_roundtrip sampleProg (by intro s hs; simp [sampleProg] at hs; subst hs; exact ⟨by decide, by simp [wfDT, wfFields]⟩)
    ⟨true, .IDENT, "type".toList⟩ sampleText.tail (by decide) sampleText_reads rfl

/-! Witnesses of a defect and of a quirk of the real scanner; the harness reproduces both on it (the first on the code
without fixes/C20-scanner-nul-rune.patch, `C20_NUL=1`). -/

/-- DEFECT of the pinned code (repaired by fixes/C20-scanner-nul-rune.patch): `NextToken` returns EOF for `s.ch == 0`
wherever the NUL rune stands, so everything behind it is dropped WITHOUT an error (parse ok, format ok; format.File
writes the file back without it). The pinned function ends the token stream; the repaired one (the model) returns an
ILLEGAL token, on which the parser reports an error. -/
theorem nul_truncates_witness :
    nextPinned "\x00 service s { @handler h get /a }".toList = .eof ∧
    next "\x00 service s { @handler h get /a }".toList
      = .tok (.tok .ILLEGAL) [Char.ofNat 0] " service s { @handler h get /a }".toList ∧
    scanAll "type A {}\x00 x".toList
      = .ok [⟨.tok .IDENT, "type".toList, 1⟩, ⟨.tok .IDENT, "A".toList, 1⟩, ⟨.tok .LBRACE, ['{'], 1⟩, ⟨.tok .RBRACE, ['}'], 1⟩,
             ⟨.tok .ILLEGAL, [Char.ofNat 0], 1⟩, ⟨.tok .IDENT, ['x'], 1⟩] := by
  lit_chars; decide +kernel

/-- QUIRK: `scanAt` returns ILLEGAL for an `@` that is the last rune WITHOUT reading it: `NextToken` returns the same
token for ever. The parser stops at the first ILLEGAL token (an error is reported, no crash); a caller that loops to EOF
does not terminate. -/
theorem at_end_witness : next ['@'] = .tok (.tok .ILLEGAL) ['@'] ['@'] ∧ scanAll "a @".toList = .stuck := by
  lit_chars; decide

end GoZero.C20.Scan
