/-
C20 — round trip of statements and of the statement list: import groups (the one list only a statement uses),
`parseStmt_print`, `parseStmts_print`, and the bound `szApi_le_len` that makes the fuel of `parse` sufficient for every
printed program.
-/
import GoZero.C20.RoundTripService
namespace GoZero.C20

theorem printImports_head (vs : List String) (c : Tok) (rest : List Tok) (hc : c.k = .RPAREN) :
    ∃ q tl, printImports vs ++ c :: rest = q :: tl ∧ (q.k = .RPAREN ∨ q.k = .STRING) := by
  cases vs with
  | nil => exact ⟨c, rest, rfl, .inl hc⟩
  | cons v r => exact ⟨_, _, rfl, .inr rfl⟩

theorem parseImports_print (vs : List String) : ∀ (f : Nat) (c : Tok) (rest : List Tok),
    vs.length + 1 ≤ f → c.k = .RPAREN →
    parseImports f (printImports vs ++ c :: rest) = some (vs, c :: rest) := by
  induction vs with
  | nil =>
    rintro (_ | f) c rest hf hc
    · simp at hf
    simp [parseImports, printImports, hc]
  | cons v r ih =>
    rintro (_ | f) c rest hf hc
    · simp at hf
    have ih' := ih f c rest (by simp at hf; omega) hc
    obtain ⟨q, tl, hq, hk⟩ := printImports_head r c rest hc
    rw [hq] at ih'
    simp [parseImports, printImports, tk, hq, hk, ih']

theorem printImports_length (vs : List String) : (printImports vs).length = vs.length := by
  induction vs with
  | nil => rfl
  | cons v r ih => simp [printImports, ih]

/-- `type Name [=] T`: the fuel of the type is enough, the keyword costs none -/
theorem parseStmt_typeLit (e : TExpr) (f : Nat) (rest : List Tok) (hw : wfTExpr e) (hf : szDT e.ty ≤ f) :
    parseStmt f (printStmt (.typeLit e) ++ rest) = some (.typeLit e, rest) := by
  have h := parseTExpr_print e f rest hw hf
  simp only [printTExpr, tk, List.cons_append, List.append_assoc] at h
  simp [parseStmt, printStmt, printTExpr, tk, h]

theorem parseStmt_print (s : Stmt) (f : Nat) (rest : List Tok) (hw : wfStmt s) (hf : szStmt s ≤ f) :
    parseStmt f (printStmt s ++ rest) = some (s, rest) := by
  cases s with
  | syntaxS v => simp [parseStmt, printStmt, tk]
  | importLit v => simp [parseStmt, printStmt, tk]
  | info kvs =>
    simp only [szStmt] at hf
    have h := parseKVs_print kvs f (tk .RPAREN ")" true) rest hw (by omega) rfl
    simp [parseStmt, printStmt, tk] at h ⊢
    simp [h]
  | importGroup vs =>
    simp only [szStmt] at hf
    have h := parseImports_print vs f (tk .RPAREN ")" true) rest (by omega) rfl
    simp [parseStmt, printStmt, tk] at h ⊢
    simp [h]
  | typeLit e => exact parseStmt_typeLit e f rest hw (by simp only [szStmt] at hf; omega)
  | typeGroup es =>
    simp only [szStmt] at hf
    have h := parseTExprs_print es f (tk .RPAREN ")" true) rest hw (by omega) rfl
    simp [parseStmt, printStmt, tk] at h ⊢
    simp [h]
  | service a n api its =>
    obtain ⟨hwa, hwi⟩ := hw
    cases a with
    | none =>
      simp only [szStmt] at hf
      have h := parseServiceBody_print none n api its f rest hwi (by omega)
      simp only [serviceToks, tk, List.cons_append, List.append_assoc, List.nil_append] at h
      simp [parseStmt, printStmt, tk, h]
    | some kvs =>
      simp only [szStmt] at hf
      have h := parseServiceBody_print (some kvs) n api its f rest hwi (by omega)
      have hk := parseSKVs_print kvs f (tk .RPAREN ")" true) (serviceToks n api its ++ rest)
        (hwa kvs rfl) (by omega) rfl
      simp only [serviceToks, tk, List.cons_append, List.append_assoc, List.nil_append] at h hk
      simp [parseStmt, printStmt, tk] at hk ⊢
      simp [hk, h]

theorem printStmt_ne_nil (s : Stmt) : ∃ t tl, printStmt s = t :: tl := by
  cases s with
  | service a n api its => cases a <;> simp [printStmt]
  | _ => simp [printStmt]

theorem parseStmts_print (a : Api) : ∀ (f : Nat), (∀ s ∈ a, wfStmt s) → szApi a ≤ f →
    parseStmts f (print a) = some a := by
  induction a with
  | nil => intro f _ _; cases f <;> simp [parseStmts, print]
  | cons s r ih =>
    rintro (_ | f) hw hf
    · simp [szApi] at hf
    have h1 := parseStmt_print s (f + 1) (print r) (hw s (by simp)) (by simp [szApi] at hf; omega)
    have h2 := ih f (fun x hx => hw x (by simp [hx])) (by simp [szApi] at hf; omega)
    obtain ⟨t, tl, ht⟩ := printStmt_ne_nil s
    simp only [print]
    rw [ht] at h1 ⊢
    simp only [List.cons_append] at h1 ⊢
    simp [parseStmts, h1, h2]

theorem szStmt_le_len (s : Stmt) : szStmt s + 1 ≤ 2 * (printStmt s).length := by
  cases s with
  | syntaxS v => simp [szStmt, printStmt]
  | importLit v => simp [szStmt, printStmt]
  | info kvs => simp [szStmt, printStmt, printKVs_length]; omega
  | importGroup vs => simp [szStmt, printStmt, printImports_length]; omega
  | typeLit e =>
    have := szDT_le_len e.ty
    have hl : (printDT e.ty).length + 1 ≤ (printTExpr e).length := by simp [printTExpr]
    simp [szStmt, printStmt]; omega
  | typeGroup es =>
    have := szTExprs_le_len es
    simp [szStmt, printStmt]; omega
  | service a n api its =>
    have h1 := szItems_le_len its
    cases a with
    | none => simp [szStmt, printStmt]; omega
    | some kvs =>
      have h2 := szSKVs_le_len kvs
      simp [szStmt, printStmt]; omega

theorem szApi_le_len (a : Api) : szApi a ≤ 2 * (print a).length := by
  induction a with
  | nil => simp [szApi, print]
  | cons s r ih =>
    have := szStmt_le_len s
    simp [szApi, print]; omega

end GoZero.C20
