/-
C02 — Tie: the code around the shedder (model: Site.lean) against what the extractor reads from the working
tree.  Decision-making conditions are TRANSLATED (Go expression → Lean function) and proven equal to the model's
functions for all arguments: the default checker `stat.CpuUsage() >= cpuThreshold`, the HTTP Fail condition
`cw.Code == http.StatusServiceUnavailable` (the constant read from the toolchain's net/http), the gRPC Fail condition
`errors.Is(err, context.DeadlineExceeded)` (subject and target bound BY NAME), the sampler's moving average, the
refusal status, the defaults of `NewAdaptiveShedder`.  What each branch then does (which of Pass / Fail / Increment*,
in which order, inside the defer) is stated as the list of its top-level statements.
-/
import GoZero.Extracted.C02
import GoZero.C02.Site
namespace GoZero.C02.TieSite
open GoZero.C02 GoZero.C02.Site
open GoZero.Extracted.C02

/-- the defaults the option loop starts from are the model's `defaultOptions` (5 s, 50 buckets, 900 millicpu). -/
theorem tie_newDefaults :
    (defaultOptions.window : Int) = newDefaultWindow ∧ (defaultOptions.buckets : Int) = newDefaultBuckets
    ∧ defaultOptions.threshold = newDefaultThreshold
    ∧ newDefaultWindow = defaultWindow ∧ newDefaultBuckets = defaultBuckets ∧ newDefaultThreshold = defaultCpuThreshold :=
  ⟨rfl, rfl, rfl, rfl, rfl, rfl⟩

/-- every option is applied to the one options struct; window / buckets / threshold of that struct are what the
shedder is built from (`bucketDurationExpr` in Tie.lean reads options.window / options.buckets). -/
theorem tie_newForwards :
    newOptionApplied = "&options" ∧ newThresholdForwarded = "options.cpuThreshold"
    ∧ newPassCounterSize = "options.buckets" ∧ newPassCounterInterval = "bucketDuration"
    ∧ newEnabledGuard = "!enabled.True()" := ⟨rfl, rfl, rfl, rfl, rfl⟩

/-- each `With…` option stores its own argument into its own field; `Disable` clears the flag. -/
theorem tie_options :
    withWindowSets = "window" ∧ withBucketsSets = "buckets" ∧ withThresholdSets = "threshold"
    ∧ disableSets = "false" ∧ disableShape = ["call enabled.Set"] := ⟨rfl, rfl, rfl, rfl, rfl⟩

/-- `newShedder` is `Shedder.new` of the resolved options when enabled and the nop shedder otherwise (what `Shedder.new`
computes from them is tied in `Tie.tie_new`). -/
theorem tie_newShedder (opts : List Opt) (now : Nat) :
    newShedder true opts now =
      .adaptive (Shedder.new (applyOpts opts).window (applyOpts opts).buckets (applyOpts opts).threshold now)
    ∧ newShedder false opts now = .nop := ⟨rfl, rfl⟩

/-- `NewShedderGroup` keeps the options; `GetShedder` asks the resource manager for `key` and creates with exactly
the group's options; the shedder found is returned. -/
theorem tie_group :
    groupStoresOptions = "opts" ∧ groupKeyForwarded = "key" ∧ groupOptionsForwarded = "g.options"
    ∧ groupReturns = "shedder.(Shedder)" := ⟨rfl, rfl, rfl, rfl⟩

/-- `systemOverloadChecker`'s default is the model's `defaultChecker`, for every reading and threshold; it is handed
the shedder's own threshold. -/
theorem tie_defaultChecker (cpu threshold : Int) :
    defaultCheckerCond cpu threshold = defaultChecker cpu threshold ∧ checkerArgument = "as.cpuThreshold" :=
  ⟨rfl, rfl⟩

/-- the sampler's update is the model's `cpuEma` for all readings; previous value = an atomic load of `cpuUsage`, new
sample = `internal.RefreshCpu()`, the result is stored into the variable `CpuUsage()` loads. -/
theorem tie_cpuEma (prev cur : Int) :
    cpuEmaExpr prev cur = cpuEma prev cur
    ∧ cpuBeta = 19 / 20
    ∧ cpuEmaPrev = "atomic.LoadInt64(&cpuUsage)" ∧ cpuEmaCur = "internal.RefreshCpu()"
    ∧ cpuEmaStored = "usage" ∧ cpuEmaStoredTo = "&cpuUsage" ∧ cpuUsageLoads = "&cpuUsage" :=
  ⟨rfl, by unfold cpuBeta; rfl, rfl, rfl, rfl, rfl, rfl⟩

theorem tie_stat :
    statIncrementTotalField = "&s.total" ∧ statIncrementPassField = "&s.pass" ∧ statIncrementDropField = "&s.drop"
    ∧ statIncrementTotalDelta = 1 ∧ statIncrementPassDelta = 1 ∧ statIncrementDropDelta = 1 :=
  ⟨rfl, rfl, rfl, rfl, rfl, rfl⟩

/-- the Fail condition, for every status code: `cw.Code == 503`; the writer starts at 200 and remembers every
WriteHeader; a refusal answers with the same 503. -/
theorem tie_httpFails (code : Int) :
    httpFailCond code = httpFails code
    ∧ httpRefusedStatus = statusServiceUnavailable ∧ cwInitialCode = statusOK ∧ cwWriteHeaderStores = "code" :=
  ⟨rfl, rfl, rfl, rfl⟩

/-- the request function: count, ask Allow once, refuse or (wrap the writer, DEFER the resolution, run the next
handler); in the defer: Fail on the condition, else count the pass and Pass. -/
theorem tie_httpSteps :
    httpRequestSteps = ["call sheddingStat.IncrementTotal", "promise,err := shedder.Allow", "if err != nil",
      "cw := response.NewWithCodeResponseWriter", "defer", "call next.ServeHTTP"]
    ∧ httpRefusedThen = ["call metrics.AddDrop", "call sheddingStat.IncrementDrop", "call w.WriteHeader", "return"]
    ∧ httpRefusedElse = []
    ∧ httpDeferThen = ["call promise.Fail"]
    ∧ httpDeferElse = ["call sheddingStat.IncrementPass", "call promise.Pass"]
    ∧ httpNilGuard = "shedder == nil" := ⟨rfl, rfl, rfl, rfl, rfl, rfl⟩

/-- the model's per-request function follows these branches: the resolution list and the counter increments of
`httpServe` are those of the branch the translated condition selects. -/
theorem tie_httpServe (o : HttpOutcome) :
    (httpServe false true o).res = (if httpFailCond o.lastCode then [Res.fail] else [Res.pass])
    ∧ (httpServe false true o).stat = (if httpFailCond o.lastCode then ⟨1, 0, 0⟩ else ⟨1, 1, 0⟩)
    ∧ (httpServe false false o).status = httpRefusedStatus := by
  have : httpFailCond o.lastCode = httpFails o.lastCode := rfl
  rw [this]
  cases h : httpFails o.lastCode <;> simp [httpServe, h] <;> decide

/-- the Fail condition is `errors.Is(err, context.DeadlineExceeded)` on the named result `err` — bound by name: a
different subject or target renames the extracted parameter and this theorem does not elaborate. -/
theorem tie_rpcFails (isDeadline : Bool) :
    rpcFailCond (errorsIs_err_context_DeadlineExceeded := isDeadline) = rpcFails isDeadline false := by
  cases isDeadline <;> rfl

theorem tie_rpcSteps :
    rpcRequestSteps = ["call sheddingStat.IncrementTotal", "promise,err = shedder.Allow", "if err != nil", "defer", "return"]
    ∧ rpcRefusedThen = ["call metrics.AddDrop", "call sheddingStat.IncrementDrop", "err = status.Error", "return"]
    ∧ rpcRefusedElse = []
    ∧ rpcDeferThen = ["call promise.Fail"]
    ∧ rpcDeferElse = ["call sheddingStat.IncrementPass", "call promise.Pass"]
    ∧ rpcRefusedCode = "codes.ResourceExhausted" ∧ rpcRefusedMessage = "err.Error()"
    ∧ rpcHandlerCall = "handler(ctx, req)" := ⟨rfl, rfl, rfl, rfl, rfl, rfl, rfl, rfl⟩

theorem tie_rpcServe (dl : Bool) :
    (rpcServe true dl false).res = (if rpcFailCond dl then [Res.fail] else [Res.pass])
    ∧ (rpcServe true dl false).stat = (if rpcFailCond dl then ⟨1, 0, 0⟩ else ⟨1, 1, 0⟩) := by
  cases dl <;> decide

end GoZero.C02.TieSite
