/-
C02 — the lifecycle of `droppedRecently` (the property's "shedding was already in progress"): what the flag is at every point of
every history of the model, and the one-step statements about the reset in `stillHot`.  Without that reset (seeded change C02-9)
the flag stays set after the first drop episode and a later overloaded-but-admitted Allow re-arms `stillHot` for calm Allows.
-/
import GoZero.C02.Props
import GoZero.C02.Life
namespace GoZero.C02

/-- what the ghost times say about the flag, on the history alone. -/
structure LifeInv (l : Life) : Prop where
  overLe  : ∀ t, l.h.lastOver = some t → t ≤ l.h.now
  dropLe  : ∀ t, l.lastDrop = some t → t ≤ l.h.now
  lapseLe : ∀ t, l.lastLapse = some t → t ≤ l.h.now
  setBy   : l.h.inProgress = true →
              ∃ td tover, l.lastDrop = some td ∧ l.h.lastOver = some tover ∧ td < tover + 1000000000
                ∧ (∀ tl, l.lastLapse = some tl → tl ≤ td)
  clear   : l.h.inProgress = false →
              l.lastDrop = none ∨ ∃ td tl, l.lastDrop = some td ∧ l.lastLapse = some tl ∧ td ≤ tl

/-- `overLe` / `dropLe` / `lapseLe` for a time recorded at this very step: it is the clock's reading. -/
theorem le_of_some_eq {x t : Nat} (h : some x = some t) : t ≤ x := Option.some.inj h ▸ Nat.le_refl _

/-- `hcalm` is all that is needed of whatever produces the verdicts. -/
theorem life_step {l : Life} (inv : LifeInv l) (e : Spec.Ev)
    (hcalm : e = .allow false .overloaded → l.h.hot = true) : LifeInv (l.observe e) := by
  cases e with
  | advance d =>
    exact { inv with
            overLe := fun t ht => Nat.le_add_right_of_le (inv.overLe t ht)
            dropLe := fun t ht => Nat.le_add_right_of_le (inv.dropLe t ht)
            lapseLe := fun t ht => Nat.le_add_right_of_le (inv.lapseLe t ht) }
  | pass start | fail => exact { inv with }
  | allow o v =>
    -- four kinds of Allow: a calm one that sees a lapse (the episode ends) or changes nothing, a shed at a calm CPU (only
    -- while hot; the drop moves to now), an overloaded CPU (the sighting moves to now), admitted or shed
    cases o <;> cases v
    · by_cases hl : (l.h.inProgress && !l.h.hot) = true <;>
        simp only [Life.observe, Life.lapsesAt, Spec.Hist.observe, hl, ↓reduceIte, Bool.false_eq_true]
      · obtain ⟨td, _, h1, -⟩ := inv.setBy (by simp at hl; exact hl.1)
        exact { inv with
                lapseLe := fun _ => le_of_some_eq, setBy := nofun
                clear := fun _ => Or.inr ⟨td, l.h.now, h1, rfl, inv.dropLe td h1⟩ }
      · exact { inv with }
    · have hh := hcalm rfl
      obtain ⟨-, t, hlo, hlt⟩ := (hot_iff l.h).mp hh
      simp only [Life.observe, Life.lapsesAt, Spec.Hist.observe, hh, Bool.not_true, Bool.and_false, ↓reduceIte,
        Bool.false_eq_true]
      exact { inv with
              dropLe := fun _ => le_of_some_eq, clear := nofun
              setBy := fun _ => ⟨l.h.now, t, rfl, hlo, by omega, inv.lapseLe⟩ }
    · exact { inv with
              overLe := fun _ => le_of_some_eq
              setBy := fun hp => by
                obtain ⟨td, _, h1, -, -, h4⟩ := inv.setBy hp
                have := inv.dropLe td h1
                exact ⟨td, l.h.now, h1, rfl, by omega, h4⟩ }
    · exact { inv with
              overLe := fun _ => le_of_some_eq, dropLe := fun _ => le_of_some_eq, clear := nofun
              setBy := fun _ => ⟨l.h.now, l.h.now, rfl, rfl, by omega, inv.lapseLe⟩ }

/-- along a run of the model the summary stays related to the state (`ref_step`), which is what makes its calm sheds hot ones. -/
theorem runL_inv (ops : List Op) (st : St) (l : Life) (r : Ref st l.h) (inv : LifeInv l) :
    Ref (runL st l ops).1 (runL st l ops).2.h ∧ LifeInv (runL st l ops).2 := by
  induction ops generalizing st l with
  | nil => exact ⟨r, inv⟩
  | cons op ops ih =>
    refine ih _ _ (ref_step st l.h r op) (life_step inv _ fun he => ?_)
    cases op with
    | allow o c =>
      obtain ⟨rfl, hv⟩ := Spec.Ev.allow.inj he
      exact ref_hot st l.h r ▸ calm_shed_was_hot st.sh st.now c hv
    | _ => cases he

/-- `runL` is `runH` with the ghost times kept alongside: same model states, same history summary. -/
theorem runL_is_runH (ops : List Op) (st : St) (l : Life) :
    (runL st l ops).1 = (runH st l.h ops).1 ∧ (runL st l ops).2.h = (runH st l.h ops).2 := by
  induction ops generalizing st l with
  | nil => exact ⟨rfl, rfl⟩
  | cons op ops ih => exact ih _ _

/-- **The life of `droppedRecently`, for every configuration and every history** of Allow / Pass / Fail events from a
fresh shedder.  At every point:
* the flag is SET only if a request has been shed — at a time `td` with `td < tover + 1 s`, where `tover` is the LATEST Allow
  that saw the CPU over the threshold (it may be later than `td`: an overloaded Allow after the drop moves it) — and no calm
  Allow has found a cool-off expired since that drop;
* the flag is CLEAR if nothing was ever shed, or a calm Allow has found the cool-off of the latest episode expired;
* `stillHot` (what lets a calm Allow shed) holds only if additionally the latest overloaded Allow is less than a second
  ago: the property's "was at an Allow within the preceding second while shedding was already in progress". -/
theorem flag_lifecycle (window buckets : Nat) (threshold : Int) (t0 : Nat) (ht : 0 < t0) (ops : List Op) :
    let r := runL ⟨t0, Shedder.new window buckets threshold t0⟩ { h := { now := t0 } } ops
    (r.1.sh.droppedRecently = true →
        ∃ td tover, r.2.lastDrop = some td ∧ r.2.h.lastOver = some tover ∧ td ≤ r.1.now ∧ td < tover + 1000000000
          ∧ (∀ tl, r.2.lastLapse = some tl → tl ≤ td))
    ∧ (r.1.sh.droppedRecently = false →
        r.2.lastDrop = none ∨ ∃ td tl, r.2.lastDrop = some td ∧ r.2.lastLapse = some tl ∧ td ≤ tl)
    ∧ (r.1.sh.stillHot r.1.now = true →
        ∃ td tover, r.2.lastDrop = some td ∧ r.1.sh.overloadTime = tover ∧ td < tover + 1000000000
          ∧ r.1.now < tover + 1000000000 ∧ tover ≤ r.1.now) := by
  intro r
  obtain ⟨ref, inv⟩ : Ref r.1 r.2.h ∧ LifeInv r.2 :=
    runL_inv ops _ _ (ref_init window buckets threshold t0 ht) ⟨nofun, nofun, nofun, nofun, fun _ => Or.inl rfl⟩
  have hdr : r.1.sh.droppedRecently = r.2.h.inProgress := ref.dr
  have hnow : r.2.h.now = r.1.now := ref.now
  refine ⟨?_, ?_, ?_⟩
  · intro h
    obtain ⟨td, tover, h1, h2, h3, h4⟩ := inv.setBy (hdr ▸ h)
    have := inv.dropLe td h1
    exact ⟨td, tover, h1, h2, by omega, h3, h4⟩
  · exact fun h => inv.clear (hdr ▸ h)
  · intro h
    obtain ⟨hp, t, hlo, hlt⟩ := (hot_iff _).mp (ref_hot _ _ ref ▸ h)
    obtain ⟨td, tover, h1, h2, h3, _⟩ := inv.setBy hp
    obtain rfl : t = tover := Option.some.inj (hlo.symm.trans h2)
    have hle := inv.overLe t h2
    exact ⟨td, t, h1, Option.some.inj ((ref.lastOver hp).1.symm.trans h2), h3, by omega, by omega⟩

/-- **One step: the reset that seeded C02-9 removes.**  In every state with a recorded overload time, a calm Allow that
comes a second or more after it is admitted AND leaves `droppedRecently` clear, whatever the flag was. -/
theorem calm_allow_after_expiry_clears_flag (s : Shedder) (now : Nat) (cpu : Int) (h0 : s.overloadTime ≠ 0)
    (hexp : ¬ now - s.overloadTime < 1000000000) :
    (s.allow now false cpu).2 = .admitted ∧ (s.allow now false cpu).1.droppedRecently = false := by
  have hg : s.gate now false = false := by
    simp [Shedder.gate, Shedder.stillHot, coolOffNs, hexp]
  simp only [Shedder.allow, Shedder.shouldDrop, hg, Bool.false_and, Shedder.allowWith, Shedder.afterGate,
    Shedder.afterStillHot, coolOffNs, Bool.false_eq_true, ↓reduceIte]
  refine ⟨trivial, ?_⟩
  cases hd : s.droppedRecently <;> simp [hd, h0, hexp]

/-- hence after an ended episode an overloaded-but-admitted Allow does not re-arm `stillHot`: the next calm Allows are
admitted however high the CPU reading and the load (the four-step history of seeded C02-9). -/
theorem no_shed_after_ended_episode (s : Shedder) (t1 t2 t3 : Nat) (c1 c2 c3 : Int) (h0 : s.overloadTime ≠ 0)
    (hexp : ¬ t1 - s.overloadTime < 1000000000)
    (hadm : ((s.allow t1 false c1).1.allow t2 true c2).2 = .admitted) :
    ((((s.allow t1 false c1).1.allow t2 true c2).1).allow t3 false c3).2 = .admitted := by
  have h1 := (calm_allow_after_expiry_clears_flag s t1 c1 h0 hexp).2
  generalize (s.allow t1 false c1).1 = s1 at *
  have h2 : (s1.allow t2 true c2).1.droppedRecently = false := by
    simp only [Shedder.allow] at hadm ⊢
    split at hadm
    · cases hadm
    · rename_i hn
      simp [Shedder.allowWith, hn, Shedder.afterGate, Shedder.systemOverloaded, h1]
  generalize (s1.allow t2 true c2).1 = s2 at *
  cases hv : (s2.allow t3 false c3).2 with
  | admitted => rfl
  | overloaded =>
    have := calm_shed_was_hot s2 t3 c3 hv
    simp [Shedder.stillHot, h2] at this

-- non-vacuity: an episode in progress (flag set, overload seen at 7); a calm Allow one second later is admitted and clears
-- the flag; an overloaded Allow at the threshold is admitted; a calm Allow right after it with the CPU reading at 1000 and
-- 13 in flight is admitted.  With the flag left set (the seeded change) the last one is shed.
example : ((exShedder 11 11 7 true).allow (7 + 1000000000) false 0).1.droppedRecently = false := by decide +kernel
example : (((((exShedder 11 (19 / 2) 7 true).allow (7 + 1000000000) false 0).1.allow (8 + 1000000000) true 900).1).allow
    (9 + 1000000000) false 1000).2 = .admitted := by decide +kernel
example : ((exShedder 13 (19 / 2) (8 + 1000000000) true).allow (9 + 1000000000) false 1000).2 = .overloaded := by decide +kernel
-- a whole history: 12 admitted, 10 failed, an overloaded Allow sheds (drop at 1), a second later a calm Allow ends the episode
def exLife : St × Life :=
  runL ⟨1, Shedder.new 1000000000 10 900 1⟩ { h := { now := 1 } }
    (List.replicate 12 (.allow false 0) ++ List.replicate 10 .fail ++ [.allow true 1000, .advance 1000000000, .allow false 0])
example : exLife.2.lastDrop = some 1 ∧ exLife.2.lastLapse = some 1000000001 ∧ exLife.1.sh.droppedRecently = false := by
  decide +kernel

end GoZero.C02
