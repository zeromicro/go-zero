/-
C02 — Tie: what the extractor reads from the go-zero working tree equals what the model was written
against.  Formulas are translated from the Go source on every run (float64 arithmetic read as exact
rational arithmetic, integer arithmetic with Go's truncating `/` and `%`); each theorem proves the translated
expression equal to the model's definition for all arguments.  Skeleton theorems pin the order of the
semantically relevant statements (a swapped Pass/Fail, a release moved out of the defer, a dropped
`droppedRecently.Set`, a changed comparison all break an obligation here).
-/
import GoZero.Extracted.C02
import GoZero.C02.Proofs
import GoZero.Base.RollingWindow
namespace GoZero.C02.Tie
open GoZero.C02
open GoZero.Extracted.C02

theorem extraction_clean : extractionErrors = [] := rfl

theorem tie_coolOff : coolOffDuration = 1000000000 ∧ (coolOffNs : Int) = coolOffDuration := by decide
theorem tie_cpuMax : Extracted.C02.cpuMax = 1000 ∧ C02.cpuMax = Extracted.C02.cpuMax := by decide
theorem tie_defaultMinRt : Extracted.C02.defaultMinRt = 1000 ∧ C02.defaultMinRt = (Extracted.C02.defaultMinRt : Rat) := by
  constructor
  · decide
  · unfold C02.defaultMinRt Extracted.C02.defaultMinRt; rfl
theorem tie_flyingBeta : Extracted.C02.flyingBeta = C02.flyingBeta := by
  unfold Extracted.C02.flyingBeta C02.flyingBeta; rfl
theorem tie_factorLowerBound : overloadFactorLowerBound = factorLowerBound := by
  unfold overloadFactorLowerBound factorLowerBound; rfl
theorem tie_msPerSecond : millisecondsPerSecond = 1000 ∧ (msPerSecond : Int) = millisecondsPerSecond := by decide
theorem tie_defaults : defaultBuckets = 50 ∧ defaultWindow = 5000000000 ∧ defaultCpuThreshold = 900 := by decide

/-- `NewAdaptiveShedder`: `bucketDuration = window / buckets`, `windowScale = 1e9 / bucketDuration / 1000`;
both windows get `buckets` buckets of `bucketDuration` and ignore the current bucket. -/
theorem tie_new (window buckets : Nat) (threshold : Int) (now : Nat) :
    let s := Shedder.new window buckets threshold now
    s.windowScale = windowScaleExpr (bucketDurationExpr window buckets)
    ∧ (s.passCounter.interval : Int) = bucketDurationExpr window buckets
    ∧ (s.rtCounter.interval : Int) = bucketDurationExpr window buckets
    ∧ s.passCounter.size = buckets ∧ s.rtCounter.size = buckets
    ∧ s.passCounter.ignoreCurrent = true ∧ s.rtCounter.ignoreCurrent = true
    ∧ s.passCounter.lastTime = now ∧ s.rtCounter.lastTime = now
    ∧ s.cpuThreshold = threshold := by
  simp only [Shedder.new, RW.new, windowScaleExpr, bucketDurationExpr, ← Int.ofNat_tdiv, nsPerSecond, msPerSecond]
  refine ⟨?_, trivial, trivial, trivial, trivial, trivial, trivial, trivial, trivial, trivial⟩
  rfl

theorem tie_newText :
    newWhenDisabled = "newNopShedder()"
    ∧ newPassCounter = "collection.NewRollingWindow[int64, *collection.Bucket[int64]](newBucket, options.buckets, bucketDuration, collection.IgnoreCurrentBucket[int64, *collection.Bucket[int64]]())"
    ∧ newRtCounter = newPassCounter
    ∧ newCpuThreshold = "defaultCpuThreshold" := ⟨rfl, rfl, rfl, rfl⟩

/-- `Allow` adds +1 to flying on admission and stamps the promise with `timex.Now()`. -/
theorem tie_allowAdmit (s : Shedder) (now : Nat) (o : Bool) :
    (s.allowWith now o false).flying = (s.afterGate now o).flying + allowFlyingDelta
    ∧ allowPromiseStart = "timex.Now()" := by
  constructor
  · simp [Shedder.allowWith, allowFlyingDelta]
  · rfl

/-- `Pass` / `Fail` add −1; `addFlying` updates the average only for a negative delta, by the extracted formula. -/
theorem tie_release (s : Shedder) :
    s.release.flying = s.flying + passFlyingDelta
    ∧ s.release.flying = s.flying + failFlyingDelta
    ∧ s.release.avgFlying = avgUpdateExpr s.avgFlying (s.flying + passFlyingDelta)
    ∧ addFlyingUpdatesAvgIf passFlyingDelta = true ∧ addFlyingUpdatesAvgIf allowFlyingDelta = false := by
  refine ⟨?_, ?_, ?_, by decide, by decide⟩
  · simp [Shedder.release, passFlyingDelta]; omega
  · simp [Shedder.release, failFlyingDelta]; omega
  · simp only [Shedder.release, avgUpdateExpr, passFlyingDelta, C02.flyingBeta]
    have : s.flying + -1 = s.flying - 1 := by omega
    rw [this]

/-- `highThru`: limit = maxFlight() · overloadFactor(); both the average and the counter must exceed it. -/
theorem tie_highThru (s : Shedder) (now : Nat) (cpu : Int) :
    s.limit now cpu = limitExpr (s.maxFlight now) (overloadFactor s.cpuThreshold cpu)
    ∧ s.highThru now cpu = highThruExpr s.avgFlying (s.limit now cpu) s.flying := by
  constructor
  · rfl
  · simp only [Shedder.highThru, highThruExpr]

/-- `maxFlight` = AtLeast(float64(maxPass) · minRt · windowScale, 1). -/
theorem tie_maxFlight (s : Shedder) (now : Nat) :
    s.maxFlight now = maxFlightExpr (maxFlightRawExpr (s.maxPass now) (s.minRt now) s.windowScale) := by
  simp only [Shedder.maxFlight, maxFlightExpr, maxFlightRawExpr, atLeast]
  rfl

/-- `maxPass`: start at 1, take every larger bucket sum. -/
theorem tie_maxPass (bs : List Bucket) :
    maxPassOf bs = bs.foldl (fun r b => if maxPassTakes b.sum r then b.sum else r) maxPassInit
    ∧ maxPassAssign = "b.Sum" := by
  constructor
  · simp only [maxPassOf, maxPassTakes, maxPassInit, decide_eq_true_eq]
  · rfl

theorem goRound_eq (x : Rat) : goRound x = roundHalfAway x := rfl

/-- `minRt`: start at defaultMinRt, skip empty buckets, take every smaller rounded average. -/
theorem tie_minRt (bs : List Bucket) :
    minRtOf bs = bs.foldl (fun r b =>
      if minRtSkips b.count then r
      else if minRtTakes (minRtAvgExpr b.sum b.count) r then minRtAvgExpr b.sum b.count else r) minRtInit
    ∧ minRtAssign = "avg" := by
  constructor
  · simp only [minRtOf, minRtSkips, minRtTakes, decide_eq_true_eq]
    rfl
  · rfl

/-- `overloadFactor` = Between((cpuMax − cpu) / (cpuMax − threshold), 0.1, 1) whenever the division is an ordinary
one (threshold ≠ cpuMax; thresholds above cpuMax included). -/
theorem tie_factor (threshold cpu : Int) (h : threshold ≠ 1000) :
    overloadFactor threshold cpu = factorExpr (factorRawExpr cpu threshold) := by
  unfold overloadFactor
  rw [if_neg (show ¬ threshold = C02.cpuMax from h)]
  simp only [factorExpr, factorRawExpr, C02.between, Extracted.C02.between, C02.cpuMax, factorLowerBound]
  rfl

/-- threshold = cpuMax: the float64 division is by zero.  The model takes `+Inf` (cpu < cpuMax) to the upper clamp
1, `−Inf` (cpu > cpuMax) to the lower clamp, and 0/0 (cpu = cpuMax) to the lower bound — the last by the guard
`if math.IsNaN(factor) { factor = overloadFactorLowerBound }` (fixes/C02-threshold-at-cpumax-nan.patch).
The source without that guard is accepted too: the harness then reports `nan=1` on such calls and the driver follows
the implementation (finding C02-threshold-at-cpumax-nan, witness `Pinned.witness` in Props.lean). -/
theorem tie_factorAtCpuMax :
    ((factorNanGuard = "math.IsNaN(factor)" ∧ factorNanValue = "overloadFactorLowerBound"
        ∧ overloadFactorShape = ["call stat.CpuUsage", "if math.IsNaN(factor) {", "}", "call mathx.Between", "return"])
      ∨ (factorNanGuard = "" ∧ factorNanValue = ""
        ∧ overloadFactorShape = ["call stat.CpuUsage", "call mathx.Between", "return"]))
    ∧ overloadFactor 1000 1000 = overloadFactorLowerBound
    ∧ (∀ cpu : Int, cpu < 1000 → overloadFactor 1000 cpu = 1)
    ∧ (∀ cpu : Int, 1000 ≤ cpu → overloadFactor 1000 cpu = overloadFactorLowerBound) := by
  -- whichever of the two texts the working tree has, it is that text literally
  refine ⟨by first | exact Or.inl ⟨rfl, rfl, rfl⟩ | exact Or.inr ⟨rfl, rfl, rfl⟩, by decide +kernel, ?_, ?_⟩
  · intro cpu h
    simp [overloadFactor, C02.cpuMax, h]
  · intro cpu h
    have : ¬ cpu < 1000 := by omega
    simp only [overloadFactor, C02.cpuMax, this, if_true, if_false]
    unfold overloadFactorLowerBound factorLowerBound; rfl

/-- `stillHot`'s two tests: overloadTime == 0, and timex.Since(overloadTime) < coolOffDuration. -/
theorem tie_stillHot (s : Shedder) (now : Nat) :
    s.stillHot now =
      (s.droppedRecently && !stillHotUnset (s.overloadTime : Int) && stillHotWithin (now : Int) (s.overloadTime : Int)) := by
  simp only [Shedder.stillHot, stillHotUnset, stillHotWithin, coolOffNs]
  congr 1
  · congr 1
    cases h : s.overloadTime <;> simp <;> omega
  · apply decide_eq_decide.mpr
    omega

theorem tie_defaultChecker : defaultCheckerExpr = "stat.CpuUsage() >= cpuThreshold" := rfl

/-- `Pass` records `int64(math.Ceil(float64(timex.Since(start)) / float64(time.Millisecond)))` and counts one pass. -/
theorem tie_pass (now start : Nat) (h : start ≤ now) :
    rtMs now start = passRtRecorded (passRtExpr (now : Int) (start : Int)) ∧ passCounted = 1 := by
  constructor
  · -- ⌈k / 10⁶⌉ = −⌊−k / 10⁶⌋ = (k + 999999) / 10⁶
    simp only [rtMs, passRtRecorded, passRtExpr, goCeil, nsPerMs]
    rw [← Int.natCast_sub h, Rat.ceil_eq_neg_floor_neg, Rat.div_def,
      ← Rat.neg_mul, ← Rat.div_def, ← Rat.intCast_neg, floor_intCast_div _ _ (by decide)]
    omega
  · rfl

/-- `span()`: offset = Since(lastTime) / interval; in [0, size) → offset, else size (clock monotone: lastTime ≤ now). -/
theorem tie_span (rw : RW) (now : Nat) (h : rw.lastTime ≤ now) :
    (rw.span now : Int) =
      (if spanInRange (spanOffsetExpr (now : Int) (rw.lastTime : Int) (rw.interval : Int)) (rw.size : Int)
       then spanOffsetExpr (now : Int) (rw.lastTime : Int) (rw.interval : Int) else (rw.size : Int)) := by
  simp only [RW.span, spanInRange, spanOffsetExpr, ← Int.natCast_sub h, ← Int.ofNat_tdiv]
  generalize (now - rw.lastTime) / rw.interval = k
  by_cases hlt : k < rw.size <;> simp [hlt] <;> omega

/-- `updateOffset`: skip when span ≤ 0; reset indices (offset+i+1) % size; offset' = (offset+span) % size;
lastTime' = now − (now − lastTime) % interval. -/
theorem tie_updateOffset (rw : RW) (now : Nat) (h : rw.lastTime ≤ now) :
    (updateSkips (rw.span now : Int) = decide (rw.span now = 0))
    ∧ (∀ i : Nat, resetIndexExpr (rw.offset : Int) (i : Int) (rw.size : Int) = (((rw.offset + i + 1) % rw.size : Nat) : Int))
    ∧ (rw.span now ≠ 0 →
        ((rw.updateOffset now).offset : Int) = newOffsetExpr (rw.offset : Int) (rw.span now : Int) (rw.size : Int)
        ∧ ((rw.updateOffset now).lastTime : Int) = newLastTimeExpr (now : Int) (rw.lastTime : Int) (rw.interval : Int)) := by
  refine ⟨?_, ?_, ?_⟩
  · simp only [updateSkips]
    apply decide_eq_decide.mpr
    omega
  · intro i
    simp only [resetIndexExpr, ← Int.natCast_one, ← Int.natCast_add, ← Int.ofNat_tmod]
  · intro hs
    simp only [RW.updateOffset, hs, if_false, newOffsetExpr, newLastTimeExpr, ← Int.natCast_sub h, ← Int.ofNat_tmod]
    constructor
    · rw [← Int.natCast_add, ← Int.ofNat_tmod]
    · have := Nat.mod_le (now - rw.lastTime) rw.interval
      omega

/-- the reset loop resets exactly the indices the extracted expression names. -/
theorem tie_resetLoop (bs : List Bucket) (size offset span : Nat) :
    resetLoop bs size offset (span + 1)
      = (resetLoop bs size offset span).set (resetIndexExpr (offset : Int) (span : Int) (size : Int)).toNat Bucket.empty := by
  simp only [resetLoop, resetIndexExpr, ← Int.natCast_one, ← Int.natCast_add, ← Int.ofNat_tmod]
  rfl

/-- `Add` writes into bucket `offset % size`; `Bucket.Add` adds to the sum and counts one; `Reset` zeroes both. -/
theorem tie_bucket (b : Bucket) (v : Int) (offset size : Nat) :
    bucketAdd b.sum v b.count = [("Sum", (b.add v).sum), ("Count", (b.add v).count)]
    ∧ bucketReset = [("Sum", Bucket.empty.sum), ("Count", Bucket.empty.count)]
    ∧ winAddIndex (offset : Int) (size : Int) = ((offset % size : Nat) : Int)
    ∧ winResetIndex (offset : Int) (size : Int) = ((offset % size : Nat) : Int) := by
  refine ⟨rfl, rfl, ?_, ?_⟩ <;> simp only [winAddIndex, winResetIndex, ← Int.ofNat_tmod]

/-- `Reduce`: span == 0 with ignoreCurrent → size − 1 buckets, else size − span; runs when diff > 0, starting at
(offset + span + 1) % size and walking (start + i) % size (size ≥ 1: NewRollingWindow panics otherwise). -/
theorem tie_reduce (rw : RW) (now : Nat) (hs : 1 ≤ rw.size) :
    rw.visible now =
      if reduceRuns (if reduceIgnoresCurrent (rw.span now : Int) rw.ignoreCurrent then reduceDiffIgnoring (rw.size : Int)
                     else reduceDiff (rw.size : Int) (rw.span now : Int)) then
        (List.range (if reduceIgnoresCurrent (rw.span now : Int) rw.ignoreCurrent then reduceDiffIgnoring (rw.size : Int)
                     else reduceDiff (rw.size : Int) (rw.span now : Int)).toNat).map fun (i : Nat) =>
          rw.buckets.getD (winReduceIndex (reduceStartExpr (rw.offset : Int) (rw.span now : Int) (rw.size : Int))
            ((i : Nat) : Int) (rw.size : Int)).toNat Bucket.empty
      else [] := by
  have hspan : rw.span now ≤ rw.size := (Ring.span_facts rw.size rw.interval rw.lastTime now).1
  simp only [RW.visible]
  generalize rw.span now = span at *
  have hd : (if reduceIgnoresCurrent (span : Int) rw.ignoreCurrent then reduceDiffIgnoring (rw.size : Int)
                     else reduceDiff (rw.size : Int) (span : Int))
      = (((if span = 0 && rw.ignoreCurrent then rw.size - 1 else rw.size - span) : Nat) : Int) := by
    simp only [reduceIgnoresCurrent, reduceDiffIgnoring, reduceDiff]
    by_cases h0 : span = 0 <;> cases hi : rw.ignoreCurrent <;> simp [h0] <;> omega
  rw [hd]
  simp only [reduceRuns, winReduceIndex, reduceStartExpr, ← Int.natCast_one, ← Int.natCast_add, ← Int.ofNat_tmod,
    Int.toNat_natCast]
  generalize (if (span = 0 && rw.ignoreCurrent) = true then rw.size - 1 else rw.size - span) = d
  by_cases hpos : d > 0 <;> simp only [hpos, Int.natCast_pos, gt_iff_lt, decide_true, decide_false, if_true, if_false]
  rfl

/-- the nop shedder hands out a nop promise and no error; the disabled path of `NewAdaptiveShedder` returns it. -/
theorem tie_nopAllow : nopAllowReturns = "nopPromise{}" ∧ nopAllowError = "nil" ∧ newWhenDisabled = "newNopShedder()" :=
  ⟨rfl, rfl, rfl⟩

/-- `NewAdaptiveShedder`: disabled → nop shedder; otherwise options, then the struct with two rolling windows. -/
theorem tie_newShape : newShape =
    ["if !enabled.True() {", "return", "}", "range opts {", "call opt", "}", "func{", "return", "}",
    "call syncx.NewAtomicDuration", "call syncx.NewAtomicBool", "call ?", "call ?", "call ?", "call ?",
    "return"] := rfl

/-- `Allow`: shouldDrop → mark droppedRecently and refuse; else addFlying and a promise stamped with timex.Now(). -/
theorem tie_allowShape : allowShape =
    ["if as.shouldDrop() {", "call as.droppedRecently.Set", "return", "}", "call as.addFlying",
    "call timex.Now", "return"] := rfl

/-- `addFlying`: one atomic add; the average is updated (under its spin lock) only on a decrement. -/
theorem tie_addFlyingShape : addFlyingShape =
    ["call atomic.AddInt64", "if delta < 0 {", "call as.avgFlyingLock.Lock", "store as.avgFlying",
    "call as.avgFlyingLock.Unlock", "}"] := rfl

/-- `highThru`: average read under its lock, limit = maxFlight·factor, atomic read of flying. -/
theorem tie_highThruShape : highThruShape =
    ["call as.avgFlyingLock.Lock", "call as.avgFlyingLock.Unlock", "call as.maxFlight",
    "call as.overloadFactor", "call atomic.LoadInt64", "return"] := rfl

/-- `shouldDrop`: (systemOverloaded ‖ stillHot) then highThru; the drop branch only logs (and re-evaluates stillHot for the log line). -/
theorem tie_shouldDropShape : shouldDropShape =
    ["if as.systemOverloaded() || as.stillHot() {", "if as.highThru() {", "call as.stillHot", "return", "}", "}", "return"] := rfl

/-- `stillHot`: not dropped recently → false; overloadTime unset → false; within cool-off → true; else clear droppedRecently. -/
theorem tie_stillHotShape : stillHotShape =
    ["if !as.droppedRecently.True() {", "return", "}", "call as.overloadTime.Load",
    "if overloadTime == 0 {", "return", "}", "if timex.Since(overloadTime) < coolOffDuration {", "return",
    "}", "call as.droppedRecently.Set", "return"] := rfl

/-- `systemOverloaded`: checker says no → false; else stamp overloadTime with timex.Now(). -/
theorem tie_systemOverloadedShape : systemOverloadedShape =
    ["if !systemOverloadChecker(as.cpuThreshold) {", "return", "}", "call timex.Now",
    "call as.overloadTime.Set", "return"] := rfl

/-- `maxPass`: fold over passCounter.Reduce. -/
theorem tie_maxPassShape : maxPassShape =
    ["func{", "if b.Sum > result {", "}", "}", "call as.passCounter.Reduce", "return"] := rfl

/-- `minRt`: fold over rtCounter.Reduce skipping empty buckets. -/
theorem tie_minRtShape : minRtShape =
    ["func{", "if b.Count <= 0 {", "return", "}", "call math.Round", "if avg < result {", "}", "}",
    "call as.rtCounter.Reduce", "return"] := rfl

/-- `promise.Pass`: latency from timex.Since(start), release, record latency, count the pass. -/
theorem tie_passShape : passShape =
    ["call timex.Since", "call p.shedder.addFlying", "call math.Ceil", "call p.shedder.rtCounter.Add",
    "call p.shedder.passCounter.Add"] := rfl

/-- `promise.Fail`: release only. -/
theorem tie_failShape : failShape =
    ["call p.shedder.addFlying"] := rfl

theorem tie_spanShape : spanShape =
    ["call timex.Since", "if 0 <= offset && offset < rw.size {", "return", "}", "return"] := rfl

/-- `updateOffset`: nothing if span ≤ 0; reset loop; new offset; aligned lastTime. -/
theorem tie_updateOffsetShape : updateOffsetShape =
    ["call rw.span", "if span <= 0 {", "return", "}", "for i < span {", "call rw.win.resetBucket", "}",
    "store rw.offset", "call timex.Now", "store rw.lastTime"] := rfl

/-- `RollingWindow.Add`: under the write lock, updateOffset then add into the current bucket. -/
theorem tie_rwAddShape : rwAddShape =
    ["call rw.lock.Lock", "defer{", "call rw.lock.Unlock", "}", "call rw.updateOffset", "call rw.win.add"] := rfl

/-- `RollingWindow.Reduce`: under the read lock; diff by the ignore-current rule; reduce if diff > 0. -/
theorem tie_reduceShape : reduceShape =
    ["call rw.lock.RLock", "defer{", "call rw.lock.RUnlock", "}", "call rw.span",
    "if span == 0 && rw.ignoreCurrent {", "}", "else{", "}", "if diff > 0 {", "call rw.win.reduce", "}"] := rfl

theorem tie_winReduceShape : winReduceShape =
    ["for i < count {", "call fn", "}"] := rfl

/-- `NewRollingWindow`: size ≥ 1 or panic; lastTime = timex.Now(); options applied. -/
theorem tie_newRollingWindowShape : newRollingWindowShape =
    ["if size < 1 {", "panic", "}", "call ?", "call timex.Now", "range opts {", "call opt", "}", "return"] := rfl

/-- `IgnoreCurrentBucket` sets the flag. -/
theorem tie_ignoreCurrentShape : ignoreCurrentShape =
    ["func{", "store w.ignoreCurrent", "}", "return"] := rfl

/-- `nopShedder.Allow` just returns. -/
theorem tie_nopAllowShape : nopAllowShape =
    ["return"] := rfl

/-- `nopPromise.Pass` does nothing. -/
theorem tie_nopPassShape : nopPassShape =
    [] := rfl

/-- `nopPromise.Fail` does nothing. -/
theorem tie_nopFailShape : nopFailShape =
    [] := rfl

/-- `ShedderGroup.GetShedder`: one NewAdaptiveShedder per key through the resource manager. -/
theorem tie_getShedderShape : getShedderShape =
    ["func{", "call NewAdaptiveShedder", "return", "}", "call g.manager.GetResource", "return"] := rfl

/-- `stat.CpuUsage` is one atomic load. -/
theorem tie_cpuUsageShape : cpuUsageShape =
    ["call atomic.LoadInt64", "return"] := rfl

theorem tie_atLeastShape : atLeastShape =
    ["if x < lower {", "return", "}", "return"] := rfl

theorem tie_betweenShape : betweenShape =
    ["if x < lower {", "return", "}", "if x > upper {", "return", "}", "return"] := rfl

/-- `SheddingHandler`: Allow; refused → 503 and return; admitted → exactly one of Fail / Pass, in a defer, around next.ServeHTTP. -/
theorem tie_sheddingHandlerShape : sheddingHandlerShape =
    ["if shedder == nil {", "func{", "return", "}", "return", "}", "func{", "func{", "call shedder.Allow",
    "if err != nil {", "call w.WriteHeader", "return", "}", "defer{", "func{",
    "if cw.Code == http.StatusServiceUnavailable {", "call promise.Fail", "}", "else{",
    "call promise.Pass", "}", "}", "call func", "}", "call next.ServeHTTP", "}", "return", "}", "return"] := rfl

/-- `UnarySheddingInterceptor`: Allow; refused → ResourceExhausted; admitted → exactly one of Fail / Pass, in a defer, around the handler. -/
theorem tie_sheddingInterceptorShape : sheddingInterceptorShape =
    ["func{", "call shedder.Allow", "if err != nil {", "call status.Error", "return", "}", "defer{",
    "func{", "if errors.Is(err, context.DeadlineExceeded) {", "call promise.Fail", "}", "else{",
    "call promise.Pass", "}", "}", "call func", "}", "call handler", "return", "}", "return"] := rfl

end GoZero.C02.Tie
