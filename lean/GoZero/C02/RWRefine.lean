/-
C02 — the rolling window is a view of the event log: after any `Add`s at non-decreasing times, the log partitioned by
`(t − t0) / interval` over the `size − 1` buckets before the current one is, oldest first, what `Reduce` hands out at `now`
followed only by empty buckets (`Tracks.visible`; after a gap `Reduce` hands out fewer buckets than the log's window has).  The invariant is the generic `Ring.Rep` (Base/RollingWindow.lean) at the window's fields, the
log read through `Spec.bucketOf`; `Tracks` adds what the shedder's windows share (`IgnoreCurrentBucket`, the configuration `c`).
-/
import GoZero.C02.Spec
import GoZero.Base.RollingWindow
namespace GoZero.C02
open Spec

theorem resetLoop_eq (bs : List Bucket) (n o s : Nat) : resetLoop bs n o s = Ring.reset Bucket.empty n o s bs := by
  induction s with
  | zero => rfl
  | succ s ih => rw [resetLoop, ih]; rfl

theorem bucketOf_cons (c : WinCfg) (val : PassEv → Int) (log : List PassEv) (e : PassEv) :
    bucketOf c val (e :: log) = Ring.record (bucketOf c val log) (bucketIdx c e.t) (·.add (val e)) := by
  funext j
  simp only [bucketOf, Ring.record, eq_comm (a := j)]

/-- `Spec.visibleIdx` lists the ages `size − 1, …, 1` before the bucket of `now` -/
theorem windowBuckets_eq (c : WinCfg) (val : PassEv → Int) (log : List PassEv) (now : Nat) :
    windowBuckets c val log now =
      (List.range (c.size - 1)).map fun i =>
        Ring.Lget Bucket.empty (bucketOf c val log) (bucketIdx c now) (c.size - 1 - i) := by
  unfold windowBuckets visibleIdx Ring.Lget
  rw [List.map_map]
  apply List.map_congr_left
  intro i hi
  have := List.mem_range.1 hi
  by_cases h : c.size ≤ bucketIdx c now + 1 + i
  · simp only [Function.comp, h, if_true]
    rw [if_pos (by omega)]
    congr 1
    omega
  · simp only [Function.comp, h, if_false]
    rw [if_neg (by omega)]

variable {rw : RW} {c : WinCfg} {val : PassEv → Int} {log : List PassEv}

/-- `rw`, read at a time `now` not before its last alignment, shows `log` bucketed by `c` with values `val`. -/
structure Tracks (rw : RW) (c : WinCfg) (val : PassEv → Int) (log : List PassEv) (now : Nat) : Prop where
  le     : rw.lastTime ≤ now
  size   : rw.size = c.size
  iv     : rw.interval = c.interval
  ignore : rw.ignoreCurrent = true
  rep    : ∃ cur, Ring.Rep Bucket.empty rw.size rw.interval rw.offset rw.lastTime rw.buckets c.t0 cur (bucketOf c val log)

theorem Tracks.mono {now now' : Nat} (h : Tracks rw c val log now) (hle : now ≤ now') : Tracks rw c val log now' :=
  { h with le := Nat.le_trans h.le hle }

theorem tracks_new (size interval now : Nat) (sc : Rat) (val : PassEv → Int) (hs : 1 ≤ size) (hi : 1 ≤ interval) :
    Tracks (RW.new size interval now true) ⟨size, interval, now, sc⟩ val [] now :=
  ⟨Nat.le_refl _, rfl, rfl, rfl, 0, Ring.Rep.init hs hi now⟩

theorem update_rep {t0 cur : Nat} {L : Nat → Bucket}
    (g : Ring.Rep Bucket.empty rw.size rw.interval rw.offset rw.lastTime rw.buckets t0 cur L) {now : Nat}
    (hle : rw.lastTime ≤ now) :
    (rw.updateOffset now).size = rw.size ∧ (rw.updateOffset now).interval = rw.interval
    ∧ (rw.updateOffset now).ignoreCurrent = rw.ignoreCurrent ∧ (rw.updateOffset now).lastTime ≤ now
    ∧ Ring.Rep Bucket.empty (rw.updateOffset now).size (rw.updateOffset now).interval (rw.updateOffset now).offset
        (rw.updateOffset now).lastTime (rw.updateOffset now).buckets t0 (cur + (now - rw.lastTime) / rw.interval) L := by
  unfold RW.updateOffset
  dsimp only
  split
  · next hz => exact ⟨rfl, rfl, rfl, hle, g.stay hz⟩
  · have u := g.update hle
    rw [← resetLoop_eq] at u
    exact ⟨rfl, rfl, rfl, Nat.sub_le _ _, u⟩

theorem Tracks.add {e : PassEv} (h : Tracks rw c val log e.t) : Tracks (rw.add e.t (val e)) c val (e :: log) e.t := by
  obtain ⟨hle, hs, hi, hig, cur, g⟩ := h
  obtain ⟨us, ui, ug, ule, u⟩ := update_rep g hle
  refine ⟨ule, us.trans hs, ui.trans hi, ug.trans hig, cur + (e.t - rw.lastTime) / rw.interval, ?_⟩
  rw [bucketOf_cons, bucketIdx, ← hi, g.idx hle]
  exact u.modify _

theorem foldl_replicate_fixed {α β : Type} (f : β → α → β) (a : α) (n : Nat) (r : β) (h : f r a = r) :
    (List.replicate n a).foldl f r = r := by
  induction n with
  | zero => rfl
  | succ n ih => rw [List.replicate_succ, List.foldl_cons, h, ih]

theorem one_le_maxPassOf (bs : List Bucket) : 1 ≤ maxPassOf bs := by
  have : ∀ (l : List Bucket) (r : Int), 1 ≤ r → 1 ≤ l.foldl (fun r b => if b.sum > r then b.sum else r) r := by
    intro l
    induction l with
    | nil => exact fun r h => h
    | cons b l ih => exact fun r h => ih _ (by show 1 ≤ if b.sum > r then b.sum else r; split <;> omega)
  exact this bs 1 (Int.le_refl 1)

theorem maxPassOf_append_empty (bs : List Bucket) (n : Nat) :
    maxPassOf (bs ++ List.replicate n Bucket.empty) = maxPassOf bs := by
  have := one_le_maxPassOf bs
  rw [maxPassOf] at this ⊢
  rw [List.foldl_append]
  exact foldl_replicate_fixed _ _ _ _ (if_neg (by simp only [Bucket.empty]; omega))

theorem minRtOf_append_empty (bs : List Bucket) (n : Nat) :
    minRtOf (bs ++ List.replicate n Bucket.empty) = minRtOf bs := by
  rw [minRtOf, List.foldl_append]
  exact foldl_replicate_fixed _ _ _ _ (if_pos (by decide))

theorem Tracks.visible {now : Nat} (h : Tracks rw c val log now) :
    ∃ n, windowBuckets c val log now = rw.visible now ++ List.replicate n Bucket.empty := by
  obtain ⟨hle, hs, hi, hig, cur, g⟩ := h
  obtain ⟨hsn, hsle, -⟩ := Ring.span_facts rw.size rw.interval rw.lastTime now
  have hn := g.npos
  rw [windowBuckets_eq, bucketIdx, ← hi, g.idx hle, ← hs, RW.visible]
  simp only [hig, Bool.and_true, decide_eq_true_eq]
  rw [show rw.span now = Ring.span rw.size rw.interval rw.lastTime now from rfl]
  generalize hk : (now - rw.lastTime) / rw.interval = k at hsle ⊢
  generalize hsp : Ring.span rw.size rw.interval rw.lastTime now = s at hsn hsle ⊢
  generalize hdiff : (if s = 0 then rw.size - 1 else rw.size - s) = diff
  -- the buckets walked are not among the `s` youngest; those left out after them are
  obtain ⟨r, hr, hd, hy⟩ : ∃ r, rw.size - 1 = diff + r ∧ diff + s ≤ rw.size ∧ (0 < r → rw.size ≤ diff + s) := by
    subst hdiff
    split
    · exact ⟨0, rfl, by omega, fun h => absurd h (Nat.lt_irrefl 0)⟩
    · next h0 =>
      exact ⟨s - 1, (Nat.sub_add_sub_cancel hsn (Nat.pos_of_ne_zero h0)).symm, Nat.le_of_eq (Nat.sub_add_cancel hsn),
        fun _ => Nat.le_of_eq (Nat.sub_add_cancel hsn).symm⟩
  clear hdiff hsn hs hi hig hle
  refine ⟨r, ?_⟩
  rw [show List.range (rw.size - 1) = List.range diff ++ (List.range r).map (diff + ·) by rw [← List.range_add, hr],
    List.map_append, List.map_map]
  congr 1
  · have : ∀ i ∈ List.range diff, Ring.Lget Bucket.empty (bucketOf c val log) (cur + k) (rw.size - 1 - i)
        = rw.buckets.getD (((rw.offset + s + 1) % rw.size + i) % rw.size) Bucket.empty := by
      intro i hi
      have := List.mem_range.1 hi
      rw [Nat.mod_add_mod, ← hsp, ← hk]
      exact (g.visible now (i := i) (by omega)).symm
    rw [List.map_congr_left this]
    split
    · rfl
    · rw [show diff = 0 by omega]; rfl
  · refine List.eq_replicate_iff.mpr ⟨by simp, fun b hb => ?_⟩
    obtain ⟨i, hi, rfl⟩ := List.mem_map.mp hb
    have := List.mem_range.1 hi
    dsimp only [Function.comp]
    exact g.young (by omega)

end GoZero.C02
