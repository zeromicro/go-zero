/-
C02 — property theorems about the code around the shedder (model: Site.lean): construction and options, Disable and
the nop shedder, ShedderGroup, the default CPU check and the sampler's moving average, the HTTP / gRPC call sites and
their SheddingStat counters, and the end-to-end statements "call site → wrapper → shedder".
-/
import GoZero.C02.Props
import GoZero.C02.Site
namespace GoZero.C02
open Site

/-- **A disabled shedder never sheds — constructor to promise.**  With the package flag cleared (`Disable()`),
`NewAdaptiveShedder` returns the nop shedder whatever the options; its `Allow` admits for every time, checker verdict
and CPU reading, and neither `Allow` nor resolving its promise changes it. -/
theorem disabled_shedder_never_sheds (opts : List Opt) (t0 : Nat) :
    newShedder false opts t0 = .nop
    ∧ (∀ now cpuOver cpu, AnyShedder.nop.allow now cpuOver cpu = (.nop, .admitted))
    ∧ (∀ now start pass, AnyShedder.nop.resolve now start pass = .nop) :=
  ⟨rfl, fun _ _ _ => rfl, fun _ _ _ => rfl⟩

theorem options_default : applyOpts [] = ⟨5000000000, 50, 900⟩ := rfl

/-- options are applied in order; the last one of a kind wins and leaves the other fields alone. -/
theorem options_last_wins (opts : List Opt) (w b : Nat) (t : Int) :
    ((applyOpts (opts ++ [.threshold t])).threshold = t
      ∧ (applyOpts (opts ++ [.threshold t])).window = (applyOpts opts).window
      ∧ (applyOpts (opts ++ [.threshold t])).buckets = (applyOpts opts).buckets)
    ∧ ((applyOpts (opts ++ [.window w])).window = w
      ∧ (applyOpts (opts ++ [.window w])).threshold = (applyOpts opts).threshold
      ∧ (applyOpts (opts ++ [.window w])).buckets = (applyOpts opts).buckets)
    ∧ ((applyOpts (opts ++ [.buckets b])).buckets = b
      ∧ (applyOpts (opts ++ [.buckets b])).threshold = (applyOpts opts).threshold
      ∧ (applyOpts (opts ++ [.buckets b])).window = (applyOpts opts).window) := by
  simp [applyOpts, List.foldl_append, Opt.apply]

theorem foldl_threshold_absent (opts : List Opt) (o : Options) (h : ∀ t, Opt.threshold t ∉ opts) :
    (opts.foldl Opt.apply o).threshold = o.threshold := by
  induction opts generalizing o with
  | nil => rfl
  | cons x xs ih =>
    simp only [List.foldl_cons]
    rw [ih]
    · cases x with
      | threshold t => exact absurd (List.mem_cons_self) (h t)
      | window w => rfl
      | buckets b => rfl
    · intro t ht; exact h t (List.mem_cons_of_mem _ ht)

/-- no `WithCpuThreshold` among the options ⇒ the threshold is the default 900 (90 % CPU). -/
theorem options_threshold_default (opts : List Opt) (h : ∀ t, Opt.threshold t ∉ opts) :
    (applyOpts opts).threshold = 900 := foldl_threshold_absent opts defaultOptions h

/-- an enabled `NewAdaptiveShedder(opts...)` is the adaptive shedder of the resolved options — the object all the
theorems of Props.lean speak about. -/
theorem new_shedder_is_model (opts : List Opt) (now : Nat) :
    newShedder true opts now =
      .adaptive (Shedder.new (applyOpts opts).window (applyOpts opts).buckets (applyOpts opts).threshold now) := rfl

theorem find_set (g : Group) (key key' : Nat) (a : AnyShedder) :
    (g.set key a).find key' = if key = key' then some a else g.find key' := by
  simp only [Group.find, Group.set]
  induction g.members with
  | nil => by_cases h : key = key' <;> simp [update, lookup, h]
  | cons m ms ih =>
    by_cases h : key = key'
    · subst h
      by_cases hm : m.1 = key <;> simp [update, lookup, hm, ih]
    · by_cases hm : m.1 = key <;> simp [update, lookup, hm, h, ih]

/-- **`GetShedder` hands out one shedder per key.**  The first call for a key creates the shedder from the group's
options (at that moment: the `enabled` flag and the clock are read then); every later call — whatever the flag and
the clock say by then — returns that same shedder and leaves the group unchanged. -/
theorem group_one_shedder_per_key (g : Group) (en en' : Bool) (key now now' : Nat) :
    let r := g.get en key now
    r.1.get en' key now' = (r.1, r.2)
    ∧ (g.find key = none → r.2 = newShedder en g.opts now) := by
  intro r
  cases hf : g.find key <;> simp [r, Group.get, hf, find_set]

/-- a disabled shedder never sheds, through a ShedderGroup: a key first used while disabled gets the nop shedder (and
keeps it, by the theorem above). -/
theorem disabled_group_member_never_sheds (g : Group) (key now : Nat) (h : g.find key = none) :
    (g.get false key now).2 = .nop :=
  (group_one_shedder_per_key g false false key now now).2 h

/-- **Keys are independent.**  Creating or updating the shedder of one key (an Allow, a Pass, a Fail on it) leaves the
shedder of every other key as it was. -/
theorem group_keys_independent (g : Group) (en : Bool) (key key' now : Nat) (a : AnyShedder) (h : key ≠ key') :
    (g.set key a).find key' = g.find key' ∧ (g.get en key now).1.find key' = g.find key' := by
  refine ⟨by rw [find_set, if_neg h], ?_⟩
  cases hf : g.find key with
  | some a' => simp [Group.get, hf]
  | none => simp [Group.get, hf, find_set, h]

/-- **Sheds only if the CPU reading is at or above the threshold** (default `systemOverloadChecker`): if `Allow`
returns ErrServiceOverloaded then `stat.CpuUsage() ≥ cpuThreshold` held at the checker's read — or shedding was in
progress and an Allow saw that less than a second ago — and in-flight count and average exceed 10 % of the estimate. -/
theorem shed_only_if_cpu_at_or_above_threshold (s : Shedder) (now : Nat) (cpuC cpuF : Int)
    (h : (s.allowDefault now cpuC cpuF).2 = .overloaded) :
    (cpuC ≥ s.cpuThreshold ∨
      (s.droppedRecently = true ∧ s.overloadTime ≠ 0 ∧ now - s.overloadTime < 1000000000))
    ∧ 10 * (s.flying : Rat) > s.maxFlight now
    ∧ 10 * s.avgFlying > s.maxFlight now
    ∧ 1 ≤ s.flying := by
  have := shed_only_if_hot_and_busy s now (defaultChecker cpuC s.cpuThreshold) cpuF h
  refine ⟨?_, this.2⟩
  rcases this.1 with h1 | h1
  · exact Or.inl (by simpa [defaultChecker] using h1)
  · exact Or.inr h1

/-- **Does shed** at a CPU reading at or above the threshold when in-flight count and average exceed the estimate. -/
theorem sheds_when_cpu_at_or_above_threshold (s : Shedder) (now : Nat) (cpuC cpuF : Int)
    (hc : cpuC ≥ s.cpuThreshold)
    (hf : (s.flying : Rat) > s.maxFlight now) (ha : s.avgFlying > s.maxFlight now) :
    (s.allowDefault now cpuC cpuF).2 = .overloaded := by
  have : defaultChecker cpuC s.cpuThreshold = true := by simpa [defaultChecker] using hc
  unfold Shedder.allowDefault
  rw [this]
  exact sheds_when_over_capacity s now cpuF hf ha

/-- below the threshold and outside a cool-off nothing is shed, whatever the load. -/
theorem calm_cpu_never_sheds (s : Shedder) (now : Nat) (cpuC cpuF : Int)
    (hc : cpuC < s.cpuThreshold) (hd : s.droppedRecently = false) :
    (s.allowDefault now cpuC cpuF).2 = .admitted := by
  cases hv : (s.allowDefault now cpuC cpuF).2 with
  | admitted => rfl
  | overloaded =>
    have := (shed_only_if_cpu_at_or_above_threshold s now cpuC cpuF hv).1
    rcases this with h | h
    · omega
    · simp [hd] at h

theorem cpuEma_eq_div (prev cur : Int) (hp : 0 ≤ prev) (hc : 0 ≤ cur) :
    cpuEma prev cur = (19 * prev + cur) / 20 := by
  have e : (prev : Rat) * (19 / 20) + (cur : Rat) * (1 - 19 / 20) = ((19 * prev + cur : Int) : Rat) / ((20 : Int) : Rat) := by
    simp only [Rat.intCast_add, Rat.intCast_mul]
    grind
  have h1 := Rat.intCast_nonneg.mpr hp
  have h2 := Rat.intCast_nonneg.mpr hc
  rw [cpuEma, goTrunc, if_pos (by grind), e, floor_intCast_div _ _ (by decide)]

/-- **The CPU reading stays a millicpu figure.**  One tick of the sampler moves the reading to a value between the
previous reading and the new sample (so a constant sample is never overshot). -/
theorem cpu_reading_between (prev cur : Int) (hp : 0 ≤ prev) (hc : 0 ≤ cur) :
    min prev cur ≤ cpuEma prev cur ∧ cpuEma prev cur ≤ max prev cur := by
  rw [cpuEma_eq_div prev cur hp hc]
  constructor <;> omega

/-- with samples in [0, 1000] (RefreshCpu clamps to cpuMax) every reading `stat.CpuUsage()` returns lies in [0, 1000]. -/
theorem cpu_reading_in_range (prev cur : Int) (hp : 0 ≤ prev ∧ prev ≤ 1000) (hc : 0 ≤ cur ∧ cur ≤ 1000) :
    0 ≤ cpuEma prev cur ∧ cpuEma prev cur ≤ 1000 := by
  have := cpu_reading_between prev cur hp.1 hc.1
  omega

/-- **The reading after ANY trace of samples stays in [0, 1000]** (induction over the sampler's ticks). -/
theorem cpu_trace_in_range (curs : List Int) (start : Int) (hs : 0 ≤ start ∧ start ≤ 1000)
    (hc : ∀ c ∈ curs, 0 ≤ c ∧ c ≤ 1000) : 0 ≤ cpuTrace start curs ∧ cpuTrace start curs ≤ 1000 := by
  induction curs generalizing start with
  | nil => simpa [cpuTrace] using hs
  | cons c cs ih =>
    have h1 := cpu_reading_in_range start c hs (hc c (by simp))
    have := ih (cpuEma start c) h1 (fun x hx => hc x (by simp [hx]))
    simpa [cpuTrace] using this

/-- the window the harness monitor `samplerStepOk` checks on the REAL sampler goroutine: with a sample in 0 … 1000 the new
reading lies between the readings the samples 0 and 1000 give. -/
theorem cpu_step_window (prev cur : Int) (hp : 0 ≤ prev) (hc : 0 ≤ cur ∧ cur ≤ 1000) :
    cpuEma prev 0 ≤ cpuEma prev cur ∧ cpuEma prev cur ≤ cpuEma prev 1000 := by
  rw [cpuEma_eq_div prev cur hp hc.1, cpuEma_eq_div prev 0 hp (by omega), cpuEma_eq_div prev 1000 hp (by omega)]
  constructor <;> omega

/-- the monitor never fires on a step of the model. -/
theorem sampler_monitor_sound (prev cur : Int) (hp : 0 ≤ prev) (hc : 0 ≤ cur ∧ cur ≤ 1000) :
    samplerStepOk prev (cpuEma prev cur) = true := by
  have := cpu_step_window prev cur hp hc
  simp only [samplerStepOk, Bool.and_eq_true, decide_eq_true_eq]
  omega

/-- **HTTP: an admitted request is resolved exactly once, after its handler, for every outcome** — any status, a body,
a second WriteHeader, a writer inherited from an outer middleware, a panic.  Fail iff the last status set is 503. -/
theorem http_admitted_resolved_exactly_once (o : HttpOutcome) :
    let r := httpServe false true o
    r.res.length = 1 ∧ r.asked = 1 ∧ r.ran = true ∧ r.early = 0
    ∧ r.res = [if o.lastCode = 503 then Res.fail else Res.pass]
    ∧ r.stat = ⟨1, if o.lastCode = 503 then 0 else 1, 0⟩ := by
  by_cases h : o.lastCode = 503 <;> simp [httpServe, httpFails, statusServiceUnavailable, h]

/-- HTTP: a refused request gets 503, is not handled and its (nil) promise is not touched; one drop is counted. -/
theorem http_refused (o : HttpOutcome) :
    httpServe false false o = { asked := 1, ran := false, early := 0, res := [], status := 503, stat := ⟨1, 0, 1⟩ } := rfl

/-- HTTP: `SheddingHandler(nil, …)` is the identity: no Allow, no counters. -/
theorem http_nil_shedder (allowed : Bool) (o : HttpOutcome) :
    httpServe true allowed o = { asked := 0, ran := true, early := 0, res := [], status := o.wire, stat := {} } := rfl

/-- **gRPC: an admitted call is resolved exactly once for every outcome**; Fail iff the handler returned (did not
panic) with an error that `errors.Is` context.DeadlineExceeded. -/
theorem rpc_admitted_resolved_exactly_once (dl pn : Bool) :
    let r := rpcServe true dl pn
    r.res.length = 1 ∧ r.asked = 1 ∧ r.ran = true ∧ r.early = 0
    ∧ r.res = [if dl = true ∧ pn = false then Res.fail else Res.pass]
    ∧ r.stat = ⟨1, if dl = true ∧ pn = false then 0 else 1, 0⟩ := by
  cases dl <;> cases pn <;> decide

theorem rpc_refused (dl pn : Bool) :
    rpcServe false dl pn = { asked := 1, ran := false, early := 0, res := [], status := 8, stat := ⟨1, 0, 1⟩ } := rfl

/-- **Every way a handler can end** (return, panic with a value, panic with an error value — http.ErrAbortHandler,
context.DeadlineExceeded itself, the PanicNilError of panic(nil) —, runtime.Goexit): the admitted request is resolved
exactly once; after any abnormal end the gRPC wrapper resolves by Pass (its named result is still nil), the HTTP wrapper
by the last status recorded. -/
theorem admitted_resolved_exactly_once_every_end (e : End) (dl : Bool) (o : HttpOutcome) :
    (rpcServe true dl e.abnormal).res.length = 1
    ∧ (httpServe false true { o with panics := e.abnormal }).res.length = 1
    ∧ (e ≠ .returns → (rpcServe true dl e.abnormal).res = [Res.pass])
    ∧ (httpServe false true { o with panics := e.abnormal }).res = (httpServe false true o).res := by
  -- `httpServe` does not read `panics`: its two conjuncts are the statements about `o` itself
  refine ⟨?_, (http_admitted_resolved_exactly_once o).1, fun hne => ?_, rfl⟩
  · cases e <;> cases dl <;> decide
  · cases e <;> cases dl <;> first | contradiction | decide

/-- **The call-site monitors never fire on the model** (what DriverH's `callSiteMonitor`, the classification clause and the
SheddingStat clause check on the real wrappers): an admitted request is resolved exactly once and not early, a refused one
is neither handled nor resolved and gets 503 / ResourceExhausted, Allow is asked once, and the counters are
total +1, pass +1 exactly with a Pass, drop +1 exactly with a refusal. -/
theorem callsite_monitor_sound (allowed : Bool) (o : HttpOutcome) (dl pn : Bool) :
    let h := httpServe false allowed o
    let r := rpcServe allowed dl pn
    (allowed = true → h.res.length = 1 ∧ h.early = 0 ∧ r.res.length = 1 ∧ r.early = 0
        ∧ (h.res = [Res.fail] ↔ httpFails o.lastCode = true) ∧ (r.res = [Res.fail] ↔ rpcFails dl pn = true))
    ∧ (allowed = false → h.res = [] ∧ h.ran = false ∧ h.status = 503 ∧ r.res = [] ∧ r.ran = false ∧ r.status = 8)
    ∧ h.asked = 1 ∧ r.asked = 1 ∧ h.stat.total = 1 ∧ r.stat.total = 1
    ∧ h.stat.pass = (h.res.filter (· = Res.pass)).length ∧ r.stat.pass = (r.res.filter (· = Res.pass)).length
    ∧ h.stat.drop = (if allowed then 0 else 1) ∧ r.stat.drop = (if allowed then 0 else 1) := by
  cases allowed <;> cases hf : httpFails o.lastCode <;> cases hr : rpcFails dl pn <;>
    simp [httpServe, rpcServe, hf, hr, statusServiceUnavailable, codeResourceExhausted]


structure SInv (s : SSt) : Prop where
  fly  : s.h.st.sh.flying = (s.h.outstanding.length : Int)
  acct : s.stat.total = s.stat.pass + s.stat.drop + s.failed + s.h.outstanding.length

theorem sstep_inv (s s' : SSt) (op : SOp) (inv : SInv s) (hs : sstep s op = some s') : SInv s' := by
  unfold sstep at hs
  split at hs
  · cases hs
  · rename_i h' v hh
    simp only [Option.some.injEq] at hs
    subst hs
    obtain ⟨d, hf, hl, hd⟩ := hstep_effect s.h op.toH h' v hh
    refine ⟨by rw [hf, hl, inv.fly], ?_⟩
    have ha := inv.acct
    -- each operation moves the counters and the number of requests in handlers together
    cases op with
    | advance _ => simp only [SOp.toH] at hd; simp only [SOp.toH, SOp.stat, StatD.add]; omega
    | arrive o c =>
      simp only [SOp.toH] at hd
      rcases hd with ⟨rfl, rfl⟩ | ⟨rfl, rfl⟩ <;> simp [SOp.toH, SOp.stat, StatD.add] <;> omega
    | finishHttp id o =>
      cases hc : httpFails o.lastCode <;> simp [SOp.toH, SOp.stat, hc, StatD.add] at hd ⊢ <;> omega
    | finishRpc id dl pn =>
      cases hc : rpcFails dl pn <;> simp [SOp.toH, SOp.stat, hc, StatD.add] at hd ⊢ <;> omega

theorem srun_inv (ops : List SOp) (s s' : SSt) (inv : SInv s) (hr : srun s ops = some s') : SInv s' := by
  induction ops generalizing s with
  | nil => exact Option.some.inj hr ▸ inv
  | cons op ops ih =>
    simp only [srun] at hr
    split at hr
    · rename_i s1 hs
      exact ih s1 (sstep_inv s s1 op inv hs) hr
    · cases hr

/-- **Clause 3 through the call sites.**  For every history of a server — requests arriving through
SheddingHandler / UnarySheddingInterceptor at any times and CPU loads, staying in their handlers for as long as they
like and ending with ANY outcome (any status, a deadline error, a panic) — the shedder's `flying` counter equals the
number of requests that are inside their handlers, and the SheddingStat counters account for every request:
total = passed + dropped + failed + still being handled. -/
theorem site_in_flight_is_requests_in_handlers (st : St) (h0 : st.sh.flying = 0) (ops : List SOp) (s : SSt)
    (hr : srun { h := HSt.init st } ops = some s) :
    s.h.st.sh.flying = (s.h.outstanding.length : Int)
    ∧ s.stat.total = s.stat.pass + s.stat.drop + s.failed + s.h.outstanding.length := by
  have := srun_inv ops _ s ⟨by simp [HSt.init, h0], by simp [HSt.init]⟩ hr
  exact ⟨this.fly, this.acct⟩

/-- hence an idle server (every handler has ended, however) admits the next request whatever the CPU does, and a
request is shed only while more than 10 % of the capacity estimate are inside their handlers. -/
theorem site_idle_server_admits (st : St) (h0 : st.sh.flying = 0) (ops : List SOp) (s : SSt)
    (hr : srun { h := HSt.init st } ops = some s) (cpuOver : Bool) (cpu : Int) :
    (s.h.outstanding = [] → (s.h.st.sh.allow s.h.st.now cpuOver cpu).2 = .admitted)
    ∧ ((s.h.st.sh.allow s.h.st.now cpuOver cpu).2 = .overloaded →
        10 * ((s.h.outstanding.length : Int) : Rat) > s.h.st.sh.maxFlight s.h.st.now ∧ 1 ≤ s.h.outstanding.length) := by
  have := shed_needs_in_flight _ s.h.st.now cpuOver cpu _ (site_in_flight_is_requests_in_handlers st h0 ops s hr).1
  exact ⟨fun hn => this.1 (by rw [hn]; rfl), this.2⟩

/-- **C02 for EVERY configuration of the public API.**  For every value of the package flag (`Disable()` called or not)
and EVERY option list given to `NewAdaptiveShedder` (any options, any order, repeated, none) whose resulting bucket
count and bucket duration are at least 1: a disabled constructor yields a shedder that admits whatever happens; an
enabled one yields a shedder for which, after every history of Allow / Pass / Fail events, a shed is justified
(clause 1) and an overloaded, over-capacity state is shed (clause 2) — the estimate being the one of the configured
window `applyOpts opts`. -/
theorem every_configuration_meets_spec (enabled : Bool) (opts : List Opt) (t0 : Nat)
    (hb : 1 ≤ (applyOpts opts).buckets) (hw : 1 ≤ (applyOpts opts).window / (applyOpts opts).buckets) (ht : 0 < t0)
    (ops : List Op) (cpuOver : Bool) (cpu : Int) :
    match newShedder enabled opts t0 with
    | .nop => enabled = false ∧ ∀ now, (AnyShedder.nop.allow now cpuOver cpu).2 = .admitted
    | .adaptive sh0 =>
      enabled = true ∧
      let o := applyOpts opts
      let wc : Spec.WinCfg := ⟨o.buckets, o.window / o.buckets, t0, sh0.windowScale⟩
      let r := runH ⟨t0, sh0⟩ { now := t0 } ops
      ((r.1.sh.allow r.1.now cpuOver cpu).2 = .overloaded → Spec.ShedJustified wc r.2 cpuOver)
      ∧ (Spec.MustShed wc r.2 cpuOver → (r.1.sh.allow r.1.now cpuOver cpu).2 = .overloaded) := by
  cases enabled with
  | false => exact ⟨rfl, fun _ => rfl⟩
  | true =>
    simp only [newShedder]
    exact ⟨trivial, allow_meets_spec _ _ _ t0 hb hw ht ops cpuOver cpu⟩

/-- the same through a ShedderGroup: the shedder `GetShedder(key)` hands out at the first use of a key, and at every
later use whatever the flag is then, is `NewAdaptiveShedder(group options…)` as of the first use — so
`every_configuration_meets_spec` speaks about every member of every group. -/
theorem group_member_is_configured_shedder (g : Group) (enabled : Bool) (key t0 : Nat) (hnew : g.find key = none) :
    (g.get enabled key t0).2 = newShedder enabled g.opts t0
    ∧ ∀ en' now', ((g.get enabled key t0).1.get en' key now').2 = newShedder enabled g.opts t0 := by
  have h := fun en' now' => group_one_shedder_per_key g enabled en' key t0 now'
  exact ⟨(h false 0).2 hnew, fun en' now' => by rw [(h en' now').1]; exact (h false 0).2 hnew⟩

/-- which threshold a route's shedder has. -/
def routeThreshold (cpuThreshold : Int) (priority : Bool) : Int :=
  if priority then priorityThreshold cpuThreshold else cpuThreshold

/-- **REST: configuration → shedder.**  For every `CpuThreshold`, every value of `Middlewares.Shedding`, every route
priority and every value of the package flag: a route has NO shedder (its middleware is absent or the identity) exactly
when the middleware is off or `CpuThreshold ≤ 0`; otherwise its shedder is
`NewAdaptiveShedder(WithCpuThreshold(routeThreshold …))` built when the engine was — the nop shedder after `Disable()`. -/
theorem rest_route_shedder (enabled sheddingMiddleware priority : Bool) (cpuThreshold : Int) (t0 : Nat) :
    routeShedder sheddingMiddleware (newEngine enabled cpuThreshold t0) priority =
      if sheddingMiddleware ∧ cpuThreshold > 0 then
        some (newShedder enabled [.threshold (routeThreshold cpuThreshold priority)] t0)
      else none := by
  by_cases hc : cpuThreshold > 0 <;> cases sheddingMiddleware <;> cases priority <;>
    simp [routeShedder, newEngine, Engine.getShedder, routeThreshold, hc]

/-- for a valid configuration (`range=[0:1000)`) the priority shedder's threshold lies between the configured one and
cpuMax: priority routes are shed later, and the NaN corner `threshold = cpuMax` is out of reach. -/
theorem priority_threshold_between (t : Int) (h0 : 0 < t) (h1 : t < 1000) :
    t ≤ priorityThreshold t ∧ priorityThreshold t < 1000 := by
  unfold priorityThreshold topCpuUsage
  constructor <;> omega

/-- **REST / zRPC: from the service configuration to clauses 1 and 2.**  For every configuration that turns shedding on
(`CpuThreshold > 0`; REST: middleware on, any route priority), with load shedding enabled, after EVERY history of
Allow / Pass / Fail events on the route's (or server's) shedder since it was built at `t0`: a shed is justified and an
overloaded over-capacity state is shed, with the capacity estimate of the default window (50 buckets of 100 ms); the
shedder's threshold stays the route's, which is the one `shed_only_if_cpu_at_or_above_threshold` compares the reading with. -/
theorem service_configuration_meets_spec (rpc priority : Bool) (cpuThreshold : Int) (hc : cpuThreshold > 0) (t0 : Nat)
    (ht : 0 < t0) (ops : List Op) (cpuOver : Bool) (cpu : Int) :
    let thr := if rpc then cpuThreshold else routeThreshold cpuThreshold priority
    let built := if rpc then rpcServerShedder true cpuThreshold t0
                 else routeShedder true (newEngine true cpuThreshold t0) priority
    let sh0 := Shedder.new 5000000000 50 thr t0
    let wc : Spec.WinCfg := ⟨50, 100000000, t0, sh0.windowScale⟩
    let r := runH ⟨t0, sh0⟩ { now := t0 } ops
    built = some (.adaptive sh0)
    ∧ ((r.1.sh.allow r.1.now cpuOver cpu).2 = .overloaded → Spec.ShedJustified wc r.2 cpuOver)
    ∧ (Spec.MustShed wc r.2 cpuOver → (r.1.sh.allow r.1.now cpuOver cpu).2 = .overloaded)
    ∧ r.1.sh.cpuThreshold = thr := by
  intro thr built sh0 wc r
  have hspec := allow_meets_spec 5000000000 50 thr t0 (by decide) (by decide) ht ops cpuOver cpu
  refine ⟨?_, hspec.1, hspec.2, ?_⟩
  · cases rpc
    · have := rest_route_shedder true true priority cpuThreshold t0
      simp only [built, Bool.false_eq_true, if_false, this, hc, and_self, if_true]
      rfl
    · simp only [built, if_true, rpcServerShedder, hc]
      rfl
  · exact (fresh_inv 5000000000 50 thr t0 (by decide) (by decide) ht ops).2.2

-- options: defaults, subsets, repeated options
example : applyOpts [.threshold 700, .window 1000000000, .threshold 800] = ⟨1000000000, 50, 800⟩ := by decide
example : (newShedder true [.buckets 10, .window 1000000000] 1).flying = 0 := by decide +kernel
-- a group: key 1 created while enabled, key 2 after Disable() → nop; key 1 keeps its adaptive shedder
example :
    let g0 : Group := { opts := [.window 1000000000, .buckets 10] }
    let r1 := g0.get true 1 5
    let r2 := r1.1.get false 2 6
    let r3 := r2.1.get false 1 7
    ((match r1.2 with | .adaptive _ => true | .nop => false), (match r2.2 with | .nop => true | _ => false),
     (match r3.2 with | .adaptive _ => true | .nop => false), r3.1.members.length) = (true, true, true, 2) := by
  decide +kernel
-- the default checker at the threshold: 900 ≥ 900 is "over"; 899 is not
example : defaultChecker 900 900 = true ∧ defaultChecker 899 900 = false := by decide
example : ((exShedder 11 (21 / 2) 0 false).allowDefault 5 900 900).2 = .overloaded := by decide +kernel
example : ((exShedder 11 (21 / 2) 0 false).allowDefault 5 899 899).2 = .admitted := by decide +kernel
-- the sampler: one tick at full load from idle, from 950 and from 999 (truncation keeps it below 1000), and one idle tick from 1000
example : cpuEma 0 1000 = 50 ∧ cpuEma 950 1000 = 952 ∧ cpuEma 999 1000 = 999 ∧ cpuEma 1000 0 = 950 := by decide +kernel
-- call sites: a handler that writes 500 and then 503 and panics → one Fail; one that panics after 200 → one Pass
example : (httpServe false true { code := 500, again := 503, panics := true }).res = [.fail] := by decide
example : (httpServe false true { code := 200, panics := true }).res = [.pass] := by decide
example : (httpServe false true { pre := 503 }).res = [.fail] := by decide
example : (rpcServe true true false).res = [.fail] ∧ (rpcServe true true true).res = [.pass] := by decide
-- the sampler over a trace; the monitor window
example : cpuTrace 0 [1000, 1000, 0, 500] = 112 ∧ samplerStepOk 1000 950 = true ∧ samplerStepOk 1000 50 = false
    ∧ samplerStepOk 0 50 = true ∧ samplerStepOk 0 950 = false := by decide +kernel
-- every end: a Goexit after a deadline error is still one Pass; an abort after 503 is one Fail
example : (rpcServe true true End.goexit.abnormal).res = [.pass]
    ∧ (httpServe false true { code := 503, panics := End.panicError.abnormal }).res = [.fail] := by decide
-- every configuration: an option list with a repeated option, disabled and enabled
example : (match newShedder false [.threshold 5, .threshold 7] 1 with | .nop => true | _ => false) = true := by decide
example : (match newShedder true [.threshold 5, .buckets 4, .threshold 7] 1 with
    | .adaptive s => decide (s.cpuThreshold = 7 ∧ s.passCounter.size = 4) | _ => false) = true := by decide +kernel
-- service configuration: CpuThreshold 900 → route shedder 900, priority route 950; 0 → no shedder; middleware off → none
example : routeThreshold 900 true = 950 ∧ routeThreshold 900 false = 900 ∧ priorityThreshold 1 = 500 := by decide
example : ((routeShedder true (newEngine true 0 1) true).isNone && (routeShedder false (newEngine true 900 1) false).isNone
    && (match routeShedder true (newEngine false 900 1) true with | some .nop => true | _ => false)
    && (match routeShedder true (newEngine true 900 1) true with | some (.adaptive s) => decide (s.cpuThreshold = 950) | _ => false))
    = true := by
  decide +kernel
-- the counters the call-site monitor compares
example : (httpServe false true { code := 503 }).stat = ⟨1, 0, 0⟩ ∧ (rpcServe false true false).stat = ⟨1, 0, 1⟩ := by decide
-- a server: three requests arrive, one ends in a panic after 500, one with 503, the third stays in its handler
def exServer : List SOp :=
  [.arrive false 0, .arrive true 950, .arrive false 0, .advance 3000000,
   .finishHttp 0 { code := 500, panics := true }, .finishRpc 1 true false]
example : (srun { h := HSt.init ⟨1, Shedder.new 1000000000 10 900 1⟩ } exServer).map
    (fun s => (s.h.st.sh.flying, s.h.outstanding.length, s.stat, s.failed)) = some (1, 1, ⟨3, 1, 0⟩, 1) := by
  decide +kernel

end GoZero.C02
