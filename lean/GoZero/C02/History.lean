/-
C02 — histories: promise identities and in-flight conservation; the observable event of a model step and the run with the
history summary `Spec.Hist` kept alongside.
-/
import GoZero.C02.Proofs
namespace GoZero.C02

/-- an operation of a history: promises are named by the number of the `Allow` call that created them. -/
inductive HOp where
  | advance (d : Nat)
  | allow (cpuOver : Bool) (cpu : Int)
  | pass (id : Nat)
  | fail (id : Nat)
  deriving Repr

structure HSt where
  st          : St
  outstanding : List (Nat × Nat)     -- (promise id, start): admitted and not yet resolved
  nextId      : Nat
  deriving Repr

def HSt.init (st : St) : HSt := { st := st, outstanding := [], nextId := 0 }

/-- one step of a well-formed history; `none` = the operation resolves a promise that was never
handed out or was resolved before (outside the property's hypothesis "resolved once"). -/
def hstep (h : HSt) : HOp → Option (HSt × Option Verdict)
  | .advance d => some ({ h with st := (step h.st (.advance d)).1 }, none)
  | .allow o c =>
    match (h.st.sh.allow h.st.now o c).2 with
    | .admitted =>
      some ({ st := (step h.st (.allow o c)).1, outstanding := (h.nextId, h.st.now) :: h.outstanding,
              nextId := h.nextId + 1 }, some .admitted)
    | .overloaded =>
      some ({ h with st := (step h.st (.allow o c)).1, nextId := h.nextId + 1 }, some .overloaded)
  | .pass id =>
    match h.outstanding.find? (fun p => p.1 = id) with
    | some p => some ({ h with st := (step h.st (.pass p.2)).1, outstanding := h.outstanding.erase p }, none)
    | none => none
  | .fail id =>
    match h.outstanding.find? (fun p => p.1 = id) with
    | some p => some ({ h with st := (step h.st .fail).1, outstanding := h.outstanding.erase p }, none)
    | none => none

def hrun (h : HSt) : List HOp → Option HSt
  | [] => some h
  | op :: ops =>
    match hstep h op with
    | some (h', _) => hrun h' ops
    | none => none

theorem hstep_effect (h : HSt) (op : HOp) (h' : HSt) (v : Option Verdict) (hs : hstep h op = some (h', v)) :
    ∃ d : Int, h'.st.sh.flying = h.st.sh.flying + d ∧ (h'.outstanding.length : Int) = h.outstanding.length + d ∧
      match (generalizing := false) op with
      | .advance _ => d = 0
      | .allow _ _ => (v = some .admitted ∧ d = 1) ∨ (v = some .overloaded ∧ d = 0)
      | .pass _ | .fail _ => d = -1 := by
  cases op with
  | advance d =>
    obtain ⟨rfl, _⟩ : _ = h' ∧ _ := by simpa [hstep] using hs
    exact ⟨0, by simp [step], by simp, rfl⟩
  | allow o c =>
    simp only [hstep] at hs
    have hf := allow_flying h.st.sh h.st.now o c
    split at hs <;> rename_i hv <;> simp only [Option.some.injEq, Prod.mk.injEq] at hs <;> obtain ⟨rfl, rfl⟩ := hs
    · exact ⟨1, by simp [step, hf, hv], by simp, Or.inl ⟨rfl, rfl⟩⟩
    · exact ⟨0, by simp [step, hf, hv], by simp, Or.inr ⟨rfl, rfl⟩⟩
  | pass id | fail id =>
    simp only [hstep] at hs
    split at hs
    · rename_i p hp
      simp only [Option.some.injEq, Prod.mk.injEq] at hs
      obtain ⟨rfl, _⟩ := hs
      have hm : p ∈ h.outstanding := List.mem_of_find?_eq_some hp
      have hl := List.length_erase_of_mem hm
      have hpos := List.length_pos_of_mem hm
      exact ⟨-1, by simp only [step, pass_flying, fail_flying]; omega, by simp only [hl]; omega, rfl⟩
    · cases hs

theorem hrun_conserves (ops : List HOp) (h h' : HSt)
    (hinv : h.st.sh.flying = (h.outstanding.length : Int)) (hr : hrun h ops = some h') :
    h'.st.sh.flying = (h'.outstanding.length : Int) := by
  induction ops generalizing h with
  | nil => exact Option.some.inj hr ▸ hinv
  | cons op ops ih =>
    simp only [hrun] at hr
    split at hr
    · rename_i h1 v hs
      obtain ⟨d, hf, hl, -⟩ := hstep_effect h op h1 v hs
      exact ih h1 (by rw [hf, hl, hinv]) hr
    · cases hr

/-- the observable event a model step produces. -/
def evOf (st : St) : Op → Spec.Ev
  | .advance d => .advance d
  | .allow o c => .allow o (st.sh.allow st.now o c).2
  | .pass start => .pass start
  | .fail => .fail

/-- a run of the model with the history summary kept alongside. -/
def runH (st : St) (h : Spec.Hist) : List Op → St × Spec.Hist
  | [] => (st, h)
  | op :: ops => runH (step st op).1 (h.observe (evOf st op)) ops

end GoZero.C02
