/-
C02 — interleavings.  Any number of request goroutines run `Allow` and then `Pass`/`Fail` concurrently while the
clock advances; every access of the Go code to shared memory is one atomic step of its own here (atomics,
spin-locked sections and RWMutex-protected window operations at their documented meaning):

  Allow → shouldDrop
    start    systemOverloaded: the checker's verdict `over` (an input)            over → soNow, else shDr
    soNow    timex.Now()                                                          → soSet
    soSet    overloadTime.Set(that time)                                          → htAvg   (gate open)
    shDr     stillHot: droppedRecently.True()                                     false → enter, else shOt
    shOt     overloadTime.Load()                                                  0 → enter, else shNow
    shNow    timex.Since(overloadTime) < coolOffDuration                          yes → htAvg, else shClear
    shClear  droppedRecently.Set(false)                                           → enter
    htAvg    highThru: avgFlying read under its lock                              → htMp
    htMp     maxPass(): passCounter.Reduce (one read-locked section)              → htRt
    htRt     minRt(): rtCounter.Reduce (one read-locked section)                  → htCpu
    htCpu    overloadFactor(): stat.CpuUsage() (an input); avg > limit ?          no → enter, yes → htFly
    htFly    atomic.LoadInt64(&flying); flying > limit ?                          no → enter, yes → logHot
    logHot   the log line re-evaluates stillHot(), which may clear droppedRecently (over-approximated: it may
             or may not clear, the environment chooses)                           → setDr
    setDr    droppedRecently.Set(true)                                            → shed  (ErrServiceOverloaded)
    enter    atomic.AddInt64(&flying, +1)                                         → stamp
    stamp    promise.start = timex.Now()                                          → inflight
  Pass / Fail
    inflight Pass: timex.Since(start) → pAdd;  Fail: atomic.AddInt64(&flying, −1) → fAvg
    pAdd     atomic.AddInt64(&flying, −1), result kept in the local `flying`      → pAvg
    pAvg     under avgFlyingLock: avgFlying = avgFlying·β + local·(1−β)           → pRt
    pRt      rtCounter.Add(latency)                                               → pCnt
    pCnt     passCounter.Add(1)                                                   → done
    fAvg     as pAvg                                                              → done

Registers (`r…`, `over`, `start`, `rt`, `reg`) are what the goroutine holds in locals; a step that loads one may branch
on the loaded value, every other decision reads registers only.
Ghosts (`g…`) are copies of the whole shared state, of the number of goroutines in flight and of the global step
number, taken at the very step at which the corresponding register is loaded; `step` never reads them.  Only the step
number enters the invariant: the state a register was loaded from is the reachable state with that step number (`Seen`);
the copies `sh` and `infl` are stored and read by nothing.
`Reach` closes the initial state under any goroutine taking its next step and under clock ticks, i.e. under every
schedule.  The invariant ties every register to a reachable state at its ghost's step number, and the ghosts of
one goroutine to program order.
-/
import GoZero.C02.Proofs
namespace GoZero.C02.Conc

inductive PC where
  | start | soNow | soSet | shDr | shOt | shNow | shClear
  | htAvg | htMp | htRt | htCpu | htFly | logHot | setDr | shed
  | enter | stamp | inflight | pAdd | pAvg | pRt | pCnt | fAvg | done
  deriving DecidableEq, Repr

/-- the goroutine holds an admitted, unresolved promise: between the +1 and the −1 on `flying`. -/
def PC.inFlight : PC → Bool
  | .stamp | .inflight | .pAdd => true
  | _ => false

/-- the shedder's shared memory and the clock. -/
structure Shared where
  now          : Nat
  flying       : Int
  avg          : Rat
  overloadTime : Nat
  dropped      : Bool
  passC        : RW
  rtC          : RW
  deriving Repr

/-- ghost snapshot: the shared state, the number of goroutines in flight and the step number at one instant. -/
structure Snap where
  sh   : Shared
  infl : Nat
  seq  : Nat
  deriving Repr

structure Cfg where
  thr   : Int      -- cpuThreshold
  scale : Rat      -- windowScale
  deriving Repr

structure Th where
  pc    : PC
  -- registers
  over  : Bool
  rnow  : Nat
  rdr   : Bool
  rot   : Nat
  ravg  : Rat
  rmp   : Int
  rrt   : Rat
  rcpu  : Int
  rf    : Int
  start : Nat
  rt    : Int
  reg   : Int
  -- ghosts
  gDr   : Snap
  gOt   : Snap
  gNow  : Snap
  gAvg  : Snap
  gMp   : Snap
  gRt   : Snap
  gFly  : Snap
  gLast : Nat      -- step number of this goroutine's latest step
  deriving Repr

/-- the capacity estimate from a peak pass count and a minimum latency: `maxFlight()`. -/
def capOf (cfg : Cfg) (mp : Int) (rt : Rat) : Rat :=
  let m : Rat := (mp : Rat) * rt * cfg.scale
  if m < 1 then 1 else m

/-- the limit `highThru` compares against: `maxFlight() * overloadFactor()`. -/
def limC (cfg : Cfg) (mp : Int) (rt : Rat) (cpu : Int) : Rat := capOf cfg mp rt * overloadFactor cfg.thr cpu

/-- … from the goroutine's registers. -/
def limOf (cfg : Cfg) (t : Th) : Rat := limC cfg t.rmp t.rrt t.rcpu

/-- environment inputs of one step. -/
structure Inp where
  over  : Bool := false    -- systemOverloadChecker's verdict (used at `start`)
  cpu   : Int := 0         -- stat.CpuUsage() (used at `htCpu`)
  clear : Bool := false    -- the log line's stillHot() found the cool-off lapsed (used at `logHot`)
  pass  : Bool := true     -- the caller resolves with Pass rather than Fail (used at `inflight`)
  deriving Repr

/-- one step of a goroutine against the shared state `sh`; `g` is the ghost snapshot of this instant. -/
def thStep (cfg : Cfg) (sh : Shared) (g : Snap) (t : Th) (inp : Inp) : Option (Shared × Th) :=
  match t.pc with
  | .start => some (sh, { t with over := inp.over, pc := if inp.over then .soNow else .shDr })
  | .soNow => some (sh, { t with rnow := sh.now, pc := .soSet })
  | .soSet => some ({ sh with overloadTime := t.rnow }, { t with pc := .htAvg })
  | .shDr => some (sh, { t with rdr := sh.dropped, gDr := g, pc := if sh.dropped then .shOt else .enter })
  | .shOt => some (sh, { t with rot := sh.overloadTime, gOt := g, pc := if sh.overloadTime = 0 then .enter else .shNow })
  | .shNow => some (sh, { t with rnow := sh.now, gNow := g, pc := if sh.now - t.rot < coolOffNs then .htAvg else .shClear })
  | .shClear => some ({ sh with dropped := false }, { t with pc := .enter })
  | .htAvg => some (sh, { t with ravg := sh.avg, gAvg := g, pc := .htMp })
  | .htMp => some (sh, { t with rmp := maxPassOf (sh.passC.visible sh.now), gMp := g, pc := .htRt })
  | .htRt => some (sh, { t with rrt := minRtOf (sh.rtC.visible sh.now), gRt := g, pc := .htCpu })
  | .htCpu => some (sh, { t with rcpu := inp.cpu, pc := if t.ravg > limC cfg t.rmp t.rrt inp.cpu then .htFly else .enter })
  | .htFly => some (sh, { t with rf := sh.flying, gFly := g, pc := if (sh.flying : Rat) > limOf cfg t then .logHot else .enter })
  | .logHot => some (if inp.clear then { sh with dropped := false } else sh, { t with pc := .setDr })
  | .setDr => some ({ sh with dropped := true }, { t with pc := .shed })
  | .shed => none
  | .enter => some ({ sh with flying := sh.flying + 1 }, { t with pc := .stamp })
  | .stamp => some (sh, { t with start := sh.now, pc := .inflight })
  | .inflight =>
    if inp.pass then some (sh, { t with rt := rtMs sh.now t.start, pc := .pAdd })
    else some ({ sh with flying := sh.flying - 1 }, { t with reg := sh.flying - 1, pc := .fAvg })
  | .pAdd => some ({ sh with flying := sh.flying - 1 }, { t with reg := sh.flying - 1, pc := .pAvg })
  | .pAvg => some ({ sh with avg := sh.avg * flyingBeta + (t.reg : Rat) * (1 - flyingBeta) }, { t with pc := .pRt })
  | .pRt => some ({ sh with rtC := sh.rtC.add sh.now t.rt }, { t with pc := .pCnt })
  | .pCnt => some ({ sh with passC := sh.passC.add sh.now 1 }, { t with pc := .done })
  | .fAvg => some ({ sh with avg := sh.avg * flyingBeta + (t.reg : Rat) * (1 - flyingBeta) }, { t with pc := .done })
  | .done => none

structure Sys where
  sh    : Shared
  ths   : List Th
  steps : Nat          -- ghost: number of steps taken so far
  deriving Repr

def inFlight (s : Sys) : Nat := s.ths.countP (fun t => t.pc.inFlight)

def Sys.snap (s : Sys) : Snap := ⟨s.sh, inFlight s, s.steps⟩

inductive Act where
  | tick (d : Nat)               -- the clock advances
  | run (i : Nat) (inp : Inp)    -- goroutine `i` takes its next step

def step (cfg : Cfg) (s : Sys) : Act → Option Sys
  | .tick d => some { s with sh := { s.sh with now := s.sh.now + d }, steps := s.steps + 1 }
  | .run i inp =>
    match s.ths[i]? with
    | none => none
    | some t =>
      match thStep cfg s.sh s.snap t inp with
      | none => none
      | some r => some { sh := r.1, ths := s.ths.set i { r.2 with gLast := s.steps }, steps := s.steps + 1 }

def Snap.zero (sh : Shared) : Snap := ⟨sh, 0, 0⟩

def Th.fresh (sh : Shared) : Th :=
  { pc := .start, over := false, rnow := 0, rdr := false, rot := 0, ravg := 0, rmp := 0, rrt := 0, rcpu := 0, rf := 0,
    start := 0, rt := 0, reg := 0, gDr := .zero sh, gOt := .zero sh, gNow := .zero sh, gAvg := .zero sh,
    gMp := .zero sh, gRt := .zero sh, gFly := .zero sh, gLast := 0 }

/-- `n` goroutines about to call Allow on a shedder whose shared memory is `sh0` with nothing in flight. -/
def init (sh0 : Shared) (n : Nat) : Sys :=
  { sh := { sh0 with flying := 0 }, ths := List.replicate n (Th.fresh sh0), steps := 0 }

inductive Reach (cfg : Cfg) (sh0 : Shared) (n : Nat) : Sys → Prop where
  | init : Reach cfg sh0 n (init sh0 n)
  | step (s s' : Sys) (a : Act) : Reach cfg sh0 n s → step cfg s a = some s' → Reach cfg sh0 n s'

/-- at the step numbered `g.seq` the system was in a reachable state of which `P` holds: of a ghost only its step number is used. -/
def Seen (cfg : Cfg) (sh0 : Shared) (n : Nat) (g : Snap) (P : Sys → Prop) : Prop :=
  ∃ s, Reach cfg sh0 n s ∧ s.steps = g.seq ∧ P s

section
variable (cfg : Cfg) (sh0 : Shared) (n : Nat)

/-! the facts a goroutine collects about its registers and ghosts, one per read -/

def DrP (t : Th) : Prop := Seen cfg sh0 n t.gDr (·.sh.dropped = true)

def OtP (t : Th) : Prop :=
  Seen cfg sh0 n t.gOt (t.rot = ·.sh.overloadTime) ∧ t.rot ≠ 0 ∧ t.gDr.seq ≤ t.gOt.seq

def GateP (t : Th) : Prop :=
  t.over = true ∨
    ((DrP cfg sh0 n t ∧ OtP cfg sh0 n t) ∧ Seen cfg sh0 n t.gNow (·.sh.now - t.rot < coolOffNs) ∧ t.gOt.seq ≤ t.gNow.seq)

def AvgP (t : Th) : Prop :=
  Seen cfg sh0 n t.gAvg (t.ravg = ·.sh.avg) ∧ (t.over = false → t.gNow.seq ≤ t.gAvg.seq)

def MpP (t : Th) : Prop :=
  Seen cfg sh0 n t.gMp (fun s => t.rmp = maxPassOf (s.sh.passC.visible s.sh.now)) ∧ t.gAvg.seq ≤ t.gMp.seq

def RtP (t : Th) : Prop :=
  Seen cfg sh0 n t.gRt (fun s => t.rrt = minRtOf (s.sh.rtC.visible s.sh.now)) ∧ t.gMp.seq ≤ t.gRt.seq

def FlyP (t : Th) : Prop :=
  Seen cfg sh0 n t.gFly (fun s => t.rf = (inFlight s : Int)) ∧ (t.rf : Rat) > limOf cfg t ∧ t.gRt.seq ≤ t.gFly.seq

/-! what is known on arrival at each step of `highThru`: every step adds one fact at the outside -/

def AtMp (t : Th) : Prop := GateP cfg sh0 n t ∧ AvgP cfg sh0 n t
def AtRt (t : Th) : Prop := AtMp cfg sh0 n t ∧ MpP cfg sh0 n t
def AtCpu (t : Th) : Prop := AtRt cfg sh0 n t ∧ RtP cfg sh0 n t
def AtFly (t : Th) : Prop := AtCpu cfg sh0 n t ∧ t.ravg > limOf cfg t
def Decided (t : Th) : Prop := AtFly cfg sh0 n t ∧ FlyP cfg sh0 n t

/-- what a goroutine's registers and ghosts satisfy, by program position: the facts so far, and that the ghost taken
last is not later than the goroutine's latest step `gLast` (which orders it before the next one). -/
def Local (t : Th) : Prop :=
  match t.pc with
  | .soNow | .soSet => t.over = true
  | .shOt => DrP cfg sh0 n t ∧ t.gDr.seq ≤ t.gLast
  | .shNow => (DrP cfg sh0 n t ∧ OtP cfg sh0 n t) ∧ t.gOt.seq ≤ t.gLast
  | .htAvg => GateP cfg sh0 n t ∧ (t.over = false → t.gNow.seq ≤ t.gLast)
  | .htMp => AtMp cfg sh0 n t ∧ t.gAvg.seq ≤ t.gLast
  | .htRt => AtRt cfg sh0 n t ∧ t.gMp.seq ≤ t.gLast
  | .htCpu => AtCpu cfg sh0 n t ∧ t.gRt.seq ≤ t.gLast
  | .htFly => AtFly cfg sh0 n t ∧ t.gRt.seq ≤ t.gLast
  | .logHot | .setDr | .shed => Decided cfg sh0 n t ∧ t.gFly.seq ≤ t.gLast
  | _ => True

/-- `last`: no goroutine's latest step lies in the future, which orders a fact recorded at `gLast` before the step being taken. -/
structure Inv (cfg : Cfg) (sh0 : Shared) (n : Nat) (s : Sys) : Prop where
  conserve : s.sh.flying = (inFlight s : Int)
  loc      : ∀ t ∈ s.ths, Local cfg sh0 n t
  last     : ∀ t ∈ s.ths, t.gLast ≤ s.steps

end

variable {cfg : Cfg} {sh0 : Shared} {n : Nat}

/-- no register a fact speaks of is written twice: a step keeps what is known and adds the fact about the register it loads;
`flying` moves exactly when the goroutine crosses into or out of the in-flight positions. -/
theorem thStep_keeps (s : Sys) (sh' : Shared) (t t' : Th) (inp : Inp) (hr : Reach cfg sh0 n s)
    (hfl : s.sh.flying = (inFlight s : Int)) (h : thStep cfg s.sh s.snap t inp = some (sh', t'))
    (hl : Local cfg sh0 n t) (hlast : t.gLast ≤ s.steps) :
    Local cfg sh0 n { t' with gLast := s.steps }
    ∧ sh'.flying + (if t.pc.inFlight then 1 else 0) = s.sh.flying + (if t'.pc.inFlight then 1 else 0) := by
  -- with the record opened, `thStep` and `Local` compute at each position
  obtain ⟨pc⟩ := t
  cases pc <;> simp only [thStep, Option.some.injEq, Prod.mk.injEq, reduceCtorEq] at h
  case inflight =>
    split at h <;> simp only [Option.some.injEq, Prod.mk.injEq] at h <;> obtain ⟨rfl, rfl⟩ := h <;>
      exact ⟨trivial, by simp [PC.inFlight]⟩
  all_goals
    obtain ⟨rfl, rfl⟩ := h
    refine ⟨?_, by
      simp only [apply_ite PC.inFlight, apply_ite Shared.flying]
      first
        | (simp [PC.inFlight]; done)
        | (simp [PC.inFlight]; omega)⟩
  case start => cases inp.over <;> first | trivial | exact rfl
  case soNow => exact hl
  case soSet => exact ⟨Or.inl hl, fun ho => absurd (hl.symm.trans ho) nofun⟩
  case shDr =>
    cases hd : s.sh.dropped
    · trivial
    · exact ⟨⟨s, hr, rfl, hd⟩, Nat.le_refl _⟩
  case shOt =>
    split
    · trivial
    · next h0 => exact ⟨⟨hl.1, ⟨s, hr, rfl, rfl⟩, h0, Nat.le_trans hl.2 hlast⟩, Nat.le_refl _⟩
  case shNow =>
    split
    · next hw => exact ⟨Or.inr ⟨hl.1, ⟨s, hr, rfl, hw⟩, Nat.le_trans hl.2 hlast⟩, fun _ => Nat.le_refl _⟩
    · trivial
  case htAvg => exact ⟨⟨hl.1, ⟨s, hr, rfl, rfl⟩, fun ho => Nat.le_trans (hl.2 ho) hlast⟩, Nat.le_refl _⟩
  case htMp | htRt => exact ⟨⟨hl.1, ⟨s, hr, rfl, rfl⟩, Nat.le_trans hl.2 hlast⟩, Nat.le_refl _⟩
  case htCpu =>
    split
    · next hc => exact ⟨⟨hl.1, hc⟩, Nat.le_trans hl.2 hlast⟩
    · trivial
  case htFly =>
    split
    · next hc => exact ⟨⟨hl.1, ⟨s, hr, rfl, hfl⟩, hc, Nat.le_trans hl.2 hlast⟩, Nat.le_refl _⟩
    · trivial
  case logHot | setDr => exact ⟨hl.1, Nat.le_trans hl.2 hlast⟩
  all_goals trivial

theorem forall_mem_set {α : Type} {P : α → Prop} {l : List α} {i : Nat} {b : α} (hl : ∀ a ∈ l, P a) (hb : P b) :
    ∀ a ∈ l.set i b, P a := fun a ha =>
  (List.mem_or_eq_of_mem_set ha).elim (hl a) (· ▸ hb)

theorem init_inv (sh0 : Shared) (n : Nat) : Inv cfg sh0 n (init sh0 n) where
  conserve := by
    simp only [init, inFlight]
    rw [List.countP_replicate]
    simp [Th.fresh, PC.inFlight]
  loc := fun t ht => List.eq_of_mem_replicate ht ▸ trivial
  last := fun t ht => List.eq_of_mem_replicate ht ▸ Nat.le_refl 0

theorem step_inv (s s' : Sys) (a : Act) (hr : Reach cfg sh0 n s) (inv : Inv cfg sh0 n s)
    (hs : step cfg s a = some s') : Inv cfg sh0 n s' := by
  cases a with
  | tick d =>
    simp only [step, Option.some.injEq] at hs
    subst hs
    exact ⟨inv.conserve, inv.loc, fun t ht => Nat.le_succ_of_le (inv.last t ht)⟩
  | run i inp =>
    simp only [step] at hs
    split at hs
    · cases hs
    · rename_i t ht
      have hi : i < s.ths.length := (List.getElem?_eq_some_iff.mp ht).1
      have hti : s.ths[i] = t := (List.getElem?_eq_some_iff.mp ht).2
      have htm : t ∈ s.ths := List.mem_of_getElem? ht
      split at hs
      · cases hs
      · rename_i r hstep
        simp only [Option.some.injEq] at hs
        subst hs
        obtain ⟨hloc, hfl⟩ := thStep_keeps s r.1 t r.2 inp hr inv.conserve hstep (inv.loc t htm) (inv.last t htm)
        refine ⟨?_, ?_, ?_⟩
        · have hc := inv.conserve
          simp only [inFlight] at hc ⊢
          rw [List.countP_set hi, hti]
          have hpos : t.pc.inFlight = true → 0 < s.ths.countP (fun t => t.pc.inFlight) := fun hp =>
            List.countP_pos_iff.mpr ⟨t, htm, hp⟩
          cases h1 : t.pc.inFlight <;> cases h2 : r.2.pc.inFlight <;> simp [h1, h2] at hfl ⊢ <;>
            (try have hp := hpos h1) <;> omega
        · exact forall_mem_set inv.loc hloc
        · exact forall_mem_set (fun u hu => Nat.le_succ_of_le (inv.last u hu)) (Nat.le_succ _)

theorem reach_inv (s : Sys) (h : Reach cfg sh0 n s) : Inv cfg sh0 n s := by
  induction h with
  | init => exact init_inv sh0 n
  | step s s' a hr hs ih => exact step_inv s s' a hr ih hs

theorem capOf_ge_one (cfg : Cfg) (mp : Int) (rt : Rat) : 1 ≤ capOf cfg mp rt := one_le_atLeast _

/-- a schedule: actions taken one after the other. -/
def runActs (cfg : Cfg) (s : Sys) : List Act → Option Sys
  | [] => some s
  | a :: as => (step cfg s a).bind (runActs cfg · as)

theorem reach_runActs (cfg : Cfg) (sh0 : Shared) (n : Nat) (as : List Act) (s s' : Sys)
    (h : Reach cfg sh0 n s) (hr : runActs cfg s as = some s') : Reach cfg sh0 n s' := by
  induction as generalizing s with
  | nil => exact Option.some.inj hr ▸ h
  | cons a as ih =>
    obtain ⟨s1, hs, hr⟩ := Option.bind_eq_some_iff.mp hr
    exact ih s1 (Reach.step s s1 a h hs) hr

/-- the shared memory of a sequential-model shedder at clock reading `now`. -/
def ofShedder (s : Shedder) (now : Nat) : Shared :=
  { now := now, flying := s.flying, avg := s.avgFlying, overloadTime := s.overloadTime, dropped := s.droppedRecently,
    passC := s.passCounter, rtC := s.rtCounter }

def cfgOf (s : Shedder) : Cfg := ⟨s.cpuThreshold, s.windowScale⟩

/-- one goroutine runs alone (no other goroutine, no clock tick) until its Allow has returned. -/
def solo (cfg : Cfg) (inp : Inp) : Nat → Shared × Th → Shared × Th
  | 0, r => r
  | fuel + 1, r =>
    if r.2.pc = .shed ∨ r.2.pc = .stamp then r
    else match thStep cfg r.1 ⟨r.1, 0, 0⟩ r.2 inp with
      | none => r
      | some r' => solo cfg inp fuel r'

/-- … until its Pass / Fail has returned. -/
def soloResolve (cfg : Cfg) (inp : Inp) : Nat → Shared × Th → Shared × Th
  | 0, r => r
  | fuel + 1, r =>
    if r.2.pc = .done then r
    else match thStep cfg r.1 ⟨r.1, 0, 0⟩ r.2 inp with
      | none => r
      | some r' => soloResolve cfg inp fuel r'

end GoZero.C02.Conc
