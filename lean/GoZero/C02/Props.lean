/-
C02 — the property theorems about the shedder itself, sequential and under every schedule, with non-vacuity examples.

"capacity estimate" = `Shedder.maxFlight` = max(1, peak per-bucket pass count × min rounded per-bucket average
latency × windowScale) over the sliding window with the current bucket ignored.
-/
import GoZero.C02.Refine
import GoZero.C02.Interleave
namespace GoZero.C02
open Conc

/-- **Sheds only when hot and busy.**  For every shedder state, time, checker verdict and CPU reading:
if `Allow` returns ErrServiceOverloaded then the CPU verdict at that call was "over threshold", or shedding
was in progress (`droppedRecently`) and an Allow saw the CPU over the threshold less than one second ago
(`overloadTime`); and both the in-flight count and its moving average exceed 10 % of the capacity estimate. -/
theorem shed_only_if_hot_and_busy (s : Shedder) (now : Nat) (cpuOver : Bool) (cpu : Int)
    (h : (s.allow now cpuOver cpu).2 = .overloaded) :
    (cpuOver = true ∨
      (s.droppedRecently = true ∧ s.overloadTime ≠ 0 ∧ now - s.overloadTime < 1000000000))
    ∧ 10 * (s.flying : Rat) > s.maxFlight now
    ∧ 10 * s.avgFlying > s.maxFlight now
    ∧ 1 ≤ s.flying :=
  ⟨((shed_iff s now cpuOver cpu).mp h).1.imp_right (stillHot_iff s now).mp, shed_busy s now cpuOver cpu h⟩

/-- **Does shed when over capacity.**  CPU verdict "over threshold" and both the in-flight count and its moving
average above the full capacity estimate ⇒ `Allow` returns ErrServiceOverloaded, whatever the CPU reading
used for the factor. -/
theorem sheds_when_over_capacity (s : Shedder) (now : Nat) (cpu : Int)
    (hf : (s.flying : Rat) > s.maxFlight now) (ha : s.avgFlying > s.maxFlight now) :
    (s.allow now true cpu).2 = .overloaded :=
  sheds_when_gate_open s now true cpu (Or.inl rfl) hf ha

/-- the same while the cool-off is running (shedding in progress, hot Allow less than a second ago). -/
theorem sheds_when_over_capacity_still_hot (s : Shedder) (now : Nat) (cpu : Int)
    (hd : s.droppedRecently = true) (ho : s.overloadTime ≠ 0) (hc : now - s.overloadTime < 1000000000)
    (hf : (s.flying : Rat) > s.maxFlight now) (ha : s.avgFlying > s.maxFlight now) :
    (s.allow now false cpu).2 = .overloaded :=
  sheds_when_gate_open s now false cpu (Or.inr ((stillHot_iff s now).mpr ⟨hd, ho, hc⟩)) hf ha

/-- **With nothing in flight nothing is shed** (state form): `flying ≤ 0` ⇒ admitted, for every CPU input. -/
theorem nothing_in_flight_never_sheds (s : Shedder) (now : Nat) (cpuOver : Bool) (cpu : Int)
    (h0 : s.flying ≤ 0) : (s.allow now cpuOver cpu).2 = .admitted := by
  cases hv : (s.allow now cpuOver cpu).2 with
  | admitted => rfl
  | overloaded =>
    have := (shed_only_if_hot_and_busy s now cpuOver cpu hv).2.2.2
    omega

/-- the two facts above with `flying` a natural number `n`, the form in which `flying_conservation` supplies it. -/
theorem shed_needs_in_flight (s : Shedder) (now : Nat) (cpuOver : Bool) (cpu : Int) (n : Nat) (hn : s.flying = n) :
    (n = 0 → (s.allow now cpuOver cpu).2 = .admitted)
    ∧ ((s.allow now cpuOver cpu).2 = .overloaded → 10 * ((n : Int) : Rat) > s.maxFlight now ∧ 1 ≤ n) := by
  refine ⟨fun h0 => nothing_in_flight_never_sheds s now cpuOver cpu (by omega), fun hv => ?_⟩
  have hs := shed_only_if_hot_and_busy s now cpuOver cpu hv
  rw [hn] at hs
  exact ⟨hs.2.1, by omega⟩

/-- **In-flight conservation.**  Over every well-formed history (any Allow / Pass / Fail / time-gap sequence in
which each promise is resolved at most once, by Pass or by Fail), starting with nothing in flight, the `flying`
counter equals the number of promises admitted and not yet resolved. -/
theorem flying_conservation (st : St) (h0 : st.sh.flying = 0) (ops : List HOp) (h : HSt)
    (hr : hrun (HSt.init st) ops = some h) :
    h.st.sh.flying = (h.outstanding.length : Int) :=
  hrun_conserves ops (HSt.init st) h (by simp [HSt.init, h0]) hr

/-- hence: once every admitted request has been resolved, the next Allow is admitted, whatever the CPU does. -/
theorem all_resolved_then_admitted (st : St) (h0 : st.sh.flying = 0) (ops : List HOp) (h : HSt)
    (hr : hrun (HSt.init st) ops = some h) (hnone : h.outstanding = []) (cpuOver : Bool) (cpu : Int) :
    (h.st.sh.allow h.st.now cpuOver cpu).2 = .admitted :=
  (shed_needs_in_flight _ _ cpuOver cpu _ (flying_conservation st h0 ops h hr)).1 (by rw [hnone]; rfl)

/-- a shed therefore means at least one admitted request is unfinished — more than 10 % of the capacity
estimate of them. -/
theorem shed_implies_unfinished_requests (st : St) (h0 : st.sh.flying = 0) (ops : List HOp) (h : HSt)
    (hr : hrun (HSt.init st) ops = some h) (cpuOver : Bool) (cpu : Int)
    (hv : (h.st.sh.allow h.st.now cpuOver cpu).2 = .overloaded) :
    10 * ((h.outstanding.length : Int) : Rat) > h.st.sh.maxFlight h.st.now ∧ 1 ≤ h.outstanding.length :=
  (shed_needs_in_flight _ _ cpuOver cpu _ (flying_conservation st h0 ops h hr)).2 hv

/-- **The cool-off bookkeeping is the history.**  A state that represents some history summary (`Ref`: `overloadTime` is
`lastOver`, the time of the latest Allow that saw the CPU over the threshold, `droppedRecently` is `inProgress`,
`flying` = admitted − resolved, `avgFlying` the β = 0.9 average) still represents one after every run.  That it is the
summary of the events of that run is `runH_inv` (Refine.lean). -/
theorem bookkeeping_is_history (st : St) (h : Spec.Hist) (r : Ref st h) (ops : List Op) :
    ∃ h', Ref (run st ops) h' := by
  induction ops generalizing st h with
  | nil => exact ⟨h, r⟩
  | cons op ops ih => exact ih (step st op).1 _ (ref_step st h r op)

/-- **The rolling windows are the sliding window over the Pass log**: after every history (any time gaps:
inside a bucket, across bucket boundaries, beyond the whole window), the model's capacity estimate equals the
one computed from the log of Pass events. -/
theorem capacity_is_sliding_window_estimate (window buckets : Nat) (threshold : Int) (t0 : Nat)
    (hb : 1 ≤ buckets) (hw : 1 ≤ window / buckets) (ht : 0 < t0) (ops : List Op) :
    let sh0 := Shedder.new window buckets threshold t0
    let wc : Spec.WinCfg := ⟨buckets, window / buckets, t0, sh0.windowScale⟩
    let r := runH ⟨t0, sh0⟩ { now := t0 } ops
    r.1.sh.maxFlight r.1.now = Spec.capacity wc r.2.passes r.2.now :=
  capacity_eq _ _ _ (fresh_inv window buckets threshold t0 hb hw ht ops).2.1

/-- **C02 on histories (both directions).**  For every configuration (window, buckets ≥ 1, bucket duration ≥ 1 ns,
threshold), every history of Allow / Pass / Fail events with arbitrary time gaps and latencies and every CPU
trace, the next `Allow`:
* returns ErrServiceOverloaded only if `Spec.ShedJustified`: the CPU verdict is "over" now — or an Allow less
  than a second ago saw it over while shedding was in progress — and the number of admitted-but-unresolved
  requests exceeds 10 % of the capacity estimate of the sliding window over the Pass log;
* does return it if `Spec.MustShed`: CPU over, and in-flight count and its moving average above the estimate. -/
theorem allow_meets_spec (window buckets : Nat) (threshold : Int) (t0 : Nat)
    (hb : 1 ≤ buckets) (hw : 1 ≤ window / buckets) (ht : 0 < t0) (ops : List Op) (cpuOver : Bool) (cpu : Int) :
    let sh0 := Shedder.new window buckets threshold t0
    let wc : Spec.WinCfg := ⟨buckets, window / buckets, t0, sh0.windowScale⟩
    let r := runH ⟨t0, sh0⟩ { now := t0 } ops
    ((r.1.sh.allow r.1.now cpuOver cpu).2 = .overloaded → Spec.ShedJustified wc r.2 cpuOver)
    ∧ (Spec.MustShed wc r.2 cpuOver → (r.1.sh.allow r.1.now cpuOver cpu).2 = .overloaded) := by
  have inv := fresh_inv window buckets threshold t0 hb hw ht ops
  exact allow_meets_spec_of_ref _ _ _ inv.1 inv.2.1 cpuOver cpu

/-- the exact clauses imply the tolerant executable monitor: on a history produced by the model the monitor
`Spec.checkAllow` (what the driver evaluates on the implementation's trace) never fires. -/
theorem monitor_sound (window buckets : Nat) (threshold : Int) (t0 : Nat)
    (hb : 1 ≤ buckets) (hw : 1 ≤ window / buckets) (ht : 0 < t0) (ops : List Op) (cpuOver : Bool) (cpu : Int) :
    let sh0 := Shedder.new window buckets threshold t0
    let wc : Spec.WinCfg := ⟨buckets, window / buckets, t0, sh0.windowScale⟩
    let r := runH ⟨t0, sh0⟩ { now := t0 } ops
    Spec.checkAllow wc r.2 cpuOver (r.1.sh.allow r.1.now cpuOver cpu).2 = none :=
  have hs := allow_meets_spec window buckets threshold t0 hb hw ht ops cpuOver cpu
  checkAllow_of_clauses _ _ _ _ hs.1 hs.2

/-- the interleaving model computes the same capacity estimate and limit as the sequential model. -/
theorem conc_limit_is_model_limit (s : Shedder) (now : Nat) (cpu : Int) :
    s.maxFlight now = Conc.capOf ⟨s.cpuThreshold, s.windowScale⟩ (s.maxPass now) (s.minRt now)
    ∧ s.limit now cpu = Conc.limC ⟨s.cpuThreshold, s.windowScale⟩ (s.maxPass now) (s.minRt now) cpu := ⟨rfl, rfl⟩

section
attribute [local simp] Conc.solo Conc.soloResolve thStep Th.fresh Conc.ofShedder Shedder.allow Shedder.shouldDrop
  Shedder.gate Shedder.stillHot Shedder.allowWith Shedder.afterGate Shedder.afterStillHot Shedder.systemOverloaded
  Shedder.highThru Shedder.pass Shedder.fail Shedder.release

/-- **The step machine refines to the sequential model.**  One goroutine running alone (no other goroutine, no
clock tick) through the steps of `Allow` — every shared access at its own step — ends with exactly the verdict and
the shared state of the sequential model's `Shedder.allow` (the model tied to the source and compared with the
implementation on every operation), for every shedder state, time, checker verdict and CPU reading.  The fuel is never
exhausted: the longest path (calm CPU, still hot, shed) takes 11 steps. -/
theorem solo_allow_is_model_allow (s : Shedder) (now : Nat) (over : Bool) (cpu : Int) :
    let r := Conc.solo (Conc.cfgOf s) { over := over, cpu := cpu, clear := false } 14
      (Conc.ofShedder s now, Th.fresh (Conc.ofShedder s now))
    r.1 = Conc.ofShedder (s.allow now over cpu).1 now
    ∧ (r.2.pc = (if (s.allow now over cpu).2 = .overloaded then PC.shed else PC.stamp)) := by
  intro r
  have hl : limC (Conc.cfgOf s) (maxPassOf (s.passCounter.visible now)) (minRtOf (s.rtCounter.visible now)) cpu
      = s.limit now cpu := rfl
  have hl2 : ({ s with overloadTime := now } : Shedder).limit now cpu = s.limit now cpu := rfl
  -- one case per path through `shouldDrop`; in each, both machines are run to the end
  cases over
  · by_cases hd : s.droppedRecently = true
    · by_cases h0 : s.overloadTime = 0
      · simp [r, hd, h0]
      · by_cases hw : now - s.overloadTime < coolOffNs
        · by_cases ha : s.avgFlying > s.limit now cpu
          · by_cases hf : (s.flying : Rat) > s.limit now cpu <;> simp [r, hd, h0, hw, ha, hf, hl, limOf]
          · simp [r, hd, h0, hw, ha, hl]
        · simp [r, hd, h0, hw]
    · simp [r, Bool.eq_false_iff.mpr hd]
  · by_cases ha : s.avgFlying > s.limit now cpu
    · by_cases hf : (s.flying : Rat) > s.limit now cpu <;> simp [r, ha, hf, hl, hl2, limOf]
    · simp [r, ha, hl, hl2]

/-- the same for `Pass` / `Fail`: alone, the steps of a resolution (5 for a Pass) compute `Shedder.pass` / `Shedder.fail`. -/
theorem solo_resolve_is_model_resolve (s : Shedder) (now start : Nat) (pass : Bool) :
    (Conc.soloResolve (Conc.cfgOf s) { pass := pass } 6
      (Conc.ofShedder s now, { Th.fresh (Conc.ofShedder s now) with pc := .inflight, start := start })).1
      = Conc.ofShedder (if pass then s.pass now start else s.fail) now := by
  cases pass <;> simp

end

/-- **In-flight conservation under every schedule.**  With any number `n` of request goroutines running
Allow / Pass / Fail concurrently (each shared access one atomic step, any interleaving with each other and with
the clock), in every reachable state the `flying` counter equals the number of goroutines that have been
admitted and have not yet resolved their promise. -/
theorem flying_conservation_all_schedules (cfg : Cfg) (sh0 : Shared) (n : Nat) (s : Sys)
    (h : Reach cfg sh0 n s) : s.sh.flying = (Conc.inFlight s : Int) :=
  (reach_inv s h).conserve

/-- **Sheds only when hot and busy, under every schedule — each conjunct at its own read instant.**
If a goroutine's Allow has decided to return ErrServiceOverloaded (it is past the last comparison of
`highThru`), then there are reachable states `sAvg`, `sMp`, `sRt`, `sFly` — the instants at which it read the moving
average, the pass window, the latency window and the `flying` counter, in this order, all before now — such that
* the checker's verdict for this call was "over threshold", or there are three earlier instants, in order, at
  which `droppedRecently` was set, `overloadTime` was non-zero, and the clock was less than one second past
  that `overloadTime`;
* the number of goroutines in flight at `sFly` exceeds 10 % of the capacity estimate formed from the peak pass
  count of the window as it stood at `sMp` and the minimum latency of the window as it stood at `sRt`;
* the moving average at `sAvg` exceeds 10 % of that estimate;
* at least one request was in flight at `sFly`: with nothing in flight at the read no goroutine is shed. -/
theorem shed_only_if_hot_and_busy_all_schedules (cfg : Cfg) (sh0 : Shared) (n : Nat) (s : Sys)
    (h : Reach cfg sh0 n s) (t : Th) (ht : t ∈ s.ths) (hd : t.pc = .logHot ∨ t.pc = .setDr ∨ t.pc = .shed) :
    ∃ sAvg sMp sRt sFly : Sys,
      Reach cfg sh0 n sAvg ∧ Reach cfg sh0 n sMp ∧ Reach cfg sh0 n sRt ∧ Reach cfg sh0 n sFly
      ∧ sAvg.steps ≤ sMp.steps ∧ sMp.steps ≤ sRt.steps ∧ sRt.steps ≤ sFly.steps ∧ sFly.steps ≤ s.steps
      ∧ (t.over = true ∨
          ∃ sDr sOt sNow : Sys, Reach cfg sh0 n sDr ∧ Reach cfg sh0 n sOt ∧ Reach cfg sh0 n sNow
            ∧ sDr.steps ≤ sOt.steps ∧ sOt.steps ≤ sNow.steps ∧ sNow.steps ≤ sAvg.steps
            ∧ sDr.sh.dropped = true ∧ sOt.sh.overloadTime ≠ 0
            ∧ sNow.sh.now - sOt.sh.overloadTime < 1000000000)
      ∧ 10 * ((Conc.inFlight sFly : Int) : Rat) >
          capOf cfg (maxPassOf (sMp.sh.passC.visible sMp.sh.now)) (minRtOf (sRt.sh.rtC.visible sRt.sh.now))
      ∧ 10 * sAvg.sh.avg >
          capOf cfg (maxPassOf (sMp.sh.passC.visible sMp.sh.now)) (minRtOf (sRt.sh.rtC.visible sRt.sh.now))
      ∧ 1 ≤ Conc.inFlight sFly := by
  have inv := reach_inv s h
  have hl := inv.loc t ht
  have hlast := inv.last t ht
  -- past the last comparison everything `highThru` read is on record
  obtain ⟨⟨⟨⟨⟨⟨hgate, ⟨sA, rA, qA, hravg⟩, hoA⟩, ⟨sM, rM, qM, hrmp⟩, hAM⟩, ⟨sR, rR, qR, hrrt⟩, hMR⟩, hcmp⟩, hfly⟩, hFl⟩ :
      Decided cfg sh0 n t ∧ t.gFly.seq ≤ t.gLast := by
    rcases hd with h | h | h <;> rw [Local, h] at hl <;> exact hl
  obtain ⟨⟨sF, rF, qF, hFc⟩, hflim, hRF⟩ := hfly
  have hbusy := tenth_of_estimate _ _ _ _ (capOf_ge_one cfg t.rmp t.rrt) (factor_bounds cfg.thr t.rcpu) hcmp hflim
  refine ⟨sA, sM, sR, sF, rA, rM, rR, rF, by omega, by omega, by omega, by omega, ?_, ?_, ?_, ?_⟩
  · cases hov : t.over
    · obtain ho | ⟨⟨⟨sD, rD, qD, hdr⟩, ⟨sO, rO, qO, hrot⟩, hot, hDO⟩, ⟨sN, rN, qN, hw⟩, hON⟩ := hgate
      · rw [hov] at ho; cases ho
      · have := hoA hov
        exact Or.inr ⟨sD, sO, sN, rD, rO, rN, by omega, by omega, by omega, hdr, hrot ▸ hot, hrot ▸ hw⟩
    · exact Or.inl rfl
  · rw [← hrmp, ← hrrt, ← hFc]; exact hbusy.1
  · rw [← hrmp, ← hrrt, ← hravg]; exact hbusy.2.1
  · have := hbusy.2.2
    omega

/-- the value of `flying` a shed was decided on was at least 1, and was the number of requests in flight at its
read instant. -/
theorem shed_read_at_least_one_in_flight (cfg : Cfg) (sh0 : Shared) (n : Nat) (s : Sys) (h : Reach cfg sh0 n s)
    (t : Th) (ht : t ∈ s.ths) (hd : t.pc = .shed) :
    1 ≤ t.rf ∧ ∃ sFly, Reach cfg sh0 n sFly ∧ t.rf = (Conc.inFlight sFly : Int) := by
  have hl := (reach_inv s h).loc t ht
  rw [Local, hd] at hl
  obtain ⟨sF, rF, -, hFc⟩ := hl.1.2.1
  exact ⟨(tenth_of_estimate _ _ _ _ (capOf_ge_one cfg t.rmp t.rrt) (factor_bounds cfg.thr t.rcpu) hl.1.1.2
    hl.1.2.2.1).2.2, sF, rF, hFc⟩

-- non-vacuity: three goroutines on a shedder whose average is 3 (capacity 10, CPU at 1000 → limit 1);
-- 0 is admitted, 2's checker says "over", 1 is admitted, the clock ticks, 2 stamps overloadTime = 12, reads
-- flying = 2 > 1 and is shed; the hypotheses of the theorems above hold for it
def exCfg : Cfg := ⟨900, 1 / 100⟩
def exShared : Shared :=
  { now := 5, flying := 0, avg := 3, overloadTime := 0, dropped := false,
    passC := RW.new 10 100000000 1 true, rtC := RW.new 10 100000000 1 true }
def exSchedule : List Act :=
  [.run 0 {}, .run 1 {}, .run 0 {}, .run 0 {}, .run 2 { over := true }, .run 1 {}, .run 1 {}, .tick 7,
   .run 2 {}, .run 2 {}, .run 2 {}, .run 2 {}, .run 2 {}, .run 2 { cpu := 1000 }, .run 2 {}, .run 2 {}, .run 2 {}, .run 0 {}]

/-- what the example looks at: flying, goroutines in flight, droppedRecently, overloadTime, then every
goroutine's value read from `flying`; and every goroutine's position. -/
def Conc.summary (s : Sys) : List Int × List PC :=
  ([s.sh.flying, (Conc.inFlight s : Int), if s.sh.dropped then 1 else 0, (s.sh.overloadTime : Int)] ++ s.ths.map (·.rf),
   s.ths.map (·.pc))

example : (Conc.runActs exCfg (Conc.init exShared 3) exSchedule).map Conc.summary =
    some ([2, 2, 1, 12, 0, 0, 2], [.inflight, .stamp, .shed]) := by decide +kernel

example : ∃ s, Reach exCfg exShared 3 s ∧ ∃ t ∈ s.ths, t.pc = .shed := by
  have h2 : (Conc.runActs exCfg (Conc.init exShared 3) exSchedule).map (fun s => s.ths.map (·.pc))
      = some [.inflight, .stamp, .shed] := by decide +kernel
  obtain ⟨s, h, hp⟩ := Option.map_eq_some_iff.mp h2
  obtain ⟨t, ht, hpc⟩ := List.mem_map.mp (show PC.shed ∈ s.ths.map (·.pc) by rw [hp]; simp)
  exact ⟨s, Conc.reach_runActs exCfg exShared 3 exSchedule _ s Reach.init h, t, ht, hpc⟩

/-! ### finding C02-threshold-at-cpumax-nan: the pinned (unguarded) `overloadFactor`

`WithCpuThreshold(1000)` makes `overloadFactor` compute `(1000 − cpu) / 0`.  For `cpu = 1000` — the only reading at
which the checker `cpu ≥ threshold` says "over" without overshoot — this is `0/0 = NaN`; `mathx.Between` returns NaN
(both of its comparisons are false), the limit `maxFlight·NaN` is NaN and `avgFlying > NaN` is false: nothing is
ever shed, however many requests are in flight.  `Pinned` is the model with that behaviour; it differs from the
model of the fixed code only at threshold = cpuMax = cpu. -/

namespace Pinned

/-- the unguarded factor: `none` = NaN. -/
def factor (threshold cpu : Int) : Option Rat :=
  if threshold = cpuMax ∧ cpu = cpuMax then none else some (overloadFactor threshold cpu)

/-- `highThru` with a NaN-aware comparison (`x > NaN` is false). -/
def highThru (s : Shedder) (now : Nat) (cpu : Int) : Bool :=
  match factor s.cpuThreshold cpu with
  | none => false
  | some f => decide (s.avgFlying > s.maxFlight now * f) && decide ((s.flying : Rat) > s.maxFlight now * f)

def shouldDrop (s : Shedder) (now : Nat) (cpuOver : Bool) (cpu : Int) : Bool :=
  s.gate now cpuOver && highThru (s.afterGate now cpuOver) now cpu

def verdict (s : Shedder) (now : Nat) (cpuOver : Bool) (cpu : Int) : Verdict :=
  if shouldDrop s now cpuOver cpu then .overloaded else .admitted

/-- away from threshold = cpuMax = cpu the pinned code and the model of the fixed code agree. -/
theorem agrees (s : Shedder) (now : Nat) (cpuOver : Bool) (cpu : Int) (h : ¬ (s.cpuThreshold = cpuMax ∧ cpu = cpuMax)) :
    verdict s now cpuOver cpu = (s.allow now cpuOver cpu).2 := by
  obtain ⟨ot, dr, e⟩ := afterGate_frame s now cpuOver
  simp only [verdict, shouldDrop, highThru, factor, Shedder.allow, Shedder.shouldDrop, e, if_neg h]
  rfl

/-- 100 ms buckets, no passes (capacity 10), threshold = cpuMax; 50 in flight, average 40. -/
def exState : Shedder :=
  { (Shedder.new 1000000000 10 1000 1) with flying := 50, avgFlying := 40 }

/-- **Witness.**  CPU at the threshold (the checker says "over"), in-flight count 50 and its average 40 both above the
full capacity estimate 10: the property demands a shed (`sheds_when_over_capacity` — the fixed code does shed), the
pinned code admits the request. -/
theorem witness :
    exState.maxFlight 5 = 10
    ∧ (exState.flying : Rat) > exState.maxFlight 5 ∧ exState.avgFlying > exState.maxFlight 5
    ∧ verdict exState 5 true 1000 = .admitted
    ∧ (exState.allow 5 true 1000).2 = .overloaded := by decide +kernel

end Pinned

/-- **A disabled shedder never sheds** (`NewAdaptiveShedder` returns the nop shedder when disabled). -/
theorem disabled_never_sheds : nopAllow = Verdict.admitted := rfl

/-- 100 ms buckets (scale 1/100), default latency 1000 ms, no passes: capacity 10. -/
def exShedder (flying : Int) (avg : Rat) (ot : Nat) (dr : Bool) : Shedder :=
  { (Shedder.new 1000000000 10 900 1) with flying := flying, avgFlying := avg, overloadTime := ot, droppedRecently := dr }

example : (exShedder 11 (21 / 2) 0 false).maxFlight 5 = 10 := by decide +kernel
-- over capacity with an overloaded CPU: shed (even with factor 1, cpu = 0)
example : ((exShedder 11 (21 / 2) 0 false).allow 5 true 0).2 = .overloaded := by decide +kernel
-- 2 in flight = 20 % of capacity, CPU at 1000: factor floor 1/10 → limit 1 → shed
example : ((exShedder 2 (3 / 2) 0 false).allow 5 true 1000).2 = .overloaded := by decide +kernel
-- exactly 10 % of capacity in flight: not shed
example : ((exShedder 1 1 0 false).allow 5 true 1000).2 = .admitted := by decide +kernel
-- calm CPU, hot Allow 999999999 ns ago, shedding in progress: shed; one nanosecond later: admitted
example : ((exShedder 11 11 7 true).allow (7 + 999999999) false 0).2 = .overloaded := by decide +kernel
example : ((exShedder 11 11 7 true).allow (7 + 1000000000) false 0).2 = .admitted := by decide +kernel
-- a well-formed history: two admitted, one passed → one in flight
example : (hrun (HSt.init ⟨1, Shedder.new 1000000000 10 900 1⟩)
    [.allow false 0, .allow true 950, .advance 3000000, .pass 0]).map (fun h => (h.st.sh.flying, h.outstanding))
    = some (1, [(1, 1)]) := by decide +kernel
-- a history across a bucket boundary: 30 requests of 20 ms pass inside the first 100 ms bucket; in the next
-- bucket the capacity estimate is 30 × 20 ms × (1/100) = 6, in the model and from the Pass log alike;
-- eleven buckets later the window has slid past them and the estimate is back to 10 (1 × 1000 ms × 1/100)
def exOps : List Op :=
  List.replicate 30 (.allow false 0) ++ [.advance 20000000] ++ List.replicate 30 (.pass 1) ++ [.advance 100000000]
example :
    let r := runH ⟨1, Shedder.new 1000000000 10 900 1⟩ { now := 1 } exOps
    (r.1.sh.maxFlight r.1.now, Spec.capacity ⟨10, 100000000, 1, 1 / 100⟩ r.2.passes r.2.now, r.2.inFlight) = (6, 6, 0) := by
  decide +kernel
example :
    let r := runH ⟨1, Shedder.new 1000000000 10 900 1⟩ { now := 1 } (exOps ++ [.advance 1000000000])
    (r.1.sh.maxFlight r.1.now, Spec.capacity ⟨10, 100000000, 1, 1 / 100⟩ r.2.passes r.2.now) = (10, 10) := by
  decide +kernel
-- resolving a promise twice is not a well-formed history
example : (hrun (HSt.init ⟨1, Shedder.new 1000000000 10 900 1⟩) [.allow false 0, .pass 0, .fail 0]).isNone := by
  decide +kernel

end GoZero.C02
