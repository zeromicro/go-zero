/-
C02 — lemmas about the model's own functions (core Lean only): float quotients of integers, the bounds of
factor and limit, what the gate and `Allow` leave untouched, the decision of `shouldDrop` in one line.
-/
import GoZero.C02.Spec
namespace GoZero.C02

/-- what Go's `int64(…)` computes on a float quotient of two integers (and `math.Ceil`, as `−⌊−x⌋`). -/
theorem floor_intCast_div (n d : Int) (hd : 0 < d) : ((n : Rat) / (d : Rat)).floor = n / d := by
  have hd' : (0 : Rat) < (d : Rat) := Rat.intCast_pos.mpr hd
  apply Int.le_antisymm
  · have : ((n : Rat) / (d : Rat)).floor < n / d + 1 := by
      rw [Rat.floor_lt_iff, Rat.div_lt_iff hd', ← Rat.intCast_mul, Rat.intCast_lt_intCast]
      exact Int.lt_ediv_add_one_mul_self n hd
    omega
  · rw [Rat.le_floor_iff, ← Rat.not_lt, Rat.div_lt_iff hd', Rat.not_lt, ← Rat.intCast_mul, Rat.intCast_le_intCast]
    exact Int.ediv_mul_le n (Int.ne_of_gt hd)

theorem between_bounds (x lo hi : Rat) (h : lo ≤ hi) : lo ≤ between x lo hi ∧ between x lo hi ≤ hi := by
  unfold between
  split
  · exact ⟨Rat.le_refl, h⟩
  · split
    · exact ⟨h, Rat.le_refl⟩
    · constructor <;> grind

theorem factor_bounds (threshold cpu : Int) :
    1 / 10 ≤ overloadFactor threshold cpu ∧ overloadFactor threshold cpu ≤ 1 := by
  unfold overloadFactor factorLowerBound
  split
  · split <;> constructor <;> grind
  · exact between_bounds _ _ _ (by grind)

/-- `mathx.AtLeast(m, 1)`. -/
theorem one_le_atLeast (m : Rat) : 1 ≤ (if m < 1 then 1 else m) := by
  split
  · exact Rat.le_refl
  · grind

theorem scaled_bounds (m f : Rat) (hm : 1 ≤ m) (hf : 1 / 10 ≤ f ∧ f ≤ 1) :
    m ≤ 10 * (m * f) ∧ m * f ≤ m ∧ 1 / 10 ≤ m * f := by
  have hm0 : (0 : Rat) ≤ m := by grind
  have h1 : m * (1 / 10) ≤ m * f := Rat.mul_le_mul_of_nonneg_left hf.1 hm0
  have h2 : m * f ≤ m * 1 := Rat.mul_le_mul_of_nonneg_left hf.2 hm0
  refine ⟨?_, ?_, ?_⟩ <;> grind

theorem tenth_of_estimate (m f avg : Rat) (x : Int) (hm : 1 ≤ m) (hf : 1 / 10 ≤ f ∧ f ≤ 1)
    (ha : avg > m * f) (hx : (x : Rat) > m * f) : 10 * (x : Rat) > m ∧ 10 * avg > m ∧ 1 ≤ x := by
  have hb := scaled_bounds m f hm hf
  have hpos := Rat.intCast_pos.mp (show (0 : Rat) < (x : Rat) by grind)
  exact ⟨by grind, by grind, by omega⟩

theorem maxFlight_ge_one (s : Shedder) (now : Nat) : 1 ≤ s.maxFlight now := one_le_atLeast _

theorem limit_bounds (s : Shedder) (now : Nat) (cpu : Int) :
    s.maxFlight now ≤ 10 * s.limit now cpu ∧ s.limit now cpu ≤ s.maxFlight now ∧ 1 / 10 ≤ s.limit now cpu :=
  scaled_bounds _ _ (maxFlight_ge_one s now) (factor_bounds s.cpuThreshold cpu)

theorem afterGate_frame (s : Shedder) (now : Nat) (o : Bool) :
    ∃ ot dr, s.afterGate now o = { s with overloadTime := ot, droppedRecently := dr } := by
  unfold Shedder.afterGate Shedder.systemOverloaded Shedder.afterStillHot
  split <;> (try split) <;> exact ⟨_, _, rfl⟩

theorem allow_frame (s : Shedder) (now : Nat) (o : Bool) (cpu : Int) :
    ∃ fl ot dr, (s.allow now o cpu).1 = { s with flying := fl, overloadTime := ot, droppedRecently := dr } := by
  obtain ⟨ot, dr, e⟩ := afterGate_frame s now o
  simp only [Shedder.allow, Shedder.allowWith, e]
  split <;> exact ⟨_, _, _, rfl⟩

theorem shouldDrop_iff (s : Shedder) (now : Nat) (o : Bool) (cpu : Int) :
    s.shouldDrop now o cpu = true ↔
      (o = true ∨ s.stillHot now = true) ∧ s.avgFlying > s.limit now cpu ∧ (s.flying : Rat) > s.limit now cpu := by
  obtain ⟨ot, dr, e⟩ := afterGate_frame s now o
  simp only [Shedder.shouldDrop, e, Shedder.gate, Shedder.highThru, Bool.and_eq_true, Bool.or_eq_true,
    decide_eq_true_eq]
  rfl

theorem stillHot_iff (s : Shedder) (now : Nat) :
    s.stillHot now = true ↔
      s.droppedRecently = true ∧ s.overloadTime ≠ 0 ∧ now - s.overloadTime < 1000000000 := by
  unfold Shedder.stillHot coolOffNs
  simp only [Bool.and_eq_true, decide_eq_true_eq, bne_iff_ne, ne_eq, and_assoc]

theorem allow_verdict (s : Shedder) (now : Nat) (o : Bool) (cpu : Int) :
    (s.allow now o cpu).2 = .overloaded ↔ s.shouldDrop now o cpu = true := by
  unfold Shedder.allow
  simp only []
  split <;> simp_all

theorem shed_iff (s : Shedder) (now : Nat) (o : Bool) (cpu : Int) :
    (s.allow now o cpu).2 = .overloaded ↔
      (o = true ∨ s.stillHot now = true) ∧ s.avgFlying > s.limit now cpu ∧ (s.flying : Rat) > s.limit now cpu :=
  (allow_verdict s now o cpu).trans (shouldDrop_iff s now o cpu)

theorem shed_busy (s : Shedder) (now : Nat) (o : Bool) (cpu : Int) (h : (s.allow now o cpu).2 = .overloaded) :
    10 * (s.flying : Rat) > s.maxFlight now ∧ 10 * s.avgFlying > s.maxFlight now ∧ 1 ≤ s.flying :=
  have hd := (shed_iff s now o cpu).mp h
  tenth_of_estimate _ _ _ _ (maxFlight_ge_one s now) (factor_bounds s.cpuThreshold cpu) hd.2.1 hd.2.2

theorem sheds_when_gate_open (s : Shedder) (now : Nat) (o : Bool) (cpu : Int)
    (hg : o = true ∨ s.stillHot now = true)
    (hf : (s.flying : Rat) > s.maxFlight now) (ha : s.avgFlying > s.maxFlight now) :
    (s.allow now o cpu).2 = .overloaded := by
  have hl := (limit_bounds s now cpu).2.1
  exact (shed_iff s now o cpu).mpr ⟨hg, by grind, by grind⟩

theorem calm_shed_was_hot (s : Shedder) (now : Nat) (cpu : Int) (h : (s.allow now false cpu).2 = .overloaded) :
    s.stillHot now = true :=
  ((shed_iff s now false cpu).mp h).1.resolve_left nofun

theorem allow_verdict_admitted (s : Shedder) (now : Nat) (o : Bool) (cpu : Int) :
    (s.allow now o cpu).2 = .admitted ↔ s.shouldDrop now o cpu = false := by
  unfold Shedder.allow
  simp only []
  split <;> simp_all

theorem allow_flying (s : Shedder) (now : Nat) (o : Bool) (cpu : Int) :
    (s.allow now o cpu).1.flying = s.flying + (if (s.allow now o cpu).2 = .admitted then 1 else 0) := by
  obtain ⟨ot, dr, e⟩ := afterGate_frame s now o
  simp only [Shedder.allow, Shedder.allowWith, e]
  split <;> simp

theorem release_flying (s : Shedder) : s.release.flying = s.flying - 1 := rfl

theorem pass_flying (s : Shedder) (now start : Nat) : (s.pass now start).flying = s.flying - 1 := rfl

theorem fail_flying (s : Shedder) : s.fail.flying = s.flying - 1 := rfl

end GoZero.C02
