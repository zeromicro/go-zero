/-
C02 — the model refines the specification: `Ref` relates a model state to the history summary `Spec.Hist`, `WRef` its two windows
to the summary's Pass log (RWRefine.lean).  Every run from a fresh shedder keeps both (`runH_inv`, `fresh_inv`); on a related pair
the capacity estimates agree (`capacity_eq`) and `Allow` meets both clauses (`allow_meets_spec_of_ref`).
-/
import GoZero.C02.History
import GoZero.C02.RWRefine
namespace GoZero.C02
open Spec

/-- model state ↔ history summary.  The Go code reads `overloadTime == 0` as "never overloaded" (`ot` is `lastOver.getD 0`), so the
state is the summary only if every clock reading is positive: `pos`, `otp`. -/
structure Ref (st : St) (h : Spec.Hist) : Prop where
  now  : h.now = st.now
  pos  : 0 < st.now
  fly  : h.inFlight = st.sh.flying
  avg  : h.avg = st.sh.avgFlying
  ot   : st.sh.overloadTime = h.lastOver.getD 0
  otp  : ∀ t, h.lastOver = some t → 0 < t
  dr   : st.sh.droppedRecently = h.inProgress
  prog : h.inProgress = true → h.lastOver ≠ none

theorem Ref.lastOver {st : St} {h : Spec.Hist} (r : Ref st h) (hp : h.inProgress = true) :
    h.lastOver = some st.sh.overloadTime ∧ 0 < st.sh.overloadTime := by
  cases hl : h.lastOver with
  | none => exact absurd hl (r.prog hp)
  | some t =>
    have := r.ot
    rw [hl] at this
    exact ⟨congrArg some this.symm, this ▸ r.otp t hl⟩

theorem hot_iff (h : Spec.Hist) :
    h.hot = true ↔ h.inProgress = true ∧ ∃ t, h.lastOver = some t ∧ h.now - t < 1000000000 := by
  unfold Spec.Hist.hot
  cases h.lastOver <;> simp

theorem ref_hot (st : St) (h : Spec.Hist) (r : Ref st h) : st.sh.stillHot st.now = h.hot := by
  unfold Shedder.stillHot Spec.Hist.hot coolOffNs
  rw [r.dr, r.now]
  cases hp : h.inProgress
  · rfl
  · obtain ⟨hl, hpos⟩ := r.lastOver hp
    simp [hl, Nat.ne_of_gt hpos]

theorem ref_init (window buckets : Nat) (threshold : Int) (t0 : Nat) (ht : 0 < t0) :
    Ref ⟨t0, Shedder.new window buckets threshold t0⟩ { now := t0 } where
  now := rfl
  pos := ht
  fly := rfl
  avg := rfl
  ot := rfl
  otp := nofun
  dr := rfl
  prog := nofun

theorem ref_resolve (st : St) (h : Spec.Hist) (r : Ref st h) : Ref ⟨st.now, st.sh.release⟩ h.resolve := by
  have hf := r.fly
  unfold Spec.Hist.inFlight at hf
  have e : ((h.admitted : Int) - ((h.resolved + 1 : Nat) : Int)) = st.sh.flying - 1 := by omega
  refine { r with fly := e, avg := ?_ }
  show h.avg * (9 / 10) + _ * (1 / 10) = st.sh.avgFlying * flyingBeta + _ * (1 - flyingBeta)
  rw [e, r.avg, flyingBeta]
  grind

theorem observe_allow_frame (h : Spec.Hist) (o : Bool) (v : Verdict) :
    ∃ a lo ip, h.observe (.allow o v) = { h with admitted := a, lastOver := lo, inProgress := ip } := by
  cases v <;> simp only [Spec.Hist.observe] <;> split <;> (try split) <;> exact ⟨_, _, _, rfl⟩

/-- the state after the gate `systemOverloaded() || stillHot()` against the history after the CPU verdict was noted. -/
theorem ref_gate (st : St) (h : Spec.Hist) (r : Ref st h) (o : Bool) :
    Ref ⟨st.now, st.sh.afterGate st.now o⟩
      (if o then { h with lastOver := some h.now }
       else if h.inProgress && !h.hot then { h with inProgress := false } else h) := by
  cases o
  · -- calm: the model finds the cool-off lapsed exactly when the history does
    have hc : (st.sh.droppedRecently && st.sh.overloadTime != 0 && !decide (st.now - st.sh.overloadTime < coolOffNs))
        = (h.inProgress && !h.hot) := by
      rw [← ref_hot st h r, Shedder.stillHot, r.dr]
      cases hp : h.inProgress
      · rfl
      · have hz : (st.sh.overloadTime != 0) = true := bne_iff_ne.mpr (Nat.ne_of_gt (r.lastOver hp).2)
        simp [hz]
    simp only [Shedder.afterGate, Shedder.afterStillHot, hc, Bool.false_eq_true, if_false]
    split
    · exact { r with dr := rfl, prog := nofun }
    · exact r
  · simp only [Shedder.afterGate, Shedder.systemOverloaded, if_true]
    exact { r with ot := r.now.symm, otp := fun t ht => by cases ht; exact r.now ▸ r.pos, prog := fun _ => nofun }

theorem ref_step (st : St) (h : Spec.Hist) (r : Ref st h) (op : Op) :
    Ref (step st op).1 (h.observe (evOf st op)) := by
  cases op with
  | advance d => exact { r with now := congrArg (· + d) r.now, pos := Nat.lt_of_lt_of_le r.pos (Nat.le_add_right ..) }
  | pass start => exact { ref_resolve st h r with }
  | fail => exact ref_resolve st h r
  | allow o c =>
    have hg := ref_gate st h r o
    cases hd : st.sh.shouldDrop st.now o c <;>
      simp only [step, evOf, Shedder.allow, Shedder.allowWith, Spec.Hist.observe, hd, ↓reduceIte, Bool.false_eq_true]
    · have hf := hg.fly
      simp only [Spec.Hist.inFlight] at hf
      exact { hg with fly := by simp only [Spec.Hist.inFlight]; omega }
    · -- shed: a calm CPU needs `stillHot`, hence a recorded hot Allow and no lapse
      refine { hg with dr := rfl, prog := fun _ => ?_ }
      cases o
      · have hh : h.hot = true := ref_hot st h r ▸ calm_shed_was_hot st.sh st.now c ((allow_verdict ..).mpr hd)
        have hp := ((hot_iff h).mp hh).1
        simp [hh, (r.lastOver hp).1]
      · simp

/-- both windows of the shedder are views of the history's Pass log. -/
structure WRef (wc : WinCfg) (st : St) (h : Hist) : Prop where
  hnow  : h.now = st.now
  pw    : Tracks st.sh.passCounter wc (fun _ => 1) h.passes h.now
  rtw   : Tracks st.sh.rtCounter wc (fun e => e.rt) h.passes h.now
  scale : st.sh.windowScale = wc.scale

theorem wref_init (window buckets : Nat) (threshold : Int) (now : Nat) (hb : 1 ≤ buckets)
    (hw : 1 ≤ window / buckets) :
    WRef ⟨buckets, window / buckets, now, (Shedder.new window buckets threshold now).windowScale⟩
      ⟨now, Shedder.new window buckets threshold now⟩ { now := now } where
  hnow := rfl
  pw := tracks_new buckets (window / buckets) now _ _ hb hw
  rtw := tracks_new buckets (window / buckets) now _ _ hb hw
  scale := rfl

theorem wref_step (wc : WinCfg) (st : St) (h : Hist) (w : WRef wc st h) (op : Op) :
    WRef wc (step st op).1 (h.observe (evOf st op)) := by
  cases op with
  | advance d => exact ⟨congrArg (· + d) w.hnow, w.pw.mono (Nat.le_add_right ..), w.rtw.mono (Nat.le_add_right ..), w.scale⟩
  | fail => exact ⟨w.hnow, w.pw, w.rtw, w.scale⟩
  | allow o c =>
    obtain ⟨fl, ot, dr, es⟩ := allow_frame st.sh st.now o c
    obtain ⟨a, lo, ip, eh⟩ := observe_allow_frame h o (st.sh.allow st.now o c).2
    simp only [step, evOf, es, eh]
    exact ⟨w.hnow, w.pw, w.rtw, w.scale⟩
  | pass start =>
    simp only [step, evOf, Hist.observe, Shedder.pass, ← w.hnow]
    exact ⟨rfl, w.pw.add (e := ⟨h.now, rtMs h.now start⟩), w.rtw.add (e := ⟨h.now, rtMs h.now start⟩), w.scale⟩

theorem capacity_eq (wc : WinCfg) (st : St) (h : Hist) (w : WRef wc st h) :
    st.sh.maxFlight st.now = capacity wc h.passes h.now := by
  obtain ⟨n1, h1⟩ := w.pw.visible
  obtain ⟨n2, h2⟩ := w.rtw.visible
  unfold Shedder.maxFlight capacity peakPass minLatency passBuckets rtBuckets Shedder.maxPass Shedder.minRt
  rw [← w.hnow, h1, h2, maxPassOf_append_empty, minRtOf_append_empty, w.scale]

theorem step_keeps_threshold (st : St) (op : Op) : (step st op).1.sh.cpuThreshold = st.sh.cpuThreshold := by
  cases op with
  | advance d => rfl
  | allow o c =>
    obtain ⟨fl, ot, dr, e⟩ := allow_frame st.sh st.now o c
    simp only [step, e]
  | pass start | fail => rfl

theorem runH_inv (wc : Spec.WinCfg) (ops : List Op) (st : St) (h : Spec.Hist) (r : Ref st h) (w : WRef wc st h) :
    Ref (runH st h ops).1 (runH st h ops).2 ∧ WRef wc (runH st h ops).1 (runH st h ops).2
    ∧ (runH st h ops).1.sh.cpuThreshold = st.sh.cpuThreshold := by
  induction ops generalizing st h with
  | nil => exact ⟨r, w, rfl⟩
  | cons op ops ih =>
    have i := ih _ _ (ref_step st h r op) (wref_step wc st h w op)
    exact ⟨i.1, i.2.1, i.2.2.trans (step_keeps_threshold st op)⟩

theorem fresh_inv (window buckets : Nat) (threshold : Int) (t0 : Nat)
    (hb : 1 ≤ buckets) (hw : 1 ≤ window / buckets) (ht : 0 < t0) (ops : List Op) :
    let sh0 := Shedder.new window buckets threshold t0
    let r := runH ⟨t0, sh0⟩ { now := t0 } ops
    Ref r.1 r.2 ∧ WRef ⟨buckets, window / buckets, t0, sh0.windowScale⟩ r.1 r.2 ∧ r.1.sh.cpuThreshold = threshold :=
  runH_inv _ ops _ _ (ref_init window buckets threshold t0 ht) (wref_init window buckets threshold t0 hb hw)

/-- the first clause on the history alone: a shed at a calm CPU happens only while `Hist.hot`. -/
theorem shed_only_if_history_hot (st : St) (h : Spec.Hist) (r : Ref st h) (cpuOver : Bool) (cpu : Int)
    (hv : (st.sh.allow st.now cpuOver cpu).2 = .overloaded) :
    (cpuOver = true ∨ h.hot = true) ∧ 10 * (h.inFlight : Rat) > st.sh.maxFlight st.now := by
  rw [← ref_hot st h r, r.fly]
  exact ⟨((shed_iff st.sh st.now cpuOver cpu).mp hv).1, (shed_busy st.sh st.now cpuOver cpu hv).1⟩

theorem allow_meets_spec_of_ref (wc : Spec.WinCfg) (st : St) (h : Spec.Hist) (r : Ref st h) (w : WRef wc st h)
    (cpuOver : Bool) (cpu : Int) :
    ((st.sh.allow st.now cpuOver cpu).2 = .overloaded → Spec.ShedJustified wc h cpuOver)
    ∧ (Spec.MustShed wc h cpuOver → (st.sh.allow st.now cpuOver cpu).2 = .overloaded) := by
  have hcap := capacity_eq wc st h w
  constructor
  · intro hv
    rw [Spec.ShedJustified, ← hcap]
    exact shed_only_if_history_hot st h r cpuOver cpu hv
  · rintro ⟨rfl, hf, ha⟩
    rw [← hcap, r.fly] at hf
    rw [← hcap, r.avg] at ha
    exact sheds_when_gate_open st.sh st.now true cpu (Or.inl rfl) hf ha

theorem checkAllow_of_clauses (wc : Spec.WinCfg) (h : Spec.Hist) (cpuOver : Bool) (v : Verdict)
    (h1 : v = .overloaded → Spec.ShedJustified wc h cpuOver) (h2 : Spec.MustShed wc h cpuOver → v = .overloaded) :
    Spec.checkAllow wc h cpuOver v = none := by
  unfold Spec.checkAllow
  cases v with
  | overloaded =>
    obtain ⟨hg, hc⟩ := h1 rfl
    -- a justified shed has a request in flight: the estimate is at least 1
    have hcap : 1 ≤ Spec.capacity wc h.passes h.now := one_le_atLeast _
    have hpos := Rat.intCast_pos.mp (show (0 : Rat) < (h.inFlight : Rat) by grind)
    have h1 : (cpuOver || h.hot) = true := by simpa using hg
    have h2 : ¬ h.inFlight ≤ 0 := by omega
    simp [h1, h2, hc]
  | admitted =>
    simp only []
    split
    · rename_i hc
      simp only [Bool.and_eq_true, decide_eq_true_eq, Bool.not_eq_true'] at hc
      cases h2 ⟨hc.1.1.1.1, hc.1.1.1.2, hc.1.1.2⟩
    · rfl

end GoZero.C02
