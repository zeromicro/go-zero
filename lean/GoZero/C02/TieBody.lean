/-
C02 — Tie: whole function bodies, regenerated from the go-zero working tree.

`extract/c02.go: c02BodyFn` translates the body of a Go function — if statements with or without else, early returns,
the order of the effect statements — into a Lean function whose atoms (conditions `c_i : σ → Bool`, effects
`e_j : σ → σ`) are parameters; the atoms' source texts are emitted next to it.  Each theorem here
  (1) pins the atom texts (position ↦ Go statement), and
  (2) instantiates the atoms with their meaning in the model and proves the generated function EQUAL to the model's
      definition for ALL states and arguments.
A swapped pair of statements, an early return added or removed, a negated condition, a statement moved into or out of a
branch changes the generated function and breaks (2); a changed statement breaks (1).
-/
import GoZero.Extracted.C02
import GoZero.C02.Site
namespace GoZero.C02.TieBody
open GoZero.C02
open GoZero.Extracted.C02

/-- `stillHot`: state = (shedder, the local `overloadTime`). -/
theorem tie_stillHotBody (s : Shedder) (now : Nat) :
    stillHotFnConds = ["!as.droppedRecently.True()", "overloadTime == 0", "timex.Since(overloadTime) < coolOffDuration"]
    ∧ stillHotFnEffects = ["overloadTime := as.overloadTime.Load()", "as.droppedRecently.Set(false)"]
    ∧ (let r := stillHotFn (σ := Shedder × Nat)
          (fun x => !x.1.droppedRecently) (fun x => x.2 == 0) (fun x => decide (now - x.2 < coolOffNs))
          (fun x => (x.1, x.1.overloadTime)) (fun x => ({ x.1 with droppedRecently := false }, x.2)) (s, 0)
       r.1.1 = s.afterStillHot now ∧ r.2 = (if s.stillHot now then "true" else "false")) := by
  refine ⟨rfl, rfl, ?_⟩
  obtain ⟨thr, ws, fl, avg, ot, dr, pc, rc⟩ := s
  simp only [stillHotFn, Shedder.afterStillHot, Shedder.stillHot]
  cases dr
  · simp
  · by_cases h0 : ot = 0
    · simp [h0]
    · by_cases hc : now - ot < coolOffNs <;> simp [h0, hc]

/-- `systemOverloaded`: the checker's verdict `cpuOver`; a positive verdict stamps overloadTime with timex.Now(). -/
theorem tie_systemOverloadedBody (s : Shedder) (now : Nat) (cpuOver : Bool) :
    systemOverloadedFnConds = ["!systemOverloadChecker(as.cpuThreshold)"]
    ∧ systemOverloadedFnEffects = ["as.overloadTime.Set(timex.Now())"]
    ∧ (let r := systemOverloadedFn (σ := Shedder) (fun _ => !cpuOver) (fun x => { x with overloadTime := now }) s
       r.1 = s.systemOverloaded now cpuOver ∧ r.2 = (if cpuOver then "true" else "false")) := by
  refine ⟨rfl, rfl, ?_⟩
  cases cpuOver <;> simp [systemOverloadedFn, Shedder.systemOverloaded]

/-- `shouldDrop` = gate && highThru (the log statements of the drop branch are left out by the extractor).  The log line calls
`stillHot()` a second time; at the same clock reading it writes nothing: `overloadTime` was just stamped, or just found within the
cool-off. -/
theorem tie_shouldDropBody (s : Shedder) (now : Nat) (cpuOver : Bool) (cpu : Int) :
    shouldDropFnConds = ["as.systemOverloaded() || as.stillHot()", "as.highThru()"]
    ∧ shouldDropFnEffects = []
    ∧ (shouldDropFn (σ := Unit) (fun _ => s.gate now cpuOver) (fun _ => (s.afterGate now cpuOver).highThru now cpu) ()).2
        = (if s.shouldDrop now cpuOver cpu then "true" else "false") := by
  refine ⟨rfl, rfl, ?_⟩
  simp only [shouldDropFn, Shedder.shouldDrop]
  by_cases hg : s.gate now cpuOver = true <;> by_cases hh : (s.afterGate now cpuOver).highThru now cpu = true <;> simp [hg, hh]

/-- `Allow`: drop → droppedRecently.Set(true), return (nil, ErrServiceOverloaded); else addFlying(1), return a promise. -/
theorem tie_allowBody (s : Shedder) (now : Nat) (cpuOver drop : Bool) :
    allowFnConds = ["as.shouldDrop()"]
    ∧ allowFnEffects = ["as.droppedRecently.Set(true)", "as.addFlying(1)"]
    ∧ (let r := allowFn (σ := Shedder) (fun _ => drop) (fun x => { x with droppedRecently := true })
          (fun x => { x with flying := x.flying + 1 }) (s.afterGate now cpuOver)
       r.1 = s.allowWith now cpuOver drop
       ∧ r.2 = (if drop then "nil, ErrServiceOverloaded" else "&promise{ start: timex.Now(), shedder: as, }, nil")) := by
  refine ⟨rfl, rfl, ?_⟩
  cases drop <;> simp [allowFn, Shedder.allowWith]

/-- `addFlying(delta)`: state = (shedder, the local `flying`); delta = −1 is `release`, delta = +1 only counts. -/
theorem tie_addFlyingBody (s : Shedder) (delta : Int) :
    addFlyingFnConds = ["delta < 0"]
    ∧ addFlyingFnEffects = ["flying := atomic.AddInt64(&as.flying, delta)", "as.avgFlyingLock.Lock()",
        "as.avgFlying = as.avgFlying*flyingBeta + float64(flying)*(1-flyingBeta)", "as.avgFlyingLock.Unlock()"]
    ∧ (let run := fun (d : Int) => (addFlyingFn (σ := Shedder × Int) (fun _ => decide (d < 0))
          (fun x => ({ x.1 with flying := x.1.flying + d }, x.1.flying + d)) id
          (fun x => ({ x.1 with avgFlying := x.1.avgFlying * flyingBeta + (x.2 : Rat) * (1 - flyingBeta) }, x.2)) id (s, 0)).1.1
       run (-1) = s.release ∧ run 1 = { s with flying := s.flying + 1 }) := by
  refine ⟨rfl, rfl, ?_⟩
  simp only [addFlyingFn, Shedder.release]
  constructor
  · have e : s.flying + -1 = s.flying - 1 := by omega
    simp only [Int.reduceNeg, Int.reduceLT, decide_true, if_true, id, e]
  · simp

/-- `promise.Pass`: latency, release, rtCounter.Add(latency), passCounter.Add(1), in this order. -/
theorem tie_passBody (s : Shedder) (now start : Nat) :
    passFnConds = []
    ∧ passFnEffects = ["rt := float64(timex.Since(p.start)) / float64(time.Millisecond)", "p.shedder.addFlying(-1)",
        "p.shedder.rtCounter.Add(int64(math.Ceil(rt)))", "p.shedder.passCounter.Add(1)"]
    ∧ (passFn (σ := Shedder) id Shedder.release (fun x => { x with rtCounter := x.rtCounter.add now (rtMs now start) })
          (fun x => { x with passCounter := x.passCounter.add now 1 }) s).1 = s.pass now start := by
  refine ⟨rfl, rfl, ?_⟩
  simp [passFn, Shedder.pass]

/-- `promise.Fail`: release only. -/
theorem tie_failBody (s : Shedder) :
    failFnConds = [] ∧ failFnEffects = ["p.shedder.addFlying(-1)"]
    ∧ (failFn (σ := Shedder) Shedder.release s).1 = s.fail := ⟨rfl, rfl, rfl⟩

/-- `Disable()` clears the package flag that `newShedder` reads. -/
theorem tie_disableBody (enabled : Bool) (opts : List Opt) (now : Nat) :
    disableFnConds = [] ∧ disableFnEffects = ["enabled.Set(false)"]
    ∧ newShedder (disableFn (σ := Bool) (fun _ => false) enabled).1 opts now = .nop := ⟨rfl, rfl, rfl⟩

/-- the nop shedder: `Allow` returns (nopPromise{}, nil) without touching anything; Pass / Fail are empty;
`newNopShedder` returns the stateless value; `nopCloser.Close` returns nil and does nothing to the shedder it wraps. -/
theorem tie_nopBodies (a : AnyShedder) :
    nopAllowFnConds = [] ∧ nopAllowFnEffects = [] ∧ nopAllowFn a = (a, "nopPromise{}, nil")
    ∧ nopPassFnConds = [] ∧ nopPassFnEffects = [] ∧ nopPassFn a = (a, "")
    ∧ nopFailFnConds = [] ∧ nopFailFnEffects = [] ∧ nopFailFn a = (a, "")
    ∧ newNopShedderFnEffects = [] ∧ newNopShedderFn a = (a, "nopShedder{}")
    ∧ nopCloserCloseFnConds = [] ∧ nopCloserCloseFnEffects = [] ∧ nopCloserCloseFn a = (a, "nil") :=
  ⟨rfl, rfl, rfl, rfl, rfl, rfl, rfl, rfl, rfl, rfl, rfl, rfl, rfl, rfl⟩

/-- `stat.CpuUsage()` is the atomic load of the variable the sampler stores into, nothing else. -/
theorem tie_cpuUsageBody (x : Int) :
    cpuUsageFnConds = [] ∧ cpuUsageFnEffects = [] ∧ cpuUsageFn x = (x, "atomic.LoadInt64(&cpuUsage)") := ⟨rfl, rfl, rfl⟩

/-- the hand-given meaning of the atom a generated body returns: the NAME of the returned variable ↦ its value. -/
def pickRat (x lower upper : Rat) (name : String) : Rat :=
  if name = "lower" then lower else if name = "upper" then upper else x

theorem tie_atLeastBody (x lower : Rat) :
    atLeastFnConds = ["x < lower"] ∧ atLeastFnEffects = []
    ∧ pickRat x lower 0 (atLeastFn (σ := Unit) (fun _ => decide (x < lower)) ()).2 = (if x < lower then lower else x) := by
  refine ⟨rfl, rfl, ?_⟩
  by_cases h : x < lower <;> simp [atLeastFn, pickRat, h]

theorem tie_betweenBody (x lower upper : Rat) :
    betweenFnConds = ["x < lower", "x > upper"] ∧ betweenFnEffects = []
    ∧ pickRat x lower upper (betweenFn (σ := Unit) (fun _ => decide (x < lower)) (fun _ => decide (x > upper)) ()).2
        = between x lower upper := by
  refine ⟨rfl, rfl, ?_⟩
  by_cases h : x < lower <;> by_cases h2 : x > upper <;> simp [betweenFn, pickRat, between, h, h2]

/-- meaning of the argument texts of `collection.NewRollingWindow(newBucket, size, interval, opts…)`. -/
def windowOfArgs (o : Options) (now : Nat) : List String → Option RW
  | _newBucket :: size :: interval :: opts =>
    if size = "options.buckets" ∧ interval = "bucketDuration"
        ∧ opts.all (· = "collection.IgnoreCurrentBucket[int64, *collection.Bucket[int64]]()") then
      some (RW.new o.buckets (o.window / o.buckets) now (opts.length ≥ 1))
    else none
  | _ => none

/-- both windows are built by `collection.NewRollingWindow` from (options.buckets, bucketDuration, IgnoreCurrentBucket) —
for EVERY option list this is the pair of windows of the model's `Shedder.new`. -/
theorem tie_newWindows (opts : List Opt) (now : Nat) :
    newPassCounterCall.1 = "collection.NewRollingWindow[int64, *collection.Bucket[int64]]"
    ∧ newRtCounterCall.1 = newPassCounterCall.1
    ∧ (let o := applyOpts opts
       let sh := Shedder.new o.window o.buckets o.threshold now
       windowOfArgs o now newPassCounterCall.2 = some sh.passCounter
       ∧ windowOfArgs o now newRtCounterCall.2 = some sh.rtCounter) := by
  refine ⟨rfl, rfl, ?_⟩
  simp [windowOfArgs, newPassCounterCall, newRtCounterCall, Shedder.new]

/-- `newEngine`: shedders iff `c.CpuThreshold > 0`; thresholds `c.CpuThreshold` and `(c.CpuThreshold + topCpuUsage) >> 1`
(translated, equal to the model's for ALL configurations), each passed through `load.WithCpuThreshold` to
`load.NewAdaptiveShedder`. -/
theorem tie_newEngine (enabled : Bool) (t : Int) (now : Nat) :
    Extracted.C02.topCpuUsage = C02.topCpuUsage
    ∧ engineShedderBuilt = "load.NewAdaptiveShedder(load.WithCpuThreshold(c.CpuThreshold))"
    ∧ enginePriorityBuilt = "load.NewAdaptiveShedder(load.WithCpuThreshold( (c.CpuThreshold + topCpuUsage) >> 1))"
    ∧ newEngine enabled t now =
        (if engineSheddingIf t then
          { shedder := some (newShedder enabled [.threshold (engineThreshold t)] now)
            priority := some (newShedder enabled [.threshold (enginePriorityThreshold t)] now) }
         else { shedder := none, priority := none }) := by
  refine ⟨rfl, rfl, rfl, ?_⟩
  have hp : enginePriorityThreshold t = priorityThreshold t := by
    simp only [enginePriorityThreshold, priorityThreshold, C02.topCpuUsage]
    show (t + 1000) >>> 1 = (t + 1000) / 2
    rw [Int.shiftRight_eq_div_pow]
    rfl
  simp only [newEngine, engineSheddingIf, engineThreshold, hp, decide_eq_true_eq]

/-- `engine.getShedder` (whole body) and the route's middleware: guarded by `Middlewares.Shedding`, handed
`ng.getShedder(fr.priority)`. -/
theorem tie_routeShedder (e : Engine) (priority : Bool) :
    engineGetShedderFnConds = ["priority && ng.priorityShedder != nil"] ∧ engineGetShedderFnEffects = []
    ∧ routeSheddingGuard = "ng.conf.Middlewares.Shedding" ∧ routeShedderArg = "ng.getShedder(fr.priority)"
    ∧ (let pick := fun (name : String) => if name = "ng.priorityShedder" then e.priority else e.shedder
       pick (engineGetShedderFn (σ := Unit) (fun _ => priority && e.priority.isSome) ()).2 = e.getShedder priority) := by
  refine ⟨rfl, rfl, rfl, rfl, ?_⟩
  simp only [engineGetShedderFn, Engine.getShedder]
  cases priority <;> cases e.priority <;> simp

/-- zrpc/server.go: the interceptor is installed iff `c.CpuThreshold > 0`, around
`NewAdaptiveShedder(WithCpuThreshold(c.CpuThreshold))` (same guard and threshold expressions as the REST engine's main
shedder, which are translated above). -/
theorem tie_rpcServerShedder (enabled : Bool) (t : Int) (now : Nat) :
    rpcServerShedderBuilt = ["c.CpuThreshold > 0", engineShedderBuilt, "shedder"]
    ∧ rpcServerShedder enabled t now =
        (if engineSheddingIf t then some (newShedder enabled [.threshold (engineThreshold t)] now) else none) := by
  refine ⟨rfl, ?_⟩
  simp only [rpcServerShedder, engineSheddingIf, engineThreshold, decide_eq_true_eq]

end GoZero.C02.TieBody
