/-
C04 — helper lemmas for the engine wiring model (`Eng.build` = fold of `addRoutes` over the groups).
-/
import GoZero.C04.Model
namespace GoZero.C04

theorem foldl_addRoutes (e : Eng) (groups : List (List RouteOpt)) :
    (groups.foldl Eng.addRoutes e).routes = e.routes ++ groups.map groupTimeout ∧
    (groups.foldl Eng.addRoutes e).confMs = e.confMs ∧ (groups.foldl Eng.addRoutes e).mw = e.mw := by
  induction groups generalizing e with
  | nil => simp
  | cons g gs ih =>
    simp only [List.foldl_cons, List.map_cons]
    obtain ⟨h1, h2, h3⟩ := ih (e.addRoutes g)
    exact ⟨by rw [h1]; simp [Eng.addRoutes], h2, h3⟩

theorem build_bound (c : Int) (mw : MwMode) (groups : List (List RouteOpt)) :
    (Eng.build c mw groups).bound =
      groups.map fun opts => match mw with | .on => checkedTimeout (groupTimeout opts) c | _ => 0 := by
  obtain ⟨h1, h2, h3⟩ := foldl_addRoutes (Eng.new c mw) groups
  unfold Eng.bound Eng.build
  rw [h1, h2, h3]
  show List.map _ ([] ++ groups.map groupTimeout) = _
  rw [List.nil_append, List.map_map]
  rfl

theorem foldl_addRoutes_timeout (e : Eng) (groups : List (List RouteOpt)) :
    e.timeout ≤ (groups.foldl Eng.addRoutes e).timeout ∧
    (∀ g ∈ groups, groupTimeout g ≤ (groups.foldl Eng.addRoutes e).timeout) ∧
    ((groups.foldl Eng.addRoutes e).timeout = e.timeout ∨
      ∃ g ∈ groups, (groups.foldl Eng.addRoutes e).timeout = groupTimeout g) := by
  induction groups generalizing e with
  | nil => simp
  | cons g gs ih =>
    simp only [List.foldl_cons]
    obtain ⟨h1, h2, h3⟩ := ih (e.addRoutes g)
    have hstep : e.timeout ≤ (e.addRoutes g).timeout ∧ groupTimeout g ≤ (e.addRoutes g).timeout ∧
        ((e.addRoutes g).timeout = e.timeout ∨ (e.addRoutes g).timeout = groupTimeout g) := by
      simp only [Eng.addRoutes]
      split <;> omega
    refine ⟨by omega, ?_, ?_⟩
    · intro g' hg'
      rcases List.mem_cons.mp hg' with rfl | hm
      · omega
      · exact h2 g' hm
    · rcases h3 with h3 | ⟨g', hg', h3⟩
      · rcases hstep.2.2 with h4 | h4
        · left; omega
        · right; exact ⟨g, List.mem_cons_self, by omega⟩
      · right; exact ⟨g', List.mem_cons_of_mem _ hg', h3⟩

end GoZero.C04
