/-
C04 — invariants of the select skeletons (zRPC server interceptor, fx.DoWithTimeout).
-/
import GoZero.C04.Model
namespace GoZero.C04.Props

/-- the outcome law: the work's own (resp, err) | the timeout result of the expiry that happened | the work's panic -/
def OutcomeOK (work : Work) (ctxErr : Option Kind) : Outcome → Prop
  | .result r e => work = .ret r e
  | .timeout k => ctxErr = some k
  | .panic v => work = .panic v

/-- fx: only the error travels -/
def FxOutcomeOK (work : Work) (ctxErr : Option Kind) : Outcome → Prop
  | .result r e => r = 0 ∧ ∃ r', work = .ret r' e
  | .timeout k => ctxErr = some k
  | .panic v => work = .panic v

end GoZero.C04.Props

namespace GoZero.C04

/-- where the worker of the interceptor stands (lock; `resp = r`; `err = e`; `close(done)`; unlock) says what it has written:
`done` is closed only after both assignments, and then the worker only unlocks -/
def srvAt (work : Work) (s : SelSt) : Prop :=
  match s.wpc with
  | .start => s.done = false
  | .locked => s.done = false
  | .gotResp => s.done = false ∧ ∃ e, work = .ret s.resp e
  | .gotErr => s.done = false ∧ work = .ret s.resp s.err
  | .closed => work = .ret s.resp s.err
  | .ended => s.lock = none ∧ (s.done = true → work = .ret s.resp s.err)

/-- main sets `mwait` only on seeing `done` closed (`mwait_done`), so when it gets the lock (`mDoneLocked`) `SrvInv.closed`
says the pair it reads is the work's own: that is `out_ok` for `.result` -/
structure SrvInv (work : Work) (s : SelSt) : Prop where
  work_eq : s.work = work
  at_pc : srvAt work s
  pan : ∀ v, s.panicChan = some v → work = .panic v
  mwait_done : s.mwait = true → s.done = true
  out_ok : ∀ o, s.out = some o → Props.OutcomeOK work s.ctxErr o

theorem SrvInv.closed {work : Work} {s : SelSt} (hi : SrvInv work s) (hd : s.done = true) :
    (s.wpc = .closed ∨ s.wpc = .ended) ∧ work = .ret s.resp s.err := by
  have h := hi.at_pc
  unfold srvAt at h
  split at h <;> rename_i hpc
  · exact nomatch hd.symm.trans h
  · exact nomatch hd.symm.trans h
  · exact nomatch hd.symm.trans h.1
  · exact nomatch hd.symm.trans h.1
  · exact ⟨.inl hpc, h⟩
  · exact ⟨.inr hpc, h.2 hd⟩

theorem SrvInv.lock_free {work : Work} {s : SelSt} (hi : SrvInv work s) (he : s.wpc = .ended) : s.lock = none := by
  have h := hi.at_pc
  simp only [srvAt, he] at h
  exact h.1

theorem srvInv_step {work : Work} {s s' : SelSt} (l : SelLabel) (hi : SrvInv work s)
    (h : srvStep s l = some s') : SrvInv work s' := by
  have hv := hi.at_pc
  cases l with
  | w =>
    obtain rfl := hi.work_eq
    simp only [srvStep] at h
    split at h <;> (try split at h) <;> cases h <;> rename_i hpc _ <;> simp only [srvAt, hpc] at hv
    -- `hv` is the row of the old pc; in order: lock, `resp = r`, panic, `err = e`, `close(done)`, unlock
    · exact { hi with at_pc := hv }
    · rename_i hw; exact { hi with at_pc := ⟨hv, _, hw⟩ }
    · rename_i hw
      exact { hi with at_pc := ⟨rfl, fun hd => nomatch hv.symm.trans hd⟩, pan := fun v' hv' => by cases hv'; exact hw }
    · rename_i hw
      obtain ⟨hd, e', he'⟩ := hv
      exact { hi with at_pc := ⟨hd, by rw [hw] at he' ⊢; cases he'; rfl⟩ }
    · exact { hi with at_pc := hv.2, mwait_done := fun _ => rfl }
    · exact { hi with at_pc := ⟨rfl, fun _ => hv⟩ }
  | env k =>
    simp only [srvStep] at h
    split at h <;> cases h
    rename_i hc
    refine { hi with out_ok := fun o ho => ?_ }
    have := hi.out_ok o ho
    cases o <;> simp_all [Props.OutcomeOK]
  | mPanic =>
    simp only [srvStep] at h
    split at h <;> cases h
    rename_i v _ _ hp
    exact { hi with pan := nofun, out_ok := fun o ho => by cases ho; exact hi.pan v hp }
  | mDone =>
    simp only [srvStep] at h
    split at h
    · split at h <;> cases h
      rename_i hd
      exact { hi with mwait_done := fun _ => hd }
    · cases h
  | mDoneLocked =>
    simp only [srvStep] at h
    split at h
    · split at h <;> cases h
      rename_i hwait _
      exact { hi with mwait_done := nofun,
                      out_ok := fun o ho => by cases ho; exact (hi.closed (hi.mwait_done hwait)).2 }
    · cases h
  | mTimeout =>
    simp only [srvStep] at h
    split at h <;> cases h
    rename_i k _ _ hk
    exact { hi with out_ok := fun o ho => by cases ho; exact hk }

theorem srvInv_reach {work : Work} {s : SelSt} (hr : SelReach srvStep work s) : SrvInv work s := by
  induction hr with
  | init => constructor <;> simp [srvAt]
  | step l _ hs ih => exact srvInv_step l ih hs

structure FxInv (work : Work) (s : SelSt) : Prop where
  work_eq : s.work = work
  pan : ∀ v, s.panicChan = some v → work = .panic v
  done_err : s.done = true → ∃ r, work = .ret r s.err
  out_ok : ∀ o, s.out = some o → Props.FxOutcomeOK work s.ctxErr o

theorem fxInv_step {work : Work} {s s' : SelSt} (l : SelLabel) (hi : FxInv work s)
    (h : fxStep s l = some s') : FxInv work s' := by
  cases l with
  | w =>
    simp only [fxStep] at h
    split at h <;> cases h
    · rename_i r e _ hw
      exact { hi with done_err := fun _ => ⟨r, hi.work_eq ▸ hw⟩ }
    · rename_i v _ hw
      exact { hi with pan := fun v' hv => by cases hv; exact hi.work_eq ▸ hw }
  | env k =>
    simp only [fxStep] at h
    split at h <;> cases h
    refine { hi with out_ok := fun o ho => ?_ }
    have := hi.out_ok o ho
    cases o <;> simp_all [Props.FxOutcomeOK]
  | mPanic =>
    simp only [fxStep] at h
    split at h <;> cases h
    rename_i v _ hp
    exact { hi with pan := nofun, out_ok := fun o ho => by cases ho; exact hi.pan v hp }
  | mDone =>
    simp only [fxStep] at h
    split at h
    · split at h <;> cases h
      rename_i hd
      exact { hi with done_err := nofun, out_ok := fun o ho => by cases ho; exact ⟨rfl, hi.done_err hd⟩ }
    · cases h
  | mDoneLocked => cases h
  | mTimeout =>
    simp only [fxStep] at h
    split at h <;> cases h
    rename_i k _ hk
    exact { hi with out_ok := fun o ho => by cases ho; exact hk }

theorem fxInv_reach {work : Work} {s : SelSt} (hr : SelReach fxStep work s) : FxInv work s := by
  induction hr with
  | init => constructor <;> simp
  | step l _ hs ih => exact fxInv_step l ih hs

end GoZero.C04
