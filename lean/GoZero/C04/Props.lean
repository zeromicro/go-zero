/-
C04 — property theorems (timeout control: deadlines only shrink, outcomes are all-or-nothing): the deadline clause of
the four wrappers and of the configuration that wires them (rest engine, zrpc), the REST wrapper's response for every
handler script, schedule and moment of expiry (with the witnesses of the pinned `Flush` / `Hijack` behaviour and of the
fixed one), and the outcome law of the zRPC server interceptor and fx.DoWithTimeout.

PARTIAL (runtime, not provable about a model): that the Go scheduler runs ServeHTTP's goroutine when its
select is enabled and that `context`'s timer fires at the deadline.  The model-level content of "returns at the
deadline without waiting for the work" is `timeout_branch_always_enabled`: the timeout branch is enabled and
runs to completion without any step of the work.
-/
import GoZero.C04.Proofs
import GoZero.C04.ProofsSel
import GoZero.C04.ProofsEng
namespace GoZero.C04.Props
open GoZero.C04

/-- `context.WithTimeout(parent, t)` at `now`: the work's context has a deadline, no later than the caller's
and no later than `now + t`. -/
theorem withTimeout_shrinks (parent : Deadline) (now t : Int) :
    ∃ d, withTimeout parent now t = some d ∧ d ≤ now + t ∧ (∀ p, parent = some p → d ≤ p) := by
  unfold withTimeout
  cases parent with
  | none => exact ⟨now + t, rfl, Int.le_refl _, by intro p h; cases h⟩
  | some p =>
    refine ⟨if p ≤ now + t then p else now + t, rfl, ?_, ?_⟩
    · split <;> omega
    · intro q h; cases h; split <;> omega

/-- `d` is a deadline no later than the caller's -/
def NoLaterThan (d parent : Deadline) : Prop :=
  match parent with
  | none => True
  | some p => ∃ x, d = some x ∧ x ≤ p

theorem withTimeout_noLater (parent : Deadline) (now t : Int) :
    ∃ d, withTimeout parent now t = some d ∧ d ≤ now + t ∧ NoLaterThan (some d) parent := by
  obtain ⟨d, hd, h1, h2⟩ := withTimeout_shrinks parent now t
  refine ⟨d, hd, h1, ?_⟩
  cases parent with
  | none => trivial
  | some p => exact ⟨d, rfl, h2 p rfl⟩

/-- a wrapper that derives a context under the condition `c` and hands the caller's on otherwise (REST: not exempt and
`duration > 0`; client: `t > 0`; zrpc glue: `Timeout > 0`, middleware on) -/
theorem wrapper_deadline (c : Prop) [Decidable c] (parent : Deadline) (now t : Int) :
    (c → ∃ d, (if c then withTimeout parent now t else parent) = some d ∧ d ≤ now + t ∧ NoLaterThan (some d) parent) ∧
    (¬ c → (if c then withTimeout parent now t else parent) = parent) :=
  ⟨fun h => by rw [if_pos h]; exact withTimeout_noLater parent now t, fun h => if_neg h⟩

/-- REST middleware: with `duration > 0` and a request that is neither a websocket upgrade nor an event
stream, the handler's context has a deadline ≤ now + duration and ≤ the caller's; otherwise (exempt, or
`duration ≤ 0`) the handler gets the caller's context itself. -/
theorem deadline_only_shrinks_rest (duration : Int) (h : ReqHdr) (parent : Deadline) (now : Int) :
    (restWraps duration h = true →
      ∃ d, restDeadline duration h parent now = some d ∧ d ≤ now + duration ∧ NoLaterThan (some d) parent) ∧
    (restWraps duration h = false → restDeadline duration h parent now = parent) ∧
    (restWraps duration h = true ↔ (0 < duration ∧ h.upgradeWebsocket = false ∧ h.acceptSSE = false)) := by
  have g := wrapper_deadline (restWraps duration h = true) parent now duration
  exact ⟨g.1, fun hw => g.2 (by simp [hw]), by unfold restWraps; cases h with | mk a b => cases a <;> cases b <;> simp⟩

/-- per-route override of rest/engine.go: the route's timeout if positive, else the configured milliseconds -/
theorem checkedTimeout_law (route confMs : Int) :
    checkedTimeout route confMs = (if 0 < route then route else confMs * 1000000) := by
  unfold checkedTimeout; rfl

/-- the options of one `AddRoutes` call are applied in order: the last `WithTimeout` / `WithSSE` decides
(`WithSSE` resets the timeout to 0, i.e. back to the global one), other options leave it alone -/
theorem groupTimeout_last_wins (opts : List RouteOpt) (t : Int) :
    groupTimeout (opts ++ [.timeout t]) = t ∧ groupTimeout (opts ++ [.sse]) = 0 ∧
    groupTimeout (opts ++ [.other]) = groupTimeout opts ∧ groupTimeout [] = 0 := by
  simp [groupTimeout, List.foldl_append]

/-- **route > global.**  On a server with the timeout middleware in its chain, whatever groups were registered
in whatever order, the duration handed to `TimeoutHandler` for the routes of group `g` is that group's own timeout
if it is positive, else the global `RestConf.Timeout` — the property's `Spec.routeTimeout`. -/
theorem route_timeout_wiring (confMs : Int) (groups : List (List RouteOpt)) (g : Nat) :
    (Eng.build confMs .on groups).duration g =
      groups[g]?.map (fun opts => Spec.routeTimeout (groupTimeout opts) confMs) := by
  unfold Eng.duration
  rw [build_bound, List.getElem?_map]
  rfl

/-- a route's timeout does not depend on the other groups of the server (their number, order, timeouts) -/
theorem route_timeout_independent_of_other_groups (confMs : Int) (groups groups' : List (List RouteOpt)) (g g' : Nat)
    (h : groups[g]? = groups'[g']?) :
    (Eng.build confMs .on groups).duration g = (Eng.build confMs .on groups').duration g' := by
  rw [route_timeout_wiring, route_timeout_wiring, h]

/-- without the middleware (`Middlewares.Timeout` off, or a user chain) no route has a timeout wrapper -/
theorem no_middleware_no_timeout (confMs : Int) (mw : MwMode) (hmw : mw ≠ .on) (groups : List (List RouteOpt)) (g : Nat) :
    (Eng.build confMs mw groups).duration g = groups[g]?.map (fun _ => 0) := by
  unfold Eng.duration
  rw [build_bound, List.getElem?_map]
  cases mw with
  | on => exact absurd rfl hmw
  | off | chain => rfl

/-- `ng.timeout` (basis of http.Server's Read/WriteTimeout) is the maximum of the global timeout and every group's
timeout — it is NOT what a route runs under (`route_timeout_wiring`), but it covers every route's duration. -/
theorem engine_timeout_is_max (confMs : Int) (mw : MwMode) (groups : List (List RouteOpt)) :
    let e := Eng.build confMs mw groups
    confMs * 1000000 ≤ e.timeout ∧ (∀ g ∈ groups, groupTimeout g ≤ e.timeout) ∧
    (e.timeout = confMs * 1000000 ∨ ∃ g ∈ groups, e.timeout = groupTimeout g) ∧
    (∀ d ∈ e.bound, d ≤ e.timeout ∨ d ≤ 0) := by
  intro e
  obtain ⟨h1, h2, h3⟩ := foldl_addRoutes_timeout (Eng.new confMs mw) groups
  have hnew : (Eng.new confMs mw).timeout = confMs * 1000000 := rfl
  rw [hnew] at h1 h3
  refine ⟨h1, h2, h3, fun d hd => ?_⟩
  simp only [e, build_bound, List.mem_map] at hd
  obtain ⟨opts, hopts, rfl⟩ := hd
  cases mw
  · left
    show checkedTimeout (groupTimeout opts) confMs ≤ (Eng.build confMs .on groups).timeout
    unfold checkedTimeout
    split
    · exact h2 opts hopts
    · exact h1
  · right; exact Int.le_refl 0
  · right; exact Int.le_refl 0

/-- **End to end.**  A request to a route of group `g` (middleware on, not exempt, the route's timeout positive): the
handler's context has a deadline no later than now + (the route's own timeout if set, else the global one) and no
later than the caller's — whatever else is registered on the server. -/
theorem route_deadline_only_shrinks (confMs : Int) (groups : List (List RouteOpt)) (g : Nat) (opts : List RouteOpt)
    (hg : groups[g]? = some opts) (h : ReqHdr) (parent : Deadline) (now : Int)
    (hw : restWraps (Spec.routeTimeout (groupTimeout opts) confMs) h = true) :
    ∃ dur d, (Eng.build confMs .on groups).duration g = some dur ∧ dur = Spec.routeTimeout (groupTimeout opts) confMs ∧
      restDeadline dur h parent now = some d ∧ d ≤ now + dur ∧ NoLaterThan (some d) parent := by
  refine ⟨Spec.routeTimeout (groupTimeout opts) confMs, ?_⟩
  obtain ⟨d, hd, h1, h2⟩ := (deadline_only_shrinks_rest (Spec.routeTimeout (groupTimeout opts) confMs) h parent now).1 hw
  exact ⟨d, by rw [route_timeout_wiring, hg]; rfl, rfl, hd, h1, h2⟩

/-- the scenario of seeded/C04-1: a route without its own timeout next to a one-hour route still runs under the global 3 s -/
example : (Eng.build 3000 .on [[.timeout 3600000000000], [], [.other, .sse]]).bound = [3600000000000, 3000000000, 3000000000] ∧
    (Eng.build 3000 .on [[.timeout 3600000000000], [], [.other, .sse]]).timeout = 3600000000000 := by decide
example : (Eng.build 3000 .chain [[.timeout 5000000000], []]).bound = [0, 0] := by decide
example : groupTimeout [.timeout 5, .sse] = 0 ∧ groupTimeout [.sse, .other, .timeout 5] = 5 := by decide
example : restDeadline ((Eng.build 3000 .on [[.timeout 3600000000000], []]).duration 1 |>.getD 0) ⟨false, false⟩ none 100
    = some 3000000100 := by decide

/-- zRPC server interceptor: always wraps, with the per-method timeout if one is configured. -/
theorem deadline_only_shrinks_srv (dflt : Int) (mts : List (Nat × Int)) (method : Nat) (parent : Deadline) (now : Int) :
    ∃ d, srvDeadline dflt mts method parent now = some d ∧ d ≤ now + srvTimeout dflt mts method ∧
      NoLaterThan (some d) parent :=
  withTimeout_noLater parent now (srvTimeout dflt mts method)

/-- the method table: an entry for the method (non-empty name) overrides the default; the last one wins -/
theorem srvTimeout_default (dflt : Int) (mts : List (Nat × Int)) (method : Nat)
    (h : ∀ p ∈ mts, p.1 = 0 ∨ p.1 ≠ method) : srvTimeout dflt mts method = dflt := by
  unfold srvTimeout
  rw [List.find?_eq_none.mpr fun p hp => by rcases h p (List.mem_reverse.mp hp) with h0 | hne <;> simp [*]]

theorem srvTimeout_override (dflt : Int) (mts : List (Nat × Int)) (method : Nat) (t : Int) (hm : method ≠ 0) :
    srvTimeout dflt (mts ++ [(method, t)]) method = t := by
  unfold srvTimeout
  simp [List.reverse_append, hm]

/-- zRPC client interceptor: with `t > 0` (per-call option first, else the configured one) the invoker's context
has a deadline ≤ now + t and ≤ the caller's; with `t ≤ 0` the caller's context is passed through. -/
theorem deadline_only_shrinks_cli (dflt : Int) (opts : List (Option Int)) (parent : Deadline) (now : Int) :
    (cliWraps dflt opts = true →
      ∃ d, cliDeadline dflt opts parent now = some d ∧ d ≤ now + cliTimeout dflt opts ∧ NoLaterThan (some d) parent) ∧
    (cliWraps dflt opts = false → cliDeadline dflt opts parent now = parent) ∧
    (cliWraps dflt opts = true ↔ 0 < cliTimeout dflt opts) := by
  have g := wrapper_deadline (cliWraps dflt opts = true) parent now (cliTimeout dflt opts)
  exact ⟨g.1, fun hw => g.2 (by simp [hw]), by simp [cliWraps]⟩

theorem cliDeadline_law (dflt : Int) (opts : List (Option Int)) (parent : Deadline) (now : Int) :
    (0 < cliTimeout dflt opts →
      ∃ d, cliDeadline dflt opts parent now = some d ∧ d ≤ now + cliTimeout dflt opts ∧ NoLaterThan (some d) parent) ∧
    (cliTimeout dflt opts ≤ 0 → cliDeadline dflt opts parent now = parent) := by
  obtain ⟨h1, h2, h3⟩ := deadline_only_shrinks_cli dflt opts parent now
  refine ⟨fun h => h1 (h3.mpr h), fun h => h2 ?_⟩
  cases hc : cliWraps dflt opts with
  | false => rfl
  | true => have := h3.mp hc; omega

/-- the first `WithCallTimeout` among the call options decides, whatever other options stand before it -/
theorem cliTimeout_first (dflt t : Int) (pre rest : List (Option Int)) (hpre : ∀ o ∈ pre, o = none) :
    cliTimeout dflt (pre ++ some t :: rest) = t := by
  unfold cliTimeout
  rw [List.find?_append, List.find?_eq_none.mpr fun o ho => by simp [hpre o ho]]
  rfl

/-- a per-call `WithCallTimeout(t)` placed first overrides the configured timeout -/
theorem cliTimeout_callOption (dflt t : Int) (rest : List (Option Int)) : cliTimeout dflt (some t :: rest) = t :=
  cliTimeout_first dflt t [] rest nofun

theorem cliTimeout_noOption (dflt : Int) (opts : List (Option Int)) (h : ∀ o ∈ opts, o = none) :
    cliTimeout dflt opts = dflt := by
  unfold cliTimeout
  rw [List.find?_eq_none.mpr fun o ho => by simp [h o ho]]

/-- server: with `RpcServerConf.Timeout > 0` every unary call runs under min(caller's, now + (per-method timeout if
configured, else Timeout)); with `Timeout ≤ 0` no interceptor is installed and the caller's context reaches the
handler as it is (the method table is then ignored). -/
theorem deadline_only_shrinks_srv_wired (confMs : Int) (mts : List (Nat × Int)) (method : Nat) (parent : Deadline) (now : Int) :
    (0 < confMs → ∃ d, srvWiredDeadline confMs mts method parent now = some d ∧
        d ≤ now + srvTimeout (confMs * 1000000) mts method ∧ NoLaterThan (some d) parent) ∧
    (confMs ≤ 0 → srvWiredDeadline confMs mts method parent now = parent) := by
  have g := wrapper_deadline (confMs > 0) parent now (srvTimeout (confMs * 1000000) mts method)
  exact ⟨g.1, fun h => g.2 (by omega)⟩

/-- client configuration: the last `WithTimeout` client option wins over `RpcClientConf.Timeout`; without one the
configured value counts if positive, else there is no timeout (0) -/
theorem cliConfTimeout_law (confMs : Int) (userTimeouts : List Int) (t : Int) :
    cliConfTimeout confMs (userTimeouts ++ [t]) = t ∧
    cliConfTimeout confMs [] = (if confMs > 0 then confMs * 1000000 else 0) := by
  constructor
  · simp [cliConfTimeout, List.foldl_append]
  · unfold cliConfTimeout; split <;> simp

/-- client: with the timeout middleware and an effective timeout `t > 0` (per-call option, else client option, else
configuration) the invoker's context has a deadline ≤ now + t and ≤ the caller's; otherwise it is the caller's context. -/
theorem deadline_only_shrinks_cli_wired (mw : Bool) (confMs : Int) (userTimeouts : List Int) (callOpts : List (Option Int))
    (parent : Deadline) (now : Int) :
    let t := cliTimeout (cliConfTimeout confMs userTimeouts) callOpts
    (mw = true ∧ 0 < t → ∃ d, cliWiredDeadline mw confMs userTimeouts callOpts parent now = some d ∧ d ≤ now + t ∧
        NoLaterThan (some d) parent) ∧
    (mw = false ∨ t ≤ 0 → cliWiredDeadline mw confMs userTimeouts callOpts parent now = parent) := by
  intro t
  have g := cliDeadline_law (cliConfTimeout confMs userTimeouts) callOpts parent now
  cases mw with
  | false => exact ⟨fun h => (nomatch h.1), fun _ => rfl⟩
  | true => exact ⟨fun h => g.1 h.2, fun h => g.2 (h.resolve_left nofun)⟩

example : srvWiredDeadline 2000 [(7, 500000000)] 7 (some 5000000000) 100 = some 500000100 := by decide
example : srvWiredDeadline 0 [(7, 500000000)] 7 none 100 = none := by decide
example : cliWiredDeadline true 2000 [] [none, some 300] (some 5000) 100 = some 400 := by decide
example : cliWiredDeadline true 0 [] [none] (some 5000) 100 = some 5000 := by decide
example : cliWiredDeadline true 2000 [7000000000] [] none 100 = some 7000000100 := by decide

/-- fx.DoWithTimeout: always wraps the context of the last `WithContext` option (else Background). -/
theorem deadline_only_shrinks_fx (timeout : Int) (opts : List Deadline) (now : Int) :
    ∃ d, fxDeadline timeout opts now = some d ∧ d ≤ now + timeout ∧ NoLaterThan (some d) (fxParent opts) :=
  withTimeout_noLater (fxParent opts) now timeout

example : restDeadline 3000 ⟨false, false⟩ (some 2000) 100 = some 2000 := by decide
example : restDeadline 3000 ⟨false, false⟩ (some 9000) 100 = some 3100 := by decide
example : restDeadline 3000 ⟨true, false⟩ (some 9000) 100 = some 9000 := by decide
example : restDeadline 3000 ⟨false, true⟩ none 100 = none := by decide
example : restDeadline 0 ⟨false, false⟩ none 100 = none := by decide
example : srvDeadline 2000 [(7, 500), (0, 1), (7, 800)] 7 (some 5000) 100 = some 900 := by decide
example : srvDeadline 2000 [(7, 500)] 8 (some 1500) 100 = some 1500 := by decide
example : cliDeadline 2000 [none, some 300, some 900] (some 5000) 100 = some 400 := by decide
example : cliDeadline 0 [none] (some 5000) 100 = some 5000 := by decide
example : fxDeadline 50 [some 10, some 700] 100 = some 150 := by decide

/-- **Every script, `Flush` included**, on the model of the code with fixes/C04-flush-after-timeout.patch.  `runI l` is
the handler's first actions `l` run on their own: its first component is what the work itself has flushed to the
client.  Once ServeHTTP has come back the real writer
holds: the complete streamed result (done branch); or what the work had flushed by some moment `j` followed by the
timeout response (the 503/499 status only takes effect if nothing had been flushed); or, with the panic re-raised,
only what the work had flushed.  Nothing of the *buffered* part of the work is ever mixed with the timeout response. -/
theorem response_with_flush (reason : List Nat) (script : List Act) (s : St) (hr : Reachable reason script s) :
    match s.pc with
    | .retDone => s.w = doneBranch (runI script).1 (runI script).2 ∧ s.hst = .finished
    | .retTimeout k => ∃ j, j ≤ script.length ∧ s.tw.timedOut = true ∧
        s.w = ((runI (script.take j)).1.writeHeader (statusOf k)).write reason
    | .panicked _ => ∃ j, j ≤ script.length ∧ s.w = (runI (script.take j)).1
    | _ => True := by
  have hi := inv_reachable hr
  have hwpc := hi.w_pc
  have htpc := hi.to_pc
  have hle := hi.hpc_le
  unfold wOfPc at hwpc
  unfold timedOutOfPc at htpc
  rw [hi.scr] at hwpc hle
  split
  · rename_i hpc
    rw [hpc] at hwpc
    exact ⟨hwpc, hi.rd_fin hpc⟩
  · rename_i k hpc
    rw [hpc] at hwpc htpc
    obtain ⟨j, hj, hw⟩ := hwpc
    exact ⟨j, by omega, htpc, hw⟩
  · rename_i v hpc
    rw [hpc] at hwpc
    exact ⟨s.hpc, hle, hwpc⟩
  · trivial

/-- what the work has flushed is nothing unless it called `Flush` -/
theorem nothing_flushed_without_flush (l : List Act) (hnf : ∀ a ∈ l, a ≠ Act.flush) : (runI l).1 = Rec.init := by
  rw [runI_noFlush l hnf]

/-- **All or nothing.**  For every handler script without `Flush`, every schedule of handler, ServeHTTP and the
expiry: once ServeHTTP has come back, the real writer holds exactly the script's complete result (the copy of
the timeoutWriter after the *whole* script), or exactly the timeout response (503 / 499 + reason), or nothing
at all (the handler's panic is re-raised). -/
theorem response_all_or_nothing (reason : List Nat) (script : List Act) (hnf : NoFlush script) (s : St)
    (hr : Reachable reason script s) :
    match s.pc with
    | .retDone => s.w = doneBranch Rec.init (runTW TW.init script) ∧ s.hpc = script.length ∧ s.hst = .finished
    | .retTimeout k => s.w = timeoutResp reason k ∧ s.tw.timedOut = true
    | .panicked _ => s.w = Rec.init
    | _ => True := by
  have hi := inv_reachable hr
  have h := response_with_flush reason script s hr
  have e : ∀ j, (runI (script.take j)).1 = Rec.init := fun j => nothing_flushed_without_flush _ (noFlush_take hnf j)
  split <;> rename_i hpc <;> simp only [hpc] at h
  · rw [runI_noFlush script hnf] at h
    exact ⟨h.1, hi.scr ▸ hi.fin_all h.2, h.2⟩
  · obtain ⟨j, _, hto, hw⟩ := h
    rw [e] at hw
    exact ⟨hw, hto⟩
  · obtain ⟨j, _, hw⟩ := h
    rw [e] at hw
    exact hw
  · trivial
where
  hstep_pc {reason : List Nat} {s s' : St} (h : step reason s .h = some s') : s'.pc = s.pc := by
    cases Step.of_step h with
    | act a => exact (lockedAct_w_pc s a).2
    | _ => rfl

/-- streaming: status 404 + header + first chunk flushed, the deadline comes before the second chunk is flushed:
the client keeps 404/{1:7}/"a" and gets the reason behind it; the buffered "b" is dropped -/
example :
    (runLabels [82, 84] (St.init [.setHeader 1 7, .writeHeader 404, .write [97], .flush, .write [98]])
      [.h, .h, .h, .h, .h, .env .deadline, .mTimeout, .mAdv, .mAdv, .mAdv]).map (fun s => s.w.view) =
    some (404, [(1, 7)], [97, 82, 84]) := by decide
/-- the monitor's streaming semantics (`Spec.completeF`, `Spec.streamedPrefix`) agree with the model on samples -/
example :
    Spec.ofRec (doneBranch (runI [.setHeader 1 7, .writeHeader 404, .write [97], .flush, .setHeader 2 3, .write [98]]).1
      (runI [.setHeader 1 7, .writeHeader 404, .write [97], .flush, .setHeader 2 3, .write [98]]).2) =
    Spec.completeF [.setHeader 1 7, .writeHeader 404, .write [97], .flush, .setHeader 2 3, .write [98]] := by decide
example :
    some (Spec.ofRec (runI [.write [97], .flush, .writeHeader 500, .write [98], .flush, .write [99]]).1) =
    Spec.streamedPrefix [.write [97], .flush, .writeHeader 500, .write [98], .flush, .write [99]] 6 := by decide
example : Spec.completeF [.setHeader 2 1, .setHeader 1 7, .writeHeader 201, .write [97], .write [98]] =
    Spec.complete [.setHeader 2 1, .setHeader 1 7, .writeHeader 201, .write [97], .write [98]] := by decide

/-- the complete result is what the abstract specification says: status = the first `WriteHeader` (200 if a
`Write` comes first or nothing is written), header `k` = the last `Header().Set(k, ·)` of the script, body = all
chunks in order. -/
theorem complete_is_spec (script : List Act) (hc : Spec.completes script false = true) :
    let w := doneBranch Rec.init (runTW TW.init script)
    w.view.1 = Spec.status script ∧ w.view.2.2 = Spec.body script ∧
    ∀ k, hget w.view.2.1 k = Spec.header script k := by
  intro w
  have hw : w = _ := doneBranch_fresh (runTW TW.init script) (by rw [runTW_flushed]; rfl)
  rw [hw, hmerge_nil _ (runTW_keysNodup TW.init script List.nodup_nil)]
  refine ⟨?_, ?_, fun k => runTW_hget _ _ k⟩
  · exact runTW_code _ _ rfl rfl rfl hc
  · show (runTW TW.init script).wbuf = _
    rw [runTW_wbuf _ _ rfl]; rfl

/-- Before ServeHTTP returns, nothing of the work is visible: the real writer is untouched or holds a prefix of
the timeout response. -/
theorem nothing_of_the_work_before_return (reason : List Nat) (script : List Act) (hnf : NoFlush script) (s : St)
    (hr : Reachable reason script s) :
    match s.pc with
    | .select => s.w = Rec.init
    | .t1 _ => s.w = Rec.init
    | .t2 k => s.w = Rec.init.writeHeader (statusOf k)
    | .t3 k => s.w = timeoutResp reason k
    | _ => True := by
  have hi := inv_reachable hr
  have hwpc := hi.w_pc
  have hw : (runI (s.script.take s.hpc)).1 = Rec.init := by
    rw [hi.scr, runI_noFlush _ (noFlush_take hnf _)]
  unfold wOfPc at hwpc
  rw [hw] at hwpc
  split
  · rename_i hpc; rw [hpc] at hwpc; exact hwpc
  · rename_i hpc; rw [hpc] at hwpc; exact hwpc
  · rename_i hpc; rw [hpc] at hwpc; exact hwpc
  · rename_i hpc; rw [hpc] at hwpc; exact hwpc
  · trivial

/-- **No write after the timeout.**  Once `timedOut` is set, no step of anybody changes the real writer or the
buffered body/status, and a `Write` of the handler returns `ErrHandlerTimeout`. -/
theorem no_write_after_timeout (reason : List Nat) (script : List Act) (s s' : St)
    (hr : Reachable reason script s) (hto : s.tw.timedOut = true) (l : Label) (hs : step reason s l = some s') :
    s'.w = s.w ∧ s'.tw.wbuf = s.tw.wbuf ∧ s'.tw.code = s.tw.code ∧ s'.tw.timedOut = true ∧
    (∀ b, l = .h → s.script[s.hpc]? = some (.write b) → s'.log = s.log ++ [.errTimeout]) := by
  obtain ⟨k, hpc⟩ := (inv_reachable hr).timedOut_iff.mp hto
  cases Step.of_step hs with
  | finish _ hg | flushLate _ hg => exact ⟨rfl, rfl, rfl, hto, fun b _ hb => by rw [hg] at hb; cases hb⟩
  | flush _ _ _ hnto => rw [hto] at hnto; cases hnto
  | act a _ hg =>
    obtain ⟨h1, h2, h3⟩ := lockedAct_of_timedOut s a hto
    refine ⟨(lockedAct_w_pc s a).1, h1, h2, h3, fun b _ hb => ?_⟩
    cases hg.symm.trans hb
    rw [lockedAct_write_timedOut s b hto]
  | env => exact ⟨rfl, rfl, rfl, hto, nofun⟩
  | mPanic _ hp | mDone hp | mTimeout _ hp | adv1 _ hp | adv2 _ hp | adv3 _ hp => rw [hpc] at hp; cases hp

def Returned (s : St) : Prop :=
  match s.pc with
  | .retDone => True
  | .retTimeout _ => True
  | .panicked _ => True
  | _ => False

/-- ServeHTTP's own labels need `select` / `t1`–`t3`, and a `Flush` that still reaches the real writer would find ServeHTTP
in its select -/
theorem returned_step {reason : List Nat} {script : List Act} {s s' : St} {l : Label} (hi : Inv reason script s)
    (hret : Returned s) (h : Step reason s l s') : s'.w = s.w ∧ s'.pc = s.pc := by
  unfold Returned at hret
  cases h with
  | act a => exact lockedAct_w_pc s a
  | flush hr _ hmu hto => rw [pc_select_of_flush_enabled hi hr hmu hto] at hret; exact hret.elim
  | mPanic _ hp | mDone hp | mTimeout _ hp | adv1 _ hp | adv2 _ hp | adv3 _ hp => rw [hp] at hret; exact hret.elim
  | _ => exact ⟨rfl, rfl⟩

/-- **Nothing reaches the client after the wrapper returned**: whatever the handler goroutine (or the
context) does later, the response stays what it was. -/
theorem response_stable_after_return (reason : List Nat) (script : List Act) (s : St)
    (hr : Reachable reason script s) (hret : Returned s) (ls : List Label) (s' : St)
    (hrun : runLabels reason s ls = some s') : s'.w = s.w ∧ s'.pc = s.pc := by
  refine (runLabels_preserves (P := fun s1 => Reachable reason script s1 ∧ s1.w = s.w ∧ s1.pc = s.pc)
    (fun s0 l s1 ⟨hr0, hw0, hpc0⟩ hs => ?_) ls s s' ⟨hr, rfl, rfl⟩ hrun).2
  have h1 := returned_step (inv_reachable hr0) (by unfold Returned at *; rw [hpc0]; exact hret) (.of_step hs)
  exact ⟨.step l hr0 hs, h1.1.trans hw0, h1.2.trans hpc0⟩

/-- **The timeout branch never waits for the work.**  Whenever ServeHTTP sits in its select and the context has
ended, the timeout branch is enabled and runs to its end (503/499 and the reason written, returned through `retTimeout`) by four
steps of ServeHTTP's goroutine alone — whatever the handler is doing, including nothing, forever. -/
theorem timeout_branch_always_enabled (reason : List Nat) (s : St) (k : Kind)
    (hpc : s.pc = .select) (hctx : s.ctxErr = some k) :
    ∃ s', runLabels reason s [.mTimeout, .mAdv, .mAdv, .mAdv] = some s' ∧ s'.pc = .retTimeout k ∧
      s'.hpc = s.hpc ∧ s'.hst = s.hst ∧ s'.log = s.log ∧
      s'.w = (s.w.writeHeader (statusOf k)).write reason := by
  simp [runLabels, step, hpc, hctx]

/-- the context can end at any moment at which it has not ended yet -/
theorem expiry_always_possible (reason : List Nat) (s : St) (k : Kind) (h : s.ctxErr = none) :
    ∃ s', step reason s (.env k) = some s' ∧ s'.ctxErr = some k := by
  simp [step, h]

/-- the timeout response on a fresh writer, spelled out: status 503/499, no headers, body = reason -/
theorem timeoutResp_view (reason : List Nat) (k : Kind) :
    (timeoutResp reason k).view = (statusOf k, [], reason) ∧ statusOf .deadline = 503 ∧ statusOf .canceled = 499 := by
  cases k <;> simp [timeoutResp, Rec.view, Rec.write, Rec.writeHeader, Rec.init, statusOf]

/-- script: header, status 404, two chunks; the deadline fires between the chunks -/
def exScript : List Act := [.setHeader 1 7, .writeHeader 404, .write [97], .write [98, 99]]

example : NoFlush exScript := by unfold NoFlush exScript; decide

/-- expiry after the first chunk: the client gets exactly 503 + reason, the late chunk is refused -/
example :
    (runLabels [82, 84] (St.init exScript) [.h, .h, .h, .env .deadline, .mTimeout, .mAdv, .mAdv, .mAdv, .h, .h]).map
      (fun s => (s.w.view, s.log, s.pc)) =
    some ((503, [], [82, 84]), [.ok, .ok, .ok, .errTimeout], .retTimeout .deadline) := by decide

/-- the handler squeezes its last chunk in while ServeHTTP already holds the lock: the step is not enabled -/
example : runLabels [82, 84] (St.init exScript) [.h, .h, .h, .env .canceled, .mTimeout, .h] = none := by decide

/-- no expiry: the complete result 404 / {1:7} / abc -/
example :
    (runLabels [82, 84] (St.init exScript) [.h, .h, .h, .h, .h, .mDone]).map (fun s => (s.w.view, s.pc)) =
    some ((404, [(1, 7)], [97, 98, 99]), .retDone) := by decide

/-- done and expiry both ready: the select may take either, each gives a pure result -/
example :
    (runLabels [82, 84] (St.init exScript) [.h, .h, .h, .h, .h, .env .canceled, .mTimeout, .mAdv, .mAdv, .mAdv]).map
      (fun s => s.w.view) = some (499, [], [82, 84]) := by decide

example : Spec.complete exScript = { code := 404, hdrs := [(1, 7)], body := [97, 98, 99] } := by decide

/-- Before fixes/C04-flush-after-timeout.patch (`runLabelsPinned`).  A handler that flushes after the timeout response was
sent: bytes buffered before the deadline are appended behind the 503 body although `timedOut` is set (also replayed on
the real code: `rest deadline 1 plain pos w:a f`). -/
theorem flush_after_timeout_reaches_client :
    (runLabelsPinned [82, 84] (St.init [.write [97], .flush])
      [.h, .env .deadline, .mTimeout, .mAdv, .mAdv, .mAdv, .h]).map (fun s => (s.w.view, s.tw.timedOut)) =
    some ((503, [], [82, 84, 97]), true) := by decide

/-- Before the patch, without any timeout: `WriteHeader(404); Write("a"); Flush()` reaches the client as 200 — the buffered
status is dropped by `Flush` (real code: `rest none 0 plain pos c:404 w:a f`). -/
theorem flush_drops_status_pinned :
    (runLabelsPinned [82, 84] (St.init [.writeHeader 404, .write [97], .flush]) [.h, .h, .h, .h, .mDone]).map
      (fun s => (s.w.view, s.pc)) = some ((200, [], [97]), .retDone) := by decide

/-- the same two runs on the model of the patched code -/
theorem flush_after_timeout_fixed :
    (runLabels [82, 84] (St.init [.write [97], .flush])
      [.h, .env .deadline, .mTimeout, .mAdv, .mAdv, .mAdv, .h]).map (fun s => (s.w.view, s.tw.timedOut)) =
    some ((503, [], [82, 84]), true) ∧
    (runLabels [82, 84] (St.init [.writeHeader 404, .write [97], .flush]) [.h, .h, .h, .h, .mDone]).map
      (fun s => (s.w.view, s.pc)) = some ((404, [], [97]), .retDone) := ⟨by decide, by decide⟩

/-- Inherent to streaming (before and after the patch alike; finding flush-streamed-then-timeout): what was flushed before
the deadline is with the client; the timeout branch can only append its reason behind it — status and body are a mixture. -/
theorem flush_before_timeout_mixture :
    (runLabels [82, 84] (St.init [.writeHeader 404, .write [97], .flush, .write [98]])
      [.h, .h, .h, .env .deadline, .mTimeout, .mAdv, .mAdv, .mAdv]).map (fun s => (s.w.view, s.pc)) =
    some ((404, [], [97, 82, 84]), .retTimeout .deadline) ∧
    (runLabelsPinned [82, 84] (St.init [.writeHeader 404, .write [97], .flush, .write [98]])
      [.h, .h, .h, .env .deadline, .mTimeout, .mAdv, .mAdv, .mAdv]).map (fun s => (s.w.view, s.pc)) =
    some ((200, [], [97, 82, 84]), .retTimeout .deadline) := ⟨by decide, by decide⟩

/-- the patched `Flush` waits for `tw.mu`: while the timeout branch is writing, the handler's Flush is not enabled -/
example : runLabels [82, 84] (St.init [.write [97], .flush]) [.h, .env .deadline, .mTimeout, .h] = none := by decide

def TimeoutTaken (s : St) : Prop :=
  match s.pc with
  | .t1 _ => True
  | .t2 _ => True
  | .t3 _ => True
  | .retTimeout _ => True
  | _ => False

/-- the select's panic branch is enabled exactly when ServeHTTP still sits in its select and the handler's goroutine
has panicked (its recover put the value into `panicChan`); taking it re-raises that value. -/
theorem panic_branch_enabled_iff (reason : List Nat) (s : St) :
    ((∃ s', step reason s .mPanic = some s') ↔ (s.pc = .select ∧ ∃ v, s.panicChan = some v)) ∧
    (∀ s', step reason s .mPanic = some s' → ∃ v, s.panicChan = some v ∧ s'.pc = .panicked v ∧ s'.w = s.w) := by
  refine ⟨⟨fun ⟨s', h⟩ => ?_, fun ⟨hpc, v, hp⟩ => ⟨{ s with pc := .panicked v, panicChan := none }, by simp [step, hpc, hp]⟩⟩, fun s' h => ?_⟩
  · cases Step.of_step h with
    | mPanic v hpc hp => exact ⟨hpc, v, hp⟩
  · cases Step.of_step h with
    | mPanic v hpc hp => exact ⟨v, hp, rfl, rfl⟩

/-- **Once the timeout branch is taken the panic is never re-raised**: whatever happens afterwards — in particular a
handler that panics after (or while) the 503/499 is written, http.ErrAbortHandler included — ServeHTTP does not
panic; the value stays in the buffered `panicChan` (the handler's goroutine ends, nothing leaks). -/
theorem timeout_taken_never_reraises (reason : List Nat) (s : St) (ht : TimeoutTaken s) (ls : List Label) (s' : St)
    (hrun : runLabels reason s ls = some s') : TimeoutTaken s' ∧ ∀ v, s'.pc ≠ .panicked v := by
  -- the branches out of `select` are closed, the handler's steps leave `pc` alone, `mAdv` walks t1 → t2 → t3 → retTimeout
  have ht' : TimeoutTaken s' := by
    refine runLabels_preserves (P := TimeoutTaken) (fun s l s1 ht hs => ?_) ls s s' ht hrun
    unfold TimeoutTaken at ht ⊢
    cases Step.of_step hs with
    | act a => rw [(lockedAct_w_pc s a).2]; exact ht
    | mPanic _ hp | mDone hp | mTimeout _ hp => rw [hp] at ht; exact ht.elim
    | adv1 | adv2 | adv3 => trivial
    | _ => exact ht
  exact ⟨ht', fun v hv => by unfold TimeoutTaken at ht'; rw [hv] at ht'; exact ht'⟩

/-- **The re-raised panic is the handler goroutine's own.**  For every script (with or without `Flush`) and every
schedule: if ServeHTTP panics with `v`, the handler's goroutine has ended by a panic and `v` is the value it panicked
with (the last handler-visible result); ServeHTTP is then in none of the program counters of the timeout branch (that the
branch, once taken, never leads there is `timeout_taken_never_reraises`). -/
theorem reraised_panic_is_handlers (reason : List Nat) (script : List Act) (s : St) (hr : Reachable reason script s) :
    (∀ v, s.panicChan = some v → s.hst = .panicked ∧ s.log.getLast? = some (.panicked v)) ∧
    (∀ v, s.pc = .panicked v → s.hst = .panicked ∧ s.log.getLast? = some (.panicked v) ∧ ¬ TimeoutTaken s) := by
  have hi := inv_reachable hr
  exact ⟨hi.pan, fun v hv => ⟨(hi.pp_pan v hv).1, (hi.pp_pan v hv).2, by simp [TimeoutTaken, hv]⟩⟩

/-- the handler panics with 7 before the deadline: re-raised, nothing written; the same panic after the timeout branch
was taken: swallowed, the client has the pure 503 -/
example :
    (runLabels [82, 84] (St.init [.write [97], .panic 7]) [.h, .h, .mPanic]).map (fun s => (s.pc, s.w.view)) =
      some (.panicked 7, (200, [], [])) := by decide
example :
    (runLabels [82, 84] (St.init [.write [97], .panic 7]) [.h, .env .deadline, .mTimeout, .h, .mAdv, .mAdv, .mAdv]).map
      (fun s => (s.pc, s.w.view)) = some (.retTimeout .deadline, (503, [], [82, 84])) := by decide
example :
    (runLabels [82, 84] (St.init [.write [97], .panic 7]) [.h, .env .deadline, .mTimeout, .h, .mAdv, .mAdv, .mAdv]).map
      (fun s => s.panicChan) = some (some 7) := by decide
/-- both ready: the select may also take the timeout branch although the handler has already panicked -/
example :
    (runLabels [82, 84] (St.init [.panic 7]) [.h, .env .canceled, .mTimeout, .mAdv, .mAdv, .mAdv]).map
      (fun s => (s.pc, s.w.view)) = some (.retTimeout .canceled, (499, [], [82, 84])) := by decide

/-- With fixes/C04-hijack-after-timeout.patch: once the timeout branch has set `timedOut`, `Hijack` never hands the
connection to the work; before that it is a pass-through. -/
theorem hijack_refused_after_timeout (t : TW) (supported : Bool) :
    (t.timedOut = true → hijack t supported = .refused) ∧
    (t.timedOut = false → hijack t supported = (if supported then .ok else .unsupported)) := by
  unfold hijack
  cases t.timedOut <;> simp

/-- in every reachable state in which ServeHTTP has returned through the timeout branch, `Hijack` is refused -/
theorem hijack_refused_after_timeout_return (reason : List Nat) (script : List Act) (s : St)
    (hr : Reachable reason script s) (k : Kind) (hpc : s.pc = .retTimeout k) (supported : Bool) :
    hijack s.tw supported = .refused := by
  exact (hijack_refused_after_timeout s.tw supported).1 ((inv_reachable hr).timedOut_iff.mpr ⟨k, hpc⟩)

/-- Before that patch (`hijackPinned`; real code: `hij sup deadline after => hijack=ok`): after the timeout the connection is
handed over -/
theorem hijack_after_timeout_pinned :
    ((runLabels [82, 84] (St.init []) [.env .deadline, .mTimeout, .mAdv, .mAdv, .mAdv]).map
      (fun s => (s.tw.timedOut, hijackPinned s.tw true, hijack s.tw true))) = some (true, .ok, .refused) := by decide

/-- **UnaryTimeoutInterceptor returns the work's own (resp, err), or (nil, DeadlineExceeded/Canceled) for the
expiry that happened, or re-raises the work's panic — never a half-assigned pair.** -/
theorem rpc_result_or_timeout (work : Work) (s : SelSt) (hr : SelReach srvStep work s) (o : Outcome)
    (ho : s.out = some o) : OutcomeOK work s.ctxErr o := by
  exact (srvInv_reach hr).out_ok o ho

/-- fx.DoWithTimeout returns fn's error, or ctx.Err() of the expiry that happened, or re-raises fn's panic. -/
theorem fx_result_or_timeout (work : Work) (s : SelSt) (hr : SelReach fxStep work s) (o : Outcome)
    (ho : s.out = some o) : FxOutcomeOK work s.ctxErr o := by
  exact (fxInv_reach hr).out_ok o ho

/-- the timeout branch of the interceptor is enabled whenever the context has ended and the select has not
been left — in particular while the work never returns (and holds the result lock). -/
theorem rpc_timeout_always_enabled (s : SelSt) (k : Kind) (h1 : s.out = none) (h2 : s.mwait = false)
    (h3 : s.ctxErr = some k) : ∃ s', srvStep s .mTimeout = some s' ∧ s'.out = some (.timeout k) := by
  simp [srvStep, h1, h2, h3]

/-- the same for fx.DoWithTimeout (no lock, no `mwait`) -/
theorem fx_timeout_always_enabled (s : SelSt) (k : Kind) (h1 : s.out = none)
    (h3 : s.ctxErr = some k) : ∃ s', fxStep s .mTimeout = some s' ∧ s'.out = some (.timeout k) := by
  simp [fxStep, h1, h3]

/-- once the interceptor has chosen `case <-done` it gets the lock after finitely many worker steps (one):
the worker closes `done` only after both assignments, and then only unlocks. -/
theorem rpc_done_branch_completes (work : Work) (s : SelSt) (hr : SelReach srvStep work s) (hw : s.mwait = true)
    (ho : s.out = none) :
    (∃ s', srvStep s .mDoneLocked = some s') ∨
    (∃ s1 s', srvStep s .w = some s1 ∧ srvStep s1 .mDoneLocked = some s') := by
  have hi := srvInv_reach hr
  obtain ⟨hpc, hret⟩ := hi.closed (hi.mwait_done hw)
  cases hl : s.lock with
  | none => left; simp [srvStep, ho, hw, hl]
  | some b =>
    right
    rcases hpc with hc | he
    · simp [srvStep, hc, hi.work_eq.trans hret, ho, hw]
    · -- the worker has ended: it released the lock … unless main holds it, which it never does
      exact absurd ⟨b, hl⟩ (ended_lock_free hr he)
where
  ended_lock_free {work : Work} {s : SelSt} (hr : SelReach srvStep work s) (he : s.wpc = .ended) : ¬ ∃ b, s.lock = some b := by
    rw [(srvInv_reach hr).lock_free he]
    exact fun ⟨_, hb⟩ => nomatch hb

example : (runSel srvStep { work := .ret 5 0 } [.w, .w, .w, .w, .mDone, .w, .mDoneLocked]).map (·.out) =
    some (some (.result 5 0)) := by decide
/-- the expiry lands between the two assignments: the caller gets the pure timeout result -/
example : (runSel srvStep { work := .ret 5 9 } [.w, .w, .env .deadline, .mTimeout, .w, .w, .w]).map (fun s => (s.out, s.resp, s.err)) =
    some (some (.timeout .deadline), 5, 9) := by decide
example : (runSel srvStep { work := .never } [.w, .env .canceled, .mTimeout]).map (·.out) =
    some (some (.timeout .canceled)) := by decide
example : (runSel fxStep { work := .ret 0 3 } [.w, .env .deadline, .mDone]).map (·.out) =
    some (some (.result 0 3)) := by decide
example : (runSel fxStep { work := .panic 4 } [.w, .mPanic]).map (·.out) = some (some (.panic 4)) := by decide

end GoZero.C04.Props
