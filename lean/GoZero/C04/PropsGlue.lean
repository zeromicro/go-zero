/-
C04 — from the zrpc configuration to the deadline.  `cliConfigDeadline` / `srvConfigDeadline` compose the glue functions that
`TieSem` proves equal to the translated zrpc/server.go, zrpc/client.go and zrpc/internal/client.go with the interceptor
closures; they equal the wiring model `cliWiredDeadline` / `srvWiredDeadline`, the effective timeout is `Spec.clientTimeout`,
and the deadline clause holds for every configuration and every call.
-/
import GoZero.C04.PropsInst
namespace GoZero.C04.Props
open GoZero.C04

theorem foldl_applyClientOpt (l : List (Option Int)) (a : Int) :
    l.foldl applyClientOpt a = (l.filterMap id).foldl (fun _ t => t) a := by
  induction l generalizing a with
  | nil => rfl
  | cons o os ih => cases o <;> simp [applyClientOpt, ih]

/-- what `buildDialOptions` hands to `TimeoutInterceptor(·)`, for every configuration and environment -/
theorem cliGlue_dialTimeout (confMs : Int) (options : List (Option Int)) (other : Nat → Bool) :
    cliGlueDialTimeout (none :: cliGlueConfOpts confMs options other) = cliConfTimeout confMs (options.filterMap id) := by
  unfold cliGlueDialTimeout cliGlueConfOpts cliConfTimeout
  rw [foldl_applyClientOpt]
  congr 1
  -- the guarded options other than `WithTimeout` are `none`s, whichever of them are present
  have skip : ∀ b : Bool, List.filterMap id (if b then [(none : Option Int)] else []) = [] := by
    intro b; cases b <;> rfl
  have keep : List.filterMap id (if confMs > 0 then [some (confMs * 1000000)] else []) =
      if confMs > 0 then [confMs * 1000000] else [] := by
    split <;> rfl
  simp only [List.filterMap_cons, List.filterMap_append, skip, keep, id, List.nil_append, List.append_nil]

/-- the per-call effective timeout of the translated path is the property's `Spec.clientTimeout` -/
theorem cliGlue_effective_timeout (confMs : Int) (options : List (Option Int)) (other : Nat → Bool) (callOpts : List (Option Int)) :
    getTimeoutFromCallOptions callOpts (cliGlueDialTimeout (none :: cliGlueConfOpts confMs options other)) =
      Spec.clientTimeout confMs (options.filterMap id) callOpts := by
  rw [cliGlue_dialTimeout, (cli_selection_is_first_option _ _).1, (cli_selection_is_first_option _ _).2]
  -- what reaches the interceptor is the last `WithTimeout` option, else the configured timeout if positive, else 0
  unfold cliConfTimeout Spec.clientTimeout
  rw [foldl_last, List.getLast?_append]
  cases (options.filterMap id).getLast? with
  | some u => rfl
  | none => by_cases h : confMs > 0 <;> simp [h]

/-- the translated-glue composition is the wiring model -/
theorem cli_config_is_wired (mw : Bool) (confMs : Int) (options : List (Option Int)) (other : Nat → Bool)
    (callOpts : List (Option Int)) (parent : Deadline) (now : Int) :
    cliConfigDeadline mw confMs options other callOpts parent now =
      cliWiredDeadline mw confMs (options.filterMap id) callOpts parent now := by
  unfold cliConfigDeadline cliWiredDeadline cliGlueIcpt
  rw [cliGlue_dialTimeout]
  cases mw
  · simp
  · simp only [if_true]; exact cli_call_deadline _ _ _ _

/-- **zRPC client, from the configuration, for every configuration.**  Middleware on/off, any `RpcClientConf.Timeout` (0 and
negative included), any list of client options, any environment, any call options, any caller deadline: with `t` the
property's effective timeout (`Spec.clientTimeout`: first `WithCallTimeout`, else last `WithTimeout`, else the configured one
if positive), the invoker's context has a deadline ≤ now + t and ≤ the caller's when the middleware is on and t > 0, and is the
caller's context unchanged otherwise. -/
theorem zrpc_client_config_deadline_clause (mw : Bool) (confMs : Int) (options : List (Option Int)) (other : Nat → Bool)
    (callOpts : List (Option Int)) (parent : Deadline) (now : Int) :
    (mw = true ∧ 0 < Spec.clientTimeout confMs (options.filterMap id) callOpts →
      ∃ d, cliConfigDeadline mw confMs options other callOpts parent now = some d ∧
        d ≤ now + Spec.clientTimeout confMs (options.filterMap id) callOpts ∧ NoLaterThan (some d) parent) ∧
    (mw = false ∨ Spec.clientTimeout confMs (options.filterMap id) callOpts ≤ 0 →
      cliConfigDeadline mw confMs options other callOpts parent now = parent) := by
  have ht : Spec.clientTimeout confMs (options.filterMap id) callOpts =
      cliTimeout (cliConfTimeout confMs (options.filterMap id)) callOpts := by
    rw [← cliGlue_effective_timeout confMs options other callOpts, cliGlue_dialTimeout, (cli_selection_is_first_option _ _).1]
  rw [cli_config_is_wired, ht]
  exact deadline_only_shrinks_cli_wired mw confMs _ callOpts parent now

/-- a per-call `WithCallTimeout(t)`, t > 0, as the first timeout option of the call is honoured under EVERY client configuration
— in particular without any default timeout (`RpcClientConf.Timeout` 0 or negative, no `WithTimeout` option: the case that
the trial change seeded/C04-9 breaks): the work's deadline is ≤ now + t and ≤ the caller's -/
theorem zrpc_client_call_timeout_always_honoured (confMs : Int) (options : List (Option Int)) (other : Nat → Bool) (pre rest : List (Option Int)) (hpre : ∀ o ∈ pre, o = none)
    (t : Int) (ht : 0 < t) (parent : Deadline) (now : Int) :
    ∃ d, cliConfigDeadline true confMs options other (pre ++ some t :: rest) parent now = some d ∧ d ≤ now + t ∧
      NoLaterThan (some d) parent := by
  have h := (cliDeadline_law (cliConfTimeout confMs (options.filterMap id)) (pre ++ some t :: rest) parent now).1
  rw [cliTimeout_first _ t pre rest hpre] at h
  rw [cli_config_is_wired]
  exact h ht

theorem srv_config_is_wired (confMs : Int) (mts : List (Nat × Int)) (method : Nat) (parent : Deadline) (now : Int) :
    srvConfigDeadline confMs mts method parent now = srvWiredDeadline confMs mts method parent now := by
  unfold srvConfigDeadline srvWiredDeadline srvGlueIcpt
  by_cases h : confMs > 0
  · simp only [h, if_true]; exact srv_call_deadline _ _ _ _ _
  · simp [h]

/-- **zRPC server, from the configuration, for every configuration**: `RpcServerConf.Timeout > 0`: the handler's deadline is
≤ now + (the method's own `MethodTimeouts` entry — last non-empty-named one — else `Timeout` ms) and ≤ the caller's;
`Timeout ≤ 0`: the caller's context unchanged (no interceptor). -/
theorem zrpc_server_config_deadline_clause (confMs : Int) (mts : List (Nat × Int)) (method : Nat) (parent : Deadline) (now : Int) :
    (0 < confMs → ∃ d, srvConfigDeadline confMs mts method parent now = some d ∧
      d ≤ now + srvTimeout (confMs * 1000000) mts method ∧ NoLaterThan (some d) parent) ∧
    (confMs ≤ 0 → srvConfigDeadline confMs mts method parent now = parent) := by
  rw [srv_config_is_wired]
  exact deadline_only_shrinks_srv_wired confMs mts method parent now

example : cliConfigDeadline true 0 [none] (fun _ => true) [none, some 300] none 100 = some 400 := by decide
example : cliConfigDeadline true 2000 [some 7000, none] (fun _ => false) [] (some 5000) 100 = some 5000 := by decide
example : cliConfigDeadline true 2000 [] (fun _ => false) [] none 100 = some 2000000100 := by decide
example : cliConfigDeadline false 2000 [] (fun _ => false) [some 5] none 100 = none := by decide
example : srvConfigDeadline 2000 [(7, 500)] 7 (some 5000000000) 100 = some 600 := by decide
example : srvConfigDeadline 0 [(7, 500)] 7 none 100 = none := by decide

end GoZero.C04.Props
