/-
C04 — the interceptors as closures (`SrvInst`, `CliInst`, `fxParentLoop`: the statement-by-statement models that `TieSem.lean`
proves equal to the translated Go code): their selection of the timeout is the declarative `srvTimeout` / `cliTimeout` /
`fxParent`, a call changes no captured variable, and the deadline clause holds for every call of every sequence of calls.
-/
import GoZero.C04.Props
import GoZero.C04.ProofsInst
namespace GoZero.C04.Props
open GoZero.C04

/-- zRPC server: `getTimeoutByUnaryServerInfo(method, buildMethodTimeouts(conf), dflt)` is the last configured entry with
that (non-empty) method name, else the default — for every configuration list and method. -/
theorem srv_selection_is_table_lookup (dflt : Int) (mts : List (Nat × Int)) (method : Nat) :
    getTimeoutByUnaryServerInfo method (buildMethodTimeouts mts) dflt = srvTimeout dflt mts method := by
  unfold getTimeoutByUnaryServerInfo buildMethodTimeouts srvTimeout
  rw [tableGet_build_aux]
  cases mts.reverse.find? (fun p => p.1 != 0 && p.1 == method) with
  | some p => rfl
  | none => simp [tableGet]

/-- zRPC client: the option scan returns the first `TimeoutCallOption`, else the default -/
theorem cli_selection_is_first_option (dflt : Int) (opts : List (Option Int)) :
    getTimeoutFromCallOptions opts dflt = cliTimeout dflt opts ∧
    cliTimeout dflt opts = Spec.callTimeout dflt opts := by
  induction opts with
  | nil => exact ⟨rfl, rfl⟩
  | cons o os ih =>
    cases o with
    | none => simpa [getTimeoutFromCallOptions, List.findSome?, cliTimeout, List.find?, Spec.callTimeout] using ih
    | some t => simp [getTimeoutFromCallOptions, List.findSome?, cliTimeout, List.find?, Spec.callTimeout]

/-- fx: the option loop leaves the context of the LAST option (Background without options) -/
theorem fx_parent_is_last_option (opts : List Deadline) : fxParentLoop opts = fxParent opts := by
  unfold fxParentLoop fxParent
  rw [foldl_last]
  cases opts.getLast? <;> rfl

/-- a call through the server closure changes none of its captured variables -/
theorem srv_call_keeps_closure (i : SrvInst) (method : Nat) (parent : Deadline) (now : Int) :
    (i.call method parent now).2 = i := rfl

theorem cli_call_keeps_closure (i : CliInst) (opts : List (Option Int)) (parent : Deadline) (now : Int) :
    (i.call opts parent now).2 = i := rfl

theorem srv_call_deadline (dflt : Int) (mts : List (Nat × Int)) (method : Nat) (parent : Deadline) (now : Int) :
    ((SrvInst.new dflt mts).call method parent now).1 = srvDeadline dflt mts method parent now := by
  simp [SrvInst.call, SrvInst.new, srvDeadline, srv_selection_is_table_lookup]

theorem cli_call_deadline (dflt : Int) (opts : List (Option Int)) (parent : Deadline) (now : Int) :
    ((CliInst.mk dflt).call opts parent now).1 = cliDeadline dflt opts parent now := by
  -- the closure tests `t ≤ 0` and returns early, the model tests `t > 0`
  simp [CliInst.call, cliDeadline, cliWraps, (cli_selection_is_first_option _ _).1, ← Int.not_le]

/-- **Sequences, server.**  For every configuration and EVERY sequence of calls through one interceptor closure, the
k-th handler's context has a deadline ≤ now_k + (timeout of the k-th call's own method, else the default) and ≤ the k-th
caller's deadline — whatever was called before. -/
theorem srv_every_call_own_deadline (dflt : Int) (mts : List (Nat × Int)) (calls : List Call) :
    (SrvInst.new dflt mts).run calls = calls.map (fun c => srvDeadline dflt mts c.method c.parent c.now) ∧
    ∀ (k : Nat) (c : Call), calls[k]? = some c →
      ∃ d, ((SrvInst.new dflt mts).run calls)[k]? = some (some d) ∧
        d ≤ c.now + srvTimeout dflt mts c.method ∧ NoLaterThan (some d) c.parent := by
  have hrun : (SrvInst.new dflt mts).run calls = calls.map (fun c => srvDeadline dflt mts c.method c.parent c.now) := by
    rw [SrvInst.run_eq]
    exact List.map_congr_left fun c _ => srv_call_deadline dflt mts c.method c.parent c.now
  refine ⟨hrun, fun k c hk => ?_⟩
  obtain ⟨d, hd, h12⟩ := deadline_only_shrinks_srv dflt mts c.method c.parent c.now
  exact ⟨d, by rw [hrun, List.getElem?_map, hk, ← hd]; rfl, h12⟩

/-- **Sequences, client.**  For every default and EVERY sequence of calls through one client interceptor closure, the
k-th invoker's context is: with an effective timeout t_k > 0 (first `WithCallTimeout` of THAT call, else the default) a
deadline ≤ now_k + t_k and ≤ the caller's; with t_k ≤ 0 the caller's context itself. -/
theorem cli_every_call_own_deadline (dflt : Int) (calls : List Call) :
    (CliInst.mk dflt).run calls = calls.map (fun c => cliDeadline dflt c.opts c.parent c.now) ∧
    ∀ (k : Nat) (c : Call), calls[k]? = some c →
      (0 < cliTimeout dflt c.opts →
        ∃ d, ((CliInst.mk dflt).run calls)[k]? = some (some d) ∧
          d ≤ c.now + cliTimeout dflt c.opts ∧ NoLaterThan (some d) c.parent) ∧
      (cliTimeout dflt c.opts ≤ 0 → ((CliInst.mk dflt).run calls)[k]? = some c.parent) := by
  have hrun : (CliInst.mk dflt).run calls = calls.map (fun c => cliDeadline dflt c.opts c.parent c.now) := by
    rw [CliInst.run_eq]
    exact List.map_congr_left fun c _ => cli_call_deadline dflt c.opts c.parent c.now
  refine ⟨hrun, fun k c hk => ?_⟩
  have hk' : ((CliInst.mk dflt).run calls)[k]? = some (cliDeadline dflt c.opts c.parent c.now) := by
    rw [hrun, List.getElem?_map, hk]; rfl
  obtain ⟨h1, h2⟩ := cliDeadline_law dflt c.opts c.parent c.now
  rw [hk']
  exact ⟨fun ht => (h1 ht).imp fun d hd => ⟨congrArg some hd.1, hd.2⟩, fun ht => congrArg some (h2 ht)⟩

/-- **zRPC server, end to end** (RpcServerConf → setupUnaryInterceptors → UnaryTimeoutInterceptor closure → calls): with
`Timeout > 0` every call of every sequence runs under min(caller's, now + (its method's entry, else Timeout ms)); with
`Timeout ≤ 0` no interceptor is installed and every handler gets its caller's context. -/
theorem zrpc_server_deadline_clause (confMs : Int) (mts : List (Nat × Int)) (calls : List Call) :
    (0 < confMs → ∀ (k : Nat) (c : Call), calls[k]? = some c →
      ∃ d, ((SrvInst.new (confMs * 1000000) mts).run calls)[k]? = some (some d) ∧
        srvWiredDeadline confMs mts c.method c.parent c.now = some d ∧
        d ≤ c.now + srvTimeout (confMs * 1000000) mts c.method ∧ NoLaterThan (some d) c.parent) ∧
    (confMs ≤ 0 → ∀ c : Call, srvWiredDeadline confMs mts c.method c.parent c.now = c.parent) := by
  refine ⟨fun hpos k c hk => ?_, fun h c => (deadline_only_shrinks_srv_wired confMs mts c.method c.parent c.now).2 h⟩
  obtain ⟨hrun, hall⟩ := srv_every_call_own_deadline (confMs * 1000000) mts calls
  obtain ⟨d, hd, h12⟩ := hall k c hk
  refine ⟨d, hd, ?_, h12⟩
  rw [hrun, List.getElem?_map, hk] at hd
  simpa [srvWiredDeadline, hpos] using hd

/-- **zRPC client, end to end** (RpcClientConf / WithTimeout options → buildDialOptions → TimeoutInterceptor closure →
calls with their own `WithCallTimeout`): the closure built from the configuration serves every sequence of calls with
`cliWiredDeadline`, i.e. (theorem `deadline_only_shrinks_cli_wired`) min(caller's, now + effective timeout) or the
caller's context. -/
theorem zrpc_client_deadline_clause (confMs : Int) (userTimeouts : List Int) (calls : List Call) :
    (CliInst.mk (cliConfTimeout confMs userTimeouts)).run calls =
      calls.map (fun c => cliWiredDeadline true confMs userTimeouts c.opts c.parent c.now) ∧
    ∀ c ∈ calls,
      let t := cliTimeout (cliConfTimeout confMs userTimeouts) c.opts
      (0 < t → ∃ d, cliWiredDeadline true confMs userTimeouts c.opts c.parent c.now = some d ∧ d ≤ c.now + t ∧
          NoLaterThan (some d) c.parent) ∧
      (t ≤ 0 → cliWiredDeadline true confMs userTimeouts c.opts c.parent c.now = c.parent) := by
  constructor
  · rw [(cli_every_call_own_deadline _ calls).1]
    apply List.map_congr_left
    intro c _
    simp [cliWiredDeadline]
  · intro c _
    have h := deadline_only_shrinks_cli_wired true confMs userTimeouts c.opts c.parent c.now
    exact ⟨fun ht => h.1 ⟨rfl, ht⟩, fun ht => h.2 (Or.inr ht)⟩

/-- fx.DoWithTimeout with the option loop of the source: deadline ≤ now + timeout and ≤ the LAST option's -/
theorem fx_deadline_clause (timeout : Int) (opts : List Deadline) (now : Int) :
    ∃ d, withTimeout (fxParentLoop opts) now timeout = some d ∧ d ≤ now + timeout ∧
      NoLaterThan (some d) (fxParent opts) := by
  rw [fx_parent_is_last_option]
  exact withTimeout_noLater (fxParent opts) now timeout

/-- **Clause 1 of the property for the four wrappers**: whenever a wrapper wraps (REST: duration > 0 and the request not
exempt; zRPC server: always; zRPC client: effective timeout > 0; fx: always) the work's context has a deadline that is
≤ now + timeout and ≤ the caller's; whenever it does not, the work gets the caller's context unchanged. -/
theorem deadline_clause_all_wrappers (parent : Deadline) (now : Int) :
    (∀ duration h, restWraps duration h = true →
      ∃ d, restDeadline duration h parent now = some d ∧ d ≤ now + duration ∧ NoLaterThan (some d) parent) ∧
    (∀ duration h, restWraps duration h = false → restDeadline duration h parent now = parent) ∧
    (∀ dflt mts method, ∃ d, ((SrvInst.new dflt mts).call method parent now).1 = some d ∧
      d ≤ now + srvTimeout dflt mts method ∧ NoLaterThan (some d) parent) ∧
    (∀ dflt opts, 0 < cliTimeout dflt opts →
      ∃ d, ((CliInst.mk dflt).call opts parent now).1 = some d ∧ d ≤ now + cliTimeout dflt opts ∧
        NoLaterThan (some d) parent) ∧
    (∀ dflt opts, cliTimeout dflt opts ≤ 0 → ((CliInst.mk dflt).call opts parent now).1 = parent) ∧
    (∀ timeout opts, fxParent opts = parent →
      ∃ d, withTimeout (fxParentLoop opts) now timeout = some d ∧ d ≤ now + timeout ∧ NoLaterThan (some d) parent) := by
  refine ⟨fun duration h => (deadline_only_shrinks_rest duration h parent now).1,
    fun duration h => (deadline_only_shrinks_rest duration h parent now).2.1,
    fun dflt mts method => ?_, fun dflt opts => ?_, fun dflt opts => ?_, fun timeout opts hp => ?_⟩
  · rw [srv_call_deadline]; exact deadline_only_shrinks_srv dflt mts method parent now
  · rw [cli_call_deadline]; exact (cliDeadline_law dflt opts parent now).1
  · rw [cli_call_deadline]; exact (cliDeadline_law dflt opts parent now).2
  · rw [fx_parent_is_last_option, hp]; exact withTimeout_noLater parent now timeout

/-- a call of method 1 (own timeout 120 s), then one of method 3 (no entry: default 2 s) through the SAME closure: the second
runs under the default, not under the first call's timeout; then the empty method name and a caller with an earlier deadline -/
example : (SrvInst.new 2000 [(1, 120000), (0, 7), (2, 240000), (1, 180000)]).run
    [{ method := 1, parent := none, now := 10 }, { method := 3, parent := none, now := 20 },
     { method := 0, parent := some 500, now := 30 }, { method := 2, parent := some 900000, now := 40 }] =
    [some 180010, some 2020, some 500, some 240040] := by decide

example : (CliInst.mk 60000).run
    [{ method := 1, opts := [none, some 15000], parent := some 20500, now := 10 },
     { method := 1, opts := [], parent := some 20500, now := 20 },
     { method := 1, opts := [some 0, some 15000], parent := some 20500, now := 30 },
     { method := 1, opts := [some (-5)], parent := none, now := 40 }] =
    [some 15010, some 20500, some 20500, none] := by decide

example : buildMethodTimeouts [(1, 5), (0, 7), (2, 9), (1, 6)] = [(2, 9), (1, 6)] := by decide
example : fxParentLoop [some 3, none, some 9] = some 9 ∧ fxParentLoop [] = none := by decide

end GoZero.C04.Props
