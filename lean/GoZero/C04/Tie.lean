/-
C04 — Tie: what the extractor read from the go-zero tree *now* equals what the model was written against.
A failing obligation here means the code moved away from the model (see the note at each list for the model
rows that correspond to it).
-/
import GoZero.Extracted.C04
import GoZero.C04.Driver
namespace GoZero.C04.Tie
open GoZero.C04
open GoZero.Extracted.C04

/- Every table fact below has the same list literal on both sides once the two constants are unfolded: `rfl` compares them as
literals (deciding the equality would compare the strings character by character). -/
theorem extraction_clean : extractionErrors = [] := rfl

theorem tie_status499 : statusClientClosedRequest = 499 ∧ (statusOf .canceled : Int) = statusClientClosedRequest := ⟨rfl, rfl⟩
theorem tie_status503 : statusOf .deadline = 503 := rfl
/-- `GoZero.C04.reason` is the Driver's constant (its replay runs the model with `reasonBytes`); the theorems of Props*
hold for every `reason : List Nat` -/
theorem tie_reason : Extracted.C04.reason = "Request Timeout" ∧ Extracted.C04.reason = GoZero.C04.reason := ⟨rfl, rfl⟩
theorem tie_exemption_headers :
    headerUpgrade = "Upgrade" ∧ valueWebsocket = "websocket" ∧ headerAccept = "Accept" ∧ valueSSE = "text/event-stream" :=
  ⟨rfl, rfl, rfl, rfl⟩

/-- rest/engine.go `checkedTimeout` (translated from the source) is the model's, for all arguments -/
theorem tie_checkedTimeout (route confMs : Int) :
    Extracted.C04.checkedTimeout route confMs = GoZero.C04.checkedTimeout route confMs := by
  unfold Extracted.C04.checkedTimeout GoZero.C04.checkedTimeout
  by_cases h : route > 0 <;> simp [h]

/-- `WithTimeout(t)` stores `t`; `WithSSE()` resets the timeout to 0 (model: `RouteOpt`, `groupTimeout`) -/
theorem tie_routeOptions :
    withTimeoutOpt = ["r.timeout = timeout"] ∧ withSSEOpt = ["r.sse = true", "r.timeout = 0"] := ⟨rfl, rfl⟩

/-- `AddRoutes`: the options are applied in order on a zero `featuredRoutes`, which is then handed to the engine
(model: `groupTimeout` as a left fold from 0, `Eng.addRoutes`) -/
theorem tie_serverAddRoutes :
    serverAddRoutes = ["r := featuredRoutes{ routes: rs, }", "range opts {", "opt(&r)", "}", "s.ngin.addRoutes(r)"] := rfl

/-- `AddRoute(r, opts...)` delegates to `AddRoutes` with the one route and ALL its options, in order -/
theorem tie_serverAddRoute : serverAddRoute = ["s.AddRoutes([]Route{r}, opts...)"] := rfl

/-- `addRoutes`: append the group; `ng.timeout` becomes the maximum (model: `Eng.addRoutes`) -/
theorem tie_engAddRoutes :
    engAddRoutes = ["if r.sse {", "r.routes = buildSSERoutes(r.routes)", "}", "ng.routes = append(ng.routes, r)",
      "if r.timeout > ng.timeout {", "ng.timeout = r.timeout", "}"] := rfl

/-- `newEngine`: `ng.timeout` starts as the global timeout in ms (model: `Eng.new`) -/
theorem tie_engNew :
    engNewTimeout = ["svr := &engine{ conf: c, timeout: time.Duration(c.Timeout) * time.Millisecond, }"] := rfl

/-- the middleware is appended only under `Middlewares.Timeout`, with `checkedTimeout` of the *group's* timeout
(model: `Eng.bound`, mode `on` / `off`) -/
theorem tie_engTimeoutWiring :
    engTimeoutWiring =
      ["if ng.conf.Middlewares.Timeout { chn = chn.Append(handler.TimeoutHandler(ng.checkedTimeout(fr.timeout)))"] := rfl

/-- `bindRoute`: a user chain replaces the native middlewares altogether (model: mode `chain`); every route of a group is
bound with the group's `fr`; every group of `ng.routes` is bound -/
theorem tie_engBind :
    engBindRouteChain = ["chn := ng.chain",
      "if chn == nil { chn = ng.buildChainWithNativeMiddlewares(fr, route, metrics)",
      "chn = ng.appendAuthHandler(fr, chn, verifier)",
      "range ng.middlewares { chn = chn.Append(convertMiddleware(middleware))",
      "handle := chn.ThenFunc(route.Handler)"] ∧
    engBindFeatured = ["range fr.routes { err := ng.bindRoute(fr, router, metrics, route, verifier)"] ∧
    engBindRoutes = ["range ng.routes { err := ng.bindFeaturedRoutes(router, fr, metrics)"] := ⟨rfl, rfl, rfl⟩

/-- `TimeoutHandler(duration)`: no wrapper at all when `duration <= 0` (model: `restWraps`) -/
def expected_timeoutHandlerCtorShape : List String := [
  "func{",
  "if duration <= 0 {",
  "return",
  "}",
  "return",
  "}",
  "return"]

theorem tie_timeoutHandlerCtorShape : timeoutHandlerCtorShape = expected_timeoutHandlerCtorShape := rfl

/-- ServeHTTP.  Model rows: exemption test first (`restWraps`); `context.WithTimeout` on `r.Context()`; the
handler goroutine (`hstep`: ServeHTTP(tw, r) then `close done`; recover → `send panicChan`); the select with its three
branches: `mPanic` (re-panic), `mDone` (copy headers, status if ≠ 200, body; the branch's `tw.mu.Lock()` is not a model
step: the handler has returned, nobody else takes `mu`), `mTimeout`/`mAdv` (lock,
ErrorCtx → WriteHeader 499/503 + reason, `store tw.timedOut`, deferred unlock) -/
def expected_serveHTTPShape (statusCond : String) : List String := [
  "if r.Header.Get(headerUpgrade) == valueWebsocket || r.Header.Get(headerAccept) == valueSSE {",
  "call h.handler.ServeHTTP",
  "return",
  "}",
  "call r.Context",
  "call context.WithTimeout",
  "defer{",
  "call cancelCtx",
  "}",
  "call r.WithContext",
  "go{",
  "func{",
  "defer{",
  "func{",
  "recover",
  "if p != nil {",
  "send panicChan",
  "}",
  "}",
  "call func",
  "}",
  "call h.handler.ServeHTTP",
  "close done",
  "}",
  "call func",
  "}",
  "select{",
  "case recv panicChan:",
  "panic",
  "case recv done:",
  "call tw.mu.Lock",
  "defer{",
  "call tw.mu.Unlock",
  "}",
  "call w.Header",
  "range tw.h {",
  "mapset dst",
  "}",
  statusCond,
  "call w.WriteHeader",
  "}",
  "call tw.wbuf.Bytes",
  "call w.Write",
  "case recv ctx.Done(); call ctx.Done:",
  "call tw.mu.Lock",
  "defer{",
  "call tw.mu.Unlock",
  "}",
  "call r.Context",
  "call ctx.Err",
  "func{",
  "if errors.Is(err, context.Canceled) {",
  "call w.WriteHeader",
  "}",
  "else{",
  "call w.WriteHeader",
  "}",
  "call h.errorBody",
  "call io.WriteString",
  "}",
  "call httpx.ErrorCtx",
  "store tw.timedOut",
  "}"]

def statusCondPinned : String := "if tw.code != http.StatusOK {"
def statusCondFixed : String := "if tw.code != http.StatusOK && !tw.flushed {"

/-- the context handed to the work is the one returned by `context.WithTimeout(r.Context(), h.dt)`; the work writes
to `tw`, not `w`; exempt requests get `w, r` untouched; the timeout branch writes 499 for Canceled else 503, then the reason,
then sets `timedOut`; `panicChan` is buffered (capacity 1: a handler that panics after the select has been left
does not block, model: `panicChan : Option Nat`), `done` is closed (not sent on), the re-raised value is the received one -/
def expected_serveHTTPFlow : List String := [
  "h.handler.ServeHTTP(w, r)",
  "ctx, cancelCtx := context.WithTimeout(r.Context(), h.dt)",
  "r = r.WithContext(ctx)",
  "done := make(chan struct{})",
  "tw := &timeoutWriter{ w: w, h: make(http.Header), req: r, code: http.StatusOK, }",
  "panicChan := make(chan any, 1)",
  "panicChan <- p",
  "h.handler.ServeHTTP(tw, r)",
  "close(done)",
  "panic(p)",
  "dst[k] = vv",
  "w.WriteHeader(tw.code)",
  "w.Write(tw.wbuf.Bytes())",
  "w.WriteHeader(statusClientClosedRequest)",
  "w.WriteHeader(http.StatusServiceUnavailable)",
  "_, _ = io.WriteString(w, h.errorBody())",
  "tw.timedOut = true"]

theorem tie_serveHTTPFlow : serveHTTPFlow = expected_serveHTTPFlow := rfl

/-- `Write`: under `mu`; `timedOut` → ErrHandlerTimeout before anything is buffered (model: `twStep .write`) -/
def expected_twWriteShape : List String := [
  "call tw.mu.Lock",
  "defer{",
  "call tw.mu.Unlock",
  "}",
  "if tw.timedOut {",
  "return",
  "}",
  "if !tw.wroteHeader {",
  "call tw.writeHeaderLocked",
  "}",
  "call tw.wbuf.Write",
  "return"]

theorem tie_twWriteShape : twWriteShape = expected_twWriteShape := rfl

/-- `WriteHeader`: under `mu`, only the first call counts (model: `twStep .writeHeader`) -/
def expected_twWriteHeaderShape : List String := [
  "call tw.mu.Lock",
  "defer{",
  "call tw.mu.Unlock",
  "}",
  "if !tw.wroteHeader {",
  "call tw.writeHeaderLocked",
  "}"]

theorem tie_twWriteHeaderShape : twWriteHeaderShape = expected_twWriteHeaderShape := rfl

/-- `writeHeaderLocked`: code check first (panic), then `timedOut` → nothing, `wroteHeader` → log only, else store -/
def expected_twWriteHeaderLockedShape : List String := [
  "call checkWriteHeaderCode",
  "switch {",
  "case tw.timedOut:",
  "return",
  "case tw.wroteHeader:",
  "if tw.req != nil {",
  "call relevantCaller",
  "call path.Base",
  "}",
  "default:",
  "store tw.wroteHeader",
  "store tw.code",
  "}"]

theorem tie_twWriteHeaderLockedShape : twWriteHeaderLockedShape = expected_twWriteHeaderLockedShape := rfl

/-- `Flush` before fixes/C04-flush-after-timeout.patch: no `mu`, no `timedOut` test, copies headers, writes and resets the buffer (model: `flushNowPinned`,
`stepPinned`; findings flush-after-timeout / flush-drops-status) -/
def expected_twFlushPinned : List String := [
  "flusher, ok := tw.w.(http.Flusher)",
  "if !ok {",
  "return",
  "}",
  "header := tw.w.Header()",
  "range tw.h {",
  "header[k] = v",
  "}",
  "tw.w.Write(tw.wbuf.Bytes())",
  "tw.wbuf.Reset()",
  "flusher.Flush()"]

/-- `Flush` with fixes/C04-flush-after-timeout.patch: under `mu` (deferred unlock), nothing once `timedOut`, the
first flush sends the buffered status (model: `hstep` flush case, `flushNow`) -/
def expected_twFlushFixed : List String := [
  "flusher, ok := tw.w.(http.Flusher)",
  "if !ok {",
  "return",
  "}",
  "tw.mu.Lock()",
  "defer tw.mu.Unlock()",
  "if tw.timedOut {",
  "return",
  "}",
  "header := tw.w.Header()",
  "range tw.h {",
  "header[k] = v",
  "}",
  "if !tw.flushed && tw.code != http.StatusOK {",
  "tw.w.WriteHeader(tw.code)",
  "}",
  "tw.flushed = true",
  "tw.w.Write(tw.wbuf.Bytes())",
  "tw.wbuf.Reset()",
  "flusher.Flush()"]

/-- `Flush` and the done branch are both in the pinned form or both in the fixed form — never half.  (The
correspondence run accepts, per line with a `Flush`, the pinned or the fixed model and counts which one explained it;
the monitor reports the pinned behaviour as the recorded findings flush-after-timeout / flush-drops-status.) -/
theorem tie_twFlush :
    (twFlushDetail = expected_twFlushPinned ∧ serveHTTPShape = expected_serveHTTPShape statusCondPinned) ∨
    (twFlushDetail = expected_twFlushFixed ∧ serveHTTPShape = expected_serveHTTPShape statusCondFixed) := by
  -- which of the two forms the tree has is not known here
  first | exact .inl ⟨rfl, rfl⟩ | exact .inr ⟨rfl, rfl⟩

/-- the done branch writes the buffered status unless it is 200 — and (fixed code) unless a `Flush` has sent it already -/
theorem tie_serveHTTPShape :
    serveHTTPShape = expected_serveHTTPShape statusCondPinned ∨
    serveHTTPShape = expected_serveHTTPShape statusCondFixed := tie_twFlush.imp And.right And.right

/-- `Hijack` as a straight pass-through (model: `hijackPinned`; finding hijack-after-timeout) or with
fixes/C04-hijack-after-timeout.patch: under `mu`, ErrHandlerTimeout once `timedOut` (model: `hijack`) -/
theorem tie_twHijack :
    twHijackDetail = ["if hijacked, ok := tw.w.(http.Hijacker); ok {", "return hijacked.Hijack()", "}",
      "return nil, nil, errors.New(\"server doesn't support hijacking\")"] ∨
    twHijackDetail = ["tw.mu.Lock()", "defer tw.mu.Unlock()", "if tw.timedOut {", "return nil, nil, http.ErrHandlerTimeout", "}",
      "if hijacked, ok := tw.w.(http.Hijacker); ok {", "return hijacked.Hijack()", "}",
      "return nil, nil, errors.New(\"server doesn't support hijacking\")"] := by
  first | exact .inl rfl | exact .inr rfl

/-- `Push` is a pass-through to the underlying writer (HTTP/2 push promises are not part of this response; not modelled) -/
theorem tie_twPush :
    twPushDetail = ["if pusher, ok := tw.w.(http.Pusher); ok {", "return pusher.Push(target, opts)", "}",
      "return http.ErrNotSupported"] := rfl

/-- the timeout branch's `httpx.ErrorCtx(…, fn)`: without a user-installed error handler (`handler == nil`) exactly the
functions passed are called — our closure writing 499/503 + reason, no header (model: `mAdv` rows t1→t3) -/
theorem tie_httpxDefault :
    httpxErrorCtx = ["doHandleError(w, err, buildErrorHandler(ctx), writeJson, fns...)"] ∧
    httpxDefaultError = ["if handler == nil { if len(fns) > 0 { range fns { fn(w, err)"] := ⟨rfl, rfl⟩

/-- zrpc/server.go `setupUnaryInterceptors` (model: `srvWiredDeadline`, `srvGlueIcpt`) -/
theorem tie_zrpcSrvWiring :
    zrpcSrvWiring = ["if c.Timeout > 0 { svr.AddUnaryInterceptors(serverinterceptors.UnaryTimeoutInterceptor( time.Duration(c.Timeout)*time.Millisecond, c.MethodTimeouts...))"] := rfl

/-- zrpc/client.go `NewClient`, zrpc/internal/client.go `WithTimeout` / `buildDialOptions` / `buildUnaryInterceptors` (model:
`cliConfTimeout`, `cliWiredDeadline`, `cliGlueConfOpts`, `cliGlueDialTimeout`, `cliGlueIcpt`) -/
theorem tie_zrpcCliWiring :
    zrpcCliConf = ["if c.Timeout > 0 { opts = append(opts, WithTimeout(time.Duration(c.Timeout)*time.Millisecond))",
      "opts = append(opts, options...)"] ∧
    zrpcCliWithTimeoutOpt = ["options.Timeout = timeout"] ∧
    zrpcCliDialOptions = ["var cliOpts ClientOptions", "range opts { opt(&cliOpts)",
      "options = append(options, grpc.WithChainUnaryInterceptor(c.buildUnaryInterceptors(cliOpts.Timeout)...), grpc.WithChainStreamInterceptor(c.buildStreamInterceptors()...), )",
      "return append(options, cliOpts.DialOptions...)"] ∧
    zrpcCliWiring = ["if c.middlewares.Timeout { interceptors = append(interceptors, clientinterceptors.TimeoutInterceptor(timeout))"] ∧
    zrpcWithCallTimeout = ["return clientinterceptors.WithCallTimeout(timeout)"] := ⟨rfl, rfl, rfl, rfl, rfl⟩

/-- `Header()` hands out the map without locking (model: `setHeader` needs no lock) -/
def expected_twHeaderShape : List String := [
  "return"]

theorem tie_twHeaderShape : twHeaderShape = expected_twHeaderShape := rfl

/-- UnaryTimeoutInterceptor closure.  Model rows (`srvStep`): worker = lock; `resp, err = handler(ctx, req)`; close(done);
deferred unlock / recover → send panicChan.  Main = select: panic | done → lock → return resp, err | ctx.Done → status error -/
def expected_srvShape : List String := [
  "call getTimeoutByUnaryServerInfo",
  "call context.WithTimeout",
  "defer{",
  "call cancel",
  "}",
  "go{",
  "func{",
  "defer{",
  "func{",
  "recover",
  "if p != nil {",
  "call debug.Stack",
  "send panicChan",
  "}",
  "}",
  "call func",
  "}",
  "call lock.Lock",
  "defer{",
  "call lock.Unlock",
  "}",
  "call handler",
  "close done",
  "}",
  "call func",
  "}",
  "select{",
  "case recv panicChan:",
  "panic",
  "case recv done:",
  "call lock.Lock",
  "defer{",
  "call lock.Unlock",
  "}",
  "return",
  "case recv ctx.Done(); call ctx.Done:",
  "call ctx.Err",
  "if errors.Is(err, context.Canceled) {",
  "call err.Error",
  "call status.Error",
  "}",
  "else{",
  "if errors.Is(err, context.DeadlineExceeded) {",
  "call err.Error",
  "call status.Error",
  "}",
  "}",
  "return",
  "}"]

theorem tie_srvShape : srvShape = expected_srvShape := rfl

/-- the handler gets the derived ctx; the timeout result is `nil` + Canceled/DeadlineExceeded status -/
def expected_srvFlow : List String := [
  "t := getTimeoutByUnaryServerInfo(info.FullMethod, timeouts, timeout)",
  "ctx, cancel := context.WithTimeout(ctx, t)",
  "resp, err = handler(ctx, req)",
  "return resp, err",
  "err := ctx.Err()",
  "err = status.Error(codes.Canceled, err.Error())",
  "err = status.Error(codes.DeadlineExceeded, err.Error())",
  "return nil, err"]

theorem tie_srvFlow : srvFlow = expected_srvFlow := rfl

/-- per-method timeout if present else the default (model: `srvTimeout`) -/
def expected_srvMethodTimeoutShape : List String := [
  "if ok {",
  "return",
  "}",
  "return"]

theorem tie_srvMethodTimeoutShape : srvMethodTimeoutShape = expected_srvMethodTimeoutShape := rfl

/-- method table: entries with an empty method name are skipped, later entries overwrite (model: `srvTimeout`) -/
def expected_srvBuildMethodTimeoutsShape : List String := [
  "range timeouts {",
  "if st.FullMethod != \"\" {",
  "mapset mt",
  "}",
  "}",
  "return"]

theorem tie_srvBuildMethodTimeoutsShape : srvBuildMethodTimeoutsShape = expected_srvBuildMethodTimeoutsShape := rfl

/-- client interceptor: `t <= 0` → pass through; else WithTimeout + deferred cancel (model: `cliWraps`, `cliDeadline`) -/
def expected_cliShape : List String := [
  "call getTimeoutFromCallOptions",
  "if t <= 0 {",
  "call invoker",
  "return",
  "}",
  "call context.WithTimeout",
  "defer{",
  "call cancel",
  "}",
  "call invoker",
  "return"]

theorem tie_cliShape : cliShape = expected_cliShape := rfl

/-- the invoker gets the derived ctx (second call) or the caller's (pass-through); its error is returned as is -/
def expected_cliFlow : List String := [
  "t := getTimeoutFromCallOptions(opts, timeout)",
  "return invoker(ctx, method, req, reply, cc, opts...)",
  "ctx, cancel := context.WithTimeout(ctx, t)",
  "return invoker(ctx, method, req, reply, cc, opts...)"]

theorem tie_cliFlow : cliFlow = expected_cliFlow := rfl

/-- first `TimeoutCallOption` wins (model: `cliTimeout`) -/
def expected_cliCallOptionShape : List String := [
  "range opts {",
  "if ok {",
  "return",
  "}",
  "}",
  "return"]

theorem tie_cliCallOptionShape : cliCallOptionShape = expected_cliCallOptionShape := rfl

/-- fx.DoWithTimeout.  Model rows (`fxStep`): worker = `done <- fn()` / recover → send panicChan; main = select panic | done | ctx.Done -/
def expected_fxShape : List String := [
  "call context.Background",
  "range opts {",
  "call opt",
  "}",
  "call context.WithTimeout",
  "defer{",
  "call cancel",
  "}",
  "go{",
  "func{",
  "defer{",
  "func{",
  "recover",
  "if p != nil {",
  "call debug.Stack",
  "send panicChan",
  "}",
  "}",
  "call func",
  "}",
  "call fn",
  "send done",
  "}",
  "call func",
  "}",
  "select{",
  "case recv panicChan:",
  "panic",
  "case recv done:",
  "return",
  "case recv ctx.Done(); call ctx.Done:",
  "call ctx.Err",
  "return",
  "}"]

theorem tie_fxShape : fxShape = expected_fxShape := rfl

/-- parent = Background, overridden by each option in turn (last wins); result = fn's error or ctx.Err() -/
def expected_fxFlow : List String := [
  "parentCtx := context.Background()",
  "parentCtx = opt()",
  "ctx, cancel := context.WithTimeout(parentCtx, timeout)",
  "done <- fn()",
  "return err",
  "return ctx.Err()"]

theorem tie_fxFlow : fxFlow = expected_fxFlow := rfl

end GoZero.C04.Tie
