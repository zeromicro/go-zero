/-
C04 — the REST two-thread system: `step` as a relation (`Step`, one constructor per enabled branch), the invariant `Inv`
that says where the real writer, the lock and `timedOut` stand for each program counter of ServeHTTP, and its
preservation by cases on `Step`; then the header-map lemmas (`hget_*`, `hmerge_*`), the sequential run of a script against
the abstract result (`Spec`), and the effect of an action once `timedOut` is set.
-/
import GoZero.C04.Spec
import GoZero.C04.ProofsList
namespace GoZero.C04

/-- a handler script that sets headers, writes the status and body chunks, returns or panics, and never calls `Flush` -/
def NoFlush (script : List Act) : Prop := ∀ a ∈ script, a ≠ Act.flush

/-- one action of the handler run on its own (context not ended): the real writer (only `Flush` touches it) and the
timeoutWriter -/
def seqStep (p : Rec × TW) (a : Act) : Rec × TW :=
  match a with
  | .flush => flushNow p.1 p.2
  | a => (p.1, (twStep p.2 a).1)

def runF (p : Rec × TW) (acts : List Act) : Rec × TW := acts.foldl seqStep p

/-- the handler's first actions run on a fresh request -/
def runI (acts : List Act) : Rec × TW := runF (Rec.init, TW.init) acts

/-- the real writer as a function of where ServeHTTP's goroutine is: what the work itself has flushed, plus the
part of the timeout response written so far.  After the return through the timeout branch the writer is frozen at the
moment `j` of the timeout while the handler's `hpc` goes on: hence `∃ j ≤ hpc` there and an equation everywhere else. -/
def wOfPc (reason : List Nat) (s : St) : Prop :=
  match s.pc with
  | .select => s.w = (runI (s.script.take s.hpc)).1
  | .t1 _ => s.w = (runI (s.script.take s.hpc)).1
  | .panicked _ => s.w = (runI (s.script.take s.hpc)).1
  | .t2 k => s.w = (runI (s.script.take s.hpc)).1.writeHeader (statusOf k)
  | .t3 k => s.w = ((runI (s.script.take s.hpc)).1.writeHeader (statusOf k)).write reason
  | .retTimeout k => ∃ j, j ≤ s.hpc ∧ s.w = ((runI (s.script.take j)).1.writeHeader (statusOf k)).write reason
  | .retDone => s.w = doneBranch (runI s.script).1 (runI s.script).2

def muOfPc (s : St) : Prop :=
  match s.pc with
  | .t1 _ => s.mu = true
  | .t2 _ => s.mu = true
  | .t3 _ => s.mu = true
  | _ => s.mu = false

def timedOutOfPc (s : St) : Prop :=
  match s.pc with
  | .retTimeout _ => s.tw.timedOut = true
  | _ => s.tw.timedOut = false

/-- Every reachable state is the SEQUENTIAL run `runI` of the handler's first `hpc` actions: `tw_run` says so of the
timeoutWriter (until `timedOut` is set), `w_pc` of the real writer, so a schedule only chooses which prefix.  The other
clauses say when `done` is closed (`done_fin`, `fin_all`, `rd_fin`), whose value is in `panicChan` or re-raised (`pan`,
`pp_pan`), and who holds `mu` and whether `timedOut` is set, per program counter (`mu_pc`, `to_pc`). -/
structure Inv (reason : List Nat) (script : List Act) (s : St) : Prop where
  scr : s.script = script
  hpc_le : s.hpc ≤ s.script.length
  tw_run : s.tw.timedOut = false → s.tw = (runI (s.script.take s.hpc)).2
  done_fin : s.done = true ↔ s.hst = .finished
  fin_all : s.hst = .finished → s.hpc = s.script.length
  pan : ∀ v, s.panicChan = some v → s.hst = .panicked ∧ s.log.getLast? = some (.panicked v)
  rd_fin : s.pc = .retDone → s.hst = .finished
  pp_pan : ∀ v, s.pc = .panicked v → s.hst = .panicked ∧ s.log.getLast? = some (.panicked v)
  w_pc : wOfPc reason s
  mu_pc : muOfPc s
  to_pc : timedOutOfPc s

theorem twStep_frame (t : TW) (a : Act) :
    (twStep t a).1.timedOut = t.timedOut ∧ (twStep t a).1.flushed = t.flushed := by
  cases a <;> simp only [twStep, TW.writeHeaderLocked] <;> (repeat' split) <;> trivial

theorem runTW_cons (t : TW) (a : Act) (rest : List Act) : runTW t (a :: rest) = runTW (twStep t a).1 rest := rfl

theorem runTW_snoc (t : TW) (l : List Act) (a : Act) : runTW t (l ++ [a]) = (twStep (runTW t l) a).1 := by
  simp [runTW, List.foldl_append]

theorem runI_snoc (l : List Act) (a : Act) : runI (l ++ [a]) = seqStep (runI l) a := by
  simp [runI, runF, List.foldl_append]

theorem seqStep_nonflush (p : Rec × TW) (a : Act) (ha : a ≠ .flush) : seqStep p a = (p.1, (twStep p.2 a).1) := by
  cases a <;> simp_all [seqStep]

theorem take_succ_of_get {l : List Act} {i : Nat} {a : Act} (h : l[i]? = some a) :
    l.take (i + 1) = l.take i ++ [a] := by
  rw [List.take_add_one, h]; rfl

theorem lt_of_get {l : List Act} {i : Nat} {a : Act} (h : l[i]? = some a) : i < l.length :=
  (List.getElem?_eq_some_iff.mp h).1

theorem mem_of_get {l : List Act} {i : Nat} {a : Act} (h : l[i]? = some a) : a ∈ l :=
  List.mem_of_getElem? h

/-- `WriteHeader` and `Write` run under `tw.mu` (`Flush` too, it has its own constructors below) -/
def underLock : Act → Bool
  | .writeHeader _ | .write _ => true
  | _ => false

/-- `step` read as a relation (`Step.of_step`): one constructor per enabled branch, with the conditions under which it
is enabled.  Every action of the handler other than `Flush` is `lockedAct` (a `panic` and a `Header().Set` are its two
degenerate cases, and need no lock).  No proof uses the lock premise of `act`: nothing here rests on `Write` / `WriteHeader`
waiting for `tw.mu` (on `Flush` waiting, `pc_select_of_flush_enabled` does); that the real code holds the lock there is what
the Driver's `tbw` lines test. -/
inductive Step (reason : List Nat) (s : St) : Label → St → Prop
  | finish : s.hst = .running → s.script[s.hpc]? = none → Step reason s .h { s with hst := .finished, done := true }
  | flushLate : s.hst = .running → s.script[s.hpc]? = some .flush → s.mu = false → s.tw.timedOut = true →
      Step reason s .h { s with hpc := s.hpc + 1, log := s.log ++ [.ok] }
  | flush : s.hst = .running → s.script[s.hpc]? = some .flush → s.mu = false → s.tw.timedOut = false →
      Step reason s .h { s with w := (flushNow s.w s.tw).1, tw := (flushNow s.w s.tw).2, hpc := s.hpc + 1,
                                log := s.log ++ [.ok] }
  | act (a : Act) : s.hst = .running → s.script[s.hpc]? = some a → a ≠ .flush → (underLock a = true → s.mu = false) →
      Step reason s .h (lockedAct s a)
  | env (k : Kind) : s.ctxErr = none → Step reason s (.env k) { s with ctxErr := some k }
  | mPanic (v : Nat) : s.pc = .select → s.panicChan = some v →
      Step reason s .mPanic { s with pc := .panicked v, panicChan := none }
  | mDone : s.pc = .select → s.done = true → Step reason s .mDone { s with w := doneBranch s.w s.tw, pc := .retDone }
  | mTimeout (k : Kind) : s.pc = .select → s.ctxErr = some k → Step reason s .mTimeout { s with pc := .t1 k, mu := true }
  | adv1 (k : Kind) : s.pc = .t1 k → Step reason s .mAdv { s with w := s.w.writeHeader (statusOf k), pc := .t2 k }
  | adv2 (k : Kind) : s.pc = .t2 k → Step reason s .mAdv { s with w := s.w.write reason, pc := .t3 k }
  | adv3 (k : Kind) : s.pc = .t3 k →
      Step reason s .mAdv { s with tw := { s.tw with timedOut := true }, mu := false, pc := .retTimeout k }

theorem Step.of_step {reason : List Nat} {s s' : St} {l : Label} (h : step reason s l = some s') : Step reason s l s' := by
  cases l with
  | h =>
    simp only [step] at h
    unfold hstep at h
    split at h
    · cases h
    · cases h
    · rename_i hr
      split at h
      · rename_i hg; cases h; exact .finish hr hg
      · rename_i hg
        split at h
        · cases h
        · rename_i hmu
          split at h <;> rename_i hto <;> cases h
          · exact .flushLate hr hg (by simpa using hmu) hto
          · exact .flush hr hg (by simpa using hmu) (by simpa using hto)
      · rename_i hg; cases h; exact .act _ hr hg nofun nofun
      · rename_i hg; cases h; exact .act _ hr hg nofun nofun
      · rename_i hg; split at h <;> rename_i hmu <;> cases h; exact .act _ hr hg nofun fun _ => by simpa using hmu
      · rename_i hg; split at h <;> rename_i hmu <;> cases h; exact .act _ hr hg nofun fun _ => by simpa using hmu
  | env k =>
    simp only [step] at h
    split at h <;> rename_i hc <;> cases h
    exact .env k (by simpa using hc)
  | mPanic => simp only [step] at h; split at h <;> cases h; rename_i hpc hp; exact .mPanic _ hpc hp
  | mDone =>
    simp only [step] at h
    split at h
    · rename_i hpc; split at h <;> rename_i hd <;> cases h; exact .mDone hpc hd
    · cases h
  | mTimeout => simp only [step] at h; split at h <;> cases h; rename_i hpc hk; exact .mTimeout _ hpc hk
  | mAdv =>
    simp only [step] at h
    split at h <;> cases h <;> rename_i hpc
    · exact .adv1 _ hpc
    · exact .adv2 _ hpc
    · exact .adv3 _ hpc

theorem Inv.timedOut_iff {reason : List Nat} {script : List Act} {s : St} (hi : Inv reason script s) :
    s.tw.timedOut = true ↔ ∃ k, s.pc = .retTimeout k := by
  have htpc := hi.to_pc
  unfold timedOutOfPc at htpc
  split at htpc
  · rename_i k hpc; exact ⟨fun _ => ⟨k, hpc⟩, fun _ => htpc⟩
  · rename_i hne; exact ⟨fun h => (nomatch h.symm.trans htpc), fun ⟨k, hk⟩ => (hne k hk).elim⟩

/-- while the handler is running nothing is in `panicChan` and ServeHTTP has not panicked: what is claimed of those cases
holds for want of a case -/
theorem Inv.idle {reason : List Nat} {script : List Act} {s : St} (hi : Inv reason script s) (hr : s.hst = .running)
    {P : Nat → Prop} : (∀ v, s.panicChan = some v → P v) ∧ (∀ v, s.pc = .panicked v → P v) :=
  ⟨fun v hv => (nomatch hr.symm.trans (hi.pan v hv).1), fun v hv => (nomatch hr.symm.trans (hi.pp_pan v hv).1)⟩

/-- the handler moves on by one action that does not touch the real writer: `tw` becomes `tw'` -/
theorem inv_move {reason : List Nat} {script : List Act} {s : St} (hi : Inv reason script s)
    (hr : s.hst = .running) {a : Act} (hg : s.script[s.hpc]? = some a) (r : Res) (tw' : TW)
    (hto : tw'.timedOut = s.tw.timedOut)
    (hrun : s.tw.timedOut = false → runI (s.script.take (s.hpc + 1)) = ((runI (s.script.take s.hpc)).1, tw')) :
    Inv reason script { s with tw := tw', hpc := s.hpc + 1, log := s.log ++ [r] } := by
  have hwpc := hi.w_pc
  have htpc := hi.to_pc
  refine { hi with hpc_le := lt_of_get hg, tw_run := fun ht => ?_, fin_all := fun hf => ?_,
                   pan := (hi.idle hr).1,
                   pp_pan := (hi.idle hr).2, w_pc := ?_, to_pc := ?_ }
  · simp only [] at ht ⊢
    rw [hto] at ht
    rw [hrun ht]
  · rw [hr] at hf; cases hf
  · -- the real writer is untouched by this action: before ServeHTTP's return it still holds what the work flushed
    simp only [timedOutOfPc] at htpc
    simp only [wOfPc] at hwpc ⊢
    split at hwpc <;> rename_i hpc <;> simp only [hpc] at htpc ⊢ <;> try (rw [hrun htpc]; exact hwpc)
    · obtain ⟨j, hj, hw⟩ := hwpc
      exact ⟨j, by omega, hw⟩
    · exact hwpc
  · simp only [timedOutOfPc, hto] at htpc ⊢
    exact htpc

theorem pc_select_of_flush_enabled {reason : List Nat} {script : List Act} {s : St} (hi : Inv reason script s)
    (hr : s.hst = .running) (hmu : s.mu = false) (hto : s.tw.timedOut = false) : s.pc = .select := by
  have hmpc := hi.mu_pc
  unfold muOfPc at hmpc
  cases hpc : s.pc with
  | select => rfl
  | t1 k | t2 k | t3 k => rw [hpc] at hmpc; simp [hmu] at hmpc
  | retDone => have := hi.rd_fin hpc; rw [hr] at this; cases this
  | retTimeout k => cases hto.symm.trans (hi.timedOut_iff.mpr ⟨k, hpc⟩)
  | panicked v => have := (hi.pp_pan v hpc).1; rw [hr] at this; cases this

theorem inv_step {reason : List Nat} {script : List Act} {s s' : St} {l : Label}
    (hi : Inv reason script s) (h : Step reason s l s') : Inv reason script s' := by
  have hwpc := hi.w_pc
  have hmpc := hi.mu_pc
  have htpc := hi.to_pc
  simp only [wOfPc, muOfPc, timedOutOfPc] at hwpc hmpc htpc
  cases h with
  | finish hr hnone =>
    have hlen : s.script.length ≤ s.hpc := List.getElem?_eq_none_iff.mp hnone
    have hle := hi.hpc_le
    exact { hi with done_fin := (by simp), fin_all := fun _ => (by simp only []; omega),
                    pan := (hi.idle hr).1, rd_fin := fun _ => rfl,
                    pp_pan := (hi.idle hr).2 }
  | flushLate hr hg hmu hto => exact inv_move hi hr hg .ok s.tw rfl fun hf => by rw [hto] at hf; cases hf
  | flush hr hg hmu hto =>
    -- the buffer goes to the real writer; ServeHTTP is still in its select
    have hsel := pc_select_of_flush_enabled hi hr hmu hto
    simp only [hsel] at hwpc
    have hrun : runI (s.script.take (s.hpc + 1)) = flushNow s.w s.tw := by
      rw [take_succ_of_get hg, runI_snoc]
      show flushNow _ _ = _
      rw [← hwpc, ← hi.tw_run hto]
    exact { hi with hpc_le := lt_of_get hg, tw_run := fun _ => (by simp only []; rw [hrun]),
                    fin_all := fun hf => (nomatch hr.symm.trans hf),
                    pan := (hi.idle hr).1,
                    pp_pan := (hi.idle hr).2,
                    w_pc := (by simp only [wOfPc, hsel]; rw [hrun]),
                    to_pc := by simpa [timedOutOfPc, hsel, flushNow] using hto }
  | act a hr hg ha =>
    unfold lockedAct
    split
    · -- the action panics (`panic`, or `checkWriteHeaderCode`): the deferred recover puts the value into `panicChan`
      exact { hi with done_fin := ⟨fun hd => (nomatch hr.symm.trans (hi.done_fin.mp hd)), nofun⟩, fin_all := nofun,
                      pan := fun v' hv => (by cases hv; exact ⟨rfl, by simp⟩),
                      rd_fin := fun hpc => (nomatch hr.symm.trans (hi.rd_fin hpc)),
                      pp_pan := (hi.idle hr).2 }
    · refine inv_move hi hr hg _ _ (twStep_frame _ _).1 fun hto => ?_
      rw [take_succ_of_get hg, runI_snoc, seqStep_nonflush _ _ ha, ← hi.tw_run hto]
  | env k _ => exact { hi with }
  | mPanic v hpc hpan =>
    simp only [hpc] at hwpc hmpc htpc
    exact { hi with pan := nofun, rd_fin := nofun, pp_pan := fun _ hv => (by cases hv; exact hi.pan v hpan),
                    w_pc := hwpc, mu_pc := hmpc, to_pc := htpc }
  | mDone hpc hd =>
    simp only [hpc] at hwpc hmpc htpc
    have hfin := hi.done_fin.mp hd
    refine { hi with rd_fin := fun _ => hfin, pp_pan := nofun, w_pc := ?_, mu_pc := hmpc, to_pc := htpc }
    show doneBranch s.w s.tw = _
    rw [hwpc, hi.tw_run htpc, hi.fin_all hfin, List.take_length]
  | mTimeout k hpc hctx =>
    simp only [hpc] at hwpc htpc
    exact { hi with rd_fin := nofun, pp_pan := nofun, w_pc := hwpc, mu_pc := rfl, to_pc := htpc }
  | adv1 k hpc | adv2 k hpc =>
    simp only [hpc] at hwpc hmpc htpc
    exact { hi with rd_fin := nofun, pp_pan := nofun, w_pc := (by show _ = _; rw [hwpc]),
                    mu_pc := hmpc, to_pc := htpc }
  | adv3 k hpc =>
    simp only [hpc] at hwpc
    exact { hi with tw_run := nofun, rd_fin := nofun, pp_pan := nofun, w_pc := ⟨s.hpc, Nat.le_refl _, hwpc⟩,
                    mu_pc := rfl, to_pc := rfl }

theorem runLabels_preserves {reason : List Nat} {P : St → Prop}
    (hP : ∀ s l s1, P s → step reason s l = some s1 → P s1) (ls : List Label) (s s' : St) (hs : P s)
    (hrun : runLabels reason s ls = some s') : P s' := by
  induction ls generalizing s with
  | nil => cases hrun; exact hs
  | cons l ls ih =>
    simp only [runLabels] at hrun
    split at hrun
    · rename_i s1 h1; exact ih s1 (hP s l s1 hs h1) hrun
    · cases hrun

theorem inv_reachable {reason : List Nat} {script : List Act} {s : St}
    (hr : Reachable reason script s) : Inv reason script s := by
  induction hr with
  | init =>
    refine ⟨rfl, Nat.zero_le _, ?_, ?_, ?_, ?_, ?_, ?_, ?_, ?_, ?_⟩ <;>
      simp [St.init, wOfPc, muOfPc, timedOutOfPc, runI, runF, TW.init, Rec.init]
  | step l _ hs ih => exact inv_step ih (.of_step hs)

theorem runF_noFlush (p : Rec × TW) (l : List Act) (hnf : ∀ a ∈ l, a ≠ Act.flush) :
    runF p l = (p.1, runTW p.2 l) := by
  induction l generalizing p with
  | nil => rfl
  | cons a rest ih =>
    obtain ⟨ha, hrest⟩ := List.forall_mem_cons.mp hnf
    have e : runF p (a :: rest) = runF (seqStep p a) rest := rfl
    rw [e, ih _ hrest, seqStep_nonflush _ _ ha]
    rfl

theorem runI_noFlush (l : List Act) (hnf : ∀ a ∈ l, a ≠ Act.flush) : runI l = (Rec.init, runTW TW.init l) :=
  runF_noFlush _ l hnf

theorem noFlush_take {script : List Act} (hnf : NoFlush script) (j : Nat) : ∀ a ∈ script.take j, a ≠ Act.flush :=
  fun a ha => hnf a (List.mem_of_mem_take ha)

def keysNodup (h : Hdrs) : Prop := (h.map (·.1)).Nodup

theorem hget_nil (k : Nat) : hget [] k = none := rfl

theorem hget_cons (p : Nat × Nat) (ps : Hdrs) (k : Nat) :
    hget (p :: ps) k = if p.1 = k then some p.2 else hget ps k := by
  unfold hget
  rw [List.find?_cons]
  cases h : p.1 == k <;> simp_all

theorem hget_append (a b : Hdrs) (k : Nat) :
    hget (a ++ b) k = match hget a k with | some v => some v | none => hget b k := by
  unfold hget
  rw [List.find?_append]
  cases List.find? (fun p => p.1 == k) a <;> rfl

theorem hget_hset (h : Hdrs) (k v k' : Nat) :
    hget (hset h k v) k' = if k = k' then some v else hget h k' := assoc_set_get h k k' v

theorem hget_none_of_not_mem (h : Hdrs) (k : Nat) (hk : k ∉ h.map (·.1)) : hget h k = none := by
  induction h with
  | nil => rfl
  | cons p ps ih =>
    simp only [List.map_cons, List.mem_cons, not_or] at hk
    rw [hget_cons]
    have : ¬ p.1 = k := fun e => hk.1 e.symm
    simp [this, ih hk.2]

theorem keysNodup_hset (h : Hdrs) (k v : Nat) (hh : keysNodup h) : keysNodup (hset h k v) := by
  unfold keysNodup hset at *
  rw [List.map_append, List.nodup_append]
  refine ⟨?_, by simp, ?_⟩
  · exact (List.Nodup.sublist (List.Sublist.map _ List.filter_sublist) hh)
  · intro a ha b hb
    simp only [List.map_cons, List.map_nil, List.mem_singleton] at hb
    subst hb
    simp only [List.mem_map, List.mem_filter] at ha
    obtain ⟨p, ⟨_, hp⟩, rfl⟩ := ha
    simpa using hp

theorem hset_fresh (d : Hdrs) (k v : Nat) (hk : ∀ p ∈ d, p.1 ≠ k) : hset d k v = d ++ [(k, v)] := by
  unfold hset
  congr 1
  apply List.filter_eq_self.mpr
  intro p hp
  simpa using hk p hp

theorem hmerge_fresh (d s : Hdrs) (hs : keysNodup s) (hd : ∀ p ∈ d, ∀ q ∈ s, p.1 ≠ q.1) : hmerge d s = d ++ s := by
  induction s generalizing d with
  | nil => simp [hmerge]
  | cons q qs ih =>
    obtain ⟨hq, hqs⟩ := List.nodup_cons.mp hs
    have e : hmerge d (q :: qs) = hmerge (hset d q.1 q.2) qs := rfl
    rw [e, hset_fresh d q.1 q.2 fun p hp => hd p hp q List.mem_cons_self, ih _ hqs, List.append_assoc]
    · rfl
    · intro p hp r hr
      rcases List.mem_append.mp hp with hp | hp
      · exact hd p hp r (List.mem_cons_of_mem _ hr)
      · cases List.mem_singleton.mp hp
        exact fun he => hq (List.mem_map.mpr ⟨r, hr, he.symm⟩)

theorem hmerge_nil (s : Hdrs) (hs : keysNodup s) : hmerge [] s = s := by
  simpa using hmerge_fresh [] s hs (by simp)

theorem twStep_h (t : TW) (a : Act) :
    (twStep t a).1.h = match a with | .setHeader k v => hset t.h k v | _ => t.h := by
  cases a <;> simp only [twStep, TW.writeHeaderLocked] <;> (repeat' split) <;> rfl

theorem runTW_keysNodup (t : TW) (s : List Act) (ht : keysNodup t.h) : keysNodup (runTW t s).h := by
  induction s generalizing t with
  | nil => exact ht
  | cons a rest ih =>
    rw [runTW_cons]
    apply ih
    rw [twStep_h]
    cases a with
    | setHeader k v => exact keysNodup_hset _ _ _ ht
    | _ => exact ht

/-- `Spec.header` with the initial value a variable (the induction of `runTW_hget` needs it) -/
def headerFrom (init : Option Nat) (script : List Act) (k : Nat) : Option Nat :=
  script.foldl (fun acc a => match a with
    | .setHeader k' v => if k' = k then some v else acc
    | _ => acc) init

theorem runTW_hget (t : TW) (s : List Act) (k : Nat) :
    hget (runTW t s).h k = headerFrom (hget t.h k) s k := by
  induction s generalizing t with
  | nil => rfl
  | cons a rest ih =>
    rw [runTW_cons, ih]
    unfold headerFrom
    simp only [List.foldl_cons]
    congr 1
    rw [twStep_h]
    cases a with
    | setHeader k' v => exact hget_hset _ _ _ _
    | _ => rfl

theorem twStep_wbuf (t : TW) (a : Act) (hto : t.timedOut = false) :
    (twStep t a).1.wbuf = t.wbuf ++ match a with | .write b => b | _ => [] := by
  cases a <;> simp only [twStep, TW.writeHeaderLocked, hto] <;> (repeat' split) <;> simp_all

theorem runTW_wbuf (t : TW) (s : List Act) (hto : t.timedOut = false) :
    (runTW t s).wbuf = t.wbuf ++ Spec.body s := by
  induction s generalizing t with
  | nil => simp [runTW, Spec.body]
  | cons a rest ih =>
    rw [runTW_cons, ih _ ((twStep_frame t a).1.trans hto)]
    rw [twStep_wbuf t a hto]
    cases a <;> simp [Spec.body]

theorem runTW_code_wrote (t : TW) (s : List Act) (hw : t.wroteHeader = true) : (runTW t s).code = t.code := by
  induction s generalizing t with
  | nil => rfl
  | cons a rest ih =>
    have h : (twStep t a).1.wroteHeader = true ∧ (twStep t a).1.code = t.code := by
      cases a <;> simp [twStep, hw] <;> split <;> simp [hw]
    rw [runTW_cons, ih _ h.1, h.2]

theorem runTW_code (t : TW) (s : List Act) (hw : t.wroteHeader = false) (hto : t.timedOut = false)
    (hc : t.code = 200) (hcomp : Spec.completes s false = true) :
    (runTW t s).code = Spec.status s := by
  induction s generalizing t with
  | nil => simpa [runTW, Spec.status] using hc
  | cons a rest ih =>
    rw [runTW_cons]
    cases a with
    | setHeader | flush =>
      simp only [Spec.completes, Spec.status] at hcomp ⊢
      exact ih _ (by simp [twStep, hw]) (by simp [twStep, hto]) (by simp [twStep, hc]) hcomp
    | writeHeader c =>
      simp only [Spec.completes, Spec.status, Bool.false_or, Bool.and_eq_true] at hcomp ⊢
      simp only [twStep, hw, hcomp.1, TW.writeHeaderLocked, hto]
      simp
      rw [runTW_code_wrote _ _ (by simp)]
    | write b =>
      simp only [Spec.completes, Spec.status] at hcomp ⊢
      simp only [twStep, hw, TW.writeHeaderLocked, hto]
      simp
      rw [runTW_code_wrote _ _ (by simp)]
    | panic v => simp [Spec.completes] at hcomp

theorem runTW_flushed (t : TW) (s : List Act) : (runTW t s).flushed = t.flushed := by
  induction s generalizing t with
  | nil => rfl
  | cons a rest ih =>
    rw [runTW_cons, ih, (twStep_frame t a).2]

theorem Rec.write_wrote (r : Rec) (b : List Nat) : (r.write b).wrote = true := by
  unfold Rec.write Rec.writeHeader; split <;> simp [*]

theorem Rec.flush_of_wrote {r : Rec} (h : r.wrote = true) : r.flush = r := by
  simp [Rec.flush, Rec.writeHeader, h]

theorem doneBranch_fresh (t : TW) (hf : t.flushed = false) :
    doneBranch Rec.init t =
      { hdr := hmerge [] t.h, snap := some (hmerge [] t.h), code := t.code, wrote := true, body := t.wbuf } := by
  unfold doneBranch Rec.write Rec.writeHeader Rec.init
  by_cases h : t.code = 200 <;> simp [h, hf]

theorem doneBranch_written (w : Rec) (t : TW) (hw : w.wrote = true) :
    doneBranch w t = { w with hdr := hmerge w.hdr t.h, body := w.body ++ t.wbuf } := by
  unfold doneBranch Rec.write Rec.writeHeader
  split <;> simp [hw]

theorem flushNow_fst (w : Rec) (t : TW) : (flushNow w t).1 = doneBranch w t := by
  simp only [flushNow, doneBranch, Rec.flush_of_wrote (Rec.write_wrote _ _), Bool.and_comm]

theorem twStep_of_timedOut (t : TW) (a : Act) (h : t.timedOut = true) :
    (twStep t a).1.wbuf = t.wbuf ∧ (twStep t a).1.code = t.code := by
  cases a <;> simp [twStep, TW.writeHeaderLocked, h] <;> (repeat' split) <;> simp

theorem lockedAct_w_pc (s : St) (a : Act) : (lockedAct s a).w = s.w ∧ (lockedAct s a).pc = s.pc := by
  unfold lockedAct; split <;> exact ⟨rfl, rfl⟩

theorem lockedAct_of_timedOut (s : St) (a : Act) (h : s.tw.timedOut = true) :
    (lockedAct s a).tw.wbuf = s.tw.wbuf ∧ (lockedAct s a).tw.code = s.tw.code ∧ (lockedAct s a).tw.timedOut = true := by
  unfold lockedAct; split
  · exact ⟨rfl, rfl, h⟩
  · exact ⟨(twStep_of_timedOut _ a h).1, (twStep_of_timedOut _ a h).2, (twStep_frame _ a).1.trans h⟩

theorem lockedAct_write_timedOut (s : St) (b : List Nat) (h : s.tw.timedOut = true) :
    lockedAct s (.write b) = { s with hpc := s.hpc + 1, log := s.log ++ [.errTimeout] } := by
  simp [lockedAct, twStep, h]

end GoZero.C04
