/-
C04 — the monitor's streaming semantics (`Spec.completeF`, `Spec.streamedPrefix`: what `Spec.check` compares the real
response with) against the model (`runI` + `doneBranch`).  The monitor's stream state is a function of the model's (real
writer, timeoutWriter) pair (`streamOf`) and one action moves it as `Spec.Stream.step` does (`stream_step`), so
`Spec.stream script = streamOf (runI script)` along every script that completes (`stream_runI`).
-/
import GoZero.C04.Props
namespace GoZero.C04.Props
open GoZero.C04

/-- the monitor's stream state, read off the model's (real writer, timeoutWriter) pair -/
def streamOf (p : Rec × TW) : Spec.Stream :=
  { sent := if p.2.flushed then some (p.1.code, p.1.snap.getD p.1.hdr) else none
    code := if p.2.wroteHeader then some p.2.code else none
    hdrs := p.2.h
    flushed := p.1.body
    pending := p.2.wbuf }

/-- what holds of the pair while the handler runs on its own: the real writer is untouched until the first `Flush`, and
has its status line and header snapshot out from then on -/
structure Streaming (p : Rec × TW) : Prop where
  nto : p.2.timedOut = false
  c200 : p.2.wroteHeader = false → p.2.code = 200
  nd : keysNodup p.2.h
  fresh : p.2.flushed = false → p.1 = Rec.init
  sent : p.2.flushed = true → p.1.wrote = true ∧ ∃ h, p.1.snap = some h

theorem streamOf_code_getD (t : TW) (c200 : t.wroteHeader = false → t.code = 200) :
    (if t.wroteHeader then some t.code else none).getD 200 = t.code := by
  cases hw : t.wroteHeader <;> simp [c200, hw]

theorem stream_step (p : Rec × TW) (a : Act) (rest : List Act) (hi : Streaming p)
    (hc : Spec.completes (a :: rest) p.2.wroteHeader = true) :
    Streaming (seqStep p a) ∧ streamOf (seqStep p a) = (streamOf p).step a ∧
      Spec.completes rest (seqStep p a).2.wroteHeader = true := by
  obtain ⟨w, t⟩ := p
  have ⟨nto, c200, nd, fresh, sent⟩ := hi
  simp only at nto c200 nd fresh sent hc
  cases a with
  | setHeader k v => exact ⟨{ hi with nd := keysNodup_hset t.h k v nd }, rfl, hc⟩
  | panic v => simp [Spec.completes] at hc
  | writeHeader c =>
    simp only [Spec.completes, Bool.and_eq_true, Bool.or_eq_true] at hc
    cases hw : t.wroteHeader with
    | true =>
      have e : seqStep (w, t) (.writeHeader c) = (w, t) := by simp [seqStep, twStep, hw]
      rw [e]
      exact ⟨hi, by simp [streamOf, Spec.Stream.step, hw], by simpa [hw] using hc.2⟩
    | false =>
      have hv : validCode c = true := by simpa [hw] using hc.1
      have e : seqStep (w, t) (.writeHeader c) = (w, { t with wroteHeader := true, code := c }) := by
        simp [seqStep, twStep, hw, hv, TW.writeHeaderLocked, nto]
      rw [e]
      exact ⟨{ hi with c200 := nofun }, by simp [streamOf, Spec.Stream.step, hw], hc.2⟩
  | write b =>
    simp only [Spec.completes] at hc
    -- an implicit `WriteHeader(200)` if none came before, then the chunk goes to the buffer
    have e : seqStep (w, t) (.write b) =
        (w, { t with wroteHeader := true, code := if t.wroteHeader then t.code else 200, wbuf := t.wbuf ++ b }) := by
      cases hw : t.wroteHeader <;> simp [seqStep, twStep, hw, nto, TW.writeHeaderLocked]
    rw [e]
    exact ⟨{ hi with c200 := nofun }, by cases hw : t.wroteHeader <;> simp [streamOf, Spec.Stream.step, hw], hc⟩
  | flush =>
    simp only [Spec.completes] at hc
    have e : seqStep (w, t) .flush = (doneBranch w t, { t with wbuf := [], flushed := true }) := by
      show flushNow w t = _
      rw [← flushNow_fst]; rfl
    rw [e]
    cases hf : t.flushed with
    | false =>
      -- the first Flush: status line and header snapshot go out with the buffer
      rw [fresh hf, doneBranch_fresh t hf, hmerge_nil t.h nd]
      exact ⟨{ hi with fresh := nofun, sent := fun _ => ⟨rfl, _, rfl⟩ },
        by simp [streamOf, Spec.Stream.step, hf, streamOf_code_getD t c200, Rec.init], hc⟩
    | true =>
      obtain ⟨hwr, h, hsn⟩ := sent hf
      rw [doneBranch_written w t hwr]
      exact ⟨{ hi with fresh := nofun, sent := fun _ => ⟨hwr, h, hsn⟩ }, by simp [streamOf, Spec.Stream.step, hf, hsn], hc⟩

theorem stream_run (acts : List Act) (p : Rec × TW) (hi : Streaming p)
    (hc : Spec.completes acts p.2.wroteHeader = true) :
    Streaming (runF p acts) ∧ acts.foldl Spec.Stream.step (streamOf p) = streamOf (runF p acts) := by
  induction acts generalizing p with
  | nil => exact ⟨hi, rfl⟩
  | cons a rest ih =>
    obtain ⟨h1, h2, h3⟩ := stream_step p a rest hi hc
    rw [List.foldl_cons, ← h2]
    exact ih (seqStep p a) h1 h3

theorem stream_runI (script : List Act) (hc : Spec.completes script false = true) :
    Streaming (runI script) ∧ Spec.stream script = streamOf (runI script) :=
  stream_run script (Rec.init, TW.init) ⟨rfl, fun _ => rfl, List.nodup_nil, fun _ => rfl, fun h => nomatch h⟩ hc

/-- **Monitor soundness for streaming handlers — status, headers and body.**  For EVERY script that completes — `Flush`
anywhere, any number of times — the client view of the model's complete response (`case <-done` after the handler's own
run) IS `Spec.completeF`, the monitor's notion of "the work's complete result". -/
theorem complete_is_specF (script : List Act) (hc : Spec.completes script false = true) :
    Spec.ofRec (doneBranch (runI script).1 (runI script).2) = Spec.completeF script := by
  obtain ⟨⟨nto, c200, nd, fresh, sent⟩, hs⟩ := stream_runI script hc
  unfold Spec.completeF
  rw [hs]
  generalize runI script = p at *
  obtain ⟨w, t⟩ := p
  simp only at nto c200 nd fresh sent ⊢
  cases hf : t.flushed with
  | false =>
    rw [fresh hf, doneBranch_fresh t hf, hmerge_nil t.h nd]
    simp [streamOf, hf, streamOf_code_getD t c200, Spec.ofRec]
  | true =>
    obtain ⟨hwr, h, hsn⟩ := sent hf
    rw [doneBranch_written w t hwr]
    simp [streamOf, hf, hsn, Spec.ofRec]

/-- what the monitor says is already with the client after the first `i` actions (`Spec.streamedPrefix`) IS the client
view of the model's real writer at that moment — status, headers and body (for a script prefix that runs without a panic) -/
theorem streamed_prefix_is_flushed (script : List Act) (i : Nat)
    (hc : Spec.completes (script.take i) false = true) (v : Spec.View) (hv : Spec.streamedPrefix script i = some v) :
    Spec.ofRec (runI (script.take i)).1 = v := by
  unfold Spec.streamedPrefix at hv
  rw [(stream_runI _ hc).2] at hv
  cases hf : (runI (script.take i)).2.flushed <;> simp [streamOf, hf] at hv
  rw [← hv]; rfl

/-- … and nothing is with the client (`Spec.streamedPrefix = none`) only when nothing has been written to the model's real writer -/
theorem streamed_prefix_none_is_untouched (script : List Act) (i : Nat)
    (hc : Spec.completes (script.take i) false = true) (hv : Spec.streamedPrefix script i = none) :
    (runI (script.take i)).1.wrote = false ∧ (runI (script.take i)).1.body = [] ∧ (runI (script.take i)).1.hdr = [] ∧
      (runI (script.take i)).1.snap = none := by
  obtain ⟨hi, hs⟩ := stream_runI _ hc
  unfold Spec.streamedPrefix at hv
  rw [hs] at hv
  have hf : (runI (script.take i)).2.flushed = false := by
    cases hf : (runI (script.take i)).2.flushed <;> simp [streamOf, hf] at hv ⊢
  rw [hi.fresh hf]
  exact ⟨rfl, rfl, rfl, rfl⟩

/-! ### a handler goroutine that ends by `runtime.Goexit` (or blocks for good)

`runtime.Goexit` runs the deferred calls of ServeHTTP's worker goroutine — `recover()` returns nil, so nothing is sent on
`panicChan` — and `close(done)` is never reached: for ServeHTTP such a handler is one that has performed a prefix of its
script and never takes another step.  The transition system has those schedules already; what the property demands of
them: -/

/-- while the handler goroutine has neither returned nor panicked, ServeHTTP cannot come back through `done` or through
`panicChan`: the ONLY way out is the timeout branch (always enabled once the context has ended:
`timeout_branch_always_enabled`), whose response `response_with_flush` describes — never the "complete" result of the
prefix the handler happened to perform -/
theorem stalled_handler_returns_only_by_timeout (reason : List Nat) (script : List Act) (s : St)
    (hr : Reachable reason script s) (hrun : s.hst = .running) :
    step reason s .mDone = none ∧ step reason s .mPanic = none := by
  have hi := inv_reachable hr
  refine ⟨Option.eq_none_iff_forall_ne_some.mpr fun s' h => ?_, Option.eq_none_iff_forall_ne_some.mpr fun s' h => ?_⟩
  · cases Step.of_step h with
    | mDone _ hd => exact nomatch hrun.symm.trans (hi.done_fin.mp hd)
  · cases Step.of_step h with
    | mPanic v _ hp => exact nomatch hrun.symm.trans (hi.pan v hp).1

example : step [82] (St.init [.write [97]]) .mDone = none := by decide

example : Spec.completes [.writeHeader 404, .write [97], .flush, .write [98], .flush, .setHeader 1 2, .write [99]] false = true := by decide
example :
    let s : List Act := [.writeHeader 404, .write [97], .flush, .write [98], .flush, .setHeader 1 2, .write [99]]
    Spec.ofRec (doneBranch (runI s).1 (runI s).2) = Spec.completeF s := by decide

end GoZero.C04.Props
