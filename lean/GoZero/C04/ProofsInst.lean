/-
C04 — helper lemmas for the closure-level models (method table, option scan, sequences of calls).
-/
import GoZero.C04.Model
import GoZero.C04.ProofsList
namespace GoZero.C04

theorem tableGet_set (m : MTable) (k : Nat) (v : Int) (k' : Nat) :
    tableGet (tableSet m k v) k' = if k = k' then some v else tableGet m k' := assoc_set_get m k k' v

theorem tableGet_build_aux (l : List (Nat × Int)) (acc : MTable) (m : Nat) :
    tableGet (l.foldl (fun mt st => if st.1 != 0 then tableSet mt st.1 st.2 else mt) acc) m =
      match l.reverse.find? (fun p => p.1 != 0 && p.1 == m) with
      | some p => some p.2
      | none => tableGet acc m := by
  induction l generalizing acc with
  | nil => simp
  | cons x xs ih =>
    rw [List.foldl_cons, ih, List.reverse_cons, List.find?_append]
    cases hf : xs.reverse.find? (fun p => p.1 != 0 && p.1 == m) with
    | some p => simp
    | none =>
      by_cases hm : x.1 = m
      · subst hm; by_cases h0 : x.1 = 0 <;> simp [h0, tableGet_set]
      · by_cases h0 : x.1 = 0 <;> simp [h0, hm, tableGet_set]

theorem SrvInst.run_eq (i : SrvInst) (calls : List Call) :
    i.run calls = calls.map (fun c => (i.call c.method c.parent c.now).1) := by
  induction calls with
  | nil => rfl
  | cons c cs ih => simp [SrvInst.run, SrvInst.call] at *; exact ih

theorem CliInst.run_eq (i : CliInst) (calls : List Call) :
    i.run calls = calls.map (fun c => (i.call c.opts c.parent c.now).1) := by
  induction calls with
  | nil => rfl
  | cons c cs ih => simp [CliInst.run, CliInst.call] at *; exact ih

end GoZero.C04
