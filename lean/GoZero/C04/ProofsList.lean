/-
C04 — two facts about lists that the models of Go maps and of overwrite loops rest on.
-/
namespace GoZero.C04

/-- `m[k] = v` (drop the key, append the pair), then a lookup, on a Go map kept as an association list: the common
form of `hset` / `hget` and `tableSet` / `tableGet` -/
theorem assoc_set_get {α : Type} (m : List (Nat × α)) (k k' : Nat) (v : α) :
    ((m.filter (fun p => p.1 != k) ++ [(k, v)]).find? (fun p => p.1 == k')).map (·.2) =
      if k = k' then some v else (m.find? (fun p => p.1 == k')).map (·.2) := by
  rw [List.find?_append, List.find?_filter]
  by_cases hk : k = k'
  · subst hk
    have : m.find? (fun a => decide ((a.1 != k) = true ∧ (a.1 == k) = true)) = none :=
      List.find?_eq_none.mpr (by simp)
    rw [this]; simp
  · have hk2 : ¬ k' = k := fun e => hk e.symm
    have : ∀ a : Nat × α, decide ((a.1 != k) = true ∧ (a.1 == k') = true) = (a.1 == k') := by
      intro a; by_cases h1 : a.1 = k' <;> simp [h1, hk2]
    simp only [this]; simp [hk]

/-- `for _, opt := range opts { x = opt }` -/
theorem foldl_last {α : Type} (l : List α) (a : α) : l.foldl (fun _ t => t) a = l.getLast?.getD a := by
  induction l generalizing a with
  | nil => rfl
  | cons x xs ih =>
    rw [List.foldl_cons, ih, List.getLast?_cons]
    rfl

end GoZero.C04
