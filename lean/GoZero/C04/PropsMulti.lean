/-
C04 — several requests (calls) in flight together: `mstep` / `mselStep` are free products of single-request systems (why
that is the model: Model.lean at `mstep`).  Every component of a reachable product state is reachable in its own system
(`multi_request_independent`, `multi_call_independent`) and an interleaved run seen from one request is a run of that
request alone (`runMulti_proj`), so the single-request theorems hold of every request of every interleaving.
-/
import GoZero.C04.Props
namespace GoZero.C04.Props
open GoZero.C04

theorem multi_step_leaves_others (reason : List Nat) (m m' : MSt) (i : Nat) (l : Label)
    (h : mstep reason m i l = some m') (j : Nat) (hj : j ≠ i) : m' j = m j := by
  unfold mstep at h
  split at h
  · cases h; simp [hj]
  · cases h

theorem multi_step_is_single_step (reason : List Nat) (m m' : MSt) (i : Nat) (l : Label)
    (h : mstep reason m i l = some m') : step reason (m i) l = some (m' i) := by
  unfold mstep at h
  split at h
  · rename_i s' hs; cases h; simp [hs]
  · cases h

/-- **Requests are independent.**  For every number of requests, every assignment of handler scripts and every
interleaving of their steps: the state of each request is a reachable state of its own single-request system. -/
theorem multi_request_independent (reason : List Nat) (scripts : Nat → List Act) (m : MSt)
    (hr : MReachable reason scripts m) (i : Nat) : Reachable reason (scripts i) (m i) := by
  induction hr with
  | init => exact Reachable.init
  | step k l _ hs ih =>
    by_cases hik : i = k
    · subst hik
      exact Reachable.step l ih (multi_step_is_single_step reason _ _ _ l hs)
    · rw [multi_step_leaves_others reason _ _ k l hs i hik]; exact ih

/-- `response_with_flush` for every request of every interleaving of any number of requests -/
theorem multi_response_with_flush (reason : List Nat) (scripts : Nat → List Act) (m : MSt)
    (hr : MReachable reason scripts m) (i : Nat) :
    match (m i).pc with
    | .retDone => (m i).w = doneBranch (runI (scripts i)).1 (runI (scripts i)).2 ∧ (m i).hst = .finished
    | .retTimeout k => ∃ j, j ≤ (scripts i).length ∧ (m i).tw.timedOut = true ∧
        (m i).w = ((runI ((scripts i).take j)).1.writeHeader (statusOf k)).write reason
    | .panicked _ => ∃ j, j ≤ (scripts i).length ∧ (m i).w = (runI ((scripts i).take j)).1
    | _ => True :=
  response_with_flush reason (scripts i) (m i) (multi_request_independent reason scripts m hr i)

/-- **No write after the timeout, with other requests in flight.**  Once request `i` has timed out, no step of any
request — its own late handler or any other request `k` — changes what its client got or its buffered state, and a late
`Write` of its own handler returns ErrHandlerTimeout. -/
theorem multi_no_write_after_timeout (reason : List Nat) (scripts : Nat → List Act) (m m' : MSt)
    (hr : MReachable reason scripts m) (i : Nat) (hto : (m i).tw.timedOut = true) (k : Nat) (l : Label)
    (hs : mstep reason m k l = some m') :
    (m' i).w = (m i).w ∧ (m' i).tw.wbuf = (m i).tw.wbuf ∧ (m' i).tw.code = (m i).tw.code ∧ (m' i).tw.timedOut = true ∧
    (∀ b, k = i → l = .h → (m i).script[(m i).hpc]? = some (.write b) → (m' i).log = (m i).log ++ [.errTimeout]) := by
  by_cases hik : i = k
  · subst hik
    have h1 := multi_step_is_single_step reason m m' i l hs
    have h2 := no_write_after_timeout reason (scripts i) (m i) (m' i) (multi_request_independent reason scripts m hr i) hto l h1
    exact ⟨h2.1, h2.2.1, h2.2.2.1, h2.2.2.2.1, fun b _ hl hb => h2.2.2.2.2 b hl hb⟩
  · rw [multi_step_leaves_others reason m m' k l hs i hik]
    exact ⟨rfl, rfl, rfl, hto, fun _ hki => absurd hki.symm hik⟩

/-- a (late) step of request `i` leaves the real writer and the timeoutWriter of every other request `j` untouched -/
theorem multi_late_step_harmless_to_others (reason : List Nat) (m m' : MSt) (i j : Nat) (hij : j ≠ i) (l : Label)
    (hs : mstep reason m i l = some m') : (m' j).w = (m j).w ∧ (m' j).tw = (m j).tw ∧ (m' j).log = (m j).log := by
  rw [multi_step_leaves_others reason m m' i l hs j hij]; exact ⟨rfl, rfl, rfl⟩

theorem runMulti_proj {reason : List Nat} {m m' : MSt} {ls : List (Nat × Label)} (h : runMulti reason m ls = some m')
    (i : Nat) : runLabels reason (m i) (ls.filterMap fun p => if p.1 = i then some p.2 else none) = some (m' i) := by
  induction ls generalizing m with
  | nil => cases h; rfl
  | cons p ls ih =>
    obtain ⟨k, l⟩ := p
    simp only [runMulti] at h
    split at h
    · rename_i m1 hs
      by_cases hik : k = i
      · subst hik
        simp only [List.filterMap_cons, if_true, runLabels, multi_step_is_single_step reason m m1 k l hs]
        exact ih h
      · simp only [List.filterMap_cons, hik, if_false]
        rw [← multi_step_leaves_others reason m m1 k l hs i (Ne.symm hik)]
        exact ih h
    · cases h

/-- `response_stable_after_return` for every request: after request `i`'s ServeHTTP has returned, whatever ALL requests do
later leaves its response as it was -/
theorem multi_response_stable_after_return (reason : List Nat) (scripts : Nat → List Act) (m : MSt)
    (hr : MReachable reason scripts m) (i : Nat) (hret : Returned (m i)) (ls : List (Nat × Label)) (m' : MSt)
    (hrun : runMulti reason m ls = some m') : (m' i).w = (m i).w ∧ (m' i).pc = (m i).pc :=
  response_stable_after_return reason (scripts i) (m i) (multi_request_independent reason scripts m hr i) hret _ (m' i)
    (runMulti_proj hrun i)

/-- non-vacuity: request 0 (`Write a`, then a late `Write b`) times out while its handler is still running; request 1
(`WriteHeader 201; Write c`) then runs to completion while request 0's handler performs its late Write: request 1's client
gets exactly 201/"c", request 0's client exactly the 503, and the late Write failed. -/
def exScripts : Nat → List Act
  | 0 => [.write [97], .write [98]]
  | 1 => [.writeHeader 201, .write [99]]
  | _ => []

def exSchedule : List (Nat × Label) :=
  [(0, .h), (0, .env .deadline), (0, .mTimeout), (0, .mAdv), (0, .mAdv), (0, .mAdv),
   (1, .h), (0, .h), (1, .h), (1, .h), (1, .mDone)]

example : (runMulti [82] (MSt.init exScripts) exSchedule).map (fun m => ((m 0).w.view, (m 0).log)) =
    some ((503, [], [82]), [.ok, .errTimeout]) := by decide

example : (runMulti [82] (MSt.init exScripts) exSchedule).map (fun m => ((m 1).w.view, (m 1).pc)) =
    some ((201, [], [99]), .retDone) := by decide

example : MReachable [82] exScripts (MSt.init exScripts) := MReachable.init

/-- **Calls are independent.**  For every number of calls in flight, every work and every interleaving: the state of
each call is a reachable state of its own single-call system (`stepf` = `srvStep` or `fxStep`). -/
theorem multi_call_independent (stepf : SelSt → SelLabel → Option SelSt) (works : Nat → Work) (m : MSel)
    (hr : MSelReach stepf works m) (i : Nat) : SelReach stepf (works i) (m i) := by
  induction hr with
  | init => exact SelReach.init
  | @step m m' k l _ hs ih =>
    unfold mselStep at hs
    split at hs
    · rename_i s' hs'
      cases hs
      by_cases hik : i = k
      · subst hik; simp only [if_true]; exact SelReach.step l ih hs'
      · simp only [hik, if_false]; exact ih
    · cases hs

/-- the outcome law for every call of every interleaving of calls through one server interceptor: what call `i` returns
is ITS OWN work's (resp, err), or the timeout result of ITS OWN context's end, or its own work's panic -/
theorem multi_rpc_result_or_timeout (works : Nat → Work) (m : MSel) (hr : MSelReach srvStep works m) (i : Nat) (o : Outcome)
    (ho : (m i).out = some o) : OutcomeOK (works i) (m i).ctxErr o :=
  rpc_result_or_timeout (works i) (m i) (multi_call_independent srvStep works m hr i) o ho

/-- the same for several `fx.DoWithTimeout` calls in flight -/
theorem multi_fx_result_or_timeout (works : Nat → Work) (m : MSel) (hr : MSelReach fxStep works m) (i : Nat) (o : Outcome)
    (ho : (m i).out = some o) : FxOutcomeOK (works i) (m i).ctxErr o :=
  fx_result_or_timeout (works i) (m i) (multi_call_independent fxStep works m hr i) o ho

/-- non-vacuity: call 0 (work panics late) has timed out; call 1 (work returns 5) has not returned yet: a reachable two-call state -/
def exWorks : Nat → Work
  | 0 => .panic 7
  | 1 => .ret 5 0
  | _ => .never

example : ∃ m, MSelReach srvStep exWorks m ∧ (m 0).out = some (.timeout .deadline) ∧ (m 1).out = none := by
  refine ⟨_, MSelReach.step 0 .mTimeout (MSelReach.step 0 (.env .deadline) MSelReach.init rfl) rfl, ?_, ?_⟩ <;> rfl

end GoZero.C04.Props
