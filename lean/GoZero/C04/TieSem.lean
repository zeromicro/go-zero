/-
C04 — semantic Tie: the decision-making part of the four wrappers and of the zrpc glue, translated from the Go source by the
`c04sem` translator of extract/c04.go (`Extracted.C04.*`), equals the model's definitions for all arguments: which timeout
is selected, when the wrapper wraps, which context reaches the work and the select, and that no per-call body assigns to a
name declared outside it.  A changed operator, constant, argument or order in the source breaks one of these.
-/
import GoZero.Extracted.C04
import GoZero.C04.PropsInst
namespace GoZero.C04.TieSem
open GoZero.C04

/-- the translator's meaning of `context.WithTimeout` is the model's -/
theorem tie_sem_withTimeout (parent : Option Int) (now t : Int) :
    Extracted.C04.wt parent now t = withTimeout parent now t := by
  cases parent <;> rfl

theorem tie_sem_map (m : List (Nat × Int)) (k : Nat) (v : Int) :
    Extracted.C04.mapGet m k = tableGet m k ∧ Extracted.C04.mapSet m k v = tableSet m k v := ⟨rfl, rfl⟩

/-- `getTimeoutByUnaryServerInfo`: the method's entry if the map has one, else the default -/
theorem tie_sem_getTimeoutByUnaryServerInfo (method : Nat) (timeouts : List (Nat × Int)) (dflt : Int) :
    Extracted.C04.getTimeoutByUnaryServerInfo method timeouts dflt = getTimeoutByUnaryServerInfo method timeouts dflt := rfl

/-- `buildMethodTimeouts`: in order, entries with the empty method name skipped, later entries overwrite -/
theorem tie_sem_buildMethodTimeouts (conf : List (Nat × Int)) :
    Extracted.C04.buildMethodTimeouts conf = buildMethodTimeouts conf := rfl

/-- the context handed to the zRPC handler, and the one the interceptor's select listens to, is
`WithTimeout(caller's ctx, getTimeoutByUnaryServerInfo(info.FullMethod, buildMethodTimeouts(conf), timeout))` — the closure
model's call, and (declaratively) `srvDeadline` -/
theorem tie_sem_srvHandlerCtx (timeout : Int) (conf : List (Nat × Int)) (ctx : Option Int) (now : Int) (method : Nat) :
    Extracted.C04.srvHandlerCtx timeout conf ctx now method = ((SrvInst.new timeout conf).call method ctx now).1 ∧
    Extracted.C04.srvSelectCtx timeout conf ctx now method = ((SrvInst.new timeout conf).call method ctx now).1 ∧
    Extracted.C04.srvHandlerCtx timeout conf ctx now method = srvDeadline timeout conf method ctx now := by
  have h : Extracted.C04.srvHandlerCtx timeout conf ctx now method = ((SrvInst.new timeout conf).call method ctx now).1 := by
    simp only [Extracted.C04.srvHandlerCtx, SrvInst.call, SrvInst.new, tie_sem_withTimeout]
    rfl
  refine ⟨h, ?_, ?_⟩
  · simp only [Extracted.C04.srvSelectCtx, SrvInst.call, SrvInst.new, tie_sem_withTimeout]
    rfl
  · exact h.trans (Props.srv_call_deadline timeout conf method ctx now)

/-- `getTimeoutFromCallOptions`: the first TimeoutCallOption's timeout, else the default -/
theorem tie_sem_getTimeoutFromCallOptions (opts : List (Option Int)) (dflt : Int) :
    Extracted.C04.getTimeoutFromCallOptions opts dflt = getTimeoutFromCallOptions opts dflt := by
  unfold Extracted.C04.getTimeoutFromCallOptions getTimeoutFromCallOptions
  induction opts with
  | nil => rfl
  | cons o os ih =>
    cases o with
    | none => simpa [List.findSome?] using ih
    | some t => simp [List.findSome?]

/-- the context handed to the zRPC client's invoker: the caller's when `t <= 0`, else `WithTimeout(caller's, t)` with
`t := getTimeoutFromCallOptions(opts, timeout)` — the closure model's call, and `cliDeadline` -/
theorem tie_sem_cliInvokerCtx (timeout : Int) (ctx : Option Int) (now : Int) (opts : List (Option Int)) :
    Extracted.C04.cliInvokerCtx timeout ctx now opts = ((CliInst.mk timeout).call opts ctx now).1 ∧
    Extracted.C04.cliInvokerCtx timeout ctx now opts = cliDeadline timeout opts ctx now := by
  have h : Extracted.C04.cliInvokerCtx timeout ctx now opts = ((CliInst.mk timeout).call opts ctx now).1 := by
    simp only [Extracted.C04.cliInvokerCtx, CliInst.call, tie_sem_withTimeout, tie_sem_getTimeoutFromCallOptions]
    by_cases ht : getTimeoutFromCallOptions opts timeout ≤ 0 <;> simp [ht]
  exact ⟨h, h.trans (Props.cli_call_deadline timeout opts ctx now)⟩

/-- `WithCallTimeout(t)` is a `TimeoutCallOption` carrying `t`; fx's `WithContext(ctx)` is an option returning `ctx` -/
theorem tie_sem_optionCtors :
    Extracted.C04.cliWithCallTimeout = ["return TimeoutCallOption{ timeout: timeout, }"] ∧
    Extracted.C04.fxWithContext = ["return ctx"] := ⟨rfl, rfl⟩

/-- the context fx.DoWithTimeout's select listens to: `WithTimeout(<context of the last option, else Background>, timeout)` -/
theorem tie_sem_fxSelectCtx (timeout : Int) (opts : List (Option Int)) (now : Int) :
    Extracted.C04.fxSelectCtx timeout opts now = withTimeout (fxParentLoop opts) now timeout ∧
    Extracted.C04.fxSelectCtx timeout opts now = fxDeadline timeout opts now := by
  have h : Extracted.C04.fxSelectCtx timeout opts now = withTimeout (fxParentLoop opts) now timeout := by
    simp only [Extracted.C04.fxSelectCtx, tie_sem_withTimeout]
    rfl
  exact ⟨h, by rw [h, Props.fx_parent_is_last_option]; rfl⟩

/-- REST: `TimeoutHandler(duration)` installs no wrapper iff `duration <= 0`, else one with `dt = duration`; ServeHTTP hands the
request on untouched iff `Upgrade == "websocket" || Accept == "text/event-stream"`, else with
`WithTimeout(r.Context(), h.dt)` — together: the model's `restDeadline` for every duration, headers, caller deadline, time -/
theorem tie_sem_restHandlerCtx (duration : Int) (hdr : String → String) (parent : Option Int) (now : Int) :
    (match Extracted.C04.timeoutHandlerDt duration with
      | none => parent
      | some dt => Extracted.C04.restHandlerCtx dt hdr parent now) =
    restDeadline duration ⟨hdr "Upgrade" == "websocket", hdr "Accept" == "text/event-stream"⟩ parent now := by
  unfold Extracted.C04.restHandlerCtx Extracted.C04.headerUpgrade Extracted.C04.valueWebsocket Extracted.C04.headerAccept
    Extracted.C04.valueSSE
  -- only the values of the two header tests matter; taken out first, because `simp` pays for every literal it walks over
  generalize (hdr "Upgrade" == "websocket") = u
  generalize (hdr "Accept" == "text/event-stream") = a
  simp only [Extracted.C04.timeoutHandlerDt, restDeadline, restWraps, tie_sem_withTimeout]
  by_cases hd : duration ≤ 0
  · have : ¬ duration > 0 := by omega
    simp [hd, this]
  · have : duration > 0 := by omega
    simp only [hd, this, decide_false, decide_true, Bool.true_and]
    cases u <;> cases a <;> simp

/-- `restExempt` of the model is that test -/
theorem tie_sem_restExempt (u a : String) :
    restExempt u a = ((u == Extracted.C04.valueWebsocket) || (a == Extracted.C04.valueSSE)) := rfl

/-- no wrapper's per-call body assigns to a name declared outside it: nothing survives a call (model: the closure models
return themselves unchanged; the REST handler's only fields `handler`, `dt` are never written) -/
theorem tie_sem_no_state_between_calls :
    Extracted.C04.srvCapturedWrites = [] ∧ Extracted.C04.cliCapturedWrites = [] ∧
    Extracted.C04.fxCapturedWrites = [] ∧ Extracted.C04.restCapturedWrites = [] := ⟨rfl, rfl, rfl, rfl⟩

/-- no package-level variable in any of the four files (the extractor lists the named ones; the blank
`var _ http.Pusher = (*timeoutWriter)(nil)` of timeouthandler.go is an interface assertion and holds no state): nothing
(a pool of writers, a cached context, a shared buffer) outlives a request / a call; with `tie_sem_no_state_between_calls`
this is what makes several requests in flight the free
product of single-request systems (`mstep` in Model.lean, `Props.multi_request_independent`) -/
theorem tie_sem_no_package_state :
    Extracted.C04.restPackageVars = [] ∧ Extracted.C04.srvPackageVars = [] ∧
    Extracted.C04.cliPackageVars = [] ∧
    -- fx: only the two exported error aliases (values of `context`, assigned nowhere in the file: `fxCapturedWrites = []`)
    Extracted.C04.fxPackageVars = ["ErrCanceled = context.Canceled", "ErrTimeout = context.DeadlineExceeded"] :=
  ⟨rfl, rfl, rfl, rfl⟩

/-- zrpc/server.go `setupUnaryInterceptors`: guard `c.Timeout > 0`, unit (ms), and the method table forwarded whole -/
theorem tie_sem_srvGlue (confMs : Int) (mts : List (Nat × Int)) :
    Extracted.C04.srvGlueTimeoutIcpt confMs mts = srvGlueIcpt confMs mts := by
  unfold Extracted.C04.srvGlueTimeoutIcpt srvGlueIcpt
  by_cases h : confMs > 0 <;> simp [h]

/-- zrpc/internal/client.go `buildUnaryInterceptors`: installed exactly under `middlewares.Timeout`, with the timeout it was
given — for EVERY timeout, `≤ 0` included (the trial change seeded/C04-9 adds `&& timeout > 0`) -/
theorem tie_sem_cliGlueIcpt (mw : Bool) (timeout : Int) :
    Extracted.C04.cliGlueTimeoutIcpt mw timeout = cliGlueIcpt mw timeout := by
  unfold Extracted.C04.cliGlueTimeoutIcpt cliGlueIcpt; rfl

/-- zrpc/client.go `NewClient`: the configured timeout (if positive, in ms) goes IN FRONT of the caller's options -/
theorem tie_sem_cliGlueConfOpts (confMs : Int) (options : List (Option Int)) (other : Nat → Bool) :
    Extracted.C04.cliGlueConfOpts confMs options other = cliGlueConfOpts confMs options other := by
  unfold Extracted.C04.cliGlueConfOpts cliGlueConfOpts
  by_cases h : confMs > 0 <;> simp [h]

/-- `WithTimeout(t)` stores `t`; `buildDialOptions` applies the options in order on a zero `ClientOptions` and hands
`cliOpts.Timeout` to `buildUnaryInterceptors` -/
theorem tie_sem_cliGlueDial (opts : List (Option Int)) :
    (∀ t o, Extracted.C04.cliGlueApplyOpt t o = applyClientOpt t o) ∧
    Extracted.C04.cliGlueDialTimeout opts = cliGlueDialTimeout opts := by
  have h : ∀ t o, Extracted.C04.cliGlueApplyOpt t o = applyClientOpt t o := by
    intro t o; cases o <;> rfl
  refine ⟨h, ?_⟩
  unfold Extracted.C04.cliGlueDialTimeout cliGlueDialTimeout
  have : (fun cliOpts_Timeout opt => Extracted.C04.cliGlueApplyOpt cliOpts_Timeout opt) = applyClientOpt := by
    funext t o; exact h t o
  simp [this]

/-- the delegations between them forward the option list whole: internal.NewClient puts the balancer option in front,
`dial` hands `opts...` to `buildDialOptions` (model: `none :: …` in `cliConfigDeadline`) -/
theorem tie_cliGlueForwarding :
    Extracted.C04.zrpcCliInternalNew = ["opts = append([]ClientOption{balancerOpt}, opts...)", "err := cli.dial(target, opts...)"] ∧
    Extracted.C04.zrpcCliDial = ["options := c.buildDialOptions(opts...)", "conn, err := grpc.DialContext(timeCtx, server, options...)"] :=
  ⟨rfl, rfl⟩

/-- the delegating entry points as a TYPED forwarding list (function, callee, argument list): zrpc.NewClient hands
`c.Middlewares` and the whole option list to internal.NewClient, which puts exactly one (balancer) option in front and hands
`opts...` to `dial`, which hands `opts...` to `buildDialOptions` and its result to grpc; zrpc.WithCallTimeout and
Server.AddRoute forward all their arguments (model: `none :: …` in `cliConfigDeadline`; one group per AddRoute) -/
theorem tie_forwarding :
    Extracted.C04.zrpcForwarding = [
      ("NewClient", "internal.NewClient", ["target", "c.Middlewares", "opts..."]),
      ("NewClient", "append", ["[]ClientOption{balancerOpt}", "opts..."]),
      ("NewClient", "cli.dial", ["target", "opts..."]),
      ("client.dial", "c.buildDialOptions", ["opts..."]),
      ("client.dial", "grpc.DialContext", ["timeCtx", "server", "options..."]),
      ("WithCallTimeout", "clientinterceptors.WithCallTimeout", ["timeout"]),
      ("Server.AddRoute", "s.AddRoutes", ["[]Route{r}", "opts..."])] := rfl

example : Extracted.C04.cliGlueDialTimeout (none :: Extracted.C04.cliGlueConfOpts 2000 [none, some 7, none] (fun _ => true)) = 7 := by decide
example : Extracted.C04.cliGlueTimeoutIcpt true 0 = some 0 := by decide

example : Extracted.C04.srvHandlerCtx 2000 [(1, 120000), (0, 7), (1, 180000)] (some 500000) 10 1 = some 180010 := by decide
example : Extracted.C04.cliInvokerCtx 60000 (some 20500) 10 [none, some 15000] = some 15010 := by decide
example : Extracted.C04.fxSelectCtx 50 [some 10, some 700] 100 = some 150 := by decide
example : Extracted.C04.timeoutHandlerDt 0 = none ∧ Extracted.C04.timeoutHandlerDt 7 = some 7 := by decide

end GoZero.C04.TieSem
