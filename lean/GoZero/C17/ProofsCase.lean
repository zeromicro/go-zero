/-
C17 — `toLowerCaseKeyMap` over `buildFieldsInfo`: the info of a struct (`infoFields`), lowering a document and its
re-casings (`lower_recased*`), and the merging construction on fresh keys (`addAll_fresh`).
-/
import GoZero.C17.Proofs
namespace GoZero.C17

theorem infoField_eq_infoOf : ∀ (t : Ty), infoField t = infoOf t
  | .prim _ => by simp [infoField, infoOf]
  | .ptr t => by simp only [infoField, infoOf, infoField_eq_infoOf t]
  | .slice _ => by simp [infoField, infoOf]
  | .map _ => by simp [infoField, infoOf]
  | .struct _ => by simp [infoField, infoOf]

theorem IM.keys_append : ∀ (a b : IM), (a.append b).keys = a.keys ++ b.keys
  | .nil, _ => rfl
  | .cons k i t, b => by simp only [IM.append, IM.keys, IM.keys_append t b, List.cons_append]

theorem IM.get?_append : ∀ (a b : IM) (q : Str),
    (a.append b).get? q = match a.get? q with | some x => some x | none => b.get? q
  | .nil, _, _ => rfl
  | .cons k i t, b, q => by
    simp only [IM.append, IM.get?]
    split
    · rfl
    · exact IM.get?_append t b q

theorem IM.get?_mem_keys : ∀ (c : IM) (q : Str) (i : Info), c.get? q = some i → q ∈ c.keys
  | .nil, _, _, h => by simp [IM.get?] at h
  | .cons k j t, q, i, h => by
    simp only [IM.get?] at h
    simp only [IM.keys, List.mem_cons]
    split at h
    · rename_i hk; exact Or.inl hk.symm
    · exact Or.inr (IM.get?_mem_keys t q i h)

theorem infoFields_keys_lower : ∀ (fs : Fields) (k : Str), k ∈ (infoFields fs).keys → lower k = k
  | .nil, k, h => by simp [infoFields, IM.keys] at h
  | .cons f t rest, k, h => by
    by_cases he : f.embedded = true
    · cases t with
      | struct fs' =>
        simp only [infoFields, he, if_true, IM.keys_append, List.mem_append] at h
        exact h.elim (infoFields_keys_lower fs' k) (infoFields_keys_lower rest k)
      | _ => simp only [infoFields, he, if_true] at h; exact infoFields_keys_lower rest k h
    · unfold infoFields at h
      rw [if_neg he, IM.keys, List.mem_cons] at h
      exact h.elim (fun e => e ▸ lower_idem _) (infoFields_keys_lower rest k)

theorem infoFields_get? : ∀ (fs : Fields) (lk : Str),
    (infoFields fs).get? lk = (flatFind? fs lk).map infoOf
  | .nil, lk => by simp [infoFields, IM.get?, flatFind?]
  | .cons f t rest, lk => by
    unfold infoFields flatFind?
    by_cases he : f.embedded = true
    · rw [if_pos he, if_pos he]
      cases t with
      | struct fs' =>
        simp only [IM.get?_append, infoFields_get? fs' lk, infoFields_get? rest lk]
        cases flatFind? fs' lk <;> rfl
      | _ => exact infoFields_get? rest lk
    · rw [if_neg he, if_neg he, IM.get?]
      by_cases hk : lower f.tagKey = lk
      · simp [hk, infoField_eq_infoOf]
      · simp only [hk, if_false]
        exact infoFields_get? rest lk

/-- one step of `toLowerCaseKeyMap` at a struct position: the recorded keys are lower case, so a key found as it is
spelt is its own lowering, and the lookup of the lowered key decides. -/
theorem lowerMap_node (c : IM) (hc : ∀ k ∈ c.keys, lower k = k) (k : Str) (v : J) (t : JM) :
    lowerMap (.node c) (.cons k v t) =
      match c.get? (lower k) with
      | some ti => .cons (lower k) (lowerVal ti v) (lowerMap (.node c) t)
      | none => .cons k (lowerUnknown (.node c) v) (lowerMap (.node c) t) := by
  simp only [lowerMap, Info.child?, Info.mapField?]
  cases hk : c.get? k with
  | some ti => simp only [hc k (IM.get?_mem_keys c k ti hk), hk]
  | none => cases c.get? (lower k) <;> rfl

theorem lowerMap_mapOf (e : Info) (k : Str) (v : J) (t : JM) :
    lowerMap (.mapOf e) (.cons k v t) = .cons k (lowerVal e v) (lowerMap (.mapOf e) t) := by
  simp only [lowerMap, Info.child?, Info.mapField?]

theorem recasedTy_cases {t : Ty} {a b : J} (h : recasedTy t a b = true) :
    (∃ fs m m', (t = .struct fs ∨ t = .ptr (.struct fs)) ∧ a = .obj m ∧ b = .obj m' ∧ recasedStruct fs m m' = true) ∨
    (∃ t' l l', t = .slice t' ∧ a = .arr l ∧ b = .arr l' ∧ recasedList t' l l' = true) ∨
    (∃ t' m m', t = .map t' ∧ a = .obj m ∧ b = .obj m' ∧ recasedMapVals t' m m' = true) ∨ a = b := by
  unfold recasedTy at h
  split at h
  · exact .inl ⟨_, _, _, .inl rfl, rfl, rfl, h⟩
  · exact .inl ⟨_, _, _, .inr rfl, rfl, rfl, h⟩
  · exact .inr (.inl ⟨_, _, _, rfl, rfl, rfl, h⟩)
  · exact .inr (.inr (.inl ⟨_, _, _, rfl, rfl, rfl, h⟩))
  · exact .inr (.inr (.inr (by simpa using h)))

/- The four statements recurse through the document (`recasedStruct` finds the type of a value by `flatFind?`, so the
type does not decrease): the measure is the size of the first document. -/
mutual
theorem lower_recased : ∀ (t : Ty) (a b : J), recasedTy t a b = true →
    lowerVal (infoOf t) a = lowerVal (infoOf t) b
  | t, a, b, h => by
    obtain ⟨fs, m, m', ht, ha, hb, hr⟩ | ⟨t', l, l', ht, ha, hb, hr⟩ | ⟨t', m, m', ht, ha, hb, hr⟩ | hab :=
      recasedTy_cases h
    · have hs := lower_recased_struct fs m m' hr
      subst ha hb
      cases ht <;> subst t <;> simp only [infoOf, lowerVal, hs]
    · have hl := lower_recased_list t' l l' hr
      subst ht ha hb
      -- `lowerVal` turns the empty array into `nilArr`; the two arrays are empty together
      cases l <;> cases l' <;> first | rfl | cases hr | simp only [infoOf, lowerVal, hl]
    · have hm := lower_recased_mapvals t' m m' hr
      subst ht ha hb
      simp only [infoOf, lowerVal, hm]
    · rw [hab]
termination_by _ a => sizeOf a
decreasing_by all_goals subst ha; simp_wf
theorem lower_recased_list : ∀ (t : Ty) (l l' : JL), recasedList t l l' = true →
    lowerList (infoOf t) l = lowerList (infoOf t) l'
  | _, .nil, .nil, _ => rfl
  | t, .cons x xs, .cons y ys, h => by
    simp only [recasedList, Bool.and_eq_true] at h
    simp only [lowerList, lower_recased t x y h.1, lower_recased_list t xs ys h.2]
  | _, .nil, .cons _ _, h => by simp [recasedList] at h
  | _, .cons _ _, .nil, h => by simp [recasedList] at h
termination_by _ l => sizeOf l
decreasing_by all_goals simp_wf; omega
theorem lower_recased_mapvals : ∀ (t : Ty) (m m' : JM), recasedMapVals t m m' = true →
    lowerMap (.mapOf (infoOf t)) m = lowerMap (.mapOf (infoOf t)) m'
  | _, .nil, .nil, _ => rfl
  | t, .cons k v r, .cons k' v' r', h => by
    simp only [recasedMapVals, Bool.and_eq_true, decide_eq_true_eq] at h
    rw [lowerMap_mapOf, lowerMap_mapOf, h.1.1, lower_recased t v v' h.1.2, lower_recased_mapvals t r r' h.2]
  | _, .nil, .cons _ _ _, h => by simp [recasedMapVals] at h
  | _, .cons _ _ _, .nil, h => by simp [recasedMapVals] at h
termination_by _ m => sizeOf m
decreasing_by all_goals simp_wf; omega
theorem lower_recased_struct : ∀ (fs : Fields) (m m' : JM), recasedStruct fs m m' = true →
    lowerMap (.node (infoFields fs)) m = lowerMap (.node (infoFields fs)) m'
  | _, .nil, .nil, _ => rfl
  | fs, .cons k v r, .cons k' v' r', h => by
    simp only [recasedStruct, Bool.and_eq_true] at h
    have hc := infoFields_keys_lower fs
    have ht := lower_recased_struct fs r r' h.2
    have h1 := h.1
    split at h1
    · rename_i ft hf
      simp only [Bool.and_eq_true, decide_eq_true_eq] at h1
      have hg : (infoFields fs).get? (lower k) = some (infoOf ft) := by rw [infoFields_get?, hf]; rfl
      simp only [lowerMap_node _ hc, h1.1, hg, lower_recased ft v v' h1.2, ht]
    · rename_i hf
      simp only [Bool.and_eq_true, decide_eq_true_eq] at h1
      rw [h1.1, h1.2]
      have hg : (infoFields fs).get? (lower k) = none := by rw [infoFields_get?, hf]; rfl
      simp only [lowerMap_node _ hc, hg, ht]
  | _, .nil, .cons _ _ _, h => by simp [recasedStruct] at h
  | _, .cons _ _ _, .nil, h => by simp [recasedStruct] at h
termination_by _ m => sizeOf m
decreasing_by all_goals simp_wf; omega
end

theorem IM.append_assoc : ∀ (a b c : IM), (a.append b).append c = a.append (b.append c)
  | .nil, _, _ => rfl
  | .cons k i t, b, c => by simp [IM.append, IM.append_assoc t b c]

theorem IM.append_nil : ∀ (a : IM), a.append .nil = a
  | .nil => rfl
  | .cons k i t => by simp [IM.append, IM.append_nil t]

theorem addAll_fresh : ∀ (im acc : IM), (∀ q, im.keys.contains q = true → acc.get? q = none) → hasDup im.keys = false →
    addAll acc im = some (acc.append im)
  | .nil, acc, _, _ => by simp [addAll, IM.append_nil]
  | .cons k i t, acc, H, hd => by
    simp only [IM.keys, hasDup, Bool.or_eq_false_iff] at hd
    have hk : acc.get? k = none := H k (by simp [IM.keys])
    have ih := addAll_fresh t (acc.append (.cons k i .nil)) (by
      intro q hq
      have h1 : acc.get? q = none := H q (by simp only [IM.keys, List.contains_cons, hq, Bool.or_true])
      have hne : k ≠ q := by
        intro e; subst e; rw [hd.1] at hq; cases hq
      simp [IM.get?_append, h1, IM.get?, hne]) hd.2
    simp only [addAll, addOrMerge, hk, ih, IM.append_assoc, IM.append]

end GoZero.C17
