/-
C17 — the property theorems with their witnesses and non-vacuity examples.  The inductions over documents and types behind
them (front ends, key re-casing, encoding/json) are in Proofs*.lean; the one over buffer schedules
(`conversion_results_stable_from`) and short inductions over lists of keys, options and events are here.
"seeded C17-n" names a seeded change (DESIGN.md section 9).

Trusted, tested by the correspondence run: that yaml.v2 / go-toml decode the rendering of a document `d` to `embY d` /
`embT d`, and the model `stdDecode` of `encoding/json.Unmarshal`.  Go maps are association lists: faithful for documents
without keys that collide up to case (`noCaseCollision`, checked by the monitor on every generated document).
-/
import GoZero.C17.ProofsCase
import GoZero.C17.ProofsStd
namespace GoZero.C17

/-! ### format independence -/

/-- **The three loaders differ only in the front end that produces the generic tree.** -/
theorem load_is_function_of_tree (fs : Fields) (y : Y) (t : T) :
    loadYaml fs y = loadJson fs (yamlGlue y) ∧ loadToml fs t = loadJson fs (tomlGlue t) := ⟨rfl, rfl⟩

/-- … also with a process environment (fields tagged `,env=`): `o` is `confOpts` plus the environment. -/
theorem load_is_function_of_tree_env (o : Opts) (fs : Fields) (y : Y) (t : T) :
    loadYamlO o fs y = loadJsonO o fs (yamlGlue y) ∧ loadTomlO o fs t = loadJsonO o fs (tomlGlue t) := ⟨rfl, rfl⟩

/-- **Generic-tree normal form.**  For every document without null (representable in all three formats) the
YAML glue (`toStringKeyMap`: `map[any]any` keys through `lang.Repr`, numbers to `json.Number`) and the TOML glue
(`encodeToJSON` + `UseNumber`) give back exactly the document's tree. -/
theorem front_ends_normal_form (d : J) (t : T) (hd : plainDoc d = true) (ht : embT d = some t) :
    yamlGlue (embY d) = d ∧ tomlGlue t = d :=
  ⟨yaml_normal_form d hd, toml_normal_form d t hd ht⟩

/-- … hence EVERY consumer `F` of the generic tree gives the same on the three renderings of a document: the loaders,
the mapping entry points, the sorted walk and the loader with merging below are instances. -/
theorem through_front_ends {α : Type} (F : J → α) (d : J) (t : T) (hd : plainDoc d = true) (ht : embT d = some t) :
    F (yamlGlue (embY d)) = F d ∧ F (tomlGlue t) = F d := by
  rw [yaml_normal_form d hd, toml_normal_form d t hd ht]
  exact ⟨rfl, rfl⟩

/-- … in particular a family `L` indexed by the format that applies one consumer `F` to the three trees (`loadFmtO`,
`loadFmtDet`) does not depend on the format. -/
theorem fmt_indep {α : Type} (F : J → α) (d : J) (t : T) (hd : plainDoc d = true) (ht : embT d = some t) (L : Fmt → α)
    (hj : L .json = F d) (hy : L .yaml = F (yamlGlue (embY d))) (hm : L .toml = F (tomlGlue t)) : ∀ f, L f = F d
  | .json => hj
  | .yaml => hy.trans (through_front_ends F d t hd ht).1
  | .toml => hm.trans (through_front_ends F d t hd ht).2

/-- **Format independence**: the same document loaded through the JSON, YAML and TOML loaders into the same type
gives the same verdict and, on success, the same value — for every type of the family and every document without null.
(`embY` / `embT` keep a number literal as written; that is what yaml.v2 / go-toml and the glue give back for canonical
literals only, `inScope` in Spec.lean, which is where the correspondence run generates.) -/
theorem formats_agree (fs : Fields) (d : J) (t : T) (hd : plainDoc d = true) (ht : embT d = some t) :
    loadYaml fs (embY d) = loadJson fs d ∧ loadToml fs t = loadJson fs d :=
  through_front_ends (loadJson fs) d t hd ht

/-- format independence for every option set / environment of the conf loaders (tag options `default=`, `options=`,
`range=`, `env=`, `,string`, `,inherit`, dotted keys included: they act after the generic tree). -/
theorem formats_agree_env (o : Opts) (fs : Fields) (d : J) (t : T) (hd : plainDoc d = true) (ht : embT d = some t) :
    loadYamlO o fs (embY d) = loadJsonO o fs d ∧ loadTomlO o fs t = loadJsonO o fs d :=
  through_front_ends (loadJsonO o fs) d t hd ht

/-- **Format independence of the mapping-level entry points** `mapping.Unmarshal{Json,Yaml,Toml}{Bytes,Reader}`:
for EVERY option set (`WithCanonicalKeyFunc`, `WithStringValues`, `WithFromArray`, `WithOpaqueKeys`), every type of the
family and every document without null, the YAML and TOML entry points give exactly what the JSON entry point gives
with the same options (the options are forwarded: Tie `tie_mYamlBytes`, `tie_mTomlBytes`, …). -/
theorem mapping_formats_agree (o : Opts) (fs : Fields) (d : J) (t : T) (hd : plainDoc d = true) (ht : embT d = some t) :
    unmarshalYaml o fs (embY d) = unmarshalWith o fs d ∧ unmarshalToml o fs t = unmarshalWith o fs d :=
  through_front_ends (unmarshalWith o fs) d t hd ht

/-- the documents sorted for the deterministic walk (`loadJsonDet`, keys colliding up to case) agree as well. -/
theorem formats_agree_det (o : Opts) (fs : Fields) (d : J) (t : T) (hd : plainDoc d = true) (ht : embT d = some t) :
    loadYamlDet o fs (embY d) = loadJsonDet o fs d ∧ loadTomlDet o fs t = loadJsonDet o fs d :=
  through_front_ends (loadJsonDet o fs) d t hd ht

/-- YAML's null is *not* format independent: the glue turns it into the empty string (why null is outside "representable
in all three formats"). -/
theorem yaml_null_becomes_empty_string : yamlGlue (embY .null) = .str [] := rfl

/-! ### keys are matched case-insensitively -/

/-- **Key case-insensitivity**: for every type of the family (nested structs, embedded structs, pointers, slices, maps
of maps, maps in slices …) and every re-casing of the document's struct-field keys (`recasedTy`: map keys are data and
stay), `conf.LoadFromJsonBytes` gives the same verdict and value.  Holds for the code with
fixes/C17-map-keys-are-data.patch; for the pinned code see `pinned_info_not_case_insensitive`. -/
theorem key_case_insensitive_env (o : Opts) (fs : Fields) (j j' : J) (h : recasedTy (.struct fs) j j' = true) :
    loadJsonO o fs j = loadJsonO o fs j' := by
  have hl := lower_recased (.struct fs) j j' h
  obtain ⟨_, m, m', _, rfl, rfl, _⟩ | ⟨_, _, _, ht, _⟩ | ⟨_, _, _, ht, _⟩ | rfl := recasedTy_cases h
  · simp only [infoOf, lowerVal, J.obj.injEq] at hl
    simp only [loadJsonO, loadTreeO, loadTreeWithO, infoOf, hl]
  · cases ht
  · cases ht
  · rfl

theorem key_case_insensitive (fs : Fields) (j j' : J) (h : recasedTy (.struct fs) j j' = true) :
    loadJson fs j = loadJson fs j' := key_case_insensitive_env confOpts fs j j' h

/-- … and therefore through all three front ends. -/
theorem key_case_insensitive_all_formats (fs : Fields) (d d' : J) (t t' : T)
    (h : recasedTy (.struct fs) d d' = true)
    (hd : plainDoc d = true) (hd' : plainDoc d' = true) (ht : embT d = some t) (ht' : embT d' = some t') :
    loadYaml fs (embY d') = loadJson fs d ∧ loadToml fs t' = loadJson fs d ∧ loadJson fs d' = loadJson fs d := by
  have k := key_case_insensitive fs d d' h
  have a := formats_agree fs d' t' hd' ht'
  exact ⟨by rw [a.1, k], by rw [a.2, k], k.symm⟩

def exInner : Fields := .cons { name := "ID".toList, key := "id".toList, optional := false, embedded := false } (.prim (.int 64)) .nil
/-- `struct { Items []map[string]struct{ ID int `json:"id"` } `json:"items"` }` -/
def exTy : Fields := .cons { name := "Items".toList, key := "items".toList, optional := false, embedded := false } (.slice (.map (.struct exInner))) .nil
/-- `{"items":[{"id":{"ID":1}}]}` — the map key `id` spells a field name of the element struct. -/
def exDoc : J := .obj (.cons "items".toList (.arr (.cons (.obj (.cons "id".toList
  (.obj (.cons "ID".toList (.num "1".toList) .nil)) .nil)) .nil)) .nil)

/-- `{"ITEMS":[{"id":{"id":1}}]}` -/
def exDoc' : J := .obj (.cons "ITEMS".toList (.arr (.cons (.obj (.cons "id".toList
  (.obj (.cons "id".toList (.num "1".toList) .nil)) .nil)) .nil)) .nil)

example : recasedTy (.struct exTy) exDoc exDoc' = true := by unfold exTy exInner exDoc exDoc'; lit_chars; decide

/-- `{"items":[{"id":{"id":1}}]}`: what `toLowerCaseKeyMap` makes of both documents; with the pinned `buildFieldsInfo` of
`exDoc'` only. -/
def exLowered : J := .obj (.cons "items".toList (.arr (.cons (.obj (.cons "id".toList
  (.obj (.cons "id".toList (.num "1".toList) .nil)) .nil)) .nil)) .nil)

example : lowerVal (infoOf (.struct exTy)) exDoc = exLowered ∧ lowerVal (infoOf (.struct exTy)) exDoc' = exLowered := by
  decide

/-- **Witness of the defect in the pinned code** (`buildFieldsInfo` looked through a map that is an element of a slice
or of a map, so the map key `id` was taken for the field `id` and the entry below it was not lower-cased): the two
documents are re-casings of each other, the second is lowered correctly, the first keeps its key `ID`, which the
unmarshaller (canonical key `id`) then does not find — `conf.LoadFromJsonBytes` accepts one and rejects the other
(replayed on the real code by the harness: MONITOR `class=case`). -/
theorem pinned_info_not_case_insensitive :
    recasedTy (.struct exTy) exDoc exDoc' = true ∧
    lowerVal (infoOfPinned (.struct exTy)) exDoc' = exLowered ∧
    lowerVal (infoOfPinned (.struct exTy)) exDoc = exDoc ∧
    lowerVal (infoOfPinned (.struct exTy)) exDoc ≠ lowerVal (infoOfPinned (.struct exTy)) exDoc' := by decide

/-- the loader on the pinned info: rejected / accepted. -/
theorem pinned_loader_verdicts_differ :
    loadTreeWith (infoOfPinned (.struct exTy)) exTy exDoc = .error .err ∧
    loadTreeWith (infoOfPinned (.struct exTy)) exTy exDoc'
      = .ok (.struct (.cons "Items".toList (.slice (.cons (.map (.cons "id".toList
          (.struct (.cons "ID".toList (.int 1) .nil)) .nil)) .nil)) .nil)) := by
  obtain ⟨_, h2, h1, _⟩ := pinned_info_not_case_insensitive
  have c : infoConflict (.struct exTy) = false := by decide
  simp only [exDoc, exDoc', exLowered, lowerVal, J.obj.injEq] at h1 h2
  constructor
  · simp only [loadTreeWith, loadTreeWithO, c, exDoc, h1]
    simp only [exTy, exInner]; c17_eval
  · simp only [loadTreeWith, loadTreeWithO, c, exDoc', h2]
    simp only [exTy, exInner]; c17_eval

/-! ### keys that collide up to case: the load must still be a function of the document -/

def portTy : Fields := .cons { name := "Port".toList, key := "port".toList, optional := false, embedded := false } (.prim (.int 64)) .nil
/-- `{"port":1,"PORT":"x"}` in the two orders a Go map can be walked in. -/
def portDocA : J := .obj (.cons "port".toList (.num "1".toList) (.cons "PORT".toList (.str "x".toList) .nil))
def portDocB : J := .obj (.cons "PORT".toList (.str "x".toList) (.cons "port".toList (.num "1".toList) .nil))

/-- **Witness of the defect in the pinned code** (`toLowerCaseKeyMap` ranged over the Go map, so the entry written
last under the lower-cased key won): the same document, walked in its two possible orders, is accepted with Port = 1
or rejected — `conf.LoadFromJsonBytes` was not a function of the document (replayed on the real code: MONITOR
`nondeterministic-load class=case-collision`).  With fixes/C17-case-collision-deterministic.patch the keys are walked
in ascending order (`sortDoc`), both orders give the same result. -/
theorem pinned_collision_order_dependent :
    loadJson portTy portDocA = .ok (.struct (.cons "Port".toList (.int 1) .nil)) ∧
    loadJson portTy portDocB = .error .err ∧
    sortDoc portDocA = sortDoc portDocB ∧
    loadJsonDet confOpts portTy portDocA = loadJsonDet confOpts portTy portDocB := by
  have hs : sortDoc portDocA = sortDoc portDocB := by decide
  have c : infoConflict (.struct portTy) = false := by decide
  refine ⟨?_, ?_, hs, ?_⟩
  · have hl : lowerMap (infoOf (.struct portTy)) (.cons "port".toList (.num "1".toList) (.cons "PORT".toList (.str "x".toList) .nil))
        = .cons "port".toList (.num "1".toList) (.cons "port".toList (.str "x".toList) .nil) := by decide
    simp only [loadJson, loadTree, loadTreeO, loadTreeWithO, c, portDocA, hl]
    simp only [portTy]; c17_eval
  · have hl : lowerMap (infoOf (.struct portTy)) (.cons "PORT".toList (.str "x".toList) (.cons "port".toList (.num "1".toList) .nil))
        = .cons "port".toList (.str "x".toList) (.cons "port".toList (.num "1".toList) .nil) := by decide
    simp only [loadJson, loadTree, loadTreeO, loadTreeWithO, c, portDocB, hl]
    simp only [portTy]; c17_eval
  · simp only [loadJsonDet, hs]

/-! ### environment variables are expanded only when requested; the loader depends on the extension up to case -/

theorem env_only_when_requested (expand : Str → Str) (content : Str) :
    loadContent expand false content = content ∧ loadContent expand true content = expand content := ⟨rfl, rfl⟩

/-- the file-level API: `conf.Load` (hence `LoadConfig`, `MustLoad`: Tie `tie_cLoadConfig`, `tie_cMustLoad`) picks the
loader by the lower-cased extension only and hands it the content, expanded iff `UseEnv()`; an unknown extension is an
error whatever the content. -/
def confLoad (expand : Str → Str) (useEnv : Bool) (ext : Str) (run : Fmt → Str → R Val) (content : Str) : R Val :=
  match loaderOf ext with
  | none => .error .err
  | some f => run f (loadContent expand useEnv content)

theorem conf_load_dispatch (expand : Str → Str) (ext : Str) (run : Fmt → Str → R Val) (content : Str) :
    confLoad expand false ext run content = confLoad expand false (lower ext) run content ∧
    confLoad expand true ext run content = confLoad (fun s => s) false ext run (expand content) ∧
    (loaderOf ext = none → ∀ e, confLoad expand e ext run content = .error .err) := by
  refine ⟨?_, ?_, ?_⟩
  · unfold confLoad loaderOf; rw [lower_idem]
  · unfold confLoad loadContent; simp
  · intro h e; unfold confLoad; rw [h]

theorem loader_ignores_extension_case (ext : Str) : loaderOf (lower ext) = loaderOf ext := by
  unfold loaderOf
  rw [lower_idem]

example : loaderOf ".YmL".toList = some .yaml ∧ loaderOf ".JSON".toList = some .json ∧
    loaderOf ".toml".toList = some .toml ∧ loaderOf ".txt".toList = none := by unfold loaderOf; lit_chars; decide

/-! ### agreement with encoding/json

The full statement is proven by mutual induction through structs, slices and maps in ProofsStd.lean
(`agrees_with_std_json`, general form `agrees_with_std_json_opts`); it is restated here.  Every hypothesis is shown
necessary by a witness: `std_differs_missing_map_nil_vs_empty` (normalisation of nil maps), `std_differs_inexact_key`
(`keysExact`), `std_differs_case_collision` (`noCaseCollision`), `std_differs_repeated_field_key` (`tyKeysDistinct`),
`std_differs_dotted_key` (`tyKeysPlain`), `float32_double_rounding` / `std_differs_float32_field_pinned` (the pinned
float32 conversion; gone with fixes/C17-float32-single-rounding.patch). -/

/-- **Agreement with encoding/json**: for every struct type with plain name tags only (`plainTy`: no options, no
embedding; nested structs, slices, maps, pointers, every primitive kind), whose field keys are distinct and contain
no '.', and every document without null in which no two keys of an object collide up to case and every key that
names a field up to case names it exactly: whenever `mapping.UnmarshalJsonBytes` and `encoding/json.Unmarshal` both
accept, the decoded values are equal up to nil-vs-empty maps. -/
theorem agrees_with_encoding_json (fs : Fields) (j : J) (a b : Val)
    (hp : plainTy (.struct fs) = true) (hty : tyKeysDistinct (.struct fs) = true)
    (hkp : tyKeysPlain (.struct fs) = true) (hd : plainDoc j = true)
    (hc : noCaseCollision j = true) (hk : keysExact (.struct fs) j = true)
    (hu : unmarshalJson fs j = .ok a) (hs : stdDecode fs j = .ok b) :
    a.normNil = b.normNil := agrees_with_std_json fs j a b hp hty hkp hd hc hk hu hs

/-- … and therefore for the YAML and TOML entry points of the mapping package against encoding/json on the JSON
rendering of the same document. -/
theorem yaml_toml_agree_with_encoding_json (fs : Fields) (d : J) (t : T) (a b : Val)
    (hp : plainTy (.struct fs) = true) (hty : tyKeysDistinct (.struct fs) = true)
    (hkp : tyKeysPlain (.struct fs) = true) (hd : plainDoc d = true) (ht : embT d = some t)
    (hc : noCaseCollision d = true) (hk : keysExact (.struct fs) d = true)
    (hs : stdDecode fs d = .ok b) :
    (unmarshalYaml {} fs (embY d) = .ok a → a.normNil = b.normNil) ∧
    (unmarshalToml {} fs t = .ok a → a.normNil = b.normNil) := by
  have m := mapping_formats_agree {} fs d t hd ht
  exact ⟨fun h => agrees_with_std_json fs d a b hp hty hkp hd hc hk (m.1.symm.trans h) hs,
         fun h => agrees_with_std_json fs d a b hp hty hkp hd hc hk (m.2.symm.trans h) hs⟩

/-- WITNESS SIDE (the pinned conversion, `two = true`): there the scalar layer agrees for every kind BUT float32
(go-zero rounded to float64 first: `float32_double_rounding`).  The code that exists is the fixed conversion: its scalar
layer is `agrees_with_std_json_scalar_fixed` (every kind, float32 included), its full statement
`agrees_with_encoding_json` / `agrees_with_encoding_json_total`. -/
theorem scalar_agreement_pinned_conversion (two : Bool) (p : Prim) (v : J) (a b : Val) (hp : p ≠ .float 32)
    (hbits : ∀ n, p = .float n → n = 32 ∨ n = 64)
    (hu : fillPrim two p v = .ok a) (hs : stdPrim p v = .ok b) : a = b := by
  refine field_prim_agree two p v a b (fun _ => ?_) hu hs
  cases p <;> cases v <;> try rfl
  -- a float field holding a literal: the only width left is 64, where both conversions are the same function
  rename_i n lit
  obtain rfl : n = 64 := (hbits n rfl).resolve_left fun h => hp (h ▸ rfl)
  exact f32Agree_64 lit

example : fillPrim false (.int 8) (.num "127".toList) = .ok (.int 127) ∧ stdPrim (.int 8) (.num "127".toList) = .ok (.int 127)
    ∧ fillPrim false (.int 8) (.num "128".toList) = .error .err := by decide

def mapTy : Fields := .cons { name := "M".toList, key := "m".toList, optional := false, embedded := false } (.map (.prim (.int 64))) .nil

/-- both accept `{}` for `struct{ M map[string]int `json:"m"` }`; go-zero yields an empty map, encoding/json a nil map
(equal only up to nil-vs-empty). -/
theorem std_differs_missing_map_nil_vs_empty :
    unmarshalJson mapTy (.obj .nil) = .ok (.struct (.cons "M".toList (.map .nil) .nil)) ∧
    stdDecode mapTy (.obj .nil) = .ok (.struct (.cons "M".toList .nilMap .nil)) := by
  refine ⟨?_, by decide⟩
  simp only [mapTy]; c17_eval

/-- `keysExact` is necessary: `{"M":{"a":1}}` — encoding/json folds the key onto field `m`, go-zero does not see it. -/
theorem std_differs_inexact_key :
    unmarshalJson mapTy (.obj (.cons "M".toList (.obj (.cons "a".toList (.num "1".toList) .nil)) .nil))
      = .ok (.struct (.cons "M".toList (.map .nil) .nil)) ∧
    stdDecode mapTy (.obj (.cons "M".toList (.obj (.cons "a".toList (.num "1".toList) .nil)) .nil))
      = .ok (.struct (.cons "M".toList (.map (.cons "a".toList (.int 1) .nil)) .nil)) := by
  refine ⟨?_, by decide⟩
  simp only [mapTy]; c17_eval

def nameTy : Fields := .cons { name := "Name".toList, key := "name".toList, optional := false, embedded := false } (.prim .string) .nil

/-- `noCaseCollision` is necessary: `{"name":"a","NAME":"b"}` — encoding/json lets the later key win. -/
theorem std_differs_case_collision :
    unmarshalJson nameTy (.obj (.cons "name".toList (.str "a".toList) (.cons "NAME".toList (.str "b".toList) .nil)))
      = .ok (.struct (.cons "Name".toList (.str "a".toList) .nil)) ∧
    stdDecode nameTy (.obj (.cons "name".toList (.str "a".toList) (.cons "NAME".toList (.str "b".toList) .nil)))
      = .ok (.struct (.cons "Name".toList (.str "b".toList) .nil)) := by
  refine ⟨?_, by decide⟩
  simp only [nameTy]; c17_eval

/-- float32: the pinned go-zero converted the literal to float64 and then to float32 (two roundings: `fillPrim true`),
`strconv.ParseFloat(s, 32)` (encoding/json, and go-zero with the fix: `fillPrim false`) rounds once: `16777217.0000000005`
gives 16777216 resp. 16777218. -/
theorem float32_double_rounding :
    fillPrim true (.float 32) (.num "16777217.0000000005".toList) = .ok (.flt 16777216 1) ∧
    stdPrim (.float 32) (.num "16777217.0000000005".toList) = .ok (.flt 16777218 1) ∧
    fillPrim false (.float 32) (.num "16777217.0000000005".toList) = .ok (.flt 16777218 1) :=
  ⟨parseFloat32_tie true, parseFloat32_tie false, parseFloat32_tie false⟩

/-! ### a load is a function of its own arguments: the cells of one value, the options of one call -/

theorem entryCells_perEntry_addrs (next : Nat) (ks : List Str) :
    (entryCells .perEntry next ks).map (·.2) = List.range' next ks.length := by
  induction ks generalizing next with
  | nil => rfl
  | cons k ks ih => simp [entryCells, ih, List.range'_succ]

/-- **No two entries of one container are handed the same cell** under the allocation discipline `.perEntry` (a cell
per key / index: what `tie_genMapAlloc`, `tie_mFillSlice`, `tie_mFillSliceValue`, `tie_mFillStructElement` pin for
the code).  The statement is about `entryCells`, the explicit form of that discipline; the decoders of the model
(`genMap`, `fillSlice`) build trees and have no cells. -/
theorem fresh_cells_no_alias (next : Nat) (ks : List Str) :
    ((entryCells genMapSite next ks).map (·.2)).Nodup ∧ ((entryCells fillSliceSite next ks).map (·.2)).Nodup := by
  simp only [genMapSite, fillSliceSite, entryCells_perEntry_addrs]
  exact ⟨List.nodup_range', List.nodup_range'⟩

example : (entryCells genMapSite 7 ["a".toList, "b".toList, "c".toList]).map (·.2) = [7, 8, 9] := by decide

/-- **Witness for seeded change C17-5**: a scratch cell hoisted out of the loop is shared by every entry. -/
theorem hoisted_cells_alias (next : Nat) (ks : List Str) : ∀ p ∈ entryCells .hoisted next ks, p.2 = next := by
  induction ks with
  | nil => intro p h; simp [entryCells] at h
  | cons k ks ih =>
    intro p h
    simp only [entryCells, List.mem_cons] at h
    cases h with
    | inl h => rw [h]
    | inr h => exact ih p h

example : (entryCells .hoisted 7 ["a".toList, "b".toList]).map (·.2) = [7, 7] := by decide

/-- **Every entry of a decoded map is the decoding of ITS OWN document value** (the value-level face of "a fresh
element per key"): whatever the other entries are, the value stored under `k` is `gzMapElem` of the document value
found under `k` (first match — faithful for documents without repeated keys). -/
theorem genMap_pointwise (o : Opts) (t : Ty) : ∀ (m : JM) (vm : VM), genMap o t m = .ok vm →
    ∀ k x, m.get? k = some x → ∃ v, gzMapElem o t x = .ok v ∧ vm.get? k = some v
  | .nil, _, _, k, x, hg => by simp [JM.get?] at hg
  | .cons k0 x0 r, vm, h, k, x, hg => by
    rw [genMap_cons] at h
    simp only [R.bind_ok, R.pure_ok] at h
    obtain ⟨v0, hv0, vs, hvs, rfl⟩ := h
    by_cases hk : k0 = k
    · simp only [JM.get?, hk, if_true, Option.some.injEq] at hg
      subst hg
      exact ⟨v0, hv0, by simp [VM.get?, hk]⟩
    · simp only [JM.get?, hk, if_false] at hg
      obtain ⟨v, hv, hget⟩ := genMap_pointwise o t r vs hvs k x hg
      exact ⟨v, hv, by simp [VM.get?, hk, hget]⟩

/-- `map[string]*int` with `{"a":1,"b":2}`: two entries, two values (seeded C17-5 gave `&2,&2` or `&1,&1`). -/
example : genMap {} (.ptr (.prim (.int 64))) (.cons "a".toList (.num "1".toList) (.cons "b".toList (.num "2".toList) .nil))
    = .ok (.cons "a".toList (.ptr (.int 1)) (.cons "b".toList (.ptr (.int 2)) .nil)) := by
  c17_eval

theorem foldl_apply_env (opts : List ConfOption) : ∀ (st : ConfOptions), st.env = true →
    (opts.foldl (fun acc o => o.apply acc) st).env = true := by
  induction opts with
  | nil => intro st h; exact h
  | cons o os ih => intro st _; exact ih _ rfl

/-- **The options of a `conf.Load` call are the options of THIS call**: the record starts from the zero value. -/
theorem conf_options_fresh (opts : List ConfOption) : (buildOptions opts).env = !opts.isEmpty := by
  cases opts with
  | nil => rfl
  | cons o os => simp only [buildOptions, List.foldl_cons, List.isEmpty_cons, Bool.not_false]; exact foldl_apply_env os _ rfl

/-- **Environment variables are expanded only when requested, in every sequence of loads in one process**: what a
call hands to its loader depends on its own options only, whatever was loaded before with whatever options. -/
theorem load_sequence_independent (expand : Str → Str) (calls : List (List ConfOption × Str)) :
    loadSeq expand calls = calls.map fun c => loadContent expand (!c.1.isEmpty) c.2 := by
  induction calls with
  | nil => rfl
  | cons c rest ih =>
    obtain ⟨opts, content⟩ := c
    simp only [loadSeq, List.map_cons, ih, conf_options_fresh, loadContent]

/-- **Witness for seeded change C17-4**: with an option record that outlives the call, `UseEnv()` of the first load
expands the second load's content although it was loaded without `UseEnv()`. -/
theorem shared_options_sticky (expand : Str → Str) (c1 c2 : Str) :
    loadSeqShared expand {} [([.useEnv], c1), ([], c2)] = [expand c1, expand c2] ∧
    loadSeq expand [([.useEnv], c1), ([], c2)] = [expand c1, c2] := ⟨rfl, rfl⟩

example : loadSeq (fun _ => "X".toList) [([.useEnv], "$A".toList), ([], "$A".toList), ([.useEnv], "$B".toList)]
    = ["X".toList, "$A".toList, "X".toList] := by decide

/-! ### end to end: the file-level API, pointer elements against encoding/json, documents with colliding keys -/

/-- **End to end, file level** (`conf.Load` → loader of the extension → `LoadFromJsonBytes`): two files holding the
renderings of one document (no null) in the formats of their extensions load to the same verdict and value, for every
pair of recognised extensions (any case), every type of the family and every environment. -/
theorem file_load_format_independent (o : Opts) (fs : Fields) (d : J) (t : T) (hd : plainDoc d = true)
    (ht : embT d = some t) (e1 e2 : Str) (f1 f2 : Fmt) (h1 : loaderOf e1 = some f1) (h2 : loaderOf e2 = some f2)
    (expand : Str → Str) (run : Fmt → Str → R Val) (c1 c2 : Str)
    (hr1 : run f1 c1 = loadFmtO o fs d t f1) (hr2 : run f2 c2 = loadFmtO o fs d t f2) :
    confLoad expand false e1 run c1 = confLoad expand false e2 run c2 := by
  simp only [confLoad, h1, h2, loadContent, if_false, Bool.false_eq_true, hr1, hr2, fmt_indep (loadJsonO o fs) d t hd ht (loadFmtO o fs d t) rfl rfl rfl]

example : loaderOf ".YAML".toList = some .yaml ∧ loaderOf ".toml".toList = some .toml := by unfold loaderOf; lit_chars; decide

/-- `struct{ M map[string]*int `json:"m"` }` -/
def ptrMapTy : Fields := .cons { name := "M".toList, key := "m".toList, optional := false, embedded := false } (.map (.ptr (.prim (.int 64)))) .nil
def ptrMapDoc : J := .obj (.cons "m".toList (.obj (.cons "a".toList (.num "1".toList) (.cons "b".toList (.num "2".toList) .nil))) .nil)

example : plainTy (.struct ptrMapTy) = true ∧ tyKeysDistinct (.struct ptrMapTy) = true ∧ tyKeysPlain (.struct ptrMapTy) = true ∧
    plainDoc ptrMapDoc = true ∧ noCaseCollision ptrMapDoc = true := by decide

/-- **End to end, mapping level, against encoding/json** for pointer element types: both decoders give two distinct
cells with the two values. -/
theorem ptr_map_agrees_with_std :
    stdDecode ptrMapTy ptrMapDoc = .ok (.struct (.cons "M".toList (.map (.cons "a".toList (.ptr (.int 1))
      (.cons "b".toList (.ptr (.int 2)) .nil))) .nil)) ∧
    unmarshalJson ptrMapTy ptrMapDoc = stdDecode ptrMapTy ptrMapDoc := by
  refine (fun h => ⟨h, ?_⟩) (by decide)
  rw [h]
  simp only [ptrMapTy, ptrMapDoc]; c17_eval

/-- **End to end, file level, documents with keys colliding up to case**: with the sorted walk of `toLowerCaseKeyMap` the
file-level API is format independent on such documents too. -/
theorem file_load_format_independent_det (o : Opts) (fs : Fields) (d : J) (t : T) (hd : plainDoc d = true)
    (ht : embT d = some t) (e1 e2 : Str) (f1 f2 : Fmt) (h1 : loaderOf e1 = some f1) (h2 : loaderOf e2 = some f2)
    (expand : Str → Str) (run : Fmt → Str → R Val) (c1 c2 : Str)
    (hr1 : run f1 c1 = loadFmtDet o fs d t f1) (hr2 : run f2 c2 = loadFmtDet o fs d t f2) :
    confLoad expand false e1 run c1 = confLoad expand false e2 run c2 := by
  simp only [confLoad, h1, h2, loadContent, if_false, Bool.false_eq_true, hr1, hr2, fmt_indep (loadJsonDet o fs) d t hd ht (loadFmtDet o fs d t) rfl rfl rfl]

/-- on a document with colliding keys the association list in document order is NOT the model of the code: the walk in
ascending key order decides (`{"PORT":"x","port":1}`: document order rejects, the code — `port` is walked last —
accepts with Port = 1).  The driver therefore checks such documents through `loadJsonDet` (ops `cload`, `fload`) and leaves
them unchecked in the op `load`. -/
theorem sorted_walk_is_the_model_on_collisions :
    noCaseCollision portDocB = false ∧ loadJson portTy portDocB = .error .err ∧
    loadJsonDet confOpts portTy portDocB = loadJson portTy portDocA := by
  refine ⟨by decide, pinned_collision_order_dependent.2.1, ?_⟩
  have hs : sortDoc portDocB = portDocA := by decide
  simp only [loadJsonDet, hs]; rfl

/-! ### the bytes between a front end and its consumer (`encodeToJSON` -> `LoadFromJsonBytes` / `UnmarshalJsonBytes`)

`Buf.lean`: conversions and reads as events of ANY schedule.  With the buffer of the code that exists (a local
`bytes.Buffer` per call, Tie `tie_encodeBufSite`) every read sees the bytes of the reader's own latest conversion -
sequentially (convert A, convert B, read A) and under every interleaving of concurrent loads. -/

def BufInv (s : BufSt) (m : Nat → Option Bytes) : Prop :=
  (∀ who, (s.held who).bind (fun id => s.bufs[id]?) = m who) ∧ (∀ who id, s.held who = some id → id < s.bufs.length)

theorem bufInv_conv (s : BufSt) (m : Nat → Option Bytes) (who : Nat) (c : Bytes) (h : BufInv s m) :
    BufInv (bufStep .freshLocal s (.conv who c)).1 (updFn m who c) := by
  obtain ⟨h1, h2⟩ := h
  constructor
  · intro w
    simp only [bufStep, updFn]
    by_cases hw : w = who
    · simp [hw]
    · simp only [hw, if_false]
      rw [← h1 w]
      cases hh : s.held w with
      | none => simp
      | some id =>
        have := h2 w id hh
        simp [List.getElem?_append_left this]
  · intro w id hh
    simp only [bufStep, updFn] at hh ⊢
    by_cases hw : w = who
    · simp [hw] at hh; subst hh; simp
    · simp only [hw, if_false] at hh
      have := h2 w id hh
      simp; omega

theorem conversion_results_stable_from (evs : List BufEv) : ∀ (s : BufSt) (m : Nat → Option Bytes), BufInv s m →
    bufRun .freshLocal s evs = specRun m evs := by
  induction evs with
  | nil => intro s m _; rfl
  | cons e es ih =>
    intro s m h
    cases e with
    | conv who c =>
      have h' := bufInv_conv s m who c h
      simp only [bufRun, specRun]
      have : (bufStep .freshLocal s (.conv who c)).2 = none := rfl
      rw [this]
      exact ih _ _ h'
    | read who =>
      simp only [bufRun, specRun, bufStep]
      rw [h.1 who, ih s m h]

theorem conversion_results_stable (evs : List BufEv) :
    bufRun encodeSite {} evs = specRun (fun _ => none) evs :=
  conversion_results_stable_from evs {} _ ⟨fun _ => rfl, fun _ _ h => by simp at h⟩

/-- the bytes of `who`'s latest conversion in a schedule (`init` before the first one). -/
def lastConv (init : Option Bytes) (who : Nat) : List BufEv → Option Bytes
  | [] => init
  | .conv w c :: es => lastConv (if w = who then some c else init) who es
  | .read _ :: es => lastConv init who es

theorem specRun_then_read (who : Nat) (evs : List BufEv) : ∀ (m : Nat → Option Bytes),
    ∃ pre, specRun m (evs ++ [.read who]) = pre ++ [lastConv (m who) who evs] := by
  induction evs with
  | nil => intro m; exact ⟨[], rfl⟩
  | cons e es ih =>
    intro m
    cases e with
    | conv w c =>
      obtain ⟨pre, hp⟩ := ih (updFn m w c)
      refine ⟨pre, ?_⟩
      simp only [List.cons_append, specRun, lastConv]
      rw [hp]
      by_cases hw : w = who
      · subst hw; simp [updFn]
      · have : who ≠ w := fun h => hw h.symm
        simp [updFn, hw, this]
    | read w =>
      obtain ⟨pre, hp⟩ := ih m
      exact ⟨m w :: pre, by simp only [List.cons_append, specRun, lastConv]; rw [hp]⟩

/-- a later conversion by ANYONE does not reach a caller's read: `∃ pre` = whatever the earlier reads saw. -/
theorem load_reads_own_document (who : Nat) (evs : List BufEv) :
    ∃ pre, bufRun encodeSite {} (evs ++ [.read who]) = pre ++ [lastConv none who evs] := by
  rw [conversion_results_stable]
  exact specRun_then_read who evs _

example : bufRun encodeSite {} [.conv 0 "A".toList, .conv 1 "B".toList, .read 0, .conv 0 "C".toList, .read 1, .read 0]
    = [some "A".toList, some "B".toList, some "C".toList] := by decide

theorem pooled_buffer_invalidates (a b : Bytes) :
    bufRun .pooled {} [.conv 0 a, .conv 1 b, .read 0] = [some b] := by
  simp [bufRun, bufStep, updFn]

theorem pooled_concurrent_loads_swap (a b : Bytes) :
    bufRun .pooled {} [.conv 0 a, .conv 1 b, .read 0, .read 1] = [some b, some b] ∧
    specRun (fun _ => none) [.conv 0 a, .conv 1 b, .read 0, .read 1] = [some a, some b] := by
  constructor
  · simp [bufRun, bufStep, updFn]
  · simp [specRun, updFn]

theorem loads_schedule_independent {β : Type} (decode : Bytes → β) (evs : List BufEv) :
    loadsUnder encodeSite decode evs = (specRun (fun _ => none) evs).map (Option.map decode) := by
  unfold loadsUnder; rw [conversion_results_stable]

/-! ### the delegating entry points through their DATA FLOW, for every option list -/

theorem fwd_yaml_bytes_sem {α : Type} (sem : String → List α → α) (content v dflt : α) (opts : List α) :
    runFwd sem [content, v] opts dflt fwdYamlBytes = sem "UnmarshalJsonBytes" ([sem "encoding.YamlToJson" [content], v] ++ opts) :=
  runFwd_conv_spread ..

theorem dropped_spread_loses_options {α : Type} (sem : String → List α → α) (content v dflt : α) (opts : List α) :
    runFwd sem [content, v] opts dflt [⟨"encoding.YamlToJson", [.param 0]⟩, ⟨"UnmarshalJsonBytes", [.result 0, .param 1]⟩]
      = sem "UnmarshalJsonBytes" [sem "encoding.YamlToJson" [content], v] :=
  runFwd_conv ..

theorem optsOfEVs_map (l : List MOpt) : optsOfEVs (l.map .opt) = some l := by
  induction l with
  | nil => rfl
  | cons o r ih => simp [optsOfEVs, ih]

theorem fwd_toml_bytes_sem {α : Type} (sem : String → List α → α) (content v dflt : α) (opts : List α) :
    runFwd sem [content, v] opts dflt fwdTomlBytes = sem "UnmarshalJsonBytes" ([sem "encoding.TomlToJson" [content], v] ++ opts) :=
  runFwd_conv_spread ..

theorem fwd_readers_sem {α : Type} (sem : String → List α → α) (reader v dflt : α) (opts : List α) :
    runFwd sem [reader, v] opts dflt fwdYamlReader = sem "UnmarshalYamlBytes" ([sem "io.ReadAll" [reader], v] ++ opts) ∧
    runFwd sem [reader, v] opts dflt fwdTomlReader = sem "UnmarshalTomlBytes" ([sem "io.ReadAll" [reader], v] ++ opts) :=
  ⟨runFwd_conv_spread .., runFwd_conv_spread ..⟩

theorem fwd_conf_loaders_sem {α : Type} (sem : String → List α → α) (content v dflt : α) (opts : List α) :
    runFwd sem [content, v] opts dflt fwdConfYaml = sem "LoadFromJsonBytes" [sem "encoding.YamlToJson" [content], v] ∧
    runFwd sem [content, v] opts dflt fwdConfToml = sem "LoadFromJsonBytes" [sem "encoding.TomlToJson" [content], v] :=
  ⟨runFwd_conv .., runFwd_conv ..⟩

/-- the data flow of each delegating entry point computes the model function of the same name, for EVERY input (no
hypothesis on the document) and every option list. -/
theorem flow_bytes (base oc : Opts) (fs : Fields) (y : Y) (t : T) (opts : List MOpt) :
    runFwd (semBase base oc fs) [.yamlText y, .target] (opts.map .opt) .bad fwdYamlBytes
      = .res (unmarshalYaml (applyMOpts base opts) fs y) ∧
    runFwd (semBase base oc fs) [.tomlText t, .target] (opts.map .opt) .bad fwdTomlBytes
      = .res (unmarshalToml (applyMOpts base opts) fs t) := by
  rw [fwd_yaml_bytes_sem, fwd_toml_bytes_sem]
  simp [semBase, optsOfEVs_map, unmarshalYaml, unmarshalToml]

theorem flow_readers (base oc : Opts) (fs : Fields) (y : Y) (t : T) (opts : List MOpt) :
    runFwd (semTop base oc fs) [.yamlText y, .target] (opts.map .opt) .bad fwdYamlReader
      = .res (unmarshalYaml (applyMOpts base opts) fs y) ∧
    runFwd (semTop base oc fs) [.tomlText t, .target] (opts.map .opt) .bad fwdTomlReader
      = .res (unmarshalToml (applyMOpts base opts) fs t) := by
  rw [(fwd_readers_sem ..).1, (fwd_readers_sem ..).2]
  simpa [semTop] using flow_bytes base oc fs y t opts

theorem flow_conf (base oc : Opts) (fs : Fields) (y : Y) (t : T) :
    runFwd (semBase base oc fs) [.yamlText y, .target] [] .bad fwdConfYaml = .res (loadYamlO oc fs y) ∧
    runFwd (semBase base oc fs) [.tomlText t, .target] [] .bad fwdConfToml = .res (loadTomlO oc fs t) := by
  rw [(fwd_conf_loaders_sem ..).1, (fwd_conf_loaders_sem ..).2]
  simp [semBase, loadYamlO, loadTomlO, loadJsonO]

/-- **the whole configuration space of the mapping entry points**: for EVERY list of options the caller may pass (any
length, order, repetitions), every type, every document without null: the four delegating entry points, run THROUGH their
data flow (`fwd*`, equal to the extracted flow: Tie `tie_fwd*`), return what `UnmarshalJsonBytes` (first conjunct) returns for
the same list. -/
theorem mapping_entry_points_all_option_lists (base oc : Opts) (opts : List MOpt) (fs : Fields) (d : J) (t : T)
    (hd : plainDoc d = true) (ht : embT d = some t) :
    semBase base oc fs "UnmarshalJsonBytes" (.jsonTree d :: .target :: opts.map .opt) = .res (unmarshalWith (applyMOpts base opts) fs d) ∧
    runFwd (semBase base oc fs) [.yamlText (embY d), .target] (opts.map .opt) .bad fwdYamlBytes = .res (unmarshalWith (applyMOpts base opts) fs d) ∧
    runFwd (semTop base oc fs) [.yamlText (embY d), .target] (opts.map .opt) .bad fwdYamlReader = .res (unmarshalWith (applyMOpts base opts) fs d) ∧
    runFwd (semBase base oc fs) [.tomlText t, .target] (opts.map .opt) .bad fwdTomlBytes = .res (unmarshalWith (applyMOpts base opts) fs d) ∧
    runFwd (semTop base oc fs) [.tomlText t, .target] (opts.map .opt) .bad fwdTomlReader = .res (unmarshalWith (applyMOpts base opts) fs d) := by
  have hm := mapping_formats_agree (applyMOpts base opts) fs d t hd ht
  have hb := flow_bytes base oc fs (embY d) t opts
  have hr := flow_readers base oc fs (embY d) t opts
  rw [hm.1, hm.2] at hb hr
  exact ⟨by simp [semBase, optsOfEVs_map], hb.1, hr.1, hb.2, hr.2⟩

/-- the two converting loaders of package conf, through their data flow. -/
theorem conf_loaders_through_flow (base oc : Opts) (fs : Fields) (d : J) (t : T) (hd : plainDoc d = true) (ht : embT d = some t) :
    runFwd (semBase base oc fs) [.yamlText (embY d), .target] [] .bad fwdConfYaml = .res (loadJsonO oc fs d) ∧
    runFwd (semBase base oc fs) [.tomlText t, .target] [] .bad fwdConfToml = .res (loadJsonO oc fs d) := by
  have h := flow_conf base oc fs (embY d) t
  rwa [(formats_agree_env oc fs d t hd ht).1, (formats_agree_env oc fs d t hd ht).2] at h

def nameTyU : Fields := .cons { name := "Name".toList, key := "Name".toList, optional := false, embedded := false } (.prim .string) .nil

/-- the options matter: `{"name":"b"}` into `struct{Name string `json:"Name"`}` is accepted with
`WithCanonicalKeyFunc(strings.ToLower)` and rejected without - an entry point that drops `opts...` (seeded C17-2, C17-7:
`dropped_spread_loses_options`) changes the verdict. -/
theorem dropped_options_change_verdict :
    unmarshalWith (applyMOpts {} [.canonLower]) nameTyU (.obj (.cons "name".toList (.str "b".toList) .nil))
      = .ok (.struct (.cons "Name".toList (.str "b".toList) .nil)) ∧
    unmarshalWith (applyMOpts {} []) nameTyU (.obj (.cons "name".toList (.str "b".toList) .nil)) = .error .err := by
  constructor <;> (simp only [nameTyU, applyMOpts, List.foldl, MOpt.apply]; c17_eval; try decide)

/-- repetitions and order of the options do not matter (each sets one flag). -/
theorem applyMOpts_flags (base : Opts) (l : List MOpt) :
    (applyMOpts base l).canon = (base.canon || l.contains .canonLower) ∧
    (applyMOpts base l).fromString = (base.fromString || l.contains .stringValues) ∧
    (applyMOpts base l).fromArray = (base.fromArray || l.contains .fromArray) ∧
    (applyMOpts base l).opaqueKeys = (base.opaqueKeys || l.contains .opaqueKeys) := by
  induction l generalizing base with
  | nil => simp [applyMOpts]
  | cons o r ih =>
    obtain ⟨h1, h2, h3, h4⟩ := ih (MOpt.apply base o)
    simp only [applyMOpts, List.foldl] at h1 h2 h3 h4 ⊢
    rw [h1, h2, h3, h4]
    cases o <;> simp [MOpt.apply]

example : (applyMOpts {} [.opaqueKeys, .canonLower, .opaqueKeys]).canon = true ∧ (applyMOpts {} [.opaqueKeys]).canon = false := by decide

/-! ### agreement with encoding/json: the scalar layer of the fixed conversion -/

/-- FULL scalar layer for the code with fixes/C17-float32-single-rounding.patch (`two = false`: the literal is rounded
once, to the width of the field): EVERY primitive kind, float32 included, no hypothesis on the width.  The
statement `scalar_agreement_pinned_conversion` above is what holds for the pinned conversion (`two = true`), where float32 is the counterexample
`float32_double_rounding`. -/
theorem agrees_with_std_json_scalar_fixed (p : Prim) (v : J) (a b : Val)
    (hu : fillPrim false p v = .ok a) (hs : stdPrim p v = .ok b) : a = b :=
  field_prim_agree false p v a b (fun h => nomatch h) hu hs

example : fillPrim false (.float 32) (.num "1.5".toList) = stdPrim (.float 32) (.num "1.5".toList) := by
  simp [fillPrim, stdPrim, convFromString]

/-! ### format independence for documents that TOML cannot hold -/

/-- **the two-format scope** (documents that TOML cannot hold, e.g. integers in (MaxInt64, MaxUint64]): JSON and YAML agree
for every document without null, with NO hypothesis about a TOML rendering - conf loaders under every option set /
environment and the mapping entry points under every option LIST (monitor clause `format-dependent class=format-json-yaml`,
seeded C17-6). -/
theorem json_yaml_agree (o : Opts) (opts : List MOpt) (fs : Fields) (d : J) (hd : plainDoc d = true) :
    loadYamlO o fs (embY d) = loadJsonO o fs d ∧
    unmarshalYaml (applyMOpts o opts) fs (embY d) = unmarshalWith (applyMOpts o opts) fs d :=
  ⟨congrArg (loadJsonO o fs) (yaml_normal_form d hd), congrArg (unmarshalWith _ fs) (yaml_normal_form d hd)⟩

example : plainDoc (.obj (.cons "id".toList (.num "18446744073709551615".toList) .nil)) = true := by decide

/-! ### agreement with encoding/json as one total statement -/

/-- **Agreement with encoding/json, total form** (second sentence of the property; the model is the code that exists:
the float32 conversion with one rounding, fixes/C17-float32-single-rounding.patch).  For EVERY struct type with plain name tags (`plainTy`: numbers of every
width incl. float32, strings, booleans, nested structs, slices, maps, pointer fields and pointer elements) and EVERY
document: whenever `mapping.UnmarshalJsonBytes` and `encoding/json.Unmarshal` both accept, the values are equal up to
nil-vs-empty maps (known finding std-nil-vs-empty-map) - or the pair (type, document) lies in one of the decidable
classes `stdClass` of the other open known findings (std-null-elements, std-case-fold, std-dotted-key) or the type
repeats a key inside one struct.  Nothing else is excluded: no hypothesis on numbers, on float32, on the shape. -/
theorem agrees_with_encoding_json_total (fs : Fields) (j : J) (a b : Val)
    (hp : plainTy (.struct fs) = true)
    (hu : unmarshalJson fs j = .ok a) (hs : stdDecode fs j = .ok b) :
    a.normNil = b.normNil ∨ (stdClass fs j).isSome = true := by
  by_cases h1 : plainDoc j = true
  · by_cases h2 : noCaseCollision j = true
    · by_cases h3 : keysExact (.struct fs) j = true
      · by_cases h4 : tyKeysPlain (.struct fs) = true
        · by_cases h5 : tyKeysDistinct (.struct fs) = true
          · exact .inl (agrees_with_std_json fs j a b hp h5 h4 h1 h2 h3 hu hs)
          · right; simp [stdClass, h1, h2, h3, h4, h5]
        · right; simp [stdClass, h1, h2, h3, h4]
      · right; simp [stdClass, h1, h2, h3]
    · right; simp [stdClass, h1, h2]
  · right; simp [stdClass, h1]

/-- the same for the YAML and TOML entry points of the mapping package, on the renderings of the document. -/
theorem yaml_toml_agree_with_encoding_json_total (fs : Fields) (d : J) (t : T) (a b : Val)
    (hp : plainTy (.struct fs) = true) (ht : embT d = some t) (hs : stdDecode fs d = .ok b) :
    (unmarshalYaml {} fs (embY d) = .ok a → a.normNil = b.normNil ∨ (stdClass fs d).isSome = true) ∧
    (unmarshalToml {} fs t = .ok a → a.normNil = b.normNil ∨ (stdClass fs d).isSome = true) := by
  by_cases hd : plainDoc d = true
  · have m := mapping_formats_agree {} fs d t hd ht
    exact ⟨fun h => agrees_with_encoding_json_total fs d a b hp (m.1.symm.trans h) hs,
           fun h => agrees_with_encoding_json_total fs d a b hp (m.2.symm.trans h) hs⟩
  · exact ⟨fun _ => .inr (by simp [stdClass, hd]), fun _ => .inr (by simp [stdClass, hd])⟩

/-- non-vacuity, and the classes are what they say: the float32 tie literal lies in NO class and both decoders agree on it
(`std_differs_float32_field_pinned` has the pinned value 16777216 as the witness). -/
theorem float32_tie_literal_agrees_now :
    stdClass f32Ty f32Doc = none ∧ unmarshalJson f32Ty f32Doc = stdDecode f32Ty f32Doc := by
  have h := std_differs_float32_field_pinned
  obtain ⟨p1, p2, p3, p4, p5, p6, _, _, hu, hs⟩ := h
  exact ⟨by simp [stdClass, p2, p3, p4, p5, p6], by rw [hu, hs]⟩

example : stdClass nameTy (.obj (.cons "name".toList .null .nil)) = some .null := by decide

/-! ### the decision functions that Tie proves equal to the Go conditions (`processFieldNotFromString` -> `nfsRoute`,
`processNamedField` -> `fieldRoute`, `WithFromArray` -> `fromArrayTakesFirst`), side by side with what the model does on
the same inputs -/

theorem withValue_follows_dispatch (o : Opts) (ps : List JM) :
    (∀ fs m, nfsRoute (kindOfJ (.obj m)) (kindOfTy (.struct fs)) false false = .structFromMap ∧
        withValue o ps (.struct fs) (.obj m) = (unmarshalStruct o ps fs m).map .struct) ∧
    (∀ t l, nfsRoute (kindOfJ (.arr l)) (kindOfTy (.slice t)) false false = .fillSlice ∧
        withValue o ps (.slice t) (.arr l) = fillSlice o t l) ∧
    (∀ t m, nfsRoute (kindOfJ (.obj m)) (kindOfTy (.map t)) false false = .fillMap ∧
        withValue o ps (.map t) (.obj m) = (genMap o t m).map .map) ∧
    (∀ p v, withValue o ps (.prim p) v = primField o p v) ∧
    (∀ t m, nfsRoute (kindOfJ (.obj m)) (kindOfTy (.slice t)) false false = .primitive ∧
        withValue o ps (.slice t) (.obj m) = .error .err) ∧
    (∀ t l, nfsRoute (kindOfJ (.arr l)) (kindOfTy (.map t)) false false = .primitive ∧
        withValue o ps (.map t) (.arr l) = .error .err) ∧
    (∀ fs l, nfsRoute (kindOfJ (.arr l)) (kindOfTy (.struct fs)) false false = .primitive ∧
        withValue o ps (.struct fs) (.arr l) = .error .err) := by
  refine ⟨fun fs m => ⟨rfl, ?_⟩, fun t l => ⟨rfl, ?_⟩, fun t m => ⟨rfl, ?_⟩, fun p v => ?_, fun t m => ⟨rfl, ?_⟩,
    fun t l => ⟨rfl, ?_⟩, fun fs l => ⟨rfl, ?_⟩⟩ <;> simp [withValue]

theorem unmarshalStruct_env_route (o : Opts) (ps : List JM) (f : FMeta) (t : Ty) (m : JM) (hne : f.embedded = false)
   (h : modelFieldRoute o f (modelFound o ps f t m) = .env) :
   unmarshalStruct o ps (.cons f t .nil) m = (withEnv o f t (envLookup o.env f.envVar)).map (fun x => .cons f.name x .nil) := by
  have he : f.envVar ≠ [] ∧ envLookup o.env f.envVar ≠ [] := by
    simp only [modelFieldRoute, fieldRoute] at h
    by_cases h1 : f.envVar = [] <;> by_cases h2 : envLookup o.env f.envVar = [] <;>
      cases hm : modelFound o ps f t m <;> simp_all
  rw [unmarshalStruct.eq_def]
  simp only [hne, Bool.false_eq_true, if_false, he, and_self, if_true, ne_eq, not_false_eq_true]
  cases withEnv o f t (envLookup o.env f.envVar) <;> simp [unmarshalStruct, Except.map]

theorem unmarshalStruct_noValue_route (o : Opts) (ps : List JM) (f : FMeta) (t : Ty) (m : JM) (hne : f.embedded = false)
   (h : modelFieldRoute o f (modelFound o ps f t m) = .noValue) :
   unmarshalStruct o ps (.cons f t .nil) m =
     (if f.dflt ≠ [] then withDefault t f.dflt else withoutValue o t f.optional).map (fun x => .cons f.name x .nil) := by
  have hn : ¬ (f.envVar ≠ [] ∧ envLookup o.env f.envVar ≠ []) := by
    intro ⟨a, b⟩; simp [modelFieldRoute, fieldRoute, a, b] at h
  have hf : modelFound o ps f t m = none := by
    cases hh : modelFound o ps f t m with
    | none => rfl
    | some v =>
      simp only [modelFieldRoute, fieldRoute, hh] at h
      by_cases h1 : f.envVar = [] <;> by_cases h2 : envLookup o.env f.envVar = [] <;> simp_all
  rw [unmarshalStruct.eq_def]
  simp only [modelFound] at hf
  simp only [hne, Bool.false_eq_true, if_false, hn, hf]
  cases (if f.dflt ≠ [] then withDefault t f.dflt else withoutValue o t f.optional) <;> simp [unmarshalStruct, Except.map]

theorem modelFieldRoute_never_skip (o : Opts) (f : FMeta) (found : Option J) : modelFieldRoute o f found ≠ .skip := by
  simp only [modelFieldRoute, fieldRoute]
  by_cases h1 : f.envVar = [] <;> by_cases h2 : envLookup o.env f.envVar = [] <;> cases found <;> simp_all

theorem JL.lengthInt_nonneg : ∀ (l : JL), 0 ≤ l.lengthInt
  | .nil => by simp [JL.lengthInt]
  | .cons _ t => by have := JL.lengthInt_nonneg t; simp only [JL.lengthInt]; omega

/-- **the model follows `fromArrayTakesFirst`** (`WithFromArray`, Tie `tie_fromArrayTakesFirst`): a non-slice field takes
the first element of a non-empty array value, everything else stays. -/
theorem fromArrayAdj_follows (isSlice : Bool) (v : J) :
    fromArrayAdj isSlice v =
      match v with
      | .arr (.cons h t) => if fromArrayTakesFirst true false isSlice true (jSeqLen (.arr (.cons h t))) then h else v
      | _ => v := by
  cases v with
  | arr l =>
    cases l with
    | nil => cases isSlice <;> rfl
    | cons h t =>
      have := JL.lengthInt_nonneg t
      have hp : t.lengthInt + 1 > 0 := by omega
      cases isSlice <;> simp [fromArrayAdj, fromArrayTakesFirst, jSeqLen, JL.lengthInt, hp]
  | _ => cases isSlice <;> rfl

/-! ### keys are matched case-insensitively: through the merging of `buildStructFieldsInfo` -/

/-- **`buildStructFieldsInfo` with merging = `infoFields`** whenever no two (flattened) fields of the struct share a
lower-cased key: the theorems stated over `infoOf` (`key_case_insensitive*`) then speak about the info the code builds
through `addOrMergeFields` / `mergeFields`. -/
theorem infoFieldsM_eq_infoFields (fs : Fields) (h : hasDup (infoFields fs).keys = false) :
    infoFieldsM fs = some (infoFields fs) := by
  unfold infoFieldsM
  rw [addAll_fresh (infoFields fs) .nil (fun _ _ => rfl) h]
  rfl

/-- the case-insensitivity theorems RUN THROUGH the merging construction: when no two flattened fields share a
lower-cased key, the info the code builds (`infoFieldsM`) exists and lowers a document and each of its type-directed
re-casings to the same tree (hence `key_case_insensitive(_env / _all_formats)`). -/
theorem key_case_insensitive_through_merge (fs : Fields) (j j' : J) (h : recasedTy (.struct fs) j j' = true)
    (hd : hasDup (infoFields fs).keys = false) :
    ∃ im, infoFieldsM fs = some im ∧ lowerVal (.node im) j = lowerVal (.node im) j' :=
  ⟨infoFields fs, infoFieldsM_eq_infoFields fs hd, by simpa [infoOf] using lower_recased (.struct fs) j j' h⟩

def mergeTyA : Fields := .cons { name := "A".toList, key := "a".toList, optional := false, embedded := false } (.prim .string) .nil
def mergeTyB : Fields := .cons { name := "B".toList, key := "b".toList, optional := false, embedded := false } (.prim .string) .nil
/-- `struct{ X struct{A string `json:"a"`} `json:"in"`; Y struct{B string `json:"b"`} `json:"IN"` }` -/
def mergeTy : Fields :=
  .cons { name := "X".toList, key := "in".toList, optional := false, embedded := false } (.struct mergeTyA)
    (.cons { name := "Y".toList, key := "IN".toList, optional := false, embedded := false } (.struct mergeTyB) .nil)

/-- where the two differ: two struct-typed fields under one lower-cased key with DISJOINT children are MERGED by the
code (one child `in` with the children a and b), while `infoConflict` (the over-approximation the loader model uses)
calls it a conflict; the same key over a leaf is a conflict for both. -/
theorem merge_accepts_disjoint_struct_children :
    infoFieldsM mergeTy = some (.cons "in".toList (.node (.cons "a".toList (.node .nil) (.cons "b".toList (.node .nil) .nil))) .nil) ∧
    infoConflict (.struct mergeTy) = true ∧
    infoFieldsM (.cons { name := "X".toList, key := "in".toList, optional := false, embedded := false } (.struct mergeTyA)
      (.cons { name := "Y".toList, key := "IN".toList, optional := false, embedded := false } (.prim .string) .nil)) = none := by
  decide

/-! ### a caller that selects the loader and hands it the bytes (core/configcenter) -/

/-- **the config center adds nothing**: for a recognised `Type` (any case) and a non-empty value, what
`NewConfigCenter(...).GetConfig()` yields for (Type, bytes) is the value of the Type's loader on EXACTLY those bytes; an
unknown Type and the empty value are errors whatever the rest. -/
theorem configcenter_value_is_loaders_value (run : Fmt → Str → R Val) (typ data : Str) :
    (∀ f, ccLoaderOf typ = some f → data ≠ [] → ccValue run typ data = run f data) ∧
    (ccLoaderOf typ = none → ccValue run typ data = .error .err) ∧
    (ccValue run typ [] = .error .err) ∧
    ccLoaderOf (lower typ) = ccLoaderOf typ := by
  refine ⟨?_, ?_, ?_, ?_⟩
  · intro f hf hd; simp [ccValue, ccValueWith, hf, hd]
  · intro hn; simp [ccValue, ccValueWith, hn]
  · simp only [ccValue, ccValueWith]; cases ccLoaderOf typ <;> simp
  · unfold ccLoaderOf; rw [lower_idem]

/-- **format independence through the config center** (from `formats_agree_env`): two subscribed values holding the
renderings of one document (no null) in the formats of their Types load to the same verdict and value, for every pair
of recognised Types, every type of the family, every environment. -/
theorem configcenter_format_independent (o : Opts) (fs : Fields) (d : J) (t : T) (hd : plainDoc d = true)
    (ht : embT d = some t) (t1 t2 : Str) (f1 f2 : Fmt) (h1 : ccLoaderOf t1 = some f1) (h2 : ccLoaderOf t2 = some f2)
    (run : Fmt → Str → R Val) (c1 c2 : Str) (n1 : c1 ≠ []) (n2 : c2 ≠ [])
    (hr1 : run f1 c1 = loadFmtO o fs d t f1) (hr2 : run f2 c2 = loadFmtO o fs d t f2) :
    ccValue run t1 c1 = ccValue run t2 c2 := by
  simp [ccValue, ccValueWith, h1, h2, n1, n2, hr1, hr2, fmt_indep (loadJsonO o fs) d t hd ht (loadFmtO o fs d t) rfl rfl rfl]

example : ccLoaderOf "YAML".toList = some .yaml ∧ ccLoaderOf "Json".toList = some .json ∧ ccLoaderOf "ini".toList = none := by
  unfold ccLoaderOf; lit_chars; decide

/-- WITNESS (seeded C17-9): a caller that trims the value first is a different function of the bytes - a loader that
sees the final line break (YAML block scalar) gives another value, and the value of blanks only becomes an error. -/
theorem trimmed_bytes_differ :
    ccValueWith trimWs (fun _ s => .ok (.str s)) "yaml".toList "k: |\n  v\n".toList = .ok (.str "k: |\n  v".toList) ∧
    ccValue (fun _ s => .ok (.str s)) "yaml".toList "k: |\n  v\n".toList = .ok (.str "k: |\n  v\n".toList) := by
  -- `+kernel`: `trimWs` reverses the text twice; the elaborator's own evaluation of that is the dear part
  lit_chars; decide +kernel

/-! ### the loader with the merging of `buildStructFieldsInfo`; a load is a function of (type, tree) -/

/-- on every type whose flattened fields do not repeat a lower-cased key the loader with the merging IS the loader all
other theorems speak about. -/
theorem loadTreeM_eq_loadTreeO (o : Opts) (fs : Fields) (j : J) (h : hasDup (infoFields fs).keys = false) :
    loadTreeM o fs j = loadTreeO o fs j := by
  simp only [loadTreeM, loadTreeO, loadTreeWithO, infoConflict, infoOf, h, Bool.false_or,
    show infoFieldsM fs = some (infoFields fs) from infoFieldsM_eq_infoFields fs h]

/-- format independence for EVERY struct type of the family, the merged ones included (two embedded structs that share a
struct-valued key): the three front ends hand the same tree to the same pure loader. -/
theorem formats_agree_merge (o : Opts) (fs : Fields) (d : J) (t : T) (hd : plainDoc d = true) (ht : embT d = some t) :
    loadTreeM o fs (yamlGlue (embY d)) = loadTreeM o fs d ∧ loadTreeM o fs (tomlGlue t) = loadTreeM o fs d :=
  through_front_ends (loadTreeM o fs) d t hd ht

/-- **a load is a function of (type, tree)** - in the model by construction: `loadAllM` applies `loadTreeM` to every call
separately, so two loads of the same (type, tree) in one sequence return the same.  That the code keeps no state between
loads either (the info is rebuilt by every call) is what Tie `tie_structInfoFresh`, `tie_cPkgVars` pin. -/
theorem load_is_function_of_type_and_tree (o : Opts) (calls : List (Fields × J)) (i k : Nat) (c : Fields × J)
    (hi : calls[i]? = some c) (hk : calls[k]? = some c) : (loadAllM o calls)[i]? = (loadAllM o calls)[k]? := by
  simp [loadAllM, List.getElem?_map, hi, hk]

/-- WITNESS (seeded C17-10): with the info of the first embedded struct KEPT between loads and merged into in place, the
first load builds the merged info and leaves `in ↦ {a, b}` behind; the second load then meets `b` twice: a conflict. -/
theorem shared_info_second_load_conflicts :
    infoFieldsShared (infoFields (.cons { name := "X".toList, key := "in".toList, optional := false, embedded := false } (.struct mergeTyA) .nil))
        (infoFields (.cons { name := "Y".toList, key := "IN".toList, optional := false, embedded := false } (.struct mergeTyB) .nil))
      = some (.cons "in".toList (.node (.cons "a".toList (.node .nil) (.cons "b".toList (.node .nil) .nil))) .nil) ∧
    infoFieldsShared (.cons "in".toList (.node (.cons "a".toList (.node .nil) (.cons "b".toList (.node .nil) .nil))) .nil)
        (infoFields (.cons { name := "Y".toList, key := "IN".toList, optional := false, embedded := false } (.struct mergeTyB) .nil))
      = none := by decide

example : (loadAllM {} [(mergeTy, .obj .nil), (nameTy, .obj .nil), (mergeTy, .obj .nil)]).length = 3 := by simp [loadAllM]

end GoZero.C17
