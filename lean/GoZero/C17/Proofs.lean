/-
C17 — lemmas about the model's own definitions: lower-casing, the data flow of a delegating entry point, the
normal form of the front ends (used by Props.lean; the data-flow lemmas also by Tie.lean).
-/
import GoZero.C17.Spec
namespace GoZero.C17

/-- evaluate the unmarshaller on a concrete (type, document) pair (the mutual block is defined by well-founded
recursion, so `decide` cannot unfold it; `simp` with the equation lemmas can). -/
macro "c17_eval" : tactic => `(tactic|
  simp [unmarshalWith, unmarshalJson, unmarshalStruct, withValue, withoutValue, fillSlice, sliceElems, genMap,
    JM.get?, FMeta.tagKey, Except.map, lower, lowerC, fillPrim, fromStrPrim, primField, convFromString, parseInt?,
    parseNat?, digitsVal, digit?, intInRange, uintInRange, confOpts, getValue, splitDots, splitDotsAux, JL.isNil,
    fromArrayAdj, Ty.isSlice, FMeta.hasExt, FMeta.hasOpts, Ty.prim?, envLookup, loadJsonDet, loadJson, loadJsonO, loadTree, loadTreeO, loadTreeWith, loadTreeWithO, parseFloat, chainLookup, chainKeys, structRequired, zeroOf, zeroFields, sliceElemPrim, mapElemPrim])

theorem lowerC_toNat (c : Char) (h : 65 ≤ c.toNat ∧ c.toNat ≤ 90) : (lowerC c).toNat = c.toNat + 32 := by
  unfold lowerC
  rw [dif_pos h]
  show (UInt32.ofNatLT (c.toNat + 32) _).toNat = _
  rw [UInt32.toNat_ofNatLT]

theorem lowerC_of_not (c : Char) (h : ¬ (65 ≤ c.toNat ∧ c.toNat ≤ 90)) : lowerC c = c := by
  unfold lowerC; rw [dif_neg h]

theorem lowerC_idem (c : Char) : lowerC (lowerC c) = lowerC c := by
  by_cases h : 65 ≤ c.toNat ∧ c.toNat ≤ 90
  · have := lowerC_toNat c h
    exact lowerC_of_not _ (by omega)
  · rw [lowerC_of_not c h, lowerC_of_not c h]

theorem lower_idem (s : Str) : lower (lower s) = lower s := by
  unfold lower
  induction s with
  | nil => rfl
  | cons c cs ih => simp only [List.map_cons, lowerC_idem, ih] at *

/-- `return g(f(a), v, opts...)` -/
theorem runFwd_conv_spread {α : Type} (sem : String → List α → α) (f g : String) (a v dflt : α) (opts : List α) :
    runFwd sem [a, v] opts dflt [⟨f, [.param 0]⟩, ⟨g, [.result 0, .param 1, .spread 2]⟩] = sem g ([sem f [a], v] ++ opts) := by
  simp [runFwd, runFwdAux, evalArgs]

/-- `return g(f(a), v)`: whatever options the caller passed are not seen by `g`. -/
theorem runFwd_conv {α : Type} (sem : String → List α → α) (f g : String) (a v dflt : α) (opts : List α) :
    runFwd sem [a, v] opts dflt [⟨f, [.param 0]⟩, ⟨g, [.result 0, .param 1]⟩] = sem g [sem f [a], v] := by
  simp [runFwd, runFwdAux, evalArgs]

theorem glue_num_yaml (lit : Str) : yamlGlue (embY (.num lit)) = .num lit := by
  unfold embY
  split
  · split
    · rename_i h; simp only [yamlGlue, h]
    · rfl
  · rfl

mutual
theorem yaml_normal_form : ∀ (d : J), plainDoc d = true → yamlGlue (embY d) = d
  | .null, h => by simp [plainDoc] at h
  | .nilArr, h => by simp [plainDoc] at h
  | .bool b, _ => rfl
  | .num lit, _ => glue_num_yaml lit
  | .str s, _ => rfl
  | .arr l, h => by
    have := yaml_normal_form_list l (by simpa [plainDoc] using h)
    simp only [embY, yamlGlue, this]
  | .obj m, h => by
    have := yaml_normal_form_map m (by simpa [plainDoc] using h)
    simp only [embY, yamlGlue, this]

theorem yaml_normal_form_list : ∀ (l : JL), plainDocList l = true → yamlGlueList (embYList l) = l
  | .nil, _ => rfl
  | .cons h t, hp => by
    simp only [plainDocList, Bool.and_eq_true] at hp
    simp only [embYList, yamlGlueList, yaml_normal_form h hp.1, yaml_normal_form_list t hp.2]

theorem yaml_normal_form_map : ∀ (m : JM), plainDocMap m = true → yamlGlueMap (embYMap m) = m
  | .nil, _ => rfl
  | .cons k v t, hp => by
    simp only [plainDocMap, Bool.and_eq_true] at hp
    simp only [embYMap, yamlGlueMap, yRepr, yaml_normal_form v hp.1, yaml_normal_form_map t hp.2]
end

theorem glue_num_toml (lit : Str) (t : T) (h : embT (.num lit) = some t) : tomlGlue t = .num lit := by
  unfold embT at h
  split at h
  · split at h
    · rename_i hh; cases h; simp only [tomlGlue, hh]
    · cases h; rfl
  · cases h; rfl

mutual
theorem toml_normal_form : ∀ (d : J) (t : T), plainDoc d = true → embT d = some t → tomlGlue t = d
  | .null, _, h, _ => by simp [plainDoc] at h
  | .nilArr, _, h, _ => by simp [plainDoc] at h
  | .bool b, t, _, he => by cases he; rfl
  | .num lit, t, _, he => glue_num_toml lit t he
  | .str s, t, _, he => by cases he; rfl
  | .arr l, t, h, he => by
    simp only [embT, Option.map_eq_some_iff] at he
    obtain ⟨tl, h1, h2⟩ := he
    subst h2
    simp only [tomlGlue, toml_normal_form_list l tl (by simpa [plainDoc] using h) h1]
  | .obj m, t, h, he => by
    simp only [embT, Option.map_eq_some_iff] at he
    obtain ⟨tm, h1, h2⟩ := he
    subst h2
    simp only [tomlGlue, toml_normal_form_map m tm (by simpa [plainDoc] using h) h1]

theorem toml_normal_form_list : ∀ (l : JL) (tl : TL), plainDocList l = true → embTList l = some tl → tomlGlueList tl = l
  | .nil, tl, _, he => by cases he; rfl
  | .cons h r, tl, hp, he => by
    simp only [plainDocList, Bool.and_eq_true] at hp
    unfold embTList at he
    split at he
    · rename_i a b ha hb
      cases he
      simp only [tomlGlueList, toml_normal_form h a hp.1 ha, toml_normal_form_list r b hp.2 hb]
    · cases he

theorem toml_normal_form_map : ∀ (m : JM) (tm : TM), plainDocMap m = true → embTMap m = some tm → tomlGlueMap tm = m
  | .nil, tm, _, he => by cases he; rfl
  | .cons k v r, tm, hp, he => by
    simp only [plainDocMap, Bool.and_eq_true] at hp
    unfold embTMap at he
    split at he
    · rename_i a b ha hb
      cases he
      simp only [tomlGlueMap, toml_normal_form v a hp.1 ha, toml_normal_form_map r b hp.2 hb]
    · cases he
end

end GoZero.C17
