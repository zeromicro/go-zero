/-
C17 — `mapping.UnmarshalJsonBytes` (`unmarshalJson` = `unmarshalWith {}`, exact keys) agrees with
`encoding/json.Unmarshal` (`stdDecode`) on the plain fragment, by induction through structs, slices and maps.
The decoders of go-zero (`withValue`, `withoutValue`, `unmarshalStruct`, `fillSlice`, `sliceElems`, `genMap`) are unfolded in §1
only (and by the witness for the dotted key in §4, which the lemmas of §1 do not cover), those of encoding/json (`stdVal`,
`stdList`, `stdMapEntries`, `stdAssign`, `stdAssembleFields`) in §2 only.  §3 puts the two together type by type through these
lemmas; what it unfolds itself are small definitions: the scalar conversions (`stdPrim_ok`, `f32Agree_64`), the predicates on
types where the induction descends (`plainTy`, `tyKeysDistinct`, `tyKeysPlain`, `Ty.primish`), the normalisation `normNil`, and
`Fields.findTy?` / `Fields.keys` for `Fields.subOf`.  §4 holds the theorems and their witnesses (which unfold the predicates of
their hypotheses).
-/
import GoZero.C17.Proofs
import GoZero.C17.Std
import GoZero.Base.StringLit
namespace GoZero.C17

mutual
/-- identify the nil map with the empty map (go-zero allocates the map of an absent map field, encoding/json leaves
it nil: `std_differs_missing_map_nil_vs_empty`).  Nothing else is normalised. -/
def Val.normNil : Val → Val
  | .nilMap => .map .nil
  | .ptr v => .ptr v.normNil
  | .slice l => .slice l.normNil
  | .map m => .map m.normNil
  | .struct m => .struct m.normNil
  | .bool b => .bool b
  | .int i => .int i
  | .flt n d => .flt n d
  | .str s => .str s
  | .nil => .nil
  | .nilSlice => .nilSlice

def VL.normNil : VL → VL
  | .nil => .nil
  | .cons h t => .cons h.normNil t.normNil

def VM.normNil : VM → VM
  | .nil => .nil
  | .cons k v t => .cons k v.normNil t.normNil
end

/-- the two roundings of a literal into a float of width `bits` agree whenever both succeed
(`bits = 64`: always; `bits = 32`: the pinned code rounds to float64 first, `float32_double_rounding`). -/
def f32Agree (bits : Nat) (lit : Str) : Bool :=
  match parseFloat bits true lit, parseFloat bits false lit with
  | .ok a, .ok b => decide (a = b)
  | _, _ => true

/-- kinds whose slice / map elements are converted from the literal text by both decoders. -/
def Ty.primish : Ty → Bool
  | .prim _ => true
  | .ptr (.prim _) => true
  | _ => false

mutual
/-- type directed (needed for the pinned code, `Opts.f32Pinned`, only): at every *struct field* of float kind (or
pointer to it) holding a number literal, the literal rounds to the same float directly and via float64.
Elements of slices and maps are not constrained (both decoders use `strconv.ParseFloat(lit, 32)` there). -/
def f32Stable : Ty → J → Bool
  | .prim (.float bits), .num lit => f32Agree bits lit
  | .ptr (.prim (.float bits)), .num lit => f32Agree bits lit
  | .ptr (.struct fs), .obj m => f32StableStruct fs m
  | .struct fs, .obj m => f32StableStruct fs m
  | .slice t, .arr l => f32StableElems t l
  | .map t, .obj m => f32StableMapVals t m
  | _, _ => true

def f32StableElems (t : Ty) : JL → Bool
  | .nil => true
  | .cons h r => (t.primish || f32Stable t h) && f32StableElems t r

def f32StableMapVals (t : Ty) : JM → Bool
  | .nil => true
  | .cons _ v r => (t.primish || f32Stable t v) && f32StableMapVals t r

def f32StableStruct (fs : Fields) : JM → Bool
  | .nil => true
  | .cons k v r =>
    (match fs.findTy? k with
     | some t => f32Stable t v
     | none => true) && f32StableStruct fs r
end

/-- the options under which the unmarshaller is compared with encoding/json: the defaults; the model-only switch
`f32Pinned` (behaviour before fixes/C17-float32-single-rounding.patch) and the environment are arbitrary. -/
structure PlainOpts (o : Opts) : Prop where
  canon : o.canon = false
  fromString : o.fromString = false
  fromArray : o.fromArray = false
  opaqueKeys : o.opaqueKeys = false

theorem PlainOpts.default : PlainOpts {} := ⟨rfl, rfl, rfl, rfl⟩
theorem PlainOpts.pinned : PlainOpts { f32Pinned := true } := ⟨rfl, rfl, rfl, rfl⟩

theorem R.bind_ok {α β : Type} (x : R α) (f : α → R β) (b : β) :
    (x >>= f) = .ok b ↔ ∃ a, x = .ok a ∧ f a = .ok b := by
  cases x with
  | error e => simp [bind, Except.bind]
  | ok a => simp [bind, Except.bind]

theorem R.map_ok {α β : Type} (x : R α) (f : α → β) (b : β) :
    Except.map f x = .ok b ↔ ∃ a, x = .ok a ∧ b = f a := by
  cases x with
  | error e => simp [Except.map]
  | ok a => simp [Except.map, eq_comm]

theorem R.pure_ok {α : Type} (a b : α) : (pure a : R α) = .ok b ↔ a = b := by
  simp [pure, Except.pure]

theorem R.map_map {α β γ : Type} (f : α → β) (g : β → γ) (E : R α) :
    Except.map g (Except.map f E) = Except.map (fun s => g (f s)) E := by
  cases E <;> rfl

/-- the two-step `match` by which the model threads errors through a field / entry and the rest, as a `bind`. -/
theorem R.match_cons (E : R Val) (rest : R VM) (k : Str) :
    (match E with
      | .error e => .error e
      | .ok x =>
        match rest with
        | .error e => .error e
        | .ok r => .ok (VM.cons k x r)) = E >>= fun x => rest >>= fun r => pure (.cons k x r) := by
  cases E with
  | error e => rfl
  | ok x => cases rest <;> rfl

/-! ## §1 characterisation of the go-zero side on the plain fragment: default options, name tags only, no embedding -/

section GoZeroSide

theorem unmarshalWith_eq (o : Opts) (fs : Fields) (j : J) :
    unmarshalWith o fs j = withValue o [] (.struct fs) j := by
  cases j <;> simp [unmarshalWith, withValue]

theorem unmarshalJson_eq (fs : Fields) (j : J) : unmarshalJson fs j = unmarshalWith {} fs j := rfl

theorem splitDotsAux_no_dot : ∀ (s cur : List Char), '.' ∉ s →
    splitDotsAux s cur = if cur.reverse ++ s = [] then [] else [cur.reverse ++ s]
  | [], cur, _ => by simp [splitDotsAux]
  | c :: cs, cur, h => by
    simp only [List.mem_cons, not_or] at h
    have hc : ¬ c = '.' := fun e => h.1 e.symm
    rw [splitDotsAux, if_neg hc, splitDotsAux_no_dot cs (c :: cur) h.2]
    simp

theorem splitDots_plain (k : Str) (h : keyPlain k = true) : splitDots k = [k] := by
  simp only [keyPlain, Bool.and_eq_true, decide_eq_true_eq, Bool.not_eq_true', List.contains_eq_mem,
    decide_eq_false_iff_not] at h
  rw [splitDots, splitDotsAux_no_dot k [] h.2]
  simp [h.1]

theorem getValue_plain (o : Opts) (ho : PlainOpts o) (ps : List JM) (m : JM) (k : Str) (h : keyPlain k = true) :
    getValue o false ps m k = m.get? k := by
  simp [getValue, ho.opaqueKeys, splitDots_plain k h]

theorem unmarshalStruct_plain_nil (o : Opts) (ps : List JM) (m : JM) : unmarshalStruct o ps .nil m = .ok .nil := by
  rw [unmarshalStruct]

/-- what `processField` does for a plain (required, named, no tag options) field of type `t`, given the lookup of
its key; `ps` = the objects of the enclosing structs including the current one. -/
def gzField (o : Opts) (ps : List JM) (t : Ty) : Option J → R Val
  | none => withoutValue o t false
  | some .null => .error .err
  | some v => withValue o ps t v

theorem gzField_none (o : Opts) (ps : List JM) (t : Ty) : gzField o ps t none = withoutValue o t false := rfl
theorem gzField_some (o : Opts) (ps : List JM) (t : Ty) (v : J) (hv : v ≠ .null) :
    gzField o ps t (some v) = withValue o ps t v := by
  cases v <;> first | exact absurd rfl hv | rfl

theorem unmarshalStruct_plain_cons (o : Opts) (ho : PlainOpts o) (ps : List JM) (f : FMeta) (t : Ty) (rest : Fields)
    (m : JM) (hopt : f.optional = false) (he : f.embedded = false) (hx : f.hasExt = false)
    (hk : keyPlain f.tagKey = true) :
    unmarshalStruct o ps (.cons f t rest) m =
      gzField o (m :: ps) t (m.get? f.tagKey) >>= fun x =>
      unmarshalStruct o ps rest m >>= fun r => pure (.cons f.name x r) := by
  have hx' := hx
  simp only [FMeta.hasExt, Bool.or_eq_false_iff, decide_eq_false_iff_not, ne_eq, Decidable.not_not] at hx'
  obtain ⟨⟨⟨⟨⟨hdflt, _⟩, _⟩, henv⟩, hinh⟩, _⟩ := hx'
  rw [unmarshalStruct.eq_def]
  simp only [he, hopt, hx, hdflt, henv, hinh, ho.canon, ho.fromArray, getValue_plain o ho ps m f.tagKey hk,
    Bool.false_eq_true, if_false, ne_eq, not_true_eq_false, false_and]
  cases m.get? f.tagKey with
  | none => exact R.match_cons ..
  | some v => cases v <;> first | exact R.match_cons .. | exact R.match_cons (.error .err) ..

theorem withoutValue_prim (o : Opts) (p : Prim) : withoutValue o (.prim p) false = .error .err := by
  rw [withoutValue]

theorem withoutValue_slice (o : Opts) (t : Ty) : withoutValue o (.slice t) false = .error .err := by
  rw [withoutValue]

theorem withoutValue_map (o : Opts) (t : Ty) : withoutValue o (.map t) false = .ok (.map .nil) := by
  rw [withoutValue]

theorem withoutValue_struct_required (o : Opts) (fs : Fields) (h : structRequired fs = true) :
    withoutValue o (.struct fs) false = .error .err := by
  rw [withoutValue]; simp only [h, if_true]

/-- what a pointer of the family points at: a primitive or a struct. -/
def Ty.pointee : Ty → Bool
  | .prim _ | .struct _ => true
  | _ => false

/-- the value of a pointer field from the result for its pointee. -/
def ptrOf (t : Ty) (r : R Val) : R Val := if t.pointee then r.map .ptr else .error .unmodelled

theorem ptrOf_ok {t : Ty} {r : R Val} {a : Val} (h : ptrOf t r = .ok a) :
    t.pointee = true ∧ ∃ x, r = .ok x ∧ a = .ptr x := by
  unfold ptrOf at h
  split at h
  · exact ⟨‹_›, (R.map_ok ..).mp h⟩
  · cases h

theorem withoutValue_ptr (o : Opts) (t : Ty) :
    withoutValue o (.ptr t) false = ptrOf t (withoutValue o t false) := by
  cases t with
  | prim p => rw [withoutValue, withoutValue]; rfl
  | struct fs =>
    rw [withoutValue, withoutValue]
    simp only [ptrOf, Ty.pointee, if_true]
    split
    · rfl
    · cases unmarshalStruct o [] fs .nil <;> rfl
  | _ => simp only [ptrOf, Ty.pointee, Bool.false_eq_true, if_false]; rw [withoutValue]; all_goals simp

theorem withValue_ptr (o : Opts) (ps : List JM) (t : Ty) (v : J) :
    withValue o ps (.ptr t) v = ptrOf t (withValue o ps t v) := by
  cases t with
  | prim p => rw [withValue, withValue]; rfl
  | struct fs =>
    cases v <;> simp only [withValue, ptrOf, Ty.pointee, if_true, Except.map]
    cases unmarshalStruct o ps fs _ <;> rfl
  | _ => simp only [ptrOf, Ty.pointee, Bool.false_eq_true, if_false]; rw [withValue]; all_goals simp

theorem withValue_prim (o : Opts) (ho : PlainOpts o) (ps : List JM) (p : Prim) (v : J) :
    withValue o ps (.prim p) v = fillPrim o.f32Pinned p v := by
  rw [withValue]; simp [primField, ho.fromString]

theorem withValue_struct_obj (o : Opts) (ps : List JM) (fs : Fields) (m : JM) :
    withValue o ps (.struct fs) (.obj m) = (unmarshalStruct o ps fs m).map .struct := by
  rw [withValue]

theorem withValue_slice_arr (o : Opts) (ps : List JM) (t : Ty) (l : JL) :
    withValue o ps (.slice t) (.arr l) = fillSlice o t l := by
  rw [withValue]

theorem withValue_map_obj (o : Opts) (ps : List JM) (t : Ty) (m : JM) :
    withValue o ps (.map t) (.obj m) = (genMap o t m).map .map := by
  rw [withValue]

theorem fillSlice_nil (o : Opts) (t : Ty) : fillSlice o t .nil = .ok (.slice .nil) := by
  rw [fillSlice]; simp [JL.isNil]

theorem fillSlice_cons (o : Opts) (t : Ty) (x : J) (r : JL) :
    fillSlice o t (.cons x r) =
      sliceElems o t (.cons x r) >>= fun p => pure (if p.2 then .slice p.1 else .nilSlice) := by
  rw [fillSlice.eq_def]
  simp only [JL.isNil, Bool.false_eq_true, if_false]
  cases sliceElems o t (.cons x r) with
  | error e => rfl
  | ok p => obtain ⟨vs, b⟩ := p; cases b <;> rfl

/-- what `fillSliceValue` / `generateMap` do with one element of a slice (non-null: `sliceElems_cons`) / one value of a map (any:
`genMap_cons`) of `t`: `conv` converts an element of primitive kind, every other element is decoded like a field (a struct element starts a fresh chain of
enclosing objects). -/
def gzElem (conv : Prim → J → R Val) (o : Opts) (t : Ty) (x : J) : R Val :=
  match t with
  | .prim p => conv p x
  | .ptr (.prim p) => (conv p x).map .ptr
  | t => withValue o [] t x

theorem gzElem_other (conv : Prim → J → R Val) (o : Opts) (t : Ty) (x : J) (h : t.primish = false) :
    gzElem conv o t x = withValue o [] t x := by
  unfold gzElem
  split
  · simp [Ty.primish] at h
  · simp [Ty.primish] at h
  · rfl

theorem sliceElems_nil (o : Opts) (t : Ty) : sliceElems o t .nil = .ok (.nil, false) := by
  rw [sliceElems]

theorem sliceElems_cons (o : Opts) (t : Ty) (x : J) (rest : JL) (hx : x ≠ .null) :
    sliceElems o t (.cons x rest) =
      gzElem sliceElemPrim o t x >>= fun v =>
      sliceElems o t rest >>= fun p => pure (.cons v p.1, true) := by
  have fin : ∀ (E : R Val), (match Except.map (fun s => (s, true)) E with
      | Except.error e => Except.error e
      | Except.ok (v, valid) =>
        match sliceElems o t rest with
        | Except.error e => Except.error e
        | Except.ok (vs, anyValid) => Except.ok (VL.cons v vs, valid || anyValid)) =
      (E >>= fun s => sliceElems o t rest >>= fun p => pure (.cons s p.1, true)) := by
    intro E
    cases E with
    | error e => rfl
    | ok v => cases sliceElems o t rest with
      | error e => rfl
      | ok p => obtain ⟨_, _⟩ := p; rfl
  rw [sliceElems.eq_def]
  simp only
  refine Eq.trans ?_ (fin (gzElem sliceElemPrim o t x))
  congr 1
  clear fin
  -- only the model's dispatch is split (its arms, in its order; the null arm goes with `hx`): in a catch-all arm `split`
  -- leaves exactly the side condition of the matching equation of `withValue`, so the other side is rewritten, not split
  split
  iterate 3 (split <;> simp only [gzElem, withValue, R.map_map, *] <;> rfl)
  · rfl
  · simp only [gzElem, R.map_map]
  · split <;> simp only [gzElem, withValue, R.map_map, *] <;> rfl
  · rename_i t' _ _
    cases t' <;> simp_all [gzElem, withValue] <;> rfl

/-- `gzElem mapElemPrim` written out: the form in which `genMap_cons` and `genMap_pointwise` (Props.lean) state the entry. -/
def gzMapElem (o : Opts) (t : Ty) (x : J) : R Val :=
  match t with
  | .prim p => mapElemPrim p x
  | .ptr (.prim p) => (mapElemPrim p x).map .ptr
  | t => withValue o [] t x

theorem gzMapElem_eq (o : Opts) (t : Ty) (x : J) : gzMapElem o t x = gzElem mapElemPrim o t x := rfl

theorem genMap_nil (o : Opts) (t : Ty) : genMap o t .nil = .ok .nil := by
  rw [genMap]

theorem genMap_cons (o : Opts) (t : Ty) (k : Str) (x : J) (rest : JM) :
    genMap o t (.cons k x rest) =
      gzMapElem o t x >>= fun v =>
      genMap o t rest >>= fun vs => pure (.cons k v vs) := by
  rw [genMap.eq_def]
  simp only
  refine Eq.trans ?_ (R.match_cons (gzMapElem o t x) (genMap o t rest) k)
  congr 1
  -- only the model's dispatch is split, as in `sliceElems_cons`
  split
  iterate 4 (split <;> simp only [gzMapElem, withValue, *])
  iterate 2 rfl
  · rename_i t' _ _
    cases t' <;> simp_all [gzMapElem, withValue]

theorem fillPrim_num_int (two : Bool) (n : Nat) (lit : Str) :
    fillPrim two (.int n) (.num lit) = convFromString (.int n) lit := rfl

theorem fillPrim_num_uint (two : Bool) (n : Nat) (lit : Str) :
    fillPrim two (.uint n) (.num lit) = convFromString (.uint n) lit := rfl

theorem fillPrim_num_float (two : Bool) (n : Nat) (lit : Str) :
    fillPrim two (.float n) (.num lit) = parseFloat n two lit := rfl

theorem fillPrim_bool (two : Bool) (p : Prim) (b : Bool) :
    fillPrim two p (.bool b) = if p = .bool then .ok (.bool b) else .error .err := rfl

theorem fillPrim_str (two : Bool) (p : Prim) (s : Str) :
    fillPrim two p (.str s) = if p = .string then .ok (.str s) else .error .err := rfl

theorem sliceElemPrim_num (p : Prim) (lit : Str) : sliceElemPrim p (.num lit) = convFromString p lit := rfl
theorem sliceElemPrim_str (p : Prim) (s : Str) : sliceElemPrim p (.str s) = convFromString p s := rfl
theorem sliceElemPrim_bool (p : Prim) (b : Bool) :
    sliceElemPrim p (.bool b) = if p = .bool then .ok (.bool b) else .error .err := rfl

theorem mapElemPrim_num (p : Prim) (lit : Str) : mapElemPrim p (.num lit) = convFromString p lit := rfl
theorem mapElemPrim_str (p : Prim) (s : Str) :
    mapElemPrim p (.str s) = if p = .string then .ok (.str s) else .error .err := rfl

theorem mapElemPrim_bool (p : Prim) (b : Bool) :
    mapElemPrim p (.bool b) = if p = .bool then .ok (.bool b) else .error .err := rfl

end GoZeroSide

/-! ## §2 the encoding/json side and the specification side -/

section StdSide

theorem stdVal_prim (p : Prim) (v : J) (hv : v ≠ .null) : stdVal (.prim p) v = stdPrim p v := by
  cases v <;> first | exact absurd rfl hv | simp [stdVal]

theorem stdVal_ptr (t : Ty) (v : J) (hv : v ≠ .null) : stdVal (.ptr t) v = ptrOf t (stdVal t v) := by
  cases v with
  | null => exact absurd rfl hv
  | _ => cases t <;> rfl

theorem stdVal_struct_obj (fs : Fields) (m : JM) : stdVal (.struct fs) (.obj m) = stdFinish fs (stdAssign fs m) := by
  simp [stdVal]

theorem stdVal_slice_arr (t : Ty) (l : JL) : stdVal (.slice t) (.arr l) = (stdList t l).map .slice := by
  simp [stdVal]

theorem stdVal_map_obj (t : Ty) (m : JM) : stdVal (.map t) (.obj m) = (stdMapEntries t m).map .map := by
  simp [stdVal]

theorem stdVal_ok_shape {t : Ty} {v : J} {b : Val} (hv : v ≠ .null) (h : stdVal t v = .ok b) :
    match t with
    | .struct _ | .map _ => ∃ m, v = .obj m
    | .slice _ => ∃ l, v = .arr l
    | _ => True := by
  cases v with
  | null => exact absurd rfl hv
  | _ => cases t <;> first | trivial | exact ⟨_, rfl⟩ | simp [stdVal] at h

theorem stdList_nil (t : Ty) : stdList t .nil = .ok .nil := by rw [stdList]
theorem stdList_cons (t : Ty) (h : J) (r : JL) :
    stdList t (.cons h r) = stdVal t h >>= fun x => stdList t r >>= fun xs => pure (.cons x xs) := by
  rw [stdList]
  cases stdVal t h with
  | error e => rfl
  | ok x => cases stdList t r <;> rfl

theorem stdMapEntries_nil (t : Ty) : stdMapEntries t .nil = .ok .nil := by rw [stdMapEntries]
theorem stdMapEntries_cons (t : Ty) (k : Str) (v : J) (r : JM) :
    stdMapEntries t (.cons k v r) =
      stdVal t v >>= fun x => stdMapEntries t r >>= fun xs => pure (.cons k x xs) := by
  rw [stdMapEntries]
  exact R.match_cons ..

theorem stdAssign_nil (fs : Fields) : stdAssign fs .nil = .ok [] := by rw [stdAssign]
theorem stdAssign_cons_skip (fs : Fields) (k : Str) (v : J) (r : JM) (h : fs.resolve? k = none) :
    stdAssign fs (.cons k v r) = stdAssign fs r := by
  rw [stdAssign]; simp only [h]

theorem stdAssign_cons_hit (fs : Fields) (k fk : Str) (ft : Ty) (v : J) (r : JM)
    (h : fs.resolve? k = some fk) (hf : fs.findTy? fk = some ft) (hv : v ≠ .null) :
    stdAssign fs (.cons k v r) =
      stdVal ft v >>= fun x => stdAssign fs r >>= fun xs => pure ((fk, some x) :: xs) := by
  rw [stdAssign]
  simp only [h, hf]
  cases v with
  | null => exact absurd rfl hv
  | _ =>
    cases stdVal ft _ with
    | error e => rfl
    | ok x => cases stdAssign fs r <;> rfl

theorem stdAssembleFields_nil (as : List (Str × Option Val)) : stdAssembleFields .nil as = .ok .nil := by
  rw [stdAssembleFields]

theorem stdAssembleFields_cons_none (f : FMeta) (t : Ty) (rest : Fields) (as : List (Str × Option Val))
    (h : (as.filter fun a => a.1 = f.tagKey).map (·.2) = []) :
    stdAssembleFields (.cons f t rest) as =
      stdAssembleFields rest as >>= fun xs => pure (.cons f.name (zeroOf t) xs) := by
  rw [stdAssembleFields.eq_def]
  simp only [h]
  cases stdAssembleFields rest as <;> rfl

theorem stdAssembleFields_cons_one (f : FMeta) (t : Ty) (rest : Fields) (as : List (Str × Option Val)) (x : Val)
    (h : (as.filter fun a => a.1 = f.tagKey).map (·.2) = [some x]) :
    stdAssembleFields (.cons f t rest) as =
      stdAssembleFields rest as >>= fun xs => pure (.cons f.name x xs) := by
  rw [stdAssembleFields.eq_def]
  simp only [h]
  cases stdAssembleFields rest as <;> rfl

theorem stdFinish_ok (fs : Fields) (r : R (List (Str × Option Val))) (b : Val) (h : stdFinish fs r = .ok b) :
    ∃ as y, r = .ok as ∧ stdAssembleFields fs as = .ok y ∧ b = .struct y := by
  unfold stdFinish at h
  split at h
  · cases h
  · cases r with
    | error e => cases h
    | ok as =>
      simp only [stdAssemble, R.map_ok] at h
      obtain ⟨y, h1, h2⟩ := h
      exact ⟨as, y, rfl, h1, h2⟩

theorem Fields.find?_eq_findTy? : ∀ (fs : Fields) (k : Str), fs.find? k = fs.findTy? k
  | .nil, _ => rfl
  | .cons f t rest, k => by
    simp only [Fields.find?, Fields.findTy?, Fields.find?_eq_findTy? rest k]

theorem Fields.findTy?_none_iff : ∀ (fs : Fields) (k : Str), fs.findTy? k = none ↔ k ∉ fs.keys
  | .nil, _ => by simp [Fields.findTy?, Fields.keys]
  | .cons f t rest, k => by
    simp only [Fields.findTy?, Fields.keys, List.mem_cons, not_or]
    by_cases h : f.tagKey = k
    · simp [h]
    · have h' : ¬ k = f.tagKey := fun e => h e.symm
      simp [h, h', Fields.findTy?_none_iff rest k]

theorem Fields.findTy?_mem (fs : Fields) (k : Str) (t : Ty) (h : fs.findTy? k = some t) : k ∈ fs.keys := by
  apply Classical.byContradiction
  intro hn
  rw [(Fields.findTy?_none_iff fs k).mpr hn] at h
  cases h

theorem Fields.foldKey?_none : ∀ (fs : Fields) (k : Str), lower k ∉ fs.keys.map lower → fs.foldKey? k = none
  | .nil, _, _ => rfl
  | .cons f t rest, k, h => by
    simp only [Fields.keys, List.map_cons, List.mem_cons, not_or] at h
    have h1 : ¬ lower f.tagKey = lower k := fun e => h.1 e.symm
    simp only [Fields.foldKey?, h1, if_false]
    exact Fields.foldKey?_none rest k h.2

theorem Fields.resolve?_of_mem (fs : Fields) (k : Str) (t : Ty) (h : fs.findTy? k = some t) :
    fs.resolve? k = some k := by
  simp only [Fields.resolve?, h]

theorem Fields.resolve?_of_not_mem (fs : Fields) (k : Str) (h : k ∉ fs.keys) (hl : lower k ∉ fs.keys.map lower) :
    fs.resolve? k = none := by
  simp only [Fields.resolve?, (Fields.findTy?_none_iff fs k).mpr h, Fields.foldKey?_none fs k hl]

theorem hasDup_cons_false (k : Str) (ks : List Str) : hasDup (k :: ks) = false ↔ k ∉ ks ∧ hasDup ks = false := by
  simp [hasDup]

theorem hasDup_map_false (f : Str → Str) : ∀ (l : List Str), hasDup (l.map f) = false → hasDup l = false
  | [], _ => rfl
  | k :: ks, h => by
    rw [List.map_cons, hasDup_cons_false] at h
    rw [hasDup_cons_false]
    exact ⟨fun hm => h.1 (List.mem_map_of_mem hm), hasDup_map_false f ks h.2⟩

theorem JM.get?_none_of_not_mem : ∀ (m : JM) (k : Str), k ∉ m.keys → m.get? k = none
  | .nil, _, _ => rfl
  | .cons k' v r, k, h => by
    simp only [JM.keys, List.mem_cons, not_or] at h
    have h1 : ¬ k' = k := fun e => h.1 e.symm
    simp only [JM.get?, h1, if_false]
    exact JM.get?_none_of_not_mem r k h.2

theorem keysExactStruct_cons (fs : Fields) (ks : List Str) (k : Str) (v : J) (r : JM)
    (h : keysExactStruct fs ks (.cons k v r) = true) :
    keysExactStruct fs ks r = true ∧
    (k ∈ ks → ∀ t, fs.findTy? k = some t → keysExact t v = true) ∧
    (k ∉ ks → lower k ∉ ks.map lower) := by
  simp only [keysExactStruct, Bool.and_eq_true] at h
  obtain ⟨h1, h2⟩ := h
  refine ⟨h2, ?_, ?_⟩
  · intro hk t ht
    have hc : ks.contains k = true := by simpa using hk
    rw [if_pos hc, Fields.find?_eq_findTy?, ht] at h1
    exact h1
  · intro hk
    have hc : ¬ ks.contains k = true := by simpa using hk
    rw [if_neg hc] at h1
    simpa using h1

theorem plainDoc_ne_null (v : J) (h : plainDoc v = true) : v ≠ .null := by
  intro e; rw [e] at h; simp [plainDoc] at h

/- `two` = `Opts.f32Pinned`: the float32 hypothesis is needed for the pinned code only.  There are two levels of bundles because
a struct FIELD of float kind needs `f32Stable`, an ELEMENT of primitive kind does not (`ElemOK.hf`, `Ty.primish`). -/

/-- hypotheses on a value at a struct-field position of type `t`. -/
structure DocOK (two : Bool) (t : Ty) (v : J) : Prop where
  hd : plainDoc v = true
  hc : noCaseCollision v = true
  hk : keysExact t v = true
  hf : two = true → f32Stable t v = true

/-- hypotheses on an element of a slice / a value of a map of element type `t`. -/
structure ElemOK (two : Bool) (t : Ty) (v : J) : Prop where
  hd : plainDoc v = true
  hc : noCaseCollision v = true
  hk : keysExact t v = true
  hf : two = true → (t.primish || f32Stable t v) = true

/-- hypotheses on an object decoded into the struct `fs`. -/
structure ObjOK (two : Bool) (fs : Fields) (m : JM) : Prop where
  hd : plainDocMap m = true
  hdup : hasDup m.keys = false
  hc : noCaseCollisionMap m = true
  hk : keysExactStruct fs fs.keys m = true
  hf : two = true → f32StableStruct fs m = true

/-- hypotheses on the elements of an array decoded into `[]t`. -/
structure ListOK (two : Bool) (t : Ty) (l : JL) : Prop where
  hd : plainDocList l = true
  hc : noCaseCollisionList l = true
  hk : keysExactList t l = true
  hf : two = true → f32StableElems t l = true

/-- hypotheses on the values of an object decoded into `map[string]t`. -/
structure MapValsOK (two : Bool) (t : Ty) (m : JM) : Prop where
  hd : plainDocMap m = true
  hc : noCaseCollisionMap m = true
  hk : keysExactMapVals t m = true
  hf : two = true → f32StableMapVals t m = true

theorem DocOK.ne_null {two : Bool} {t : Ty} {v : J} (h : DocOK two t v) : v ≠ .null := plainDoc_ne_null v h.hd
theorem ElemOK.ne_null {two : Bool} {t : Ty} {v : J} (h : ElemOK two t v) : v ≠ .null := plainDoc_ne_null v h.hd

theorem ElemOK.toDoc {two : Bool} {t : Ty} {v : J} (h : ElemOK two t v) (hp : t.primish = false) : DocOK two t v :=
  ⟨h.hd, h.hc, h.hk, fun h2 => by have := h.hf h2; rw [hp] at this; simpa using this⟩

theorem noCaseCollision_obj (m : JM) (h : noCaseCollision (.obj m) = true) :
    hasDup m.keys = false ∧ noCaseCollisionMap m = true := by
  simp only [noCaseCollision, Bool.and_eq_true, Bool.not_eq_true'] at h
  exact ⟨hasDup_map_false lower _ h.1, h.2⟩

theorem DocOK.struct_obj {two : Bool} {fs : Fields} {m : JM} (h : DocOK two (.struct fs) (.obj m)) :
    ObjOK two fs m :=
  have hc := noCaseCollision_obj m h.hc
  ⟨h.hd, hc.1, hc.2, by simpa only [keysExact] using h.hk, h.hf⟩

theorem DocOK.of_ptr {two : Bool} {t : Ty} {v : J} (h : DocOK two (.ptr t) v) (ht : t.pointee = true) :
    DocOK two t v :=
  ⟨h.hd, h.hc, by simpa only [keysExact] using h.hk, fun h2 => by
    have := h.hf h2
    cases t with
    | prim p => cases p <;> cases v <;> first | rfl | exact this
    | struct fs => cases v <;> first | rfl | exact this
    | _ => cases ht⟩

theorem DocOK.slice_arr {two : Bool} {t : Ty} {l : JL} (h : DocOK two (.slice t) (.arr l)) : ListOK two t l :=
  ⟨h.hd, h.hc, by simpa only [keysExact] using h.hk, h.hf⟩

theorem DocOK.map_obj {two : Bool} {t : Ty} {m : JM} (h : DocOK two (.map t) (.obj m)) : MapValsOK two t m :=
  ⟨h.hd, (noCaseCollision_obj m h.hc).2, by simpa only [keysExact] using h.hk, h.hf⟩

theorem ListOK.cons {two : Bool} {t : Ty} {x : J} {r : JL} (h : ListOK two t (.cons x r)) :
    ElemOK two t x ∧ ListOK two t r := by
  obtain ⟨hd, hc, hk, hf⟩ := h
  simp only [plainDocList, noCaseCollisionList, keysExactList, f32StableElems, Bool.and_eq_true] at hd hc hk hf
  exact ⟨⟨hd.1, hc.1, hk.1, fun h2 => (hf h2).1⟩, ⟨hd.2, hc.2, hk.2, fun h2 => (hf h2).2⟩⟩

theorem MapValsOK.cons {two : Bool} {t : Ty} {k : Str} {x : J} {r : JM} (h : MapValsOK two t (.cons k x r)) :
    ElemOK two t x ∧ MapValsOK two t r := by
  obtain ⟨hd, hc, hk, hf⟩ := h
  simp only [plainDocMap, noCaseCollisionMap, keysExactMapVals, f32StableMapVals, Bool.and_eq_true] at hd hc hk hf
  exact ⟨⟨hd.1, hc.1, hk.1, fun h2 => (hf h2).1⟩, ⟨hd.2, hc.2, hk.2, fun h2 => (hf h2).2⟩⟩

/-- what encoding/json has assigned to a field (`as` = the assignments made by the object's entries) is what go-zero finds
by looking the field's key up in the object. -/
theorem ObjOK.field (two : Bool) (fs : Fields) : ∀ (m : JM) (as : List (Str × Option Val)), ObjOK two fs m →
    stdAssign fs m = .ok as → ∀ (K : Str) (t : Ty), fs.findTy? K = some t →
    (m.get? K = none → (as.filter fun a => a.1 = K).map (·.2) = []) ∧
    (∀ v, m.get? K = some v →
      DocOK two t v ∧ ∃ x, stdVal t v = .ok x ∧ (as.filter fun a => a.1 = K).map (·.2) = [some x])
  | .nil, as, _, hs, K, t, ht => by
    rw [stdAssign_nil] at hs
    cases hs
    simp [JM.get?]
  | .cons k v r, as, h, hs, K, t, ht => by
    obtain ⟨hd, hdup, hc, hk, hf⟩ := h
    simp only [plainDocMap, noCaseCollisionMap, f32StableStruct, JM.keys, hasDup_cons_false, Bool.and_eq_true]
      at hd hc hf hdup
    have hv := plainDoc_ne_null v hd.1
    obtain ⟨hk_r, hk_in, hk_out⟩ := keysExactStruct_cons fs fs.keys k v r hk
    have IH := fun as' hs' =>
      ObjOK.field two fs r as' ⟨hd.2, hdup.2, hc.2, hk_r, fun h2 => (hf h2).2⟩ hs' K t ht
    cases hft : fs.findTy? k with
    | none =>
      -- `k` is no field key, hence (exact keys) resolves to nothing, and it is not `K`
      have hmem := (Fields.findTy?_none_iff fs k).mp hft
      have hne : ¬ k = K := fun e => by rw [e, ht] at hft; cases hft
      rw [stdAssign_cons_skip fs k v r (Fields.resolve?_of_not_mem fs k hmem (hk_out hmem))] at hs
      simp only [JM.get?, hne, if_false]
      exact IH as hs
    | some ft =>
      rw [stdAssign_cons_hit fs k k ft v r (Fields.resolve?_of_mem fs k ft hft) hft hv] at hs
      simp only [R.bind_ok, R.pure_ok] at hs
      obtain ⟨x, hx, xs, hxs, has⟩ := hs
      subst has
      by_cases hkK : k = K
      · subst hkK
        have : ft = t := by rw [hft] at ht; injection ht
        subst this
        have hrn : r.get? k = none := JM.get?_none_of_not_mem r k hdup.1
        have := (IH xs hxs).1 hrn
        have hdoc : DocOK two ft v :=
          ⟨hd.1, hc.1, hk_in (Fields.findTy?_mem fs k ft hft) ft hft, fun h2 => by have := (hf h2).1; rwa [hft] at this⟩
        simp [JM.get?, this, hx, hdoc]
      · simp only [JM.get?, hkK, if_false, List.filter_cons, decide_false, Bool.false_eq_true]
        exact IH xs hxs

end StdSide

/-! ## §3 the induction over the type, from the lemmas of §1 and §2 and the scalar conversions -/

section Layers

theorem stdPrim_ok {p : Prim} {v : J} {b : Val} (h : stdPrim p v = .ok b) :
    (∃ lit, v = .num lit ∧ p ≠ .bool ∧ p ≠ .string ∧ convFromString p lit = .ok b) ∨
    (∃ x, v = .bool x ∧ p = .bool ∧ b = .bool x) ∨ (∃ s, v = .str s ∧ p = .string ∧ b = .str s) := by
  cases v with
  | num lit => cases p <;> simp [stdPrim] at h <;> exact .inl ⟨lit, rfl, nofun, nofun, h⟩
  | bool x =>
    by_cases hp : p = .bool <;> simp [stdPrim, hp] at h
    exact .inr (.inl ⟨x, rfl, hp, h.symm⟩)
  | str s =>
    by_cases hp : p = .string <;> simp [stdPrim, hp] at h
    exact .inr (.inr ⟨s, rfl, hp, h.symm⟩)
  | _ => simp [stdPrim] at h

theorem f32Agree_64 (lit : Str) : f32Agree 64 lit = true := by
  have : parseFloat 64 true lit = parseFloat 64 false lit := by simp only [parseFloat, if_true]
  rw [f32Agree, this]
  cases parseFloat 64 false lit <;> simp

theorem field_prim_agree (two : Bool) (p : Prim) (v : J) (a b : Val)
    (hf : two = true → f32Stable (.prim p) v = true)
    (hu : fillPrim two p v = .ok a) (hs : stdPrim p v = .ok b) : a = b := by
  obtain ⟨lit, rfl, hb, hst, hc⟩ | ⟨x, rfl, rfl, rfl⟩ | ⟨s, rfl, rfl, rfl⟩ := stdPrim_ok hs
  · cases p with
    | float n =>
      rw [fillPrim_num_float] at hu
      cases two with
      | false => exact Except.ok.inj (hu.symm.trans hc)
      | true =>
        have : f32Agree n lit = true := hf rfl
        rw [f32Agree, hu, show parseFloat n false lit = .ok b from hc] at this
        simpa using this
    | int n => exact Except.ok.inj (hu.symm.trans hc)
    | uint n => exact Except.ok.inj (hu.symm.trans hc)
    | bool => exact absurd rfl hb
    | string => exact absurd rfl hst
  · exact (Except.ok.inj hu).symm
  · exact (Except.ok.inj hu).symm

theorem sliceElem_prim_agree (p : Prim) (x : J) (a b : Val)
    (hu : sliceElemPrim p x = .ok a) (hs : stdPrim p x = .ok b) : a = b := by
  obtain ⟨lit, rfl, _, _, hc⟩ | ⟨x, rfl, rfl, rfl⟩ | ⟨s, rfl, rfl, rfl⟩ := stdPrim_ok hs
  · exact Except.ok.inj (hu.symm.trans hc)
  · exact (Except.ok.inj hu).symm
  · exact (Except.ok.inj hu).symm

theorem mapElem_prim_agree (p : Prim) (x : J) (a b : Val)
    (hu : mapElemPrim p x = .ok a) (hs : stdPrim p x = .ok b) : a = b := by
  obtain ⟨lit, rfl, _, _, hc⟩ | ⟨x, rfl, rfl, rfl⟩ | ⟨s, rfl, rfl, rfl⟩ := stdPrim_ok hs
  · exact Except.ok.inj (hu.symm.trans hc)
  · exact (Except.ok.inj hu).symm
  · exact (Except.ok.inj hu).symm

/-- agreement at one field position of type `t`, for every chain `ps` of enclosing objects (go-zero's `,inherit` looks into
them; on the plain fragment nothing does, so the induction may change the chain freely). -/
def AgreeTy (o : Opts) (t : Ty) : Prop :=
  ∀ ps v, DocOK o.f32Pinned t v → ∀ a b, withValue o ps t v = .ok a → stdVal t v = .ok b → a.normNil = b.normNil

/-- `fs'.subOf fs`: `fs'` is the tail of fields still to do, and each of its keys finds ITS OWN type in the whole struct `fs`.
False when an earlier field of `fs` repeats the key: this is where `tyKeysDistinct` enters (`Fields.subOf_self`). -/
def Fields.subOf : Fields → Fields → Prop
  | .nil, _ => True
  | .cons f t rest, fs => fs.findTy? f.tagKey = some t ∧ rest.subOf fs

/-- agreement on the fields `fs'` of a struct `fs`: go-zero looks each field up in the object, encoding/json has
distributed the object's entries (`as`) over the fields. -/
def AgreeFields (o : Opts) (fs' : Fields) : Prop :=
  ∀ (ps : List JM) (fs : Fields) (m : JM) (as : List (Str × Option Val)), fs'.subOf fs → ObjOK o.f32Pinned fs m →
    stdAssign fs m = .ok as →
    ∀ a b, unmarshalStruct o ps fs' m = .ok a → stdAssembleFields fs' as = .ok b → a.normNil = b.normNil

theorem Fields.subOf_cons_right (g : FMeta) (u : Ty) (fs : Fields) :
    ∀ (fs' : Fields), fs'.subOf fs → g.tagKey ∉ fs'.keys → fs'.subOf (.cons g u fs)
  | .nil, _, _ => trivial
  | .cons f t rest, h, hn => by
    simp only [Fields.keys, List.mem_cons, not_or] at hn
    refine ⟨?_, Fields.subOf_cons_right g u fs rest h.2 hn.2⟩
    simp only [Fields.findTy?, hn.1, if_false]
    exact h.1

theorem Fields.subOf_self : ∀ (fs : Fields), hasDup fs.keys = false → fs.subOf fs
  | .nil, _ => trivial
  | .cons f t rest, h => by
    simp only [Fields.keys] at h
    rw [hasDup_cons_false] at h
    refine ⟨?_, Fields.subOf_cons_right f t rest rest (Fields.subOf_self rest h.2) h.1⟩
    simp only [Fields.findTy?, if_true]

/-- an absent key: go-zero accepts only for a map field (the plain fragment has no optional struct), and gives the
empty map where encoding/json leaves nil. -/
theorem withoutValue_plain_agree : ∀ (o : Opts) (t : Ty), plainTy t = true → ∀ (x : Val),
    withoutValue o t false = .ok x → x.normNil = (zeroOf t).normNil
  | o, .prim p, _, x, h => by rw [withoutValue_prim] at h; cases h
  | o, .slice t, _, x, h => by rw [withoutValue_slice] at h; cases h
  | o, .map t, _, x, h => by
    rw [withoutValue_map] at h
    cases h
    rfl
  | o, .struct fs, hp, x, h => by
    simp only [plainTy, Bool.and_eq_true] at hp
    rw [withoutValue_struct_required o fs hp.2] at h; cases h
  | o, .ptr t, hp, x, h => by
    -- an absent pointee is not accepted, so neither is the pointer
    rw [withoutValue_ptr] at h
    obtain ⟨ht, y, hy, rfl⟩ := ptrOf_ok h
    cases t with
    | prim p => rw [withoutValue_prim] at hy; cases hy
    | struct fs =>
      simp only [plainTy, Bool.and_eq_true] at hp
      rw [withoutValue_struct_required o fs hp.2] at hy; cases hy
    | _ => cases ht

/-- both decoders treat a pointer as its pointee behind `.ptr`. -/
theorem agree_ptr (o : Opts) (t : Ty) (IH : AgreeTy o t) : AgreeTy o (.ptr t) := by
  intro ps v h a b hu hs
  rw [withValue_ptr] at hu
  rw [stdVal_ptr t v h.ne_null] at hs
  obtain ⟨ht, x, hx, rfl⟩ := ptrOf_ok hu
  obtain ⟨_, y, hy, rfl⟩ := ptrOf_ok hs
  simp only [Val.normNil, IH ps v (h.of_ptr ht) x y hx hy]

theorem agree_fields_cons (o : Opts) (ho : PlainOpts o) (f : FMeta) (t : Ty) (rest : Fields)
    (hopt : f.optional = false) (he : f.embedded = false) (hx : f.hasExt = false) (hkp : keyPlain f.tagKey = true)
    (hpt : plainTy t = true) (IHt : AgreeTy o t) (IHr : AgreeFields o rest) : AgreeFields o (.cons f t rest) := by
  intro ps fs m as hsub hobj has a b hu hs
  obtain ⟨hft, hsub'⟩ := hsub
  obtain ⟨hnone, hsome⟩ := ObjOK.field o.f32Pinned fs m as hobj has f.tagKey t hft
  rw [unmarshalStruct_plain_cons o ho ps f t rest m hopt he hx hkp] at hu
  simp only [R.bind_ok, R.pure_ok] at hu
  obtain ⟨x, hx, r, hr, rfl⟩ := hu
  -- the value `y` that encoding/json leaves in the field, and why it agrees with go-zero's `x`
  obtain ⟨y, hy, h1⟩ : ∃ y, stdAssembleFields (.cons f t rest) as =
      (stdAssembleFields rest as >>= fun xs => pure (.cons f.name y xs)) ∧ x.normNil = y.normNil := by
    cases hg : m.get? f.tagKey with
    | none =>
      rw [hg, gzField_none] at hx
      exact ⟨_, stdAssembleFields_cons_none f t rest as (hnone hg), withoutValue_plain_agree o t hpt x hx⟩
    | some v =>
      obtain ⟨hdoc, y, hy, hmine⟩ := hsome v hg
      rw [hg, gzField_some o _ t v hdoc.ne_null] at hx
      exact ⟨y, stdAssembleFields_cons_one f t rest as y hmine, IHt (m :: ps) v hdoc x y hx hy⟩
  rw [hy] at hs
  simp only [R.bind_ok, R.pure_ok] at hs
  obtain ⟨ys, hys, rfl⟩ := hs
  simp only [VM.normNil, h1, IHr ps fs m as hsub' hobj has r ys hr hys]

theorem elem_agree (conv : Prim → J → R Val)
    (hconv : ∀ p x a b, conv p x = .ok a → stdPrim p x = .ok b → a = b)
    (o : Opts) (t : Ty) (IH : AgreeTy o t) (x : J) (h : ElemOK o.f32Pinned t x) (a b : Val)
    (hu : gzElem conv o t x = .ok a) (hs : stdVal t x = .ok b) : a.normNil = b.normNil := by
  cases hp : t.primish with
  | false => rw [gzElem_other conv o t x hp] at hu; exact IH [] x (h.toDoc hp) a b hu hs
  | true =>
    cases t with
    | prim p =>
      rw [stdVal_prim p x h.ne_null] at hs
      rw [hconv p x a b hu hs]
    | ptr t' =>
      cases t' with
      | prim p =>
        rw [gzElem, R.map_ok] at hu
        rw [stdVal_ptr _ x h.ne_null] at hs
        obtain ⟨a', hu', rfl⟩ := hu
        obtain ⟨_, b', hs', rfl⟩ := ptrOf_ok hs
        rw [stdVal_prim p x h.ne_null] at hs'
        rw [hconv p x a' b' hu' hs']
      | _ => simp [Ty.primish] at hp
    | _ => simp [Ty.primish] at hp

/-- the second conjunct: no element of a plain document is null, so the validity flag is true for every non-empty array and
`fillSlice` never returns the nil slice there (which encoding/json would not). -/
theorem slice_list_agree (o : Opts) (t : Ty) (IH : AgreeTy o t) : ∀ (l : JL), ListOK o.f32Pinned t l →
    ∀ (p : VL × Bool) (ws : VL),
    sliceElems o t l = .ok p → stdList t l = .ok ws → p.1.normNil = ws.normNil ∧ (l ≠ .nil → p.2 = true)
  | .nil, _, p, ws, hu, hs => by
    rw [sliceElems_nil] at hu
    rw [stdList_nil] at hs
    cases hu; cases hs
    exact ⟨rfl, fun h => absurd rfl h⟩
  | .cons x r, h, p, ws, hu, hs => by
    obtain ⟨hx, hr⟩ := h.cons
    rw [sliceElems_cons o t x r hx.ne_null] at hu
    rw [stdList_cons] at hs
    simp only [R.bind_ok, R.pure_ok] at hu hs
    obtain ⟨a, ha, q, hq, rfl⟩ := hu
    obtain ⟨b, hb, ws', hws, rfl⟩ := hs
    have h1 := elem_agree sliceElemPrim sliceElem_prim_agree o t IH x hx a b ha hb
    have h2 := (slice_list_agree o t IH r hr q ws' hq hws).1
    exact ⟨by simp only [VL.normNil, h1, h2], fun _ => rfl⟩

theorem map_entries_agree (o : Opts) (t : Ty) (IH : AgreeTy o t) : ∀ (m : JM), MapValsOK o.f32Pinned t m →
    ∀ (a b : VM), genMap o t m = .ok a → stdMapEntries t m = .ok b → a.normNil = b.normNil
  | .nil, _, a, b, hu, hs => by
    rw [genMap_nil] at hu
    rw [stdMapEntries_nil] at hs
    cases hu; cases hs; rfl
  | .cons k x r, h, a, b, hu, hs => by
    obtain ⟨hx, hr⟩ := h.cons
    rw [genMap_cons o t k x r] at hu
    rw [stdMapEntries_cons] at hs
    simp only [R.bind_ok, R.pure_ok] at hu hs
    obtain ⟨a', ha, q, hq, rfl⟩ := hu
    obtain ⟨b', hb, ws', hws, rfl⟩ := hs
    have h1 := elem_agree mapElemPrim mapElem_prim_agree o t IH x hx a' b' (gzMapElem_eq o t x ▸ ha) hb
    have h2 := map_entries_agree o t IH r hr q ws' hq hws
    simp only [VM.normNil, h1, h2]

/- Structural induction on the type.  Each arm rewrites both decoders with the lemmas of §1 / §2 and hands the parts to
`agree_ptr` / `slice_list_agree` / `map_entries_agree` / `agree_fields_cons`; `.ptr t` needs no case split on `t` because `ptrOf`
rejects what is no pointee on both sides. -/
mutual
theorem agreeTy (o : Opts) (ho : PlainOpts o) : ∀ (t : Ty), plainTy t = true → tyKeysDistinct t = true →
    tyKeysPlain t = true → AgreeTy o t
  | .prim p, _, _, _ => fun ps v h a b hu hs => by
    rw [withValue_prim o ho] at hu
    rw [stdVal_prim p v h.ne_null] at hs
    rw [field_prim_agree o.f32Pinned p v a b h.hf hu hs]
  | .ptr t, hp, hd, hk => agree_ptr o t (agreeTy o ho t hp hd hk)
  | .struct fs, hp, hd, hk => fun ps v h a b hu hs => by
    simp only [plainTy, tyKeysDistinct, Bool.and_eq_true, Bool.not_eq_true'] at hp hd
    obtain ⟨m, rfl⟩ := stdVal_ok_shape (t := .struct fs) h.ne_null hs
    rw [withValue_struct_obj, R.map_ok] at hu
    rw [stdVal_struct_obj] at hs
    obtain ⟨x, hx, rfl⟩ := hu
    obtain ⟨as, y, has, hy, rfl⟩ := stdFinish_ok _ _ _ hs
    have := agreeFields o ho fs hp.1 hd.2 hk ps fs m as (Fields.subOf_self fs hd.1) h.struct_obj has x y hx hy
    simp only [Val.normNil, this]
  | .slice t, hp, hd, hk => fun ps v h a b hu hs => by
    obtain ⟨l, rfl⟩ := stdVal_ok_shape (t := .slice t) h.ne_null hs
    rw [withValue_slice_arr] at hu
    rw [stdVal_slice_arr, R.map_ok] at hs
    obtain ⟨ws, hws, rfl⟩ := hs
    cases l with
    | nil =>
      rw [fillSlice_nil] at hu
      rw [stdList_nil] at hws
      cases hu; cases hws; rfl
    | cons x r =>
      rw [fillSlice_cons, R.bind_ok] at hu
      obtain ⟨p, hps, hpa⟩ := hu
      rw [R.pure_ok] at hpa
      subst hpa
      obtain ⟨h1, h2⟩ := slice_list_agree o t (agreeTy o ho t hp hd hk) _ h.slice_arr p ws hps hws
      rw [h2 (by simp)]
      simp only [if_true, Val.normNil, h1]
  | .map t, hp, hd, hk => fun ps v h a b hu hs => by
    obtain ⟨m, rfl⟩ := stdVal_ok_shape (t := .map t) h.ne_null hs
    rw [withValue_map_obj, R.map_ok] at hu
    rw [stdVal_map_obj, R.map_ok] at hs
    obtain ⟨x, hx, rfl⟩ := hu
    obtain ⟨y, hy, rfl⟩ := hs
    have := map_entries_agree o t (agreeTy o ho t hp hd hk) m h.map_obj x y hx hy
    simp only [Val.normNil, this]

theorem agreeFields (o : Opts) (ho : PlainOpts o) : ∀ (fs : Fields), plainFields fs = true →
    fieldsKeysDistinct fs = true → fieldsKeysPlain fs = true → AgreeFields o fs
  | .nil, _, _, _ => fun ps fs m as _ _ _ a b hu hs => by
    rw [unmarshalStruct_plain_nil] at hu
    rw [stdAssembleFields_nil] at hs
    cases hu; cases hs; rfl
  | .cons f t rest, hp, hd, hk => by
    simp only [plainFields, fieldsKeysDistinct, fieldsKeysPlain, Bool.and_eq_true, Bool.not_eq_true'] at hp hd hk
    exact agree_fields_cons o ho f t rest hp.1.1.1.1 hp.1.1.1.2 hp.1.1.2 hk.1.1 hp.1.2
      (agreeTy o ho t hp.1.2 hd.1 hk.1.2) (agreeFields o ho rest hp.2 hd.2 hk.2)
end

end Layers

/-! ## §4 the theorems and their witnesses -/

/-- general form: any options that differ from the defaults only in the model switch `f32Pinned` and the environment;
the float32 hypothesis is needed for the pinned code only. -/
theorem agrees_with_std_json_opts (o : Opts) (ho : PlainOpts o) (fs : Fields) (j : J) (a b : Val)
    (hp : plainTy (.struct fs) = true)
    (hty : tyKeysDistinct (.struct fs) = true)
    (hkp : tyKeysPlain (.struct fs) = true)
    (hd : plainDoc j = true)
    (hc : noCaseCollision j = true)
    (hk : keysExact (.struct fs) j = true)
    (hf : o.f32Pinned = true → f32Stable (.struct fs) j = true)
    (hu : unmarshalWith o fs j = .ok a) (hs : stdDecode fs j = .ok b) :
    a.normNil = b.normNil := by
  rw [unmarshalWith_eq] at hu
  have hs' : stdVal (.struct fs) j = .ok b := by
    cases j with
    | obj m => exact hs
    | null => simp [plainDoc] at hd
    | _ => simp [stdDecode] at hs
  exact agreeTy o ho (.struct fs) hp hty hkp [] j ⟨hd, hc, hk, hf⟩ a b hu hs'

/-- **Agreement with encoding/json.**  On a plain struct type (name tags only: no tag options, no embedding, every
struct required) without repeated keys and without `.` in a key, and a document without null, without keys equal up
to case in one object, whose keys spell the field names exactly:
if `mapping.UnmarshalJsonBytes` and `encoding/json.Unmarshal` both accept, they produce the same value, up to
nil-vs-empty maps. -/
theorem agrees_with_std_json (fs : Fields) (j : J) (a b : Val)
    (hp : plainTy (.struct fs) = true)
    (hty : tyKeysDistinct (.struct fs) = true)
    (hkp : tyKeysPlain (.struct fs) = true)
    (hd : plainDoc j = true)
    (hc : noCaseCollision j = true)
    (hk : keysExact (.struct fs) j = true)
    (hu : unmarshalJson fs j = .ok a) (hs : stdDecode fs j = .ok b) :
    a.normNil = b.normNil := by
  rw [unmarshalJson_eq] at hu
  exact agrees_with_std_json_opts {} PlainOpts.default fs j a b hp hty hkp hd hc hk (fun h => by cases h) hu hs

/-- the same for the code before fixes/C17-float32-single-rounding.patch: additionally every float32 struct field
must survive the double rounding. -/
theorem agrees_with_std_json_pinned (fs : Fields) (j : J) (a b : Val)
    (hp : plainTy (.struct fs) = true)
    (hty : tyKeysDistinct (.struct fs) = true)
    (hkp : tyKeysPlain (.struct fs) = true)
    (hd : plainDoc j = true)
    (hc : noCaseCollision j = true)
    (hk : keysExact (.struct fs) j = true)
    (hf : f32Stable (.struct fs) j = true)
    (hu : unmarshalWith { f32Pinned := true } fs j = .ok a) (hs : stdDecode fs j = .ok b) :
    a.normNil = b.normNil :=
  agrees_with_std_json_opts { f32Pinned := true } PlainOpts.pinned fs j a b hp hty hkp hd hc hk (fun _ => hf) hu hs

theorem infoFields_keys_plain : ∀ (fs : Fields), plainFields fs = true → (infoFields fs).keys = fs.keys.map lower
  | .nil, _ => rfl
  | .cons f t rest, hp => by
    simp only [plainFields, Bool.and_eq_true, Bool.not_eq_true'] at hp
    have he : f.embedded = false := hp.1.1.1.2
    rw [infoFields.eq_def]
    simp only [he, Bool.false_eq_true, if_false, IM.keys, Fields.keys, List.map_cons,
      infoFields_keys_plain rest hp.2]

mutual
theorem tyKeysDistinct_of_noInfoConflict : ∀ (t : Ty), plainTy t = true → infoConflict t = false →
    tyKeysDistinct t = true
  | .prim _, _, _ => rfl
  | .ptr t, hp, hc => tyKeysDistinct_of_noInfoConflict t hp hc
  | .slice t, hp, hc => tyKeysDistinct_of_noInfoConflict t hp hc
  | .map t, hp, hc => tyKeysDistinct_of_noInfoConflict t hp hc
  | .struct fs, hp, hc => by
    simp only [plainTy, Bool.and_eq_true] at hp
    simp only [infoConflict, Bool.or_eq_false_iff] at hc
    have h1 : hasDup fs.keys = false := by
      have := hc.1
      rw [infoFields_keys_plain fs hp.1] at this
      exact hasDup_map_false lower _ this
    simp only [tyKeysDistinct, h1, fieldsKeysDistinct_of_noInfoConflict fs hp.1 hc.2, Bool.not_false, Bool.and_self]

theorem fieldsKeysDistinct_of_noInfoConflict : ∀ (fs : Fields), plainFields fs = true → fieldsConflict fs = false →
    fieldsKeysDistinct fs = true
  | .nil, _, _ => rfl
  | .cons f t rest, hp, hc => by
    simp only [plainFields, Bool.and_eq_true] at hp
    simp only [fieldsConflict, Bool.or_eq_false_iff] at hc
    simp only [fieldsKeysDistinct, tyKeysDistinct_of_noInfoConflict t hp.1.2 hc.1,
      fieldsKeysDistinct_of_noInfoConflict rest hp.2 hc.2, Bool.and_self]
end

/-- the same theorem under the precondition of `conf.Load*` (`buildFieldsInfo` finds no key conflict, which is
stronger than `tyKeysDistinct`: no two keys of one struct equal up to case). -/
theorem agrees_with_std_json_noConflict (fs : Fields) (j : J) (a b : Val)
    (hp : plainTy (.struct fs) = true) (hty : infoConflict (.struct fs) = false)
    (hkp : tyKeysPlain (.struct fs) = true)
    (hd : plainDoc j = true) (hc : noCaseCollision j = true) (hk : keysExact (.struct fs) j = true)
    (hu : unmarshalJson fs j = .ok a) (hs : stdDecode fs j = .ok b) : a.normNil = b.normNil :=
  agrees_with_std_json fs j a b hp (tyKeysDistinct_of_noInfoConflict _ hp hty) hkp hd hc hk hu hs

/-- a plain field `Name T `json:"key"``. -/
def fld (name key : String) : FMeta := { name := name.toList, key := key.toList, optional := false, embedded := false }

/-- `struct { A []string `json:"x"`; B []int64 `json:"x"` }` -/
def dupTy : Fields :=
  .cons (fld "A" "x") (.slice (.prim .string)) (.cons (fld "B" "x") (.slice (.prim (.int 64))) .nil)

/-- `{"x":["1"]}` -/
def dupDoc : J := .obj (.cons "x".toList (.arr (.cons (.str "1".toList) .nil)) .nil)

/- The witnesses below evaluate the unmarshaller on concrete plain types with the lemmas of §1 (conversions of literals
are supplied as hypotheses `h1 …`, `h`, the options as `ho : PlainOpts _`). -/
attribute [local simp] unmarshalJson_eq unmarshalWith_eq withValue_struct_obj unmarshalStruct_plain_cons
  unmarshalStruct_plain_nil gzField withValue_prim withValue_ptr ptrOf Ty.pointee withValue_slice_arr withValue_map_obj
  withoutValue_map fillSlice_cons sliceElems_cons sliceElems_nil genMap_cons genMap_nil gzElem gzMapElem fillPrim_num_int
  fillPrim_num_float fillPrim_str sliceElemPrim_num sliceElemPrim_str fld keyPlain FMeta.hasExt JM.get? FMeta.tagKey
  Except.map bind Except.bind pure Except.pure

/-- `tyKeysDistinct` is necessary: with a repeated key go-zero fills every field from the entry (converting the
string `"1"` for the `[]int64`), the model of encoding/json decodes the entry once, at the type of the first field.
Every other hypothesis of `agrees_with_std_json` holds. -/
theorem std_differs_repeated_field_key :
    plainTy (.struct dupTy) = true ∧ tyKeysDistinct (.struct dupTy) = false ∧ tyKeysPlain (.struct dupTy) = true ∧
    plainDoc dupDoc = true ∧ noCaseCollision dupDoc = true ∧ keysExact (.struct dupTy) dupDoc = true ∧
    unmarshalJson dupTy dupDoc = .ok (.struct (.cons "A".toList (.slice (.cons (.str "1".toList) .nil))
      (.cons "B".toList (.slice (.cons (.int 1) .nil)) .nil))) ∧
    stdDecode dupTy dupDoc = .ok (.struct (.cons "A".toList (.slice (.cons (.str "1".toList) .nil))
      (.cons "B".toList (.slice (.cons (.str "1".toList) .nil)) .nil))) := by
  refine ⟨by decide, by decide, by decide, by decide, by decide, ?_, ?_, by decide⟩
  · simp [keysExact, keysExactStruct, keysExactList, dupTy, dupDoc, fld, Fields.keys, Fields.find?, FMeta.tagKey]
  · have h1 : convFromString (.int 64) ['1'] = .ok (.int 1) := by decide
    have h2 : convFromString .string ['1'] = .ok (.str ['1']) := by decide
    have ho := PlainOpts.default
    simp [h1, h2, ho, dupTy, dupDoc]

/-- `struct { M map[string]int64 `json:"a.b"` }` -/
def dotTy : Fields :=
  .cons { name := "M".toList, key := "a.b".toList, optional := false, embedded := false } (.map (.prim (.int 64))) .nil

/-- `{"a.b":{"x":1}}` -/
def dotDoc : J := .obj (.cons "a.b".toList (.obj (.cons "x".toList (.num "1".toList) .nil)) .nil)

/-- `tyKeysPlain` is necessary: go-zero reads the key `a.b` as the path `a` → `b`, does not find `a` and leaves the map
field empty; encoding/json takes the key literally.  Every other hypothesis of `agrees_with_std_json` holds. -/
theorem std_differs_dotted_key :
    plainTy (.struct dotTy) = true ∧ tyKeysDistinct (.struct dotTy) = true ∧ tyKeysPlain (.struct dotTy) = false ∧
    plainDoc dotDoc = true ∧ noCaseCollision dotDoc = true ∧ keysExact (.struct dotTy) dotDoc = true ∧
    unmarshalJson dotTy dotDoc = .ok (.struct (.cons "M".toList (.map .nil) .nil)) ∧
    stdDecode dotTy dotDoc = .ok (.struct (.cons "M".toList (.map (.cons "x".toList (.int 1) .nil)) .nil)) := by
  refine ⟨by decide, by decide, by decide, by decide, by decide, ?_, ?_, by decide⟩
  · simp [keysExact, keysExactStruct, keysExactMapVals, dotTy, dotDoc, Fields.keys, Fields.find?, FMeta.tagKey]
  · -- the lemmas of §1 do not apply to a dotted key: evaluated on the model itself
    simp only [dotTy, dotDoc]
    c17_eval

/-- `struct { F float32 `json:"f"` }` -/
def f32Ty : Fields := .cons (fld "F" "f") (.prim (.float 32)) .nil
/-- `{"f":16777217.0000000005}` -/
def f32Doc : J := .obj (.cons "f".toList (.num "16777217.0000000005".toList) .nil)

/-- the literal of `f32Doc` lies just above the midpoint of two neighbouring float32 values: rounded to float64 first
(`two`) it falls onto the midpoint and then to the even neighbour below, rounded once it goes up. -/
theorem parseFloat32_tie : ∀ two, parseFloat 32 two "16777217.0000000005".toList
    = .ok (.flt (if two then 16777216 else 16777218) 1) := by lit_chars; decide

/-- for the pinned code `f32Stable` is necessary (`float32_double_rounding` at the level of the theorem): every other
hypothesis holds, the pinned go-zero yields 16777216, encoding/json (and the fixed go-zero) 16777218. -/
theorem std_differs_float32_field_pinned :
    plainTy (.struct f32Ty) = true ∧ tyKeysDistinct (.struct f32Ty) = true ∧ tyKeysPlain (.struct f32Ty) = true ∧
    plainDoc f32Doc = true ∧ noCaseCollision f32Doc = true ∧ keysExact (.struct f32Ty) f32Doc = true ∧
    f32Stable (.struct f32Ty) f32Doc = false ∧
    unmarshalWith { f32Pinned := true } f32Ty f32Doc = .ok (.struct (.cons "F".toList (.flt 16777216 1) .nil)) ∧
    unmarshalJson f32Ty f32Doc = .ok (.struct (.cons "F".toList (.flt 16777218 1) .nil)) ∧
    stdDecode f32Ty f32Doc = .ok (.struct (.cons "F".toList (.flt 16777218 1) .nil)) := by
  have h := parseFloat32_tie
  -- `simp` below turns the literal of `f32Doc` into a list of characters before it rewrites: `h` in the same form
  simp only [String.reduceToList] at h
  refine ⟨by decide, by decide, by decide, by decide, by decide, ?_, by decide, ?_, ?_, by decide⟩
  · simp [keysExact, keysExactStruct, f32Ty, f32Doc, fld, Fields.keys, Fields.find?, FMeta.tagKey]
  · have ho := PlainOpts.pinned
    simp [h, ho, f32Ty, f32Doc]
  · have ho := PlainOpts.default
    simp [h, ho, f32Ty, f32Doc]

/-- the slice element of float32 kind is *not* constrained: both decoders call `strconv.ParseFloat(lit, 32)`. -/
example : f32Stable (.struct (.cons (fld "F" "f") (.slice (.prim (.float 32))) .nil))
    (.obj (.cons "f".toList (.arr (.cons (.num "16777217.0000000005".toList) .nil)) .nil)) = true := by decide

def nvInner : Fields :=
  .cons (fld "ID" "id") (.prim (.int 64)) (.cons (fld "Tags" "tags") (.map (.slice (.prim (.int 32)))) .nil)

def nvElem : Fields :=
  .cons (fld "F" "f") (.prim (.float 32)) (.cons (fld "P" "p") (.ptr (.prim (.int 8))) .nil)

/-- ```
struct {
  Name  string                                `json:"name"`
  Items []struct{ ID int64 `json:"id"`; Tags map[string][]int32 `json:"tags"` } `json:"items"`
  M     map[string]struct{ F float32 `json:"f"`; P *int8 `json:"p"` }            `json:"m"`
  Extra map[string]string                     `json:"extra"`
}``` -/
def nvTy : Fields :=
  .cons (fld "Name" "name") (.prim .string)
  (.cons (fld "Items" "items") (.slice (.struct nvInner))
  (.cons (fld "M" "m") (.map (.struct nvElem))
  (.cons (fld "Extra" "extra") (.map (.prim .string)) .nil)))

/-- `{"name":"x","items":[{"id":1,"tags":{"a":[1,2]}}],"m":{"k":{"f":1.5,"p":-3}},"unknown":true}` -/
def nvDoc : J :=
  .obj (.cons "name".toList (.str "x".toList)
       (.cons "items".toList (.arr (.cons (.obj (.cons "id".toList (.num "1".toList)
            (.cons "tags".toList (.obj (.cons "a".toList
              (.arr (.cons (.num "1".toList) (.cons (.num "2".toList) .nil))) .nil)) .nil))) .nil))
       (.cons "m".toList (.obj (.cons "k".toList (.obj (.cons "f".toList (.num "1.5".toList)
            (.cons "p".toList (.num "-3".toList) .nil))) .nil))
       (.cons "unknown".toList (.bool true) .nil))))

/-- the decoded value, up to the absent map field `Extra`. -/
def nvVal (extra : Val) : Val :=
  .struct (.cons "Name".toList (.str "x".toList)
    (.cons "Items".toList (.slice (.cons (.struct (.cons "ID".toList (.int 1)
        (.cons "Tags".toList (.map (.cons "a".toList (.slice (.cons (.int 1) (.cons (.int 2) .nil))) .nil)) .nil)))
        .nil))
    (.cons "M".toList (.map (.cons "k".toList (.struct (.cons "F".toList (.flt 3 2)
        (.cons "P".toList (.ptr (.int (-3))) .nil))) .nil))
    (.cons "Extra".toList extra .nil))))

/-- every hypothesis of `agrees_with_std_json` (and of its pinned form) holds for (`nvTy`, `nvDoc`) and both decoders
accept. -/
theorem agrees_with_std_json_nonvacuous :
    plainTy (.struct nvTy) = true ∧ tyKeysDistinct (.struct nvTy) = true ∧ infoConflict (.struct nvTy) = false ∧
    tyKeysPlain (.struct nvTy) = true ∧
    plainDoc nvDoc = true ∧ noCaseCollision nvDoc = true ∧ keysExact (.struct nvTy) nvDoc = true ∧
    f32Stable (.struct nvTy) nvDoc = true ∧
    unmarshalJson nvTy nvDoc = .ok (nvVal (.map .nil)) ∧ stdDecode nvTy nvDoc = .ok (nvVal .nilMap) := by
  refine ⟨by decide, by decide, by decide, by decide, by decide, by decide, ?_, by decide, ?_, by decide⟩
  · simp [keysExact, keysExactStruct, keysExactList, keysExactMapVals, nvTy, nvDoc, nvInner, nvElem, fld, Fields.keys,
      Fields.find?, FMeta.tagKey, lower, lowerC]
  · have h1 : convFromString (.int 64) ['1'] = .ok (.int 1) := by decide
    have h2 : convFromString (.int 32) ['1'] = .ok (.int 1) := by decide
    have h3 : convFromString (.int 32) ['2'] = .ok (.int 2) := by decide
    have h4 : convFromString (.int 8) ['-', '3'] = .ok (.int (-3)) := by decide
    have h5 : parseFloat 32 false ['1', '.', '5'] = .ok (.flt 3 2) := by decide
    have ho := PlainOpts.default
    simp [h1, h2, h3, h4, h5, ho, nvTy, nvDoc, nvInner, nvElem, nvVal]

example : nvVal (.map .nil) ≠ nvVal .nilMap ∧ (nvVal (.map .nil)).normNil = (nvVal .nilMap).normNil := by
  obtain ⟨hp, hty, _, hkp, hd, hc, hk, _, hu, hs⟩ := agrees_with_std_json_nonvacuous
  exact ⟨by decide, agrees_with_std_json nvTy nvDoc _ _ hp hty hkp hd hc hk hu hs⟩

end GoZero.C17
