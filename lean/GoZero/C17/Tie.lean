/-
C17 — Tie: what the extractor read from the go-zero tree on this run equals what the model was written against.
A failing obligation means the code moved away from the model (Model.lean names the Go function behind each definition).
Two obligations accept two forms of their function, the pinned one beside the one with the fix (`tie_toLowerCaseKeyMap`,
`tie_jsonNumberCases`): they do not tell which of the two the tree has; the model describes the form with the fix.
-/
import GoZero.Extracted.C17
import GoZero.C17.Proofs
namespace GoZero.C17.Tie
open GoZero.C17
open GoZero.Extracted.C17

theorem extraction_clean : extractionErrors = [] := rfl

theorem tie_jsonTagKey : jsonTagKey = "json" := rfl

/-- `loadYaml fs y = loadTree fs (yamlGlue y)`: the YAML loader is the front end followed by the JSON loader, nothing else. -/
theorem tie_loadYaml : loadYamlShape =
    ["call encoding.YamlToJson", "if err != nil {", "return", "}", "call LoadFromJsonBytes", "return"] := rfl

/-- `loadToml fs t = loadTree fs (tomlGlue t)`. -/
theorem tie_loadToml : loadTomlShape =
    ["call encoding.TomlToJson", "if err != nil {", "return", "}", "call LoadFromJsonBytes", "return"] := rfl

/-- `loadTree`: info of the type, generic tree (`jsonx.Unmarshal`), `toLowerCaseKeyMap`, the unmarshaller with the
canonical-key option, validation — in this order. -/
theorem tie_loadJson : loadJsonShape =
    ["call buildFieldsInfo", "if err != nil {", "return", "}", "call jsonx.Unmarshal", "if err != nil {", "return", "}",
     "call toLowerCaseKeyMap", "call mapping.WithCanonicalKeyFunc", "call mapping.UnmarshalJsonMap",
     "if err != nil {", "return", "}", "call validate", "return"] := rfl

/-- `loadContent`: `os.ExpandEnv` is applied inside `if opt.env` only; both paths call the loader of the extension. -/
theorem tie_load : loadShape =
    ["call os.ReadFile", "if err != nil {", "return", "}", "call path.Ext", "if !ok {", "return", "}",
     "range opts {", "call o", "}", "if opt.env {", "call os.ExpandEnv", "call ?", "call loader", "return", "}",
     "call loader", "if err != nil {", "return", "}", "call validate", "return"] := rfl

/-- `infoOf`: struct → children; array / slice → looked through; **map → `mapField` (keys are data)**;
everything else → no children.  (The pinned variant `infoOfPinned` has `Array, Slice, Map` in one case.) -/
theorem tie_buildFieldsInfo : buildFieldsInfoCases =
    ["reflect.Struct -> return buildStructFieldsInfo(tp, fullName)",
     "reflect.Array,reflect.Slice -> return buildFieldsInfo(mapping.Deref(tp.Elem()), fullName)",
     "reflect.Map -> elemInfo, err := buildFieldsInfo(mapping.Deref(tp.Elem()), fullName)",
     "reflect.Chan,reflect.Func -> return nil, fmt.Errorf(\"unsupported type: %s, fullName: %s\", tp.Kind(), fullName)",
     "default -> return &fieldInfo{ children: make(map[string]*fieldInfo), }, nil"] := rfl

/-- the model's `infoField`. -/
theorem tie_buildNamedFieldInfo : buildNamedFieldInfoCases =
    ["reflect.Struct -> finfo, err = buildFieldsInfo(ft, fullName)",
     "reflect.Array,reflect.Slice -> finfo, err = buildFieldsInfo(ft.Elem(), fullName)",
     "reflect.Map -> elemInfo, err := buildFieldsInfo(mapping.Deref(ft.Elem()), fullName)",
     "default -> finfo, err = buildFieldsInfo(ft, fullName)"] := rfl

/-- the model's `lowerVal`. -/
theorem tie_toLowerCaseInterface : lowerInterfaceCases =
    ["map[string]any -> return toLowerCaseKeyMap(vv, info)", "[]any -> var arr []any", "default -> return v"] := rfl

/-- `yamlGlue`: slices and `map[any]any` are walked, bool / string kept, every numeric kind becomes a `json.Number`,
anything else (nil) goes through `lang.Repr`. -/
theorem tie_toStringKeyMap : toStringKeyMapCases =
    ["[]any -> return convertSlice(v)", "map[any]any -> return convertKeyToString(v)", "bool,string -> return v",
     "int,uint,int8,uint8,int16,uint16,int32,uint32,int64,uint64,float32,float64 -> return convertNumberToJsonNumber(v)",
     "default -> return lang.Repr(v)"] := rfl

theorem tie_yamlToJson : yamlToJsonShape =
    ["call yaml.Unmarshal", "if err != nil {", "return", "}", "call toStringKeyMap", "call encodeToJSON", "return"] :=
  rfl

theorem tie_tomlToJson : tomlToJsonShape =
    ["call bytes.NewReader", "call toml.NewDecoder", "call toml.NewDecoder(bytes.NewReader(data)).Decode",
     "if err != nil {", "return", "}", "call encodeToJSON", "return"] := rfl

/-- `convFromString`: bool from 1/true/0/false, `ParseInt` / `ParseUint` with the bit size of the kind, `ParseFloat`
with 32 / 64 (one rounding), strings as they are. -/
theorem tie_convertTypeFromString : convertTypeCases =
    ["reflect.Bool -> switch strings.ToLower(str) { case \"1\", \"true\": return true, nil case \"0\", \"false\": return",
     "reflect.Int -> return strconv.ParseInt(str, 10, intSize)",
     "reflect.Int8 -> return strconv.ParseInt(str, 10, 8)", "reflect.Int16 -> return strconv.ParseInt(str, 10, 16)",
     "reflect.Int32 -> return strconv.ParseInt(str, 10, 32)", "reflect.Int64 -> return strconv.ParseInt(str, 10, 64)",
     "reflect.Uint -> return strconv.ParseUint(str, 10, intSize)",
     "reflect.Uint8 -> return strconv.ParseUint(str, 10, 8)", "reflect.Uint16 -> return strconv.ParseUint(str, 10, 16)",
     "reflect.Uint32 -> return strconv.ParseUint(str, 10, 32)", "reflect.Uint64 -> return strconv.ParseUint(str, 10, 64)",
     "reflect.Float32 -> return strconv.ParseFloat(str, 32)", "reflect.Float64 -> return strconv.ParseFloat(str, 64)",
     "reflect.String -> return str, nil", "default -> return nil, errUnsupportedType"] := rfl

/-- numbers reach the unmarshaller as literals (`json.Number`). -/
theorem tie_useNumber : useNumberShape = ["call decoder.UseNumber", "call decoder.Decode", "return"] := rfl

/-- the model's `unmarshalJson`. -/
theorem tie_unmarshalJsonBytes : unmarshalJsonBytesShape =
    ["call jsonx.Unmarshal", "if err != nil {", "return", "}", "call unmarshaler.Unmarshal", "return"] := rfl

/-- `unmarshalWith o`: the options reach `getJsonUnmarshaler`. -/
theorem tie_mJsonBytes : mJsonBytes =
    ["return unmarshalJsonBytes(content, v, getJsonUnmarshaler(opts...))",
  "call unmarshalJsonBytes(content, v, getJsonUnmarshaler(opts...))",
  "call getJsonUnmarshaler(opts...)"] := rfl

theorem tie_mJsonReader : mJsonReader =
    ["return unmarshalJsonReader(reader, v, getJsonUnmarshaler(opts...))",
  "call unmarshalJsonReader(reader, v, getJsonUnmarshaler(opts...))",
  "call getJsonUnmarshaler(opts...)"] := rfl

theorem tie_mJsonMap : mJsonMap =
    ["return getJsonUnmarshaler(opts...).Unmarshal(m, v)",
  "call getJsonUnmarshaler(opts...).Unmarshal(m, v)",
  "call getJsonUnmarshaler(opts...)"] := rfl

/-- any option ⇒ a fresh unmarshaller built from exactly these options, none ⇒ the default one. -/
theorem tie_mGetJsonUnmarshaler : mGetJsonUnmarshaler =
    ["if len(opts) > 0",
  "call len(opts)",
  "return NewUnmarshaler(jsonTagKey, opts...)",
  "call NewUnmarshaler(jsonTagKey, opts...)",
  "return jsonUnmarshaler"] := rfl

theorem tie_mUnmarshalJsonBytes : mUnmarshalJsonBytes =
    ["if err != nil",
  "call jsonx.Unmarshal(content, &m)",
  "return err",
  "return unmarshaler.Unmarshal(m, v)",
  "call unmarshaler.Unmarshal(m, v)"] := rfl

theorem tie_mUnmarshalJsonReader : mUnmarshalJsonReader =
    ["if err != nil",
  "call jsonx.UnmarshalFromReader(reader, &m)",
  "return err",
  "return unmarshaler.Unmarshal(m, v)",
  "call unmarshaler.Unmarshal(m, v)"] := rfl

/-- `unmarshalYaml o` = front end, then `UnmarshalJsonBytes(b, v, opts...)` — the options are forwarded. -/
theorem tie_mYamlBytes : mYamlBytes =
    ["call encoding.YamlToJson(content)",
  "if err != nil",
  "return err",
  "return UnmarshalJsonBytes(b, v, opts...)",
  "call UnmarshalJsonBytes(b, v, opts...)"] := rfl

theorem tie_mYamlReader : mYamlReader =
    ["call io.ReadAll(reader)",
  "if err != nil",
  "return err",
  "return UnmarshalYamlBytes(b, v, opts...)",
  "call UnmarshalYamlBytes(b, v, opts...)"] := rfl

/-- `unmarshalToml o` = front end, then `UnmarshalJsonBytes(b, v, opts...)` — the options are forwarded (seeded C17-2 drops them). -/
theorem tie_mTomlBytes : mTomlBytes =
    ["call encoding.TomlToJson(content)",
  "if err != nil",
  "return err",
  "return UnmarshalJsonBytes(b, v, opts...)",
  "call UnmarshalJsonBytes(b, v, opts...)"] := rfl

theorem tie_mTomlReader : mTomlReader =
    ["call io.ReadAll(r)",
  "if err != nil",
  "return err",
  "return UnmarshalTomlBytes(b, v, opts...)",
  "call UnmarshalTomlBytes(b, v, opts...)"] := rfl

/-- every option is applied to the unmarshaller's option record. -/
theorem tie_mNewUnmarshaler : mNewUnmarshaler =
    ["range opts",
  "call opt(&unmarshaler.opts)",
  "return &unmarshaler"] := rfl

theorem tie_mUnmarshal : mUnmarshal =
    ["return u.unmarshal(i, v, \"\")",
  "call u.unmarshal(i, v, \"\")"] := rfl

/-- the model's `Opts.fromString`. -/
theorem tie_optStringValues : optStringValues =
    ["return func(opt *unmarshalOptions) { opt.fromString = true }",
  "set opt.fromString = true"] := rfl

/-- `Opts.canon` (with `strings.ToLower`). -/
theorem tie_optCanonicalKey : optCanonicalKey =
    ["return func(opt *unmarshalOptions) { opt.canonicalKey = f }",
  "set opt.canonicalKey = f"] := rfl

/-- the model's `Opts.fromArray`. -/
theorem tie_optFromArray : optFromArray =
    ["return func(opt *unmarshalOptions) { opt.fromArray = true }",
  "set opt.fromArray = true"] := rfl

/-- the model's `Opts.opaqueKeys`. -/
theorem tie_optOpaqueKeys : optOpaqueKeys =
    ["return func(opt *unmarshalOptions) { opt.opaqueKeys = true }",
  "set opt.opaqueKeys = true"] := rfl

/-- the model's `fillDefaults`. -/
theorem tie_optDefault : optDefault =
    ["return func(opt *unmarshalOptions) { opt.fillDefault = true }",
  "set opt.fillDefault = true"] := rfl

/-- `withEnv`: bool by `ParseBool`, the kind of `time.Duration` (int64) by `ParseDuration`, string as is, numbers as `json.Number`. -/
theorem tie_envValueCases : envValueCases =
    ["reflect.Bool -> val, err := strconv.ParseBool(envVal)",
  "durationType.Kind() -> if err := fillDurationValue(fieldType, value, envVal); err != nil { return fmt.Errorf(\"unm",
  "reflect.String -> value.SetString(envVal)",
  "default -> return u.processFieldPrimitiveWithJSONNumber(fieldType, value, json.Number(envVal), opts, "] := rfl

/-- `getValue`: opaque ⇒ the key as is, else `strings.FieldsFunc` on the delimiter (`splitDots`). -/
theorem tie_mReadKeys : mReadKeys =
    ["if opaque",
  "return []string{key}",
  "call cacheKeysLock.Lock()",
  "call cacheKeysLock.Unlock()",
  "if ok",
  "return keys",
  "call strings.FieldsFunc(key, func(c rune) bool { return c == delimiter })",
  "return c == delimiter",
  "call cacheKeysLock.Lock()",
  "call cacheKeysLock.Unlock()",
  "return keys"] := rfl

/-- the model's `chainKeys`. -/
theorem tie_mChainedKeys : mChainedKeys =
    ["call len(keys)",
  "return nil, false",
  "call m.Value(keys[0])",
  "return v, ok",
  "if ok",
  "call m.Value(keys[0])",
  "if ok",
  "return getValueWithChainedKeys(recursiveValuer{ current: mapValuer(nextm), parent: m, }, keys[1:])",
  "call getValueWithChainedKeys(recursiveValuer{ current: mapValuer(nextm), parent: m, }, keys[1:])",
  "call mapValuer(nextm)",
  "return nil, false"] := rfl

/-- `jsonx.Unmarshal`: a decoder with `UseNumber`. -/
theorem tie_xUnmarshal : xUnmarshal =
    ["call json.NewDecoder(bytes.NewReader(data))",
  "call bytes.NewReader(data)",
  "if err != nil",
  "call unmarshalUseNumber(decoder, v)",
  "return formatError(string(data), err)",
  "call formatError(string(data), err)",
  "call string(data)",
  "return nil"] := rfl

theorem tie_xUnmarshalFromReader : xUnmarshalFromReader =
    ["call io.TeeReader(reader, &buf)",
  "call json.NewDecoder(teeReader)",
  "if err != nil",
  "call unmarshalUseNumber(decoder, v)",
  "return formatError(buf.String(), err)",
  "call formatError(buf.String(), err)",
  "call buf.String()",
  "return nil"] := rfl

theorem tie_xUnmarshalFromString : xUnmarshalFromString =
    ["call json.NewDecoder(strings.NewReader(str))",
  "call strings.NewReader(str)",
  "if err != nil",
  "call unmarshalUseNumber(decoder, v)",
  "return formatError(str, err)",
  "call formatError(str, err)",
  "return nil"] := rfl

/-- numbers reach the unmarshaller as literals (`json.Number`). -/
theorem tie_xUseNumber : xUseNumber =
    ["call decoder.UseNumber()",
  "return decoder.Decode(v)",
  "call decoder.Decode(v)"] := rfl

/-- `confLoad`: read, loader by `strings.ToLower(path.Ext(file))`, options applied, `os.ExpandEnv` inside `if opt.env` only. -/
theorem tie_cLoad : cLoad =
    ["call os.ReadFile(file)",
  "if err != nil",
  "return err",
  "call strings.ToLower(path.Ext(file))",
  "call path.Ext(file)",
  "if !ok",
  "return fmt.Errorf(\"unrecognized file type: %s\", file)",
  "call fmt.Errorf(\"unrecognized file type: %s\", file)",
  "range opts",
  "call o(&opt)",
  "if opt.env",
  "return loader([]byte(os.ExpandEnv(string(content))), v)",
  "call loader([]byte(os.ExpandEnv(string(content))), v)",
  "call []byte(os.ExpandEnv(string(content)))",
  "call os.ExpandEnv(string(content))",
  "call string(content)",
  "if err != nil",
  "call loader(content, v)",
  "return err",
  "return validate(v)",
  "call validate(v)"] := rfl

/-- `LoadConfig` = `Load`. -/
theorem tie_cLoadConfig : cLoadConfig =
    ["return Load(file, v, opts...)",
  "call Load(file, v, opts...)"] := rfl

/-- `MustLoad` = `Load`, fatal on error. -/
theorem tie_cMustLoad : cMustLoad =
    ["if err != nil",
  "call Load(path, v, opts...)",
  "call log.Fatalf(\"error: config file %s, %s\", path, err.Error())",
  "call err.Error()"] := rfl

/-- `fillDefaults`: the `WithDefault` unmarshaller on an empty map. -/
theorem tie_cFillDefault : cFillDefault =
    ["return fillDefaultUnmarshaler.Unmarshal(map[string]any{}, v)",
  "call fillDefaultUnmarshaler.Unmarshal(map[string]any{}, v)"] := rfl

/-- the model's `loadTreeWithO`. -/
theorem tie_cLoadJson : cLoadJson =
    ["call buildFieldsInfo(reflect.TypeOf(v), \"\")",
  "call reflect.TypeOf(v)",
  "if err != nil",
  "return err",
  "if err != nil",
  "call jsonx.Unmarshal(content, &m)",
  "return err",
  "call toLowerCaseKeyMap(m, info)",
  "if err != nil",
  "call mapping.UnmarshalJsonMap(lowerCaseKeyMap, v, mapping.WithCanonicalKeyFunc(toLowerCase))",
  "call mapping.WithCanonicalKeyFunc(toLowerCase)",
  "return err",
  "return validate(v)",
  "call validate(v)"] := rfl

theorem tie_cLoadYaml : cLoadYaml =
    ["call encoding.YamlToJson(content)",
  "if err != nil",
  "return err",
  "return LoadFromJsonBytes(b, v)",
  "call LoadFromJsonBytes(b, v)"] := rfl

theorem tie_cLoadToml : cLoadToml =
    ["call encoding.TomlToJson(content)",
  "if err != nil",
  "return err",
  "return LoadFromJsonBytes(b, v)",
  "call LoadFromJsonBytes(b, v)"] := rfl

theorem tie_cUseEnv : cUseEnv =
    ["return func(opt *options) { opt.env = true }",
  "set opt.env = true"] := rfl

/-- the model's `loaderOf`. -/
theorem tie_cLoaders : cLoaders =
    ["\".json\" -> LoadFromJsonBytes",
  "\".toml\" -> LoadFromTomlBytes",
  "\".yaml\" -> LoadFromYamlBytes",
  "\".yml\" -> LoadFromYamlBytes"] := rfl

theorem tie_eConvertKey : eConvertKey =
    ["call make(map[string]any)",
  "range in",
  "call lang.Repr(k)",
  "call toStringKeyMap(v)",
  "return res"] := rfl

theorem tie_eConvertNumber : eConvertNumber =
    ["return json.Number(lang.Repr(in))",
  "call json.Number(lang.Repr(in))",
  "call lang.Repr(in)"] := rfl

theorem tie_eConvertSlice : eConvertSlice =
    ["call make([]any, len(in))",
  "call len(in)",
  "range in",
  "call toStringKeyMap(v)",
  "return res"] := rfl

theorem tie_eEncodeToJSON : eEncodeToJSON =
    ["if err != nil",
  "call json.NewEncoder(&buf).Encode(val)",
  "call json.NewEncoder(&buf)",
  "return nil, err",
  "return buf.Bytes(), nil",
  "call buf.Bytes()"] := rfl

/-- `lowerMap`: exact child, else lower-cased child (stored under the lower-cased key), else `mapField` (key kept),
else nested map with the same info, else the value as is.  Two accepted forms: the pinned one ranges over the Go map
(nondeterministic for keys that collide up to case: `pinned_collision_order_dependent`), the fixed one
(fixes/C17-case-collision-deterministic.patch) collects the keys, sorts them and walks them in ascending order
(`sortDoc` + `lowerMap`). -/
theorem tie_toLowerCaseKeyMap : lowerKeyMapShape =
    ["range m {",
  "if ok {",
  "call toLowerCaseInterface",
  "mapset res",
  "continue",
  "}",
  "call toLowerCase",
  "if ok {",
  "call toLowerCaseInterface",
  "mapset res",
  "}",
  "else{",
  "if info.mapField != nil {",
  "call toLowerCaseInterface",
  "mapset res",
  "}",
  "else{",
  "if ok {",
  "call toLowerCaseKeyMap",
  "mapset res",
  "}",
  "else{",
  "mapset res",
  "}",
  "}",
  "}",
  "}",
  "return"] ∨ lowerKeyMapShape =
    ["range m {",
  "}",
  "call sort.Strings",
  "range keys {",
  "if ok {",
  "call toLowerCaseInterface",
  "mapset res",
  "continue",
  "}",
  "call toLowerCase",
  "if ok {",
  "call toLowerCaseInterface",
  "mapset res",
  "}",
  "else{",
  "if info.mapField != nil {",
  "call toLowerCaseInterface",
  "mapset res",
  "}",
  "else{",
  "if ok {",
  "call toLowerCaseKeyMap",
  "mapset res",
  "}",
  "else{",
  "mapset res",
  "}",
  "}",
  "}",
  "}",
  "return"] := by
  first | exact .inl rfl | exact .inr rfl

/-- `fillPrim`: integers through `setValueFromString`, float64 through `json.Number.Float64`; float32 either through
`Float64` (pinned: two roundings, `Opts.f32Pinned`) or `strconv.ParseFloat(…, 32)` (fixes/C17-float32-single-rounding.patch). -/
theorem tie_jsonNumberCases : jsonNumberCases.drop 1 =
    ["reflect.Float32 -> fValue, err := v.Float64()",
     "reflect.Float64 -> fValue, err := v.Float64()",
     "default -> return newTypeMismatchErrorWithHint(fullName, typeKind.String(), numberTypeString)"] ∨
    jsonNumberCases.drop 1 =
    ["reflect.Float32 -> fValue, err := strconv.ParseFloat(v.String(), 32)",
     "reflect.Float64 -> fValue, err := v.Float64()",
     "default -> return newTypeMismatchErrorWithHint(fullName, typeKind.String(), numberTypeString)"] := by
  first | exact .inl rfl | exact .inr rfl

/-- `genMapSite = .perEntry`: every cell stored under a key by `generateMap` is allocated in the loop body (a fresh `reflect.New` / a fresh inner map / a fresh `reflect.ValueOf` copy per key); nothing a pointer element can refer to lives outside the loop (seeded C17-5 hoisted the json.Number cell: "outer numTarget"). -/
theorem tie_genMapAlloc : genMapAlloc =
    ["SetMapIndexValue target.Elem() <- loop target := reflect.New(dereffedElemType)",
  "SetMapIndexValue target.Elem() <- loop target := reflect.New(dereffedElemType)",
  "SetMapIndexValue innerValue <- loop innerValue := u.generateMap(dereffedElemType.Key(), dereffedElemType.Elem(), keythMap, mapFullName)",
  "SetMapIndexValue reflect.ValueOf(v) <- outer reflect",
  "SetMapIndexValue val <- loop val := reflect.ValueOf(v)",
  "SetMapIndexValue target.Elem() <- loop target := reflect.New(dereffedElemType)",
  "targetValue.SetMapIndex keythValue <- loop keythValue := refValue.MapIndex(key)"] := rfl

/-- `fillSlice` / `sliceElems` (`fillSliceSite = .perEntry`): one `MakeSlice` per slice value, element i is filled through `conv.Index(i)`; null elements are skipped; the field is set only when some element was non-null. -/
theorem tie_mFillSlice : mFillSlice =
    ["if !value.CanSet()",
  "call value.CanSet()",
  "return errValueNotSettable",
  "if fieldType.Kind() == reflect.Ptr",
  "call fieldType.Kind()",
  "call Deref(fieldType)",
  "call reflect.New(baseType).Elem()",
  "call reflect.New(baseType)",
  "if err != nil",
  "call u.fillSlice(baseType, target, mapValue, fullName)",
  "return err",
  "call SetValue(fieldType, value, target)",
  "return nil",
  "call reflect.ValueOf(mapValue)",
  "if refValue.Kind() != reflect.Slice",
  "call refValue.Kind()",
  "return newTypeMismatchErrorWithHint(fullName, reflect.Slice.String(), fmt.Sprintf(\"%T\", mapValue))",
  "call newTypeMismatchErrorWithHint(fullName, reflect.Slice.String(), fmt.Sprintf(\"%T\", mapValue))",
  "call reflect.Slice.String()",
  "call fmt.Sprintf(\"%T\", mapValue)",
  "if refValue.IsNil()",
  "call refValue.IsNil()",
  "return nil",
  "call fieldType.Elem()",
  "call Deref(baseType)",
  "call dereffedBaseType.Kind()",
  "if refValue.Len() == 0",
  "call refValue.Len()",
  "call value.Set(reflect.MakeSlice(reflect.SliceOf(baseType), 0, 0))",
  "call reflect.MakeSlice(reflect.SliceOf(baseType), 0, 0)",
  "call reflect.SliceOf(baseType)",
  "return nil",
  "call reflect.MakeSlice(reflect.SliceOf(baseType), refValue.Len(), refValue.Cap())",
  "call reflect.SliceOf(baseType)",
  "call refValue.Len()",
  "call refValue.Cap()",
  "call refValue.Len()",
  "call refValue.Index(i).Interface()",
  "call refValue.Index(i)",
  "if ithValue == nil",
  "call fmt.Sprintf(\"%s[%d]\", fullName, i)",
  "if err != nil",
  "call u.fillStructElement(baseType, conv.Index(i), ithValue, sliceFullName)",
  "call conv.Index(i)",
  "return err",
  "if err != nil",
  "call u.fillSlice(baseType, conv.Index(i), ithValue, sliceFullName)",
  "call conv.Index(i)",
  "return err",
  "if err != nil",
  "call u.fillSliceValue(conv, i, dereffedBaseKind, ithValue, sliceFullName)",
  "return err",
  "if valid",
  "call value.Set(conv)",
  "return nil"] := rfl

/-- `sliceElemPrim` and the per-element allocation of pointer elements: `target := reflect.New(baseType).Elem()` for every element. -/
theorem tie_mFillSliceValue : mFillSliceValue =
    ["if value == nil",
  "return errNilSliceElement",
  "call slice.Index(index)",
  "call ithVal.Type()",
  "return setValueFromString(baseKind, ithVal, v.String())",
  "call setValueFromString(baseKind, ithVal, v.String())",
  "call v.String()",
  "return setValueFromString(baseKind, ithVal, v)",
  "call setValueFromString(baseKind, ithVal, v)",
  "call Deref(ithValType).Kind()",
  "call Deref(ithValType)",
  "return u.fillStructElement(ithValType, ithVal, v, fullName)",
  "call u.fillStructElement(ithValType, ithVal, v, fullName)",
  "return u.fillMap(ithValType, ithVal, value, fullName)",
  "call u.fillMap(ithValType, ithVal, value, fullName)",
  "return errTypeMismatch",
  "if ithVal.Kind() == reflect.Ptr",
  "call ithVal.Kind()",
  "call Deref(ithValType)",
  "if !reflect.TypeOf(value).AssignableTo(baseType)",
  "call reflect.TypeOf(value).AssignableTo(baseType)",
  "call reflect.TypeOf(value)",
  "return errTypeMismatch",
  "call reflect.New(baseType).Elem()",
  "call reflect.New(baseType)",
  "call target.Set(reflect.ValueOf(value))",
  "call reflect.ValueOf(value)",
  "call SetValue(ithValType, ithVal, target)",
  "return nil",
  "if !reflect.TypeOf(value).AssignableTo(ithValType)",
  "call reflect.TypeOf(value).AssignableTo(ithValType)",
  "call reflect.TypeOf(value)",
  "return errTypeMismatch",
  "call ithVal.Set(reflect.ValueOf(value))",
  "call reflect.ValueOf(value)",
  "return nil"] := rfl

/-- struct elements: a fresh `reflect.New(Deref(baseType))` per element. -/
theorem tie_mFillStructElement : mFillStructElement =
    ["if !ok",
  "return errTypeMismatch",
  "call reflect.New(Deref(baseType))",
  "call Deref(baseType)",
  "if err != nil",
  "call u.unmarshal(val, ptr.Interface(), fullName)",
  "call ptr.Interface()",
  "return err",
  "call SetValue(baseType, target, ptr.Elem())",
  "call ptr.Elem()",
  "return nil"] := rfl

/-- the `.ptr` the model's decoders put around the value of a pointer type (`withValue`, `sliceElems`, `genMap`; `wrapPtr`
says it as a function): an addressable cell is pointed at directly, anything else is copied into a fresh `reflect.New` per
pointer level. -/
theorem tie_uConvertTypeOfPtr : uConvertTypeOfPtr =
    ["if tp.Kind() == reflect.Ptr && target.CanAddr()",
  "call tp.Kind()",
  "call target.CanAddr()",
  "call tp.Elem()",
  "call target.Addr()",
  "call tp.Kind()",
  "call reflect.New(target.Type())",
  "call target.Type()",
  "call p.Elem().Set(target)",
  "call p.Elem()",
  "call tp.Elem()",
  "return target"] := rfl

theorem tie_uSetMapIndexValue : uSetMapIndexValue =
    ["call value.SetMapIndex(key, convertTypeOfPtr(tp, target))",
  "call convertTypeOfPtr(tp, target)"] := rfl

theorem tie_uSetValue : uSetValue =
    ["call value.Set(convertTypeOfPtr(tp, target))",
  "call convertTypeOfPtr(tp, target)"] := rfl

/-- `buildOptions`: the option record of `conf.Load` is a local zero value, fresh for every call (seeded C17-4 took a pointer to a package-level default). -/
theorem tie_cLoadDecls : cLoadDecls =
    ["var opt options"] := rfl

/-- state of package conf that outlives a call: the default-filling unmarshaller and the loaders table, nothing else. -/
theorem tie_cPkgVars : cPkgVars =
    ["fillDefaultUnmarshaler = mapping.NewUnmarshaler(jsonTagKey, mapping.WithDefault())",
  "loaders = map[string]func([]byte, any) error{ \".json\": LoadFromJsonByt"] := rfl

/-- options.go holds no package-level state. -/
theorem tie_cOptionsPkgVars : cOptionsPkgVars =
    [] := rfl

/-- the default JSON unmarshaller (no options) is the only package-level state of jsonunmarshaler.go. -/
theorem tie_mJsonPkgVars : mJsonPkgVars =
    ["jsonUnmarshaler = NewUnmarshaler(jsonTagKey)"] := rfl

/-- jsonx has no package-level state. -/
theorem tie_xPkgVars : xPkgVars =
    [] := rfl

/-- internal/encoding has no package-level state. -/
theorem tie_ePkgVars : ePkgVars =
    [] := rfl

/-! ### decisions TRANSLATED from the Go conditions (extract/c17.go `c17Conds`), proven equal to the model's
decisions for all arguments.  A changed comparison operator, a negation, a swapped operand or constant breaks them.
Conditions that correspond to no decision function of the model (`rangeCond1`: `math.IsNaN`; `fillSliceCond2/7/8/9`,
`genMapCond2/4/6/10`: `if err != nil`; `ccGenCond3/4/5`: logging and a type assertion) are translated and counted
(`tie_condCounts`, `tie_ccDecisions`), and compared with nothing. -/

/-- no new condition entered the functions whose conditions are translated. -/
theorem tie_condCounts : rangeCondCount = 4 ∧ getUnmCondCount = 1 ∧ loadCondCount = 4 ∧ fillSliceCondCount = 11 ∧
    genMapCondCount = 12 ∧ lowerMapCondCount = 4 ∧ loadJsonCondCount = 3 := by decide

/-- `inRange`, no range: `nr == nil` ⇒ valid. -/
theorem tie_rangeNone (b : Bool) : rangeCond0 b = b := rfl

/-- `inRange`, left bound: the value `n/d` violates the bound `a/b` iff NOT (`a/b ≤ n/d` when inclusive, `a/b < n/d`
when exclusive) — the model compares the exact fractions by cross-multiplication. -/
theorem tie_rangeLeft (inc : Bool) (a n : Int) (b d : Nat) :
    rangeCond2 inc (n * b) (a * d) = !(if inc then fracLe a b n d else fracLt a b n d) := by
  -- a bound is violated iff the opposite strict / weak comparison holds
  cases inc <;> simp [rangeCond2, fracLe, fracLt, ← Int.not_lt]

/-- `inRange`, right bound. -/
theorem tie_rangeRight (inc : Bool) (a n : Int) (b d : Nat) :
    rangeCond3 inc (n * b) (a * d) = !(if inc then fracLe n d a b else fracLt n d a b) := by
  cases inc <;> simp [rangeCond3, fracLe, fracLt, ← Int.not_lt]

/-- `freshUnmarshaler`: `len(opts) > 0`. -/
theorem tie_getUnmCond (n : Nat) : getUnmCond0 (n : Int) = freshUnmarshaler n := by
  cases n <;> simp [getUnmCond0, freshUnmarshaler] <;> omega

/-- `loadContent`: the content is expanded exactly under `if opt.env`. -/
theorem tie_loadEnvCond (expand : Str → Str) (e : Bool) (c : Str) :
    (if loadCond2 e then expand c else c) = loadContent expand e c := by
  cases e <;> rfl

/-- `confLoad`: `!ok` (no loader for the extension) ⇒ error; errors of ReadFile / of the loader are returned. -/
theorem tie_loadErrConds (b : Bool) : loadCond1 b = !b ∧ loadCond0 b = !b ∧ loadCond3 b = !b := ⟨rfl, rfl, rfl⟩

/-- `fillSlice`: `refValue.Len() == 0` ⇒ the empty, non-nil slice (`l.isNil`). -/
theorem tie_fillSliceEmpty (l : JL) : fillSliceCond5 (l.length : Int) = l.isNil := by
  cases l with
  | nil => rfl
  | cons h t =>
    simp only [fillSliceCond5, JL.isNil, JL.length]
    have hne : ¬ (((t.length + 1 : Nat) : Int) = 0) := by omega
    exact decide_eq_false hne

/-- `sliceElems`: a null element is skipped (`ithValue == nil` ⇒ continue), the slice is stored iff some element was
valid (`if valid`), a non-slice value is a type mismatch, a pointer type is dereferenced first. -/
theorem tie_fillSliceDecisions (b : Bool) (k c : Int) :
    fillSliceCond6 b = b ∧ fillSliceCond10 b = b ∧ fillSliceCond4 b = b ∧ fillSliceCond0 b = !b ∧
    fillSliceCond3 k c = !decide (k = c) ∧ fillSliceCond1 k c = decide (k = c) := ⟨rfl, rfl, rfl, rfl, rfl, rfl⟩

/-- `mapElemPrim`: a bool / string value into an element of another kind is a type mismatch (`if p = .bool`,
`if p = .string`), any other value must have the element's kind; an identical map type is taken as is. -/
theorem tie_genMapDecisions (k c : Int) (b : Bool) :
    genMapCond7 k c = !decide (k = c) ∧ genMapCond8 k c = !decide (k = c) ∧ genMapCond11 k c = !decide (k = c) ∧
    genMapCond0 k c = decide (k = c) ∧ genMapCond1 k c = !decide (k = c) ∧ genMapCond9 b = !b ∧
    genMapCond3 b = !b ∧ genMapCond5 b = !b := ⟨rfl, rfl, rfl, rfl, rfl, rfl, rfl, rfl⟩

/-- `lowerMap`: exact child / lower-cased child / `mapField != nil` / nested map — the polarity of each test. -/
theorem tie_lowerMapDecisions (b : Bool) :
    lowerMapCond0 b = b ∧ lowerMapCond1 b = b ∧ lowerMapCond2 b = !b ∧ lowerMapCond3 b = b := ⟨rfl, rfl, rfl, rfl⟩

/-- `loadTreeWithO`: every error (info, generic tree, unmarshal) is returned. -/
theorem tie_loadJsonDecisions (b : Bool) : loadJsonCond0 b = !b ∧ loadJsonCond1 b = !b ∧ loadJsonCond2 b = !b :=
  ⟨rfl, rfl, rfl⟩

/-- `FMeta.tagKey` as `conf` reads it (`getTagName`): the tag up to the first ',' (a ',' at position 0 included: the
name is then empty), trimmed; an empty name ⇒ the field's Go name. -/
theorem tie_cGetTagName : cGetTagName =
    ["if ok", "call field.Tag.Lookup(jsonTagKey)", "if pos >= 0", "call strings.IndexByte(tag, jsonTagSep)",
     "call strings.TrimSpace(tag)", "if len(tag) > 0", "call len(tag)", "return tag", "return field.Name"] := rfl

/-- the tag is cut at EVERY separator position ≥ 0 (`strings.IndexByte` returns -1 for none), the cut name is used
iff it is non-empty. -/
theorem tie_tagNameDecisions (pos : Int) (n : Nat) (b : Bool) :
    tagNameCondCount = 3 ∧ tagNameCond0 b = b ∧ tagNameCond1 pos = decide (0 ≤ pos) ∧
    tagNameCond2 (n : Int) = decide (n ≠ 0) := by
  refine ⟨rfl, rfl, rfl, ?_⟩
  cases n with
  | zero => rfl
  | succ k =>
    simp [tagNameCond2]

/-- the deprecated wrappers are the loaders. -/
theorem tie_cLoadConfigJson : cLoadConfigJson =
    ["return LoadFromJsonBytes(content, v)", "call LoadFromJsonBytes(content, v)"] := rfl

theorem tie_cLoadConfigYaml : cLoadConfigYaml =
    ["return LoadFromYamlBytes(content, v)", "call LoadFromYamlBytes(content, v)"] := rfl

/-- `encodeToJSON` renders into `var buf bytes.Buffer`, a LOCAL of the call, with no defer: the returned bytes belong to
the caller (`encodeSite = .freshLocal`, theorems `conversion_results_stable`, `load_reads_own_document`).  A buffer taken
from package-level state (a pool: seeded C17-8) gives `some .pooled`, anything else `none`. -/
theorem tie_encodeBufSite : siteOfFlow encodeBufFlow = some encodeSite := by decide

theorem tie_encodeBufFlow : encodeBufFlow =
    [("return", "buf.Bytes()"), ("root", "buf"), ("root-scope", "local"), ("decl", "var"), ("type", "bytes.Buffer"),
     ("defers", "0"), ("other-returns", "0")] := rfl

/-- `YamlToJson` / `TomlToJson` return what `encodeToJSON` returned (no copy in between, nothing kept). -/
theorem tie_fwdEncoding :
    fcallsOf fwdEYamlToJson = [⟨"yaml.Unmarshal", [.param 0, .other]⟩, ⟨"toStringKeyMap", [.other]⟩, ⟨"encodeToJSON", [.result 1]⟩] ∧
    fcallsOf fwdETomlToJson = [⟨"toml.NewDecoder(bytes.NewReader(data)).Decode", [.other]⟩, ⟨"encodeToJSON", [.other]⟩] :=
  ⟨rfl, rfl⟩

/-- the data flow of the four delegating mapping entry points and of conf's two converting loaders IS the flow the theorems
`mapping_entry_points_all_option_lists` / `conf_loaders_through_flow` / `fwd_*_sem` speak about: content through the front
end, the target as it is, the options SPREAD (`opts...`; conf's loaders take none). -/
theorem tie_fwdYamlBytes : fcallsOf Extracted.C17.fwdYamlBytes = GoZero.C17.fwdYamlBytes := rfl
theorem tie_fwdTomlBytes : fcallsOf Extracted.C17.fwdTomlBytes = GoZero.C17.fwdTomlBytes := rfl
theorem tie_fwdYamlReader : fcallsOf Extracted.C17.fwdYamlReader = GoZero.C17.fwdYamlReader := rfl
theorem tie_fwdTomlReader : fcallsOf Extracted.C17.fwdTomlReader = GoZero.C17.fwdTomlReader := rfl
theorem tie_fwdConfYaml : fcallsOf Extracted.C17.fwdConfYaml = GoZero.C17.fwdConfYaml := rfl
theorem tie_fwdConfToml : fcallsOf Extracted.C17.fwdConfToml = GoZero.C17.fwdConfToml := rfl

/-- SEMANTIC form, for ALL arguments and ALL callee behaviours: what `UnmarshalYamlBytes(content, v, opts...)` computes
from the EXTRACTED flow is `UnmarshalJsonBytes(YamlToJson(content), v, opts...)`; likewise the other five. -/
theorem tie_fwdMapping_sem {α : Type} (sem : String → List α → α) (content v dflt : α) (opts : List α) :
    runFwd sem [content, v] opts dflt (fcallsOf Extracted.C17.fwdYamlBytes)
      = sem "UnmarshalJsonBytes" ([sem "encoding.YamlToJson" [content], v] ++ opts) ∧
    runFwd sem [content, v] opts dflt (fcallsOf Extracted.C17.fwdTomlBytes)
      = sem "UnmarshalJsonBytes" ([sem "encoding.TomlToJson" [content], v] ++ opts) ∧
    runFwd sem [content, v] opts dflt (fcallsOf Extracted.C17.fwdYamlReader)
      = sem "UnmarshalYamlBytes" ([sem "io.ReadAll" [content], v] ++ opts) ∧
    runFwd sem [content, v] opts dflt (fcallsOf Extracted.C17.fwdTomlReader)
      = sem "UnmarshalTomlBytes" ([sem "io.ReadAll" [content], v] ++ opts) ∧
    runFwd sem [content, v] opts dflt (fcallsOf Extracted.C17.fwdJsonBytes)
      = sem "unmarshalJsonBytes" [content, v, sem "getJsonUnmarshaler" opts] ∧
    runFwd sem [content, v] opts dflt (fcallsOf Extracted.C17.fwdJsonReader)
      = sem "unmarshalJsonReader" [content, v, sem "getJsonUnmarshaler" opts] := by
  have hb : fcallsOf Extracted.C17.fwdJsonBytes =
      [⟨"getJsonUnmarshaler", [.spread 2]⟩, ⟨"unmarshalJsonBytes", [.param 0, .param 1, .result 0]⟩] := rfl
  have hr : fcallsOf Extracted.C17.fwdJsonReader =
      [⟨"getJsonUnmarshaler", [.spread 2]⟩, ⟨"unmarshalJsonReader", [.param 0, .param 1, .result 0]⟩] := rfl
  rw [tie_fwdYamlBytes, tie_fwdTomlBytes, tie_fwdYamlReader, tie_fwdTomlReader, hb, hr]
  refine ⟨runFwd_conv_spread .., runFwd_conv_spread .., runFwd_conv_spread .., runFwd_conv_spread .., ?_, ?_⟩ <;>
    simp [runFwd, runFwdAux, evalArgs]

/-- conf: the converting loaders, the deprecated wrappers, `LoadConfig` / `MustLoad` (path, target and `opts...` go to
`Load` unchanged). -/
theorem tie_fwdConf_sem {α : Type} (sem : String → List α → α) (a v dflt : α) (opts : List α) :
    runFwd sem [a, v] opts dflt (fcallsOf Extracted.C17.fwdConfYaml) = sem "LoadFromJsonBytes" [sem "encoding.YamlToJson" [a], v] ∧
    runFwd sem [a, v] opts dflt (fcallsOf Extracted.C17.fwdConfToml) = sem "LoadFromJsonBytes" [sem "encoding.TomlToJson" [a], v] ∧
    runFwd sem [a, v] opts dflt (fcallsOf Extracted.C17.fwdConfLoadConfig) = sem "Load" ([a, v] ++ opts) ∧
    runFwd sem [a, v] opts dflt (fcallsOf Extracted.C17.fwdConfLoadConfigJson) = sem "LoadFromJsonBytes" [a, v] ∧
    runFwd sem [a, v] opts dflt (fcallsOf Extracted.C17.fwdConfLoadConfigYaml) = sem "LoadFromYamlBytes" [a, v] := by
  have hc : fcallsOf Extracted.C17.fwdConfLoadConfig = [⟨"Load", [.param 0, .param 1, .spread 2]⟩] := rfl
  have hj : fcallsOf Extracted.C17.fwdConfLoadConfigJson = [⟨"LoadFromJsonBytes", [.param 0, .param 1]⟩] := rfl
  have hy : fcallsOf Extracted.C17.fwdConfLoadConfigYaml = [⟨"LoadFromYamlBytes", [.param 0, .param 1]⟩] := rfl
  rw [tie_fwdConfYaml, tie_fwdConfToml, hc, hj, hy]
  refine ⟨runFwd_conv .., runFwd_conv .., ?_, ?_, ?_⟩ <;> simp [runFwd, runFwdAux, evalArgs]

/-- `MustLoad` calls `Load(path, v, opts...)` first (then only the fatal log on an error). -/
theorem tie_fwdMustLoad : (fcallsOf fwdConfMustLoad).head? = some ⟨"Load", [.param 0, .param 1, .spread 2]⟩ := rfl

/-- `getJsonUnmarshaler` hands the caller's whole option list to `NewUnmarshaler`; the jsonx entry points hand their
decoder to `unmarshalUseNumber` together with the caller's target. -/
theorem tie_fwdJsonInternals :
    fcallsOf fwdGetJsonUnmarshaler = [⟨"len", [.other]⟩, ⟨"NewUnmarshaler", [.other, .spread 0]⟩] ∧
    fcallsOf fwdJsonMap = [⟨"getJsonUnmarshaler(opts...).Unmarshal", [.param 0, .param 1]⟩] ∧
    fcallsOf fwdUnmJsonBytes = [⟨"jsonx.Unmarshal", [.param 0, .other]⟩, ⟨"unmarshaler.Unmarshal", [.other, .param 1]⟩] ∧
    fcallsOf fwdUnmJsonReader = [⟨"jsonx.UnmarshalFromReader", [.param 0, .other]⟩, ⟨"unmarshaler.Unmarshal", [.other, .param 1]⟩] ∧
    fcallsOf fwdXUseNumber = [⟨"decoder.UseNumber", []⟩, ⟨"decoder.Decode", [.param 1]⟩] ∧
    (fcallsOf fwdXUnmarshal).take 3 = [⟨"bytes.NewReader", [.param 0]⟩, ⟨"json.NewDecoder", [.result 0]⟩, ⟨"unmarshalUseNumber", [.result 1, .param 1]⟩] ∧
    (fcallsOf fwdXUnmarshalFromString).take 3 = [⟨"strings.NewReader", [.param 0]⟩, ⟨"json.NewDecoder", [.result 0]⟩, ⟨"unmarshalUseNumber", [.result 1, .param 1]⟩] ∧
    (fcallsOf fwdXUnmarshalFromReader).take 3 = [⟨"io.TeeReader", [.param 0, .other]⟩, ⟨"json.NewDecoder", [.result 0]⟩, ⟨"unmarshalUseNumber", [.result 1, .param 1]⟩] :=
  ⟨rfl, rfl, rfl, rfl, rfl, rfl, rfl, rfl⟩

/-- the typed data flow of `conf.Load` (evaluation order; `o(&opt)` is the option loop): the file is read once; the
extension of the SAME path, lower-cased, selects the loader; under `opt.env` the loader gets
`[]byte(os.ExpandEnv(string(content)))`, otherwise `content` itself; the target `v` goes to the loader unchanged. -/
theorem tie_fwdLoad : fcallsOf fwdConfLoad =
    [⟨"os.ReadFile", [.param 0]⟩, ⟨"path.Ext", [.param 0]⟩, ⟨"strings.ToLower", [.result 1]⟩,
     ⟨"fmt.Errorf", [.other, .param 0]⟩, ⟨"o", [.other]⟩,
     ⟨"string", [.result 0]⟩, ⟨"os.ExpandEnv", [.result 5]⟩, ⟨"[]byte", [.result 6]⟩, ⟨"loader", [.result 7, .param 1]⟩,
     ⟨"loader", [.result 0, .param 1]⟩, ⟨"validate", [.param 1]⟩] := rfl

/-- SEMANTIC form (`loadContent`): for ALL arguments and callee behaviours, what the two `loader` calls receive. -/
theorem tie_fwdLoad_sem {α : Type} (sem : String → List α → α) (file v dflt : α) (opts : List α) :
    (runFwdAux sem [file, v] opts dflt [] (fcallsOf fwdConfLoad))[8]?
      = some (sem "loader" [sem "[]byte" [sem "os.ExpandEnv" [sem "string" [sem "os.ReadFile" [file]]]], v]) ∧
    (runFwdAux sem [file, v] opts dflt [] (fcallsOf fwdConfLoad))[9]?
      = some (sem "loader" [sem "os.ReadFile" [file], v]) ∧
    (runFwdAux sem [file, v] opts dflt [] (fcallsOf fwdConfLoad))[2]?
      = some (sem "strings.ToLower" [sem "path.Ext" [file]]) := by
  rw [tie_fwdLoad]
  simp [runFwdAux, evalArgs]

/-- `LoadFromJsonBytes` (`loadTreeWithO`): the info of the TARGET's type, the generic tree of the CONTENT, the tree
lowered with that info, then `UnmarshalJsonMap(lowered, v, WithCanonicalKeyFunc(..))`, then `validate(v)`. -/
theorem tie_fwdLoadJson : fcallsOf fwdConfLoadJson =
    [⟨"reflect.TypeOf", [.param 1]⟩, ⟨"buildFieldsInfo", [.result 0, .other]⟩, ⟨"jsonx.Unmarshal", [.param 0, .other]⟩,
     ⟨"toLowerCaseKeyMap", [.other, .result 1]⟩, ⟨"mapping.WithCanonicalKeyFunc", [.other]⟩,
     ⟨"mapping.UnmarshalJsonMap", [.result 3, .param 1, .result 4]⟩, ⟨"validate", [.param 1]⟩] := rfl

theorem tie_fwdLoadJson_sem {α : Type} (sem : String → List α → α) (content v dflt : α) :
    (runFwdAux sem [content, v] [] dflt [] (fcallsOf fwdConfLoadJson))[5]?
      = some (sem "mapping.UnmarshalJsonMap"
          [sem "toLowerCaseKeyMap" [dflt, sem "buildFieldsInfo" [sem "reflect.TypeOf" [v], dflt]], v,
           sem "mapping.WithCanonicalKeyFunc" [dflt]]) ∧
    (runFwdAux sem [content, v] [] dflt [] (fcallsOf fwdConfLoadJson))[2]? = some (sem "jsonx.Unmarshal" [content, dflt]) := by
  rw [tie_fwdLoadJson]
  simp [runFwdAux, evalArgs]

/-- `FillDefault(v)` = the package's default-filling unmarshaller on an EMPTY map literal and the caller's target. -/
theorem tie_fwdFillDefault : fcallsOf fwdConfFillDefault = [⟨"fillDefaultUnmarshaler.Unmarshal", [.other, .param 0]⟩] := rfl

/-! ### the decisions of the unmarshaller's dispatch functions, TRANSLATED from the Go conditions
(`c17CondsSw`: every `if` and every case of a tagless switch, source order) and proven equal to the model's decision
functions (`Model.lean`: `nfsRoute`, `fieldRoute`, `fromArrayTakesFirst`, `nilValueAccepted`, `primFromString`) for all
arguments.  A swapped case, a changed operand, a negation, a reordered test breaks them.  `nfsCond7`–`nfsCond10` (the `[]byte` and
string cases), `namedCond1` (`if err != nil`), `namedCond5` (canonical key set), `namedCond7` (`!value.IsZero()`) and `noValCond1`
(duration) are counted only (`tie_dispatchCondCounts`). -/

theorem tie_dispatchCondCounts : nfsCondCount = 11 ∧ namedCondCount = 13 ∧ withValCondCount = 5 ∧ noValCondCount = 9 ∧
    primCondCount = 2 ∧ fillMapCondCount = 5 ∧ structInfoCondCount = 4 ∧ addMergeCondCount = 3 ∧ mergeCondCount = 2 ∧
    anonInfoCondCount = 5 := by decide

/-- `reflect.Kind` constants (reflect/type.go). -/
def encRK : RK → Int
  | .map => 21 | .slice => 23 | .string => 24 | .struct => 25 | .other => 2

/-- `processFieldNotFromString` as the Go switch evaluates it: the cases in source order, first match wins. -/
def goNfsRoute (vk tk kMap kStruct kSlice kString dft dur : Int) (impl : Bool) : NfsRoute :=
  if nfsCond0 vk kMap tk kStruct then .structFromMap
  else if nfsCond1 tk kSlice vk then .fillSlice
  else if nfsCond2 vk kMap tk then .fillMap
  else if nfsCond3 vk kString tk kMap then .mapFromString
  else if nfsCond4 vk kString tk kSlice then .sliceFromString
  else if nfsCond5 vk kString dft dur then .duration
  else if nfsCond6 vk kString tk kStruct impl then .unmarshalerStruct
  else .primitive

/-- the dispatch table of `processFieldNotFromString` IS `nfsRoute`, for every value kind, field kind, duration flag and
unmarshaler flag. -/
theorem tie_nfsRoute (vk tk : RK) (isDur impl : Bool) :
    goNfsRoute (encRK vk) (encRK tk) 21 25 23 24 (if isDur then 1 else 0) 1 impl = nfsRoute vk tk isDur impl := by
  cases vk <;> cases tk <;> cases isDur <;> cases impl <;> decide

/-- which filler each case calls. -/
theorem tie_nfsCases : nfsCases =
    ["valueKind == reflect.Map && typeKind == reflect.Struct -> mv, ok := mapValue.(map[string]any)",
  "typeKind == reflect.Slice && valueKind == reflect.Slice -> return u.fillSlice(fieldType, value, mapValue, fullName)",
  "valueKind == reflect.Map && typeKind == reflect.Map -> return u.fillMap(fieldType, value, mapValue, fullName)",
  "valueKind == reflect.String && typeKind == reflect.Map -> return u.fillMapFromString(value, mapValue)",
  "valueKind == reflect.String && typeKind == reflect.Slice -> if fieldType.Elem().Kind() == reflect.Uint8 { if strVal, ok := mapValue.(string); ok { if ",
  "valueKind == reflect.String && derefedFieldType == durationType -> return fillDurationValue(fieldType, value, mapValue.(string))",
  "valueKind == reflect.String && typeKind == reflect.Struct && u.implementsUnmarshaler(fieldType) -> return u.fillUnmarshalerStruct(fieldType, value, mapValue.(string))",
  "default -> return u.processFieldPrimitive(fieldType, value, mapValue, opts, fullName)"] := rfl

/-- `processNamedField`: unexported / `-` ⇒ skipped; an env tag with a non-empty variable wins; `fillDefault` or no value
⇒ the no-value path; otherwise the value path. -/
def goFieldRoute (exported : Bool) (key ignoreKey : Int) (optsNil : Bool) (envVarLen envValLen : Int)
    (fillDefault hasValue : Bool) : FieldRoute :=
  if namedCond0 exported then .skip
  else if namedCond2 key ignoreKey then .skip
  else if namedCond3 optsNil envVarLen && namedCond4 envValLen then .env
  else if namedCond6 fillDefault then .noValue
  else if namedCond8 hasValue then .noValue
  else .value

theorem tie_fieldRoute (exported : Bool) (key ignoreKey : Int) (optsNil : Bool) (envVarLen envValLen : Int)
    (fillDefault hasValue : Bool) :
    goFieldRoute exported key ignoreKey optsNil envVarLen envValLen fillDefault hasValue =
      fieldRoute exported (decide (key = ignoreKey)) (!optsNil && decide (envVarLen > 0)) (decide (envValLen > 0))
        fillDefault hasValue := by
  unfold goFieldRoute fieldRoute namedCond0 namedCond2 namedCond3 namedCond4 namedCond6 namedCond8
  -- the env test is the same term on both sides; what is left is a Boolean identity in the other four tests
  cases exported <;> cases decide (key = ignoreKey) <;> cases fillDefault <;> cases hasValue <;> rfl

/-- `WithFromArray`: the nest of four tests is `fromArrayTakesFirst`. -/
theorem tie_fromArrayTakesFirst (fromArray valueNil : Bool) (fk vk kSlice kArray len : Int) :
    (namedCond9 fromArray valueNil && namedCond10 fk kSlice kArray && namedCond11 vk kSlice kArray && namedCond12 len) =
      fromArrayTakesFirst fromArray valueNil (decide (fk = kSlice) || decide (fk = kArray))
        (decide (vk = kSlice) || decide (vk = kArray)) len := by
  simp [namedCond9, namedCond10, namedCond11, namedCond12, fromArrayTakesFirst, Bool.and_assoc]

/-- `processNamedFieldWithValue`: nil value ⇒ accepted iff optional; primitive kinds go through the from-string path iff the
unmarshaller OR the field asks for it; containers and structs never do (switch table). -/
theorem tie_withValueDecisions (b c : Bool) :
    withValCond0 b = b ∧ withValCond1 b = nilValueAccepted b ∧ withValCond2 b = !b ∧ withValCond3 b = b ∧
    withValCond4 b c = primFromString b c := ⟨rfl, rfl, rfl, rfl, rfl⟩

theorem tie_withValKindCases : withValKindCases =
    ["reflect.Array,reflect.Map,reflect.Slice,reflect.Struct -> return u.processFieldNotFromString(fieldType, value, vp, opts, fullName)",
  "default -> if u.opts.fromString || opts.fromString() { return u.processNamedFieldWithValueFromString("] := rfl

/-- `processNamedFieldWithoutValue` (`withoutValue`, `withDefault`): a default wins; under fillDefault only non-pointer
structs are descended; otherwise containers / structs / scalars act iff the field is NOT optional; a required struct
is an error. -/
theorem tie_noValueDecisions (b : Bool) (a k p s : Int) :
    noValCond0 b = b ∧ noValCond2 b = b ∧ noValCond4 b = !b ∧ noValCond5 b = !b ∧ noValCond8 b = !b ∧ noValCond7 b = b ∧
    noValCond6 b = !b ∧ noValCond3 a p k s = (!decide (a = p) && decide (k = s)) := ⟨rfl, rfl, rfl, rfl, rfl, rfl, rfl, rfl⟩

theorem tie_noValDefaultCases : noValDefaultCases =
    ["reflect.Array,reflect.Slice -> return u.fillSliceWithDefault(derefedType, value, defaultValue, fullName)",
  "default -> return setValueFromString(fieldKind, value, defaultValue)"] := rfl

/-- `processFieldPrimitive`: a `json.Number` goes to the number path (type switch, `tie_jsonNumberCases`), anything else
must have the field's kind; `fillMap`: a pointer type is dereferenced, filled, then pointed to (`fillMapCond1`). -/
theorem tie_primAndFillMapDecisions (a c : Int) (b : Bool) :
    primCond0 a c = decide (a = c) ∧ primCond1 b = !b ∧ fillMapCond0 b = !b ∧ fillMapCond1 a c = decide (a = c) ∧
    fillMapCond2 b = !b ∧ fillMapCond3 b = !b ∧ fillMapCond4 b = !b := ⟨rfl, rfl, rfl, rfl, rfl, rfl, rfl⟩

/-! #### conf: `buildStructFieldsInfo` / `buildAnonymousFieldInfo` / `addOrMergeFields` / `mergeFields` (`infoFields`) -/

/-- unexported fields are skipped, anonymous fields go to `buildAnonymousFieldInfo`, every error is returned;
an existing child under the same lower-cased name is merged (`ok`), a map child conflicts, two leaf children or a leaf
and a struct conflict (`len(prev.children) == 0 || len(children) == 0`), a repeated grand-child conflicts. -/
theorem tie_structInfoDecisions (b : Bool) (m n : Int) :
    structInfoCond0 b = !b ∧ structInfoCond1 b = b ∧ structInfoCond2 b = !b ∧ structInfoCond3 b = !b ∧
    addMergeCond0 b = b ∧ addMergeCond1 b = !b ∧ addMergeCond2 b = !b ∧
    mergeCond0 m n = (decide (m = 0) || decide (n = 0)) ∧ mergeCond1 b = b ∧
    anonInfoCond0 b = !b ∧ anonInfoCond1 b = !b ∧ anonInfoCond2 b = !b ∧ anonInfoCond3 b = b ∧ anonInfoCond4 b = b :=
  ⟨rfl, rfl, rfl, rfl, rfl, rfl, rfl, rfl, rfl, rfl, rfl, rfl, rfl, rfl⟩

theorem tie_anonInfoCases : anonInfoCases =
    ["reflect.Struct -> fields, err := buildFieldsInfo(ft, fullName)",
  "reflect.Map -> elemField, err := buildFieldsInfo(mapping.Deref(ft.Elem()), fullName)",
  "default -> if _, ok := info.children[lowerCaseName]; ok { return newConflictKeyError(fullName) }"] := rfl

/-! ### core/configcenter - the Type -> loader table, the empty-value check, what happens to the bytes -/

/-- `ccLoaderOf`: the registry maps exactly json / toml / yaml to the three loaders of package conf. -/
theorem tie_ccRegistry : ccRegistry =
    ["\"json\" -> conf.LoadFromJsonBytes", "\"toml\" -> conf.LoadFromTomlBytes", "\"yaml\" -> conf.LoadFromYamlBytes"] :=
  rfl

/-- `NewConfigCenter`: the Type is lower-cased, looked up, then the value is loaded and read back; `loadConfig` hands
the subscriber's value to `genValue` AS IT IS and stores the result. -/
theorem tie_fwdCcNewAndLoad :
    fcallsOf fwdCcNew = [⟨"strings.ToLower", [.other]⟩, ⟨"Unmarshaler", [.result 0]⟩, ⟨"fmt.Errorf", [.other, .other]⟩,
      ⟨"cc.loadConfig", []⟩, ⟨"cc.subscriber.AddListener", [.other]⟩, ⟨"cc.GetConfig", []⟩] ∧
    fcallsOf fwdCcLoadConfig = [⟨"c.subscriber.Value", []⟩, ⟨"logx.Errorf", [.other, .other]⟩,
      ⟨"logx.Infof", [.other, .result 0]⟩, ⟨"c.genValue", [.result 0]⟩, ⟨"c.snapshot.Store", [.result 3]⟩] :=
  ⟨rfl, rfl⟩

/-- **the bytes are not touched** (`ccValue = ccValueWith id`): in `genValue` the loader is called on `[]byte(data)` with
`data` the function's own parameter - no call result, no reassignment in between (seeded C17-9: `strings.TrimSpace`). -/
theorem tie_ccBytesUntouched : ccBytesUntouched (fcallsOf fwdCcGenValue) = true := by decide

theorem tie_fwdCcGenValue : fcallsOf fwdCcGenValue =
    [⟨"len", [.param 0]⟩, ⟨"reflect.TypeOf", [.other]⟩, ⟨"mapping.Deref", [.result 1]⟩, ⟨"t.Kind", []⟩,
     ⟨"[]byte", [.param 0]⟩, ⟨"c.unmarshaler", [.result 4, .other]⟩, ⟨"err.Error", []⟩,
     ⟨"logx.Errorf", [.other, .result 6, .param 0]⟩, ⟨"t.Kind", []⟩, ⟨"logx.Errorf", [.other, .result 8, .param 0]⟩] := rfl

/-- SEMANTIC form, for all arguments and callee behaviours: the loader receives `[]byte(data)` and the target. -/
theorem tie_fwdCcGenValue_sem {α : Type} (sem : String → List α → α) (data dflt : α) :
    (runFwdAux sem [data] [] dflt [] (fcallsOf fwdCcGenValue))[5]? = some (sem "c.unmarshaler" [sem "[]byte" [data], dflt]) := by
  rw [tie_fwdCcGenValue]
  simp [runFwdAux, evalArgs]

/-- the empty-value checks (`genValue`: `len(data) == 0` ⇒ nothing is loaded; `GetConfig`: no snapshot or empty data ⇒
`errEmptyConfig`) and the error of the loader is kept (`err != nil`). -/
theorem tie_ccDecisions (n : Int) (b : Bool) :
    ccGenCond0 n = decide (n = 0) ∧ ccGenCond1 b = b ∧ ccGenCond2 b = !b ∧ ccGetCond0 b n = (b || decide (n = 0)) ∧
    ccGenCondCount = 6 ∧ ccGetCondCount = 1 := ⟨rfl, rfl, rfl, rfl, rfl, rfl⟩

theorem tie_ccGetConfig : ccGetConfig =
    ["call c.value()", "if v == nil || len(v.data) == 0", "call len(v.data)", "return empty, errEmptyConfig",
     "return v.marshalData, v.err"] := rfl

/-- `buildStructFieldsInfo` returns the `&fieldInfo{…}` it built itself and nothing else (no early return of a kept object);
together with `tie_cPkgVars` (package conf keeps no info between calls) the merge of `addOrMergeFields` / `mergeFields`
writes only into objects of the same call: `loadTreeM` is a function of (type, tree).  Seeded C17-10 breaks both. -/
theorem tie_structInfoFresh : infoFreshOfFlow structInfoFlow = true := by decide

end GoZero.C17.Tie
