/-
C05 — property theorems (statements, short proofs from the lemmas of Proofs*.lean, non-vacuity examples): the
site programs, the limiting object by itself, `syncx.Pool`, the history monitor.

Interleaving theorems quantify over: every capacity `n`, an unbounded set of threads (`Tid = Nat`), every
schedule and every environment choice (panic or not inside the guarded function, wake-up kinds, source
closed, …) — `Reach p n s` is the closure of `St.init n` under `step p · t c` for ANY `t`, `c`.
-/
import GoZero.C05.Proofs
import GoZero.C05.ProofsSem
import GoZero.C05.ProofsPool
import GoZero.C05.ProofsHist
namespace GoZero.C05

/-- **The cap.**  For every site program obeying the static discipline, every capacity `n`, any number of
threads and every schedule: any set of distinct threads that are inside the guarded region at the same
instant has at most `n` members. -/
theorem sem_cap (p : Prog) (hp : okProg p = true) (n : Nat) (s : St) (h : Reach p n s)
    (l : List Tid) (hl : l.Nodup) (hin : ∀ t ∈ l, inCrit p s t = true) : l.length ≤ n :=
  inCrit_le_cap hp h l hl hin

/-- the channel length is exactly the number of permit holders, and never exceeds `n`
(`hs` lists the holders: threads between their acquire and their release). -/
theorem sem_used_counts_holders (p : Prog) (hp : okProg p = true) (n : Nat) (s : St) (h : Reach p n s) :
    s.used ≤ n ∧ ∃ hs : List Tid, hs.Nodup ∧ (∀ t, H p (s.pc t) = true ↔ t ∈ hs) ∧ hs.length = s.used := by
  have hi := reach_inv hp h
  have hc := reach_cap h
  exact ⟨by have := hi.le_cap; omega, hi.tracks⟩

/-- **No leak.**  When every thread has finished (normally or through the panic exit) or never started, the
channel is empty again: the full capacity `n` is available. -/
theorem sem_no_leak (p : Prog) (hp : okProg p = true) (n : Nat) (s : St) (h : Reach p n s)
    (hq : ∀ t, idle p s t = true) : s.used = 0 ∧ s.cap = n :=
  ⟨tracks_zero (reach_inv hp h).tracks (fun t => idle_not_holds hp (hq t)), reach_cap h⟩

/-- a caller that returns only what it borrowed never sees `ErrLimitReturn`. -/
theorem sem_no_spurious_error (p : Prog) (hp : okProg p = true) (n : Nat) (s : St) (h : Reach p n s) (t : Tid) :
    s.err t = false := (reach_inv hp h).noerr t

/-- **Refusal admits nothing.**  A `tryAcquire` on a full channel moves the thread to its refusal row
(`false` / 503 / ErrTaskRunnerBusy), which holds no permit, and leaves the channel unchanged. -/
theorem sem_refusal (p : Prog) (hp : okProg p = true) (s s' : St) (t : Tid) (c : Bool) (r : Row) (els : Nat)
    (hr : p[s.pc t]? = some r) (hi : r.instr = .tryAcquire els) (hfull : ¬ s.used < s.cap)
    (hs : step p s t c = some s') :
    s'.used = s.used ∧ s'.pc t = els ∧ H p els = false ∧ inCrit p s' t = false := by
  have hok := okProg_row hp hr
  simp only [okRow, hi, Bool.and_eq_true, Bool.not_eq_true'] at hok
  rw [step_of_row hr, hi] at hs
  simp only [exec, hfull, if_false] at hs
  cases hs
  refine ⟨rfl, upd_same .., hok.2, Bool.eq_false_iff.mpr fun hc => ?_⟩
  have := inCrit_holds hp hc
  simp [upd, hok.2] at this

/-- the blocking acquire is not enabled on a full channel: a `Borrow`/`Schedule`/dispatcher stays put. -/
theorem sem_full_blocks (p : Prog) (s : St) (t : Tid) (c : Bool) (r : Row)
    (hr : p[s.pc t]? = some r) (hi : r.instr = .acquire) (hfull : ¬ s.used < s.cap) :
    step p s t c = none := by
  rw [step_of_row hr, hi]
  simp only [exec, hfull, if_false]

/-- below the cap the blocking acquire IS enabled (the free capacity is really available to a waiting
`Borrow` / `Schedule` / dispatcher). -/
theorem sem_not_full_admits (p : Prog) (s : St) (t : Tid) (c : Bool) (r : Row)
    (hr : p[s.pc t]? = some r) (hi : r.instr = .acquire) (hlt : s.used < s.cap) :
    ∃ s', step p s t c = some s' ∧ s'.used = s.used + 1 := by
  rw [step_of_row hr, hi]
  simp only [exec, hlt, if_true]
  exact ⟨_, rfl, rfl⟩

/-- a holder is never blocked at its release (`<-pool`, `<-limitChan`): the channel cannot be empty while
it holds a permit — so the deferred clean-ups always get through. -/
theorem sem_holder_release_enabled (p : Prog) (hp : okProg p = true) (n : Nat) (s : St) (h : Reach p n s)
    (t : Tid) (c : Bool) (r : Row) (hr : p[s.pc t]? = some r) (hi : r.instr = .release) :
    ∃ s', step p s t c = some s' ∧ s'.used + 1 = s.used := by
  have hok := okProg_row hp hr
  simp only [okRow, hi, Bool.and_eq_true, Bool.not_eq_true'] at hok
  have hpos := tracks_pos (reach_inv hp h).tracks t (by rw [H_of_row hr]; exact hok.1)
  rw [step_of_row hr, hi]
  simp only [exec, hpos, if_true]
  exact ⟨_, rfl, by simp only; omega⟩

/-- the sites of go-zero (each program is tied to the source by Tie.lean). -/
def Programs.all : List (String × Prog) :=
  [("syncx.Limit", Programs.limitClient), ("syncx.TimeoutLimit", Programs.timeoutLimitClient),
   ("threading.TaskRunner", Programs.runner), ("rest/handler.MaxConnsHandler", Programs.maxConns),
   ("mr.executeMappers", Programs.executeMappers), ("fx.walkLimited", Programs.walkLimited),
   ("syncx.Guard", Programs.barrierGuard)]

/-- every site obeys the discipline: acquire before the guarded function (and before `go`), release
reachable from BOTH exits of the guarded function (release-in-defer), nothing held at the end. -/
theorem sites_disciplined : ∀ x ∈ Programs.all, okProg x.2 = true := by
  decide +kernel

/-- **C05 for the semaphore sites**: at no reachable instant more than `n` holders inside the guarded region. -/
theorem sites_cap (name : String) (p : Prog) (hx : (name, p) ∈ Programs.all) (n : Nat) (s : St)
    (h : Reach p n s) (l : List Tid) (hl : l.Nodup) (hin : ∀ t ∈ l, inCrit p s t = true) : l.length ≤ n :=
  sem_cap p (sites_disciplined _ hx) n s h l hl hin

/-- **… and no capacity is leaked**, whatever mixture of normal returns and panics ended the holders. -/
theorem sites_no_leak (name : String) (p : Prog) (hx : (name, p) ∈ Programs.all) (n : Nat) (s : St)
    (h : Reach p n s) (hq : ∀ t, idle p s t = true) : s.used = 0 ∧ s.cap = n :=
  sem_no_leak p (sites_disciplined _ hx) n s h hq

/-- the discipline is not vacuous: the same handler with the `Return` after the call instead of in a
`defer` is rejected (a panic in `next.ServeHTTP` would skip it) … -/
theorem no_defer_rejected : okProg Programs.maxConnsNoDefer = false := by decide +kernel

/-- … and really leaks: one request that panics leaves a permit in the channel for ever. -/
theorem no_defer_leaks :
    ∃ s, Reach Programs.maxConnsNoDefer 1 s ∧ (∀ t, idle Programs.maxConnsNoDefer s t = true) ∧ s.used = 1 := by
  -- the witness is the state the schedule ends in; what is said of thread 0 and of the channel is computed
  have run := Option.some_get (x := runSched Programs.maxConnsNoDefer (St.init 1) [(0, false), (0, true)]) rfl
  refine ⟨_, reach_runSched Reach.init _ run.symm, fun t => ?_, rfl⟩
  by_cases ht : t = 0
  · subst ht; rfl
  · have h0 : _ = 0 := runSched_pc_other run.symm t (by simpa using Ne.symm ht)
    simp [idle, h0]

/-- non-vacuity of `sites_cap`: with `n = 2` two threads of the Limit client are inside at once (one came
through `Borrow`, one through `TryBorrow`), a third one is refused, and after a panic and a normal exit the
channel is empty. -/
example :
    (runSched Programs.limitClient (St.init 2)
        [(0, true), (0, false), (0, false), (1, false), (1, false), (2, false), (2, false)]).map
      (fun s => (inCrit Programs.limitClient s 0, inCrit Programs.limitClient s 1, inCrit Programs.limitClient s 2,
                 s.used, s.pc 2))
      = some (true, true, false, 2, 7) := rfl

example :
    (runSched Programs.limitClient (St.init 2)
        [(0, true), (0, false), (0, false), (1, false), (1, false), (0, true), (0, false), (1, false), (1, false)]).map
      (fun s => (idle Programs.limitClient s 0, idle Programs.limitClient s 1, s.used))
      = some (true, true, 0) := rfl

/-- the TaskRunner obeys all three disciplines (so `sem_wait_means_free` applies to it). -/
theorem runner_disciplines :
    okProg Programs.runner = true ∧ okProgWg Programs.runner = true ∧ holdsWithinWg Programs.runner = true := by
  decide +kernel

/-- the wait-group counter is exactly the number of calls between `Add(1)` and `Done()`. -/
theorem runner_wg_counts (n : Nat) (s : St) (h : Reach Programs.runner n s) :
    ∃ ws : List Tid, ws.Nodup ∧ (∀ t, W Programs.runner (s.pc t) = true ↔ t ∈ ws) ∧ ws.length = s.wg :=
  reach_wg runner_disciplines.2.1 h

/-- **General form of `runner_wait_means_idle`.**  For every program that obeys the permit discipline, the
wait-group discipline and "a permit is held only between Add and Done" (release BEFORE Done): whenever the
wait-group count is 0 — i.e. whenever a `Wait` call may return — no permit is out and nobody is inside the
guarded region; any capacity, any number of threads, any schedule, any exits. -/
theorem sem_wait_means_free (p : Prog) (hp : okProg p = true) (hw : okProgWg p = true)
    (hh : holdsWithinWg p = true) (n : Nat) (s : St) (h : Reach p n s) (hz : s.wg = 0) :
    s.used = 0 ∧ ∀ t, inCrit p s t = false := by
  -- nobody is counted, so nobody holds (`wg_zero_none` at `holds`), so nothing is out and nobody is inside
  have hnoH : ∀ t, H p (s.pc t) = false := fun t => by
    unfold H
    split
    next r hr => exact wg_zero_none hw hh h hz hr
    next => rfl
  exact ⟨tracks_zero (reach_inv hp h).tracks hnoH,
    fun t => Bool.eq_false_iff.mpr fun hc => by simpa [hnoH t] using inCrit_holds hp hc⟩

/-- **When `Wait` may return (`wg = 0`), no task is running and every slot is free again** — also after
panics, also with refused `ScheduleImmediately` calls in between. -/
theorem runner_wait_means_idle (n : Nat) (s : St) (h : Reach Programs.runner n s) (hz : s.wg = 0) :
    s.used = 0 ∧ ∀ t, inCrit Programs.runner s t = false :=
  sem_wait_means_free _ runner_disciplines.1 runner_disciplines.2.1 runner_disciplines.2.2 n s h hz

/-- the same for the worker wait-groups of mr and fx: `wg.Wait()` returning means no mapper / walk
function is running (their slot is given back right after `Done`). -/
theorem workers_wait_means_none_running (p : Prog) (hp : p = Programs.executeMappers ∨ p = Programs.walkLimited)
    (n : Nat) (s : St) (h : Reach p n s) (hz : s.wg = 0) (t : Tid) : inCrit p s t = false := by
  rcases hp with rfl | rfl <;> exact wg_zero_not_inCrit (by decide +kernel) (by decide +kernel) h hz t

/-- **`RoutineGroup.Wait` returning means every function started with `Run`/`RunSafe` has ended** (normally
or by panic: `Done` is deferred), for any number of calls in any interleaving. -/
theorem routineGroup_wait_means_done (n : Nat) (s : St) (h : Reach Programs.routineGroup n s) (hz : s.wg = 0)
    (t : Tid) : inCrit Programs.routineGroup s t = false :=
  wg_zero_not_inCrit (by decide +kernel) (by decide +kernel) h hz t

/-- **`WorkerGroup.Start` with `workers = k`**: its loop makes exactly `k` `RunSafe` calls (tied:
`for i < wg.workers`), i.e. only `k` threads of the model ever act — at no instant are more than `k` jobs
running, whatever the interleaving and whichever of them panic. -/
theorem workerGroup_cap (n k : Nat) (s : St) (h : ReachK Programs.routineGroup n k s)
    (l : List Tid) (hl : l.Nodup) (hin : ∀ t ∈ l, inCrit Programs.routineGroup s t = true) : l.length ≤ k := by
  apply nodup_lt_length hl
  intro t ht
  rcases Nat.lt_or_ge t k with hlt | hge
  · exact hlt
  · exfalso
    have h0 := reachK_untouched h t hge
    have := hin t ht
    simp [inCrit, h0, Programs.routineGroup, isUser] at this

/-- … and when its `group.Wait()` returns, all `k` jobs have ended. -/
theorem workerGroup_start_returns_after_all (n k : Nat) (s : St) (h : ReachK Programs.routineGroup n k s)
    (hz : s.wg = 0) (t : Tid) : inCrit Programs.routineGroup s t = false :=
  routineGroup_wait_means_done n s (reachK_reach h) hz t

/-- non-vacuity: three `RunSafe` calls, two jobs running at once, one of them panics, `wg` is 3 then. -/
example :
    (runSched Programs.routineGroup (St.init 1)
        [(0, false), (0, false), (0, false), (0, false), (1, false), (1, false), (1, false), (1, false),
         (2, false), (2, false), (2, false), (0, true)]).map
      (fun s => (inCrit Programs.routineGroup s 0, inCrit Programs.routineGroup s 1, s.wg))
      = some (false, true, 3) := rfl

/-- **`syncx.Barrier.Guard` / `syncx.Guard`: mutual exclusion** (a mutex is a limiter of capacity 1, released
in a `defer`): two callers are never inside `fn` at once, also after panics. -/
theorem barrier_mutual_exclusion (s : St) (h : Reach Programs.barrierGuard 1 s) (t u : Tid)
    (ht : inCrit Programs.barrierGuard s t = true) (hu : inCrit Programs.barrierGuard s u = true) : t = u := by
  refine Decidable.byContradiction fun hne => ?_
  have := sem_cap Programs.barrierGuard (by decide +kernel) 1 s h [t, u] (by simp [hne]) (by
    intro x hx
    simp only [List.mem_cons, List.not_mem_nil, or_false] at hx
    rcases hx with rfl | rfl <;> assumption)
  simp at this

/-- `WithWorkers(k)` never yields a capacity below 1 (so `n ≥ 1` holds for mr/fx whatever is configured),
is the identity from 1 on, and floors everything else to `minWorkers = 1`. -/
theorem effWorkers_spec (k : Int) :
    1 ≤ effWorkers k ∧ (1 ≤ k → effWorkers k = k) ∧ (k ≤ 0 → effWorkers k = 1) := by
  unfold effWorkers
  refine ⟨?_, ?_, ?_⟩ <;> split <;> omega

/-- the REST engine's per-route connection cap: a limit exists iff the middleware is on and
`MaxConns > 0`, and then it is exactly `MaxConns`. -/
theorem engineCap_spec (on : Bool) (m : Int) :
    (engineCap on m = none ↔ (on = false ∨ m ≤ 0)) ∧ (∀ n, engineCap on m = some n → on = true ∧ 0 < m ∧ (n : Int) = m) := by
  unfold engineCap
  constructor
  · cases on <;> simp
  · intro n h
    cases on
    · simp at h
    · simp only [if_true] at h
      split at h
      · cases h
      · injection h with h
        exact ⟨rfl, by omega, by omega⟩

/-- capacity never changes and the channel never holds more than `n`, whatever is called in whatever order. -/
theorem limit_capacity_fixed (n : Nat) (ops : List SemOp) :
    ((Sem.init n).final ops).cap = n ∧ ((Sem.init n).final ops).used ≤ n :=
  ⟨Sem.final_cap _ _, Sem.final_used_le _ (Nat.zero_le _) _⟩

/-- **Over-return is an error and changes nothing**: `Return` on an object with nothing borrowed yields
`ErrLimitReturn`, state (in particular the capacity) unchanged. -/
theorem over_return_is_error (s : Sem) (h : s.used = 0) : s.step .ret = (s, .errReturn) := by
  simp [Sem.step, h]

/-- **Returns never outnumber borrows**: in every prefix of every history of calls on a fresh object, the
successful `Return`s are at most the successful borrows; the difference is what is outstanding. -/
theorem returns_le_borrows (n : Nat) (ops : List SemOp) :
    ((Sem.init n).trace ops).countP isOkReturn ≤ ((Sem.init n).trace ops).countP isOkBorrow
    ∧ ((Sem.init n).final ops).used
        = ((Sem.init n).trace ops).countP isOkBorrow - ((Sem.init n).trace ops).countP isOkReturn := by
  have := Sem.account (Sem.init n) ops
  simp only [Sem.init] at this ⊢
  omega

/-- **Refusal**: on a full object `TryBorrow` answers `false` and `Borrow` blocks; nothing is admitted. -/
theorem refusal (s : Sem) (h : s.used = s.cap) :
    s.step .tryBorrow = (s, .refused) ∧ s.step .borrow = (s, .blocked) := by
  simp [Sem.step, h]

/-- below the cap a request is admitted (the free capacity is really available). -/
theorem admission (s : Sem) (h : s.used < s.cap) :
    (s.step .tryBorrow).2 = .ok ∧ (s.step .borrow).2 = .ok ∧ (s.step .tryBorrow).1.used = s.used + 1 := by
  simp [Sem.step, h]

/-- the sequential monitor of Spec.lean never fires on a run of the model (so an alarm on a trace of the
implementation means the implementation left the model). -/
theorem seq_monitor_sound (n : Nat) (ops : List SemOp) :
    SeqMon.run { cap := n, held := 0 } (((Sem.init n).trace ops).map fun x => evOf x.1 x.2) = true :=
  seqMon_sound_aux (Sem.init n) _ rfl rfl ops

example : ((Sem.init 2).trace [.tryBorrow, .borrow, .tryBorrow, .ret, .ret, .ret]).map (·.2)
    = [.ok, .ok, .refused, .ok, .ok, .errReturn] := by decide

/-- The limit of what a counting channel can report (why `sem_cap` needs the discipline "return only what you
borrowed"): with `n = 1`, A borrows, a caller B that borrowed nothing returns — no error, the channel cannot
tell B's `Return` from A's — and C is admitted while A is still inside.  Over-return is detected exactly when
the channel is empty (`over_return_is_error`, `returns_le_borrows`), not per caller. -/
example : ((Sem.init 1).trace [.tryBorrow, .ret, .tryBorrow]).map (·.2) = [.ok, .ok, .ok] := by decide

/-- **n = 0** (outside "for all capacities n ≥ 1", but the models do not need the bound): with capacity 0 nobody is
ever inside the guarded region of any site, a `TryBorrow` / `ScheduleImmediately` / request is refused, a blocking
acquire blocks, `Return` reports `ErrLimitReturn` — "requests beyond the cap are refused or blocked, never admitted"
with every request beyond the cap.  (`NewPool(0)` panics, `WithWorkers(0)` is floored to 1, `MaxConnsHandler(0)` is
no limiter at all: `tie_pool_conds`, `effWorkers_spec`, `engineCap_spec`.) -/
theorem zero_capacity_admits_nothing :
    (∀ name p, (name, p) ∈ Programs.all → ∀ s, Reach p 0 s → ∀ t, inCrit p s t = false)
    ∧ (Sem.init 0).step .tryBorrow = (Sem.init 0, .refused)
    ∧ (Sem.init 0).step .borrow = (Sem.init 0, .blocked)
    ∧ (Sem.init 0).step .ret = (Sem.init 0, .errReturn) := by
  refine ⟨?_, rfl, rfl, rfl⟩
  intro name p hx s h t
  refine Bool.eq_false_iff.mpr fun hc => ?_
  have := sites_cap name p hx 0 s h [t] (by simp) (by simpa using hc)
  simp at this

/-! `syncx.Pool`.

`PReach limit maxAge s`: `s` is reachable from the empty pool by ANY sequence of `Get`s and `Put`s of any
number of users at any clock readings, where every `Put` gives back a resource its caller got from `Get` and
has not given back yet (the caller contract), and `create` yields fresh resources. -/

/-- **Pool invariant**: `created = |idle| + |in use| ≤ limit`; idle and in-use resources are pairwise
distinct (no resource is both idle and in use, none is listed twice). -/
theorem pool_inv (limit maxAge : Nat) (s : PSys) (h : PReach limit maxAge s) :
    s.pool.created = (s.pool.idle.length : Int) + (s.inUse.length : Int)
    ∧ s.pool.created ≤ (limit : Int)
    ∧ (s.pool.idle.map (·.item) ++ s.inUse.map (·.2)).Nodup :=
  have hi := preach_inv h
  ⟨hi.count, hi.le_limit, hi.alive_nodup⟩

/-- **At most `limit` resources are in use.** -/
theorem pool_cap (limit maxAge : Nat) (s : PSys) (h : PReach limit maxAge s) : s.inUse.length ≤ limit := by
  have hi := preach_inv h
  have h1 := hi.count
  have h2 := hi.le_limit
  omega

/-- **A pooled resource is never held by two users at once.** -/
theorem pool_exclusive (limit maxAge : Nat) (s : PSys) (h : PReach limit maxAge s) (t u : Tid) (r : Nat)
    (ht : (t, r) ∈ s.inUse) (hu : (u, r) ∈ s.inUse) : t = u := by
  have hi := preach_inv h
  have := nodup_map_inj (fun x : Tid × Nat => x.2) s.inUse hi.useND (t, r) (u, r) ht hu rfl
  exact (Prod.mk.inj this).1

/-- … and one user never holds the same resource twice. -/
theorem pool_inUse_nodup (limit maxAge : Nat) (s : PSys) (h : PReach limit maxAge s) : s.inUse.Nodup := by
  have hi := preach_inv h
  exact nodup_of_nodup_map _ _ hi.useND

/-- **Beyond the cap a `Get` waits** (reaches `cond.Wait()`), it creates and hands out nothing. -/
theorem pool_full_waits (limit maxAge : Nat) (s : PSys) (h : PReach limit maxAge s)
    (hfull : s.inUse.length = limit) (now : Nat) : (s.pool.get now).2 = .wait [] := by
  have hi := preach_inv h
  have h1 := hi.count
  have h2 := hi.le_limit
  have hz : s.pool.idle.length = 0 := by omega
  have hnil : s.pool.idle = [] := List.eq_nil_of_length_eq_zero hz
  have hc : ¬ s.pool.created < (s.pool.limit : Int) := by rw [hi.lim]; omega
  simp [Pool.get, hnil, getLoop, hc]

/-- **Below the cap the capacity is available**: `Get` hands out a resource (an idle one, or a fresh one
after discarding expired ones) — in particular after all users have put their resources back. -/
theorem pool_available (limit maxAge : Nat) (s : PSys) (h : PReach limit maxAge s)
    (hlt : s.inUse.length < limit) (now : Nat) : ∃ item fresh d, (s.pool.get now).2 = .got item fresh d := by
  have hi := preach_inv h
  obtain ⟨pre, rest, hl, -, ⟨_, _, _, _, hg⟩ | ⟨_, _, hg⟩ | ⟨rfl, hc, _⟩⟩ := s.pool.get_cases now
  · exact ⟨_, _, _, by rw [hg]⟩
  · exact ⟨_, _, _, by rw [hg]⟩
  · have := hi.count
    rw [hl, hi.lim, List.append_nil] at *
    omega

/-- **`Get` destroys only idle resources whose age exceeds `maxAge`** — never one that is in use — and a
resource it hands out again has not expired. -/
theorem pool_destroys_only_expired_idle (limit maxAge : Nat) (s : PSys) (h : PReach limit maxAge s) (now : Nat) :
    (∀ x ∈ (s.pool.get now).2.destroyed,
        (∃ nd ∈ s.pool.idle, nd.item = x ∧ expired s.pool.maxAge now nd = true) ∧ ∀ t, (t, x) ∉ s.inUse)
    ∧ (∀ item d, (s.pool.get now).2 = .got item false d →
        ∃ nd ∈ s.pool.idle, nd.item = item ∧ expired s.pool.maxAge now nd = false) := by
  have hi := preach_inv h
  obtain ⟨pre, rest, hl, hexp, hcase⟩ := s.pool.get_cases now
  -- in all three outcomes what was destroyed is the expired prefix
  have hd : (s.pool.get now).2.destroyed = pre.map (·.item) := by
    rcases hcase with ⟨_, _, _, _, hg⟩ | ⟨_, _, hg⟩ | ⟨_, _, hg⟩ <;> rw [hg] <;> rfl
  constructor
  · intro x hx
    obtain ⟨nd, hnd, rfl⟩ := List.mem_map.mp (hd ▸ hx)
    have hin : nd ∈ s.pool.idle := hl ▸ List.mem_append_left _ hnd
    exact ⟨⟨nd, hin, rfl, hexp nd hnd⟩, fun t ht => hi.disjoint nd.item (List.mem_map_of_mem hin)
      (List.mem_map_of_mem (f := fun x : Tid × Nat => x.2) ht)⟩
  · intro item d heq
    rcases hcase with ⟨nd, _, rfl, he, hg⟩ | ⟨_, _, hg⟩ | ⟨_, _, hg⟩ <;> rw [hg] at heq <;> cases heq
    exact ⟨nd, hl ▸ by simp, rfl, he⟩

/-- non-vacuity: limit 1, maxAge 10: user 0 gets resource 0 and puts it back at time 5; at time 20 user 1
asks: resource 0 has expired, it is destroyed and a fresh resource 1 is handed out; user 2 has to wait. -/
example :
    ((((PSys.init 1 10).step (.get 0 0)).bind (·.step (.put 0 0 5))).bind (·.step (.get 1 20))).map
      (fun s => (s.inUse, s.pool.created, (s.pool.get 21).2))
      = some ([(1, 1)], 1, .wait []) := rfl

example : ((Pool.init 1 10).put 0 5).get 20 = ({ limit := 1, maxAge := 10, created := 0, idle := [], next := 1 }, .got 0 true [0]) := by
  decide

/-- **A `Get` that has to wait changes nothing** (in a reachable state): it reaches `cond.Wait()` with the pool
exactly as it found it, so the waiting call is a retry of the same `Get` later — `PSys.step` taking a waking
`Get` as a fresh atomic `get` loses no behaviour. -/
theorem pool_wait_changes_nothing (limit maxAge : Nat) (s : PSys) (h : PReach limit maxAge s) (now : Nat)
    (d : List Nat) (hw : (s.pool.get now).2 = .wait d) : (s.pool.get now).1 = s.pool ∧ d = [] := by
  have hi := preach_inv h
  obtain ⟨pre, rest, hl, -, ⟨_, _, _, _, hg⟩ | ⟨_, _, hg⟩ | ⟨rfl, hc, hg⟩⟩ := s.pool.get_cases now
  · rw [hg] at hw; cases hw
  · rw [hg] at hw; cases hw
  · -- `created ≤ limit ≤ created − |pre|`: nothing was idle, so nothing was destroyed and nothing changed
    have := hi.le_limit
    have hpre : pre = [] := List.eq_nil_of_length_eq_zero (by rw [hi.lim] at hc; omega)
    subst hpre
    rw [hg] at hw ⊢
    cases hw
    -- `s.pool` field by field: its idle list is `[]` by `hl`, the other fields are untouched
    obtain ⟨⟨_, _, _, _, _⟩, _⟩ := s
    cases hl
    exact ⟨by simp, rfl⟩

/-- **Decision on a panicking `create` callback**: "after all holders have finished, including by panic, the full
capacity is available again" quantifies over panics INSIDE HOLDERS; a caller whose `create` panics never becomes a
holder — it is outside the quantifier and is a broken caller contract like a foreign `Put`.  What the code does:
`p.created++` has run, the panic leaves through the deferred `Unlock`, nothing decrements — the counter is one higher than the
number of living resources, for ever.  Witness with `limit = 1`: after one panicking create nothing is in
use, nothing is idle, and every later `Get` waits. -/
theorem pool_create_panic_keeps_slot :
    let p1 := ((Pool.init 1 0).getCreatePanics 0).1
    ((Pool.init 1 0).getCreatePanics 0).2.2 = true ∧ p1.created = 1 ∧ p1.idle = [] ∧ (p1.get 1).2 = .wait [] := by
  decide

/-- on the paths that do not call `create` (an idle resource is reused, or the call waits) a panicking
`create` makes no difference. -/
theorem pool_create_panic_only_on_create_path (p : Pool) (now : Nat) (h : (p.getCreatePanics now).2.2 = false) :
    (p.getCreatePanics now).1 = (p.get now).1 ∧ (p.getCreatePanics now).2.1 = (p.get now).2 := by
  unfold Pool.getCreatePanics at h ⊢
  generalize p.get now = r at h ⊢
  obtain ⟨p', res⟩ := r
  cases res with
  | wait d => exact ⟨rfl, rfl⟩
  | got item fresh d =>
    cases fresh with
    | false => exact ⟨rfl, rfl⟩
    | true => simp at h

/-- `k` consecutive `Get` calls whose `create` callback panics. -/
def createPanicsTimes : Nat → Pool → Pool
  | 0, p => p
  | k + 1, p => createPanicsTimes k (p.getCreatePanics 0).1

theorem createPanics_many (limit maxAge next : Nat) (k c : Nat) (h : c + k ≤ limit) :
    createPanicsTimes k { limit := limit, maxAge := maxAge, created := (c : Int), idle := [], next := next }
      = { limit := limit, maxAge := maxAge, created := ((c + k : Nat) : Int), idle := [], next := next } := by
  induction k generalizing c with
  | zero => rfl
  | succ k ih =>
    have hc : (c : Int) < (limit : Int) := by omega
    simp only [createPanicsTimes, Pool.getCreatePanics, Pool.get, getLoop, hc, if_true]
    rw [show (c : Int) + 1 = ((c + 1 : Nat) : Int) by omega, ih (c + 1) (by omega)]
    congr 2
    omega

/-- **`pool_create_panic_keeps_slot` for every limit**: after `limit` calls whose `create` panics, on a fresh pool, the
counter is at the limit with NO resource alive, and the next `Get` waits for ever although nothing is in use.  Whoever
wants the property to cover this case needs a deferred decrement on the create path (robustness proposal, not claimed
as a defect). -/
theorem pool_create_panics_exhaust (limit maxAge : Nat) :
    (createPanicsTimes limit (Pool.init limit maxAge)).created = limit
    ∧ (createPanicsTimes limit (Pool.init limit maxAge)).idle = []
    ∧ ((createPanicsTimes limit (Pool.init limit maxAge)).get 0).2 = .wait [] := by
  have h := createPanics_many limit maxAge 0 limit 0 (by omega)
  simp only [Nat.zero_add] at h
  have h0 : (Pool.init limit maxAge) = { limit := limit, maxAge := maxAge, created := ((0 : Nat) : Int), idle := [], next := 0 } := rfl
  rw [h0, h]
  refine ⟨rfl, rfl, ?_⟩
  simp [Pool.get, getLoop]

/-- **A panicking `destroy` leaks nothing**: `Pool.Get` decrements `created` and unlinks the node BEFORE it calls
`destroy`, so when the callback panics (the panic leaves `Get` through the deferred `Unlock`) the counter still is
"idle + in use" (`k` = resources in use), the limit is unchanged, the resource dropped is one that was idle and
expired, and nothing is handed out — whatever the state and the clock.  (Contrast `pool_create_panic_keeps_slot`:
a panicking `create` does leave the counter one too high.) -/
theorem pool_destroy_panic_keeps_count (p : Pool) (now : Nat) (k : Int) (h : p.created = (p.idle.length : Int) + k) :
    ((p.getDestroyPanics now).1.created = (((p.getDestroyPanics now).1.idle.length : Nat) : Int) + k)
    ∧ (p.getDestroyPanics now).1.limit = p.limit
    ∧ (∀ x, (p.getDestroyPanics now).2 = some x →
        ∃ nd rest, p.idle = nd :: rest ∧ nd.item = x ∧ expired p.maxAge now nd = true
          ∧ (p.getDestroyPanics now).1.idle = rest)
    ∧ ((p.getDestroyPanics now).2 = none → (p.getDestroyPanics now).1 = p) := by
  -- either nothing happens, or the expired head is unlinked and uncounted
  have hc : p.getDestroyPanics now = (p, none) ∨ ∃ nd rest, p.idle = nd :: rest ∧ expired p.maxAge now nd = true
      ∧ p.getDestroyPanics now = ({ p with created := p.created - 1, idle := rest }, some nd.item) := by
    unfold Pool.getDestroyPanics
    split
    · split
      · exact .inr ⟨_, _, ‹_›, ‹_›, rfl⟩
      · exact .inl rfl
    · exact .inl rfl
  rcases hc with hc | ⟨nd, rest, hi, he, hc⟩ <;> rw [hc]
  · exact ⟨h, rfl, nofun, fun _ => rfl⟩
  · refine ⟨?_, rfl, fun x hx => ⟨nd, rest, hi, Option.some.inj hx, he, rfl⟩, nofun⟩
    rw [hi, List.length_cons] at h
    simp only
    omega

/-- non-vacuity: limit 2, maxAge 10, resources 0 (in use) and 1 (idle since t=0); at t=11 the destroy of 1 panics:
`created` goes from 2 to 1 = 0 idle + 1 in use. -/
example :
    (({ limit := 2, maxAge := 10, created := 2, idle := [⟨1, 0⟩], next := 2 } : Pool).getDestroyPanics 11)
      = ({ limit := 2, maxAge := 10, created := 1, idle := [], next := 2 }, some 1) := rfl

/-- For every disciplined site program, capacity, number of threads and schedule: the history of
enter/exit events the model produces is accepted by the executable monitor `HistMon` used on the
implementation's histories (no cap alarm at any prefix), and if all threads have finished the final check
(nobody inside, measured free capacity `n`) passes too. -/
theorem hist_monitor_sound (p : Prog) (hp : okProg p = true) (n : Nat) (sched : List (Tid × Bool)) :
    ∃ m', HistMon.feed { cap := n, inside := [] } (histOf p (St.init n) sched).1 = some m' ∧
      ((∀ t, idle p (histOf p (St.init n) sched).2 t = true) →
        m'.final ((histOf p (St.init n) sched).2.cap - (histOf p (St.init n) sched).2.used) = .ok) := by
  -- nobody is inside where nobody holds: at the start, and at a quiescent end
  have hout : ∀ {s : St} {t : Tid}, H p (s.pc t) = false → ¬ userAt p (s.pc t) = true :=
    fun hH hc => by simp [inCrit_holds hp ((inCrit_eq p _ _).trans hc)] at hH
  have hm0 : TracksBy (userAt p) (St.init n).pc [] :=
    ⟨List.nodup_nil, fun t => ⟨fun hc => absurd hc (hout (okProg_zero hp)), fun h => nomatch h⟩⟩
  obtain ⟨m', hf, hcap, hrel, hreach⟩ := feed_sound hp sched Reach.init { cap := n, inside := [] } rfl hm0
  refine ⟨m', hf, fun hq => ?_⟩
  have hnl := sem_no_leak p hp n _ hreach hq
  have hempty : m'.inside = [] :=
    List.eq_nil_iff_forall_not_mem.mpr fun a ha => hout (idle_not_holds hp (hq a)) ((hrel.2 a).mpr ha)
  simp [HistMon.final, hempty, hnl.1, hnl.2, hcap]

/-- non-vacuity: the history of the schedule used above (two holders inside at once with `n = 2`). -/
example : (histOf Programs.limitClient (St.init 2)
      [(0, true), (0, false), (0, false), (1, false), (1, false), (2, false), (2, false), (0, true), (1, false)]).1
    = [.enter 0, .enter 1, .exit 0, .exit 1] := rfl

end GoZero.C05
