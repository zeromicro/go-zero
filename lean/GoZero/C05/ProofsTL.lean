/-
C05 — the explicit TimeoutLimit + Cond model (ModelTL) is SIMULATED by the generic, source-tied site program
`Programs.timeoutLimitClient`: every action of ModelTL is a (possibly empty) sequence of steps of the site
program under the location → row map `Loc.row`.  The invariant of ModelTL is then read off the simulation: a
reachable state is the image of a reachable state of the site program, whose permit invariant (`reach_inv`) carries
over along `Loc.row`.
-/
import GoZero.C05.ModelTL
import GoZero.C05.Proofs
namespace GoZero.C05

abbrev TLP : Prog := Programs.timeoutLimitClient

/-- the simulation relation: same channel, every caller stands at the row of its location, a caller that saw
`ErrLimitReturn` has its error flag set. -/
structure SimR (s : TLSt) (σ : St) : Prop where
  cap  : σ.cap = s.cap
  used : σ.used = s.used
  pc   : ∀ t, σ.pc t = (s.pc t).row
  err  : ∀ t, s.pc t = .errReturn → σ.err t = true

theorem tlp_ok : okProg TLP = true := by decide +kernel

theorem holds_row (l : Loc) : H TLP l.row = holdsL l := by
  cases l <;> rfl

theorem holdsL_iff (l : Loc) : holdsL l = true ↔ l = .holding := by
  cases l <;> simp [holdsL]

inductive Steps (p : Prog) : St → St → Prop where
  | refl {σ : St} : Steps p σ σ
  | head {σ σ1 σ2 : St} (t : Tid) (c : Bool) : step p σ t c = some σ1 → Steps p σ1 σ2 → Steps p σ σ2

theorem reach_steps {p : Prog} {n : Nat} {σ σ' : St} (h : Reach p n σ) (hs : Steps p σ σ') : Reach p n σ' := by
  induction hs with
  | refl => exact h
  | head t c h1 _ ih => exact ih (Reach.step t c h h1)

theorem Steps.trans {p : Prog} {a b c : St} (h1 : Steps p a b) (h2 : Steps p b c) : Steps p a c := by
  induction h1 with
  | refl => exact h2
  | head t ch hs _ ih => exact Steps.head t ch hs (ih h2)

/-- thread `t` moved to row `k`, channel length `u`, error flag of `t` raised iff `e`: the states one caller passes
through on its way between two rows that are images of ModelTL locations. -/
def mv (σ : St) (t : Tid) (k : Nat) (u : Nat) (e : Bool) : St :=
  { σ with used := u, pc := upd σ.pc t k, err := if e then upd σ.err t true else σ.err }

theorem mv_self (σ : St) (t : Tid) : mv σ t (σ.pc t) σ.used false = σ := by
  have : upd σ.pc t (σ.pc t) = σ.pc := funext fun u => by simp only [upd]; split <;> simp [*]
  simp [mv, this]

/-! `sK`: the step of the caller standing at row `K` of `Programs.timeoutLimitClient` (`_ok` / `_full` / `_empty`:
the two outcomes of a try); no action of ModelTL starts at rows 10 and 12. -/

section
variable {σ : St} {t : Tid} {u : Nat} {e c : Bool}

theorem step_mv (k : Nat) (r : Row) (hr : TLP[k]? = some r) :
    step TLP (mv σ t k u e) t c = exec r.instr (mv σ t k u e) t c := by
  refine step_of_row ?_ c
  rw [show (mv σ t k u e).pc t = k from upd_same ..]
  exact hr

theorem s0_ok (h : u < σ.cap) : step TLP (mv σ t 0 u e) t c = some (mv σ t 1 (u + 1) e) := by
  rw [step_mv 0 _ rfl]; simp [exec, mv, upd_upd, upd_same, h]
theorem s0_full (h : ¬ u < σ.cap) : step TLP (mv σ t 0 u e) t c = some (mv σ t 2 u e) := by
  rw [step_mv 0 _ rfl]; simp [exec, mv, upd_upd, h]
theorem s1 : step TLP (mv σ t 1 u e) t c = some (mv σ t 7 u e) := by
  rw [step_mv 1 _ rfl]; simp [exec, mv, upd_upd]
theorem s2 : step TLP (mv σ t 2 u e) t c = some (mv σ t (if c then 3 else 5) u e) := by
  rw [step_mv 2 _ rfl]; simp [exec, mv, upd_upd]
theorem s3_ok (h : u < σ.cap) : step TLP (mv σ t 3 u e) t c = some (mv σ t 4 (u + 1) e) := by
  rw [step_mv 3 _ rfl]; simp [exec, mv, upd_upd, upd_same, h]
theorem s3_full (h : ¬ u < σ.cap) : step TLP (mv σ t 3 u e) t c = some (mv σ t 5 u e) := by
  rw [step_mv 3 _ rfl]; simp [exec, mv, upd_upd, h]
theorem s4 : step TLP (mv σ t 4 u e) t c = some (mv σ t 7 u e) := by
  rw [step_mv 4 _ rfl]; simp [exec, mv, upd_upd]
theorem s5 : step TLP (mv σ t 5 u e) t c = some (mv σ t (if c then 6 else 2) u e) := by
  rw [step_mv 5 _ rfl]; simp [exec, mv, upd_upd]
theorem s6 : step TLP (mv σ t 6 u e) t c = some (mv σ t 12 u e) := by
  rw [step_mv 6 _ rfl]; simp [exec, mv, upd_upd]
theorem s7 : step TLP (mv σ t 7 u e) t c = some (mv σ t 8 u e) := by
  rw [step_mv 7 _ rfl]; cases c <;> simp [exec, mv, upd_upd, upd_same]
theorem s8_ok (h : 0 < u) : step TLP (mv σ t 8 u e) t c = some (mv σ t 9 (u - 1) e) := by
  rw [step_mv 8 _ rfl]; simp [exec, mv, upd_upd, upd_same, h]
theorem s8_empty (h : u = 0) : step TLP (mv σ t 8 u e) t c = some (mv σ t 9 u true) := by
  rw [step_mv 8 _ rfl]; cases e <;> simp [exec, mv, upd_upd, upd_same, h]
theorem s9 : step TLP (mv σ t 9 u e) t c = some (mv σ t (if c then 10 else 11) u e) := by
  rw [step_mv 9 _ rfl]; simp [exec, mv, upd_upd]
theorem s11 : step TLP (mv σ t 11 u e) t c = some (mv σ t 12 u e) := by
  rw [step_mv 11 _ rfl]; simp [exec, mv, upd_upd, upd_same]

end

/-- the usual case of the simulation: caller `t`, at the row of its location `q` with the channel as it is, walks a
path of the site program to the row of its new location `q'`, with channel length `u` (and its error flag raised if
`q'` is `errReturn`); the relation holds again. -/
theorem sim_via {s : TLSt} {σ : St} (hR : SimR s σ) {t : Tid} {q : Loc} (h0 : s.pc t = q) {u : Nat} {e : Bool}
    (q' : Loc) (hp : Steps TLP (mv σ t q.row s.used false) (mv σ t q'.row u e))
    (he : q' = .errReturn → e = true := by simp) :
    ∃ σ', Steps TLP σ σ' ∧ SimR { s with used := u, pc := upd s.pc t q' } σ' := by
  rw [← h0, ← hR.pc, ← hR.used, mv_self] at hp
  refine ⟨_, hp, hR.cap, rfl, fun x => ?_, fun x hx => ?_⟩
  · by_cases hx : x = t
    · subst hx; simp [mv, upd]
    · simp [mv, upd, hx, hR.pc]
  · by_cases hxt : x = t
    · subst hxt
      simp only [upd, if_true] at hx
      simp [mv, upd, he hx]
    · simp only [upd, hxt, if_false] at hx
      have := hR.err x hx
      cases e <;> simp [mv, upd, hxt, this]

/-- **Simulation step**: every action of the explicit TimeoutLimit + Cond model is matched by steps of the
source-tied site program (two steps for an admitted `TryBorrow`, none for `park`, one per goroutine for a delivered
Signal, the timed-out path for a refused stand-alone `TryBorrow`, …). -/
theorem sim_step {s s' : TLSt} {a : TLAct} {σ : St} (hR : SimR s σ) (hs : TLStep s a s') :
    ∃ σ', Steps TLP σ σ' ∧ SimR s' σ' := by
  have free : s.used < s.cap → s.used < σ.cap := fun h => hR.cap ▸ h
  have full : ¬ s.used < s.cap → ¬ s.used < σ.cap := fun h => hR.cap ▸ h
  cases hs with
  | @borrowOk t h0 h | @tryOk t h0 h =>
    exact sim_via hR h0 .holding (.head t false (s0_ok (free h)) (.head t false s1 .refl))
  | @borrowFull t h0 h =>
    exact sim_via hR h0 .preWait (.head t false (s0_full (full h)) .refl)
  | @tryFull t h0 h =>
    -- a refused stand-alone TryBorrow: the site program's refusal path (full, not signalled, no time left)
    exact sim_via hR h0 .refused
      (.head t false (s0_full (full h)) (.head t false s2 (.head t true s5 (.head t false s6 .refl))))
  | @park t h0 =>
    -- entering the `select` is not a step of the site program: same row
    exact sim_via hR h0 .waiting .refl
  | @timer t h0 =>
    exact sim_via hR h0 .timedOut (.head t false s2 (.head t true s5 .refl))
  | @deliver u t left hu ht =>
    -- the signaller goes on to the end, then the receiver (still at its `select`) to its retry
    have hut : t ≠ u := by intro h; subst h; rw [hu] at ht; cases ht
    obtain ⟨σ1, h1, hR1⟩ := sim_via hR hu .done (.head u false s11 .refl)
    have ht1 : upd s.pc u .done t = .waiting := by simp [upd, hut, ht]
    obtain ⟨σ2, h2, hR2⟩ := sim_via hR1 ht1 (.tryAgain left) (.head t true s2 .refl)
    exact ⟨σ2, h1.trans h2, hR2⟩
  | @signalLost u hu _ =>
    exact sim_via hR hu .done (.head u false s11 .refl)
  | @retryOk t _ h0 h =>
    exact sim_via hR h0 .holding (.head t false (s3_ok (free h)) (.head t false s4 .refl))
  | @retryWaitAgain t h0 h =>
    exact sim_via hR h0 .preWait (.head t false (s3_full (full h)) (.head t false s5 .refl))
  | @retryTimedOut t h0 h =>
    exact sim_via hR h0 .timedOut (.head t false (s3_full (full h)) (.head t true s5 .refl))
  | @leaveOk t h0 h =>
    exact sim_via hR h0 .signal (.head t false s7 (.head t false (s8_ok h) (.head t false s9 .refl)))
  | @leaveErr t h0 h =>
    exact sim_via hR h0 .errReturn (.head t false s7 (.head t false (s8_empty h) (.head t true s9 .refl)))

/-- every reachable state of the explicit model is the image of a reachable state of the site program. -/
theorem sim_reach {n : Nat} {s : TLSt} (h : TLReach n s) : ∃ σ, Reach TLP n σ ∧ SimR s σ := by
  induction h with
  | init => exact ⟨_, Reach.init, rfl, rfl, fun _ => rfl, fun t h => by simp [TLSt.init] at h⟩
  | step a _ hs ih =>
    obtain ⟨σ, hr, hR⟩ := ih
    obtain ⟨σ', hst, hR'⟩ := sim_step hR hs
    exact ⟨σ', reach_steps hr hst, hR'⟩

structure TLInv (n : Nat) (s : TLSt) : Prop where
  tracks : Tracks holdsL s.pc s.used
  le_cap : s.used ≤ s.cap
  cap_eq : s.cap = n
  noerr  : ∀ t, s.pc t ≠ .errReturn

theorem tlreach_inv {n : Nat} {s : TLSt} (h : TLReach n s) : TLInv n s := by
  obtain ⟨σ, hr, hR⟩ := sim_reach h
  have hi := reach_inv tlp_ok hr
  refine ⟨tracks_congr (hR.used ▸ hi.tracks) (fun t => by rw [hR.pc, holds_row]), hR.used ▸ hR.cap ▸ hi.le_cap,
    by rw [← hR.cap, reach_cap hr], fun t he => ?_⟩
  have := hi.noerr t
  rw [hR.err t he] at this
  cases this

/-- run a list of actions (to exhibit concrete reachable states in examples). -/
inductive TLRun : TLSt → List TLAct → TLSt → Prop where
  | nil {s : TLSt} : TLRun s [] s
  | cons {s s1 s2 : TLSt} {a : TLAct} {l : List TLAct} : TLStep s a s1 → TLRun s1 l s2 → TLRun s (a :: l) s2

theorem tlreach_run {n : Nat} {s s' : TLSt} {l : List TLAct} (h : TLReach n s) (hr : TLRun s l s') :
    TLReach n s' := by
  induction hr with
  | nil => exact h
  | cons hs _ ih => exact ih (TLReach.step _ h hs)

end GoZero.C05
