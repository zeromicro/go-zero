/-
C05 — helper lemmas about the limiting object alone (any caller, no contract): accounting of borrows and
returns over arbitrary operation sequences, and soundness of the sequential monitor.

`Sem.step` and the `cap` / `used` fields of `St` under `exec` (Model.lean) write the same channel down twice, once per
call and once per thread step; no theorem relates the two.  Clause 4 of the property is stated on `Sem`, clauses 1 and 3
on `St`; the driver runs traces of the implementation against both.
-/
import GoZero.C05.Spec
namespace GoZero.C05

/-- the (operation, observation) pairs of a sequential run. -/
def Sem.trace (s : Sem) : List SemOp → List (SemOp × SemObs)
  | [] => []
  | op :: ops => (op, (s.step op).2) :: Sem.trace (s.step op).1 ops

def Sem.final (s : Sem) : List SemOp → Sem
  | [] => s
  | op :: ops => Sem.final (s.step op).1 ops

def isOkBorrow : SemOp × SemObs → Bool
  | (.borrow, .ok) => true
  | (.tryBorrow, .ok) => true
  | _ => false

def isOkReturn : SemOp × SemObs → Bool
  | (.ret, .ok) => true
  | (.recv, .ok) => true
  | _ => false

theorem Sem.step_cap (s : Sem) (op : SemOp) : (s.step op).1.cap = s.cap := by
  cases op <;> simp only [Sem.step] <;> split <;> rfl

theorem Sem.step_used_le (s : Sem) (h : s.used ≤ s.cap) (op : SemOp) : (s.step op).1.used ≤ (s.step op).1.cap := by
  cases op <;> simp only [Sem.step] <;> split <;> simp only <;> omega

theorem Sem.final_cap (s : Sem) (ops : List SemOp) : (s.final ops).cap = s.cap := by
  induction ops generalizing s with
  | nil => rfl
  | cons op ops ih => simp only [Sem.final]; rw [ih, Sem.step_cap]

theorem Sem.final_used_le (s : Sem) (h : s.used ≤ s.cap) (ops : List SemOp) : (s.final ops).used ≤ s.cap := by
  induction ops generalizing s with
  | nil => exact h
  | cons op ops ih =>
    simp only [Sem.final]
    have := ih (s.step op).1 (Sem.step_used_le s h op)
    rwa [Sem.step_cap] at this

theorem Sem.step_account (s : Sem) (op : SemOp) :
    (s.step op).1.used + (if isOkReturn (op, (s.step op).2) then 1 else 0)
      = s.used + (if isOkBorrow (op, (s.step op).2) then 1 else 0) := by
  cases op <;> simp only [Sem.step] <;> split <;> simp [isOkReturn, isOkBorrow] <;> omega

theorem Sem.account (s : Sem) (ops : List SemOp) :
    (s.final ops).used + ((s.trace ops).countP isOkReturn) = s.used + ((s.trace ops).countP isOkBorrow) := by
  induction ops generalizing s with
  | nil => simp [Sem.final, Sem.trace]
  | cons op ops ih =>
    simp only [Sem.final, Sem.trace, List.countP_cons]
    have h1 := ih (s.step op).1
    have h2 := Sem.step_account s op
    omega

theorem Sem.trace_append (s : Sem) (a b : List SemOp) :
    s.trace (a ++ b) = s.trace a ++ (s.final a).trace b := by
  induction a generalizing s with
  | nil => rfl
  | cons op a ih => simp only [List.cons_append, Sem.trace, Sem.final, ih]

def SeqMon.run (m : SeqMon) : List SeqEv → Bool
  | [] => true
  | e :: es => (m.check e).isNone && SeqMon.run (m.step e) es

theorem seqMon_step (s : Sem) (m : SeqMon) (hc : m.cap = s.cap) (hh : m.held = s.used) (op : SemOp) :
    (m.check (evOf op (s.step op).2)).isNone = true
      ∧ (m.step (evOf op (s.step op).2)).cap = s.cap ∧ (m.step (evOf op (s.step op).2)).held = (s.step op).1.used := by
  cases op <;> simp only [Sem.step] <;> split <;> simp [evOf, SeqMon.check, SeqMon.step, hc, hh] <;> omega

theorem seqMon_sound_aux (s : Sem) (m : SeqMon) (hc : m.cap = s.cap) (hh : m.held = s.used)
    (ops : List SemOp) : m.run ((s.trace ops).map fun x => evOf x.1 x.2) = true := by
  induction ops generalizing s m with
  | nil => rfl
  | cons op ops ih =>
    obtain ⟨h1, h2, h3⟩ := seqMon_step s m hc hh op
    simp only [Sem.trace, List.map_cons, SeqMon.run, Bool.and_eq_true]
    exact ⟨h1, ih _ _ (h2.trans (Sem.step_cap s op).symm) h3⟩

end GoZero.C05
