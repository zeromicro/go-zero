/- C05 — invariant of the WorkerGroup.Start model. -/
import GoZero.C05.ModelWG
import GoZero.C05.Proofs
namespace GoZero.C05

/-- `tracks`: the wait-group counter is the number of running goroutines.  `below` / `fresh`: the goroutines spawned so
far are exactly those with an index below the loop variable, so a running one has index `< i ≤ w` (`ile`, whose second
disjunct is for negative `workers`, where `i` stays 0): the cap.  `exited` / `ret`: what `Start` knows after its loop
(`¬ i < w`) and after `Wait` (counter 0, hence nobody running). -/
structure WGInv (w : Int) (s : WGSt) : Prop where
  wk      : s.workers = w
  tracks  : Tracks isRunning s.job s.wg
  inn     : 0 ≤ s.i
  ile     : s.i ≤ w ∨ s.i = 0
  below   : ∀ j : Nat, (j : Int) < s.i → s.job j ≠ .notStarted
  fresh   : ∀ j : Nat, s.i ≤ (j : Int) → s.job j = .notStarted
  exited  : s.start ≠ .loop → ¬ s.i < w
  ret     : s.start = .returned → s.wg = 0

theorem wginv_init (w : Int) : WGInv w (WGSt.init w) := by
  refine ⟨rfl, ⟨[], List.nodup_nil, ?_, rfl⟩, Int.le_refl _, Or.inr rfl, ?_, ?_, ?_, ?_⟩
  · intro t; simp [WGSt.init, isRunning]
  · intro j hj; simp only [WGSt.init] at hj; omega
  · intro j _; rfl
  · intro h; simp [WGSt.init] at h
  · intro _; rfl

theorem wginv_step {w : Int} {s s' : WGSt} (hi : WGInv w s) (hs : WGStep s s') : WGInv w s' := by
  obtain ⟨hw, htr, hnn, hle, hbelow, hfresh, hex, hret⟩ := hi
  cases hs with
  | spawn hl ht =>
    simp only [wgLoopTest, decide_eq_true_eq, hw] at ht
    refine ⟨hw, tracks_gain htr _ _ (by rw [hfresh _ (by omega)]; rfl) rfl, by simp only; omega,
      .inl (by simp only; omega), fun j hj => ?_, fun j hj => ?_, fun h => absurd hl h, fun h => by simp [hl] at h⟩
    · by_cases hji : j = s.i.toNat
      · simp [hji, upd]
      · simp only [upd, hji, if_false]; exact hbelow j (by simp only at hj; omega)
    · have hji : j ≠ s.i.toNat := fun h => by simp only at hj; omega
      simp only [upd, hji, if_false]; exact hfresh j (by simp only at hj; omega)
  | loopExit hl ht =>
    simp only [wgLoopTest, decide_eq_false_iff_not, hw] at ht
    exact ⟨hw, htr, hnn, hle, hbelow, hfresh, fun _ => ht, fun h => by cases h⟩
  | jobEnd j hj =>
    refine ⟨hw, tracks_lose htr j JLoc.ended (by rw [hj]; rfl) rfl, hnn, hle, fun k hk => ?_, fun k hk => ?_, hex,
      fun h => by have := hret h; simp only; omega⟩
    · by_cases hkj : k = j
      · simp [hkj, upd]
      · simp only [upd, hkj, if_false]; exact hbelow k hk
    · have hkj : k ≠ j := fun h => by simp [← h, hfresh k hk] at hj
      simp only [upd, hkj, if_false]; exact hfresh k hk
  | waitReturns hl hz =>
    exact ⟨hw, htr, hnn, hle, hbelow, hfresh, fun _ => hex (by rw [hl]; simp), fun _ => hz⟩

theorem wgreach_inv {w : Int} {s : WGSt} (h : WGReach w s) : WGInv w s := by
  induction h with
  | init => exact wginv_init w
  | step _ hs ih => exact wginv_step ih hs

end GoZero.C05
