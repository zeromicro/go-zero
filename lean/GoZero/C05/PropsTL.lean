/-
C05 — property theorems for `syncx.TimeoutLimit` with the condition variable modelled explicitly
(ModelTL.lean): every capacity `n`, unboundedly many callers, every interleaving of TryBorrow / park /
timer / Signal delivery / retry / Return, every placement of the timer relative to the Signal; then `syncx.Cond` by
itself (ModelCond.lean): Wait / WaitWithTimeout / Signal.  ModelCond and ModelTL write the same rendezvous (`CStep.toTimed
/ lost / timer`, `TLStep.deliver / signalLost / timer`) down twice; no theorem links the two.

ModelTL REFINES the generic, source-tied site program (`tl_refines_site_program`): the invariant behind these
theorems is the one of every disciplined site program, carried over along `Loc.row` (ProofsTL.lean).
(TimeoutLimit has no wait group: `sem_wait_means_free` has no counterpart here.)
-/
import GoZero.C05.ProofsTL
import GoZero.C05.ModelCond
namespace GoZero.C05

/-- **The cap** for TimeoutLimit with real wake-ups: at most `n` callers are inside the guarded region. -/
theorem tl_cap (n : Nat) (s : TLSt) (h : TLReach n s) (l : List Tid) (hl : l.Nodup)
    (hin : ∀ t ∈ l, s.pc t = .holding) : l.length ≤ n := by
  have hi := tlreach_inv h
  have := tracks_bound hi.tracks l hl (fun t ht => by rw [hin t ht]; rfl)
  have := hi.le_cap
  have := hi.cap_eq
  omega

/-- the channel length is exactly the number of callers inside (no permit is granted twice, none is lost). -/
theorem tl_used_counts_holders (n : Nat) (s : TLSt) (h : TLReach n s) :
    s.used ≤ n ∧ ∃ hs : List Tid, hs.Nodup ∧ (∀ t, s.pc t = .holding ↔ t ∈ hs) ∧ hs.length = s.used := by
  have hi := tlreach_inv h
  refine ⟨by have := hi.le_cap; have := hi.cap_eq; omega, ?_⟩
  obtain ⟨hs, hnd, hm, hl⟩ := hi.tracks
  exact ⟨hs, hnd, fun t => (holdsL_iff _).symm.trans (hm t), hl⟩

/-- **No leak, also with timeouts**: as soon as nobody is inside the guarded region the full capacity is
free — whatever the other callers are doing (waiting, timed out, about to signal, refused). -/
theorem tl_no_leak (n : Nat) (s : TLSt) (h : TLReach n s) (hq : ∀ t, s.pc t ≠ .holding) :
    s.used = 0 ∧ s.cap = n := by
  have hi := tlreach_inv h
  exact ⟨tracks_zero hi.tracks fun t => Bool.eq_false_iff.mpr fun hc => hq t ((holdsL_iff _).mp hc), hi.cap_eq⟩

/-- a caller that returns only what it borrowed never gets `ErrLimitReturn` from `TimeoutLimit.Return`. -/
theorem tl_no_spurious_error (n : Nat) (s : TLSt) (h : TLReach n s) (t : Tid) : s.pc t ≠ .errReturn :=
  (tlreach_inv h).noerr t

/-- **Admission only below the cap**: whenever a caller gets in (first TryBorrow or the retry after a
wake-up), a permit was free and exactly one is taken. -/
theorem tl_admission {s s' : TLSt} {a : TLAct} (hs : TLStep s a s') (t : Tid)
    (h0 : s.pc t ≠ .holding) (h1 : s'.pc t = .holding) : s.used < s.cap ∧ s'.used = s.used + 1 := by
  -- only the three admitting steps write `holding`
  cases hs with
  | borrowOk _ h | tryOk _ h | retryOk _ h => exact ⟨h, rfl⟩
  | deliver => exact absurd (upd_eq_of_ne (upd_eq_of_ne h1 (by simp)) (by simp)) h0
  | _ => exact absurd (upd_eq_of_ne h1 (by simp)) h0

/-- **A timed-out borrower holds nothing**: the step into `ErrTimeout` changes neither the channel nor the
capacity, and the caller did not own a permit before it. -/
theorem tl_timeout_takes_nothing {s s' : TLSt} {a : TLAct} (hs : TLStep s a s') (t : Tid)
    (h0 : s.pc t ≠ .timedOut) (h1 : s'.pc t = .timedOut) :
    s'.used = s.used ∧ s'.cap = s.cap ∧ holdsL (s.pc t) = false ∧ holdsL (s'.pc t) = false := by
  -- only the timer and a retry without time left write `timedOut`, to the actor, who was parked or retrying
  have key : s'.used = s.used ∧ holdsL (s.pc t) = false := by
    cases hs with
    | @timer u hu | @retryTimedOut u hu =>
      refine ⟨rfl, ?_⟩
      by_cases htu : t = u
      · rw [htu, hu]; rfl
      · exact absurd (by simpa [upd, htu] using h1) h0
    | deliver => exact absurd (upd_eq_of_ne (upd_eq_of_ne h1 (by simp)) (by simp)) h0
    | _ => exact absurd (upd_eq_of_ne h1 (by simp)) h0
  exact ⟨key.1, by cases hs <;> rfl, key.2, by rw [h1]; rfl⟩

/-- **A woken caller is admitted iff a permit is free** at its retry; otherwise it goes back to waiting or
times out, and the channel is untouched. -/
theorem tl_retry {s s' : TLSt} {t : Tid} (hs : TLStep s (.retry t) s') :
    (s.used < s.cap → s'.pc t = .holding ∧ s'.used = s.used + 1) ∧
    (¬ s.used < s.cap → s'.pc t ≠ .holding ∧ s'.used = s.used) := by
  cases hs with
  | retryOk _ hlt => exact ⟨fun _ => ⟨by simp [upd], rfl⟩, fun h => absurd hlt h⟩
  | retryWaitAgain _ hn => exact ⟨fun h => absurd h hn, fun _ => ⟨by simp [upd], rfl⟩⟩
  | retryTimedOut _ hn => exact ⟨fun h => absurd h hn, fun _ => ⟨by simp [upd], rfl⟩⟩

/-- **`Return` frees exactly one permit** and leaves the caller at its `Signal`. -/
theorem tl_return_frees_one (n : Nat) (s s' : TLSt) (h : TLReach n s) (t : Tid) (hs : TLStep s (.leave t) s') :
    s'.used + 1 = s.used ∧ s'.pc t = .signal := by
  have hi := tlreach_inv h
  cases hs with
  | leaveOk _ hpos => exact ⟨by simp only; omega, by simp [upd]⟩
  | leaveErr h0 hz =>
    exfalso
    have := tracks_pos hi.tracks t (by rw [h0]; rfl)
    omega

/-- **One step moves at most one other goroutine, and only a `Signal` does**: if the location of a
goroutine other than the acting one changes, the action is the delivery of the actor's `Signal` to exactly
that goroutine, which was parked and now retries.  (So a `Return` wakes at most one waiter.) -/
theorem tl_step_moves_at_most_one_other {s s' : TLSt} {a : TLAct} (hs : TLStep s a s') (t : Tid)
    (hne : t ≠ a.actor) (hch : s'.pc t ≠ s.pc t) :
    s.pc a.actor = .signal ∧ s.pc t = .waiting ∧ ∃ left, a = .deliver a.actor t left ∧ s'.pc t = .tryAgain left := by
  cases hs with
  | @deliver u w left hu hw =>
    simp only [TLAct.actor] at hne ⊢
    by_cases htw : t = w
    · subst htw
      exact ⟨hu, hw, left, rfl, by simp [upd]⟩
    · exfalso; apply hch; simp [upd, htw, hne]
  | _ => exfalso; apply hch; simp only [TLAct.actor] at hne; simp [upd, hne]

/-- uniqueness form: two goroutines other than the actor cannot both be moved by one step. -/
theorem tl_wakes_at_most_one {s s' : TLSt} {a : TLAct} (hs : TLStep s a s') (t1 t2 : Tid)
    (h1 : t1 ≠ a.actor) (h2 : t2 ≠ a.actor) (c1 : s'.pc t1 ≠ s.pc t1) (c2 : s'.pc t2 ≠ s.pc t2) : t1 = t2 := by
  obtain ⟨_, _, l1, e1, _⟩ := tl_step_moves_at_most_one_other hs t1 h1 c1
  obtain ⟨_, _, l2, e2, _⟩ := tl_step_moves_at_most_one_other hs t2 h2 c2
  rw [e1] at e2
  injection e2

/-- **A `Signal` is not lost while a waiter is parked**: if some goroutine is parked in the `select` of
`WaitWithTimeout`, the `Signal` of `u` is delivered to a parked goroutine (Go takes the ready send before
`default`), which proceeds to its retry. -/
theorem tl_signal_reaches_parked_waiter {s s' : TLSt} {a : TLAct} (hs : TLStep s a s') (u w : Tid)
    (hu : s.pc u = .signal) (hw : s.pc w = .waiting) (ha : a.actor = u) :
    ∃ t left, a = .deliver u t left ∧ s.pc t = .waiting ∧ s'.pc t = .tryAgain left := by
  cases hs with
  | @deliver u' t left hu' ht =>
    simp only [TLAct.actor] at ha; subst ha
    exact ⟨t, left, rfl, ht, by simp [upd]⟩
  | signalLost _ hnone => exact absurd hw (hnone w)
  -- every other action of `u` needs `u` at a location other than `signal`
  | _ => simp only [TLAct.actor] at ha; subst ha; simp_all

/-- **The Signal-after-timeout race** (`n = 1`): A holds the permit, B finds the limit full, parks, and its
timer fires; then A returns and signals — nobody is parked any more, the Signal falls into `default:`.
Nothing is lost: B holds nothing, the permit is back (`used = 0`), a third caller is admitted at once. -/
theorem tl_signal_after_timeout :
    ∃ s, TLReach 1 s ∧ s.pc 0 = .done ∧ s.pc 1 = .timedOut ∧ s.used = 0 ∧
      ∃ s', TLStep s (.borrow 2) s' ∧ s'.pc 2 = .holding := by
  have run : TLRun (TLSt.init 1)
      [.borrow 0, .borrow 1, .park 1, .timer 1, .leave 0, .signalLost 0] _ :=
    -- at the Signal nobody is `waiting`: B's `waiting` has been overwritten by `timedOut`
    have nobody := fun t => by simp only [upd, TLSt.init]; repeat' split <;> simp
    .cons (.borrowOk rfl (by decide)) (.cons (.borrowFull rfl (by decide)) (.cons (.park rfl)
      (.cons (.timer rfl) (.cons (.leaveOk rfl (by decide)) (.cons (.signalLost rfl nobody) .nil)))))
  exact ⟨_, tlreach_run .init run, rfl, rfl, rfl, _, .borrowOk rfl (by decide), by simp [upd]⟩

/-- **The other order of the same race**: the Signal is delivered first (B goes to its retry with no time
left), B's retry finds the permit A just returned and B is admitted — exactly one holder, no double grant. -/
theorem tl_signal_wins_race :
    ∃ s, TLReach 1 s ∧ s.pc 0 = .done ∧ s.pc 1 = .holding ∧ s.used = 1 := by
  have run : TLRun (TLSt.init 1)
      [.borrow 0, .borrow 1, .park 1, .leave 0, .deliver 0 1 false, .retry 1] _ :=
    .cons (.borrowOk rfl (by decide)) (.cons (.borrowFull rfl (by decide)) (.cons (.park rfl)
      (.cons (.leaveOk rfl (by decide)) (.cons (.deliver rfl rfl) (.cons (.retryOk rfl (by decide)) .nil)))))
  exact ⟨_, tlreach_run .init run, rfl, rfl, rfl⟩

/-- **What is NOT claimed (liveness)**: a Signal sent in the window between B's failed `TryBorrow` and B's
`select` is lost (`preWait`: nobody is parked yet).  B then sleeps although the permit is free, until its
timer fires: it is refused (`ErrTimeout`) while capacity was available.  Safety is untouched (`used = 0`,
B holds nothing); this delay is the documented limit of the claim "blocked, never admitted". -/
theorem tl_lost_wakeup_window :
    ∃ s, TLReach 1 s ∧ s.pc 1 = .timedOut ∧ s.used = 0 ∧ s.pc 0 = .done := by
  have run : TLRun (TLSt.init 1)
      [.borrow 0, .borrow 1, .leave 0, .signalLost 0, .park 1, .timer 1] _ :=
    -- at the Signal nobody is `waiting`: B has not parked yet
    have nobody := fun t => by simp only [upd, TLSt.init]; repeat' split <;> simp
    .cons (.borrowOk rfl (by decide)) (.cons (.borrowFull rfl (by decide)) (.cons (.leaveOk rfl (by decide))
      (.cons (.signalLost rfl nobody) (.cons (.park rfl) (.cons (.timer rfl) .nil)))))
  exact ⟨_, tlreach_run .init run, rfl, rfl, rfl⟩

/-- the locations are anchored at the rows of the source-tied site program: the guarded region is its `user`
row, the retry its second `tryAcquire`, the first attempt its first, the Signal the row whose source tokens
are `l.cond.Signal()`; and a location holds a permit exactly when its row does. -/
theorem tl_rows_anchored :
    (Programs.timeoutLimitClient[Loc.holding.row]?.map (·.instr)) = some (.user 8)
    ∧ (Programs.timeoutLimitClient[Loc.idle.row]?.map (·.instr)) = some (.tryAcquire 2)
    ∧ (Programs.timeoutLimitClient[(Loc.tryAgain true).row]?.map (·.instr)) = some (.tryAcquire 5)
    ∧ (Programs.timeoutLimitClient[Loc.waiting.row]?.map (·.tags)) = some ["for {", "call l.cond.WaitWithTimeout"]
    ∧ (Programs.timeoutLimitClient[Loc.signal.row]?.map (·.tags)) = some ["call l.cond.Signal", "return"]
    ∧ (∀ l ∈ [Loc.idle, .preWait, .waiting, .tryAgain true, .tryAgain false, .holding, .signal, .errReturn,
               .timedOut, .refused, .done], H Programs.timeoutLimitClient l.row = holdsL l) :=
  ⟨rfl, rfl, rfl, rfl, rfl, fun l _ => holds_row l⟩

/-- **Simulation.**  Every reachable state of ModelTL (any capacity, any number of callers, any order of
TryBorrow / park / timer / Signal delivered or lost / retry / Return) is the image, under the location → row map
`Loc.row`, of a reachable state of `Programs.timeoutLimitClient` — the table whose tokens AND instructions are tied to
`TimeoutLimit.Borrow/Return` (`tie_timeoutLimit`, `tie_eff_timeoutLimit`) — with the same channel length. -/
theorem tl_refines_site_program (n : Nat) (s : TLSt) (h : TLReach n s) :
    ∃ σ, Reach Programs.timeoutLimitClient n σ ∧ σ.cap = s.cap ∧ σ.used = s.used
      ∧ (∀ t, σ.pc t = (s.pc t).row) ∧ (∀ t, s.pc t = .errReturn → σ.err t = true) := by
  obtain ⟨σ, hr, hR⟩ := sim_reach h
  exact ⟨σ, hr, hR.cap, hR.used, hR.pc, hR.err⟩

/-- **The cap for TimeoutLimit through the site program**: `tl_cap` again — the invariant it rests on is the one of
every disciplined site program (`reach_inv`, behind `sites_cap`), carried over by the simulation. -/
theorem tl_cap_via_sites (n : Nat) (s : TLSt) (h : TLReach n s) (l : List Tid) (hl : l.Nodup)
    (hin : ∀ t ∈ l, s.pc t = .holding) : l.length ≤ n :=
  tl_cap n s h l hl hin

/-- **No leak for TimeoutLimit through the site program**: nobody inside ⇒ the channel is empty, whatever borrowers
are parked, timed out or about to signal (`tl_no_leak`, by the invariant behind `sem_used_counts_holders`). -/
theorem tl_no_leak_via_sites (n : Nat) (s : TLSt) (h : TLReach n s) (hq : ∀ t, s.pc t ≠ .holding) :
    s.used = 0 ∧ s.cap = n :=
  tl_no_leak n s h hq

/-- **No spurious ErrLimitReturn for TimeoutLimit through the site program** (`tl_no_spurious_error`, by the clause
of the invariant behind `sem_no_spurious_error`). -/
theorem tl_no_spurious_error_via_sites (n : Nat) (s : TLSt) (h : TLReach n s) (t : Tid) : s.pc t ≠ .errReturn :=
  tl_no_spurious_error n s h t

/-- **Progress (no deadlock)**: in every state (reachable or not) every caller that has not finished has an enabled action
of its own — a parked borrower always has its timer, a holder can always return (its permit is in the channel),
a signaller is never blocked (delivered to a parked waiter or dropped).  This is the liveness that DOES hold;
what does not hold is "every Return is followed by a waiting Borrow proceeding" (`tl_lost_wakeup_window`: a Signal
sent while the only waiter stands between its failed TryBorrow and its `select` is dropped). -/
theorem tl_no_deadlock (s : TLSt) (t : Tid) (hnf : finishedL (s.pc t) = false) :
    ∃ a s', a.actor = t ∧ TLStep s a s' := by
  cases hl : s.pc t with
  | idle | timedOut | refused | done | errReturn => rw [hl] at hnf; cases hnf
  | preWait => exact ⟨.park t, _, rfl, .park hl⟩
  | waiting => exact ⟨.timer t, _, rfl, .timer hl⟩
  | tryAgain left =>
    by_cases hf : s.used < s.cap
    · exact ⟨.retry t, _, rfl, .retryOk hl hf⟩
    · cases left
      · exact ⟨.retry t, _, rfl, .retryTimedOut hl hf⟩
      · exact ⟨.retry t, _, rfl, .retryWaitAgain hl hf⟩
  | holding =>
    by_cases hp : 0 < s.used
    · exact ⟨.leave t, _, rfl, .leaveOk hl hp⟩
    · exact ⟨.leave t, _, rfl, .leaveErr hl (by omega)⟩
  | signal =>
    by_cases hw : ∃ w, s.pc w = .waiting
    · obtain ⟨w, hw⟩ := hw
      exact ⟨.deliver t w true, _, rfl, .deliver hl hw⟩
    · exact ⟨.signalLost t, _, rfl, .signalLost hl (fun w hw' => hw ⟨w, hw'⟩)⟩

/-- **A Signal is dropped only when nobody is parked** (the guard of `TLStep.signalLost`, read off the step): a
borrower that has not been served when a Signal is lost is not in its `select` — it stands before it (`preWait`, the
window of `tl_lost_wakeup_window`) or is about to retry. -/
theorem tl_signal_lost_only_unparked {s s' : TLSt} {u : Tid} (hs : TLStep s (.signalLost u) s') (t : Tid) :
    s.pc t ≠ .waiting := by
  cases hs with
  | signalLost _ hno => exact hno t

/-- the run of `tl_signal_wins_race`: a parked borrower woken by a Return takes the permit, one permit is out. -/
example : ∃ s, TLReach 1 s ∧ s.pc 1 = .holding ∧ s.used = 1 :=
  let ⟨s, h, _, h1, h2⟩ := tl_signal_wins_race
  ⟨s, h, h1, h2⟩

/-- **A Signal wakes exactly one parked waiter, which proceeds**: the receiver leaves its `Wait` /
`WaitWithTimeout` (with `ok = true`), every other goroutine stays where it is. -/
theorem cond_signal_wakes_exactly_one {s s' : CSt} {t : Tid} {e : Int} (h : CStep s (.signalTo t e) s') :
    isParked (s t) = true ∧ (∃ r, s' t = .proceeded r true) ∧ ∀ u, u ≠ t → s' u = s u := by
  cases h with
  | toWait ht => exact ⟨by rw [ht]; rfl, ⟨0, by simp [upd]⟩, fun u hu => by simp [upd, hu]⟩
  | toTimed ht =>
    refine ⟨by rw [ht]; rfl, ?_, fun u hu => by simp [upd, hu]⟩
    simp only [upd, if_true, waitResult]
    exact ⟨_, rfl⟩

/-- **`Signal` never blocks** and is lost exactly when nobody is parked (the channel is unbuffered: nothing is stored
for a later waiter — `tie_cond_channel`). -/
theorem cond_signal_never_blocks (s : CSt) :
    (∃ t e s', CStep s (.signalTo t e) s') ∨ (CStep s .signalLost s ∧ ∀ t, isParked (s t) = false) := by
  by_cases h : ∃ t, isParked (s t) = true
  · obtain ⟨t, ht⟩ := h
    left
    cases hl : s t with
    | parkedWait => exact ⟨t, 0, _, .toWait hl⟩
    | parkedTimed d => exact ⟨t, 0, _, .toTimed hl⟩
    | idle => rw [hl] at ht; cases ht
    | proceeded _ _ => rw [hl] at ht; cases ht
  · right
    have hn : ∀ t, isParked (s t) = false := by
      intro t
      cases hp : isParked (s t)
      · rfl
      · exact absurd ⟨t, hp⟩ h
    exact ⟨.lost hn, hn⟩

theorem cond_signal_lost_changes_nothing {s s' : CSt} (h : CStep s .signalLost s') :
    s' = s ∧ ∀ t, isParked (s t) = false := by
  cases h with
  | lost hn => exact ⟨rfl, hn⟩

/-- **What `WaitWithTimeout(timeout)` returns.**  Signalled: `(timeout − elapsed, true)`; timer: `(0, false)`.
With `elapsed ≥ 0` the remaining time never exceeds the timeout, and it is non-negative EXACTLY when the signal was
received within the timeout.  It CAN be negative (`cond_remaining_can_be_negative`): `select` picks at random between a
ready signal and a fired timer, and the clock is read after the receive — "never negative" is not what the code
guarantees; its only caller on the property's path, `TimeoutLimit.Borrow`, treats `timeout <= 0` as expired
(`tie_timeoutLimit_conds`), so a negative value is an immediate `ErrTimeout` unless the retry gets a permit. -/
theorem cond_wait_result (timeout elapsed : Int) (he : 0 ≤ elapsed) :
    waitResult timeout (.signalled elapsed) = (timeout - elapsed, true)
    ∧ (waitResult timeout (.signalled elapsed)).1 ≤ timeout
    ∧ (0 ≤ (waitResult timeout (.signalled elapsed)).1 ↔ elapsed ≤ timeout)
    ∧ waitResult timeout .timerFired = (0, false) := by
  refine ⟨rfl, ?_, ?_, rfl⟩ <;> simp only [waitResult] <;> omega

theorem cond_remaining_can_be_negative : waitResult 5 (.signalled 7) = (-2, true) := by decide

/-- a `Borrow` that is woken k times has, after the k-th wake-up, its original timeout minus the time spent parked:
the remaining timeouts handed from round to round are the model's `waitResult` values. -/
def remainAfter (timeout : Int) : List Int → Int
  | [] => timeout
  | e :: es => remainAfter (waitResult timeout (.signalled e)).1 es

theorem borrow_time_budget (timeout : Int) (es : List Int) : remainAfter timeout es = timeout - es.sum := by
  induction es generalizing timeout with
  | nil => simp [remainAfter]
  | cons e es ih => simp only [remainAfter, waitResult, ih, List.sum_cons]; omega

end GoZero.C05
