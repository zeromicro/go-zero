/-
C05 — helper lemmas about `syncx.Pool`: the pool together with its users as a transition system
(any number of users, any order of Get/Put, any clock readings), `Get` in closed form, the invariant.
-/
import GoZero.C05.Model
namespace GoZero.C05

theorem nodup_map_inj {α β : Type} (f : α → β) (l : List α) (hnd : (l.map f).Nodup) (a b : α)
    (ha : a ∈ l) (hb : b ∈ l) (hf : f a = f b) : a = b :=
  have hp := List.pairwise_map.mp hnd
  List.Pairwise.forall_of_forall_of_flip (R := fun a b => f a = f b → a = b) (fun _ _ _ => rfl)
    (hp.imp fun h e => absurd e h) (hp.imp fun h e => absurd e.symm h) ha hb hf

theorem nodup_of_nodup_map {α β : Type} (f : α → β) (l : List α) (hnd : (l.map f).Nodup) : l.Nodup :=
  (List.pairwise_map.mp hnd).imp fun h e => h (congrArg f e)

def GetResult.destroyed : GetResult → List Nat
  | .got _ _ d => d
  | .wait d => d

/-- the pool and who currently uses which resource. -/
structure PSys where
  pool  : Pool
  inUse : List (Tid × Nat)

inductive POp where
  | get (t : Tid) (now : Nat)
  | put (t : Tid) (x : Nat) (now : Nat)
  deriving Repr, DecidableEq

/-- one atomic operation (Get and Put hold `p.lock` throughout; a Get that has to wait leaves the pool as it
found it after discarding expired resources, and retries later as a new `get`).
`none`: the caller broke the contract (Put of a resource it does not hold) — outside the property. -/
def PSys.step (s : PSys) : POp → Option PSys
  | .get t now =>
    match (s.pool.get now).2 with
    | .got item _ _ => some { pool := (s.pool.get now).1, inUse := (t, item) :: s.inUse }
    | .wait _ => some { pool := (s.pool.get now).1, inUse := s.inUse }
  | .put t x now =>
    if (t, x) ∈ s.inUse then some { pool := s.pool.put x now, inUse := s.inUse.erase (t, x) } else none

def PSys.init (limit maxAge : Nat) : PSys := { pool := Pool.init limit maxAge, inUse := [] }

inductive PReach (limit maxAge : Nat) : PSys → Prop where
  | init : PReach limit maxAge (PSys.init limit maxAge)
  | step {s s' : PSys} (op : POp) : PReach limit maxAge s → s.step op = some s' → PReach limit maxAge s'

structure PInv (limit : Nat) (s : PSys) : Prop where
  lim      : s.pool.limit = limit
  count    : s.pool.created = (s.pool.idle.length : Int) + (s.inUse.length : Int)
  le_limit : s.pool.created ≤ (limit : Int)
  idleND   : (s.pool.idle.map (·.item)).Nodup
  useND    : (s.inUse.map (·.2)).Nodup
  disjoint : ∀ x ∈ s.pool.idle.map (·.item), x ∉ s.inUse.map (·.2)
  freshI   : ∀ x ∈ s.pool.idle.map (·.item), x < s.pool.next
  freshU   : ∀ x ∈ s.inUse.map (·.2), x < s.pool.next

/-- The `for` loop of `Get` walks over a prefix `pre` of the idle list, all of it expired (one `created--` and one
`destroy` each), and goes on with what is left, whose head (if any) has not expired. -/
theorem getLoop_walk (limit maxAge now next : Nat) (l : List PNode) (c : Int) (d : List Nat) :
    ∃ pre rest, l = pre ++ rest ∧ (∀ nd ∈ pre, expired maxAge now nd = true) ∧
      (∀ nd ∈ rest.head?, expired maxAge now nd = false) ∧
      getLoop limit maxAge now next l c d
        = getLoop limit maxAge now next rest (c - pre.length) (d ++ pre.map (·.item)) := by
  induction l generalizing c d with
  | nil => exact ⟨[], [], rfl, by simp, by simp, by simp⟩
  | cons nd t ih =>
    by_cases he : expired maxAge now nd = true
    · obtain ⟨pre, rest, hl, hpre, hhd, hg⟩ := ih (c - 1) (d ++ [nd.item])
      refine ⟨nd :: pre, rest, by rw [hl]; rfl, by simpa [he] using hpre, hhd, ?_⟩
      rw [getLoop, if_pos he, hg]
      congr 1
      · simp only [List.length_cons]; omega
      · simp
    · exact ⟨[], nd :: t, rfl, by simp, by simpa using he, by simp⟩

/-- **The three outcomes of `Get`**: after the expired prefix `pre` of the idle list has been destroyed, the head of
what is left is reused; or nothing is left and a resource is created (`created < limit`), or the call waits. -/
theorem Pool.get_cases (p : Pool) (now : Nat) :
    ∃ pre rest, p.idle = pre ++ rest ∧ (∀ nd ∈ pre, expired p.maxAge now nd = true) ∧
      ((∃ nd rest', rest = nd :: rest' ∧ expired p.maxAge now nd = false ∧ p.get now =
          (⟨p.limit, p.maxAge, p.created - pre.length, rest', p.next⟩, .got nd.item false (pre.map (·.item))))
       ∨ (rest = [] ∧ p.created - pre.length < p.limit ∧ p.get now =
          (⟨p.limit, p.maxAge, p.created - pre.length + 1, [], p.next + 1⟩, .got p.next true (pre.map (·.item))))
       ∨ (rest = [] ∧ ¬ p.created - pre.length < p.limit ∧ p.get now =
          (⟨p.limit, p.maxAge, p.created - pre.length, [], p.next⟩, .wait (pre.map (·.item))))) := by
  obtain ⟨pre, rest, hl, hpre, hhd, hg⟩ := getLoop_walk p.limit p.maxAge now p.next p.idle p.created []
  refine ⟨pre, rest, hl, hpre, ?_⟩
  rw [Pool.get, hg, List.nil_append]
  cases rest with
  | cons nd rest' =>
    have he : expired p.maxAge now nd = false := hhd nd rfl
    exact .inl ⟨nd, rest', rfl, he, by simp [getLoop, he]⟩
  | nil =>
    by_cases hc : p.created - pre.length < p.limit
    · exact .inr (.inl ⟨rfl, hc, by simp [getLoop, hc]⟩)
    · exact .inr (.inr ⟨rfl, hc, by simp [getLoop, hc]⟩)

/-- the resources that exist: the idle ones, then those in use. -/
def PSys.alive (s : PSys) : List Nat := s.pool.idle.map (·.item) ++ s.inUse.map (·.2)

theorem PInv.alive_nodup {limit : Nat} {s : PSys} (h : PInv limit s) : s.alive.Nodup :=
  List.nodup_append.mpr ⟨h.idleND, h.useND, fun a ha _ hb hab => h.disjoint a ha (hab ▸ hb)⟩

theorem PInv.alive_fresh {limit : Nat} {s : PSys} (h : PInv limit s) : ∀ x ∈ s.alive, x < s.pool.next :=
  fun x hx => (List.mem_append.mp hx).elim (h.freshI x) (h.freshU x)

theorem PSys.alive_length (s : PSys) : (s.alive.length : Int) = s.pool.idle.length + s.inUse.length := by
  simp [PSys.alive]

theorem PInv.alive_count {limit : Nat} {s : PSys} (h : PInv limit s) : s.pool.created = (s.alive.length : Int) :=
  h.count.trans s.alive_length.symm

theorem PInv.of_alive {limit : Nat} {s : PSys} (lim : s.pool.limit = limit)
    (count : s.pool.created = (s.alive.length : Int))
    (le : s.pool.created ≤ (limit : Int)) (nd : s.alive.Nodup) (fresh : ∀ x ∈ s.alive, x < s.pool.next) :
    PInv limit s :=
  have h := List.nodup_append.mp nd
  ⟨lim, count.trans s.alive_length, le, h.1, h.2.1, fun x hx hx' => h.2.2 x hx x hx' rfl,
    fun x hx => fresh x (List.mem_append_left _ hx), fun x hx => fresh x (List.mem_append_right _ hx)⟩

theorem pinv_init (limit maxAge : Nat) : PInv limit (PSys.init limit maxAge) :=
  .of_alive rfl rfl (by simp [PSys.init, Pool.init]) List.nodup_nil (by simp [PSys.alive, PSys.init, Pool.init])

/-- The counter counts the list `alive`, so a state whose resources are a rearrangement of what is left of `alive`
after a prefix `d` is dropped, and whose counter went down by `d.length`, is as good as the one before. -/
theorem PInv.shrink {limit : Nat} {s s' : PSys} (hi : PInv limit s) {d : List PNode} {tl : List Nat}
    (ha : s.alive = d.map (·.item) ++ tl) (hp : s'.alive.Perm tl) (lim : s'.pool.limit = s.pool.limit)
    (hc : s'.pool.created = s.pool.created - d.length) (hn : s'.pool.next = s.pool.next) : PInv limit s' := by
  have hsub : tl.Sublist s.alive := ha ▸ List.sublist_append_right ..
  refine .of_alive (lim.trans hi.lim) ?_ (hc ▸ Int.le_trans (Int.sub_le_self _ (Int.natCast_nonneg _)) hi.le_limit)
    (hp.nodup_iff.mpr (hsub.nodup hi.alive_nodup)) (fun y hy => hn ▸ hi.alive_fresh y (hsub.subset (hp.mem_iff.mp hy)))
  rw [hc, hi.alive_count, ha, hp.length_eq, List.length_append, List.length_map]
  omega

/-- Every operation leaves the existing resources a rearrangement of (some of) those that existed before — a `Put`
moves one from the in-use list to the idle list, a `Get` drops the expired ones and moves the head of the rest the
other way — except for the one a `Get` creates, whose id `next` is new. -/
theorem pinv_step {limit : Nat} {s s' : PSys} (op : POp) (hi : PInv limit s) (hs : s.step op = some s') :
    PInv limit s' := by
  cases op with
  | put t x now =>
    simp only [PSys.step] at hs
    split at hs
    next hmem =>
      cases hs
      have hp : s.alive.Perm (PSys.alive ⟨s.pool.put x now, s.inUse.erase (t, x)⟩) :=
        (((List.perm_cons_erase hmem).map (·.2)).append_left _).trans List.perm_middle
      exact hi.shrink (d := []) rfl hp.symm rfl (Int.sub_zero _).symm rfl
    next => cases hs
  | get t now =>
    obtain ⟨pre, rest, hl, -, hcase⟩ := s.pool.get_cases now
    have halive : s.alive = pre.map (·.item) ++ (rest.map (·.item) ++ s.inUse.map (·.2)) := by
      rw [PSys.alive, hl, List.map_append, List.append_assoc]
    simp only [PSys.step] at hs
    rcases hcase with ⟨nd, rest', rfl, -, hg⟩ | ⟨rfl, hc, hg⟩ | ⟨rfl, hc, hg⟩ <;> rw [hg] at hs <;> cases hs
    · exact hi.shrink halive List.perm_middle rfl rfl rfl
    · -- the state of the third outcome, and on top of it the new resource, whose id `next` nothing alive has
      have hw : PInv limit ⟨⟨_, s.pool.maxAge, _, [], _⟩, s.inUse⟩ := hi.shrink halive (.refl _) rfl rfl rfl
      exact .of_alive hi.lim (congrArg (· + 1) hw.alive_count) (hi.lim ▸ hc)
        (List.nodup_cons.mpr ⟨fun h => Nat.lt_irrefl _ (hw.alive_fresh _ h), hw.alive_nodup⟩)
        (List.forall_mem_cons.mpr ⟨Nat.lt_succ_self _, fun y hy => Nat.lt_succ_of_lt (hw.alive_fresh y hy)⟩)
    · exact hi.shrink halive (.refl _) rfl rfl rfl

theorem preach_inv {limit maxAge : Nat} {s : PSys} (h : PReach limit maxAge s) : PInv limit s := by
  induction h with
  | init => exact pinv_init limit maxAge
  | step op _ hs ih => exact pinv_step op ih hs

end GoZero.C05
