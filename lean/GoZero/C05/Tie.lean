/-
C05 — Tie: what the extractor reads from the go-zero tree equals what the models were written against.

* every acquire/release site: the statement skeleton of the Go function equals the concatenation of the `tags` of the
  rows of its site program in Model.lean, and its typed order of effects the `instr` column — so the position of the
  acquire relative to `go`, of the release inside the `defer`, of `wg.Add/Done`, the non-blocking `select`/`default`
  forms and the refusal branches are tied to the rows whose instructions the theorems are about;
* channel capacities, worker-count floors, the skeleton and counter updates of `syncx.Pool`, Go conditions and stored
  values translated to Lean and equal to the model's for ALL arguments; the construction facts behind `build_isolated`;
  what the delegating entry points hand on; the loops and conditions of ModelWG / ModelCond.

Equalities between tables are `rfl`: both sides reduce to the same list of string literals, which the kernel compares
as such (`decide` would compare them character by character).  Memberships unfold the table and leave the rest to
`simp`, so they do not depend on the position of the entry.
-/
import GoZero.Extracted.C05
import GoZero.C05.Model
import GoZero.C05.ModelOpts
import GoZero.C05.ModelWG
import GoZero.C05.ModelCond
namespace GoZero.C05.Tie
open GoZero.C05
open GoZero.Extracted.C05

theorem extraction_clean : extractionErrors = [] := rfl

theorem tie_limit_ops : Programs.limitClient.tags = borrowShape ++ tryBorrowShape ++ returnShape := rfl

/-- which value is reported on which branch: received → `nil`, empty → `ErrLimitReturn`; sent → `true`, full → `false`. -/
theorem tie_limit_results :
    returnResults = ["return nil", "return ErrLimitReturn"] ∧ tryBorrowResults = ["return true", "return false"] :=
  ⟨rfl, rfl⟩

theorem tie_limit_capacity : newLimitDetails = ["make chan lang.PlaceholderType cap=n"] := rfl

theorem tie_timeoutLimit : Programs.timeoutLimitClient.tags = tlBorrowShape ++ tlReturnShape := rfl

/-- `TimeoutLimit.TryBorrow` is `Limit.TryBorrow`, and its limit is `NewLimit(n)`. -/
theorem tie_timeoutLimit_delegates :
    tlTryBorrowShape = ["call l.limit.TryBorrow", "return"]
    ∧ newTimeoutLimitDetails = ["field limit: NewLimit(n)", "call NewLimit(n)"] := ⟨rfl, rfl⟩

/-- `TimeoutLimit.Borrow`: `nil` only after a successful TryBorrow (rows 1 and 4), `ErrTimeout` otherwise;
`TimeoutLimit.Return` passes the limit's error on. -/
theorem tie_timeoutLimit_results :
    tlBorrowResults = ["return nil", "return nil", "return ErrTimeout"]
    ∧ tlReturnResults = ["return err", "return nil"] := ⟨rfl, rfl⟩

/-- `Cond`: waiting never touches the limit (it only receives from `cond.signal` or the timer) and
`Signal` is a non-blocking send — the wake-up is an environment choice in the model. -/
theorem tie_cond :
    condWaitShape = ["defer{", "call timer.Stop", "}", "call timex.Now", "select{", "case recv cond.signal:",
                     "call timex.Since", "return", "case recv timer.C:", "return", "}"]
    ∧ condSignalShape = ["select{", "case send cond.signal:", "default:", "}"] := ⟨rfl, rfl⟩

/-- the condition variable is an UNBUFFERED channel (a Signal is a rendezvous with one parked receiver or is
lost — what ModelTL's `deliver` / `signalLost` are), and `WaitWithTimeout` reports `ok = true` only on the
signal branch, `0,false` on the timer branch. -/
theorem tie_cond_channel :
    newCondDetails = ["make chan lang.PlaceholderType cap=0"]
    ∧ condWaitResults = ["return remainTimeout, true", "return 0, false"] := ⟨rfl, rfl⟩

theorem tie_runner : Programs.runner.tags = trWaitShape ++ scheduleShape ++ scheduleImmShape := rfl

theorem tie_runner_results : scheduleImmResults = ["return ErrTaskRunnerBusy", "return nil"] := rfl

theorem tie_runner_capacity : newTaskRunnerDetails = ["make chan lang.PlaceholderType cap=concurrency"] := rfl

/-- `rescue.Recover` runs the clean-ups (release + Done) first, then recovers. -/
theorem tie_rescue : rescueRecoverShape = ["range cleanups {", "call cleanup", "}", "recover", "if p != nil {", "}"] :=
  rfl

def maxConnsPrefix : List String :=
  ["if n <= 0 {", "func{", "return", "}", "return", "}", "func{", "call syncx.NewLimit", "func{"]

def maxConnsSuffix : List String := ["}", "call http.HandlerFunc", "return", "}", "return"]

/-- the latch is created once per middleware instance (before the per-request `func{`), the per-request
function is the `maxConns` program. -/
theorem tie_maxConns : maxConnsShape = maxConnsPrefix ++ Programs.maxConns.tags ++ maxConnsSuffix := rfl

theorem tie_maxConns_capacity : maxConnsDetails = ["call syncx.NewLimit(n)"] := rfl

theorem tie_executeMappers : Programs.executeMappers.tags = executeMappersShape := rfl

theorem tie_executeMappers_capacity :
    executeMappersDetails = ["make chan struct{} cap=mCtx.workers"]
    ∧ "field workers: options.workers" ∈ mapReduceDetails
    ∧ "field workers: options.workers" ∈ forEachDetails := ⟨rfl, by simp [mapReduceDetails], by simp [forEachDetails]⟩

theorem tie_mr_floor :
    mrMinWorkers = 1
    ∧ mrWithWorkersShape = ["func{", "if workers < minWorkers {", "store opts.workers", "}", "else{",
                            "store opts.workers", "}", "}", "return"] := ⟨rfl, rfl⟩

theorem tie_walkLimited : Programs.walkLimited.tags = walkLimitedShape := rfl

theorem tie_walkLimited_capacity :
    walkLimitedDetails = ["make chan any cap=option.workers", "make chan lang.PlaceholderType cap=option.workers"] :=
  rfl

theorem tie_fx_floor :
    fxMinWorkers = 1
    ∧ fxWithWorkersShape = ["func{", "if workers < minWorkers {", "store opts.workers", "}", "else{",
                            "store opts.workers", "}", "}", "return"]
    ∧ walkShape = ["call buildOptions", "if option.unlimitedWorkers {", "call s.walkUnlimited", "return", "}",
                   "call s.walkLimited", "return"] := ⟨rfl, rfl, rfl⟩

/-- `GoSafe(fn)` = `go RunSafe(fn)`, `RunSafe` = `defer rescue.Recover(); fn()` (the worker of walkLimited). -/
theorem tie_goSafe :
    goSafeShape = ["go{", "call RunSafe", "}"]
    ∧ runSafeShape = ["defer{", "call rescue.Recover", "}", "call fn"] := ⟨rfl, rfl⟩

/-- `WorkerGroup.Start` starts exactly `wg.workers` jobs and waits for them. -/
theorem tie_workerGroup :
    workerGroupShape = ["call NewRoutineGroup", "for i < wg.workers {", "call group.RunSafe", "}", "call group.Wait"] :=
  rfl

/-- `RoutineGroup.Wait/Run/RunSafe` are the rows of `Programs.routineGroup` (Add before the spawn, Done in
the spawned function's defer). -/
theorem tie_routineGroup : Programs.routineGroup.tags = rgWaitShape ++ rgRunShape ++ rgRunSafeShape := rfl

/-- `Barrier.Guard` = `Guard(&b.lock, fn)` = Lock, deferred Unlock, fn. -/
theorem tie_barrier :
    barrierGuardShape = ["call Guard"] ∧ Programs.barrierGuard.tags = guardShape := ⟨rfl, rfl⟩

/-- `WithWorkers` of mr and fx: the branch `workers < minWorkers` stores `minWorkers`, the other one the
argument; `minWorkers = 1` — this is `effWorkers`. -/
theorem tie_workers_table :
    mrWithWorkersStores = ["store opts.workers = minWorkers", "store opts.workers = workers"]
    ∧ fxWithWorkersStores = ["store opts.workers = minWorkers", "store opts.workers = workers"]
    ∧ (∀ k : Int, effWorkers k = if k < mrMinWorkers then mrMinWorkers else k)
    ∧ (∀ k : Int, effWorkers k = if k < fxMinWorkers then fxMinWorkers else k) :=
  ⟨rfl, rfl, fun _ => rfl, fun _ => rfl⟩

/-- the REST engine installs `handler.MaxConnsHandler(ng.conf.MaxConns)` exactly under
`ng.conf.Middlewares.MaxConns` (no else branch), once per route chain; `MaxConnsHandler` is a pass-through
for `n <= 0` (first rows of `maxConnsShape`, `tie_maxConns`) — this is `engineCap`. -/
theorem tie_engine_wiring :
    engineMaxConnsWiring = ["if ng.conf.Middlewares.MaxConns then handler.MaxConnsHandler(ng.conf.MaxConns)"]
    ∧ maxConnsShape.take 6 = ["if n <= 0 {", "func{", "return", "}", "return", "}"] := ⟨rfl, rfl⟩

/-- `Pool.Get` as modelled by `getLoop`: under the lock; pop the head; expired (`maxAge > 0 ∧ lastUsed+maxAge < now`)
→ `created--`, destroy, continue; else return it; empty list: `created < limit` → `created++`, create; else wait. -/
theorem tie_poolGet :
    poolGetShape = ["call p.lock.Lock", "defer{", "call p.lock.Unlock", "}", "for {", "if p.head != nil {",
                    "store p.head", "if p.maxAge > 0 && head.lastUsed+p.maxAge < timex.Now() {", "store p.created",
                    "call p.destroy", "continue", "}", "else{", "return", "}", "}", "if p.created < p.limit {",
                    "store p.created", "call p.create", "return", "}", "call p.cond.Wait", "}"]
    ∧ poolGetDetails = ["dec p.created", "inc p.created"] := ⟨rfl, rfl⟩

/-- `Put(nil)` returns before it takes the lock (first three tokens): the model has no nil resource. -/
theorem tie_poolPut :
    poolPutShape = ["if x == nil {", "return", "}", "call p.lock.Lock", "defer{", "call p.lock.Unlock", "}",
                    "call timex.Now", "store p.head", "call p.cond.Signal"]
    ∧ poolPutDetails = [] := ⟨rfl, rfl⟩

theorem tie_newPool :
    newPoolShape = ["if n <= 0 {", "panic", "}", "call sync.NewCond", "range opts {", "call opt", "}", "return"]
    ∧ newPoolDetails = ["field limit: n", "call sync.NewCond(lock)"] := ⟨rfl, rfl⟩

/-- `WithWorkers(k)` of fx and mr, translated: the closure stores `effWorkers k` into `opts.workers` and nothing
else — operator (`<`), constant (`minWorkers = 1`), both stored values. This is `applyOpt _ (.withWorkers k)`. -/
theorem tie_withWorkers_semantic :
    (∀ k : Int, fxWithWorkersEff k = [("opts.workers", effWorkers k)])
    ∧ (∀ k : Int, mrWithWorkersEff k = [("opts.workers", effWorkers k)])
    ∧ (∀ (o : RxOptions) (k : Int), (applyOpt o (.withWorkers k)).workers = effWorkers k
        ∧ (applyOpt o (.withWorkers k)).unlimited = o.unlimited) := by
  refine ⟨?_, ?_, fun o k => ⟨rfl, rfl⟩⟩ <;> intro k <;> unfold effWorkers <;>
    simp only [fxWithWorkersEff, mrWithWorkersEff] <;> by_cases h : k < 1 <;> simp [h]

/-- `UnlimitedWorkers()` sets the flag through the pointer and touches nothing else (`applyOpt _ .unlimited`). -/
theorem tie_unlimited :
    fxUnlimitedStmts = ["return func(opts *rxOptions) { opts.unlimitedWorkers = true }"]
    ∧ (∀ o : RxOptions, (applyOpt o .unlimited).unlimited = true ∧ (applyOpt o .unlimited).workers = o.workers) :=
  ⟨rfl, fun _ => ⟨rfl, rfl⟩⟩

/-- **the construction** (`bstep false`): `buildOptions` gets its struct from a CALL of `newOptions()` (not from
a variable), applies every option to that pointer, returns it; `newOptions` returns the address of a composite
literal (a fresh allocation per call) whose `workers` is `defaultWorkers = 16`; fx and mr alike. -/
theorem tie_buildOptions_fresh :
    fxBuildOptionsStmts = ["options := newOptions()", "for _, opt := range opts { opt(options) }", "return options"]
    ∧ mrBuildOptionsStmts = ["options := newOptions()", "for _, opt := range opts { opt(options) }", "return options"]
    ∧ fxNewOptionsStmts = ["return &rxOptions{ workers: defaultWorkers, }"]
    ∧ mrNewOptionsStmts = ["return &mapReduceOptions{ ctx: context.Background(), workers: defaultWorkers, }"]
    ∧ fxDefaultWorkers = defaultWorkers ∧ mrDefaultWorkers = defaultWorkers
    ∧ newOptions = { unlimited := false, workers := fxDefaultWorkers } := ⟨rfl, rfl, rfl, rfl, rfl, rfl, rfl⟩

/-- no package-level variable (besides immutable error values) in the packages of the limiters: nothing a
constructor or an option could share between instances (threading's `bufSize` belongs to StableRunner). -/
theorem tie_no_package_state :
    fxPkgVars = [] ∧ mrPkgVars = [] ∧ syncxPkgVars = []
    ∧ threadingPkgVars = ["stablerunner.go: bufSize = runtime.NumCPU() * factor"] := ⟨rfl, rfl, rfl, rfl⟩

/-- who builds the options and what reaches the limiter: `Walk` calls `buildOptions(opts...)` itself, once, and
decides on `option.unlimitedWorkers` (the `none` of `capOf`); Map / Filter / Parallel hand THEIR `opts...` to
`Walk`; mr's `ForEach` and `mapReduceWithPanicChan` call `buildOptions(opts...)` and pass `options.workers` on. -/
theorem tie_option_callers :
    fxWalkStmts = ["option := buildOptions(opts...)", "if option.unlimitedWorkers { return s.walkUnlimited(fn, option) }",
                   "return s.walkLimited(fn, option)"]
    ∧ fxMapStmts = ["return s.Walk(func(item any, pipe chan<- any) { pipe <- fn(item) }, opts...)"]
    ∧ fxFilterStmts = ["return s.Walk(func(item any, pipe chan<- any) { if fn(item) { pipe <- item } }, opts...)"]
    ∧ fxParallelStmts = ["s.Walk(func(item any, pipe chan<- any) { fn(item) }, opts...).Done()"]
    ∧ mrForEachCalls.head? = some "call buildOptions(opts)" ∧ "field workers: options.workers" ∈ mrForEachCalls
    ∧ mrMapReduceCalls.head? = some "call buildOptions(opts)" ∧ "field workers: options.workers" ∈ mrMapReduceCalls :=
  ⟨rfl, rfl, rfl, rfl, rfl, by simp [mrForEachCalls], rfl, by simp [mrMapReduceCalls]⟩

/-- the constructors of the other limiters build fresh state from their argument (a new channel of capacity
`n` / `concurrency`, a new Cond, the struct by value): no instance can see another one's permits. -/
theorem tie_constructors_fresh :
    newLimitStmts = ["return Limit{ pool: make(chan lang.PlaceholderType, n), }"]
    ∧ newTimeoutLimitStmts = ["return TimeoutLimit{ limit: NewLimit(n), cond: NewCond(), }"]
    ∧ newCondStmts = ["return &Cond{ signal: make(chan lang.PlaceholderType), }"]
    ∧ newTaskRunnerStmts = ["return &TaskRunner{ limitChan: make(chan lang.PlaceholderType, concurrency), }"]
    ∧ newWorkerGroupStmts = ["return WorkerGroup{ job: job, workers: workers, }"]
    ∧ newRoutineGroupStmts = ["return new(RoutineGroup)"] := ⟨rfl, rfl, rfl, rfl, rfl, rfl⟩

/-- `MaxConnsHandler(n)`: pass-through exactly for `n ≤ 0` — the `none` of `engineCap`. -/
theorem tie_maxConns_cond :
    (∀ n : Int, maxConnsPassCond n = decide (n ≤ 0))
    ∧ (∀ m : Int, engineCap true m = none ↔ maxConnsPassCond m = true) := by
  refine ⟨fun n => rfl, fun m => ?_⟩
  unfold engineCap maxConnsPassCond
  by_cases h : m ≤ 0 <;> simp [h]

/-- `Pool.Get`: the expiry test and the create test, translated, are the model's `expired` and the test of
`getLoop` on the empty idle list (strict `<` in both, `maxAge > 0` guards the expiry); `NewPool` panics for
`n ≤ 0` (so `limit ≥ 1`). -/
theorem tie_pool_conds :
    (∀ (maxAge now : Nat) (nd : PNode), poolExpiredCond maxAge nd.lastUsed now = expired maxAge now nd)
    ∧ (∀ (created limit : Int), poolCreateCond created limit = decide (created < limit))
    ∧ (∀ (limit maxAge now next : Nat) (created : Int) (d : List Nat),
        (getLoop limit maxAge now next [] created d).2
          = if poolCreateCond created limit then .got next true d else .wait d)
    ∧ (∀ n : Int, newPoolPanicCond n = decide (n ≤ 0)) := by
  refine ⟨?_, fun _ _ => rfl, ?_, fun _ => rfl⟩
  · intro maxAge now nd
    unfold poolExpiredCond expired
    congr 1
    · simp
    · rw [decide_eq_decide]; omega
  · intro limit maxAge now next created d
    unfold poolCreateCond
    by_cases h : created < (limit : Int) <;> simp [getLoop, h]

/-- `TimeoutLimit.Borrow`: a woken borrower takes a permit only through `ok && l.TryBorrow()`, gives up exactly
when `timeout <= 0`. -/
theorem tie_timeoutLimit_conds :
    (∀ ok b : Bool, tlRetryCond ok b = (ok && b)) ∧ (∀ t : Int, tlTimeoutCond t = decide (t ≤ 0)) :=
  ⟨fun _ _ => rfl, fun _ => rfl⟩

/-- number of iterations of `for i := 0; cond i; i++`. -/
def loopCount (cond : Int → Bool) : Nat → Int → Nat
  | 0, _ => 0
  | fuel + 1, i => if cond i then 1 + loopCount cond fuel (i + 1) else 0

theorem loopCount_lt (w : Int) (fuel : Nat) (i : Int) (hi : i ≤ w) (hf : w - i < fuel) :
    (loopCount (fun j => decide (j < w)) fuel i : Int) = w - i := by
  induction fuel generalizing i with
  | zero => omega
  | succ f ih =>
    unfold loopCount
    by_cases h : i < w
    · simp only [h, decide_true, if_true]
      have := ih (i + 1) (by omega) (by omega)
      omega
    · simp only [h, decide_false]
      simp
      omega

/-- **`WorkerGroup.Start` starts exactly `workers` jobs** (`for i := 0; i < wg.workers; i++`, translated
condition, whatever fuel beyond `workers`): the `k` of `workerGroup_cap`. -/
theorem tie_workerGroup_loop :
    workerGroupFor = ["i := 0", "i < wg.workers", "i++"]
    ∧ (∀ i w : Int, workerGroupLoopCond i w = decide (i < w))
    ∧ (∀ (w : Nat) (extra : Nat), loopCount (fun i => workerGroupLoopCond i w) (w + 1 + extra) 0 = w) := by
  refine ⟨rfl, fun _ _ => rfl, ?_⟩
  intro w extra
  have := loopCount_lt (w : Int) (w + 1 + extra) 0 (by omega) (by omega)
  have h2 : (fun i : Int => workerGroupLoopCond i w) = (fun j : Int => decide (j < (w : Int))) := rfl
  rw [h2]
  omega

/-- `WithMaxAge(d)` stores its argument into `p.maxAge` (the `maxAge` of the model). -/
theorem tie_pool_maxage : poolMaxAgeStores = ["store pool.maxAge = duration"] := rfl

/-- `mr.Finish/FinishVoid(fns...)` ask for exactly `len(fns)` workers (every function may run at once:
`entry_cap_finish`). -/
theorem tie_mr_finish :
    "call WithWorkers(len(fns))" ∈ mrFinishCalls ∧ "call WithWorkers(len(fns))" ∈ mrFinishVoidCalls :=
  ⟨by simp [mrFinishCalls], by simp [mrFinishVoidCalls]⟩

/-! The ORDER OF EFFECTS, typed — the `instr` column of every site program against the source.

The skeleton ties above pin the `tags` column, not which instruction a row carries.  The
extractor reads the permit / wait-group / user-call effects of every site function from the AST (a send
on the limiting channel = acquire, inside a `select` with `default` = tryAcquire, a receive = release /
tryRelease, `TryBorrow`/`Return`, `Lock`/`Unlock`, `Add`/`Done`/`Wait`, the call of the guarded function) as a
typed list in syntactic order; the list of effects of the model's rows (`Prog.effects`, from the `instr` column,
control-flow rows dropped) has to be equal.

NOT tied, i.e. trusted as written in Model.lean: the control-flow targets of the rows (`goto q`, `branch a b`, the
else-target of `tryAcquire`, the `onPanic` target of `user`) and which row of a program carries which effect.  That a
panic inside the guarded function continues at the deferred code is the `onPanic` target and nothing else; `okProg`
then checks, on those targets, that the release is reachable from both exits. -/

def toX : GoZero.C05.Eff → GoZero.Extracted.C05.Eff
  | .acquire => .acquire | .tryAcquire => .tryAcquire | .release => .release | .tryRelease => .tryRelease
  | .wgAdd => .wgAdd | .wgDone => .wgDone | .wgWait => .wgWait | .user => .user

def effX (p : Prog) : List GoZero.Extracted.C05.Eff := p.effects.map toX

/-- `Limit`: Borrow = one blocking send, TryBorrow = one non-blocking send, Return = one non-blocking receive
(the `user` between them is the caller's guarded code). -/
theorem tie_eff_limit : effX Programs.limitClient = borrowEff ++ tryBorrowEff ++ [.user] ++ returnEff := rfl

/-- `TimeoutLimit.Borrow` takes a permit only through the two `TryBorrow` calls; `Return` gives it back through
`limit.Return`; `TryBorrow` is one `TryBorrow`. -/
theorem tie_eff_timeoutLimit :
    effX Programs.timeoutLimitClient = tlBorrowEff ++ [.user] ++ tlReturnEff ∧ tlTryBorrowEff = [.tryAcquire] := ⟨rfl, rfl⟩

/-- `TaskRunner`: Wait; Schedule = Add, acquire, (deferred) release, Done, task; ScheduleImmediately = Add,
tryAcquire, (busy) Done, (deferred) release, Done, task — release BEFORE Done in both. -/
theorem tie_eff_runner : effX Programs.runner = trWaitEff ++ scheduleEff ++ scheduleImmEff := rfl

theorem tie_eff_maxConns : effX Programs.maxConns = maxConnsEff := rfl

theorem tie_eff_executeMappers : effX Programs.executeMappers = executeMappersEff := rfl

theorem tie_eff_walkLimited : effX Programs.walkLimited = walkLimitedEff := rfl

theorem tie_eff_routineGroup : effX Programs.routineGroup = rgWaitEff ++ rgRunEff ++ rgRunSafeEff := rfl

theorem tie_eff_guard : effX Programs.barrierGuard = guardEff := rfl

/-- **Forwarded argument lists of the delegating entry points**: every public mr entry point hands ITS OWN `opts...`
(unchanged, spread) down to where `buildOptions(opts...)` is called; `Finish` / `FinishVoid` ask for exactly
`len(fns)` workers; `TimeoutLimit.TryBorrow/Return` delegate to the inner `Limit` without arguments; `Barrier.Guard`
hands its own mutex and `fn` to `Guard`; `WorkerGroup.Start` runs `wg.job`; `MaxConnsHandler(n)` builds `NewLimit(n)`;
`Walk` hands `fn` and the options it built to `walkLimited`. A dropped or replaced argument here is invisible to the
site programs (mutation m4: `MapReduceVoid` without `opts...`).  For the mr entry points only the option argument (last
position, spread) and the arity are tied: how mapper / reducer are wrapped is not C05's business. -/
theorem tie_forwarding :
    mrMapReduceFwd.getLast? = some "opts..." ∧ mrMapReduceFwd.length = 5
    ∧ mrMapReduceChanFwd.getLast? = some "opts..." ∧ mrMapReduceChanFwd.length = 5
    ∧ mrMapReduceVoidFwd.getLast? = some "opts..." ∧ mrMapReduceVoidFwd.head? = some "generate" ∧ mrMapReduceVoidFwd.length = 4
    ∧ mrFinishFwd.getLast? = some "WithWorkers(len(fns))" ∧ mrFinishFwd.length = 4
    ∧ mrFinishVoidFwd.getLast? = some "WithWorkers(len(fns))" ∧ mrFinishVoidFwd.length = 3
    ∧ mrForEachFwd = ["opts..."] ∧ mrCoreFwd = ["opts..."]
    ∧ tlTryBorrowFwd = [] ∧ tlReturnFwd = []
    ∧ barrierGuardFwd = ["&b.lock", "fn"]
    ∧ workerGroupFwd = ["wg.job"]
    ∧ maxConnsNewLimitFwd = ["n"]
    ∧ fxWalkLimitedFwd = ["fn", "option"] := ⟨rfl, rfl, rfl, rfl, rfl, rfl, rfl, rfl, rfl, rfl, rfl, rfl, rfl, rfl, rfl, rfl, rfl, rfl, rfl⟩

/-- `rescue.Recover(cleanups...)`: all clean-ups first, then `recover()` and the report (`report_after_cleanup`). -/
theorem tie_rescue_order :
    rescueRecoverStmts = ["for _, cleanup := range cleanups { cleanup() }",
                          "if p := recover(); p != nil { logx.ErrorStack(p) }"] := rfl

/-- the loop of the `WorkerGroup.Start` model IS the Go loop: the test of `WGStep.spawn / loopExit` equals the
translated condition of `for i := 0; i < wg.workers; i++` for all values (negative and zero `workers` included), the
model starts at `i = 0` and a spawn step is `i + 1`; the loop body is one `group.RunSafe(wg.job)` (Add before the spawn,
Done deferred: `tie_eff_routineGroup`), followed by `group.Wait()`. -/
theorem tie_workerGroup_model :
    (∀ i w : Int, wgLoopTest i w = workerGroupLoopCond i w)
    ∧ workerGroupFor = ["i := 0", "i < wg.workers", "i++"]
    ∧ (WGSt.init 3).i = 0
    ∧ workerGroupShape = ["call NewRoutineGroup", "for i < wg.workers {", "call group.RunSafe", "}", "call group.Wait"]
    ∧ workerGroupFwd = ["wg.job"] :=
  ⟨fun _ _ => rfl, rfl, rfl, rfl, rfl⟩

/-- `Cond`: the remaining time `WaitWithTimeout` returns on the signal branch, translated from the Go expression, is the
model's `waitResult` for all arguments; `Wait` is one receive from `cond.signal`; the value pairs per branch
(`remainTimeout, true` / `0, false`) and the unbuffered channel are `tie_cond_channel`. -/
theorem tie_cond_model :
    (∀ timeout elapsed : Int, condRemainExpr timeout elapsed = (waitResult timeout (.signalled elapsed)).1)
    ∧ condWaitPlainShape = ["recv cond.signal"]
    ∧ (∀ d, (waitResult d .timerFired) = (0, false)) :=
  ⟨fun _ _ => rfl, rfl, fun _ => rfl⟩

/-- **The capacity of every limiting channel is the configured number, for all values**: `NewLimit(n)` makes a channel
of capacity `n` (= `(Sem.init n).cap`, `(St.init n).cap`), `NewTaskRunner(c)` of `c`, `executeMappers` of
`mCtx.workers`, `walkLimited`'s `pool` of `option.workers`; `NewCond`'s channel is unbuffered (capacity 0: the
rendezvous of ModelTL / ModelCond).  (`n + 1`, a constant or another field in any of them breaks this.) -/
theorem tie_capacities :
    (∀ n : Int, newLimitCap n = n) ∧ (∀ n : Nat, newLimitCap n = ((Sem.init n).cap : Int) ∧ newLimitCap n = ((St.init n).cap : Int))
    ∧ (∀ c : Int, newTaskRunnerCap c = c)
    ∧ newCondCap = 0
    ∧ (∀ w : Int, executeMappersCap w = w)
    ∧ (∀ w : Int, walkLimitedPoolCap w = w) :=
  ⟨fun _ => rfl, fun _ => ⟨rfl, rfl⟩, fun _ => rfl, rfl, fun _ => rfl, fun _ => rfl⟩

/-- what an extracted argument list hands on in its (last) option position. -/
def fwdOf (args : List String) : Fwd :=
  if args.getLast? = some "opts..." then .own else .nothing

/-- **Every hop of every public fx / mr entry point down to `buildOptions`, read from the source, hands on the caller's
own `opts...`** — so (`entry_cap_own`) the capacity of a stream started through ANY of them with
ANY option list is `streamCap` of that list (then `fx_walk_cap` / `mr_mappers_cap`).  Seeded change C05-11
(`MapReduceChan` without `opts...`) turns the second chain into `[.nothing, .own]`: `entry_cap_dropped` — 16 workers
whatever was asked for. -/
theorem tie_entry_chains :
    fwdOf mrMapReduceFwd = .own ∧ fwdOf mrMapReduceChanFwd = .own ∧ fwdOf mrMapReduceVoidFwd = .own
    ∧ fwdOf mrCoreFwd = .own ∧ fwdOf mrForEachFwd = .own
    ∧ fwdOf fxWalkFwd = .own ∧ fwdOf fxMapFwd = .own ∧ fwdOf fxFilterFwd = .own ∧ fwdOf fxParallelFwd = .own := by
  decide

/-- … hence, for all option lists, every entry point runs with the capacity of its caller's options: the chains are
MapReduce → core, MapReduceChan → core, MapReduceVoid → MapReduce → core, ForEach, Walk, Map/Filter/Parallel → Walk. -/
theorem tie_entry_caps (opts : List WOpt) :
    capThrough [fwdOf mrMapReduceFwd, fwdOf mrCoreFwd] opts = streamCap opts
    ∧ capThrough [fwdOf mrMapReduceChanFwd, fwdOf mrCoreFwd] opts = streamCap opts
    ∧ capThrough [fwdOf mrMapReduceVoidFwd, fwdOf mrMapReduceFwd, fwdOf mrCoreFwd] opts = streamCap opts
    ∧ capThrough [fwdOf mrForEachFwd] opts = streamCap opts
    ∧ capThrough [fwdOf fxWalkFwd] opts = streamCap opts
    ∧ capThrough [fwdOf fxMapFwd, fwdOf fxWalkFwd] opts = streamCap opts
    ∧ capThrough [fwdOf fxFilterFwd, fwdOf fxWalkFwd] opts = streamCap opts
    ∧ capThrough [fwdOf fxParallelFwd, fwdOf fxWalkFwd] opts = streamCap opts := by
  obtain ⟨h1, h2, h3, h4, h5, h6, h7, h8, h9⟩ := tie_entry_chains
  simp only [h1, h2, h3, h4, h5, h6, h7, h8, h9]
  exact ⟨rfl, rfl, rfl, rfl, rfl, rfl, rfl, rfl⟩

/-- `Finish(fns...)` → `MapReduceVoid(…, WithWorkers(len(fns)))` → … and `FinishVoid(fns...)` → `ForEach(…,
WithWorkers(len(fns)))`: the option position carries exactly that one option (`entry_cap_finish`). -/
theorem tie_finish_chain :
    mrFinishFwd.getLast? = some "WithWorkers(len(fns))" ∧ mrFinishVoidFwd.getLast? = some "WithWorkers(len(fns))"
    ∧ (∀ k : Int, capThrough [.fixed k, fwdOf mrMapReduceVoidFwd, fwdOf mrMapReduceFwd, fwdOf mrCoreFwd] []
        = streamCap [.withWorkers k])
    ∧ (∀ k : Int, capThrough [.fixed k, fwdOf mrForEachFwd] [] = streamCap [.withWorkers k]) := by
  obtain ⟨h1, _, h3, h4, h5, _⟩ := tie_entry_chains
  refine ⟨rfl, rfl, fun k => ?_, fun k => ?_⟩
  · simp only [h1, h3, h4]; rfl
  · simp only [h5]; rfl

end GoZero.C05.Tie
