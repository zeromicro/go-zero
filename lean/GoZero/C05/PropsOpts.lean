/-
C05 — property theorems about WHERE THE CAPACITY COMES FROM (option handling of fx / mr, the delegating entry
points) and the end-to-end statements "options → capacity → at most that many workers inside".
-/
import GoZero.C05.ProofsOpts
import GoZero.C05.Props
namespace GoZero.C05

/-- **The options struct a `buildOptions` call returns is a function of ITS OWN option list**, whatever other
calls (earlier, later or concurrent ones, with whatever options) do: any number of calls, any interleaving
of their allocation and option-application steps. -/
theorem build_isolated (opts : Tid → List WOpt) (s : BSt) (h : BReach false opts s) (t : Tid) (o : RxOptions)
    (hr : s.result t = some o) : o = buildOptions (opts t) := by
  have hi := breach_inv h
  unfold BSt.result at hr
  cases hp : s.ptr t with
  | none => rw [hp] at hr; cases hr
  | some a =>
    rw [hp] at hr
    cases htd : s.todo t with
    | cons x l => rw [htd] at hr; cases hr
    | nil =>
      rw [htd] at hr
      injection hr with hr
      have := hi.val t a hp
      rw [htd] at this
      rw [← hr]
      exact this

/-- **… so the cap of a stream depends only on its own options**: it is `streamCap (opts t)`. -/
theorem stream_cap_own_options (opts : Tid → List WOpt) (s : BSt) (h : BReach false opts s) (t : Tid) (o : RxOptions)
    (hr : s.result t = some o) : capOf o = streamCap (opts t) := by
  rw [build_isolated opts s h t o hr]
  rfl

/-- in particular two calls with the same option lists get equal structs, and a call's result does not change
when the OTHER calls are given different options. -/
theorem build_ignores_other_calls (opts opts' : Tid → List WOpt) (s s' : BSt) (h : BReach false opts s)
    (h' : BReach false opts' s') (t : Tid) (heq : opts t = opts' t) (o o' : RxOptions)
    (hr : s.result t = some o) (hr' : s'.result t = some o') : o = o' := by
  rw [build_isolated opts s h t o hr, build_isolated opts' s' h' t o' hr', heq]

def demoOpts : Tid → List WOpt
  | 0 => [.unlimited]
  | 1 => [.withWorkers 2]
  | 2 => [.withWorkers 40, .withWorkers 0]
  | _ => []

/-- non-vacuity: three interleaved calls + one without options; each gets its own result. -/
example :
    (brun false (BSt.init demoOpts) [0, 1, 2, 3, 1, 0, 2, 2]).map
      (fun s => (s.result 0, s.result 1, s.result 2, s.result 3))
      = some (some ⟨true, 16⟩, some ⟨false, 2⟩, some ⟨false, 1⟩, some ⟨false, 16⟩) := rfl

/-- **What the allocation is needed for** (the seeded change C05-5, `options := defaultOptions`): with ONE shared
struct, stream 0 runs with `UnlimitedWorkers()`, afterwards stream 1 asks for `WithWorkers(2)` — and is not
limited at all; stream 3 (no options) then runs with whatever the last `WithWorkers` left. -/
theorem shared_defaults_leak :
    ∃ s, BReach true demoOpts s ∧ streamCap (demoOpts 1) = some 2 ∧ (s.result 1).map capOf = some none
      ∧ streamCap (demoOpts 3) = some 16 ∧ (s.result 3).map capOf = some none :=
  ⟨_, breach_brun BReach.init [0, 0, 1, 1, 3] (Option.some_get rfl).symm, rfl, rfl, rfl, rfl⟩

/-- the other direction of the same leak: a large `WithWorkers(40)` of one stream becomes the "default" of a
later option-less stream (40 > 16 workers). -/
theorem shared_defaults_raise_default :
    (brun true (BSt.init (fun t => if t = 0 then [.withWorkers 40] else [])) [0, 0, 1]).map
      (fun s => (s.result 1).map capOf) = some (some (some 40)) := rfl

theorem foldl_unlimited (l : List WOpt) (o : RxOptions) :
    (l.foldl applyOpt o).unlimited = (o.unlimited || l.contains .unlimited) := by
  induction l generalizing o with
  | nil => simp
  | cons x l ih =>
    simp only [List.foldl_cons, ih, List.contains_cons]
    cases x with
    | withWorkers k =>
      have hne : (WOpt.unlimited == WOpt.withWorkers k) = false := by
        rw [beq_eq_false_iff_ne]; intro h; cases h
      simp [applyOpt, hne]
    | unlimited => simp [applyOpt]

theorem foldl_workers_pos (l : List WOpt) (o : RxOptions) (h : 1 ≤ o.workers) : 1 ≤ (l.foldl applyOpt o).workers := by
  induction l generalizing o with
  | nil => exact h
  | cons x l ih =>
    simp only [List.foldl_cons]
    apply ih
    cases x with
    | withWorkers k => exact (effWorkers_spec k).1
    | unlimited => exact h

/-- **`streamCap` as a table**: no limit iff `UnlimitedWorkers()` is among the stream's own options; otherwise
a limit `n ≥ 1`; no options: `defaultWorkers = 16`; the last `WithWorkers(k)` wins and means `max(k, 1)`. -/
theorem streamCap_spec (opts : List WOpt) :
    (streamCap opts = none ↔ WOpt.unlimited ∈ opts)
    ∧ (∀ n, streamCap opts = some n → 1 ≤ n)
    ∧ streamCap [] = some 16
    ∧ (∀ k, WOpt.unlimited ∉ opts → streamCap (opts ++ [.withWorkers k]) = some (effWorkers k).toNat) := by
  refine ⟨?_, ?_, by decide, ?_⟩
  · unfold streamCap capOf buildOptions
    rw [foldl_unlimited]
    simp [newOptions]
  · intro n h
    unfold streamCap capOf at h
    split at h
    · cases h
    · injection h with h
      have := foldl_workers_pos opts newOptions (by decide)
      unfold buildOptions at h
      omega
  · intro k hk
    unfold streamCap capOf buildOptions
    rw [List.foldl_append]
    simp only [List.foldl_cons, List.foldl_nil]
    have hu : (List.foldl applyOpt newOptions opts).unlimited = false := by
      rw [foldl_unlimited]
      simp [newOptions, hk]
    simp [applyOpt, hu]

/-- in a sequence of streams of one process, the cap of stream `i` is the cap of ITS option list: the streams
before and after it do not matter (what the driver checks every stream of a `fxopts`/`mropts` section against). -/
theorem seqCaps_own (pre post : List (List WOpt)) (opts : List WOpt) :
    (seqCaps (pre ++ opts :: post))[pre.length]? = some (streamCap opts) := by
  simp [seqCaps]

theorem foldl_own (l : List Fwd) (h : ∀ f ∈ l, f = .own) (o : List WOpt) : l.foldl (fun o f => f.apply o) o = o := by
  induction l with
  | nil => rfl
  | cons f fs ih =>
    rw [List.foldl_cons, h f (List.mem_cons_self ..)]
    exact ih fun g hg => h g (List.mem_cons_of_mem _ hg)

/-- **Every entry point that hands on its own `opts...` at every hop gets the capacity of ITS caller's options**
(whatever the list: none, several `WithWorkers`, values ≤ 0, `UnlimitedWorkers`).  The chains of the real entry points
are read from the source (`tie_entry_chains`). -/
theorem entry_cap_own (chain : List Fwd) (h : ∀ f ∈ chain, f = .own) (opts : List WOpt) :
    capThrough chain opts = streamCap opts := by
  rw [capThrough, foldl_own chain h]

/-- a hop that drops the options gives every caller the default of 16 workers, whatever was asked for — also with
`WithWorkers(4)` (seeded change C05-11: `MapReduceChan` without `opts...`; mutation m4 of props/C05.coverage.md:
`MapReduceVoid` without `opts...`). -/
theorem entry_cap_dropped (pre post : List Fwd) (hpost : ∀ f ∈ post, f = .own) (opts : List WOpt) :
    capThrough (pre ++ .nothing :: post) opts = some 16 := by
  rw [capThrough, List.foldl_append, List.foldl_cons, foldl_own post hpost]
  rfl

/-- `Finish` / `FinishVoid` with k functions: the capacity is `max k 1`, whatever else is in the chain below. -/
theorem entry_cap_finish (k : Int) (post : List Fwd) (hpost : ∀ f ∈ post, f = .own) (opts : List WOpt) :
    capThrough (.fixed k :: post) opts = streamCap [.withWorkers k] :=
  entry_cap_own post hpost _

example : capThrough [.own, .own] [.withWorkers 4] = some 4 ∧ capThrough [.nothing, .own] [.withWorkers 4] = some 16 := by
  decide

/-- options without `UnlimitedWorkers()` yield a capacity `n ≥ 1`, and every disciplined site run with that capacity
keeps the cap and leaks nothing. -/
theorem limited_cap (p : Prog) (hp : okProg p = true) (opts : List WOpt) (hnu : WOpt.unlimited ∉ opts) :
    ∃ n, streamCap opts = some n ∧ 1 ≤ n ∧
      ∀ s, Reach p n s →
        (∀ l : List Tid, l.Nodup → (∀ t ∈ l, inCrit p s t = true) → l.length ≤ n)
        ∧ ((∀ t, idle p s t = true) → s.used = 0) := by
  have hsp := streamCap_spec opts
  cases hc : streamCap opts with
  | none => exact absurd (hsp.1.mp hc) hnu
  | some n =>
    exact ⟨n, rfl, hsp.2.1 n hc, fun s hs =>
      ⟨fun l hl hin => sem_cap p hp n s hs l hl hin, fun hq => (sem_no_leak p hp n s hs hq).1⟩⟩

/-- **fx (`Stream.Walk` and everything built on it — Map, Filter, Parallel, …) with any options that do not
contain `UnlimitedWorkers()`**: the capacity is some `n ≥ 1` determined by the stream's own options, and at no
instant of any schedule (any number of items, panics anywhere) more than `n` walk functions are running; when
all have ended the pool is empty again. -/
theorem fx_walk_cap (opts : List WOpt) (hnu : WOpt.unlimited ∉ opts) :
    ∃ n, streamCap opts = some n ∧ 1 ≤ n ∧
      ∀ s, Reach Programs.walkLimited n s →
        (∀ l : List Tid, l.Nodup → (∀ t ∈ l, inCrit Programs.walkLimited s t = true) → l.length ≤ n)
        ∧ ((∀ t, idle Programs.walkLimited s t = true) → s.used = 0) :=
  limited_cap _ (by decide +kernel) opts hnu

/-- **mr (`ForEach`, `MapReduce*`; mr has no unlimited option)**: `WithWorkers` lists only. -/
theorem mr_mappers_cap (ks : List Int) :
    ∃ n, streamCap (ks.map .withWorkers) = some n ∧ 1 ≤ n ∧
      ∀ s, Reach Programs.executeMappers n s →
        (∀ l : List Tid, l.Nodup → (∀ t ∈ l, inCrit Programs.executeMappers s t = true) → l.length ≤ n)
        ∧ ((∀ t, idle Programs.executeMappers s t = true) → s.used = 0) :=
  limited_cap _ (by decide +kernel) _ (by simp)

example : streamCap [.withWorkers 5, .withWorkers (-3)] = some 1 ∧ streamCap [.withWorkers 3, .unlimited] = none
    ∧ streamCap [.unlimited, .withWorkers 3] = none ∧ seqCaps [[.unlimited], [.withWorkers 2], []] = [none, some 2, some 16] := by
  decide

end GoZero.C05
