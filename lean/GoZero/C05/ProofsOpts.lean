/-
C05 — the construction of the options struct as a transition system: any number of concurrent `buildOptions` calls
over one heap (ModelOpts.lean), and the ownership invariant of the allocating variant.

`BReach shared opts s`: `s` is reachable from the initial heap by ANY interleaving of ANY number of
`buildOptions` calls (call `t` is given the option list `opts t`).
-/
import GoZero.C05.ModelOpts
namespace GoZero.C05

inductive BReach (shared : Bool) (opts : Tid → List WOpt) : BSt → Prop where
  | init : BReach shared opts (BSt.init opts)
  | step {s s' : BSt} (t : Tid) : BReach shared opts s → bstep shared s t = some s' → BReach shared opts s'

/-- ownership invariant of the allocating construction. -/
structure BInv (opts : Tid → List WOpt) (s : BSt) : Prop where
  lt    : ∀ t a, s.ptr t = some a → a < s.next
  val   : ∀ t a, s.ptr t = some a → (s.todo t).foldl applyOpt (s.heap a) = buildOptions (opts t)
  fresh : ∀ t, s.ptr t = none → s.todo t = opts t
  inj   : ∀ t u a, s.ptr t = some a → s.ptr u = some a → t = u

theorem binv_init (opts : Tid → List WOpt) : BInv opts (BSt.init opts) :=
  ⟨by intro t a h; simp [BSt.init] at h, by intro t a h; simp [BSt.init] at h,
   by intro t _; rfl, by intro t u a h; simp [BSt.init] at h⟩

/-- Allocation hands out the unused address `next`; applying an option writes only behind the caller's own pointer,
which nobody else holds (`inj`).  Throughout: either `u` is the acting call `t`, or `upd` leaves `u`'s entry alone. -/
theorem binv_step {opts : Tid → List WOpt} {s s' : BSt} (t : Tid) (hi : BInv opts s)
    (hs : bstep false s t = some s') : BInv opts s' := by
  unfold bstep at hs
  cases hp : s.ptr t with
  | none =>
    simp only [hp, Bool.false_eq_true, if_false, Option.some.injEq] at hs
    subst hs
    -- who points where afterwards: `t` at the new address, the others where they pointed (below `next`)
    have hptr : ∀ u a, upd s.ptr t (some s.next) u = some a → (u = t ∧ a = s.next) ∨ (u ≠ t ∧ s.ptr u = some a ∧ a < s.next) := by
      intro u a h
      by_cases hu : u = t
      · simp [upd, hu] at h; exact .inl ⟨hu, h.symm⟩
      · simp only [upd, hu, if_false] at h; exact .inr ⟨hu, h, hi.lt u a h⟩
    refine ⟨fun u a h => ?_, fun u a h => ?_, fun u h => ?_, fun u v a hu hv => ?_⟩
    · rcases hptr u a h with ⟨_, rfl⟩ | ⟨_, _, hlt⟩ <;> simp only <;> omega
    · rcases hptr u a h with ⟨rfl, rfl⟩ | ⟨_, h', hlt⟩
      · simp only [if_true]; rw [hi.fresh u hp]; rfl
      · simp only [Nat.ne_of_lt hlt, if_false]; exact hi.val u a h'
    · by_cases hu : u = t
      · simp [upd, hu] at h
      · simp only [upd, hu, if_false] at h; exact hi.fresh u h
    · rcases hptr u a hu with ⟨rfl, rfl⟩ | ⟨_, hu', hlt⟩ <;> rcases hptr v _ hv with ⟨rfl, h⟩ | ⟨_, hv', hlt'⟩
      · rfl
      · omega
      · omega
      · exact hi.inj u v a hu' hv'
  | some a =>
    cases htd : s.todo t with
    | nil => simp [hp, htd] at hs
    | cons o rest =>
      simp only [hp, htd, Option.some.injEq] at hs
      subst hs
      refine ⟨hi.lt, fun u b hu => ?_, fun u hu => ?_, hi.inj⟩
      · by_cases hut : u = t
        · subst hut
          cases hp.symm.trans hu
          simpa [upd, htd] using hi.val u a hp
        · have hba : b ≠ a := fun h => hut (hi.inj u t b hu (h ▸ hp))
          simp only [upd, hut, hba, if_false]
          exact hi.val u b hu
      · have hut : u ≠ t := fun h => by simp [h, hp] at hu
        simp only [upd, hut, if_false]
        exact hi.fresh u hu

theorem breach_inv {opts : Tid → List WOpt} {s : BSt} (h : BReach false opts s) : BInv opts s := by
  induction h with
  | init => exact binv_init opts
  | step t _ hs ih => exact binv_step t ih hs

theorem breach_brun {shared : Bool} {opts : Tid → List WOpt} {s s' : BSt} (h : BReach shared opts s) (l : List Tid)
    (hr : brun shared s l = some s') : BReach shared opts s' := by
  induction l generalizing s with
  | nil => simp only [brun, Option.some.injEq] at hr; subst hr; exact h
  | cons t l ih =>
    simp only [brun] at hr
    split at hr
    next s1 hs1 => exact ih (BReach.step t h hs1) hr
    next => cases hr

end GoZero.C05
