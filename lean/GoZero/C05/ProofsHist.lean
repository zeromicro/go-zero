/-
C05 — the history monitor accepts every run of every disciplined site program: the enter/exit events a
schedule of the model produces never make `HistMon` alarm (`feed_sound`; the final check of a quiescent end is in
`hist_monitor_sound`).  So an alarm on a history of the implementation means the implementation is outside the model.
-/
import GoZero.C05.Proofs
import GoZero.C05.Spec
namespace GoZero.C05

/-- events of one step of thread `t`: entering / leaving the guarded region. -/
def stepEvents (p : Prog) (s s' : St) (t : Tid) : List HEv :=
  if inCrit p s t = false ∧ inCrit p s' t = true then [.enter t]
  else if inCrit p s t = true ∧ inCrit p s' t = false then [.exit t]
  else []

/-- the history a schedule produces (disabled steps are skipped) and the state it ends in. -/
def histOf (p : Prog) (s : St) : List (Tid × Bool) → List HEv × St
  | [] => ([], s)
  | (t, c) :: rest =>
    match step p s t c with
    | some s' => (stepEvents p s s' t ++ (histOf p s' rest).1, (histOf p s' rest).2)
    | none => histOf p s rest

def HistMon.feed (m : HistMon) : List HEv → Option HistMon
  | [] => some m
  | e :: es => if (m.step e).2 = .ok then HistMon.feed (m.step e).1 es else none

/-- The monitor's `inside` list is the witness of "`inside.length` tracks `userAt`": a step that enters conses the
thread, one that leaves erases it, any other keeps the list (`tracksBy_gain/lose/keep`); the cap check passes by
`inCrit_le_cap`. -/
theorem feed_sound {p : Prog} (hp : okProg p = true) {n : Nat} (sched : List (Tid × Bool)) {s : St}
    (hr : Reach p n s) (m : HistMon) (hc : m.cap = n) (hm : TracksBy (userAt p) s.pc m.inside) :
    ∃ m', m.feed (histOf p s sched).1 = some m' ∧ m'.cap = n
      ∧ TracksBy (userAt p) (histOf p s sched).2.pc m'.inside ∧ Reach p n (histOf p s sched).2 := by
  induction sched generalizing s m with
  | nil => exact ⟨m, rfl, hc, hm, hr⟩
  | cons a rest ih =>
    obtain ⟨t, c⟩ := a
    simp only [histOf]
    split
    next s' hs =>
      have hr' : Reach p n s' := Reach.step t c hr hs
      obtain ⟨_, _, he⟩ := step_row hs
      obtain ⟨_, q, hq⟩ := exec_frame he
      have hq' : userAt p (s'.pc t) = userAt p q := by simp [hq, upd]
      simp only [stepEvents, inCrit_eq, hq']
      cases h0 : userAt p (s.pc t) <;> cases h1 : userAt p q <;> simp only [reduceCtorEq, and_self, and_false,
        false_and, if_true, if_false, List.nil_append, List.cons_append, HistMon.feed, HistMon.step]
      · exact ih hr' m hc (hq ▸ tracksBy_keep hm t q (h1.trans h0.symm))
      · have hm' := tracksBy_gain hm t q h0 h1
        have hlen := inCrit_le_cap hp hr' (t :: m.inside) hm'.1
          (fun u hu => by rw [inCrit_eq, hq]; exact (hm'.2 u).mpr hu)
        have htn : t ∉ m.inside := (List.nodup_cons.mp hm'.1).1
        have hlt : m.inside.length < m.cap := by simp only [List.length_cons] at hlen; omega
        simp only [htn, hlt, if_true, if_false]
        exact ih hr' _ hc (hq ▸ hm')
      · have htin : t ∈ m.inside := (hm.2 t).mp h0
        simp only [htin, if_true]
        exact ih hr' _ hc (hq ▸ tracksBy_lose hm t q h1)
      · exact ih hr' m hc (hq ▸ tracksBy_keep hm t q (h1.trans h0.symm))
    next => exact ih hr m hc hm

end GoZero.C05
