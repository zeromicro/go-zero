/-
C05 — `threading.WorkerGroup.Start` as the program it is (ModelWG.lean: the spawn loop is a model step, so "only
`workers` goroutines ever run" is a consequence, not an assumption).
-/
import GoZero.C05.ProofsWG
namespace GoZero.C05

/-- **The cap of `WorkerGroup`, for the real program.**  `Start` with `workers = w` (any Go `int`, also 0 or
negative): in every reachable state — any schedule of the `Start` call and of any number of goroutines, jobs ending
by return, panic or Goexit in any order — the goroutines that are running are at most `w` (none for `w ≤ 0`), and the
loop variable never passes `w` (for negative `w` it stays 0: the second disjunct).  Where `workerGroup_cap` assumes
"only k threads act", here that is a consequence of the spawn loop: a running goroutine has an index below `i`. -/
theorem workerGroup_cap_real (w : Int) (s : WGSt) (h : WGReach w s) (l : List Tid) (hl : l.Nodup)
    (hin : ∀ t ∈ l, s.job t = .running) : l.length ≤ w.toNat ∧ (s.i ≤ w ∨ s.i = 0) := by
  have hi := wgreach_inv h
  refine ⟨nodup_lt_length hl ?_, hi.ile⟩
  intro t ht
  -- a running goroutine was spawned by the loop (`t < i`), and `i` never passes `w`
  have h1 := hi.ile
  have hlt : (t : Int) < s.i := Int.not_le.mp fun hge => by
    have := hin t ht
    simp [hi.fresh t hge] at this
  have key : ∀ k : Nat, (k : Int) < s.i → k < w.toNat := fun k hk => by omega
  exact key t hlt

/-- the wait-group counter is exactly the number of running goroutines. -/
theorem workerGroup_wg_counts (w : Int) (s : WGSt) (h : WGReach w s) :
    ∃ rs : List Tid, rs.Nodup ∧ (∀ t, isRunning (s.job t) = true ↔ t ∈ rs) ∧ rs.length = s.wg :=
  (wgreach_inv h).tracks

/-- **`Start` returns only after exactly `workers` jobs were started and every one of them has ended**: when
`group.Wait()` has returned, goroutines `0 … w-1` have all ended, no other goroutine was ever started, none is running. -/
theorem workerGroup_start_returns_after_all_real (w : Int) (s : WGSt) (h : WGReach w s) (hr : s.start = .returned) :
    (∀ j : Nat, (j : Int) < w → s.job j = .ended) ∧ (∀ j : Nat, w ≤ (j : Int) → s.job j = .notStarted)
    ∧ ∀ j, s.job j ≠ .running := by
  have hi := wgreach_inv h
  have hnl : s.start ≠ .loop := by rw [hr]; simp
  have hex := hi.exited hnl
  have hnorun : ∀ j, s.job j ≠ .running := fun j hj => by
    have := tracks_none (hi.ret hr ▸ hi.tracks) j
    simp [hj, isRunning] at this
  refine ⟨?_, ?_, hnorun⟩
  · intro j hj
    have hb := hi.below j (by have := hi.ile; have := hi.inn; omega)
    -- not `notStarted` (`below`), not `running` (`hnorun`)
    cases hjj : s.job j <;> simp_all
  · intro j hj
    exact hi.fresh j (by have := hi.ile; have := hi.inn; omega)

/-- the `Start` call is never stuck before its `Wait`: the loop either spawns or exits. -/
theorem workerGroup_loop_progress (s : WGSt) (hl : s.start = .loop) : ∃ s', WGStep s s' := by
  cases ht : wgLoopTest s.i s.workers
  · exact ⟨_, .loopExit hl ht⟩
  · exact ⟨_, .spawn hl ht⟩

/-- non-vacuity: `workers = 2`: both goroutines running at once; `workers = 0`: `Start` returns at once. -/
example : ∃ s, WGReach 2 s ∧ s.job 0 = .running ∧ s.job 1 = .running ∧ s.wg = 2 :=
  ⟨_, .step (.step .init (.spawn rfl rfl)) (.spawn rfl rfl), rfl, rfl, rfl⟩

example : ∃ s, WGReach 0 s ∧ s.start = .returned :=
  ⟨_, .step (.step .init (.loopExit rfl rfl)) (.waitReturns rfl rfl), rfl⟩

end GoZero.C05
