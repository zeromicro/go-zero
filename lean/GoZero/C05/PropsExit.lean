/-
C05 — every way of leaving the guarded function (`ExitKind`: return, panic with a string or an error value,
`runtime.Goexit`; Go runs the deferred calls for all of them, in the IR every abnormal kind is the choice `true` of the
`user onPanic` row), the order release → Done → panic report with the counter-model of seeded change C05-8
(`Programs.runnerDoneFirst`), the tags of the effect rows, and the REST engine as a whole.
-/
import GoZero.C05.Props
namespace GoZero.C05

/-- a schedule whose steps carry the exit kind the environment picks if the step is the end of a guarded
function (ignored by the other rows except `branch`, where `true`/`false` is the environment's branch). -/
def runExits (p : Prog) (s : St) (sched : List (Tid × ExitKind)) : Option St :=
  runSched p s (sched.map fun x => (x.1, x.2.choice))

theorem reach_runExits {p : Prog} {n : Nat} {s : St} (sched : List (Tid × ExitKind))
    (h : runExits p (St.init n) sched = some s) : Reach p n s :=
  reach_runSched Reach.init _ h

/-- **The cap, whatever way the holders leave**: for every site of go-zero, every capacity, every schedule of any
number of threads in which each guarded function ends by return, panic (string or error value) or Goexit. -/
theorem sites_cap_every_exit (name : String) (p : Prog) (hx : (name, p) ∈ Programs.all) (n : Nat)
    (sched : List (Tid × ExitKind)) (s : St) (h : runExits p (St.init n) sched = some s)
    (l : List Tid) (hl : l.Nodup) (hin : ∀ t ∈ l, inCrit p s t = true) : l.length ≤ n :=
  sites_cap name p hx n s (reach_runExits sched h) l hl hin

/-- **No leak, whatever way the holders left**: once every thread has finished, the full capacity is back. -/
theorem sites_no_leak_every_exit (name : String) (p : Prog) (hx : (name, p) ∈ Programs.all) (n : Nat)
    (sched : List (Tid × ExitKind)) (s : St) (h : runExits p (St.init n) sched = some s)
    (hq : ∀ t, idle p s t = true) : s.used = 0 ∧ s.cap = n :=
  sites_no_leak name p hx n s (reach_runExits sched h) hq

/-- every abnormal exit kind takes the panic exit of the `user` row (the deferred code), the normal one the next
row — nothing else distinguishes them in the model. -/
theorem exit_kinds_two_exits (k : ExitKind) : k.choice = (k != .ret) := by cases k <;> rfl

/-- non-vacuity: three MaxConns requests (n = 2): one ends by Goexit, one by a panic with an error value, one
is refused meanwhile; afterwards the latch is empty. -/
example :
    (runExits Programs.maxConns (St.init 2)
        [(0, .ret), (0, .ret), (1, .ret), (1, .ret), (2, .ret), (2, .ret),
         (0, .goexit), (0, .ret), (0, .ret), (1, .panicError), (1, .ret), (1, .ret)]).map
      (fun s => (idle Programs.maxConns s 0, idle Programs.maxConns s 1, idle Programs.maxConns s 2, s.used))
      = some (true, true, true, 0) := rfl

/-- **Counter-model (seeded change C05-8)**: `Done` as the clean-up of `rescue.Recover`, the slot given back by an
outer defer.  The permit and wait-group disciplines still hold (no leak in the end!), but "holding implies
counted" does not … -/
theorem done_first_rejected :
    okProg Programs.runnerDoneFirst = true ∧ okProgWg Programs.runnerDoneFirst = true
    ∧ holdsWithinWg Programs.runnerDoneFirst = false := by decide +kernel

/-- … and it really breaks the property: one task that panics reaches a state in which the wait group is 0
(`Wait` returns: "all holders have finished") while its slot is still taken (`used = 1 = n`: the next
`ScheduleImmediately` is refused although nothing runs) — the state in which the panic report is written. -/
theorem done_first_wait_sees_taken_slot :
    ∃ s, Reach Programs.runnerDoneFirst 1 s ∧ s.wg = 0 ∧ s.used = 1
      ∧ (Programs.runnerDoneFirst[s.pc 0]?).map (·.tags) = some [reportTag] :=
  ⟨_, reach_runSched Reach.init
        [(0, true), (0, false), (0, false), (0, false), (0, false), (0, true), (0, false)] (Option.some_get rfl).symm,
    rfl, rfl, rfl⟩

/-- the rows of a program that write the panic report. -/
def reportRows (p : Prog) : List Nat :=
  (List.range p.length).filter fun q => match p[q]? with
    | some r => r.tags.contains reportTag
    | none => false

/-- **At the instant the panic report of a TaskRunner task is written, its slot has been given back and `Done`
has been called** (rows 9 and 21 of `Programs.runner`, the `call rescue.Recover` token: `rescue.Recover` runs its
clean-ups first — tied by `tie_rescue`).  This is what the `finish … held` operations observe on the real code
with the report kept waiting in the log writer. -/
theorem report_after_cleanup :
    reportRows Programs.runner = [9, 21]
    ∧ ∀ q ∈ reportRows Programs.runner, H Programs.runner q = false ∧ W Programs.runner q = false := by decide +kernel

/-- in the counter-model the report row still holds the slot. -/
theorem done_first_report_holds_slot :
    ∀ q ∈ reportRows Programs.runnerDoneFirst, H Programs.runnerDoneFirst q = true ∧ W Programs.runnerDoneFirst q = false := by
  decide +kernel

/-- every effect row of a site program carries skeleton tokens (so that its position in the source is fixed by
the skeleton Tie), except the guarded user call of the two client programs, which is the caller's code. -/
theorem effect_rows_have_tags :
    ∀ x ∈ Programs.all, x.1 ≠ "syncx.Limit" → x.1 ≠ "syncx.TimeoutLimit" →
      ∀ r ∈ x.2, r.instr.eff.isSome = true → r.tags ≠ [] := by decide +kernel

/-- **Server-wide bound of the REST engine** (what the concurrent engine sections check as `global=`): the engine
builds ONE `MaxConnsHandler(MaxConns)` per route chain, so with `routes` routes — each an independent latch of
capacity `n`, each in any reachable state of its own — the requests inside all route handlers together are at most
`routes · n` (and per route at most `n`: `sites_cap`).  `rs` pairs the state of every route's latch with any set of
distinct requests inside that route's handler. -/
theorem engine_global_bound (n : Nat) (rs : List (St × List Tid))
    (h : ∀ x ∈ rs, Reach Programs.maxConns n x.1 ∧ x.2.Nodup ∧ ∀ t ∈ x.2, inCrit Programs.maxConns x.1 t = true) :
    (rs.map (·.2.length)).sum ≤ rs.length * n := by
  induction rs with
  | nil => simp
  | cons x xs ih =>
    have hx := h x (List.mem_cons_self ..)
    have h1 := sites_cap "rest/handler.MaxConnsHandler" _ (by simp [Programs.all]) n x.1 hx.1 x.2 hx.2.1 hx.2.2
    have h2 := ih (fun y hy => h y (List.mem_cons_of_mem _ hy))
    simp only [List.map_cons, List.sum_cons, List.length_cons]
    rw [Nat.add_mul]
    omega

/-- one route with `MaxConns = 1` and one request inside its handler (an element of the list `rs` above). -/
example :
    (runSched Programs.maxConns (St.init 1) [(0, false), (0, false)]).map
      (fun s => (inCrit Programs.maxConns s 0, s.used)) = some (true, 1) := rfl

end GoZero.C05
