/-
C05 — the counting argument of all interleaving models, `Tracks` / `TracksBy`: a counter equals the number of
threads whose location carries an annotation, and a move of one thread keeps, gains or loses one.  Its instances: the
permits (`Inv`) and the wait group (`reach_wg`) of every site program that obeys the static disciplines, the history
monitor's list (ProofsHist), ModelTL (through the simulation, ProofsTL), WorkerGroup's running goroutines (ProofsWG).
-/
import GoZero.C05.Model
namespace GoZero.C05

theorem upd_same {α : Type} (f : Tid → α) (t : Tid) (a : α) : upd f t a t = a := by simp [upd]

theorem upd_upd {α : Type} (f : Tid → α) (t : Tid) (a b : α) : upd (upd f t a) t b = upd f t b := by
  funext u; simp only [upd]; split <;> rfl

theorem upd_eq_of_ne {α : Type} {f : Tid → α} {u t : Tid} {q v : α} (h : upd f u q t = v) (hq : q ≠ v) :
    f t = v := by
  unfold upd at h
  split at h
  · exact absurd h hq
  · exact h

inductive Reach (p : Prog) (n : Nat) : St → Prop where
  | init : Reach p n (St.init n)
  | step {s s' : St} (t : Tid) (c : Bool) : Reach p n s → step p s t c = some s' → Reach p n s'

/-- `Tracks` with its witness list named: the history monitor keeps such a list itself (`HistMon.inside`). -/
def TracksBy {L : Type} (A : L → Bool) (pc : Tid → L) (hs : List Tid) : Prop :=
  hs.Nodup ∧ ∀ t, A (pc t) = true ↔ t ∈ hs

/-- a counter tracks an annotation: the threads whose row carries the annotation are exactly a duplicate-free
list whose length is the counter (`∃ hs, TracksBy A pc hs ∧ hs.length = k`, written out). -/
def Tracks {L : Type} (A : L → Bool) (pc : Tid → L) (k : Nat) : Prop :=
  ∃ hs : List Tid, hs.Nodup ∧ (∀ t, A (pc t) = true ↔ t ∈ hs) ∧ hs.length = k

section
variable {L : Type} {A : L → Bool} {pc : Tid → L} {hs : List Tid} {k : Nat}

theorem TracksBy.tracks (h : TracksBy A pc hs) : Tracks A pc hs.length := ⟨hs, h.1, h.2, rfl⟩

theorem tracksBy_keep (h : TracksBy A pc hs) (t : Tid) (q : L) (hq : A q = A (pc t)) :
    TracksBy A (upd pc t q) hs := by
  refine ⟨h.1, fun u => ?_⟩
  by_cases hu : u = t
  · subst hu; simp only [upd, if_true]; rw [hq]; exact h.2 u
  · simp only [upd, hu, if_false]; exact h.2 u

theorem tracksBy_gain (h : TracksBy A pc hs) (t : Tid) (q : L) (h0 : A (pc t) = false) (hq : A q = true) :
    TracksBy A (upd pc t q) (t :: hs) := by
  have htn : t ∉ hs := fun hin => by simp [(h.2 t).mpr hin] at h0
  refine ⟨List.nodup_cons.mpr ⟨htn, h.1⟩, fun u => ?_⟩
  by_cases hu : u = t
  · subst hu; simp [upd, hq]
  · simp only [upd, hu, if_false, List.mem_cons, false_or]; exact h.2 u

theorem tracksBy_lose (h : TracksBy A pc hs) (t : Tid) (q : L) (hq : A q = false) :
    TracksBy A (upd pc t q) (hs.erase t) := by
  refine ⟨h.1.erase t, fun u => ?_⟩
  by_cases hu : u = t
  · subst hu; simp [upd, hq, List.Nodup.not_mem_erase h.1]
  · simp only [upd, hu, if_false]
    rw [List.mem_erase_of_ne hu]; exact h.2 u

theorem tracks_keep (h : Tracks A pc k) (t : Tid) (q : L) (hq : A q = A (pc t)) : Tracks A (upd pc t q) k := by
  obtain ⟨hs, hnd, hm, rfl⟩ := h
  exact (tracksBy_keep ⟨hnd, hm⟩ t q hq).tracks

theorem tracks_gain (h : Tracks A pc k) (t : Tid) (q : L) (h0 : A (pc t) = false) (hq : A q = true) :
    Tracks A (upd pc t q) (k + 1) := by
  obtain ⟨hs, hnd, hm, rfl⟩ := h
  exact (tracksBy_gain ⟨hnd, hm⟩ t q h0 hq).tracks

theorem tracks_lose (h : Tracks A pc k) (t : Tid) (q : L) (h1 : A (pc t) = true) (hq : A q = false) :
    Tracks A (upd pc t q) (k - 1) := by
  obtain ⟨hs, hnd, hm, rfl⟩ := h
  exact List.length_erase_of_mem ((hm t).mp h1) ▸ (tracksBy_lose ⟨hnd, hm⟩ t q hq).tracks

theorem tracks_bound (h : Tracks A pc k) (l : List Tid) (hl : l.Nodup) (hA : ∀ t ∈ l, A (pc t) = true) :
    l.length ≤ k := by
  obtain ⟨hs, _, hm, hlen⟩ := h
  rw [← hlen]
  exact hl.length_le_of_subset (fun x hx => (hm x).mp (hA x hx))

theorem tracks_pos (h : Tracks A pc k) (t : Tid) (h1 : A (pc t) = true) : 0 < k :=
  tracks_bound h [t] (List.pairwise_singleton _ t) (by simpa using h1)

theorem tracks_zero (h : Tracks A pc k) (hA : ∀ t, A (pc t) = false) : k = 0 := by
  obtain ⟨hs, _, hm, hlen⟩ := h
  cases hs with
  | nil => simpa using hlen.symm
  | cons a t =>
    have := (hm a).mpr (by simp)
    rw [hA a] at this; exact Bool.noConfusion this

theorem tracks_congr {L' : Type} {B : L' → Bool} {pc' : Tid → L'} (h : Tracks A pc k)
    (hAB : ∀ t, B (pc' t) = A (pc t)) : Tracks B pc' k := by
  obtain ⟨hs, hnd, hm, hl⟩ := h
  exact ⟨hs, hnd, fun t => by rw [hAB t]; exact hm t, hl⟩

theorem tracks_none (h : Tracks A pc 0) (t : Tid) : A (pc t) = false := by
  cases hA : A (pc t)
  · rfl
  · exact absurd (tracks_pos h t hA) (Nat.lt_irrefl 0)

end

theorem nodup_lt_length {l : List Tid} {k : Nat} (hl : l.Nodup) (hlt : ∀ t ∈ l, t < k) : l.length ≤ k := by
  simpa using hl.length_le_of_subset (l₂ := List.range k) (fun x hx => List.mem_range.mpr (hlt x hx))

theorem all_rows {p : Prog} {f : Nat → Row → Bool}
    (h : ((List.range p.length).all fun q => match p[q]? with | some r => f q r | none => true) = true)
    {q : Nat} {r : Row} (hr : p[q]? = some r) : f q r = true := by
  have hq : q < p.length := (List.getElem?_eq_some_iff.mp hr).1
  have := List.all_eq_true.mp h q (List.mem_range.mpr hq)
  rwa [hr] at this

theorem okProg_row {p : Prog} (hp : okProg p = true) {q : Nat} {r : Row} (hr : p[q]? = some r) :
    okRow p q r = true :=
  all_rows (Bool.and_eq_true_iff.mp hp).2 hr

theorem okProg_zero {p : Prog} (hp : okProg p = true) : H p 0 = false := by
  simpa using (Bool.and_eq_true_iff.mp hp).1

theorem okProgWg_row {p : Prog} (hp : okProgWg p = true) {q : Nat} {r : Row} (hr : p[q]? = some r) :
    okRowWg p q r = true :=
  all_rows (Bool.and_eq_true_iff.mp hp).2 hr

theorem okProgWg_zero {p : Prog} (hp : okProgWg p = true) : W p 0 = false := by
  simpa using (Bool.and_eq_true_iff.mp hp).1

theorem H_of_row {p : Prog} {q : Nat} {r : Row} (hr : p[q]? = some r) : H p q = r.holds := by
  simp [H, hr]

theorem W_of_row {p : Prog} {q : Nat} {r : Row} (hr : p[q]? = some r) : W p q = r.inWg := by
  simp [W, hr]

theorem step_of_row {p : Prog} {s : St} {t : Tid} {r : Row} (hr : p[s.pc t]? = some r) (c : Bool) :
    step p s t c = exec r.instr s t c := by
  rw [step, hr]

theorem step_row {p : Prog} {s s' : St} {t : Tid} {c : Bool} (hs : step p s t c = some s') :
    ∃ r, p[s.pc t]? = some r ∧ exec r.instr s t c = some s' := by
  cases hr : p[s.pc t]? with
  | none => simp [step, hr] at hs
  | some r => exact ⟨r, rfl, step_of_row hr c ▸ hs⟩

theorem exec_frame {i : Instr} {s s' : St} {t : Tid} {c : Bool} (h : exec i s t c = some s') :
    s'.cap = s.cap ∧ ∃ q, s'.pc = upd s.pc t q := by
  cases i <;> simp only [exec] at h <;> (try split at h) <;> cases h <;> exact ⟨rfl, _, rfl⟩

theorem step_pc_other {p : Prog} {s s' : St} {t : Tid} {c : Bool} (hs : step p s t c = some s') (u : Tid)
    (hu : u ≠ t) : s'.pc u = s.pc u := by
  obtain ⟨_, _, he⟩ := step_row hs
  obtain ⟨_, q, hq⟩ := exec_frame he
  simp [hq, upd, hu]

theorem reach_cap {p : Prog} {n : Nat} {s : St} (h : Reach p n s) : s.cap = n := by
  induction h with
  | init => rfl
  | step t c _ hs ih =>
    obtain ⟨_, _, he⟩ := step_row hs
    rw [(exec_frame he).1, ih]

structure Inv (p : Prog) (s : St) : Prop where
  tracks : Tracks (H p) s.pc s.used
  le_cap : s.used ≤ s.cap
  noerr  : ∀ t, s.err t = false

theorem inv_init (p : Prog) (hp : okProg p = true) (n : Nat) : Inv p (St.init n) := by
  refine ⟨⟨[], List.nodup_nil, ?_, rfl⟩, Nat.zero_le _, fun _ => rfl⟩
  intro t
  simp [St.init, okProg_zero hp]

/-- The discipline of the row where `t` stands, read with `H p (s.pc t)` for the row's own annotation, says of
every instruction whether the move of `t` keeps, gains or loses a permit; `exec` changes `used` accordingly. -/
theorem inv_step {p : Prog} (hp : okProg p = true) {s s' : St} {t : Tid} {c : Bool}
    (hi : Inv p s) (hs : step p s t c = some s') : Inv p s' := by
  obtain ⟨⟨sig, i, hd, w⟩, hr, he⟩ := step_row hs
  obtain ⟨htr, hle, hne⟩ := hi
  have hok := okProg_row hp hr
  rw [okRow, ← H_of_row hr] at hok
  cases i <;> simp only [exec] at he <;>
    simp only [Bool.and_eq_true, Bool.not_eq_true', beq_iff_eq] at hok
  case acquire =>
    split at he <;> cases he
    exact ⟨tracks_gain htr t _ hok.1 hok.2, by simp only; omega, hne⟩
  case tryAcquire els =>
    split at he <;> cases he
    · exact ⟨tracks_gain htr t _ hok.1.1 hok.1.2, by simp only; omega, hne⟩
    · exact ⟨tracks_keep htr t _ (hok.2.trans hok.1.1.symm), hle, hne⟩
  case release =>
    split at he <;> cases he
    exact ⟨tracks_lose htr t _ hok.1 hok.2, by simp only; omega, hne⟩
  case tryRelease =>
    -- a holder finds the channel non-empty: the error branch is dead
    rw [if_pos (tracks_pos htr t hok.1)] at he
    cases he
    exact ⟨tracks_lose htr t _ hok.1 hok.2, by simp only; omega, hne⟩
  case wgWait =>
    split at he <;> cases he
    exact ⟨tracks_keep htr t _ hok, hle, hne⟩
  case user onP =>
    cases he
    exact ⟨tracks_keep htr t _ (by cases c <;> simp [hok]), hle, hne⟩
  case branch a b =>
    cases he
    exact ⟨tracks_keep htr t _ (by cases c <;> simp [hok]), hle, hne⟩
  case halt => cases he
  all_goals
    cases he
    exact ⟨tracks_keep htr t _ hok, hle, hne⟩

theorem reach_inv {p : Prog} (hp : okProg p = true) {n : Nat} {s : St} (h : Reach p n s) : Inv p s := by
  induction h with
  | init => exact inv_init p hp n
  | step t c _ hs ih => exact inv_step hp ih hs

/-- the row lies inside the guarded function: `inCrit` as an annotation of rows. -/
def userAt (p : Prog) (q : Nat) : Bool :=
  match p[q]? with
  | some r => isUser r.instr
  | none => false

theorem inCrit_eq (p : Prog) (s : St) (t : Tid) : inCrit p s t = userAt p (s.pc t) := rfl

theorem inCrit_holds {p : Prog} (hp : okProg p = true) {s : St} {t : Tid} (h : inCrit p s t = true) :
    H p (s.pc t) = true := by
  unfold inCrit at h
  split at h
  next r hr =>
    have hok := okProg_row hp hr
    rw [H_of_row hr]
    cases hi : r.instr <;> simp [hi, isUser] at h
    simp only [okRow, hi, Bool.and_eq_true] at hok
    exact hok.1.1
  next => cases h

theorem idle_not_holds {p : Prog} (hp : okProg p = true) {s : St} {t : Tid} (h : idle p s t = true) :
    H p (s.pc t) = false := by
  unfold idle at h
  simp only [Bool.or_eq_true, decide_eq_true_eq] at h
  rcases h with h | h
  · rw [h]; exact okProg_zero hp
  · split at h
    next r hr =>
      have hok := okProg_row hp hr
      simp only [decide_eq_true_eq] at h
      simpa [okRow, h, H_of_row hr] using hok
    next hr => simp [H, hr]

/-- the same reading of `okRowWg`: only `wgAdd` gains and only `wgDone` loses. -/
theorem wg_step {p : Prog} (hp : okProgWg p = true) {s s' : St} {t : Tid} {c : Bool}
    (htr : Tracks (W p) s.pc s.wg) (hs : step p s t c = some s') : Tracks (W p) s'.pc s'.wg := by
  obtain ⟨⟨sig, i, hd, w⟩, hr, he⟩ := step_row hs
  have hok := okProgWg_row hp hr
  rw [okRowWg, ← W_of_row hr] at hok
  cases i <;> simp only [exec] at he <;>
    simp only [Bool.and_eq_true, Bool.not_eq_true', beq_iff_eq] at hok
  case wgAdd => cases he; exact tracks_gain htr t _ hok.1 hok.2
  -- `exec` subtracts on `Nat` where Go's `Done` panics on a negative counter: not reached, the thread is counted (`tracks_pos`)
  case wgDone => cases he; exact tracks_lose htr t _ hok.1 hok.2
  case wgWait => split at he <;> cases he; exact tracks_keep htr t _ (hok.2.trans hok.1.symm)
  case tryAcquire els =>
    split at he <;> cases he
    · exact tracks_keep htr t _ hok.1
    · exact tracks_keep htr t _ hok.2
  case user onP => cases he; exact tracks_keep htr t _ (by cases c <;> simp [hok])
  case branch a b => cases he; exact tracks_keep htr t _ (by cases c <;> simp [hok])
  case halt => cases he
  case acquire | release | tryRelease => split at he <;> cases he <;> exact tracks_keep htr t _ hok
  all_goals
    cases he
    exact tracks_keep htr t _ hok

theorem reach_wg {p : Prog} (hp : okProgWg p = true) {n : Nat} {s : St} (h : Reach p n s) :
    Tracks (W p) s.pc s.wg := by
  induction h with
  | init =>
    refine ⟨[], List.nodup_nil, ?_, rfl⟩
    intro t
    simp [St.init, okProgWg_zero hp]
  | step t c _ hs ih => exact wg_step hp ih hs

/-- when the wait-group count is 0, no thread stands at a row with a property `f` that only counted rows have
(`f` = `holds`: `holdsWithinWg`; `f` = "is a `user` row": below). -/
theorem wg_zero_none {p : Prog} (hw : okProgWg p = true) {f : Row → Bool}
    (hf : (p.all fun r => !f r || r.inWg) = true) {n : Nat} {s : St} (h : Reach p n s) (hz : s.wg = 0)
    {t : Tid} {r : Row} (hr : p[s.pc t]? = some r) : f r = false := by
  have hW := tracks_none (hz ▸ reach_wg hw h) t
  have := List.all_eq_true.mp hf r (List.mem_of_getElem? hr)
  rw [W_of_row hr] at hW
  simpa [hW] using this

/-- **`Wait` may return (`wg = 0`) only when nobody is inside**, for every program whose guarded rows lie between
`Add` and `Done`. -/
theorem wg_zero_not_inCrit {p : Prog} (hw : okProgWg p = true)
    (hu : (p.all fun r => !isUser r.instr || r.inWg) = true) {n : Nat} {s : St} (h : Reach p n s) (hz : s.wg = 0)
    (t : Tid) : inCrit p s t = false := by
  unfold inCrit
  split
  next r hr => exact wg_zero_none hw hu h hz hr
  next => rfl

/-- runs in which only the first `k` threads ever act (a loop that makes exactly `k` calls). -/
inductive ReachK (p : Prog) (n k : Nat) : St → Prop where
  | init : ReachK p n k (St.init n)
  | step {s s' : St} (t : Tid) (c : Bool) : t < k → ReachK p n k s → step p s t c = some s' → ReachK p n k s'

theorem reachK_reach {p : Prog} {n k : Nat} {s : St} (h : ReachK p n k s) : Reach p n s := by
  induction h with
  | init => exact Reach.init
  | step t c _ _ hs ih => exact Reach.step t c ih hs

theorem reachK_untouched {p : Prog} {n k : Nat} {s : St} (h : ReachK p n k s) (u : Tid) (hu : k ≤ u) :
    s.pc u = 0 := by
  induction h with
  | init => rfl
  | step t c ht _ hs ih =>
    rw [step_pc_other hs u fun h => absurd (h ▸ ht) (Nat.not_lt.mpr hu)]
    exact ih

/-- distinct threads inside the guarded region hold distinct permits, of which there are `used ≤ cap = n`. -/
theorem inCrit_le_cap {p : Prog} (hp : okProg p = true) {n : Nat} {s : St} (h : Reach p n s)
    (l : List Tid) (hl : l.Nodup) (hin : ∀ t ∈ l, inCrit p s t = true) : l.length ≤ n := by
  have hi := reach_inv hp h
  have hc := reach_cap h
  have := tracks_bound hi.tracks l hl (fun t ht => inCrit_holds hp (hin t ht))
  have := hi.le_cap
  omega

/-- a schedule as a list, to exhibit concrete reachable states. -/
def runSched (p : Prog) (s : St) : List (Tid × Bool) → Option St
  | [] => some s
  | (t, c) :: rest =>
    match step p s t c with
    | some s' => runSched p s' rest
    | none => none

theorem reach_runSched {p : Prog} {n : Nat} {s s' : St} (h : Reach p n s) (l : List (Tid × Bool))
    (hr : runSched p s l = some s') : Reach p n s' := by
  induction l generalizing s with
  | nil => cases hr; exact h
  | cons a rest ih =>
    obtain ⟨t, c⟩ := a
    simp only [runSched] at hr
    split at hr
    next s1 hs1 => exact ih (Reach.step t c h hs1) hr
    next => cases hr

theorem runSched_pc_other {p : Prog} {s s' : St} {l : List (Tid × Bool)} (hr : runSched p s l = some s') (u : Tid)
    (hu : ∀ x ∈ l, x.1 ≠ u) : s'.pc u = s.pc u := by
  induction l generalizing s with
  | nil => cases hr; rfl
  | cons a rest ih =>
    simp only [runSched] at hr
    split at hr
    next s1 hs1 =>
      rw [ih hr (fun x hx => hu x (List.mem_cons_of_mem _ hx)),
        step_pc_other hs1 u (hu a (List.mem_cons_self ..)).symm]
    next => cases hr

end GoZero.C05
