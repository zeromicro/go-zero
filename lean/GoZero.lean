-- GENERATED by tools/gen_roots.py from props/*.json. Do not edit.
import GoZero.Base.Trace
import GoZero.Base.Glue
import GoZero.C01.Props
import GoZero.C01.Tie
import GoZero.C01.Driver
import GoZero.C02.Props
import GoZero.C02.PropsSite
import GoZero.C02.Tie
import GoZero.C02.TieSite
import GoZero.C02.TieBody
import GoZero.C02.PropsLife
import GoZero.C02.Driver
import GoZero.C02.DriverH
import GoZero.C02.DriverC
import GoZero.C03.Props
import GoZero.C03.PropsPath
import GoZero.C03.PropsApi
import GoZero.C03.Tie
import GoZero.C03.TieSem
import GoZero.C03.TieLua
import GoZero.C03.RescueIval
import GoZero.C03.TieClient
import GoZero.C03.Driver
import GoZero.C04.Props
import GoZero.C04.PropsInst
import GoZero.C04.PropsMulti
import GoZero.C04.PropsGlue
import GoZero.C04.PropsStream
import GoZero.C04.Tie
import GoZero.C04.TieSem
import GoZero.C04.Driver
import GoZero.C05.Props
import GoZero.C05.PropsTL
import GoZero.C05.PropsOpts
import GoZero.C05.PropsExit
import GoZero.C05.PropsWG
import GoZero.C05.PropsClauses
import GoZero.C05.Tie
import GoZero.C05.Driver
import GoZero.C06.Props
import GoZero.C06.PropsInstances
import GoZero.C06.PropsCalls
import GoZero.C06.PropsCtx
import GoZero.C06.PropsMany
import GoZero.C06.Tie
import GoZero.C06.Driver
import GoZero.C07.Props
import GoZero.C07.Tie
import GoZero.C07.Driver
import GoZero.C08.Props
import GoZero.C08.PropsClauses
import GoZero.C08.PropsKeys
import GoZero.C08.PropsIndependence
import GoZero.C08.PropsEntry
import GoZero.C08.PropsHistory
import GoZero.C08.Tie
import GoZero.C08.Driver
import GoZero.C09.Props
import GoZero.C09.PropsServer
import GoZero.C09.PropsRaw
import GoZero.C09.PropsApi
import GoZero.C09.PropsEntry
import GoZero.C09.PropsReject
import GoZero.C09.Tie
import GoZero.C09.Driver
import GoZero.C10.Props
import GoZero.C10.PropsNow
import GoZero.C10.Props5
import GoZero.C10.Props6
import GoZero.C10.Tie
import GoZero.C10.Driver
import GoZero.C11.Props
import GoZero.C11.PropsClauses
import GoZero.C11.PropsContainers
import GoZero.C11.PropsApi
import GoZero.C11.PropsGuard
import GoZero.C11.PropsLive
import GoZero.C11.PropsSql
import GoZero.C11.Tie
import GoZero.C11.Driver
import GoZero.C11.DriverSqlx
import GoZero.C11.DriverSeq
import GoZero.C12.Props
import GoZero.C12.PropsApi
import GoZero.C12.PropsClients
import GoZero.C12.PropsHandoff
import GoZero.C12.PropsDeliver
import GoZero.C12.PropsCache
import GoZero.C12.Tie
import GoZero.C12.TieClients
import GoZero.C12.Driver
import GoZero.C13.Props
import GoZero.C13.Tie
import GoZero.C13.Driver
import GoZero.C14.Props
import GoZero.C14.Tie
import GoZero.C14.Driver
import GoZero.C15.Props
import GoZero.C15.PropsRepr
import GoZero.C15.PropsUsers
import GoZero.C15.PropsFaults
import GoZero.C15.PropsConc
import GoZero.C15.Tie
import GoZero.C15.Driver
import GoZero.C16.PropsCollections
import GoZero.C16.PropsWindow
import GoZero.C16.PropsCache
import GoZero.C16.PropsConc
import GoZero.C16.TieTexts
import GoZero.C16.TieArith
import GoZero.C16.TieEffects
import GoZero.C16.Driver
import GoZero.C16.DriverConc
import GoZero.C17.Props
import GoZero.C17.Tie
import GoZero.C17.Driver
import GoZero.C18.Props
import GoZero.C18.PropsRest
import GoZero.C18.Tie
import GoZero.C18.TieRest
import GoZero.C18.PropsR5
import GoZero.C18.PropsR5c
import GoZero.C18.PropsR5e
import GoZero.C18.Driver
import GoZero.C19.Props
import GoZero.C19.Tie
import GoZero.C19.Driver
import GoZero.C19.DriverRace
import GoZero.C20.Props
import GoZero.C20.PropsScan
import GoZero.C20.PropsLayout
import GoZero.C20.Tie
import GoZero.C20.TieLayout
import GoZero.C20.Driver
